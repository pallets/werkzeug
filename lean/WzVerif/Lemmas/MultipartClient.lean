/-
The test client of C02 (`stream_encode_multipart`, Model/MultipartClient.lean): its event sequence is
one the encoder accepts and writes the standard body, and the form parser returns from those parts
the fields and files that were sent.
-/
import WzVerif.Model.MultipartClient
import WzVerif.Lemmas.MultipartChunks
namespace Wz.Multipart
open Wz

theorem clientPartEvents_eq (guess : Str → Option Str) (key : Str) (v : ClientValue) :
    clientPartEvents guess key v = chunkedEvents (clientPart guess key v) := rfl

theorem clientEvents_eq (guess : Str → Option Str) (items : List (Str × ClientValue)) :
    clientEvents guess items =
      .preamble [] :: ((items.map fun kv => clientPart guess kv.1 kv.2).flatMap chunkedEvents ++ [.epilogue []]) := by
  simp [clientEvents, List.flatMap_map, clientPartEvents_eq]

theorem clientPart_pieces (guess : Str → Option Str) (key : Str) (v : ClientValue) :
    (clientPart guess key v).2.1.flatten ++ (clientPart guess key v).2.2 = (clientPart guess key v).1.payload := by
  cases v with
  | text s => simp [clientPart]
  | file content fn headers =>
    simp [clientPart, readChunks_flatten clientChunkSize content.length [] content (Nat.le_refl _)]

def clientParts (guess : Str → Option Str) (items : List (Str × ClientValue)) : List Part :=
  items.map fun kv => (clientPart guess kv.1 kv.2).1

theorem clientEncode_eq {bnd : Bytes} (guess : Str → Option Str) (items : List (Str × ClientValue))
    (hv : ∀ p ∈ clientParts guess items, ValidPart .crlf bnd p) :
    clientEncode guess bnd items = .ok (encBody .crlf bnd stdEp (clientParts guess items)) := by
  unfold clientEncode
  rw [clientEvents_eq]
  have := encodeEvents_chunked (bnd := bnd) (items.map fun kv => clientPart guess kv.1 kv.2) (by
    intro c hc
    rcases List.mem_map.1 hc with ⟨kv, hkv, rfl⟩
    exact ⟨hv _ (List.mem_map.2 ⟨kv, hkv, rfl⟩), clientPart_pieces guess kv.1 kv.2⟩)
  rw [this]
  simp [clientParts, List.map_map, Function.comp_def]

/-- what `Request.form` / `Request.files` must show for the pairs: text values as fields, file values
(with a file name) as files whose headers are the Content-Disposition line the encoder wrote followed
by the value's headers with Content-Type set -/
def clientExpected (guess : Str → Option Str) : List (Str × ClientValue) → FormOut
  | [] => ([], [])
  | (key, .text v) :: t =>
    let r := clientExpected guess t
    ((some key, v) :: r.1, r.2)
  | (key, .file content fn headers) :: t =>
    let r := clientExpected guess t
    (r.1, ⟨some key, fn.getD [],
      cdHeader key fn :: hdrSet "Content-Type".toList (clientContentType guess fn headers) headers,
      content⟩ :: r.2)

/-- every file value carries a file name (a `FileStorage` without one is sent as a plain field) -/
def filesNamed : List (Str × ClientValue) → Bool
  | [] => true
  | (_, .text _) :: t => filesNamed t
  | (_, .file _ fn _) :: t => fn.isSome && filesNamed t

theorem headerGet_cd_contentType (key : Str) (fn : Option Str) (h : Headers) :
    headerGet "content-type".toList (cdHeader key fn :: h) = headerGet "content-type".toList h := by
  have : (lowerAscii kCD == "content-type".toList) = false := by
    unfold kCD; rw [String.toList_ofList, String.toList_ofList]; decide
  simp only [headerGet, cdHeader, this, Bool.false_eq_true, if_false]

theorem formOfParts_client (guess : Str → Option Str) (items : List (Str × ClientValue))
    (hn : filesNamed items = true) (acc : FormOut) :
    formOfParts acc ((clientParts guess items).map decodedPart) =
      .ok (acc.1 ++ (clientExpected guess items).1, acc.2 ++ (clientExpected guess items).2) := by
  induction items generalizing acc with
  | nil => simp [clientParts, formOfParts, clientExpected]
  | cons kv t ih =>
    rcases kv with ⟨key, v⟩
    cases v with
    | text s =>
      have ht : filesNamed t = true := by simpa [filesNamed] using hn
      simp only [clientParts, List.map_cons, formOfParts]
      have hfin : finishP acc (decodedPart (clientPart guess key (.text s)).1) =
          .ok (acc.1 ++ [(some key, s)], acc.2) := by
        simp only [finishP, decodedPart, clientPart, nameOf]
        simp only [Bool.false_eq_true, if_false]
        have hcs : partCharset (cdHeader ((some key : Option Str).getD []) none :: []) = .ok "utf-8".toList := by
          simp only [partCharset, headerGet_cd_contentType]
          rfl
        simp only [hcs]
        simp only [decodeCharset, beq_self_eq_true, if_true, Py.decodeReplace_utf8Enc]
      rw [hfin]
      simp only
      have := ih ht (acc.1 ++ [(some key, s)], acc.2)
      simp only [clientParts] at this
      rw [this]
      simp [clientExpected]
    | file content fn headers =>
      have hn' : fn.isSome = true ∧ filesNamed t = true := by simpa [filesNamed] using hn
      rcases hn' with ⟨hfn, ht⟩
      simp only [clientParts, List.map_cons, formOfParts]
      cases fn with
      | none => simp at hfn
      | some f =>
        have hfin : finishP acc (decodedPart (clientPart guess key (.file content (some f) headers)).1) =
            .ok (acc.1, acc.2 ++ [⟨some key, f,
              cdHeader key (some f) :: hdrSet "Content-Type".toList (clientContentType guess (some f) headers) headers,
              content⟩]) := by
          simp [finishP, decodedPart, clientPart, nameOf]
        rw [hfin]
        simp only
        have := ih ht (acc.1, acc.2 ++ [⟨some key, f,
              cdHeader key (some f) :: hdrSet "Content-Type".toList (clientContentType guess (some f) headers) headers,
              content⟩])
        simp only [clientParts] at this
        rw [this]
        simp [clientExpected]

theorem headerGet_hdrSet (key value : Str) (h : Headers) :
    headerGet (lowerAscii key) (hdrSet key value h) = some value := by
  induction h with
  | nil => simp [hdrSet, headerGet]
  | cons kv t ih =>
    rcases kv with ⟨k, v⟩
    cases hk : lowerAscii k == lowerAscii key <;> simp [hdrSet, headerGet, hk, ih]

end Wz.Multipart
