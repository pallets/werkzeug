/-
The two hand-written models of the lexical layer of Accept headers against each other: C06/C07's (`Model/Http.lean`:
`qParts?` for `_q_value_re`, the token class `isToken`, `replace1`, `quoteHeaderValue`, `dumpOptionsHeader`) and C17's own
(`Model/Accept.lean`: `parseQ`, `isTokChar`, `pyReplace`, `quoteHeaderValue`, `dumpOptionsHeader`). On q texts C17's `parseQ` is
C06's regex model followed by the exact range check (`qParts?_eq`, `parseQ_eq`); the two token classes are the same set
(`isToken_eq`), so the two `quote_header_value` agree (`quoteHeaderValue_eq`), and the two `dump_options_header` print the same
text whenever no key is empty (`DumpAgrees`, `dumpAgrees_of_keys`) - C06's can raise `IndexError` on an empty key, C17's is
total. Nothing here mentions a translated function; Lemmas/PyFnsEq_AcceptHeader.lean uses these facts to pass from the one
model to the other.
-/
import WzVerif.Lemmas.HttpClass
import WzVerif.Lemmas.Outcome
import WzVerif.Lemmas.AcceptText
namespace Wz.PyFnsEq.AcceptHeader
open Wz Wz.Pre

/-- `\d` of `_q_value_re` (re.ASCII; table regenerated from the live pattern) is `[0-9]` -/
theorem qDigit_eq : Gen.Http.qDigit = (List.range 256).map Http.isDigitNat := by decide +kernel

theorem isQDigit_fun : Http.isQDigit = Accept.isDigitA :=
  funext fun c => (Http.cls_tabulate qDigit_eq (fun _ => Http.isDigitNat_lt) c).trans (isDigit_nat c).symm

/-- model (b)'s range check on the three groups of a `_q_value_re` match: a minus sign only in front
of zero, and at most 1 -/
def rangeQ (t : Bool × Str × Str) : Option Accept.Q :=
  let q : Accept.Q := ⟨Http.digitsVal (t.2.1 ++ t.2.2), t.2.2.length⟩
  if t.1 && q.num != 0 then none else if q.le Accept.Q.one then some q else none

/-- model (a)'s `qParts?`: the optional sign, then model (b)'s `qShape` -/
theorem qParts?_eq (s : Str) :
    Http.qParts? s = (Accept.qShape (if (s.head? == some '-') then s.drop 1 else s)).map
      fun p => ((s.head? == some '-'), p.1, p.2) := by
  -- the body of `Http.qParts?` after the sign, written out: the scan of `qShape` over the generated digit class
  have key : ∀ (neg : Bool) (r : Str),
      (let ip := r.takeWhile Http.isQDigit
       if ip.isEmpty then none else
       match r.dropWhile Http.isQDigit with
       | [] => some (neg, ip, [])
       | '.' :: f => if !f.isEmpty && f.all Http.isQDigit then some (neg, ip, f) else none
       | _ => none) = (Accept.qShape r).map fun p => (neg, p.1, p.2) := by
    intro neg r
    unfold Accept.qShape
    simp only [isQDigit_fun]
    generalize r.takeWhile Accept.isDigitA = ip
    generalize r.dropWhile Accept.isDigitA = rest
    by_cases hip : ip.isEmpty = true
    · simp [hip]
    simp only [hip, Bool.false_eq_true, if_false]
    rcases rest with _ | ⟨d, fr⟩
    · rfl
    by_cases hd : d = '.'
    · subst hd
      by_cases hf : (!fr.isEmpty && fr.all Accept.isDigitA) = true <;> simp [hf]
    · simp [hd]
  unfold Http.qParts?
  rcases s with _ | ⟨c, t⟩
  · rfl
  by_cases hc : c = '-'
  · subst hc; exact key true t
  · have h1 : ((c :: t).head? == some '-') = false := by simpa using hc
    simp only [h1, Bool.false_eq_true, if_false]
    split
    · rename_i r heq; simp only [List.cons.injEq] at heq; exact absurd heq.1 hc
    · exact key false (c :: t)

theorem parseQ_eq (s : Str) : Accept.parseQ s = (Http.qParts? s).bind rangeQ := by
  rw [qParts?_eq, Accept.parseQ, Accept.parseQBody_eq]
  cases Accept.qShape _ <;> rfl

/-- the two `dump_options_header` models (C06's, which can raise `IndexError`, and C17's, which is
total) print the same text for this header and these options; holds whenever no key is empty:
`dumpAgrees_of_keys` -/
def DumpAgrees (i : Str) (o : List (Str × Str)) : Prop :=
  Http.dumpOptionsHeader (some i) (o.map fun kv => (kv.1, some kv.2)) = .ok (Accept.dumpOptionsHeader i o)

/-- the two spellings of the token class on code points are the same disjuncts in another order -/
theorem isTokenNat_eq_tokNat (n : Nat) : Http.isTokenNat n = Accept.tokNat n := by
  simp only [Http.isTokenNat, Accept.tokNat, List.contains_cons, List.contains_nil, Bool.or_false]
  ac_rfl

theorem isToken_eq (c : Char) : Http.isToken c = Accept.isTokChar c := by
  rw [Http.isToken_nat, Accept.isTokChar_toNat, isTokenNat_eq_tokNat]

/-- `str.replace` with a one-character pattern: C17's fuelled scanner is C06's `flatMap` -/
theorem replaceAll_single (a : Char) (rep : Str) (s : Str) : ∀ fuel, s.length < fuel →
    Accept.replaceAll [a] rep fuel s = Http.replace1 a rep s := by
  induction s with
  | nil => intro fuel h; cases fuel <;> simp [Accept.replaceAll, Http.replace1]
  | cons c t ih =>
    intro fuel h
    cases fuel with
    | zero => simp at h
    | succ f =>
      have ht : t.length < f := by simp at h; omega
      have ih' := ih f ht
      unfold Http.replace1 at ih' ⊢
      rw [Accept.replaceAll]
      by_cases hc : a = c
      · subst hc; simp [ih']
      · have h2 : ¬ c = a := fun e => hc e.symm
        simp [hc, h2, ih']

theorem pyReplace_single (a : Char) (rep s : Str) : Accept.pyReplace [a] rep s = Http.replace1 a rep s :=
  replaceAll_single a rep s _ (Nat.lt_succ_self _)

theorem quoteHeaderValue_eq (v : Str) : Accept.quoteHeaderValue v = Http.quoteHeaderValue v := by
  unfold Accept.quoteHeaderValue Http.quoteHeaderValue Http.escapeDq
  have e : Http.isToken = Accept.isTokChar := funext isToken_eq
  simp only [pyReplace_single, e, Bool.true_and]

theorem mapM_optionSegment (o : List (Str × Str)) (hk : ∀ x ∈ o, x.1 ≠ []) :
    (o.map fun kv => (kv.1, some kv.2)).mapM Http.optionSegment =
      .ok (o.map fun kv => some (if kv.1.getLast? == some '*' then kv.1 ++ '=' :: kv.2
        else kv.1 ++ '=' :: Accept.quoteHeaderValue kv.2)) := by
  rw [List.mapM_map]
  refine mapM_ok _ _ _ fun a ha => ?_
  unfold Http.optionSegment Http.last!
  cases hl : a.1.getLast? with
  | none => rw [List.getLast?_eq_none_iff] at hl; exact absurd hl (hk a ha)
  | some l =>
    by_cases hs : l = '*'
    · subst hs; simp [hl, bind, Except.bind, pure, Except.pure]
    · simp [hl, hs, bind, Except.bind, pure, Except.pure, quoteHeaderValue_eq]

theorem dumpAgrees_of_keys (i : Str) (o : List (Str × Str)) (hk : ∀ x ∈ o, x.1 ≠ []) : DumpAgrees i o := by
  unfold DumpAgrees Http.dumpOptionsHeader Accept.dumpOptionsHeader Http.join
  have e : "; ".toList = ([';', ' '] : Str) := by decide
  simp only [mapM_optionSegment o hk, bind, Except.bind, pure, Except.pure, e, List.filterMap_map,
    Function.comp_def, id, List.cons_append, List.nil_append, List.filterMap_eq_map']

end Wz.PyFnsEq.AcceptHeader
