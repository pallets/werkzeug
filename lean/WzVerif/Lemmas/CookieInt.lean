/-
The text of an `int` (`str(max_age)`, what `dump_cookie` prints for Max-Age) and Python's `int()` as the
test client's jar applies it to that attribute (`Model/CookieJar.lean`: `pyInt`): `int(str(i)) = i`, and
the table of decimal-digit runs `int()` accepts (`Gen.Cookie.decimalZeros`), on which `asciiDigit`
finds the run a digit belongs to.
-/
import WzVerif.Model.CookieJar
import WzVerif.Lemmas.Basics
namespace Wz.Cookie
open Wz

theorem intText_ofNat (n : Nat) : intText (Int.ofNat n) = Nat.toDigits 10 n := toString_ofNat_toList n

theorem intText_negSucc (n : Nat) : intText (Int.negSucc n) = '-' :: Nat.toDigits 10 (n + 1) :=
  toString_negSucc_toList n

theorem intText_chars (i : Int) : ∀ c ∈ intText i, c = '-' ∨ c.isDigit = true := by
  intro c hc
  cases i with
  | ofNat n => rw [intText_ofNat] at hc; exact .inr (toDigits_isDigit n c hc)
  | negSucc n =>
    rw [intText_negSucc] at hc
    rcases List.mem_cons.mp hc with rfl | hc
    · exact .inl rfl
    · exact .inr (toDigits_isDigit _ c hc)

theorem intText_no_semi (i : Int) : ∀ c ∈ intText i, c ≠ ';' := by
  rintro c hc rfl
  rcases intText_chars i _ hc with h | h <;> simp [Char.isDigit] at h

theorem intBody_digits (ds : Str) (b : Bool) (hd : ∀ c ∈ ds, c.isDigit = true) (hne : ds ≠ [] ∨ b = true) :
    intBody ds b = some ds := by
  induction ds generalizing b with
  | nil =>
    rcases hne with h | h
    · exact absurd rfl h
    · simp [intBody, h]
  | cons c t ih =>
    unfold intBody
    rw [if_pos (hd c (by simp)), ih true (fun x hx => hd x (by simp [hx])) (Or.inr rfl)]
    rfl

theorem map_asciiDigit_ascii (s : Str) (h : ∀ c ∈ s, c.toNat < 128) : s.map asciiDigit = s := by
  induction s with
  | nil => rfl
  | cons c t ih =>
    rw [List.map_cons, ih (fun x hx => h x (by simp [hx]))]
    have := h c (by simp)
    simp [asciiDigit, this]

theorem pyIntAscii_digits (ds : Str) (hd : ∀ c ∈ ds, c.isDigit = true) (hne : ds ≠ []) :
    pyIntAscii ds = some (digitsVal ds : Int) := by
  cases ds with
  | nil => exact absurd rfl hne
  | cons c t =>
    have hc := hd c (by simp)
    have h1 : c ≠ '-' := by intro e; subst e; simp [Char.isDigit] at hc
    have h2 : c ≠ '+' := by intro e; subst e; simp [Char.isDigit] at hc
    unfold pyIntAscii
    split
    · rename_i r heq; simp only [List.cons.injEq] at heq; exact absurd heq.1 h1
    · rename_i r heq; simp only [List.cons.injEq] at heq; exact absurd heq.1 h2
    · rw [intBody_digits _ false hd (Or.inl (by simp))]; rfl

theorem pyInt_digits (ds : Str) (hd : ∀ c ∈ ds, c.isDigit = true) (hne : ds ≠ []) :
    pyInt ds = some (digitsVal ds : Int) := by
  unfold pyInt
  rw [map_asciiDigit_ascii ds (fun c hc => isDigit_lt128 (hd c hc))]
  exact pyIntAscii_digits ds hd hne

theorem pyInt_intText (i : Int) : pyInt (intText i) = some i := by
  cases i with
  | ofNat n =>
    rw [intText_ofNat, pyInt_digits _ (toDigits_isDigit n) Nat.toDigits_ne_nil]
    simp [digitsVal]
  | negSucc n =>
    rw [intText_negSucc]
    unfold pyInt
    rw [map_asciiDigit_ascii _ (by
      intro c hc
      rcases List.mem_cons.mp hc with rfl | hc
      · decide
      · exact isDigit_lt128 (toDigits_isDigit (n + 1) c hc))]
    unfold pyIntAscii
    simp only
    rw [intBody_digits _ false (toDigits_isDigit (n + 1)) (Or.inl Nat.toDigits_ne_nil)]
    simp [digitsVal, Int.negSucc_eq]

theorem intText_ne_nil (i : Int) : intText i ≠ [] := by
  cases i with
  | ofNat n => rw [intText_ofNat]; exact Nat.toDigits_ne_nil
  | negSucc n => rw [intText_negSucc]; simp

theorem intText_strip (i : Int) : Py.strip (intText i) = intText i := by
  have hchars : ∀ c ∈ intText i, Py.isSpace c = false := by
    intro c hc
    rcases intText_chars i c hc with rfl | h
    · decide
    · exact isDigit_not_space h
  exact strip_noSpace hchars

theorem find_run {w : Nat} {zs : List Nat} (hp : zs.Pairwise (fun a b => a + w < b)) {z d : Nat} (hz : z ∈ zs)
    (hd : d ≤ w) : zs.find? (fun y => y ≤ z + d && z + d ≤ y + w) = some z := by
  induction hp with
  | nil => cases hz
  | @cons y t hy _ ih =>
    rcases List.mem_cons.mp hz with rfl | hz
    · rw [List.find?_cons_of_pos]; simp; omega
    · have := hy z hz
      rw [List.find?_cons_of_neg, ih hz]; simp; omega

theorem pairwise_of_neighbours {w : Nat} : ∀ {zs : List Nat},
    (zs.zip zs.tail).all (fun p => decide (p.1 + w < p.2)) = true → zs.Pairwise (fun a b => a + w < b)
  | [], _ => .nil
  | [_], _ => List.pairwise_singleton ..
  | a :: b :: t, h => by
    simp only [List.tail_cons, List.zip_cons_cons, List.all_cons, Bool.and_eq_true, decide_eq_true_eq] at h
    have ht := pairwise_of_neighbours (zs := b :: t) h.2
    refine List.pairwise_cons.mpr ⟨fun c hc => ?_, ht⟩
    rcases List.mem_cons.mp hc with rfl | hc
    · exact h.1
    · have := (List.pairwise_cons.mp ht).1 c hc
      omega

theorem decimalZeros_pairwise : Gen.Cookie.decimalZeros.Pairwise (fun a b => a + 9 < b) :=
  pairwise_of_neighbours (by decide +kernel)

theorem asciiDigit_run {z d : Nat} (hz : z ∈ Gen.Cookie.decimalZeros) (hd : d ≤ 9) :
    asciiDigit (Char.ofNat (z + d)) = Char.ofNat (48 + d) := by
  have hrow : (z = 48 ∨ 128 ≤ z) ∧ z.isValidChar ∧ (z + 9).isValidChar := by
    have := List.all_eq_true.mp (show Gen.Cookie.decimalZeros.all (fun z =>
      (z == 48 || decide (128 ≤ z)) && decide z.isValidChar && decide (z + 9).isValidChar) = true by
        decide +kernel) z hz
    simpa [and_assoc] using this
  have hc : (Char.ofNat (z + d)).toNat = z + d :=
    toNat_ofNat_valid (by have := hrow.2; unfold Nat.isValidChar at *; omega)
  unfold asciiDigit
  rw [hc]
  split
  · rcases hrow.1 with rfl | h
    · rfl
    · omega
  · simp only [find_run decimalZeros_pairwise hz hd, Nat.add_sub_cancel_left]

end Wz.Cookie
