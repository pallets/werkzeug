/-
C02 — form data survives encode → parse unchanged (multipart and urlencoded).
Property theorems only.

Models: Model/Urlencode.lean (`quote_plus`, `urlencode`, `unquote` with the `werkzeug.url_quote`
handler, `parse_qsl` — stdlib, validated by stream `urlencode-kernels`), Model/FormOptions.lean
(`parse_options_header`), Model/Multipart.lean (`MultipartEncoder.send_event`, the decoder).
-/
import WzVerif.Gen.FormOptions
import WzVerif.Lemmas.Urlencode
import WzVerif.Lemmas.FormOptions
import WzVerif.Lemmas.FormOptionsToken
import WzVerif.Lemmas.Multipart
import WzVerif.Lemmas.MultipartCodec
import WzVerif.Lemmas.MultipartChunks
import WzVerif.Lemmas.MultipartClient
import WzVerif.Lemmas.FormLimitsRequest
import WzVerif.Lemmas.TableSweep
namespace Wz.Props.C02
open Wz

/-- The `safe=` literal of the single `urlencode(...)` call in `werkzeug.urls._urlencode` (found by
AST on every run) keeps `%`, `+`, `&` and `=` escaped, and the model's notion of "left alone"
agrees with the live function on every ASCII character. -/
theorem urlencode_safe_literal :
    Gen.Urlencode.urlencodeSafeSites = 1 ∧
    Urlencode.SafeOk Gen.Urlencode.urlencodeSafe ∧
    ∀ n, n < 128 →
      Gen.Urlencode.liveUnescaped.getD n false = Urlencode.kept Gen.Urlencode.urlencodeSafe (UInt8.ofNat n) := by
  refine ⟨by decide, by decide +kernel, fun n hn => ?_⟩
  have hl : Gen.Urlencode.liveUnescaped.length = 128 := by decide +kernel
  have ha : Gen.Urlencode.alwaysSafe.length = 256 := by decide +kernel
  -- the probe table row by row against the `_ALWAYS_SAFE` table and the literal
  have h := getD_sweep₂ (c := false) (d := false)
    (q := fun l a n => l == (a || (decide (UInt8.ofNat n < 128) &&
      Gen.Urlencode.urlencodeSafe.contains (UInt8.ofNat n))))
    (by decide +kernel) (hl ▸ hn) (ha ▸ (by omega : n < 256))
  have hto : (UInt8.ofNat n).toNat = n := UInt8.toNat_ofNat_of_lt' (Nat.lt_trans hn (by decide))
  rw [Urlencode.kept, Urlencode.alwaysSafe, hto]
  exact beq_iff_eq.mp h

/-- **unquote_quotePlus (bytes).** For every `safe` set that keeps `%` and `+` escaped and every
byte string: percent-decoding the `quote_plus` output (after `+` → space) returns the bytes. -/
theorem unquote_quotePlus {safe : Bytes} (hs : Urlencode.SafeOk safe) (bs : Bytes) :
    Urlencode.unquoteBytes ((Urlencode.quotePlus safe bs).map Urlencode.p2s) = bs :=
  Urlencode.unquoteBytes_quotePlus hs bs

/-- ... in particular for the literal werkzeug uses -/
theorem unquote_quotePlus_werkzeug (bs : Bytes) :
    Urlencode.unquoteBytes ((Urlencode.quotePlus Gen.Urlencode.urlencodeSafe bs).map Urlencode.p2s) = bs :=
  unquote_quotePlus urlencode_safe_literal.2.1 bs

example : Urlencode.quotePlus Gen.Urlencode.urlencodeSafe [97, 32, 43, 37, 38, 61, 195, 169] =
    "a+%2B%25%26%3D%C3%A9".toUTF8.toList := by
  rw [← Multipart.str, Multipart.str_ofList]
  decide +kernel

/-- **unquote_quotePlus (text).** For every Unicode string `s`:
`unquote(quote_plus(s, safe).replace('+', ' '), errors="werkzeug.url_quote") == s`. -/
theorem unquote_quotePlus_text {safe : Bytes} (hs : Urlencode.SafeOk safe) (s : List Char) :
    Urlencode.unquote (Urlencode.plusToSpace (Urlencode.asciiStr (Urlencode.quotePlusStr safe s))) = s :=
  Urlencode.unquote_quotePlusStr hs s

/-- **parseQsl_urlencode.** For every list of (key, value) pairs over Unicode scalar values —
repeated keys, empty keys, empty values, `&`, `=`, `+`, `%` inside keys and values included —
`parse_qsl(_urlencode(items), keep_blank_values=True, errors="werkzeug.url_quote") == items`
(what `Request.form` for url-encoded bodies and `Request.args` compute). -/
theorem parseQsl_urlencode (items : List (List Char × List Char)) :
    Urlencode.parseQsl true (Urlencode.asciiStr (Urlencode.wzUrlencode items)) = items :=
  Urlencode.parseQsl_urlencode_lemma urlencode_safe_literal.2.1 items

/-- the caveat of the empty list: it encodes to the empty string, which parses to the empty list -/
theorem parseQsl_urlencode_nil :
    Urlencode.wzUrlencode [] = [] ∧ Urlencode.parseQsl true [] = [] := by
  constructor <;> rfl

example : Urlencode.parseQsl true (Urlencode.asciiStr (Urlencode.wzUrlencode
    [(['a', ' '], ['&', '=']), (['a', ' '], []), ([], ['é'])])) =
    [(['a', ' '], ['&', '=']), (['a', ' '], []), ([], ['é'])] := by
  decide +kernel

/-- without `keep_blank_values` the round trip is false (empty values are dropped): the flag
werkzeug passes matters -/
theorem parseQsl_urlencode_keepBlank_needed :
    ¬ (∀ items : List (List Char × List Char),
        Urlencode.parseQsl false (Urlencode.asciiStr (Urlencode.wzUrlencode items)) = items) := by
  intro h
  have := h [(['a'], [])]
  revert this
  decide +kernel

/-- **urlencoded_body_roundtrip.** What `EnvironBuilder` writes for a form without files
(`_urlencode(items)`) is read back by `FormDataParser._parse_urlencoded` as exactly the items, for every
list of Unicode (key, value) pairs, every declared length and every short-read schedule of the input. -/
theorem urlencoded_body_roundtrip (items : List (List Char × List Char)) (cl : Option Nat) (sched : List Nat) :
    Urlencode.parseUrlencoded none cl sched (Urlencode.wzUrlencode items) = .ok items :=
  Urlencode.parseUrlencoded_urlencode urlencode_safe_literal.2.1 items cl sched

/-- **urlencoded_request_roundtrip.** … and at the request level: a `Request` whose body is
`_urlencode(items)` with content type `application/x-www-form-urlencoded` and a truthful
`Content-Length` shows exactly the items as `.form` / `.values` (Model/FormLimitsRequest.lean:
`Request.stream`, `_load_form_data`, `FormDataParser.parse` dispatch), with no limits configured or with
`max_form_memory_size` at least the body length. -/
theorem urlencoded_request_roundtrip (items : List (List Char × List Char)) (mcl mm mp : Option Nat)
    (hmcl : ∀ m, mcl = some m → (Urlencode.wzUrlencode items).length ≤ m)
    (hmm : ∀ m, mm = some m → (Urlencode.wzUrlencode items).length ≤ m) :
    (FormReq.run ⟨mcl, mm, mp, .urlencoded, some (Urlencode.wzUrlencode items).length, false⟩
      (FormReq.fresh (Urlencode.wzUrlencode items)) [.form]).1 =
      [.fields (items.map fun kv => (some kv.1, kv.2))] := by
  rw [FormReq.run_fresh_formAccess _ _ (FormReq.chooseStream_declared rfl rfl hmcl) (by simp)
      (FormReq.endErr_of_le (Nat.le_refl _)) rfl, FormReq.parseBytes_urlencoded rfl, FormReq.avail_of_le (Nat.le_refl _)]
  have hpg : Urlencode.parseUrlencoded mm (some (Urlencode.wzUrlencode items).length) []
      (Urlencode.wzUrlencode items) = .ok items := by
    cases mm with
    | none => exact urlencoded_body_roundtrip items _ []
    | some m =>
      have hle := hmm m rfl
      rw [Urlencode.parseUrlencoded_limit, if_neg (by simp [Urlencode.declaredTooLarge_iff]; omega)]
      exact urlencoded_body_roundtrip items _ []
  show [FormReq.obsOf .form (FormReq.silence (FormReq.urlForm (Urlencode.parseUrlencoded mm _ [] _)))] = _
  rw [hpg]
  simp [FormReq.urlForm, FormReq.silence, FormReq.obsOf]

example :
    (FormReq.run ⟨none, some 500000, some 1000, .urlencoded, some 21, false⟩
      (FormReq.fresh (Urlencode.wzUrlencode [(['a', ' '], ['&', '=']), (['a', ' '], []), ([], ['é'])])) [.form]).1 =
      [.fields [(some ['a', ' '], ['&', '=']), (some ['a', ' '], []), (some [], ['é'])]] ∧
    (Urlencode.wzUrlencode [(['a', ' '], ['&', '=']), (['a', ' '], []), ([], ['é'])]).length = 21 := by
  decide +kernel

/-- **What `parse_options_header` does to a quoted value is what the model does** (regenerated from the
source by AST on every run). The "remove quotes" block `if pv[0] == pv[-1] == '"':` consists of one
assignment `pv = pv[1:-1].replace(…)…` whose `str.replace` steps are exactly (backslash backslash → backslash), (backslash quote → quote),
`%22 → "` in this order; nothing else in the function rewrites a value with `replace` / `translate` /
`re.sub`; the closing-quote scanner skips exactly those two escape pairs; and the model's `unquoteValue` is the
fold of those steps over the text between the quotes. An additional decoding step (say `%0A` → LF)
changes the generated list and breaks this obligation. -/
theorem options_quoted_value_as_modelled :
    Gen.FormOptions.quotedBlockRecognised = true ∧
    Gen.FormOptions.quotedBases = ["pv[1:-1]"] ∧
    Gen.FormOptions.quotedReplaces.map (fun (a, b) => (a.toList, b.toList)) =
      FormOptions.quotedReplaceSteps ∧
    Gen.FormOptions.scanEscapes = ["\\\"", "\\\\"] ∧
    ∀ pv, FormOptions.unquoteValue pv =
      if pv.head? == some '"' && pv.getLast? == some '"' then
        FormOptions.quotedReplaceSteps.foldl (fun s st => FormOptions.replace st.1 st.2 s) (pv.drop 1).dropLast
      else pv := by
  refine ⟨rfl, rfl, by decide +kernel, rfl, fun pv => ?_⟩
  simp [FormOptions.unquoteValue, FormOptions.quotedReplaceSteps]

/-- The key / token character class of the live compiled `_parameter_key_re` and
`_parameter_token_value_re` (probed on all of Latin-1 and on letters / digits outside it) is the
model's `isTokenCh`, the patterns and their `re.ASCII` flag are the ones the scanner was written for. -/
theorem options_token_classes :
    Gen.FormOptions.keyPattern = "([\\w!#$%&'*+\\-.^`|~]+)=" ∧
    Gen.FormOptions.tokenPattern = "[\\w!#$%&'*+\\-.^`|~]+" ∧
    Gen.FormOptions.continuationPattern = "\\*(\\d+)$" ∧
    Gen.FormOptions.patternFlags = [256, 256, 256] ∧
    Gen.FormOptions.classesAsciiOnly = true ∧
    Gen.FormOptions.keyClass = Gen.FormOptions.tokenClass ∧
    ∀ n, n < 256 → Gen.FormOptions.tokenClass.getD n false = FormOptions.isTokenCh (Char.ofNat n) := by
  exact ⟨rfl, rfl, rfl, rfl, rfl, rfl, fun _ hn => FormOptions.tokenClass_getD hn⟩

/-- **parseOptions_disposition.** For every name and optional filename free of `"`, `\` and the
substring `%22` (CR / LF are excluded one level up, by the header line syntax):
`parse_options_header('form-data; name="n"; filename="f"')` returns exactly `n` and `f`
(`;`, `=`, spaces, quotes' neighbours, non-ASCII … inside the names do not matter). -/
theorem parseOptions_disposition (n : List Char) (f : Option (List Char)) (hn : FormOptions.NameOk n)
    (hf : ∀ x, f = some x → FormOptions.NameOk x) :
    FormOptions.parseOptionsHeader (FormOptions.dispositionValue n f) =
      .ok ("form-data".toList, ("name".toList, n) :: FormOptions.filenameOpt f) :=
  FormOptions.parseOptions_disposition_lemma n f hn hf

/-- `filenameOpt f` is the pair `("filename", f)` when there is a filename and nothing otherwise -/
theorem filenameOpt_eq :
    FormOptions.filenameOpt none = [] ∧
    ∀ x, FormOptions.filenameOpt (some x) = [("filename".toList, x)] := ⟨rfl, fun _ => rfl⟩

example : FormOptions.NameOk "a;b=\"".toList = False ∧ FormOptions.NameOk "a; b=c é%2".toList := by
  rw [String.toList_ofList, String.toList_ofList]
  constructor
  · simp [FormOptions.NameOk]
  · decide

/-- the excluded sequence really is excluded for a reason: `%22` comes back as a double quote -/
theorem parseOptions_disposition_pct22_false :
    ¬ (∀ n : List Char, '"' ∉ n → '\\' ∉ n →
        (FormOptions.parseOptionsHeader (FormOptions.dispositionValue n none)).toOption =
          some ("form-data".toList, [("name".toList, n)])) := by
  intro h
  have := h ['%', '2', '2'] (by decide) (by decide)
  rw [String.toList_ofList, String.toList_ofList] at this
  revert this
  decide +kernel

/-- The header line `MultipartEncoder.send_event` writes for a Field / File event is
`Content-Disposition: ` followed by the UTF-8 of `dispositionValue name filename`. -/
theorem encoder_writes_disposition (bnd : Bytes) (n : List Char) (hs : Multipart.Headers) :
    Multipart.sendEvent bnd .part (.field (some n) hs) =
      .ok (Multipart.crlf ++ 45 :: 45 :: bnd ++ Multipart.crlf ++
            (Multipart.str "Content-Disposition: " ++ utf8Enc (FormOptions.dispositionValue n none)) ++
            Multipart.crlf ++
            ((hs.filter fun (k, _) => Multipart.lowerAscii k != "content-disposition".toList).map
              fun (k, v) => utf8Enc (k ++ ':' :: ' ' :: v) ++ Multipart.crlf).flatten,
          .dataStart) := by
  have h := Multipart.sendEvent_head bnd n none hs (st := .part) rfl
  rw [Multipart.lineOf_cd] at h
  exact h

/-- **decode_encode (DATA phase), every chunking.** The encoder frames a non-empty payload as
`CRLF payload CRLF --boundary…`. For every boundary without CR/LF, every payload none of whose
lines starts with `--boundary` (`PayloadOk`: CR/LF runs, `--`, near-copies of the boundary, binary
are all allowed) and every way the framed bytes are split into chunks, the decoder's DATA loop
returns exactly the payload, recognises the right kind of delimiter and leaves what follows it
(up to the split-CRLF LF of C01). -/
theorem decode_encode_data {bnd : Bytes} (hb : Multipart.BoundaryOk bnd) (payload tail : Bytes) {f : Bool}
    {rest : Bytes} (hp : Multipart.PayloadOk bnd payload) (ht : Multipart.AfterDelim tail f rest)
    (buf : Bytes) (chunks : List Bytes) (hbuf : 0 < Multipart.lbLen buf)
    (hjoin : buf ++ chunks.flatten = 13 :: 10 :: payload ++ 13 :: 10 :: (Multipart.delim bnd ++ tail)) :
    ∃ R', Multipart.dataPhase bnd true buf [] chunks = .ok (payload, some (f, R')) ∧
      (f = false → R' = rest ∨ R' = 10 :: rest) := by
  exact Multipart.dataPhase_decodes hb true buf chunks (fun _ => hbuf) hjoin (Multipart.dataSpec_encoded hb payload tail hp ht)

/-- the body-less form the encoder uses for an empty payload (`headers CRLF CRLF--boundary`) -/
theorem decode_encode_data_empty {bnd : Bytes} (hb : Multipart.BoundaryOk bnd) (tail : Bytes) {f : Bool}
    {rest : Bytes} (ht : Multipart.AfterDelim tail f rest)
    (buf : Bytes) (chunks : List Bytes) (hbuf : 0 < Multipart.lbLen buf)
    (hjoin : buf ++ chunks.flatten = 13 :: 10 :: (Multipart.delim bnd ++ tail)) :
    ∃ R', Multipart.dataPhase bnd true buf [] chunks = .ok ([], some (f, R')) ∧
      (f = false → R' = rest ∨ R' = 10 :: rest) := by
  exact Multipart.dataPhase_decodes hb true buf chunks (fun _ => hbuf) hjoin (Multipart.dataSpec_encoded_empty tail ht)

/-- **decode_encode (DATA phase), every chunking, every line-break convention**: the same for bodies
framed with bare LF or bare CR (`nl`), under the side condition `PayloadOkNl` (no line of the payload
starts with `--boundary`; with bare LF the payload has no CR, with bare CR no LF). -/
theorem decode_encode_data_nl {nl : Multipart.Nl} {bnd : Bytes} (hb : Multipart.BoundaryOk bnd)
    (payload tail : Bytes) {f : Bool} {rest : Bytes} (hp : Multipart.PayloadOkNl nl bnd payload)
    (ht : Multipart.AfterDelimNl nl tail f rest)
    (buf : Bytes) (chunks : List Bytes) (hbuf : 0 < Multipart.lbLen buf)
    (hjoin : buf ++ chunks.flatten = nl.bytes ++ payload ++ (nl.bytes ++ (Multipart.delim bnd ++ tail))) :
    ∃ R', Multipart.dataPhase bnd true buf [] chunks = .ok (payload, some (f, R')) ∧
      (f = false → R' = rest ∨ R' = 10 :: rest) := by
  exact Multipart.dataPhase_decodes hb true buf chunks (fun _ => hbuf) hjoin
    (Multipart.dataSpec_encoded_nl hb payload tail hp ht)

/-- non-vacuity: CRLF runs, a trailing CR, a leading LF, `--` and a one-byte-off copy of the
boundary are admissible payload -/
example : Multipart.PayloadOk (Multipart.str "bound")
    (Multipart.str "\n\r\n\r\n--boun\r\n--bounX--\r\n--\r") ∧
    ¬ Multipart.PayloadOk (Multipart.str "bound") (Multipart.str "x\r\n--bound\r\ny") := by
  rw [Multipart.str_ofList, Multipart.str_ofList, Multipart.str_ofList]
  decide +kernel

/-- **decode_encode.** For every boundary without CR / LF and every list of parts satisfying the
decidable predicate `ValidPart .crlf` (the encoder writes CRLF line breaks; a name; names / filenames free of `"`, `\`, `%22`, CR, LF — any
other Unicode text; `isFile` iff there is a filename; extra headers that fit on a header line and
are not Content-Disposition; a payload none of whose lines starts with `--boundary` — CR/LF runs,
`--`, near-copies of the boundary, arbitrary binary are all allowed; any mix and order of fields
and files, repeated names, empty payloads):
encoding the parts with `MultipartEncoder` the way `stream_encode_multipart` does (Preamble(b""), per
part Field/File + Data, Epilogue(b"")) succeeds, and decoding the result with `MultipartDecoder`
raises nothing and returns exactly the parts, in order, with byte-exact payloads — each part's headers
being the Content-Disposition header the encoder wrote followed by the part's own headers. -/
theorem decode_encode {bnd : Bytes} (hb : Multipart.BoundaryOk bnd) (parts : List Multipart.Part)
    (hv : ∀ p ∈ parts, Multipart.ValidPart .crlf bnd p) :
    ∃ body, Multipart.encodeAll bnd parts = .ok body ∧
      (Multipart.decodeChunks bnd none none [body]).err = none ∧
      Multipart.partsOf (Multipart.decodeChunks bnd none none [body]).events =
        parts.map Multipart.decodedPart :=
  ⟨_, Multipart.encodeAll_eq parts hv, Multipart.decode_chunks_encBody hb parts hv [_] (List.flatten_singleton ..)⟩

/-- `decodedPart` only adds the Content-Disposition header in front -/
theorem decodedPart_eq (p : Multipart.Part) :
    (Multipart.decodedPart p).isFile = p.isFile ∧ (Multipart.decodedPart p).name = p.name ∧
    (Multipart.decodedPart p).filename = p.filename ∧ (Multipart.decodedPart p).payload = p.payload ∧
    (Multipart.decodedPart p).headers =
      ("Content-Disposition".toList, FormOptions.dispositionValue (p.name.getD []) p.filename) :: p.headers :=
  ⟨rfl, rfl, rfl, rfl, rfl⟩

/-- non-vacuity: a field with a Unicode name and CRLF / dash / near-boundary payload, and a file with
a `;` in its filename, an extra header and a binary payload, are valid for boundary `bound` -/
example :
    Multipart.BoundaryOk (Multipart.str "bound") ∧
    Multipart.ValidPart .crlf (Multipart.str "bound")
      ⟨false, some "é name".toList, none, [], Multipart.str "\r\n\r\n--boun\r\n--bounX\r"⟩ ∧
    Multipart.ValidPart .crlf (Multipart.str "bound")
      ⟨true, some "f".toList, some "a;b.png".toList, [("Content-Type".toList, "image/png".toList)],
        [0, 255, 13, 10, 45, 45]⟩ ∧
    ¬ Multipart.ValidPart .crlf (Multipart.str "bound")
      ⟨false, some "q\"q".toList, none, [], []⟩ := by
  rw [Multipart.str_ofList, Multipart.str_ofList]
  repeat rw [String.toList_ofList]
  decide +kernel

/-- **decode_encode, every chunking.** The same, however the encoded body reaches the decoder: for
every list of chunks whose concatenation is the encoder's output, decoding chunk by chunk returns
exactly the encoded parts (together with C01: the result does not depend on the chunking). -/
theorem decode_encode_chunked {bnd : Bytes} (hb : Multipart.BoundaryOk bnd) (parts : List Multipart.Part)
    (hv : ∀ p ∈ parts, Multipart.ValidPart .crlf bnd p) (chunks : List Bytes) :
    ∃ body, Multipart.encodeAll bnd parts = .ok body ∧
      (chunks.flatten = body →
        (Multipart.decodeChunks bnd none none chunks).err = none ∧
        Multipart.partsOf (Multipart.decodeChunks bnd none none chunks).events =
          parts.map Multipart.decodedPart) :=
  ⟨_, Multipart.encodeAll_eq parts hv, Multipart.decode_chunks_encBody hb parts hv chunks⟩

/-- **decode_encode_events** (F02a, repaired by d57c0c6). The payload of a part may reach the encoder
in any number of Data events — `more_data` on all but the last, empty chunks anywhere, in particular
an empty first chunk: the encoder writes the same bytes as for one Data event per part, so for every
chunking on the encoder side *and* every chunking on the decoder side the parts come back exactly. -/
theorem decode_encode_events {bnd : Bytes} (hb : Multipart.BoundaryOk bnd)
    (cs : List Multipart.ChunkedPart)
    (hv : ∀ c ∈ cs, Multipart.ValidPart .crlf bnd c.1 ∧ c.2.1.flatten ++ c.2.2 = c.1.payload)
    (chunks : List Bytes) :
    ∃ body,
      Multipart.encodeEvents bnd .preamble
        (.preamble [] :: (cs.flatMap Multipart.chunkedEvents ++ [.epilogue []])) = .ok body ∧
      (chunks.flatten = body →
        (Multipart.decodeChunks bnd none none chunks).err = none ∧
        Multipart.partsOf (Multipart.decodeChunks bnd none none chunks).events =
          (cs.map (·.1)).map Multipart.decodedPart) :=
  ⟨_, Multipart.encodeEvents_chunked cs hv, Multipart.decode_chunks_encBody hb _
    (by intro p hp; rcases List.mem_map.1 hp with ⟨c, hc, rfl⟩; exact (hv c hc).1) chunks⟩

/-- the event sequence of F02a (empty first Data event with `more_data`, then data) encodes with the
blank line and decodes -/
example :
    (Multipart.encodeEvents [98] .preamble
      [.preamble [], .field (some ['a']) [], .data [] true, .data [97, 98, 99] false, .epilogue []]).toOption =
      some (Multipart.str "\r\n--b\r\nContent-Disposition: form-data; name=\"a\"\r\n\r\nabc\r\n--b--\r\n") ∧
    (Multipart.decodeChunks [98] none none
      [Multipart.str "\r\n--b\r\nContent-Disposition: form-data; name=\"a\"\r\n\r\nabc\r\n--b--\r\n"]).err = none := by
  rw [Multipart.str_ofList]
  decide +kernel

/-- The constants of `stream_encode_multipart` the client model uses, regenerated from the source by
AST: file contents are read with `reader(16384)`, the content type falls back to
`application/octet-stream`, and the only events it ever sends are Preamble(b""), Epilogue(b""),
Field + Data(value.encode(), more_data=False) for text, Field / File with the value's headers +
Data(chunk, more_data=True) … Data(chunk, more_data=False) for files. -/
theorem client_constants_as_modelled :
    Gen.FormOptions.clientReadSizes = [Multipart.clientChunkSize] ∧
    Gen.FormOptions.clientFallbackTypes.map String.toList = [Multipart.octetStream] ∧
    Gen.FormOptions.clientSendEvents =
      ["Preamble(data=b'')", "Epilogue(data=b'')", "Field(name=key, headers=Headers())",
       "Data(data=value.encode(), more_data=False)", "Field(name=key, headers=headers)",
       "File(name=key, filename=filename, headers=headers)", "Data(data=chunk, more_data=True)",
       "Data(data=chunk, more_data=False)"] :=
  ⟨rfl, rfl, rfl⟩

/-- **client_events_accepted.** The event sequence `stream_encode_multipart` (hence `encode_multipart`
and `EnvironBuilder` with files) sends — Preamble(b""), per pair a Field/File event followed by its
Data events (one for a text value; one per 16 KiB read plus a final empty one for a file value),
Epilogue(b"") — is one the encoder accepts, for every list of pairs whose parts are valid, and the
bytes written are the standard body `encBody` of those parts: everything proved about encoder output
(C01's chunk independence, `decode_encode_chunked`) applies to what the test client sends. -/
theorem client_events_accepted {bnd : Bytes} (guess : Multipart.Str → Option Multipart.Str)
    (items : List (Multipart.Str × Multipart.ClientValue))
    (hv : ∀ p ∈ Multipart.clientParts guess items, Multipart.ValidPart .crlf bnd p) :
    Multipart.clientEncode guess bnd items =
      .ok (Multipart.encBody .crlf bnd Multipart.stdEp (Multipart.clientParts guess items)) ∧
    Multipart.encodeAll bnd (Multipart.clientParts guess items) = Multipart.clientEncode guess bnd items := by
  have h := Multipart.clientEncode_eq guess items hv
  exact ⟨h, by rw [h, Multipart.encodeAll_eq _ hv]⟩

/-- **client_roundtrip.** For every boundary without CR / LF, every content-type guesser
(`mimetypes.guess_type` is opaque) and every list of (key, value) pairs — text values over all of
Unicode, file values with arbitrary bytes, a file name and any headers of their own, any mix and
order, repeated keys, empty values — whose parts satisfy the decidable `ValidPart` (keys / file names
free of `"`, `\`, CR, LF, `%22`; header lines that fit on a line; no payload line starting with
`--boundary`): what `stream_encode_multipart` writes, read by `MultiPartParser.parse` with **any**
`buffer_size` over **any** short-read schedule, comes back as exactly the expected fields and files
(`clientExpected`): every text value as a field `(key, value)` — decoded as UTF-8, identical to the
text sent —, every file as `(key, file name, headers, byte-exact content)`, all in order; and at the
decoder level every chunking yields exactly the parts sent. -/
theorem client_roundtrip {bnd : Bytes} (hb : Multipart.BoundaryOk bnd)
    (guess : Multipart.Str → Option Multipart.Str) (items : List (Multipart.Str × Multipart.ClientValue))
    (hv : ∀ p ∈ Multipart.clientParts guess items, Multipart.ValidPart .crlf bnd p)
    (hn : Multipart.filesNamed items = true) (bufSize : Nat) (sched : List Nat) :
    ∃ body, Multipart.clientEncode guess bnd items = .ok body ∧
      Multipart.formParse bnd none none bufSize sched body = .ok (Multipart.clientExpected guess items) ∧
      ∀ chunks : List Bytes, chunks.flatten = body →
        (Multipart.decodeChunks bnd none none chunks).err = none ∧
        Multipart.partsOf (Multipart.decodeChunks bnd none none chunks).events =
          (Multipart.clientParts guess items).map Multipart.decodedPart := by
  refine ⟨_, Multipart.clientEncode_eq guess items hv, ?_, Multipart.decode_chunks_encBody hb _ hv⟩
  rw [Multipart.formParse_encBody hb _ hv, Multipart.formOfParts_client guess items hn ([], [])]
  simp

/-- **client_file_content_type.** The content type of an upload comes back: the `Content-Type` header
of the file the parser returns (what `FileStorage.content_type` reads) is the value's own content type
when it has one, otherwise the type guessed from the file name, otherwise
`application/octet-stream`. -/
theorem client_file_content_type (guess : Multipart.Str → Option Multipart.Str) (key : Multipart.Str)
    (fn : Option Multipart.Str) (headers : Multipart.Headers) :
    Multipart.headerGet "content-type".toList
      (Multipart.cdHeader key fn ::
        Multipart.hdrSet "Content-Type".toList (Multipart.clientContentType guess fn headers) headers) =
      some (Multipart.clientContentType guess fn headers) ∧
    (∀ ct, Multipart.headerGet "content-type".toList headers = some ct →
      Multipart.clientContentType guess fn headers = ct) ∧
    (Multipart.headerGet "content-type".toList headers = none → ∀ f g, fn = some f → f ≠ [] →
      guess f = some g → g ≠ [] → Multipart.clientContentType guess fn headers = g) ∧
    (Multipart.headerGet "content-type".toList headers = none → (fn = none ∨ ∀ f, fn = some f → guess f = none) →
      Multipart.clientContentType guess fn headers = Multipart.octetStream) := by
  refine ⟨?_, ?_, ?_, ?_⟩
  · rw [Multipart.headerGet_cd_contentType]
    have h := Multipart.headerGet_hdrSet "Content-Type".toList (Multipart.clientContentType guess fn headers) headers
    have hl : Multipart.lowerAscii "Content-Type".toList = "content-type".toList := by
      rw [String.toList_ofList, String.toList_ofList]; decide +kernel
    rw [hl] at h
    exact h
  · intro ct h; unfold Multipart.clientContentType; rw [h]
  · intro h f g hf hne hg hg'
    subst hf
    have h1 : f.isEmpty = false := by cases f <;> simp at hne ⊢
    have h2 : g.isEmpty = false := by cases g <;> simp at hg' ⊢
    unfold Multipart.clientContentType; rw [h]
    simp [h1, hg, h2]
  · intro h hcase
    unfold Multipart.clientContentType; rw [h]
    rcases hcase with hnone | hg
    · subst hnone; rfl
    · cases fn with
      | none => rfl
      | some f =>
        have := hg f rfl
        simp only [this]
        split <;> rfl

/-- non-vacuity: a Unicode text value, a repeated key, an empty value and two uploads (binary content
with CRLF and dashes and a `<…>` file name; a file with its own content type) are valid for boundary
`bound`, every upload has a file name, and the expected result lists them in order -/
example :
    let g : Multipart.Str → Option Multipart.Str := fun f => if f == "a b.png".toList then some "image/png".toList else none
    let items : List (Multipart.Str × Multipart.ClientValue) :=
      [("é".toList, .text "ü € \r\n--boun".toList), ("k".toList, .text []), ("k".toList, .text "2".toList),
       ("up".toList, .file [0, 255, 13, 10, 45, 45] (some "a b.png".toList) []),
       ("up".toList, .file (Multipart.str "x") (some "<x>".toList) [("content-type".toList, "text/plain".toList)])]
    (∀ p ∈ Multipart.clientParts g items, Multipart.ValidPart .crlf (Multipart.str "bound") p) ∧
    Multipart.filesNamed items = true ∧
    Multipart.clientExpected g items =
      ([(some "é".toList, "ü € \r\n--boun".toList), (some "k".toList, []), (some "k".toList, "2".toList)],
       [⟨some "up".toList, "a b.png".toList,
          [("Content-Disposition".toList, "form-data; name=\"up\"; filename=\"a b.png\"".toList),
           ("Content-Type".toList, "image/png".toList)], [0, 255, 13, 10, 45, 45]⟩,
        ⟨some "up".toList, "<x>".toList,
          [("Content-Disposition".toList, "form-data; name=\"up\"; filename=\"<x>\"".toList),
           ("Content-Type".toList, "text/plain".toList)], Multipart.str "x"⟩]) := by
  rw [Multipart.str_ofList, Multipart.str_ofList]
  repeat rw [String.toList_ofList]
  decide +kernel

end Wz.Props.C02
