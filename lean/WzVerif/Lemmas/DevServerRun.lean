/-
Lemmas about the `run_wsgi` state machine (Model/DevServerRun.lean). The closure variables can only ever stand in one of
two ways - nothing sent yet, or the head sent for one status and header list and some pieces written since (`Abs`, `conc`) -
and one event of the model is one event on that description (`step_conc`); what `runEvs`, `execute`, the roll-back and
`runHandler` leave behind is read off it.
-/
import WzVerif.Model.DevServerRun
import WzVerif.Lemmas.DevServer
namespace Wz.RunWsgi
open Wz Wz.Chunked Wz.DevServer

/-- the framed body bytes of a list of `write` calls -/
def framesOf (chunked : Bool) (ps : List Bytes) : Bytes := ps.flatMap (frame chunked)

theorem frame_eq_framedPiece (chunked : Bool) (d : Bytes) : frame chunked d = framedPiece chunked d := rfl

theorem bodyWire_frames (chunked : Bool) (ps : List Bytes) :
    bodyWire chunked ps = framesOf chunked ps ++ (if chunked then zeroChunk else []) := by
  rw [bodyWire_eq]; rfl

theorem framesOf_append (chunked : Bool) (a b : List Bytes) :
    framesOf chunked (a ++ b) = framesOf chunked a ++ framesOf chunked b := by
  simp [framesOf]

/-- `Props.C19.asChunks`, which the statements there use, unfolds to this -/
def chunksOf (pieces : List Bytes) : List (Bytes × Term × Bool) :=
  (pieces.filter (fun d => !d.isEmpty)).map (fun d => (d, Term.crlf, false))

theorem chunksOf_cons (d : Bytes) (ps : List Bytes) :
    chunksOf (d :: ps) = if d.isEmpty then chunksOf ps else (d, Term.crlf, false) :: chunksOf ps := by
  cases hd : d.isEmpty <;> simp [chunksOf, hd]

theorem chunksOf_ne (pieces : List Bytes) : ∀ c ∈ chunksOf pieces, c.1 ≠ [] := by
  intro c hc
  simp only [chunksOf, List.mem_map, List.mem_filter] at hc
  obtain ⟨d, ⟨_, hd⟩, rfl⟩ := hc
  simpa using hd

theorem payload_chunksOf (pieces : List Bytes) : payload (chunksOf pieces) = pieces.flatten := by
  induction pieces with
  | nil => rfl
  | cons d ps ih =>
    rw [chunksOf_cons]
    by_cases hd : d.isEmpty = true
    · simp [ih, List.isEmpty_iff.mp hd]
    · simp [hd, ih, payload_cons]

theorem framesOf_eq_openEnc (pieces : List Bytes) : framesOf true pieces = openEnc (chunksOf pieces) := by
  induction pieces with
  | nil => rfl
  | cons d ps ih =>
    rw [chunksOf_cons, framesOf, List.flatMap_cons, ← framesOf, ih]
    by_cases hd : d.isEmpty = true
    · simp [frame, hd]
    · simp [frame, hd, openEnc, encodeChunk, Term.bytes, crlf, List.append_assoc]

theorem bodyWire_eq_encode (pieces : List Bytes) : bodyWire true pieces = encode (chunksOf pieces) .crlf := by
  rw [bodyWire_frames, framesOf_eq_openEnc, encode_eq_openEnc]
  rfl

theorem bodyWire_unchunked (pieces : List Bytes) : bodyWire false pieces = pieces.flatten := by
  induction pieces with
  | nil => rfl
  | cons d ps ih =>
    simp only [bodyWire, Bool.false_eq_true, if_false, List.flatMap_cons, List.flatten_cons] at ih ⊢
    rw [ih]
    by_cases hd : d.isEmpty = true
    · simp [List.isEmpty_iff.mp hd]
    · simp [hd]

/-- the closure variables of `run_wsgi` between two events, as far as they can be reached: nothing sent yet
(`set` = what `start_response` set last), or the head sent for `status` / `headers` and the data of the `write`
calls since -/
inductive Abs where
  | unsent (set : Option (Str × List (Str × Str)))
  | sent (status : Str) (headers : List (Str × Str)) (pieces : List Bytes)

/-- the closure variables such a description stands for, on a wire that held `pre` before the response -/
def Abs.conc (c : Conf) (pre : Bytes) : Abs → HState
  | .unsent o => { statusSet := o.map (·.1), headersSet := o.map (·.2), wire := pre }
  | .sent s h ps =>
    { statusSet := some s, headersSet := some h, statusSent := some s, headersSent := some h,
      chunk := (respOf c s h).chunked,
      wire := pre ++ (respOf c s h).head ++ framesOf (respOf c s h).chunked ps, pieces := ps }

/-- one event: `start_response` is refused once something is set (without `exc_info`) or sent, `write` before
anything is set; the first `write` sends the head for what is set at that moment -/
def Abs.step : Abs → Ev → Option Abs
  | .unsent o, .start s h exc => if !exc && o.isSome then none else some (.unsent (some (s, h)))
  | .unsent none, .emit _ => none
  | .unsent (some (s, h)), .emit d => some (.sent s h [d])
  | .sent .., .start .. => none
  | .sent s h ps, .emit d => some (.sent s h (ps ++ [d]))

theorem step_conc (c : Conf) (pre : Bytes) (x : Abs) (e : Ev) :
    step c (x.conc c pre) e = (x.step e).map (Abs.conc c pre) := by
  cases x with
  | unsent o =>
    cases e with
    | start s h exc => cases exc <;> cases o <;> rfl
    | emit d =>
      cases o with
      | none => rfl
      | some p => simp [step, Abs.conc, Abs.step, framesOf]
  | sent s h ps =>
    cases e with
    | start s' h' exc => cases exc <;> rfl
    | emit d => simp [step, Abs.conc, Abs.step, framesOf, List.append_assoc]

/-- events until one raises -/
def Abs.run (x : Abs) : List Ev → Abs × Bool
  | [] => (x, false)
  | e :: es =>
    match x.step e with
    | none => (x, true)
    | some x' => x'.run es

theorem runEvs_conc (c : Conf) (pre : Bytes) : ∀ (evs : List Ev) (x : Abs),
    runEvs c (x.conc c pre) evs = ((x.run evs).1.conc c pre, (x.run evs).2) := by
  intro evs
  induction evs with
  | nil => intro x; rfl
  | cons e es ih =>
    intro x
    simp only [runEvs, Abs.run, step_conc]
    cases x.step e with
    | none => rfl
    | some x' => exact ih x'

/-- once the head is out, the events can only add pieces -/
theorem Abs.run_sent (s : Str) (h : List (Str × Str)) : ∀ (evs : List Ev) (ps : List Bytes),
    ∃ more, ((Abs.sent s h ps).run evs).1 = .sent s h (ps ++ more) := by
  intro evs
  induction evs with
  | nil => exact fun ps => ⟨[], by simp [Abs.run]⟩
  | cons e es ih =>
    intro ps
    cases e with
    | start => exact ⟨[], by simp [Abs.run, Abs.step]⟩
    | emit d =>
      obtain ⟨more, hm⟩ := ih (ps ++ [d])
      exact ⟨d :: more, by simpa [Abs.run, Abs.step] using hm⟩

/-- once the head is out, the sent status / headers / framing decision never change -/
structure Stable (st st' : HState) : Prop where
  status : ∀ s, st.statusSent = some s → st'.statusSent = some s
  headers : ∀ s, st.statusSent = some s → st'.headersSent = st.headersSent
  chunk : ∀ s, st.statusSent = some s → st'.chunk = st.chunk
  pieces : ∃ more, st'.pieces = st.pieces ++ more

/-- `Stable` across the events of an application run from a reachable state: from `unsent` it asks for nothing,
from `sent` it is `Abs.run_sent` -/
theorem runEvs_stable (c : Conf) (pre : Bytes) (x : Abs) (evs : List Ev) :
    Stable (x.conc c pre) (runEvs c (x.conc c pre) evs).1 := by
  rw [runEvs_conc]
  cases x with
  | unsent o => exact ⟨fun _ h => (nomatch h), fun _ h => (nomatch h), fun _ h => (nomatch h), ⟨_, (List.nil_append _).symm⟩⟩
  | sent s h ps =>
    obtain ⟨more, hm⟩ := Abs.run_sent s h evs ps
    rw [hm]
    exact ⟨fun _ h => h, fun _ _ => rfl, fun _ _ => rfl, ⟨more, rfl⟩⟩

/-- the data of the `write` calls among the events -/
def emitsOf : List Ev → List Bytes
  | [] => []
  | .emit d :: es => d :: emitsOf es
  | .start .. :: es => emitsOf es

theorem emitsOf_append (a b : List Ev) : emitsOf (a ++ b) = emitsOf a ++ emitsOf b := by
  induction a with
  | nil => rfl
  | cons e es ih => cases e <;> simp [emitsOf, ih]

def Abs.pieces : Abs → List Bytes
  | .unsent _ => []
  | .sent _ _ ps => ps

theorem Abs.step_pieces {x x' : Abs} {e : Ev} (h : x.step e = some x') : x'.pieces = x.pieces ++ emitsOf [e] := by
  cases x with
  | unsent o =>
    cases e with
    | start s hd exc =>
      simp only [Abs.step] at h
      split at h <;> cases h
      rfl
    | emit d =>
      cases o with
      | none => cases h
      | some p => cases h; rfl
  | sent s hd ps =>
    cases e with
    | start => cases h
    | emit d => cases h; rfl

theorem Abs.run_pieces : ∀ (evs : List Ev) (x : Abs), (x.run evs).2 = false →
    (x.run evs).1.pieces = x.pieces ++ emitsOf evs := by
  intro evs
  induction evs with
  | nil => intro x _; simp [Abs.run, emitsOf]
  | cons e es ih =>
    intro x h
    simp only [Abs.run] at h ⊢
    cases hs : x.step e with
    | none => simp [hs] at h
    | some x' =>
      simp only [hs] at h ⊢
      rw [ih x' h, Abs.step_pieces hs, List.append_assoc, ← emitsOf_append]
      rfl

/-- the state `execute` leaves when it completes: the terminating chunk is written exactly when the response is chunked -/
def finished (st : HState) : HState :=
  { st with wire := if st.chunk then st.wire ++ zeroChunk else st.wire, done := st.chunk }

/-- `execute` from a reachable state. Either it raises and leaves a reachable state (no terminating chunk was
written), or it completes: then the head has been sent, the terminating chunk is accounted for, and the pieces are
exactly the data of the application's `write` calls and yielded pieces (the closing `write(b"")` adds an empty piece
at most) -/
theorem execute_conc (c : Conf) (pre : Bytes) (x : Abs) (a : AppRun) :
    (∃ (x' : Abs) (n : Nat), execute c (x.conc c pre) a = (x'.conc c pre, n, true)) ∨
    ∃ s h ps n, execute c (x.conc c pre) a = (finished ((Abs.sent s h ps).conc c pre), n, false) ∧
      ps.flatten = (x.pieces ++ emitsOf (a.call ++ a.iter)).flatten := by
  unfold execute
  simp only [runEvs_conc]
  by_cases hc : ((x.run a.call).2 || a.callRaises) = true
  · exact Or.inl ⟨_, _, by rw [if_pos hc]⟩
  · rw [if_neg hc]
    by_cases hi : (((x.run a.call).1.run a.iter).2 || a.iterRaises) = true
    · exact Or.inl ⟨_, _, by rw [if_pos hi]⟩
    · rw [if_neg hi]
      simp only [Bool.or_eq_true, not_or, Bool.not_eq_true] at hc hi
      have hp := Abs.run_pieces a.iter _ hi.1
      rw [Abs.run_pieces a.call x hc.1, List.append_assoc, ← emitsOf_append] at hp
      -- the closing `write(b"")`
      cases hx : ((x.run a.call).1.run a.iter).1 with
      | sent s h ps =>
        rw [hx] at hp
        exact Or.inr ⟨s, h, ps, _, rfl, congrArg List.flatten hp⟩
      | unsent o =>
        rw [hx] at hp
        cases o with
        | none => exact Or.inl ⟨.unsent none, _, rfl⟩
        | some p =>
          refine Or.inr ⟨p.1, p.2, [[]], if a.closable then 1 else 0, ?_, by rw [← hp]; rfl⟩
          simp [Abs.conc, step, finished, framesOf, frame]

/-- the state in which an application's run was abandoned is a reachable one -/
theorem execute_raised_conc {c : Conf} {w : Bytes} {a : AppRun} {st1 : HState} {cl : Nat}
    (hex : execute c { wire := w } a = (st1, cl, true)) : ∃ x : Abs, st1 = x.conc c w := by
  have e : ({ wire := w } : HState) = (Abs.unsent none).conc c w := rfl
  rw [e] at hex
  obtain ⟨x, n, h⟩ | ⟨_, _, _, _, h, _⟩ := execute_conc c w (.unsent none) a <;> rw [hex] at h <;> cases h
  exact ⟨x, rfl⟩

/-- once the head is out, an application that begins with `start_response` without `exc_info` hits "Headers already
set": `execute` raises at once, before its `try`, and changes nothing -/
theorem execute_sent_start (c : Conf) (pre : Bytes) (s : Str) (h : List (Str × Str)) (ps : List Bytes) {a : AppRun}
    {s' : Str} {h' : List (Str × Str)} {rest : List Ev} (ha : a.call = .start s' h' false :: rest) :
    execute c ((Abs.sent s h ps).conc c pre) a = ((Abs.sent s h ps).conc c pre, 0, true) := by
  simp [execute, ha, runEvs, step_conc, Abs.step]

/-- `if status_sent is None: status_set = None; headers_set = None` -/
def Abs.rollback : Abs → Abs
  | .unsent _ => .unsent none
  | x => x

theorem rollback_conc (c : Conf) (pre : Bytes) (x : Abs) : rollback (x.conc c pre) = x.rollback.conc c pre := by
  cases x <;> rfl

theorem runHandler_completed {c : Conf} {pre : Bytes} {expect : Bool} {a : AppRun} (fb : AppRun) {st : HState} {cl : Nat}
    (hex : execute c { wire := startWire pre expect } a = (st, cl, false)) :
    runHandler c pre expect a fb = ⟨st.wire, cl, false, st⟩ := by
  unfold runHandler finish
  rw [hex]
  rfl

/-- `run_wsgi` when the application's `execute` raised in the reachable state `x`: the closure variables are rolled
back and `execute` runs again on the fallback application, whatever comes of that -/
theorem runHandler_raised {c : Conf} {pre : Bytes} {expect : Bool} {a : AppRun} (fb : AppRun) {x : Abs} {cl : Nat}
    (hex : execute c { wire := startWire pre expect } a = (x.conc c (startWire pre expect), cl, true)) :
    runHandler c pre expect a fb =
      ⟨(execute c (x.rollback.conc c (startWire pre expect)) fb).1.wire, cl, true,
        (execute c (x.rollback.conc c (startWire pre expect)) fb).1⟩ := by
  unfold runHandler finish
  rw [hex, ← rollback_conc]
  rfl

/-- `close()` of the application's iterable is called in the `finally` of `execute`, that is exactly when the
application call returned and the iterable has the method -/
theorem execute_closeCalls (c : Conf) (st : HState) (a : AppRun) :
    (execute c st a).2.1 = if a.closable && !((runEvs c st a.call).2 || a.callRaises) then 1 else 0 := by
  unfold execute
  generalize runEvs c st a.call = r1
  obtain ⟨st1, r1⟩ := r1
  by_cases hc : (r1 || a.callRaises) = true
  · simp [hc]
  · simp only [hc, Bool.false_eq_true, if_false]
    generalize runEvs c st1 a.iter = r2
    obtain ⟨st2, r2⟩ := r2
    by_cases hi : (r2 || a.iterRaises) = true
    · cases a.closable <;> simp [hi]
    · simp only [hi, Bool.false_eq_true, if_false]
      cases (if st2.headersSent.isSome = true then some st2 else step c st2 (.emit [])) <;>
        cases a.closable <;> simp

theorem runHandler_closeCalls (c : Conf) (pre : Bytes) (expect : Bool) (a fb : AppRun) :
    (runHandler c pre expect a fb).closeCalls = (execute c { wire := startWire pre expect } a).2.1 := by
  unfold runHandler finish
  split <;> rfl

/-- what `run_wsgi` leaves behind: every byte on the wire is accounted for by the closure variables -/
structure Final (c : Conf) (pre : Bytes) (st : HState) : Prop where
  unsent : st.statusSent = none → st.wire = pre ∧ st.done = false
  sent : ∀ s, st.statusSent = some s → ∃ h, st.headersSent = some h ∧ st.chunk = (respOf c s h).chunked ∧
    st.wire = pre ++ (respOf c s h).head ++ framesOf st.chunk st.pieces ++ (if st.done then zeroChunk else [])
  done_chunk : st.done = true → st.chunk = true

theorem final_conc (c : Conf) (pre : Bytes) (x : Abs) : Final c pre (x.conc c pre) := by
  cases x <;> constructor <;> simp [Abs.conc]

theorem final_finished (c : Conf) (pre : Bytes) (x : Abs) : Final c pre (finished (x.conc c pre)) := by
  cases x with
  | unsent o => constructor <;> simp [finished, Abs.conc]
  | sent s h ps =>
    constructor <;> simp [finished, Abs.conc]
    cases (respOf c s h).chunked <;> simp

/-- `run_wsgi` as a whole, for every application and fallback: the wire is the one of the closure
variables at the end, which account for every byte of it; and when no exception escaped, the application's
`execute` completed -/
theorem runHandler_spec (c : Conf) (pre : Bytes) (expect : Bool) (a fb : AppRun) :
    (runHandler c pre expect a fb).wire = (runHandler c pre expect a fb).final.wire ∧
    Final c (startWire pre expect) (runHandler c pre expect a fb).final ∧
    ((runHandler c pre expect a fb).failed = false →
      (runHandler c pre expect a fb).final.statusSent.isSome = true ∧
      (runHandler c pre expect a fb).final.done = (runHandler c pre expect a fb).final.chunk ∧
      (runHandler c pre expect a fb).final.pieces.flatten = (emitsOf (a.call ++ a.iter)).flatten) := by
  obtain ⟨x1, n, h1⟩ | ⟨s, h, ps, n, h1, hps⟩ := execute_conc c (startWire pre expect) (.unsent none) a
  · rw [runHandler_raised fb h1]
    refine ⟨rfl, ?_, fun h => by cases h⟩
    obtain ⟨x2, m, h2⟩ | ⟨_, _, _, _, h2, _⟩ := execute_conc c (startWire pre expect) x1.rollback fb <;> rw [h2]
    · exact final_conc ..
    · exact final_finished ..
  · rw [runHandler_completed fb h1]
    exact ⟨rfl, final_finished .., fun _ => ⟨rfl, rfl, hps⟩⟩

end Wz.RunWsgi
