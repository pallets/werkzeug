/-
C14 rests on one normal form: `normSegs p`, what `posixpath.normpath`'s stack machine leaves of the
components of `p` — a block of `..` (none for an absolute path), then clean components (`Inv`,
`normSegs_shape`). `normpath p` is the canonical rendering of it (`normpath_spec`), hence idempotent.
`posixpath.join` is read only through leading slashes and segments (`joinStep_abs`, `joinStep_rel`), which
is all the containment argument needs.
-/
import WzVerif.Model.Paths
namespace Wz.Paths

theorem splitAux_nosep (s : Str) : sep ∉ (splitAux s).1 ∧ ∀ c ∈ (splitAux s).2, sep ∉ c := by
  induction s with
  | nil => simp [splitAux]
  | cons c t ih =>
    by_cases h : c = sep
    · simp only [splitAux, h, if_true]
      refine ⟨by simp, ?_⟩
      intro x hx
      rcases List.mem_cons.mp hx with rfl | hx
      · exact ih.1
      · exact ih.2 x hx
    · simp only [splitAux, h, if_false]
      refine ⟨?_, ih.2⟩
      intro hm
      rcases List.mem_cons.mp hm with e | hm
      · exact h e.symm
      · exact ih.1 hm

theorem splitSep_nosep (s : Str) : ∀ c ∈ splitSep s, sep ∉ c := by
  intro c hc
  rcases List.mem_cons.mp hc with rfl | hc
  · exact (splitAux_nosep s).1
  · exact (splitAux_nosep s).2 c hc

theorem splitSep_cons_sep (t : Str) : splitSep (sep :: t) = [] :: splitSep t := by
  simp [splitSep, splitAux]

theorem splitSep_cons_ne {c : Char} (h : c ≠ sep) (t : Str) :
    splitSep (c :: t) = (c :: (splitAux t).1) :: (splitAux t).2 := by
  simp [splitSep, splitAux, h]

theorem splitSep_append_sep (a b : Str) : splitSep (a ++ sep :: b) = splitSep a ++ splitSep b := by
  induction a with
  | nil => simp [splitSep, splitAux]
  | cons c t ih =>
    by_cases h : c = sep
    · subst h
      rw [List.cons_append, splitSep_cons_sep, splitSep_cons_sep, ih]; rfl
    · rw [List.cons_append, splitSep_cons_ne h, splitSep_cons_ne h]
      have := ih
      simp only [splitSep, List.cons_append, List.cons.injEq] at this
      simp only [splitSep, List.cons_append, this.1, this.2]

theorem splitSep_of_nosep {c : Str} (h : sep ∉ c) : splitSep c = [c] := by
  induction c with
  | nil => rfl
  | cons x t ih =>
    have hx : x ≠ sep := fun e => h (by simp [e])
    have ht : sep ∉ t := fun m => h (List.mem_cons_of_mem _ m)
    have := ih ht
    simp only [splitSep, List.cons.injEq] at this
    rw [splitSep_cons_ne hx, this.1, this.2]

theorem splitSep_joinSep : ∀ (comps : List Str), comps ≠ [] → (∀ c ∈ comps, sep ∉ c) →
    splitSep (joinSep comps) = comps
  | [], h, _ => absurd rfl h
  | [c], _, h => by simpa [joinSep] using splitSep_of_nosep (h c (by simp))
  | c :: d :: t, _, h => by
    have hc := h c (by simp)
    have ht : ∀ x ∈ d :: t, sep ∉ x := fun x hx => h x (List.mem_cons_of_mem _ hx)
    simp only [joinSep]
    rw [splitSep_append_sep, splitSep_of_nosep hc, splitSep_joinSep (d :: t) (by simp) ht]
    rfl

/-- a component that normpath keeps and that is not `..` -/
def Clean (c : Str) : Prop := c ≠ [] ∧ c ≠ dot ∧ c ≠ dotdot ∧ sep ∉ c

instance (c : Str) : Decidable (Clean c) := by unfold Clean; infer_instance

theorem Clean.ne_nil {c : Str} (h : Clean c) : c ≠ [] := h.1

theorem Clean.ne_dot {c : Str} (h : Clean c) : c ≠ dot := h.2.1

theorem Clean.ne_dotdot {c : Str} (h : Clean c) : c ≠ dotdot := h.2.2.1

theorem Clean.no_sep {c : Str} (h : Clean c) : sep ∉ c := h.2.2.2

/-- a component that is skipped (`""`, `"."`) or clean -/
def Harmless (c : Str) : Prop := c = [] ∨ c = dot ∨ Clean c

/-- the components `segments` (Model/Paths.lean) drops, as a function -/
def skip (c : Str) : Bool := c == [] || c == dot

theorem step_skip {c : Str} (h : skip c = true) (abs : Bool) (stk : List Str) : step abs stk c = stk := by
  have : c = [] ∨ c = dot := by simpa [skip] using h
  simp [step, this]

theorem step_clean {c : Str} (h : Clean c) (abs : Bool) (stk : List Str) : step abs stk c = c :: stk := by
  simp [step, h.ne_nil, h.ne_dot, h.ne_dotdot]

theorem foldl_step_filter (abs : Bool) (xs : List Str) (stk : List Str) :
    xs.foldl (step abs) stk = (xs.filter (fun c => !skip c)).foldl (step abs) stk := by
  induction xs generalizing stk with
  | nil => rfl
  | cons c t ih =>
    by_cases h : skip c = true
    · simp [List.filter, h, step_skip h, ih]
    · have h' : skip c = false := by simpa using h
      simp [List.filter, h', ih]

theorem foldl_step_clean (abs : Bool) (cs : List Str) (h : ∀ c ∈ cs, Clean c) (stk : List Str) :
    cs.foldl (step abs) stk = cs.reverse ++ stk := by
  induction cs generalizing stk with
  | nil => rfl
  | cons c t ih =>
    simp only [List.foldl_cons, step_clean (h c (by simp))]
    rw [ih (fun x hx => h x (List.mem_cons_of_mem _ hx))]
    simp

/-- stack invariant: clean components on top of a block of `..` (none when absolute) -/
def Inv (abs : Bool) (stk : List Str) : Prop :=
  ∃ k rest, stk = rest ++ List.replicate k dotdot ∧ (abs = true → k = 0) ∧ ∀ c ∈ rest, Clean c

theorem inv_nil (abs : Bool) : Inv abs [] := ⟨0, [], rfl, fun _ => rfl, by simp⟩

theorem classify (c : Str) (h : sep ∉ c) : c = [] ∨ c = dot ∨ c = dotdot ∨ Clean c := by
  by_cases h1 : c = []
  · exact Or.inl h1
  by_cases h2 : c = dot
  · exact Or.inr (Or.inl h2)
  by_cases h3 : c = dotdot
  · exact Or.inr (Or.inr (Or.inl h3))
  exact Or.inr (Or.inr (Or.inr ⟨h1, h2, h3, h⟩))

/-- the `..` rule of normpath: a `..` stays on an empty relative stack and on top of another `..`,
it removes the component on top otherwise, and at the root it vanishes -/
theorem step_dotdot (abs : Bool) (stk : List Str) : step abs stk dotdot =
    if (abs = false ∧ stk = []) ∨ stk.head? = some dotdot then dotdot :: stk else stk.tail := by
  rw [step, if_neg (by decide)]
  simp only [ne_eq, not_true_eq_false, false_or]

theorem step_inv {abs : Bool} {stk : List Str} (hi : Inv abs stk) {c : Str} (hc : sep ∉ c) :
    Inv abs (step abs stk c) := by
  obtain ⟨k, rest, rfl, hk, hr⟩ := hi
  rcases classify c hc with h | h | rfl | h
  · rw [step_skip (by simp [skip, h])]; exact ⟨k, rest, rfl, hk, hr⟩
  · rw [step_skip (by simp [skip, h])]; exact ⟨k, rest, rfl, hk, hr⟩
  · rw [step_dotdot]
    cases rest with
    | cons r rest =>
      -- a clean component on top is popped
      rw [if_neg (by simpa using (hr r (by simp)).ne_dotdot)]
      exact ⟨k, rest, rfl, hk, fun x hx => hr x (List.mem_cons_of_mem _ hx)⟩
    | nil =>
      cases abs with
      | true => obtain rfl := hk rfl; exact ⟨0, [], by simp, fun _ => rfl, by simp⟩
      | false =>
        -- only `..`s below: one more
        refine ⟨k + 1, [], ?_, by simp, by simp⟩
        cases k <;> simp [List.replicate_succ]
  · rw [step_clean h]
    exact ⟨k, c :: rest, by simp, hk, List.forall_mem_cons.mpr ⟨h, hr⟩⟩

theorem foldl_step_inv {abs : Bool} (cs : List Str) (hcs : ∀ c ∈ cs, sep ∉ c) {stk : List Str}
    (hi : Inv abs stk) : Inv abs (cs.foldl (step abs) stk) := by
  induction cs generalizing stk with
  | nil => exact hi
  | cons c t ih =>
    exact ih (fun x hx => hcs x (List.mem_cons_of_mem _ hx)) (step_inv hi (hcs c (by simp)))

theorem normSegs_shape (p : Str) : ∃ k rest, normSegs p = List.replicate k dotdot ++ rest ∧
    (initialSlashes p ≠ 0 → k = 0) ∧ ∀ c ∈ rest, Clean c := by
  obtain ⟨k, rest, h, hk, hr⟩ :=
    foldl_step_inv (abs := initialSlashes p != 0) _ (splitSep_nosep p) (inv_nil _)
  refine ⟨k, rest.reverse, ?_, ?_, by simpa using hr⟩
  · simp [normSegs, normComps, h]
  · intro h0; apply hk; simpa using h0

theorem lead_append_nohead (a b : Str) (hb : b.head? ≠ some sep) : lead (a ++ b) = lead a := by
  induction a with
  | nil =>
    cases b with
    | nil => rfl
    | cons x t =>
      have : x ≠ sep := by simpa using hb
      simp [lead, this]
  | cons c t ih => simp [lead, ih]

theorem lead_append_mem (a x : Str) (h : ∃ c ∈ a, c ≠ sep) : lead (a ++ x) = lead a := by
  induction a with
  | nil => simp at h
  | cons c t ih =>
    by_cases hc : c = sep
    · subst hc
      have : ∃ c ∈ t, c ≠ sep := by
        obtain ⟨y, hy, hne⟩ := h
        rcases List.mem_cons.mp hy with rfl | hy
        · exact absurd rfl hne
        · exact ⟨y, hy, hne⟩
      simp [lead, ih this]
    · simp [lead, hc]

theorem lead_eq_zero_iff (b : Str) : lead b = 0 ↔ b.head? ≠ some sep := by
  cases b with
  | nil => simp [lead]
  | cons c t => by_cases hc : c = sep <;> simp [lead, hc]

theorem joinStep_abs {path b : Str} (hb : b.head? = some sep) : joinStep path b = b := if_pos hb

theorem joinStep_abs_idem {r : Str} (hr : r = [] ∨ isabs r = true) (p : Str) :
    joinStep r (joinStep r p) = joinStep r p := by
  rcases hr with rfl | hr
  · simp [joinStep]
  · have hh : r.head? = some sep := by simpa [isabs] using hr
    refine joinStep_abs ?_
    unfold joinStep
    split
    · assumption
    · obtain ⟨t, rfl⟩ : ∃ t, r = sep :: t := by
        cases r with
        | nil => simp at hh
        | cons c t => simp at hh; exact ⟨t, by rw [hh]⟩
      split <;> simp

/-- a relative component is appended: same leading slashes, its segments after those of `path`
(for the empty `path` both are those of `b`) -/
theorem joinStep_rel (path : Str) {b : Str} (hb : b.head? ≠ some sep) :
    lead (joinStep path b) = lead path ∧ segments (joinStep path b) = segments path ++ segments b := by
  unfold joinStep
  rw [if_neg hb]
  by_cases hp : path = []
  · subst hp
    rw [if_pos (Or.inl rfl), List.nil_append]
    exact ⟨(lead_eq_zero_iff b).mpr hb, rfl⟩
  by_cases hl : path.getLast? = some sep
  · rw [if_pos (Or.inr hl)]
    obtain ⟨q, rfl⟩ := List.getLast?_eq_some_iff.mp hl
    refine ⟨lead_append_nohead _ _ hb, ?_⟩
    have e1 : splitSep (q ++ [sep]) = splitSep q ++ [[]] := splitSep_append_sep q []
    simp [segments, e1, splitSep_append_sep, List.filter_append]
  · rw [if_neg (by simp [hp, hl])]
    refine ⟨?_, by simp [segments, splitSep_append_sep]⟩
    apply lead_append_mem
    cases hq : path.getLast? with
    | none => exact absurd (List.getLast?_eq_none_iff.mp hq) hp
    | some c =>
      obtain ⟨q, rfl⟩ := List.getLast?_eq_some_iff.mp hq
      exact ⟨c, by simp, fun e => hl (e ▸ hq)⟩

theorem join_rel (fs : List Str) (hfs : ∀ f ∈ fs, f.head? ≠ some sep) (path : Str) :
    lead (join path fs) = lead path ∧ segments (join path fs) = segments path ++ (fs.map segments).flatten := by
  induction fs generalizing path with
  | nil => simp [join]
  | cons f t ih =>
    obtain ⟨h2, h3⟩ := joinStep_rel path (hfs f (by simp))
    have := ih (fun x hx => hfs x (List.mem_cons_of_mem _ hx)) (joinStep path f)
    simp only [join, List.foldl_cons] at this ⊢
    rw [this.1, this.2, h2, h3]
    simp

theorem head_joinSep_ne {comps : List Str} (h : ∀ c ∈ comps, c ≠ [] ∧ sep ∉ c) :
    (joinSep comps).head? ≠ some sep := by
  match comps, h with
  | [], _ => simp [joinSep]
  | [c], h =>
    obtain ⟨h1, h2⟩ := h c (by simp)
    cases c with
    | nil => exact absurd rfl h1
    | cons x t => simp only [joinSep, List.head?_cons]; intro e; apply h2; simp at e; simp [e]
  | c :: d :: t, h =>
    obtain ⟨h1, h2⟩ := h c (by simp)
    cases c with
    | nil => exact absurd rfl h1
    | cons x t => simp only [joinSep, List.cons_append, List.head?_cons]; intro e; apply h2; simp at e; simp [e]

theorem segments_joinSep {cs : List Str} (h : ∀ c ∈ cs, c ≠ [] ∧ c ≠ dot ∧ sep ∉ c) : segments (joinSep cs) = cs := by
  by_cases hne : cs = []
  · subst hne; simp [segments, joinSep, splitSep, splitAux]
  · unfold segments
    rw [splitSep_joinSep cs hne (fun c hc => (h c hc).2.2)]
    apply List.filter_eq_self.mpr
    intro c hc
    obtain ⟨h1, h2, _⟩ := h c hc
    simp [h1, h2]

theorem normSegs_eq_segments (p : Str) :
    normSegs p = ((segments p).foldl (step (initialSlashes p != 0)) []).reverse := by
  rw [normSegs, normComps, foldl_step_filter]
  -- `segments` (Model/Paths.lean) filters `splitSep p` by `skip` written out
  rfl

theorem joinSep_eq_nil {cs : List Str} (h : ∀ c ∈ cs, c ≠ []) (he : joinSep cs = []) : cs = [] := by
  match cs, h, he with
  | [], _, _ => rfl
  | [c], h, he => exact absurd (by simpa [joinSep] using he) (h c (by simp))
  | c :: d :: t, _, he => simp [joinSep] at he

theorem segments_replicate_sep (k : Nat) (x : Str) : segments (List.replicate k sep ++ x) = segments x := by
  induction k with
  | zero => simp
  | succ k ih =>
    rw [List.replicate_succ, List.cons_append]
    unfold segments at ih ⊢
    rw [splitSep_cons_sep, List.filter_cons]
    simpa [skip] using ih

theorem lead_replicate_sep (k : Nat) (x : Str) (hx : x.head? ≠ some sep) :
    lead (List.replicate k sep ++ x) = k := by
  induction k with
  | zero =>
    cases x with
    | nil => rfl
    | cons c t =>
      have : c ≠ sep := by simpa using hx
      simp [lead, this]
  | succ k ih => simp [List.replicate_succ, lead, ih]

theorem seg_of_normSegs (p : Str) : ∀ c ∈ normSegs p, c ≠ [] ∧ c ≠ dot ∧ sep ∉ c := by
  obtain ⟨k, rest, hs, _, hr⟩ := normSegs_shape p
  intro c hc
  rw [hs] at hc
  rcases List.mem_append.mp hc with hc | hc
  · have := List.eq_of_mem_replicate hc
    subst this
    simp [dotdot, dot, sep]
  · exact ⟨(hr c hc).ne_nil, (hr c hc).ne_dot, (hr c hc).no_sep⟩

theorem initialSlashes_cases (p : Str) : initialSlashes p = 0 ∨ initialSlashes p = 1 ∨ initialSlashes p = 2 := by
  unfold initialSlashes
  split <;> simp

theorem initialSlashes_of_lead {a b : Str} (h : lead a = lead b) : initialSlashes a = initialSlashes b := by
  simp [initialSlashes, h]

theorem initialSlashes_of_lead_eq {x : Str} {k : Nat} (h : lead x = k) (hk : k = 0 ∨ k = 1 ∨ k = 2) :
    initialSlashes x = k := by
  unfold initialSlashes
  rcases hk with rfl | rfl | rfl <;> simp [h]

/-- the text `normpath` returns, for a non-empty path -/
def render (k : Nat) (segs : List Str) : Str :=
  if List.replicate k sep ++ joinSep segs = [] then dot else List.replicate k sep ++ joinSep segs

theorem normpath_eq_render {p : Str} (hp : p ≠ []) : normpath p = render (initialSlashes p) (normSegs p) := by
  simp [normpath, render, hp]

theorem render_spec {k : Nat} {segs : List Str} (hk : k = 0 ∨ k = 1 ∨ k = 2)
    (h : ∀ c ∈ segs, c ≠ [] ∧ c ≠ dot ∧ sep ∉ c) :
    render k segs ≠ [] ∧ segments (render k segs) = segs ∧ initialSlashes (render k segs) = k := by
  unfold render
  split
  · rename_i he
    have he' := List.append_eq_nil_iff.mp he
    have hk0 : k = 0 := by simpa using he'.1
    have hs : segs = [] := joinSep_eq_nil (fun c hc => (h c hc).1) he'.2
    subst hk0 hs
    refine ⟨by simp [dot], by simp [segments, splitSep, splitAux, dot, sep], by decide⟩
  · rename_i hne
    refine ⟨hne, ?_, ?_⟩
    · rw [segments_replicate_sep, segments_joinSep h]
    · apply initialSlashes_of_lead_eq _ hk
      apply lead_replicate_sep
      exact head_joinSep_ne (fun c hc => ⟨(h c hc).1, (h c hc).2.2⟩)

theorem normpath_spec (p : Str) : normpath p ≠ [] ∧ segments (normpath p) = normSegs p ∧
    initialSlashes (normpath p) = initialSlashes p := by
  by_cases hp : p = []
  · subst hp; decide
  · rw [normpath_eq_render hp]
    exact render_spec (initialSlashes_cases p) (seg_of_normSegs p)

theorem segments_normpath (p : Str) : segments (normpath p) = normSegs p := (normpath_spec p).2.1

theorem initialSlashes_normpath (p : Str) : initialSlashes (normpath p) = initialSlashes p :=
  (normpath_spec p).2.2

theorem normpath_ne_nil (p : Str) : normpath p ≠ [] := (normpath_spec p).1

theorem foldl_step_dotdots (i j : Nat) :
    (List.replicate j dotdot).foldl (step false) (List.replicate i dotdot) = List.replicate (i + j) dotdot := by
  induction j generalizing i with
  | zero => simp
  | succ j ih =>
    rw [List.replicate_succ, List.foldl_cons]
    have : step false (List.replicate i dotdot) dotdot = List.replicate (i + 1) dotdot := by
      cases i <;> simp [step_dotdot, List.replicate_succ]
    rw [this, ih]
    congr 1; omega

theorem normComps_normal {abs : Bool} {k : Nat} {rest : List Str} (hk : abs = true → k = 0)
    (hr : ∀ c ∈ rest, Clean c) :
    normComps abs (List.replicate k dotdot ++ rest) = List.replicate k dotdot ++ rest := by
  unfold normComps
  rw [List.foldl_append]
  have h1 : (List.replicate k dotdot).foldl (step abs) [] = List.replicate k dotdot := by
    cases abs with
    | true => simp [hk rfl]
    | false => simpa using foldl_step_dotdots 0 k
  rw [h1, foldl_step_clean _ _ hr]
  simp

theorem normSegs_normpath (p : Str) : normSegs (normpath p) = normSegs p := by
  have hseg := segments_normpath p
  have hi := initialSlashes_normpath p
  obtain ⟨k, rest, hs, hk, hr⟩ := normSegs_shape p
  have : normSegs (normpath p) = normComps (initialSlashes p != 0) (segments (normpath p)) := by
    rw [normSegs_eq_segments, hi]; rfl
  rw [this, hseg, hs]
  apply normComps_normal _ hr
  intro h; apply hk; simpa using h

theorem normpath_idem (p : Str) : normpath (normpath p) = normpath p := by
  by_cases hp : p = []
  · subst hp; decide
  · rw [normpath_eq_render (normpath_ne_nil p), normSegs_normpath, initialSlashes_normpath,
      ← normpath_eq_render hp]

theorem isabs_iff (p : Str) : isabs p = true ↔ initialSlashes p ≠ 0 := by
  cases p with
  | nil => simp [isabs, initialSlashes, lead]
  | cons c t =>
    by_cases h : c = sep
    · subst h
      simp only [isabs, List.head?_cons, decide_true, initialSlashes, lead, if_true, true_iff]
      split <;> simp_all
    · simp [isabs, initialSlashes, lead, h]

end Wz.Paths
