/-
Routing lemmas (C04): the text `Rule.build` assembles (`buildSide`), one trace item at a time (`buildSide_text`,
`buildSide_var`). Percent-decoding it gives the path the rule renders from the decoded converter outputs (`buildSide_closed`),
because every piece the builder concatenates is self-delimiting for the decoder (quoted text, or text without a percent
sign); it contains no '?' / '#' when the converter outputs contain none; converting the groups of the match gives the built
values back (`convert_built`), and rebuilding from them gives the same text (`buildSide_congr`).
-/
import WzVerif.Lemmas.RoutingRender
import WzVerif.Lemmas.RoutingQuote
import WzVerif.Lemmas.RoutingDict
import WzVerif.Lemmas.RoutingParse
namespace Wz.Routing

/-- converters whose `to_url` percent-quotes the value -/
def Conv.quotes : Conv → Bool
  | .string .. => true
  | .path => true
  | .any _ => true
  | _ => false

theorem toUrl_closed {c : Conv} {v : Value} {s : Str} (h : toUrl c v = .ok s) (hq : c.quotes = true ∨ '%' ∉ s) :
    Closed s (unquote s) := by
  have quoted : ∀ t, Except.ok (quote pathSafe t) = (Except.ok s : Except String Str) → Closed s (unquote s) := by
    intro t e
    injection e with e
    rw [← e, unquote_quote_pathSafe]; exact closed_quote _
  have plain : c.quotes = false → Closed s (unquote s) := by
    intro hc
    have hp : '%' ∉ s := hq.resolve_left (by simp [hc])
    rw [unquote_noPercent s hp]; exact closed_noPercent s hp
  cases c with
  | string mn mx ln => exact quoted _ h
  | path => exact quoted _ h
  | any items =>
    cases v with
    | str t =>
      simp only [toUrl] at h
      split at h
      · exact quoted _ h
      · cases h
    | _ => simp [toUrl] at h
  | uuid => exact plain rfl
  | int fx sg mn mx => exact plain rfl
  | float sg mn mx => exact plain rfl

/-- the value a variable is built from: a default of the rule wins over the given value -/
def buildValue (r : Rule) (values : List (Str × Value)) (n : Str) : Option Value :=
  match lookupVal n r.defaults with
  | some d => some d
  | none => lookupVal n values

/-- decoded texts of the variables of `toks`, in order: `unquote (to_url value)` -/
def valueTexts (r : Rule) (values : List (Str × Value)) : List Tok → Option (List Str)
  | [] => some []
  | .var _ n :: t =>
    match lookupConv n r.convs, buildValue r values n with
    | some c, some v =>
      match toUrl c v with
      | .ok s => (valueTexts r values t).map (unquote s :: ·)
      | .error _ => none
    | _, _ => none
  | _ :: t => valueTexts r values t

/-- every variable's `to_url` output is quoted or free of percent signs -/
def UrlsClosed (r : Rule) (values : List (Str × Value)) : List Tok → Prop
  | [] => True
  | .var _ n :: t =>
    (∀ c v s, lookupConv n r.convs = some c → buildValue r values n = some v → toUrl c v = .ok s →
      (c.quotes = true ∨ '%' ∉ s)) ∧ UrlsClosed r values t
  | _ :: t => UrlsClosed r values t

theorem quote_slash : quote pathSafe ['/'] = ['/'] := by decide +kernel

theorem buildSide_text {r : Rule} {values : List (Str × Value)} {s : Str} {t : List TraceItem} {u : Str}
    (h : buildSide r values (.text s :: t) = .ok u) :
    ∃ rest, buildSide r values t = .ok rest ∧ u = quote pathSafe s ++ rest := by
  simp only [buildSide, bind, Except.bind] at h
  split at h
  · cases h
  · rename_i rest hrest
    simp only [pure, Except.pure, Except.ok.injEq] at h
    exact ⟨rest, hrest, h.symm⟩

theorem buildSide_var {r : Rule} {values : List (Str × Value)} {n : Str} {t : List TraceItem} {u : Str}
    (h : buildSide r values (.var n :: t) = .ok u) :
    ∃ c v s rest, lookupConv n r.convs = some c ∧ buildValue r values n = some v ∧ toUrl c v = .ok s ∧
      buildSide r values t = .ok rest ∧ u = s ++ rest := by
  simp only [buildSide] at h
  cases hlc : lookupConv n r.convs with
  | none => simp [hlc, throw, throwThe, MonadExceptOf.throw, bind, Except.bind] at h
  | some c =>
    simp only [hlc, pure_bind] at h
    -- the tail shared by both sources of the value
    have tail : ∀ v, buildValue r values n = some v →
        (toUrl c v >>= fun s => buildSide r values t >>= fun rest => pure (s ++ rest)) = (Except.ok u : Except String Str) →
        ∃ c' v s rest, some c = some c' ∧ buildValue r values n = some v ∧ toUrl c' v = .ok s ∧
          buildSide r values t = .ok rest ∧ u = s ++ rest := by
      intro v hbv h
      cases hu : toUrl c v with
      | error e => simp [hu, bind, Except.bind] at h
      | ok s =>
        cases hrest : buildSide r values t with
        | error e => simp [hu, hrest, bind, Except.bind] at h
        | ok rest =>
          simp only [hu, hrest, bind, Except.bind, pure, Except.pure, Except.ok.injEq] at h
          exact ⟨c, v, s, rest, rfl, hbv, hu, rfl, h.symm⟩
    cases hd : lookupVal n r.defaults with
    | some d =>
      simp only [hd] at h
      exact tail d (by simp [buildValue, hd]) h
    | none =>
      simp only [hd] at h
      cases hvv : lookupVal n values with
      | none => simp [hvv, throw, throwThe, MonadExceptOf.throw, bind, Except.bind] at h
      | some v =>
        simp only [hvv] at h
        exact tail v (by simp [buildValue, hd, hvv]) h

theorem buildSide_closed (r : Rule) (values : List (Str × Value)) : ∀ (toks : List Tok) {u : Str},
    buildSide r values (traceToks toks) = .ok u → UrlsClosed r values toks →
    ∃ ts text, valueTexts r values toks = some ts ∧ renderToks toks ts = some text ∧ Closed u text := by
  intro toks
  induction toks with
  | nil =>
    intro u h _
    simp only [traceToks, buildSide, Except.ok.injEq] at h
    subst h
    exact ⟨[], [], rfl, rfl, Closed.nil⟩
  | cons t toks ih =>
    intro u h hc
    cases t with
    | slash =>
      obtain ⟨rest, hrest, rfl⟩ := buildSide_text h
      obtain ⟨ts, text, h1, h2, h3⟩ := ih hrest hc
      refine ⟨ts, '/' :: text, h1, by simp [renderToks, h2], ?_⟩
      rw [quote_slash]
      exact (closed_noPercent ['/'] (by decide)).append h3
    | lit s =>
      obtain ⟨rest, hrest, rfl⟩ := buildSide_text h
      obtain ⟨ts, text, h1, h2, h3⟩ := ih hrest hc
      exact ⟨ts, s ++ text, h1, by simp [renderToks, h2], (closed_quote s).append h3⟩
    | var c n =>
      obtain ⟨c', v, s, rest, hlc, hbv, hu, hrest, rfl⟩ := buildSide_var h
      obtain ⟨ts, text, h1, h2, h3⟩ := ih hrest hc.2
      exact ⟨unquote s :: ts, unquote s ++ text, by simp [valueTexts, hlc, hbv, hu, h1], by simp [renderToks, h2],
        (toUrl_closed hu (hc.1 c' v s hlc hbv hu)).append h3⟩

/-- every variable's `to_url` output is free of '?' and '#' (quoted text is; numbers and UUIDs are) -/
def UrlsNoCut (r : Rule) (values : List (Str × Value)) : List Tok → Prop
  | [] => True
  | .var _ n :: t =>
    (∀ c v s, lookupConv n r.convs = some c → buildValue r values n = some v → toUrl c v = .ok s → noCut s) ∧
    UrlsNoCut r values t
  | _ :: t => UrlsNoCut r values t

theorem buildSide_noCut (r : Rule) (values : List (Str × Value)) : ∀ (toks : List Tok) {u : Str},
    buildSide r values (traceToks toks) = .ok u → UrlsNoCut r values toks → noCut u := by
  intro toks
  induction toks with
  | nil =>
    intro u h _
    simp only [traceToks, buildSide, Except.ok.injEq] at h
    subst h; intro c hc; cases hc
  | cons t toks ih =>
    intro u h hc
    cases t with
    | slash =>
      obtain ⟨rest, hrest, rfl⟩ := buildSide_text h
      exact noCut_append (noCut_quote _) (ih hrest hc)
    | lit s =>
      obtain ⟨rest, hrest, rfl⟩ := buildSide_text h
      exact noCut_append (noCut_quote _) (ih hrest hc)
    | var c n =>
      obtain ⟨c', v, s, rest, hlc, hbv, hu, hrest, rfl⟩ := buildSide_var h
      exact noCut_append (hc.1 c' v s hlc hbv hu) (ih hrest hc.2)

theorem buildSide_slash {r : Rule} {values : List (Str × Value)} {toks : List Tok} {u : Str}
    (h : buildSide r values (traceToks (.slash :: toks)) = .ok u) : ∃ t, u = '/' :: t := by
  obtain ⟨rest, _, rfl⟩ := buildSide_text h
  exact ⟨rest, by rw [quote_slash]; rfl⟩

theorem buildSide_slash_unquote {r : Rule} {values : List (Str × Value)} {toks : List Tok} {t : Str}
    (h : buildSide r values (traceToks (.slash :: toks)) = .ok ('/' :: t)) (hc : UrlsClosed r values (.slash :: toks)) :
    unquote ('/' :: t) = '/' :: unquote t := by
  obtain ⟨ts, text, _, hrender, hcl⟩ := buildSide_closed r values _ h hc
  simp only [renderToks, Option.map_eq_some_iff] at hrender
  obtain ⟨text', _, rfl⟩ := hrender
  rw [hcl.unquote, hcl.tail_slash.unquote]

theorem rule_build_nodomain {cfg : MapCfg} {r : Rule} {values : List (Str × Value)} {au : Bool} {d u : Str}
    (h : r.build cfg values au = .ok (d, u)) (hdt : r.domToks cfg = []) : d = [] := by
  simp only [Rule.build, hdt, traceToks, buildSide, bind, Except.bind, pure, Except.pure] at h
  split at h
  · cases h
  · simp only [Except.ok.injEq, Prod.mk.injEq] at h
    exact h.1.symm

theorem rule_build_path {cfg : MapCfg} {r : Rule} {values : List (Str × Value)} {au : Bool} {d u : Str}
    (h : r.build cfg values au = .ok (d, u)) :
    ∃ upath, buildSide r values (traceToks r.pathToks) = .ok upath ∧ (u = upath ∨ ∃ params, u = upath ++ '?' :: params) := by
  simp only [Rule.build, bind, Except.bind] at h
  split at h
  · cases h
  · split at h
    · cases h
    · rename_i dom _ upath hup
      simp only [pure, Except.pure, Except.ok.injEq, Prod.mk.injEq] at h
      refine ⟨upath, hup, ?_⟩
      obtain ⟨_, hu⟩ := h
      generalize (if (au && !(r.leftover values).isEmpty) = true then encodeQueryVars (r.leftover values) else []) = params at hu
      cases params with
      | nil => exact .inl (by simpa using hu.symm)
      | cons x t => exact .inr ⟨x :: t, by simpa using hu.symm⟩

/-- the dict a match of the built path returns before the rule's defaults are added: each variable of the tokens with the
value it was built from -/
def builtPairs (r : Rule) (values : List (Str × Value)) : List Tok → List (Str × Value)
  | [] => []
  | .var _ n :: t =>
    (match buildValue r values n with | some v => [(n, v)] | none => []) ++ builtPairs r values t
  | _ :: t => builtPairs r values t

/-- every variable of the tokens resolves (by name) to its own converter and round-trips:
`to_python(unquote(to_url(v))) = v` for the value it is built from (the converters' canonical domain,
`C04.toPython_toUrl_*`) -/
def VarsRoundTrip (r : Rule) (values : List (Str × Value)) : List Tok → Prop
  | [] => True
  | .var c n :: t =>
    (lookupConv n r.convs = some c ∧
      ∀ v s, buildValue r values n = some v → toUrl c v = .ok s → toPython c (unquote s) = some v) ∧
    VarsRoundTrip r values t
  | _ :: t => VarsRoundTrip r values t

theorem convert_built (r : Rule) (values : List (Str × Value)) : ∀ (toks : List Tok) {ts : List Str},
    valueTexts r values toks = some ts → VarsRoundTrip r values toks →
    convertValues (tokVars toks) ts = some (builtPairs r values toks) := by
  intro toks
  induction toks with
  | nil =>
    intro ts h _
    simp only [valueTexts, Option.some.injEq] at h
    subst h
    simp [tokVars, convertValues, builtPairs]
  | cons t toks ih =>
    intro ts h hrt
    cases t with
    | slash => exact ih h hrt
    | lit s => exact ih h hrt
    | var c n =>
      simp only [VarsRoundTrip] at hrt
      obtain ⟨⟨hlc, hround⟩, hrt'⟩ := hrt
      simp only [valueTexts, hlc] at h
      cases hbv : buildValue r values n with
      | none => simp [hbv] at h
      | some v =>
        simp only [hbv] at h
        cases hu : toUrl c v with
        | error e => simp [hu] at h
        | ok s =>
          simp only [hu, Option.map_eq_some_iff] at h
          obtain ⟨ts', hts', rfl⟩ := h
          simp only [tokVars, convertValues, hround v s hbv hu, ih hts' hrt', builtPairs, hbv, Option.map_some,
            List.singleton_append]

def varNames : List Tok → List Str
  | [] => []
  | .var _ n :: t => n :: varNames t
  | _ :: t => varNames t

/-- the statements speak of the variables of a token list through three projections — `tokVars` (name and converter:
`parseToks_convs`), `tokConvs` (`parse_render_admits_gram`), `varNames` (`lookupVal_builtPairs`) —: one list -/
theorem tokVars_map (toks : List Tok) :
    (tokVars toks).map (·.2) = tokConvs toks ∧ (tokVars toks).map (·.1) = varNames toks := by
  induction toks with
  | nil => exact ⟨rfl, rfl⟩
  | cons t ts ih => cases t <;> simp [tokVars, tokConvs, varNames, ih]

theorem lookupVal_builtPairs (r : Rule) (values : List (Str × Value)) (n : Str) (toks : List Tok) :
    lookupVal n (builtPairs r values toks) = if n ∈ varNames toks then buildValue r values n else none := by
  induction toks with
  | nil => rfl
  | cons t toks ih =>
    cases t with
    | slash => exact ih
    | lit s => exact ih
    | var c n' =>
      simp only [builtPairs, lookupVal_append, varNames, List.mem_cons, ih]
      by_cases hn : n' = n
      · subst hn
        cases buildValue r values n' <;> simp [lookupVal]
      · have hne : ¬ (n' == n) = true := by simpa using hn
        cases buildValue r values n' <;> simp [lookupVal, hne, Ne.symm hn]

/-- the value a variable is rebuilt from after a match is the value it was built from -/
theorem buildValue_matched (r : Rule) (values : List (Str × Value)) (toks : List Tok) (n : Str) (hn : n ∈ varNames toks) :
    buildValue r (dictUpdate (builtPairs r values toks) r.defaults) n = buildValue r values n := by
  simp only [buildValue]
  cases hd : lookupVal n r.defaults with
  | some d => rfl
  | none =>
    simp only
    rw [lookupVal_dictUpdate_notin n r.defaults _ hd, lookupVal_builtPairs, if_pos hn]
    simp [buildValue, hd]

theorem buildSide_congr (r : Rule) (v1 v2 : List (Str × Value)) : ∀ (toks : List Tok),
    (∀ n ∈ varNames toks, buildValue r v1 n = buildValue r v2 n) →
    buildSide r v1 (traceToks toks) = buildSide r v2 (traceToks toks) := by
  intro toks
  induction toks with
  | nil => intro _; rfl
  | cons t toks ih =>
    intro h
    cases t with
    | slash =>
      simp only [traceToks, buildSide, varNames] at h ⊢
      rw [ih h]
    | lit s =>
      simp only [traceToks, buildSide, varNames] at h ⊢
      rw [ih h]
    | var c n =>
      simp only [varNames, List.mem_cons, forall_eq_or_imp] at h
      simp only [traceToks, buildSide]
      rw [ih h.2]
      have hv := h.1
      simp only [buildValue] at hv
      cases hd : lookupVal n r.defaults with
      | some d => rfl
      | none =>
        simp only [hd] at hv
        simp only [hv]

def urlsClosedB (r : Rule) (values : List (Str × Value)) : List Tok → Bool
  | [] => true
  | .var _ n :: t =>
    (match lookupConv n r.convs, buildValue r values n with
     | some c, some v => (match toUrl c v with | .ok s => c.quotes || !s.contains '%' | .error _ => true)
     | _, _ => true) && urlsClosedB r values t
  | _ :: t => urlsClosedB r values t

theorem urlsClosedB_sound (r : Rule) (values : List (Str × Value)) : ∀ toks, urlsClosedB r values toks = true →
    UrlsClosed r values toks
  | [], _ => trivial
  | .slash :: t, h => urlsClosedB_sound r values t h
  | .lit _ :: t, h => urlsClosedB_sound r values t h
  | .var _ n :: t, h => by
    simp only [urlsClosedB, Bool.and_eq_true] at h
    refine ⟨?_, urlsClosedB_sound r values t h.2⟩
    intro c v s hc hv hs
    have h1 := h.1
    simp only [hc, hv, hs, Bool.or_eq_true, Bool.not_eq_true', List.contains_eq_mem, decide_eq_false_iff_not] at h1
    exact h1

/-- the hypotheses of `parse_render_admits` (rules without a path converter, `IsoToks`) about the rule and the values, as one
computation; the examples of C04 use the form for the whole grammar, `buildDomainGB` -/
def buildDomainB (r : Rule) (values : List (Str × Value)) : Bool :=
  isoToksB r.pathToks && urlsClosedB r values r.pathToks &&
  (match valueTexts r values r.pathToks with
   | some ts => ts.all (fun t => !t.contains '/') && allAcceptB ((tokConvs r.pathToks).map Conv.kind) ts
   | none => true)

theorem buildDomainB_sound (r : Rule) (values : List (Str × Value)) (h : buildDomainB r values = true) :
    IsoToks r.pathToks ∧ UrlsClosed r values r.pathToks ∧
    (∀ ts, valueTexts r values r.pathToks = some ts →
      (∀ t ∈ ts, noSlash t) ∧ AllAccept ((tokConvs r.pathToks).map Conv.kind) ts) := by
  simp only [buildDomainB, Bool.and_eq_true] at h
  refine ⟨isoToksB_sound _ h.1.1, urlsClosedB_sound r values _ h.1.2, ?_⟩
  intro ts hts
  have h2 := h.2
  simp only [hts, Bool.and_eq_true, List.all_eq_true, Bool.not_eq_true', List.contains_eq_mem, decide_eq_false_iff_not] at h2
  exact ⟨fun t ht => h2.1 t ht, allAcceptB_sound _ _ h2.2⟩

/-- all hypotheses of `rule_build_match_partial` about the rule and the values, as one computation -/
def buildDomainGB (r : Rule) (values : List (Str × Value)) : Bool :=
  gramToksB r.pathToks && urlsClosedB r values r.pathToks &&
  (match valueTexts r values r.pathToks with
   | some ts => isoNoSlashB r.pathToks ts && pathTailOKB r.pathToks ts &&
                allAcceptB ((tokConvs r.pathToks).map Conv.kind) ts
   | none => true)

theorem buildDomainGB_sound (r : Rule) (values : List (Str × Value)) (h : buildDomainGB r values = true) :
    GramToks r.pathToks ∧ UrlsClosed r values r.pathToks ∧
    (∀ ts, valueTexts r values r.pathToks = some ts →
      IsoNoSlash r.pathToks ts ∧ PathTailOK r.pathToks ts ∧ AllAccept ((tokConvs r.pathToks).map Conv.kind) ts) := by
  simp only [buildDomainGB, Bool.and_eq_true] at h
  refine ⟨gramToksB_sound _ h.1.1, urlsClosedB_sound r values _ h.1.2, ?_⟩
  intro ts hts
  have h2 := h.2
  simp only [hts, Bool.and_eq_true] at h2
  exact ⟨isoNoSlashB_sound _ _ h2.1.1, pathTailOKB_sound _ _ h2.1.2, allAcceptB_sound _ _ h2.2⟩

end Wz.Routing
