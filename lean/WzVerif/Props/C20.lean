/-
C20 — host trust and the debugger's gates cannot be bypassed.
-/
import WzVerif.Model.Debugger
import WzVerif.Lemmas.Debugger
import WzVerif.Gen.Debugger
import WzVerif.Gen.DebuggerWide
import WzVerif.Lemmas.DebuggerWide
namespace Wz.Props.C20
open Wz Wz.Dbg Wz.Gen.Debugger

/-! ### the live dispatch table (regenerated on every run by driving the real DebuggedApplication)

A point of the table is addressed as (`idx`, `j`): `idx < nRows` enumerates command × secret × Host,
`j < rowLen` enumerates PIN cookie × frame × evalex × pin; `pointAt idx j` decodes the coordinates and
`outcomeAt idx j` is what the real application did there. -/

/-- The model's `dispatch` (fed with the live Host verdict) predicts the observed outcome of the real
`DebuggedApplication.__call__` at every point of the product. -/
theorem table_matches_model :
    ∀ idx j, idx < nRows → j < rowLen → outcomeAt idx j = modelOutcome (pointAt idx j) :=
  outcomeAt_of_rows (by decide +kernel)

/-- The table is the complete product of its dimensions, and no point produced an answer the rig
could not classify (`f`) or a missing resource. -/
theorem table_complete :
    rows.length = nRows ∧ nRows = nCmd * nSec * nHost ∧ rowLen = nCookie * nFrame * 2 * 2 ∧
    dims = [nCmd, nSec, nHost, nCookie, nFrame, 2, 2] ∧
    hosts.length = nHost ∧ hostClasses = hosts.map (·.2.1) ∧ hostVerdicts = hosts.map (·.2.2) ∧
    checkTable (fun _ _ o => o != 15 && o != 2) = true := by
  have hlen : rows.length = nRows := by decide +kernel
  refine ⟨hlen, by decide, by decide, by decide, by decide, by decide +kernel, by decide +kernel, ?_⟩
  refine checkTable_of_forall hlen fun idx j hi hj => ?_
  rw [table_matches_model idx j hi hj]
  exact outcomeCode_classified _

theorem rows_length : rows.length = nRows := table_complete.1

/-- The live `host_is_trusted` never raised on the listed Hosts, accepted no Host of the
"must never be accepted" class (look-alikes, unrelated names, absent/empty, IPv6 literals, empty or
over-long labels) and accepted every Host of the "listed name or true subdomain" class. -/
theorem table_host_verdicts :
    ∀ r ∈ hosts, r.2.2 ≠ 2 ∧ (r.2.1 = 1 → r.2.2 = 0) ∧ (r.2.1 = 0 → r.2.2 = 1) := by
  decide +kernel

/-- ... and for the pure-ASCII Hosts of the table the model's `hostIsTrusted` (with CPython's
ASCII fast path as the idna function) gives the live verdict. -/
theorem table_host_model :
    ∀ r ∈ hosts, (match r.1 with | some h => h.all (fun c => c.toNat < 128) | none => true) = true →
      (hostIsTrusted asciiIdna r.1 defaultTrusted = (r.2.2 == 1)) := by
  decide +kernel

/-- **eval gate, live table**: wherever the spy frame's `eval` ran, the request was an eval command
with evalex on, a Host that is not in the never-accept class, the right secret, a known frame and
(pin off or a valid unexpired cookie). -/
theorem eval_gate_table :
    ∀ idx j, idx < nRows → j < rowLen → outcomeAt idx j = 4 →
      (pointAt idx j).cmd = 0 ∧ (pointAt idx j).evalex = true ∧ hostClass (pointAt idx j) ≠ 1 ∧
      (pointAt idx j).sec = 0 ∧ (pointAt idx j).frame = 0 ∧
      ((pointAt idx j).pinOn = false ∨ (pointAt idx j).cookie = 0) := by
  obtain ⟨_, _, _, _, _, hc, hv, _⟩ := table_complete
  exact fun idx j hi hj => (gates_at hc hv table_host_verdicts (table_matches_model idx j hi hj)).eval

/-- the gate is not vacuous: the first point of the table (eval, right secret, localhost, valid
cookie, known frame, evalex on, pin on) did evaluate -/
example : outcomeAt 0 0 = 4 := by decide +kernel

/-- **console gate, live table**: the console page was rendered only for the console path with
evalex on and a Host outside the never-accept class. -/
theorem console_gate_table :
    ∀ idx j, idx < nRows → j < rowLen → outcomeAt idx j = 5 →
      (pointAt idx j).cmd = 1 ∧ (pointAt idx j).evalex = true ∧ hostClass (pointAt idx j) ≠ 1 := by
  obtain ⟨_, _, _, _, _, hc, hv, _⟩ := table_complete
  exact fun idx j hi hj => (gates_at hc hv table_host_verdicts (table_matches_model idx j hi hj)).console

/-- **pinauth gate, live table**: the PIN endpoint answered (JSON body) only for its own command
with the right secret and a Host outside the never-accept class; `auth` was granted only with pin
off, a valid cookie, or the right PIN. -/
theorem pinauth_gate_table :
    ∀ idx j, idx < nRows → j < rowLen →
      ((8 ≤ outcomeAt idx j ∧ outcomeAt idx j ≤ 11) →
        ((pointAt idx j).cmd = 2 ∨ (pointAt idx j).cmd = 3) ∧ (pointAt idx j).sec = 0 ∧
        hostClass (pointAt idx j) ≠ 1) ∧
      ((outcomeAt idx j = 10 ∨ outcomeAt idx j = 11) →
        (pointAt idx j).pinOn = false ∨ (pointAt idx j).cookie = 0 ∨ (pointAt idx j).cmd = 2) := by
  obtain ⟨_, _, _, _, _, hc, hv, _⟩ := table_complete
  intro idx j hi hj
  have g := (gates_at hc hv table_host_verdicts (table_matches_model idx j hi hj)).pinauth
  exact ⟨fun ho => ⟨(g ho.1).1, (g ho.1).2.1, (g ho.1).2.2.1⟩, fun ho => (g (by omega)).2.2.2 ho⟩

/-- **printpin gate, live table**: the PIN was logged / the endpoint answered only for its own
command with the right secret and a Host outside the never-accept class. -/
theorem printpin_gate_table :
    ∀ idx j, idx < nRows → j < rowLen → (outcomeAt idx j = 6 ∨ outcomeAt idx j = 7) →
      (pointAt idx j).cmd = 4 ∧ (pointAt idx j).sec = 0 ∧ hostClass (pointAt idx j) ≠ 1 := by
  obtain ⟨_, _, _, _, _, hc, hv, _⟩ := table_complete
  exact fun idx j hi hj => (gates_at hc hv table_host_verdicts (table_matches_model idx j hi hj)).printpin

/-- **untrusted Host, live table**: a Host of the never-accept class gets the wrapped application,
a static resource, or a 400 SecurityError — never a debugger answer and never another failure. -/
theorem untrusted_host_table :
    ∀ idx j, idx < nRows → j < rowLen → hostClass (pointAt idx j) = 1 →
      outcomeAt idx j = 0 ∨ outcomeAt idx j = 1 ∨ outcomeAt idx j = 3 := by
  obtain ⟨_, _, _, _, _, hc, hv, _⟩ := table_complete
  exact fun idx j hi hj hcl =>
    (gates_at hc hv table_host_verdicts (table_matches_model idx j hi hj)).untrusted fun hn => hn hcl

/-- **eval gate, model**: `frame.eval` is reached only with evalex on, a trusted Host, the right
secret, a known frame and (pin off or a valid unexpired cookie), on a `__debugger__=yes` request that
carries a command. -/
theorem eval_gate (cfg : Config) (failed : UInt8) (r : Req) (h : respond cfg failed r = .evalRan) :
    cfg.evalex = true ∧ r.hostTrusted = true ∧ r.secret = .right ∧ r.frameKnown = true ∧
    (cfg.pinOn = false ∨ r.cookie = .valid) ∧ r.debugger = true ∧ r.cmd ≠ .none := by
  obtain ⟨hd, ht, hc, _⟩ := respond_evalRan h
  obtain ⟨he, hn, hf, hs, hk⟩ := evalCond_iff.mp hc
  exact ⟨he, ht, hs, hf, hk, hd, hn⟩

example : respond { evalex := true, pinOn := true } 0
    { debugger := true, cmd := .other, hasArg := false, secret := .right, frameKnown := true,
      hostTrusted := true, cookie := .valid, pinRight := false, atConsole := false } = .evalRan := by decide

/-- **console gate, model**: the console page is rendered only with evalex on, at the console path
and for a trusted Host. -/
theorem console_gate (cfg : Config) (failed : UInt8) (r : Req) (h : respond cfg failed r = .console) :
    cfg.evalex = true ∧ r.hostTrusted = true ∧ r.atConsole = true ∧ r.debugger = false := by
  obtain ⟨hd, ht, he, _, hc⟩ := respond_console h
  exact ⟨he, ht, hc, hd⟩

example : respond { evalex := true, pinOn := true } 0
    { debugger := false, cmd := .none, hasArg := false, secret := .absent, frameKnown := false,
      hostTrusted := true, cookie := .absent, pinRight := false, atConsole := true } = .console := by decide

/-- **pinauth gate, model**: the PIN endpoint answers only a trusted Host that knows the secret, and
grants `auth` only with pin off, a valid cookie, or the right PIN while not locked out. -/
theorem pinauth_gate (cfg : Config) (failed : UInt8) (r : Req) (res : PinResult)
    (h : respond cfg failed r = .pinauth res) :
    r.hostTrusted = true ∧ r.secret = .right ∧ r.cmd = .pinauth ∧ r.debugger = true ∧
    (res.auth = true → cfg.pinOn = false ∨ r.cookie = .valid ∨ (r.pinRight = true ∧ ¬ failed > 10)) := by
  obtain ⟨hd, ht, hc, hs, rfl⟩ := respond_pinauth h
  exact ⟨ht, hs, hc, hd, pinAuth_auth⟩

example : respond { evalex := false, pinOn := true } 3
    { debugger := true, cmd := .pinauth, hasArg := false, secret := .right, frameKnown := false,
      hostTrusted := true, cookie := .absent, pinRight := true, atConsole := false }
    = .pinauth ⟨true, false⟩ := by decide

/-- **printpin gate, model**: the PIN is logged / the endpoint answers only for a trusted Host that
knows the secret. -/
theorem printpin_gate (cfg : Config) (failed : UInt8) (r : Req) (b : Bool)
    (h : respond cfg failed r = .printpin b) :
    r.hostTrusted = true ∧ r.secret = .right ∧ r.cmd = .printpin ∧ r.debugger = true := by
  obtain ⟨hd, ht, hc, hs⟩ := respond_printpin h
  exact ⟨ht, hs, hc, hd⟩

example : respond { evalex := false, pinOn := true } 0
    { debugger := true, cmd := .printpin, hasArg := false, secret := .right, frameKnown := false,
      hostTrusted := true, cookie := .absent, pinRight := false, atConsole := false }
    = .printpin true := by decide

/-- **untrusted Host, model**: whatever else the request carries, an untrusted Host gets the wrapped
application, a static resource or SecurityError, and the failure counter is not touched. -/
theorem untrusted_host (cfg : Config) (failed : UInt8) (r : Req) (h : r.hostTrusted = false) :
    (respond cfg failed r = .app ∨ respond cfg failed r = .resource ∨
      respond cfg failed r = .securityError) ∧ nextCounter cfg failed r = failed :=
  ⟨respond_untrusted cfg failed h, nextCounter_untrusted cfg failed h⟩

/-- **Soundness of `host_is_trusted`** for every Host, trusted list and IDNA function: an accepted
Host is non-empty, its port-stripped name (`_strip_port`) encodes, and some listed entry either encodes to the same
name or is dot-prefixed and the name ends with `"." ++ entry`. Look-alike suffixes
(`evillocalhost`, `localhost.evil.com`) therefore cannot be accepted. -/
theorem host_trusted_sound (idna : Idna) (host : Option (List Char)) (trusted : List (List Char))
    (h : hostIsTrusted idna host trusted = true) :
    ∃ hst hn, host = some hst ∧ hst ≠ [] ∧ idna (stripPort hst) = .ok hn ∧
      ∃ ref ∈ trusted, RefMatches idna hn ref :=
  hostIsTrusted_sound h

/-- **`host_is_trusted` decides exactly the documented relation** when every entry of the trusted
list can be IDNA-encoded (a sane configuration; an unencodable entry makes the code answer False
for everything that is not matched by an earlier entry). -/
theorem host_trusted_iff (idna : Idna) (hst : List Char) (trusted : List (List Char))
    (henc : ∀ ref ∈ trusted, ∃ rn, idna (stripPort (refParts ref).2) = .ok rn) :
    hostIsTrusted idna (some hst) trusted = true ↔
      hst ≠ [] ∧ ∃ hn, idna (stripPort hst) = .ok hn ∧ ∃ ref ∈ trusted, RefMatches idna hn ref := by
  rw [hostIsTrusted_iff]
  constructor
  · rintro ⟨_, hn, he, hne, hi, hm⟩
    cases he
    exact ⟨hne, hn, hi, matchRefs_sound idna hn trusted hm⟩
  · rintro ⟨hne, hn, hi, hm⟩
    exact ⟨hst, hn, rfl, hne, hi, matchRefs_complete idna hn trusted henc hm⟩

example : hostIsTrusted asciiIdna (some "sub.localhost:5000".toList) [".localhost".toList] = true := by
  rw [String.toList_ofList, String.toList_ofList]
  decide +kernel
example : hostIsTrusted asciiIdna (some "evillocalhost".toList) [".localhost".toList, "localhost".toList] = false := by
  rw [String.toList_ofList, String.toList_ofList, String.toList_ofList]
  decide +kernel
example : hostIsTrusted asciiIdna (some "localhost.evil.com".toList) [".localhost".toList, "localhost".toList] = false := by
  rw [String.toList_ofList, String.toList_ofList, String.toList_ofList]
  decide +kernel
example : hostIsTrusted asciiIdna (some "a..localhost".toList) [".localhost".toList] = false := by
  rw [String.toList_ofList, String.toList_ofList]
  decide +kernel

/-- **True subdomain**: when the codec never yields a name that starts with a dot (CPython's
rejects empty labels), a name that ends with `"." ++ entry` is `prefix ++ "." ++ entry` with a
non-empty prefix: acceptance through the suffix rule means a true subdomain. -/
theorem true_subdomain (hn rn : List Char) (hdot : hn.head? ≠ some '.')
    (h : ('.' :: rn) <:+ hn) : ∃ p, p ≠ [] ∧ hn = p ++ '.' :: rn := by
  obtain ⟨p, hp⟩ := h
  refine ⟨p, ?_, hp.symm⟩
  intro he
  subst he
  simp only [List.nil_append] at hp
  rw [← hp] at hdot
  simp at hdot

example : "sub.localhost".toList.head? ≠ some '.' ∧ ('.' :: "localhost".toList) <:+ "sub.localhost".toList := by
  rw [String.toList_ofList, String.toList_ofList]
  decide +kernel

/-- **`get_host` / `Request.host` with a trusted list: a value or SecurityError, nothing else** — for
every scheme, Host header (or server fallback), trusted list and IDNA function: the call returns the
host (default port stripped) exactly when no list is configured or `host_is_trusted` accepts it, and
otherwise raises `SecurityError`; a configured but *empty* list therefore refuses every Host (it is
not "no validation"), and so does an absent Host header when the fallback is not listed. -/
theorem get_host_value_or_security_error (idna : Idna) (scheme : List Char) (hostHeader : Option (List Char))
    (server : Option (List Char × Option Nat)) (trusted : Option (List (List Char))) :
    (∀ e, getHost idna scheme hostHeader server trusted = .error e → e = "SecurityError" ∧ trusted ≠ none) ∧
    (∀ h, getHost idna scheme hostHeader server trusted = .ok h →
      ∀ tl, trusted = some tl → hostIsTrusted idna (some h) tl = true) ∧
    (trusted = some [] → getHost idna scheme hostHeader server trusted = .error "SecurityError") := by
  cases trusted with
  | none => simp [getHost_none]
  | some tl =>
    rw [getHost_some]
    generalize stripDefaultPort scheme _ = host
    cases hb : hostIsTrusted idna (some host) tl with
    | true =>
      refine ⟨by simp, ?_, ?_⟩
      · intro h hh tl' ht
        simp only [if_true, Except.ok.injEq] at hh
        simp only [Option.some.injEq] at ht
        subst hh ht
        exact hb
      · intro ht
        simp only [Option.some.injEq] at ht
        subst ht
        rw [hostIsTrusted_nil] at hb
        cases hb
    | false => simp

example : getHost asciiIdna "http".toList (some "evil.example".toList) none (some []) = .error "SecurityError" := by
  rw [String.toList_ofList, String.toList_ofList]
  rfl

/-! ### bracketed IPv6 literals (F20c, repaired by ede13ce) -/

/-- **What `_strip_port` removes**: from `[body]rest` (no `]` inside `body`) only a `:port` directly
after the closing bracket is removed; when anything else follows the bracket — or the bracket is
never closed — the text is kept whole, so garbage after `]` is never stripped; any host that does not
start with `[` is cut at its first `:`. -/
theorem strip_port_spec (body rest : List Char) (hb : ']' ∉ body) :
    stripPort ('[' :: body ++ ']' :: rest) =
      (if rest = [] ∨ rest.head? = some ':' then '[' :: body ++ [']'] else '[' :: body ++ ']' :: rest) ∧
    stripPort ('[' :: body) = '[' :: body ∧
    (∀ s : List Char, s.head? ≠ some '[' → stripPort s = beforeColon s) := by
  refine ⟨stripPort_closed rest hb, stripPort_open hb, fun s hs => ?_⟩
  rcases s with _ | ⟨x, t⟩
  · rfl
  · exact stripPort_other x t fun h => hs (h ▸ rfl)

/-- a non-dot-prefixed entry accepts a Host only if both reduce to the same text
(CPython's codec on ASCII input returns it unchanged) -/
theorem ascii_exact_match (hst ref : List Char) (hnd : ref.head? ≠ some '.')
    (h : hostIsTrusted asciiIdna (some hst) [ref] = true) : stripPort hst = stripPort ref := by
  obtain ⟨h', hn, he, _, hi, r, hmem, rn, hr, hm⟩ := host_trusted_sound asciiIdna (some hst) [ref] h
  cases he
  simp only [List.mem_singleton] at hmem
  subst hmem
  rw [refParts_plain hnd] at hr hm
  have e1 := asciiIdna_ok hi
  have e2 := asciiIdna_ok hr
  rcases hm with hm | ⟨hm, _⟩
  · rw [← e1, ← e2, hm]
  · cases hm

/-- **A different address literal is never accepted**: `[a]` (with or without a port) is accepted by
the entry `[b]` (with or without a port) only if `a = b`. (Before ede13ce every `[…` host matched
every `[…` entry.) -/
theorem different_literal_rejected (a b p q : List Char) (ha : ']' ∉ a) (hb : ']' ∉ b)
    (hp : p = [] ∨ p.head? = some ':') (hq : q = [] ∨ q.head? = some ':')
    (h : hostIsTrusted asciiIdna (some ('[' :: a ++ ']' :: p)) ['[' :: b ++ ']' :: q] = true) : a = b := by
  have := ascii_exact_match _ _ (by simp) h
  rw [stripPort_closed p ha, if_pos hp, stripPort_closed q hb, if_pos hq] at this
  have := List.append_cancel_right this
  simpa using this

example : hostIsTrusted asciiIdna (some "[::1]:8080".toList) ["[::1]".toList] = true := by
  rw [String.toList_ofList, String.toList_ofList]
  decide +kernel
example : hostIsTrusted asciiIdna (some "[::2]".toList) ["[::1]".toList] = false := by
  rw [String.toList_ofList, String.toList_ofList]
  decide +kernel
example : hostIsTrusted asciiIdna (some "[".toList) ["[::1]".toList] = false := by
  rw [String.toList_ofList, String.toList_ofList]
  decide +kernel

/-- **Garbage after `]` is never stripped**: `[a]` followed by anything that is not `:port` is not
accepted by the entry `[a]` (nor by `[a]:port`). -/
theorem garbage_after_bracket_rejected (a g q : List Char) (ha : ']' ∉ a) (hg : g ≠ [])
    (hg' : g.head? ≠ some ':') (hq : q = [] ∨ q.head? = some ':') :
    hostIsTrusted asciiIdna (some ('[' :: a ++ ']' :: g)) ['[' :: a ++ ']' :: q] = false := by
  cases hres : hostIsTrusted asciiIdna (some ('[' :: a ++ ']' :: g)) ['[' :: a ++ ']' :: q] with
  | false => rfl
  | true =>
    exfalso
    have := ascii_exact_match _ _ (by simp) hres
    rw [stripPort_closed g ha, if_neg (not_or.mpr ⟨hg, hg'⟩), stripPort_closed q ha, if_pos hq] at this
    have := List.append_cancel_left this
    simp only [List.cons.injEq, true_and] at this
    exact hg this

example : hostIsTrusted asciiIdna (some "[::1]evil".toList) ["[::1]".toList] = false := by
  rw [String.toList_ofList, String.toList_ofList]
  decide +kernel
example : hostIsTrusted asciiIdna (some "[::1".toList) ["[::1]".toList] = false := by
  rw [String.toList_ofList, String.toList_ofList]
  decide +kernel

/-- **The byte counter is observationally an unbounded counter**: for every history of attempts
(right PIN, wrong PIN, stale cookie), of any length, the answers of `pin_auth` with the saturating
`Value("B")` counter are exactly those of the same procedure with an unbounded failure count. -/
theorem counter_saturation_exact (hist : List Attempt) :
    (runHistory failPinAuth 0 hist).1 = (runIdeal 0 hist).1 :=
  (runHistory_tracks hist 0 0 Tracks.zero).1

/-- **Lock-out is permanent**: for every history `pre` after which more than ten attempts have
failed since the last success (unbounded count), every later attempt of every continuation `rest`
— in particular every attempt with the right PIN — is refused by the real (byte-counter) procedure,
and the procedure stays locked. No bound on the length of either history. -/
theorem lockout_permanent (pre rest : List Attempt) (hlocked : (runIdeal 0 pre).2 > 10) :
    (∀ r ∈ (runHistory failPinAuth (runHistory failPinAuth 0 pre).2 rest).1, r.auth = false) ∧
    (runHistory failPinAuth (runHistory failPinAuth 0 pre).2 rest).2 > 10 := by
  have h1 := runHistory_tracks pre 0 0 Tracks.zero
  have h2 := runHistory_tracks rest _ _ h1.2
  have h3 := runIdeal_locked rest _ hlocked
  rw [h2.1]
  exact ⟨h3.1, h2.2.gt_ten.mpr h3.2⟩

/-- eleven wrong PINs lock; the hypothesis of `lockout_permanent` is satisfiable -/
example : (runIdeal 0 (List.replicate 11 Attempt.wrong)).2 > 10 := by decide
example : (runHistory failPinAuth 0 (List.replicate 11 Attempt.wrong ++ [.right])).1.getLast?
    = some ⟨false, true⟩ := by decide

/-- **Contrast (the defect repaired by 3932b31)**: with a wrapping 8-bit counter the lock-out is not
permanent — 256 stale-cookie attempts wrap the counter to 0 and the right PIN authenticates again;
with the saturating counter the same history ends refused. -/
theorem wrapping_counter_unlocks :
    (runHistory failPinAuthWrapping 0 (List.replicate 256 Attempt.stale ++ [.right])).1.getLast?
      = some ⟨true, false⟩ ∧
    (runHistory failPinAuth 0 (List.replicate 256 Attempt.stale ++ [.right])).1.getLast?
      = some ⟨false, true⟩ := by
  decide +kernel

/-- **A failure is counted before its penalty delay starts, under the lock, and the gate guards the
only PIN comparison** — read off the AST of the live source on every run.
`_fail_pin_auth` is straight-line code whose assignments to `_failed_pin_auth.value` all lie inside
`with ….get_lock():` and all precede every `time.sleep` call; in `pin_auth` the single comparison with
the entered PIN sits in the `else` of `elif self._failed_pin_auth.value > 10`, its wrong branch (and
the stale-cookie branch) calls `_fail_pin_auth()`, its right branch resets the counter.
The model (`pinAuth`, `lockout_permanent`) describes attempts one after the other. This obligation
rules out the schedule in which overlapping requests (threaded development server) are each parked
in their 0.5–5 s delay *before* being counted: then any number of concurrent wrong guesses would be
compared against the PIN and the right PIN would still be accepted after more than ten rejections,
although every sequential history behaves as the model says. -/
theorem fail_counted_before_delay :
    failHasUpdate = true ∧ failCountedInsideLock = true ∧ failCountedBeforeSleep = true ∧
    compareGuardedByGate = true ∧ gateThreshold = 10 ∧ wrongBranchCallsFail = true ∧
    staleBranchCallsFail = true ∧ rightBranchResets = true := by
  decide

/-- **eval needs a cookie for the current PIN**: in a session an eval attempt (everything else
right) runs only if the client's cookie was issued for the PIN that is current now. -/
theorem session_eval_gate (s : Session) (h : (actStep s .eval).1 = .evalRan true) : s.held = some s.gen :=
  heldTrust_eq_yes.mp (Trust.isYes_iff.mp (Obs.evalRan.inj h))

/-- **Changing the PIN invalidates every cookie issued before**: after any session `pre`, once the
application's PIN is changed, no later step evaluates code and no pinauth answers `auth` — whatever
cookies are reused, however often — until the *new* PIN itself is entered. No bound on either history. -/
theorem pin_change_invalidates (pre rest : List Act) (hno : ∀ a ∈ rest, a ≠ .right) :
    ∀ o ∈ (runSession (actStep (runSession {} pre).2 .change).2 rest).1,
      o ≠ .evalRan true ∧ ∀ r, o = .pin r → r.auth = false := by
  have hle : Held 0 (runSession {} pre).2 := runSession_held pre {} (by intro g hg; cases hg)
  have hst : Held 1 (actStep (runSession {} pre).2 .change).2 := fun g hg => Nat.succ_le_succ (hle g hg)
  exact runSession_stale rest _ hno hst

example : (runSession {} [.right, .eval, .change, .eval, .reuse, .right, .eval]).1
    = [.pin ⟨true, false⟩, .evalRan true, .changed, .evalRan false, .pin ⟨false, false⟩, .pin ⟨true, false⟩,
       .evalRan true] := by decide

/-- on attempts that present no issued cookie, sessions are exactly the attempt histories of
`lockout_permanent` (so the lock-out theorems carry over) -/
theorem session_extends_history (hist : List Attempt) :
    (runSession {} (hist.map Attempt.toAct)).1 = (runHistory failPinAuth 0 hist).1.map Obs.pin :=
  (runSession_history hist {}).1

/-- **A cookie older than PIN_TIME never authorises — for every clock value**, every timestamp
parser, every cookie text and every PIN hash: with the PIN switched on, `check_pin_trust` answers
`True` only for a value `ts_text|hash` whose hash is the current PIN's and whose timestamp satisfies
`now - PIN_TIME < ts`. So once `now ≥ ts + PIN_TIME` the answer is never `True` again, however the
cookie is spelled. (`now` is `floor(time.time())`: for an integer `ts` the float comparison of the
code is this integer comparison.) -/
theorem cookie_expiry_every_clock (intOf : IntOf) (pinTime : Int) (hp : List Char)
    (cookie : Option (List Char)) (now : Int)
    (h : checkPinTrustRaw intOf pinTime (some hp) cookie now = .yes) :
    ∃ val ts, cookie = some val ∧ val ≠ [] ∧ '|' ∈ val ∧ intOf (splitBar val).1 = some ts ∧
      (splitBar val).2 = hp ∧ now - pinTime < ts := by
  rw [checkPinTrustRaw_classify, checkPinTrust_eq_yes] at h
  exact classifyCookie_valid_iff.mp (h.resolve_left (by simp))

/-- ... in particular: fix any cookie and any clock `now` at which it is old (`now - PIN_TIME ≥ ts`
for the timestamp it carries): it does not authorise, and it does not at any later clock either. -/
theorem cookie_expired_stays_expired (intOf : IntOf) (pinTime : Int) (hp val : List Char) (ts now later : Int)
    (hts : intOf (splitBar val).1 = some ts) (hold : now - pinTime ≥ ts) (hl : now ≤ later) :
    checkPinTrustRaw intOf pinTime (some hp) (some val) later ≠ .yes := by
  intro h
  obtain ⟨v, t, hv, _, _, ht, _, hlt⟩ := cookie_expiry_every_clock intOf pinTime hp (some val) later h
  simp only [Option.some.injEq] at hv
  subst hv
  rw [hts] at ht
  simp only [Option.some.injEq] at ht
  omega

/-- **The cookie `pin_auth` issues is good for exactly PIN_TIME seconds**: issued at `t0` for the
PIN whose hash is `hp` (the hash text contains no `|`… it is 12 hex digits; the rendered timestamp
none either), it authorises at clock `now` iff `now < t0 + PIN_TIME` — as long as the PIN is unchanged. -/
theorem issued_cookie_window (intOf : IntOf) (render : Int → List Char) (pinTime t0 now : Int) (hp : List Char)
    (hr : '|' ∉ render t0) (hparse : intOf (render t0) = some t0) :
    checkPinTrustRaw intOf pinTime (some hp) (some (issuedCookie render t0 hp)) now = .yes ↔
      now < t0 + pinTime := by
  rw [checkPinTrustRaw_classify, checkPinTrust_eq_yes, classifyCookie_valid_iff, eq_comm (a := true)]
  simp only [Bool.false_eq_true, false_or]
  constructor
  · rintro ⟨_, ts, hv, -, -, hi, -, hlt⟩
    cases hv
    rw [splitBar_issuedCookie hp hr, hparse] at hi
    cases hi
    omega
  · exact fun h => ⟨_, t0, rfl, by simp [issuedCookie], by simp [issuedCookie],
      by rw [splitBar_issuedCookie hp hr, hparse], by rw [splitBar_issuedCookie hp hr], by omega⟩

example : checkPinTrustRaw decimalInt 604800 (some ['R']) (some "1999395201|R".toList) 2000000000 = .yes := by
  rw [String.toList_ofList]
  decide +kernel
example : checkPinTrustRaw decimalInt 604800 (some ['R']) (some "1999395200|R".toList) 2000000000 = .no := by
  rw [String.toList_ofList]
  decide +kernel
example : checkPinTrustRaw decimalInt 604800 (some ['R']) (some "1999395201|W".toList) 2000000000 = .bad := by
  rw [String.toList_ofList]
  decide +kernel

/-- the raw check is the abstract check of the dispatch model on the cookie's class; with the PIN
switched off it is `True` whatever the cookie is -/
theorem raw_check_is_abstract_check (intOf : IntOf) (pinTime : Int) (hp : List Char)
    (cookie : Option (List Char)) (now : Int) :
    checkPinTrustRaw intOf pinTime (some hp) cookie now
      = checkPinTrust true (classifyCookie intOf pinTime hp cookie now) ∧
    checkPinTrustRaw intOf pinTime none cookie now = .yes :=
  ⟨checkPinTrustRaw_classify intOf pinTime hp cookie now, rfl⟩

open Wz.DbgW in
/-- The model's `dispatch` — with the *model's* `hostIsTrusted` for the Host and the *raw* cookie check
under the rig's clock for the cookie — predicts the observed outcome of the real
`DebuggedApplication.__call__` at every point of the widened product. -/
theorem wide_table_matches_model :
    ∀ idx j, idx < Gen.DebuggerWide.nRows → j < Gen.DebuggerWide.rowLen →
      DbgW.outcomeAt idx j = DbgW.modelOutcome (DbgW.pointAt idx j) :=
  DbgW.outcomeAt_of_rows (by decide +kernel)

open Wz.DbgW Wz.Gen.DebuggerWide in
/-- The widened table is the complete product of its dimensions (7 commands × 6 secret spellings ×
6 Hosts × 8 cookies × 4 frame ids × evalex × pin), `PIN_TIME` is one week, the rig's cookie classes
are what the names say under the rig's clock (valid, *just* valid, *just* expired, wrong hash, three
malformed spellings, absent), and no point produced an unclassifiable answer or a missing resource. -/
theorem wide_table_complete :
    Gen.DebuggerWide.rows.length = Gen.DebuggerWide.nRows ∧
    Gen.DebuggerWide.nRows = Gen.DebuggerWide.nCmd * Gen.DebuggerWide.nSec * Gen.DebuggerWide.nHost ∧
    Gen.DebuggerWide.rowLen = Gen.DebuggerWide.nCookie * Gen.DebuggerWide.nFrame * 2 * 2 ∧
    pinTime = 60 * 60 * 24 * 7 ∧
    (List.range 8).map cookieOf = cookieLit ∧
    Gen.DebuggerWide.hostTexts.map (fun h => hostIsTrusted asciiIdna h Gen.DebuggerWide.defaultTrusted) = hostLit ∧
    Gen.DebuggerWide.hostClasses.length = Gen.DebuggerWide.nHost ∧
    Gen.DebuggerWide.hostTexts.length = Gen.DebuggerWide.nHost ∧
    DbgW.checkTable (fun _ _ o => o != 15 && o != 2) = true := by
  have hlen : Gen.DebuggerWide.rows.length = Gen.DebuggerWide.nRows := by decide +kernel
  refine ⟨hlen, by decide, by decide, by decide, by decide +kernel, by decide +kernel, by decide, by decide, ?_⟩
  refine DbgW.checkTable_of_forall hlen fun idx j hi hj => ?_
  rw [wide_table_matches_model idx j hi hj]
  exact outcomeCode_classified _

def wideGatesOk (idx j o : Nat) : Bool :=
  let p := DbgW.pointAt idx j
  -- eval: its own command, evalex, acceptable Host, the right secret spelled exactly, the registered
  -- frame id, pin off or a cookie inside PIN_TIME
  (o != 4 || (p.cmd == 0 && p.evalex && DbgW.hostClass p != 1 && p.sec == 0 && p.frame == 0 &&
    (!p.pinOn || p.cookie == 0 || p.cookie == 1))) &&
  -- console page
  (o != 5 || (p.cmd == 1 && p.evalex && DbgW.hostClass p != 1)) &&
  -- pinauth answers; auth only with pin off, a cookie inside PIN_TIME, or the right PIN
  (!(8 ≤ o && o ≤ 11) || ((p.cmd == 2 || p.cmd == 3) && p.sec == 0 && DbgW.hostClass p != 1)) &&
  (!(o == 10 || o == 11) || (!p.pinOn || p.cookie == 0 || p.cookie == 1 || p.cmd == 2)) &&
  -- printpin
  (!(o == 6 || o == 7) || (p.cmd == 4 && p.sec == 0 && DbgW.hostClass p != 1)) &&
  -- a Host that must never be accepted
  (DbgW.hostClass p != 1 || (o == 0 || o == 1 || o == 3))

/-- **All gates on the widened live table**: wherever the spy frame's `eval` ran the request was an
eval command with evalex on, an acceptable Host, the secret spelled *exactly* (not case-swapped, not
truncated, not empty, not absent), the registered frame id (not unknown, missing or non-numeric) and
— with the PIN on — a cookie whose timestamp is inside PIN_TIME (the one-second-too-old cookie, the
wrong-hash cookie and all malformed spellings never evaluate); the console page, `pinauth` and
`printpin` answered only acceptable Hosts (and only the exact secret); `auth` was granted only with pin
off, an unexpired cookie or the right PIN; a never-acceptable Host got the application, a static
resource or 400. -/
theorem wide_gates_table :
    ∀ idx j, idx < Gen.DebuggerWide.nRows → j < Gen.DebuggerWide.rowLen →
      wideGatesOk idx j (DbgW.outcomeAt idx j) = true := by
  intro idx j hi hj
  have imp : ∀ {a b : Bool}, (a = true → b = true) → (!a || b) = true := by decide
  have g := DbgW.gates_at (by decide) (wide_table_matches_model idx j hi hj)
  simp only [wideGatesOk, Bool.and_eq_true]
  refine ⟨⟨⟨⟨⟨imp fun h => ?_, imp fun h => ?_⟩, imp fun h => ?_⟩, imp fun h => ?_⟩, imp fun h => ?_⟩,
    imp fun h => ?_⟩
  · simpa [and_assoc, or_assoc] using g.eval (beq_iff_eq.mp h)
  · simpa [and_assoc] using g.console (beq_iff_eq.mp h)
  · have h8 : 8 ≤ DbgW.outcomeAt idx j := by simp at h; exact h.1
    simpa [and_assoc] using And.intro (g.pinauth h8).1 (And.intro (g.pinauth h8).2.1 (g.pinauth h8).2.2.1)
  · have h8 : 8 ≤ DbgW.outcomeAt idx j := by simp at h; omega
    simpa [or_assoc] using (g.pinauth h8).2.2.2 (by simpa using h)
  · simpa [and_assoc] using g.printpin (by simpa using h)
  · simpa [or_assoc] using g.untrusted (by simpa using h)

/-- the eval conjunct of `wide_gates_table` as a proposition -/
theorem wide_eval_gate (idx j : Nat) (hi : idx < Gen.DebuggerWide.nRows) (hj : j < Gen.DebuggerWide.rowLen)
    (ho : DbgW.outcomeAt idx j = 4) :
    (DbgW.pointAt idx j).cmd = 0 ∧ (DbgW.pointAt idx j).evalex = true ∧ DbgW.hostClass (DbgW.pointAt idx j) ≠ 1 ∧
    (DbgW.pointAt idx j).sec = 0 ∧ (DbgW.pointAt idx j).frame = 0 ∧
    ((DbgW.pointAt idx j).pinOn = false ∨ (DbgW.pointAt idx j).cookie = 0 ∨ (DbgW.pointAt idx j).cookie = 1) :=
  (DbgW.gates_at (by decide) (wide_table_matches_model idx j hi hj)).eval ho

/-- not vacuous: eval, right secret, `localhost:5000`, the *just valid* cookie, known frame, evalex on,
pin on — evaluated; the same with the one-second-older cookie did not -/
example : DbgW.outcomeAt 0 16 = 4 ∧ DbgW.outcomeAt 0 32 ≠ 4 := by decide +kernel

open Wz.DbgW Wz.Gen.DebuggerWide in
/-- **`trusted_hosts` customised, request method**: for every command × Host (`localhost`,
`[::1]:5000`, `sub.example.com`, `evil.com`, absent, `Example.COM:80`) × `trusted_hosts` (default,
`["[::1]", ".example.com"]`, `[]`) × method (GET, POST) × pin on/off — everything else passing the
gates — the real application did what the model's dispatch says with the model's `hostIsTrusted` on
that Host and that list: the gate follows the configured list (an IPv6 literal entry admits exactly
that literal, the empty list admits nobody), and the request method does not matter. -/
theorem trust_table_matches_model :
    trustRows.length = 7 * 6 * 3 * 2 * 2 ∧ ∀ r ∈ trustRows, r.2.2.2.2.2 = trustModel r := by
  decide +kernel

open Wz.Gen.DebuggerWide in
/-- **The model's gates are the code's**: `PIN_TIME` is written `60 * 60 * 24 * 7`; `hash_pin` is the
first 12 hex digits of a salted SHA-1; `check_pin_trust` splits the cookie at the first `|`, reads the
timestamp with `int`, compares the hash with `hash_pin(self.pin)` and finally tests
`time.time() - PIN_TIME < ts` (`checkPinTrustRaw`); `pin_auth` compares the entered PIN modulo dashes and
surrounding white space, issues `f"{int(time.time())}|{hash_pin(pin)}"` as an HttpOnly, SameSite=Strict
cookie; `_fail_pin_auth` sleeps `5.0 if count > 5 else 0.5` (`failDelayTenths`); `__call__`'s chain is
`__debugger__ == "yes"` → resource / pinauth ∧ secret / printpin ∧ secret / the eval conjunction
(evalex ∧ cmd ∧ frame ∧ secret ∧ check_pin_trust), else the console test; every comparison with the
secret is an exact `==`; `execute_command`, `display_console`, `pin_auth` and `log_pin_request` all start
with the Host gate, which is `host_is_trusted(environ.get("HTTP_HOST"), self.trusted_hosts)`. -/
theorem debugger_source_structure :
    pinTimeExpr = "60 * 60 * 24 * 7" ∧
    hashPinExpr = "hashlib.sha1(f'{pin} added salt'.encode('utf-8', 'replace')).hexdigest()[:12]" ∧
    cookieSplit = "ts_str, pin_hash = val.split('|', 1)" ∧ tsParse = "ts = int(ts_str)" ∧
    hashTest = "pin_hash != hash_pin(self.pin)" ∧ expiryTest = "time.time() - PIN_TIME < ts" ∧
    pinCompare = "entered_pin.strip().replace('-', '') == pin.replace('-', '')" ∧
    Gen.DebuggerWide.issuedCookie = "f'{int(time.time())}|{hash_pin(pin)}'" ∧
    cookieFlags = ["httponly=True", "samesite='Strict'", "secure=request.is_secure"] ∧
    delayExpr = "5.0 if count > 5 else 0.5" ∧
    callTests = ["request.args.get('__debugger__') == 'yes'", "cmd == 'resource' and arg",
      "self.evalex and self.console_path is not None and (request.path == self.console_path)",
      "cmd == 'pinauth' and secret == self.secret", "cmd == 'printpin' and secret == self.secret",
      "self.evalex and cmd is not None and (frame is not None) and (self.secret == secret) and self.check_pin_trust(environ)"] ∧
    secretTests = ["secret == self.secret", "secret == self.secret", "self.secret == secret"] ∧
    hostGateFirst = ["execute_command", "display_console", "pin_auth", "log_pin_request"] ∧
    hostTrustExpr = "host_is_trusted(environ.get('HTTP_HOST'), self.trusted_hosts)" :=
  ⟨rfl, rfl, rfl, rfl, rfl, rfl, rfl, rfl, rfl, rfl, rfl, rfl, rfl, rfl⟩

/-- the penalty delay never shrinks as failures accumulate -/
theorem fail_delay_monotone (a b : UInt8) (h : a ≤ b) : failDelayTenths a ≤ failDelayTenths b := by
  unfold failDelayTenths
  by_cases ha : a > 5
  · have hb : b > 5 := Nat.lt_of_lt_of_le ha h
    simp [ha, hb]
  · simp only [ha, if_false]
    split <;> omega

end Wz.Props.C20
