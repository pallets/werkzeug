/-
C20T2 — the part of C20's model that mirrors `werkzeug/debug/__init__.py` (C20T: `sansio/utils.py`):
the debugger's PIN functions
(`DebuggedApplication.check_pin_trust`, `_fail_pin_auth`, `pin_auth`, `__call__`) *as regenerated
from the source* by `tools/py2lean.py` (`Gen/PyFns_Debug.lean`, rewritten on every check run)
against C20's hand model `Model/Debugger.lean` (`checkPinTrust`, `failPinAuth`, `pinAuth`,
`respond`). What the methods read from the request and their collaborators (the PIN cookie value,
`hash_pin`, the clock, the query arguments, `check_host_trust`, the frame table) enters as
parameters; the shared byte counter is an `Int` attribute; the penalty sleep is recorded in flags.
The abstraction from these concrete values to the model's types (`classify`, `trustOf`, `reqOf`, `cfgOf`,
`pinAuthSpec`) is defined in Lemmas/PyFnsEq_Debug.lean.
-/
import WzVerif.Gen.PyFns_Debug
import WzVerif.Lemmas.PyFnsEq_Debug
namespace Wz.Props.C20T2
open Wz Wz.Pre Wz.Gen.PyFns_Debug Wz.PyFnsEq.Debug

/-- `DebuggedApplication.check_pin_trust`, as translated from the current source (`self.pin is
None`, the cookie lookup, `not val or "|" not in val`, the two-way unpacking of
`val.split("|", 1)`, `int(ts_str)` with `except ValueError`, the hash comparison, the freshness
test), never raises - the unpacking is only reached when `"|" in val`, so `split` yields two parts -
and answers exactly the model's `checkPinTrust` on the class of the cookie (`classify`), for every
`hash_pin`, every clock, every cookie value (or none) and every PIN (or `None`): `True` when no PIN
is configured or the cookie is valid, `None` for a well-formed cookie with another PIN's hash,
`False` otherwise. This is the function behind the `cookie` field of `Dbg.Req` in C20. -/
theorem check_pin_trust_eq (hash_pin : Str → Str) (fresh : Int → Bool) (cookie pin : Option Str) :
    Gen.PyFns_Debug.check_pin_trust hash_pin fresh cookie pin ()
      = .ok (trustCode (Dbg.checkPinTrust pin.isSome (classify hash_pin fresh cookie pin))) :=
  PyFnsEq.Debug.check_pin_trust_eq hash_pin fresh cookie pin

/-- `DebuggedApplication._fail_pin_auth`, as translated from the current source (read under the
lock, `if count < 255: value = count + 1`, then `time.sleep(5.0 if count > 5 else 0.5)`), for a
counter within the byte range: the new counter is the model's saturating `failPinAuth`, a penalty
sleep always happens (`slept = True`), and it is the long one exactly when the counter *before*
this failure exceeded 5 (C20 `fail_counted_before_delay`: counted first, delay chosen from the old
count). -/
theorem fail_pin_auth_eq (c : Int) (s l : Bool) (h0 : 0 ≤ c) (h1 : c ≤ 255) :
    Gen.PyFns_Debug.fail_pin_auth c s l
      = (((Dbg.failPinAuth (byte c)).toNat : Int), true, decide (c > 5)) :=
  PyFnsEq.Debug.fail_pin_auth_eq c s l h0 h1

/-- The translated `_fail_pin_auth` keeps the counter inside `0..255` (what a `Value("B")` can
hold: the assignment never overflows the C byte), and the counter never decreases. -/
theorem fail_pin_auth_range (c : Int) (s l : Bool) (h0 : 0 ≤ c) (h1 : c ≤ 255) :
    0 ≤ (Gen.PyFns_Debug.fail_pin_auth c s l).1 ∧ (Gen.PyFns_Debug.fail_pin_auth c s l).1 ≤ 255 ∧
      c ≤ (Gen.PyFns_Debug.fail_pin_auth c s l).1 := by
  rw [fail_pin_auth_val]
  dsimp only
  split <;> omega

/-- For every counter value whatsoever the penalty sleep happens, and its length is chosen from the
counter as it was before the increment. -/
theorem fail_pin_auth_slept (c : Int) (s l : Bool) :
    (Gen.PyFns_Debug.fail_pin_auth c s l).2 = (true, decide (c > 5)) := by
  rw [fail_pin_auth_val]

/-- `pin_auth` behind an untrusted Host: the answer is `SecurityError()` (`none`) whatever the
cookie, the entered PIN and the counter are, nothing is counted and nobody sleeps (C20
`untrusted_host` for the pinauth handler; the model's `hostGate`). -/
theorem pin_auth_untrusted_host (trust : Option Bool) (entered : Except String Str)
    (pin : Option Str) (failed : Int) (s l : Bool) :
    Gen.PyFns_Debug.pin_auth false trust entered pin failed s l ()
      = ((failed, s, l), .ok none) := by
  rw [pin_auth_paths]
  rfl

/-- `DebuggedApplication.pin_auth`, as translated from the current source, after a passed Host
check, for a counter within the byte range, a present `pin` argument and a configured PIN: the JSON
answer `{"auth", "exhausted"}` and the new failure counter are exactly those of the model's
`Dbg.pinAuth = pinAuthWith failPinAuth` on the trust verdict (`trustOf`) and on the PIN comparison
the code performs (`pinRight`); the cookie is set iff `auth`, deleted iff not `auth` and the trust
verdict was `None` (stale hash), untouched otherwise; a penalty sleep happens exactly when the
request is counted as a failure (`penalised`), its length chosen from the old counter. In
particular: a locked-out client (`failed > 10`, no valid cookie) gets `exhausted` without the PIN
even being compared and without a counter change; a right PIN resets the counter to 0. -/
theorem pin_auth_eq (trust : Option Bool) (text p : Str) (failed : Int) (s l : Bool)
    (h0 : 0 ≤ failed) (h1 : failed ≤ 255) :
    Gen.PyFns_Debug.pin_auth true trust (.ok text) (some p) failed s l ()
      = pinAuthSpec (trustOf trust) (pinRight text p) failed s l := by
  simp [pin_auth_spec trust text (some p) failed s l h0 h1, pinRightOpt]

/-- The new counter of the translated `pin_auth` is the model's, with `byte failed` spelled out
(`UInt8.ofNat failed.toNat` is the byte the `Int` stands for), and stays within `0..255`. -/
theorem pin_auth_counter (trust : Option Bool) (text p : Str) (failed : Int) (s l : Bool)
    (h0 : 0 ≤ failed) (h1 : failed ≤ 255) :
    (Gen.PyFns_Debug.pin_auth true trust (.ok text) (some p) failed s l ()).1.1
        = (((Dbg.pinAuth (UInt8.ofNat failed.toNat) (trustOf trust) (pinRight text p)).2.toNat : Nat) : Int)
      ∧ 0 ≤ (Gen.PyFns_Debug.pin_auth true trust (.ok text) (some p) failed s l ()).1.1
      ∧ (Gen.PyFns_Debug.pin_auth true trust (.ok text) (some p) failed s l ()).1.1 ≤ 255 := by
  rw [pin_auth_eq trust text p failed s l h0 h1]
  refine ⟨rfl, ?_, ?_⟩
  · simp [pinAuthSpec]
  · have := (Dbg.pinAuth (byte failed) (trustOf trust) (pinRight text p)).2.toNat_lt
    simp only [pinAuthSpec]; omega

/-- `pin_auth` when no PIN is configured (`self.pin is None`) but the caller claims a trust verdict
other than `True` (which `check_pin_trust` never gives then, see `pin_request_eq`): as long as the
PIN comparison is not reached (`trust` is not `False`, or the client is locked out) the answer is
still the model's - the PIN is not looked at -; on the comparison path `pin.replace` is applied to
`None`: AttributeError, with the counter untouched. -/
theorem pin_auth_no_pin (trust : Option Bool) (text : Str) (failed : Int) (s l : Bool)
    (h0 : 0 ≤ failed) (h1 : failed ≤ 255) :
    Gen.PyFns_Debug.pin_auth true trust (.ok text) none failed s l ()
      = if trust = some false ∧ failed ≤ 10 then ((failed, s, l), .error "AttributeError")
        else pinAuthSpec (trustOf trust) false failed s l := by
  simp [pin_auth_spec trust text none failed s l h0 h1, pinRightOpt]

/-- `pin_auth` when the request has no `pin` argument (`request.args["pin"]` raises; the
translation calls the error by the parameter's text, "KeyError"): the error propagates on the one
path that reads the argument - Host trusted, trust verdict `False`, not locked out - and there
before anything is counted (and before `self.pin` is touched). -/
theorem pin_auth_missing_pin_arg (e : String) (pin : Option Str) (failed : Int) (s l : Bool)
    (h10 : failed ≤ 10) :
    Gen.PyFns_Debug.pin_auth true (some false) (.error e) pin failed s l ()
      = ((failed, s, l), .error e) := by
  rw [pin_auth_paths, if_neg (by decide), if_neg (by omega)]

/-- On every other path `pin_auth` does not read the `pin` argument: Host untrusted, a trust
verdict `None` or `True`, or a locked-out client get the same result whether the argument is
present, absent, or anything else. -/
theorem pin_auth_entered_unread (host_trusted : Bool) (trust : Option Bool)
    (entered entered' : Except String Str) (pin : Option Str) (failed : Int) (s l : Bool)
    (h : host_trusted = false ∨ trust ≠ some false ∨ failed > 10) :
    Gen.PyFns_Debug.pin_auth host_trusted trust entered pin failed s l ()
      = Gen.PyFns_Debug.pin_auth host_trusted trust entered' pin failed s l () := by
  rw [pin_auth_paths, pin_auth_paths]
  rcases h with rfl | h | h
  · rfl
  · rcases trust with _ | _ | _ <;> first | rfl | exact absurd rfl h
  · simp only [h, if_true]

/-- Exactly when the translated `pin_auth` raises AttributeError (given that the `pin` argument does not
itself carry that error text): the Host is trusted, the verdict is `False`, the client is not
locked out, the argument is present, and no PIN is configured. For every counter value. -/
theorem pin_auth_attribute_error_iff (host_trusted : Bool) (trust : Option Bool)
    (entered : Except String Str) (pin : Option Str) (failed : Int) (s l : Bool)
    (hent : entered ≠ .error "AttributeError") :
    (Gen.PyFns_Debug.pin_auth host_trusted trust entered pin failed s l ()).2 = .error "AttributeError"
      ↔ host_trusted = true ∧ trust = some false ∧ failed ≤ 10 ∧ (∃ t, entered = .ok t) ∧ pin = none := by
  rw [pin_auth_paths]
  rcases host_trusted with _ | _
  · simp
  rcases trust with _ | _ | _
  · simp
  · by_cases h10 : failed > 10
    · simp [h10, Int.not_le.mpr h10]
    · rcases entered with e | t
      · have : ¬ e = "AttributeError" := fun h => hent (by rw [h])
        simp [h10, this]
      · rcases pin with _ | p
        · simp [h10, Int.not_lt.mp h10]
        · by_cases hr : pinRight t p = true <;> simp [h10, hr]
  · simp

/-- **`pin_auth` composed with `check_pin_trust`** (both as translated from the current source)
is the model's pinauth handler: for a trusted Host, a counter within the byte range and a present
`pin` argument - and for *every* `self.pin`, including `None` - the JSON answer and the new counter
are those of `Dbg.pinAuth` on `checkPinTrust pin.isSome (classify …)` and on the PIN comparison of
the code; this is literally the argument of `.pinauth` in `Dbg.respond` (with `cfg.pinOn :=
pin.isSome`, `r.cookie := classify …`, `r.pinRight := pinRightOpt text pin`). The cookie is set iff
`auth` and deleted iff the cookie carried another PIN's hash. With no PIN configured everybody is
authenticated and the PIN is never compared. -/
theorem pin_request_eq (hash_pin : Str → Str) (fresh : Int → Bool) (cookie : Option Str)
    (text : Str) (pin : Option Str) (failed : Int) (s l : Bool)
    (h0 : 0 ≤ failed) (h1 : failed ≤ 255) :
    pinRequest hash_pin fresh cookie true (.ok text) pin failed s l
      = pinAuthSpec (Dbg.checkPinTrust pin.isSome (classify hash_pin fresh cookie pin))
          (pinRightOpt text pin) failed s l := by
  rw [pinRequest_eq, pin_auth_spec _ text pin failed s l h0 h1, trustOf_trustCode, if_neg]
  -- without a PIN `check_pin_trust` says `True`: the comparison path is not taken
  rintro ⟨ht, _, rfl⟩
  cases ht

/-- Behind an untrusted Host the composed handler answers `SecurityError()` and changes nothing. -/
theorem pin_request_untrusted_host (hash_pin : Str → Str) (fresh : Int → Bool)
    (cookie : Option Str) (entered : Except String Str) (pin : Option Str) (failed : Int)
    (s l : Bool) :
    pinRequest hash_pin fresh cookie false entered pin failed s l = ((failed, s, l), .ok none) :=
  (pinRequest_eq ..).trans (pin_auth_untrusted_host _ entered pin failed s l)

/-- **The AttributeError arm of `pin_auth` is dead code**: the translation has to provide for
`pin.replace("-", "")` on `self.pin = None` (`t.cast(str, self.pin)` is no check), but when the
trust verdict comes from `check_pin_trust` on the same `self.pin` - as it does in the source - a
missing PIN makes the verdict `True` and the PIN comparison is not reached. For every `hash_pin`,
clock, cookie, Host verdict, `pin` argument (present or KeyError), PIN (or `None`), counter and
flags, the composed handler never yields AttributeError. -/
theorem pin_request_no_attribute_error (hash_pin : Str → Str) (fresh : Int → Bool)
    (cookie : Option Str) (host_trusted : Bool) (entered : Except String Str) (pin : Option Str)
    (failed : Int) (s l : Bool) (hent : entered ≠ .error "AttributeError") :
    (pinRequest hash_pin fresh cookie host_trusted entered pin failed s l).2
      ≠ .error "AttributeError" := by
  rw [pinRequest_eq]
  intro h
  obtain ⟨_, ht, _, _, rfl⟩ := (pin_auth_attribute_error_iff host_trusted _ entered pin failed s l hent).mp h
  cases ht

/-- `Dbg.respond` is: select the handler (`handler`), then run it (`handlerOutcome`). So every C20
statement about `respond` is a statement about the handler selection proved equal to the translated
`__call__` below, followed by the model of the handler bodies. -/
theorem respond_eq_handler (cfg : Dbg.Config) (failed : UInt8) (r : Dbg.Req) :
    Dbg.respond cfg failed r = handlerOutcome cfg failed r (handler cfg r) :=
  PyFnsEq.Debug.respond_eq_handler cfg failed r

/-- **`DebuggedApplication.__call__` selects the handler the model says**: the `if/elif` chain as
translated from the current source (`request.args.get("__debugger__") == "yes"`; `cmd == "resource"
and arg`; `cmd == "pinauth" and secret == self.secret`; `cmd == "printpin" and …`; the five-fold
conjunction in front of `execute_command`; the three-fold one in front of `display_console`)
returns, for every value of the query arguments, frame table, path, secret, `evalex`,
`console_path` and for every trust verdict that `check_pin_trust` can give (`hpt`), the code of the
handler that `Dbg.respond` runs for the abstracted request (`reqOf`, `cfgOf`); by
`respond_eq_handler`, `respond` is that handler's model. The fields `hostTrusted`, `pinRight` and
`pinLogging` are not read by `__call__` (they are arbitrary here): the Host check is inside the
handlers. -/
theorem debugger_dispatch_eq (ad ac af as : Option Str) (fk : Bool) (pin_trust : Option Bool)
    (path secret : Str) (evalex : Bool) (cp : Option Str)
    (pinOn pinLogging hostTrusted pinRight : Bool) (cookie : Dbg.Cookie)
    (hpt : pin_trust = trustCode (Dbg.checkPinTrust pinOn cookie)) :
    Gen.PyFns_Debug.debugger_dispatch ad ac af as fk pin_trust path secret evalex cp () ()
      = ((handler (cfgOf evalex pinOn cp pinLogging)
          (reqOf ad ac af as fk path secret cp hostTrusted cookie pinRight) : Nat) : Int) :=
  PyFnsEq.Debug.debugger_dispatch_eq ad ac af as fk pin_trust path secret evalex cp pinOn pinLogging hostTrusted
    pinRight cookie hpt

/-- `debugger_dispatch_eq` for an arbitrary trust verdict (every verdict is the verdict of some
cookie when a PIN is configured). -/
theorem debugger_dispatch_model (ad ac af as : Option Str) (fk : Bool) (pin_trust : Option Bool)
    (path secret : Str) (evalex : Bool) (cp : Option Str) :
    Gen.PyFns_Debug.debugger_dispatch ad ac af as fk pin_trust path secret evalex cp () ()
      = ((handler (cfgOf evalex true cp true)
          (reqOf ad ac af as fk path secret cp true (cookieOfTrust pin_trust) true) : Nat) : Int) :=
  debugger_dispatch_eq ad ac af as fk pin_trust path secret evalex cp true true true true
    (cookieOfTrust pin_trust) (trustCode_cookieOfTrust pin_trust).symm

/-- The translated `__call__` answers with one of the six handler codes. -/
theorem debugger_dispatch_range (ad ac af as : Option Str) (fk : Bool) (pin_trust : Option Bool)
    (path secret : Str) (evalex : Bool) (cp : Option Str) :
    0 ≤ Gen.PyFns_Debug.debugger_dispatch ad ac af as fk pin_trust path secret evalex cp () () ∧
      Gen.PyFns_Debug.debugger_dispatch ad ac af as fk pin_trust path secret evalex cp () () ≤ 5 := by
  rw [debugger_dispatch_model]
  have := handler_le_five (cfgOf evalex true cp true)
    (reqOf ad ac af as fk path secret cp true (cookieOfTrust pin_trust) true)
  omega

/-- `get_resource` is selected exactly for `?__debugger__=yes&cmd=resource&f=<non-empty>`: no
secret, no cookie, no Host check (the resources are the debugger's static files). -/
theorem debugger_dispatch_eq_one_iff (ad ac af as : Option Str) (fk : Bool)
    (pin_trust : Option Bool) (path secret : Str) (evalex : Bool) (cp : Option Str) :
    Gen.PyFns_Debug.debugger_dispatch ad ac af as fk pin_trust path secret evalex cp () () = 1
      ↔ ad = some ['y', 'e', 's'] ∧ ac = some ['r', 'e', 's', 'o', 'u', 'r', 'c', 'e']
        ∧ hasArgOf af = true := by
  refine (debugger_dispatch_eq_iff_of_trust 1).trans (((handler_spec _ _).1).trans ?_)
  simp [reqOf, cmdOf_eq_resource]

/-- `pin_auth` is selected exactly for `?__debugger__=yes&cmd=pinauth&s=<the secret>` - whatever
`f`, the frame, `evalex` and the cookie are. -/
theorem debugger_dispatch_eq_two_iff (ad ac af as : Option Str) (fk : Bool)
    (pin_trust : Option Bool) (path secret : Str) (evalex : Bool) (cp : Option Str) :
    Gen.PyFns_Debug.debugger_dispatch ad ac af as fk pin_trust path secret evalex cp () () = 2
      ↔ ad = some ['y', 'e', 's'] ∧ ac = some ['p', 'i', 'n', 'a', 'u', 't', 'h']
        ∧ as = some secret := by
  refine (debugger_dispatch_eq_iff_of_trust 2).trans (((handler_spec _ _).2.1).trans ?_)
  simp [reqOf, cmdOf_eq_pinauth, secretOf_eq_right]

/-- `log_pin_request` is selected exactly for `?__debugger__=yes&cmd=printpin&s=<the secret>`. -/
theorem debugger_dispatch_eq_three_iff (ad ac af as : Option Str) (fk : Bool)
    (pin_trust : Option Bool) (path secret : Str) (evalex : Bool) (cp : Option Str) :
    Gen.PyFns_Debug.debugger_dispatch ad ac af as fk pin_trust path secret evalex cp () () = 3
      ↔ ad = some ['y', 'e', 's'] ∧ ac = some ['p', 'r', 'i', 'n', 't', 'p', 'i', 'n']
        ∧ as = some secret := by
  refine (debugger_dispatch_eq_iff_of_trust 3).trans (((handler_spec _ _).2.2.1).trans ?_)
  simp [reqOf, cmdOf_eq_printpin, secretOf_eq_right]

/-- **The eval gate of the translated `__call__`** (C20 `eval_gate` on the regenerated code):
`execute_command` is selected if and only if the request says `__debugger__=yes`, `evalex` is on,
there is a `cmd`, `frm` names a known frame, `s` is the secret, `check_pin_trust` answered `True`
(not `False`, not `None`), and the request was not taken by an earlier arm (`cmd` is neither
`pinauth` nor `printpin` - with the right secret those arms take it - and not `resource` with a
non-empty `f`). No other combination of inputs reaches code execution. -/
theorem debugger_dispatch_eq_four_iff (ad ac af as : Option Str) (fk : Bool)
    (pin_trust : Option Bool) (path secret : Str) (evalex : Bool) (cp : Option Str) :
    Gen.PyFns_Debug.debugger_dispatch ad ac af as fk pin_trust path secret evalex cp () () = 4
      ↔ ad = some ['y', 'e', 's'] ∧ evalex = true ∧ ac.isSome = true ∧ fk = true
        ∧ as = some secret ∧ pin_trust = some true
        ∧ ac ≠ some ['p', 'i', 'n', 'a', 'u', 't', 'h']
        ∧ ac ≠ some ['p', 'r', 'i', 'n', 't', 'p', 'i', 'n']
        ∧ ¬ (ac = some ['r', 'e', 's', 'o', 'u', 'r', 'c', 'e'] ∧ hasArgOf af = true) := by
  refine (debugger_dispatch_eq_iff_of_trust 4).trans (((handler_spec _ _).2.2.2.1).trans ?_)
  simp [reqOf, cfgOf, Dbg.evalCond, cmdOf_eq_resource, cmdOf_eq_pinauth, cmdOf_eq_printpin,
    cmdOf_isSome, secret_isRight, isYes_cookieOfTrust, and_assoc]

/-- `display_console` is selected exactly for a request without `__debugger__=yes` whose path is
the configured console path, with `evalex` on. -/
theorem debugger_dispatch_eq_five_iff (ad ac af as : Option Str) (fk : Bool)
    (pin_trust : Option Bool) (path secret : Str) (evalex : Bool) (cp : Option Str) :
    Gen.PyFns_Debug.debugger_dispatch ad ac af as fk pin_trust path secret evalex cp () () = 5
      ↔ ad ≠ some ['y', 'e', 's'] ∧ evalex = true ∧ cp = some path := by
  refine (debugger_dispatch_eq_iff_of_trust 5).trans (((handler_spec _ _).2.2.2.2).trans ?_)
  cases cp <;> simp [reqOf, cfgOf]

/-- **A pinauth request through the translated code is `Dbg.respond`**: take any request for which
the translated `__call__` selects `pin_auth` (code 2), with the trust verdict supplied by the
translated `check_pin_trust` for the request's cookie and the configured PIN; then the translated
`pin_auth` - whose own trust verdict comes from the same `check_pin_trust` - answers exactly what
the model's `respond` answers for the abstracted request and configuration (`SecurityError` behind
an untrusted Host, otherwise the `{"auth", "exhausted"}` pair of `Dbg.pinAuth`), for every counter
value within the byte range, every PIN (or `None`) and every `pin` argument text. This closes the
gap between the C20 theorems about `respond` (`pinauth_gate`, `untrusted_host`, the lockout
theorems over `pinAuth`) and the three methods as they are in the source today. -/
theorem dispatch_pinauth_respond (hash_pin : Str → Str) (fresh : Int → Bool) (cookie : Option Str)
    (ad ac af as : Option Str) (fk : Bool) (path secret : Str) (evalex : Bool) (cp : Option Str)
    (pin : Option Str) (pinLogging hostTrusted : Bool) (text : Str) (failed : Int) (s l : Bool)
    (h0 : 0 ≤ failed) (h1 : failed ≤ 255) (t : Option Bool)
    (ht : Gen.PyFns_Debug.check_pin_trust hash_pin fresh cookie pin () = .ok t)
    (h2 : Gen.PyFns_Debug.debugger_dispatch ad ac af as fk t path secret evalex cp () () = 2) :
    pinAnswerOutcome (pinRequest hash_pin fresh cookie hostTrusted (.ok text) pin failed s l).2
      = some (Dbg.respond (cfgOf evalex pin.isSome cp pinLogging) (byte failed)
          (reqOf ad ac af as fk path secret cp hostTrusted (classify hash_pin fresh cookie pin)
            (pinRightOpt text pin))) := by
  rw [check_pin_trust_eq] at ht
  have hd := dispatch_pinauth (byte failed)
    ((debugger_dispatch_eq_iff (Except.ok.inj ht).symm 2 pinLogging hostTrusted (pinRightOpt text pin)).mp h2)
  rw [show Dbg.respond _ _ _ = (Dbg.dispatch _ _ _).1 from rfl, hd]
  cases hostTrusted with
  | false => rw [pin_request_untrusted_host]; rfl
  | true => rw [pin_request_eq hash_pin fresh cookie text pin failed s l h0 h1]; rfl

/-- The failure counter after such a request is the model's `nextCounter`: unchanged behind an
untrusted Host, otherwise the counter `Dbg.pinAuth` returns (saturating increment for a counted
failure, reset to 0 for the right PIN). -/
theorem dispatch_pinauth_counter (hash_pin : Str → Str) (fresh : Int → Bool) (cookie : Option Str)
    (ad ac af as : Option Str) (fk : Bool) (path secret : Str) (evalex : Bool) (cp : Option Str)
    (pin : Option Str) (pinLogging hostTrusted : Bool) (text : Str) (failed : Int) (s l : Bool)
    (h0 : 0 ≤ failed) (h1 : failed ≤ 255) (t : Option Bool)
    (ht : Gen.PyFns_Debug.check_pin_trust hash_pin fresh cookie pin () = .ok t)
    (h2 : Gen.PyFns_Debug.debugger_dispatch ad ac af as fk t path secret evalex cp () () = 2) :
    (pinRequest hash_pin fresh cookie hostTrusted (.ok text) pin failed s l).1.1
      = ((Dbg.nextCounter (cfgOf evalex pin.isSome cp pinLogging) (byte failed)
          (reqOf ad ac af as fk path secret cp hostTrusted (classify hash_pin fresh cookie pin)
            (pinRightOpt text pin))).toNat : Int) := by
  rw [check_pin_trust_eq] at ht
  have hd := dispatch_pinauth (byte failed)
    ((debugger_dispatch_eq_iff (Except.ok.inj ht).symm 2 pinLogging hostTrusted (pinRightOpt text pin)).mp h2)
  rw [show Dbg.nextCounter _ _ _ = (Dbg.dispatch _ _ _).2 from rfl, hd]
  cases hostTrusted with
  | false => rw [pin_request_untrusted_host]; exact (byte_toNat failed h0 h1).symm
  | true => rw [pin_request_eq hash_pin fresh cookie text pin failed s l h0 h1]; rfl

/-- the counter hypotheses `0 ≤ failed ≤ 255` (the range of `multiprocessing.Value("B")`) are satisfiable -/
example : (0 : Int) ≤ 7 ∧ (7 : Int) ≤ 255 := by decide

example : (fail_pin_auth 255 false false).1 = 255 ∧ (fail_pin_auth 6 false false) = (7, true, true) := by decide

end Wz.Props.C20T2
