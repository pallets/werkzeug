/-
C12 — router redirects stay on the bound host and converge.

Model: `MapAdapter.match`'s three redirects (`Model/RoutingAdapter.lean`): slash / merged-slashes
(`RequestPath` → `make_redirect_url(quote(path))`), defaults (`get_default_redirect`), alias
(`make_alias_redirect_url` = external `build`); `make_redirect_url`, `get_host`, `encode_query_args`,
`urlunsplit` (`Model/RoutingUrl.lean`); the client side of a redirect (`Model/RoutingFollow.lean`).
`redirect_to` targets are supplied by the application and are not modelled.
Helper lemmas: `Lemmas/RoutingRedirect.lean` (URL shapes), `RoutingWalk` / `RoutingConverge` (slash), `RoutingDefaults`, `RoutingSelect` (alias).
-/
import WzVerif.Lemmas.RoutingRedirect
import WzVerif.Lemmas.RoutingConverge
import WzVerif.Lemmas.RoutingDefaults
import WzVerif.Lemmas.RoutingSelect
import WzVerif.Gen.RoutingGlue
import WzVerif.Props.C04
namespace Wz.Props.C12
open Wz Wz.Routing

/-- the bound adapter is WSGI-shaped: `script_name` is `/` or `/x/…/` as stored by `MapAdapter`,
the server name is not empty, a scheme is bound, and host matching is off (subdomain maps) -/
structure BoundOK (m : RMap) (a : Adapter) : Prop where
  script : a.scriptName = scriptRoot a
  server : a.serverName ≠ []
  scheme : a.urlScheme ≠ []
  noHostMatching : m.cfg.hostMatching = false

/-- the `safe=` literals the model quotes with are the ones found in the routing sources -/
theorem quote_safe_sets_match_source :
    Gen.Routing.safeSites.contains ("routing/map.py", "match", "quote", pathSafe) = true ∧
    Gen.Routing.safeSites.contains ("routing/converters.py", "to_url", "quote", pathSafe) = true ∧
    Gen.Routing.safeSites.contains ("routing/rules.py", "_compile_builder", "quote", pathSafe) = true ∧
    Gen.Routing.safeSites.contains ("urls.py", "_urlencode", "urlencode", querySafe) = true ∧
    Gen.Routing.usesNetloc = ["http", "https", "ws", "wss"] := by
  decide +kernel

/-- **match_tail_order.** The tail of `StateMachineMatcher.match` in the current source, once `_match`
has found a rule, is in this order: unpack, `result = {}`, the `to_python` loop (a `ValidationError`
becomes `NoMatch`), `result.update(rule.defaults)`, the alias test raising
`RequestAliasRedirect(result, rule.endpoint)`, `return rule, result` — the order of the model's
`finishMatch` (in particular an alias redirect carries the rule's defaults). -/
theorem match_tail_order :
    Gen.RoutingGlue.matchTail = ["unpack", "init", "convert", "defaults", "alias", "return"] :=
  rfl

/-- **redirect_url_assembly_pinned.** `MapAdapter.encode_query_args` and `make_redirect_url` in the current source
are the statements the model's `encodeQueryArgs` / `makeRedirectUrl` transcribe: a string query is kept as it
is, a mapping goes to `_urlencode` AS A MAPPING (so multi-valued entries are expanded by `iter_multi_items`);
the URL is `urlunsplit((bound scheme or 'http', get_host(domain_part), script_name.strip('/') + '/' +
path_info.lstrip('/'), query, None))`. -/
theorem redirect_url_assembly_pinned :
    Gen.RoutingGlue.encodeQueryArgs =
      ["if not isinstance(query_args, str): return _urlencode(query_args)", "return query_args"] ∧
    Gen.RoutingGlue.makeRedirectUrl =
      ["if query_args is None: query_args = self.query_args",
       "if query_args: query_str = self.encode_query_args(query_args) else: query_str = None",
       "scheme = self.url_scheme or 'http'",
       "host = self.get_host(domain_part)",
       "path = '/'.join((self.script_name.strip('/'), path_info.lstrip('/')))",
       "return urlunsplit((scheme, host, path, query_str, None))"] :=
  ⟨rfl, rfl⟩

/-- **alias_redirect_values_include_defaults.** The values an alias redirect is built from are the
converted URL values of the alias rule with the rule's own `defaults` merged in: every default of the
alias rule is among them with its default value (an alias that pins a variable of its canonical rule
through `defaults`, e.g. `Rule('/archive/millennium', defaults={'year': 2000}, alias=True)`, redirects to
the canonical URL for that value — not to itself), and every other value is the converted URL value. -/
theorem alias_redirect_values_include_defaults {root : State} {mg rd : Bool} {q : Req} {dom path : Str}
    {r : Rule} {vals : List (Str × Value)}
    (h : matchSM root mg rd q dom path = .aliasRedirect r vals) (hnd : (r.defaults.map (·.1)).Nodup) :
    r.alias = true ∧ (∀ k v, (k, v) ∈ r.defaults → lookupVal k vals = some v) ∧
    ∃ vs conv, convertValues r.convs vs = some conv ∧
      ∀ k, lookupVal k r.defaults = none → lookupVal k vals = lookupVal k conv := by
  have g := matchSM_graph root mg rd q dom path
  rw [h] at g
  cases g with
  | @alias _ vs conv _ hc ha =>
    exact ⟨(Bool.and_eq_true _ _ ▸ ha).1, fun k v hkv => lookupVal_dictUpdate_mem _ _ hnd k v hkv, vs, conv, hc,
      fun k hk => lookupVal_dictUpdate_notin k _ _ hk⟩

def specsPinned : List RuleSpec :=
  [ { toks := [.slash, .lit "archive".toList, .slash, .var (.int 0 false none none) "year".toList], endpoint := "archive".toList },
    { toks := [.slash, .lit "archive".toList, .slash, .lit "millennium".toList], endpoint := "archive".toList, alias := true,
      defaults := [("year".toList, .int 2000)] } ]

-- non-vacuity: `/archive/millennium` raises the alias redirect with year = 2000, and `MapAdapter.match` redirects
-- to the canonical URL `/archive/2000` — a redirect pointing back at the alias URL
-- `/archive/millennium` itself would fail the second conjunct
example : (match mkMap {} specsPinned with
    | some m =>
      (match matchSM m.root true true ⟨"GET".toList, false⟩ [] "/archive/millennium".toList with
       | .aliasRedirect r vals => r.idx == 1 && vals == [("year".toList, Value.int 2000)] && decide ((r.defaults.map (·.1)).Nodup)
       | _ => false) &&
      (match matchAdapter m { serverName := "example.org".toList, scriptName := "/".toList, subdomain := some [],
                              urlScheme := "http".toList, defaultMethod := "GET".toList, queryArgs := .none }
               "/archive/millennium".toList none .none none with
       | .redirect u => u == "http://example.org/archive/2000".toList
       | _ => false)
    | none => false) = true := by decide +kernel

/-- **slash_redirect_on_bound_host.** The redirect issued for a missing final slash or for merged
slashes is, character for character: bound scheme, `://`, bound host (`get_host(None)`: nothing
from the request path), the script root, the percent-quoted path without its leading slashes, and
the query. The path part after the script root never starts with `/` (so never `//x`), and contains
neither `?`, `#`, `\`, control, space nor non-ASCII characters: a client reads the same host back. -/
theorem slash_redirect_on_bound_host {m : RMap} {a : Adapter} (hb : BoundOK m a) {p : Str} {meth : Option Str}
    {qa : QueryArgs} {ws : Option Bool} {p' : Str}
    (h : matchSM m.root m.cfg.mergeSlashes m.cfg.redirectDefaults (reqOf a meth ws) (domainPartOf m.cfg a) (pathPart p) = .requestPath p') :
    matchAdapter m a p meth qa ws =
      .redirect (boundPrefix false a none ++ scriptRoot a ++ lstripChar '/' (quote pathSafe p') ++ querySuffix a qa) ∧
    (lstripChar '/' (quote pathSafe p')).head? ≠ some '/' ∧
    ∀ c ∈ lstripChar '/' (quote pathSafe p'), pathChar c = true := by
  refine ⟨?_, lstripChar_head _ _, ?_⟩
  · rw [matchAdapter_of_requestPath h, makeRedirectUrl_shape _ _ _ _ _ (by rw [hb.noHostMatching]; exact getHost_ne_nil a none hb.server),
      hb.noHostMatching, querySuffix_effQa]
  · intro c hc
    have : c ∈ quote pathSafe p' := (List.dropWhile_suffix _).subset hc
    exact quote_pathSafe_chars p' c this

/-- the shape every router redirect has -/
def OnBoundRoot (a : Adapter) (qa : QueryArgs) (url : Str) : Prop :=
  ∃ scheme dp rest, url = scheme ++ "://".toList ++ getHost false a dp ++ scriptRoot a ++ rest ++ querySuffix a qa ∧
    rest.head? ≠ some '/' ∧
    (scheme = schemeOf a ∨ scheme ∈ ["http".toList, "https".toList, "ws".toList, "wss".toList])

/-- **redirect_on_bound_host** (and the query is preserved). Every redirect `MapAdapter.match` raises on
its own — slash, merged slashes, defaults, alias — consists of a scheme (the bound one; for an alias
the http/https/ws/wss scheme `build` derives from it), `://`, `get_host(domain_part)` where the domain
part is `None` or the canonical rule's own subdomain (never text from the request path), the script
root, a path that does not start with `/`, and exactly the query string of the request
(`encode_query_args(query_args)`), nothing else. -/
theorem redirect_on_bound_host {m : RMap} {a : Adapter} (hb : BoundOK m a) {p : Str} {meth : Option Str}
    {qa : QueryArgs} {ws : Option Bool} {url : Str}
    (h : matchAdapter m a p meth qa ws = .redirect url) : OnBoundRoot a qa url := by
  have hhm := hb.noHostMatching
  -- `make_redirect_url` has the shape by `makeRedirectUrl_shape`; for an alias, `build` is forced external
  have shape : ∀ (path : Str) (dp : Option Str),
      OnBoundRoot a qa (makeRedirectUrl false a path (effQa a qa) dp) := fun path dp =>
    ⟨schemeOf a, dp, lstripChar '/' path,
      by rw [makeRedirectUrl_shape _ _ _ _ _ (getHost_ne_nil a dp hb.server), querySuffix_effQa]; rfl,
      lstripChar_head _ _, .inl rfl⟩
  rcases matchAdapter_redirect_inv h with ⟨p', _, hu⟩ | ⟨r, vals, u, _, hbuild, hu⟩ | ⟨r, vals, path, dom, _, hu⟩
  · rw [hu, hhm]; exact shape _ _
  · obtain ⟨s, dom, path, hu', hmem⟩ := adapterBuild_external hb.scheme hbuild
    have hscr : a.scriptName.dropLast ++ ['/'] = scriptRoot a := by
      rw [hb.script]; exact scriptRoot_dropLast a
    rw [hhm, hscr] at hu'
    exact ⟨s, some dom, lstripChar '/' path, by rw [hu, append_querySuffix, hu'], lstripChar_head _ _, .inr hmem⟩
  · rw [hu, hhm]; exact shape _ _

/-- adapter / map of the examples -/
def adapter0 : Adapter :=
  { serverName := "example.org".toList, scriptName := "/app/".toList, subdomain := some [], urlScheme := "https".toList,
    defaultMethod := "GET".toList, queryArgs := .text "a=1".toList }

def specs0 : List RuleSpec :=
  [ { toks := [.slash, .lit "a".toList, .slash], endpoint := "a".toList },
    { toks := [.slash, .lit "b".toList, .slash, .lit "c".toList], endpoint := "b".toList } ]

def redirectUrlOf (cfg : MapCfg) (specs : List RuleSpec) (a : Adapter) (path : String) : Option Str :=
  match mkMap cfg specs with
  | some m => (match matchAdapter m a path.toList none .none none with | .redirect u => some u | _ => none)
  | none => none

-- non-vacuity: `//evil.example/a` without the final slash redirects to the bound host, and so does the
-- merged-slashes redirect of `/b//c`
example : redirectUrlOf {} [{ toks := [.slash, .var .path "p".toList, .slash], endpoint := "p".toList }] adapter0 "//evil.example/a"
      = some "https://example.org/app/evil.example/a/?a=1".toList ∧
    redirectUrlOf {} specs0 adapter0 "/b//c" = some "https://example.org/app/b/c?a=1".toList ∧
    adapter0.scriptName = scriptRoot adapter0 := by
  repeat rw [String.toList_ofList]
  decide +kernel

/-- **slash_redirect_converges_partial.** When the search asks for the slash redirect on a path, the
redirect target (path + `/`) is admitted DIRECTLY, for the same request, by a strict branch rule of the
map — the one that asked for the slash — so re-matching the target finds a rule or, at worst, another
redirect; it is never `NotFound` / `MethodNotAllowed` for lack of an admitting rule.
(`FinalShape`: what `_parse_rule` guarantees about slash-consuming parts; proved for rules without
subdomain rule, `bindRule_finalShape`.) -/
theorem slash_redirect_converges_partial {cfg : MapCfg} {specs : List RuleSpec} {m : RMap} (hm : mkMap cfg specs = some m)
    (hshape : ∀ r ∈ m.rules, FinalShape r.parts) {q : Req} {dom path : Str}
    (h : (dfs q m.root (segments dom path) []).res = .slash) :
    (∃ r ∈ m.rules, r.spec.buildOnly = false ∧ r.strict = true ∧ ruleOK q r = true ∧
        ∃ vs, walkVia .direct r.parts (segments dom (path ++ ['/'])) = some vs) ∧
    (dfs q m.root (segments dom (path ++ ['/'])) []).res ≠ .none := by
  rw [(mkMap_built hm).root_eq] at h ⊢
  obtain ⟨r, hmem, hbo, hok, hst, vs, hw⟩ := root_slash h
  have hdir := noslash_to_direct (hshape r hmem) hw
  rw [← segments_append_slash] at hdir
  refine ⟨⟨r, hmem, hbo, hst, hok, vs, hdir⟩, fun hn => ?_⟩
  have := root_none hn hmem hbo hok (via := .direct) (by intro h; cases h)
  rw [hdir] at this; cases this

/-- **slash_redirect_converges_partial2** (no second slash). On a map none of whose rules keeps an
empty segment in the middle (`SlashDomainOK`: after the domain part and the leading slash, only the
last part of a rule admits the empty segment — no `//` left after merging, no converter accepting ""),
a path that ends in `/` never asks for the slash redirect. Together with the theorem above: the target
of a slash redirect re-matches to a rule — found, not redirected again, not `None`. F12b below shows
the hypothesis cannot be dropped. -/
theorem slash_redirect_converges_partial2 {cfg : MapCfg} {specs : List RuleSpec} {m : RMap} (hm : mkMap cfg specs = some m)
    (hshape : ∀ r ∈ m.rules, FinalShape r.parts) (hdom : ∀ r ∈ m.rules, r.SlashDomainOK)
    {q : Req} {dom path : Str} (h : (dfs q m.root (segments dom path) []).res = .slash) :
    ∃ r vs, (dfs q m.root (segments dom (path ++ ['/'])) []).res = .found r vs ∧ r ∈ m.rules ∧ ruleOK q r = true := by
  obtain ⟨_, hne⟩ := slash_redirect_converges_partial hm hshape h
  rw [(mkMap_built hm).root_eq] at hne ⊢
  cases hr : (dfs q (buildRoot m.rules) (segments dom (path ++ ['/'])) []).res with
  | none => exact absurd hr hne
  | slash =>
    obtain ⟨r2, hmem, _, _, _, vs, hw⟩ := root_slash hr
    rw [no_noslash_trailing (hshape r2 hmem) (hdom r2 hmem)] at hw
    cases hw
  | found r vs =>
    obtain ⟨hmem, _, hok, _⟩ := root_found hr
    exact ⟨r, vs, rfl, hmem, hok⟩

-- non-vacuity: the example map satisfies both hypotheses and `/a` asks for the slash
example : (match mkMap {} specs0 with
    | some m => m.rules.all slashDomainOKB &&
        (dfs ⟨"GET".toList, false⟩ m.root (segments [] "/a".toList) []).res.isSlash
    | none => false) = true := by decide +kernel

/-- **slash_redirect_converges.** In one piece, for the matcher: when the search on `path` asks for the slash
redirect, re-matching the redirect target `path + '/'` (same request) ends the redirecting of that kind —
`StateMachineMatcher.match` returns a rule (or hands an alias rule to the alias canonicalisation), never
`RequestPath` again and never `NoMatch`; the rule is one of the map's, fit for the request, and it admits
the target with exactly the returned values (so, by `C03.match_priority`, it is the most specific rule
admitting the target: the request now denotes what the map says the slashed path denotes).
Hypotheses, each shown necessary: `ConvOK` (F12a / F03c: the redirect is decided before `to_python`),
`SlashDomainOK` (F12b: a rule keeping an empty middle segment), `FinalShape` (what `_parse_rule`
guarantees; proved for rules without subdomain rule). -/
theorem slash_redirect_converges {cfg : MapCfg} {specs : List RuleSpec} {m : RMap} (hm : mkMap cfg specs = some m)
    (hshape : ∀ r ∈ m.rules, FinalShape r.parts) (hdom : ∀ r ∈ m.rules, r.SlashDomainOK) (hconv : ConvOK m.rules)
    {q : Req} {dom path : Str} (mg rd : Bool) (h : (dfs q m.root (segments dom path) []).res = .slash) :
    ∃ r vals, r ∈ m.rules ∧ r.spec.buildOnly = false ∧ ruleOK q r = true ∧
      admits r q dom (path ++ ['/']) = some vals ∧
      (matchSM m.root mg rd q dom (path ++ ['/']) = .ok r vals ∨
       matchSM m.root mg rd q dom (path ++ ['/']) = .aliasRedirect r vals) := by
  have hb := mkMap_built hm
  obtain ⟨r, vs, hfound, _, _⟩ := slash_redirect_converges_partial2 hm hshape hdom h
  obtain ⟨hmem, hbo, hok, via, hw, ha⟩ := root_found (hb.root_eq ▸ hfound)
  obtain ⟨conv, hconvv⟩ := Option.isSome_iff_exists.1 (hb.convert_isSome hconv hmem hw)
  refine ⟨r, dictUpdate conv r.defaults, hmem, hbo, hok, by rw [admits_of_walkVia hok hw ha, hconvv]; rfl, ?_⟩
  rw [matchSM_of_found_convert hfound hconvv]
  split
  · exact .inr rfl
  · exact .inl rfl

-- non-vacuity: on `specs0` the path `/a` asks for the slash; the hypotheses hold; `/a/` is matched
example : (match mkMap {} specs0 with
    | some m =>
      (match (dfs ⟨"GET".toList, false⟩ m.root (segments [] "/a".toList) []).res with | .slash => true | _ => false) &&
      m.rules.all (fun r => r.convTotal) &&
      (match matchSM m.root true true ⟨"GET".toList, false⟩ [] "/a/".toList with | .ok r _ => r.idx == 0 | _ => false)
    | none => false) = true := by decide +kernel

def specsF12b : List RuleSpec :=
  [ { toks := [.slash, .var (.string 1 none none) "x".toList, .slash], endpoint := "x".toList },
    { toks := [.slash, .lit "a".toList, .slash, .slash, .slash], endpoint := "a".toList } ]

/-- **F12b (negation witness).** The full-strength convergence claim — the target of a slash redirect
never asks for another slash redirect — is false on the unchanged code, inside the property's domain:
`Map([Rule('/<x>/'), Rule('/a///')])` with merge_slashes on. `re.sub('/{2,}?', '/')` merges pairs
only, so the second rule keeps an empty segment (`/a//`): `/a` is redirected to `/a/` (on behalf of
`/<x>/`), and `/a/` is redirected again to `/a//` — `SlashRequired` raised below the static `a`
transition pre-empts the direct match of `/a/` by `/<x>/`. -/
theorem slash_redirect_converges_full_false :
    ¬ (∀ (cfg : MapCfg) (specs : List RuleSpec) (m : RMap) (q : Req) (dom path : Str),
        mkMap cfg specs = some m → (∀ r ∈ m.rules, FinalShape r.parts) →
        (dfs q m.root (segments dom path) []).res.isSlash = true →
        (dfs q m.root (segments dom (path ++ ['/'])) []).res.isSlash = false) := by
  intro H
  have hw : (mkMap {} specsF12b).any (fun m => (dfs ⟨"GET".toList, false⟩ m.root (segments [] "/a".toList) []).res.isSlash &&
                  (dfs ⟨"GET".toList, false⟩ m.root (segments [] ("/a".toList ++ ['/'])) []).res.isSlash) = true := by decide +kernel
  obtain ⟨m, hmk, hw⟩ := (Option.any_eq_true _ _).1 hw
  simp only [Bool.and_eq_true] at hw
  have hshape := mkMap_finalShape hmk rfl (by intro s hs; simp [specsF12b] at hs; rcases hs with rfl | rfl <;> rfl)
  have := H {} specsF12b m ⟨"GET".toList, false⟩ [] "/a".toList hmk hshape hw.1
  rw [hw.2] at this; cases this

/-- **merge_redirect_converges.** The target of a merged-slashes redirect re-matches without another
redirect of that kind: the first search on the merged path IS the search that produced the redirect, so
`match` goes straight to the conversion of the rule found there (same rule, same groups). -/
theorem merge_redirect_converges {root : State} {mg rd : Bool} {q : Req} {dom path : Str} {r : Rule} {vs : List Str}
    (h2 : (dfs q root (segments dom (mergeSlashes path)) []).res = .found r vs) :
    matchSM root mg rd q dom (mergeSlashes path) =
      finishMatch rd r vs (dfs q root (segments dom (mergeSlashes path)) []).ms (dfs q root (segments dom (mergeSlashes path)) []).wsm := by
  exact matchSM_of_found h2

-- non-vacuity of both: `/a` asks for the slash, `/b//c` is found on the second pass
example : (match mkMap {} specs0 with
    | some m =>
      (match (dfs ⟨"GET".toList, false⟩ m.root (segments [] "/a".toList) []).res with | .slash => true | _ => false) &&
      (match (dfs ⟨"GET".toList, false⟩ m.root (segments [] (mergeSlashes "/b//c".toList)) []).res with | .found _ _ => true | _ => false) &&
      decide (mergeSlashes "/b//c".toList = "/b/c".toList)
    | none => false) = true := by decide +kernel

/-- **defaults_redirect_converges_partial.** When `get_default_redirect` issues a redirect for the rule
`r` just matched with values `vals`, the target is the URL `Rule.build` gives for a rule `r0` of the
map with the SAME endpoint, not build_only, whose defaults agree (Python `==`) with `vals`
wherever `vals` carries them, built from `vals` updated with those defaults. And whenever that canonical
rule is one whose own URLs match back (`hback`: the conclusion of C04.match_build_partial for `r0`
— a rule of the grammar without subdomain rule on a map where no other rule admits the path), the
re-match of the target returns `r0` with `r0`'s defaults and, for every variable of `r0` without a
default, exactly the value of the original match: the redirect does not change endpoint or arguments. -/
theorem defaults_redirect_converges_partial {m : RMap} {a : Adapter} {r : Rule} {meth : Str}
    {vals : List (Str × Value)} {qa : QueryArgs} {url : Str}
    (h : getDefaultRedirect m a r meth vals qa (rulesByEndpoint m.rules r.endpoint) = .ok (some url)) :
    ∃ r0 ∈ m.rules, r0.endpoint = r.endpoint ∧ r0.spec.buildOnly = false ∧
      (∀ kd ∈ r0.defaults, ∀ v, lookupVal kd.1 vals = some v → kd.2.pyEq v = true) ∧
      ∃ dom u upath, url = makeRedirectUrl m.cfg.hostMatching a u qa (some dom) ∧
        buildSide r0 (dictUpdate vals r0.defaults) (traceToks r0.pathToks) = .ok upath ∧
        (u = upath ∨ ∃ params, u = upath ++ '?' :: params) ∧
        ∀ (mg rd : Bool) (q : Req),
          (matchSM m.root mg rd q [] (unquote upath) =
            .ok r0 (dictUpdate (builtPairs r0 (dictUpdate vals r0.defaults) r0.pathToks) r0.defaults)) →
          ∃ vals', matchSM m.root mg rd q [] (unquote upath) = .ok r0 vals' ∧
            ∀ n ∈ varNames r0.pathToks, lookupVal n r0.defaults = none → lookupVal n vals' = lookupVal n vals := by
  obtain ⟨l1, r0, l2, hl, fp⟩ := getDefaultRedirect_first h
  obtain ⟨dom, u, hb, hu⟩ := fp.built
  have hr0 := (mem_rulesByEndpoint (r := r0)).1 (by rw [hl]; simp)
  have p := providesDefaultsFor_facts fp.provides
  obtain ⟨upath, hup, hform⟩ := rule_build_path hb
  exact ⟨r0, hr0.1, p.endpoint_eq, p.notBuildOnly, suitableFor_defaults fp.suitable, dom, u, upath, hu, hup, hform,
    fun mg rd q hback => ⟨_, hback, fun n hn hd => rematch_value_nodefault r0 vals n hn hd⟩⟩

/-- the canonical rule `r0` is one whose own URLs match back (the hypotheses of `C04.match_build_partial` for
the values `vs`): a rule of the grammar without subdomain rule, values in the canonical domain of its
converters, fit for the request, not an alias, on a map where no other rule admits what it builds -/
structure MatchesBack (cfg : MapCfg) (m : RMap) (q : Req) (r0 : Rule) (vs : List (Str × Value)) : Prop where
  notBuildOnly : r0.spec.buildOnly = false
  bound : ∃ i sp, bindRule cfg i sp = some r0 ∧
    (if cfg.hostMatching then sp.domain.getD [] else sp.domain.getD cfg.defaultSubdomain) = []
  gram : GramToks r0.pathToks
  closed : UrlsClosed r0 vs r0.pathToks
  dom : ∀ ts, valueTexts r0 vs r0.pathToks = some ts →
    IsoNoSlash r0.pathToks ts ∧ PathTailOK r0.pathToks ts ∧ AllAccept ((tokConvs r0.pathToks).map Conv.kind) ts
  roundTrip : VarsRoundTrip r0 vs r0.pathToks
  fit : ruleOK q r0 = true
  notAlias : r0.alias = false
  alone : ∀ u, buildSide r0 vs (traceToks r0.pathToks) = .ok u →
    ∀ r' ∈ m.rules, r' ≠ r0 → ∀ via, walkVia via r'.parts (segments [] (unquote u)) = none

/-- **defaults_redirect_converges.** In one piece: when `get_default_redirect` redirects the match of rule `r`
with values `vals`, and the rules of that endpoint are rules whose own URLs match back (`MatchesBack`, the
domain of C04: grammar rules, canonical values, non-overlapping map), then the percent-decoded path of the
redirect target is matched by the matcher to the canonical rule `r0` — same endpoint — with `r0`'s defaults
and, for every variable of `r0` without a default, exactly the value of the original match; and no second
defaults redirect follows (`defaults_redirect_no_second_partial`). The redirect changes neither endpoint
nor arguments. -/
theorem defaults_redirect_converges {cfg : MapCfg} {specs : List RuleSpec} {m : RMap} (hm : mkMap cfg specs = some m)
    {a : Adapter} {r : Rule} {meth : Str} {vals : List (Str × Value)} {qa : QueryArgs} {url : Str} {q : Req}
    (hcanon : ∀ r0 ∈ m.rules, r0.endpoint = r.endpoint → MatchesBack cfg m q r0 (dictUpdate vals r0.defaults))
    (h : getDefaultRedirect m a r meth vals qa (rulesByEndpoint m.rules r.endpoint) = .ok (some url)) :
    ∃ r0 ∈ m.rules, r0.endpoint = r.endpoint ∧
      ∃ dom u upath, url = makeRedirectUrl m.cfg.hostMatching a u qa (some dom) ∧
        buildSide r0 (dictUpdate vals r0.defaults) (traceToks r0.pathToks) = .ok upath ∧
        (u = upath ∨ ∃ params, u = upath ++ '?' :: params) ∧
        ∀ (mg rd : Bool), ∃ vals', matchSM m.root mg rd q [] (unquote upath) = .ok r0 vals' ∧
          (∀ kd ∈ r0.defaults, ∀ v, lookupVal kd.1 vals = some v → kd.2.pyEq v = true) ∧
          ∀ n ∈ varNames r0.pathToks, lookupVal n r0.defaults = none → lookupVal n vals' = lookupVal n vals := by
  obtain ⟨r0, hr0, hep, _, hdef, dom, u, upath, hu, hup, hform, hre⟩ := defaults_redirect_converges_partial h
  have hc := hcanon r0 hr0 hep
  obtain ⟨i, sp, hbind, hnodom⟩ := hc.bound
  refine ⟨r0, hr0, hep, dom, u, upath, hu, hup, hform, ?_⟩
  intro mg rd
  have hback := Wz.Props.C04.match_build_partial hm hr0 hc.notBuildOnly hbind hnodom (dictUpdate vals r0.defaults)
    hc.gram hup hc.closed hc.dom hc.roundTrip hc.fit mg rd (by simp [hc.notAlias]) (hc.alone upath hup)
  obtain ⟨vals', h1, h2⟩ := hre mg rd q hback
  exact ⟨vals', h1, hdef, h2⟩

def specsDefaults : List RuleSpec :=
  [ { toks := [.slash, .lit "all".toList, .slash], endpoint := "all".toList, defaults := [("page".toList, .int 1)] },
    { toks := [.slash, .lit "all".toList, .slash, .lit "page".toList, .slash, .var (.int 0 false none none) "page".toList],
      endpoint := "all".toList } ]

-- non-vacuity (the documented example): `/all/page/1` is redirected to `/all/`, whose re-match returns the
-- defaults rule with page = 1 — `hback` holds, and `/all/` is not redirected again
example : (match mkMap {} specsDefaults with
    | some m =>
      (match m.rules, matchAdapter m { adapter0 with scriptName := "/".toList, queryArgs := .none } "/all/page/1".toList none .none none with
       | [r0, _r1], .redirect url =>
         url == "https://example.org/all/".toList &&
         (match buildSide r0 (dictUpdate [("page".toList, Value.int 1)] r0.defaults) (traceToks r0.pathToks) with
          | .ok upath =>
            (match matchSM m.root true true ⟨"GET".toList, false⟩ [] (unquote upath) with
             | .ok r vals' => r.idx == 0 &&
                 vals' == dictUpdate (builtPairs r0 (dictUpdate [("page".toList, Value.int 1)] r0.defaults) r0.pathToks) r0.defaults
             | _ => false) &&
            (matchAdapter m { adapter0 with scriptName := "/".toList, queryArgs := .none } (unquote upath) none .none none).isMatched
          | _ => false)
       | _, _ => false)
    | none => false) = true := by decide +kernel

/-- **defaults_redirect_no_second_partial.** After a defaults redirect no second defaults redirect
follows: `get_default_redirect` takes the FIRST rule `r0` of the endpoint (in `build_compare_key` order)
that provides defaults for the matched rule and is suitable for the matched values; when the target is
re-matched to `r0` with values that agree (Python `==`, key by key: `valsAgree`, a hypothesis here;
`defaults_redirect_converges_partial` gives its two ingredients, `r0`'s defaults and the unchanged values of the other
variables) no rule in front of `r0` qualifies — it would
already have qualified for the original match (`==` is transitive on the model's values) — so the
loop reaches `r0` itself and returns `None`.
Hypotheses: rule objects of the endpoint are distinct (`idx`), no other rule of the endpoint repeats
the matched rule's pattern, and the matched values carry every argument of the matched rule. -/
theorem defaults_redirect_no_second_partial {m : RMap} {a : Adapter} {r : Rule} {meth : Str}
    {vals : List (Str × Value)} {qa : QueryArgs} {url : Str}
    (hidx : ((rulesByEndpoint m.rules r.endpoint).map (·.idx)).Nodup)
    (htrace : ∀ x ∈ rulesByEndpoint m.rules r.endpoint, x.idx ≠ r.idx → x.trace m.cfg ≠ r.trace m.cfg)
    (hkeys : ∀ k ∈ r.arguments, vals.any (·.1 == k) = true)
    (h : getDefaultRedirect m a r meth vals qa (rulesByEndpoint m.rules r.endpoint) = .ok (some url)) :
    ∃ r0 ∈ m.rules, r0.endpoint = r.endpoint ∧ providesDefaultsFor m.cfg r0 r = true ∧
      ∀ (vals0 : List (Str × Value)) (qa' : QueryArgs), valsAgree vals0 vals = true →
        getDefaultRedirect m a r0 meth vals0 qa' (rulesByEndpoint m.rules r0.endpoint) = .ok none := by
  obtain ⟨r0, hr0, hprov, _, hnone⟩ := no_second_defaults_redirect hidx htrace hkeys h
  obtain ⟨hmem, hep⟩ := mem_rulesByEndpoint.1 hr0
  exact ⟨r0, hmem, hep, hprov, fun vals0 qa' hagree => hep ▸ hnone vals0 qa' hagree⟩

-- non-vacuity on the documented example: the hypotheses hold for the match of `/all/page/1`, the re-matched
-- values {'page': 1} agree with the original ones, and the second call returns None
example : (match mkMap {} specsDefaults with
    | some m =>
      (match m.rules with
       | [r0, r1] =>
         let l := rulesByEndpoint m.rules r1.endpoint
         let vals : List (Str × Value) := [("page".toList, Value.int 1)]
         decide ((l.map (·.idx)).Nodup) &&
         l.all (fun x => x.idx == r1.idx || decide (x.trace m.cfg ≠ r1.trace m.cfg)) &&
         r1.arguments.all (fun k => vals.any (·.1 == k)) &&
         valsAgree vals vals &&
         (match getDefaultRedirect m adapter0 r1 "GET".toList vals .none l,
                getDefaultRedirect m adapter0 r0 "GET".toList vals .none (rulesByEndpoint m.rules r0.endpoint) with
          | .ok (some _), .ok none => true
          | _, _ => false)
       | _ => false)
    | none => false) = true := by decide +kernel

def specsSuperset : List RuleSpec :=
  [ { toks := [.slash, .lit "articles".toList, .slash], endpoint := "art".toList,
      defaults := [("page".toList, .int 1), ("order".toList, .str "date".toList)] },
    { toks := [.slash, .lit "articles".toList, .slash, .lit "page".toList, .slash, .var (.int 0 false none none) "page".toList],
      endpoint := "art".toList } ]

-- `provides_defaults_for` demands EQUAL argument sets: a defaults rule with an extra default-only argument
-- (`order`) does not canonicalise `/articles/page/1` — it is matched as it stands, with {'page': 1}
example : (match mkMap {} specsSuperset with
    | some m =>
      (match matchAdapter m { adapter0 with scriptName := "/".toList, queryArgs := .none } "/articles/page/1".toList none .none none with
       | .matched r vals => r.idx == 1 && vals == [("page".toList, Value.int 1)]
       | _ => false) &&
      (match m.rules with
       | [r0, r1] => !providesDefaultsFor m.cfg r0 r1 && !sameSet r0.arguments r1.arguments
       | _ => false)
    | none => false) = true := by decide +kernel

/-- **alias_redirect_converges_partial.** When the matched rule is an alias and some NON-alias rule of the
same endpoint is suitable for the matched values (the documented meaning of `alias=True`: a canonical
counterpart exists), the alias redirect goes to the URL `Rule.build` gives for a non-alias rule `r0` of
that endpoint which is suitable for the values — `build()` tries rules in `build_compare_key` order,
alias rules last, and takes the first suitable one. Hence whenever the search on the target finds `r0`
(C04.match_build_partial), `match` returns normally: no second alias redirect. (The target stays on the
bound host by `redirect_on_bound_host`.) Both hypotheses are needed: without a canonical rule the alias
redirects to itself forever (`alias_without_canonical_loops`), and the rule found may carry extra
default-only arguments (`alias_redirect_same_arguments_false`, F12c). -/
theorem alias_redirect_converges_partial {m : RMap} {a : Adapter} {r : Rule} {vals : List (Str × Value)} {mth : Str} {u : Str}
    (hhm : m.cfg.hostMatching = false)
    (hbuild : adapterBuild m.cfg a m.rules r.endpoint vals (some mth) true false = .ok u)
    (hcanon : ∃ rc ∈ m.rules, rc.endpoint = r.endpoint ∧ rc.alias = false ∧ rc.suitableFor vals (some mth) = true) :
    ∃ r0 ∈ m.rules, r0.endpoint = r.endpoint ∧ r0.alias = false ∧ r0.suitableFor vals (some mth) = true ∧
      (∃ upath, buildSide r0 vals (traceToks r0.pathToks) = .ok upath) ∧
      ∀ (mg rd : Bool) (q : Req) (dom path : Str) (ts : List Str),
        (dfs q m.root (segments dom path) []).res = .found r0 ts →
        (matchSM m.root mg rd q dom path).isAlias = false := by
  obtain ⟨d, path, w, hp⟩ := adapterBuild_ok_inv hbuild
  obtain ⟨r0, hr0, hep, hal, hs, hb⟩ := build_prefers_canonical hhm hp hcanon
  obtain ⟨upath, hup, _⟩ := rule_build_path hb
  exact ⟨r0, hr0, hep, hal, hs, ⟨upath, hup⟩, fun mg rd q dom path' ts hfound => matchSM_isAlias_of_found hfound hal⟩

def specsAliasOnly : List RuleSpec :=
  [ { toks := [.slash, .lit "x".toList, .slash], endpoint := "e".toList, alias := true } ]

/-- **the canonical-rule hypothesis is necessary (negation witness).** An alias rule without a canonical
counterpart redirects to itself: `Map([Rule('/x/', endpoint='e', alias=True)])`, `/x/` is redirected to
`/x/`, whose match is the same alias redirect again (the `assert url != path` in
`make_alias_redirect_url` compares the URL with `'domain|path'` and cannot fire here: the domain part contains no `/`,
`C12T.make_alias_redirect_url_str_in_match`). -/
theorem alias_without_canonical_loops :
    ¬ (∀ (cfg : MapCfg) (specs : List RuleSpec) (m : RMap) (a : Adapter) (p url p' q' : Str),
        mkMap cfg specs = some m → m.cfg.hostMatching = false →
        (matchSM m.root m.cfg.mergeSlashes m.cfg.redirectDefaults (reqOf a none none) (domainPartOf m.cfg a) (pathPart p)).isAlias = true →
        redirectUrlOf cfg specs a (String.ofList p) = some url →
        readRedirect false a url = some (p', q') →
        (matchSM m.root m.cfg.mergeSlashes m.cfg.redirectDefaults (reqOf a none none) (domainPartOf m.cfg a) (pathPart p')).isAlias = false) := by
  intro H
  let a : Adapter := { adapter0 with scriptName := "/".toList, queryArgs := QueryArgs.none }
  have hw : (mkMap {} specsAliasOnly).any (fun m =>
        (matchSM m.root m.cfg.mergeSlashes m.cfg.redirectDefaults (reqOf a none none) (domainPartOf m.cfg a) (pathPart "/x/".toList)).isAlias &&
        !m.cfg.hostMatching &&
        redirectUrlOf {} specsAliasOnly a "/x/" == some "https://example.org/x/".toList &&
        readRedirect false a "https://example.org/x/".toList == some ("/x/".toList, [])) = true := by decide +kernel
  obtain ⟨m, hmk, hw⟩ := (Option.any_eq_true _ _).1 hw
  simp only [Bool.and_eq_true, beq_iff_eq, Bool.not_eq_true'] at hw
  obtain ⟨⟨⟨h1, hhm⟩, h2⟩, h3⟩ := hw
  have := H {} specsAliasOnly m a "/x/".toList "https://example.org/x/".toList "/x/".toList [] hmk
    hhm h1 (by simpa using h2) h3
  rw [h1] at this; cases this

def specsF12c : List RuleSpec :=
  [ { toks := [.slash, .lit "a".toList, .slash, .var (.any ["a".toList, "b".toList]) "n".toList, .slash], endpoint := "e".toList },
    { toks := [.slash, .lit "idx".toList, .slash], endpoint := "e".toList,
      defaults := [("n".toList, .str "b".toList), ("fmt".toList, .int 0)] },
    { toks := [.slash, .lit "alt".toList, .slash, .lit "a".toList, .slash, .var (.any ["a".toList, "b".toList]) "n".toList, .slash],
      endpoint := "e".toList, alias := true } ]

/-- **F12c (witness).** The alias redirect does not have the equal-arguments guard of the defaults
redirect: `make_alias_redirect_url` canonicalises through `build()`, whose rule order prefers the rule
with more arguments and whose `suitable_for` accepts extra default-only arguments. On the unchanged
code `/alt/a/b/` (alias, denotes `{'n': 'b'}`) is redirected to `/idx/`, which denotes
`{'n': 'b', 'fmt': 0}`: same endpoint, one more argument. -/
theorem alias_redirect_adds_default_arguments :
    (match mkMap {} specsF12c with
     | some m =>
       let a := { adapter0 with scriptName := "/".toList, queryArgs := QueryArgs.none }
       (match matchSM m.root true true ⟨"GET".toList, false⟩ [] "/alt/a/b/".toList,
              follow m a none none 3 "/alt/a/b/".toList .none [] with
        | .aliasRedirect _ vals, ([.redirect url, .matched r' vals'], none) =>
          vals == [("n".toList, Value.str "b".toList)] && url == "https://example.org/idx/".toList &&
          r'.idx == 1 && vals' == [("n".toList, Value.str "b".toList), ("fmt".toList, Value.int 0)]
        | _, _ => false)
     | none => false) = true := by decide +kernel

def pathF12c : Str := "/alt/a/b/".toList

/-- **the equal-arguments hypothesis is necessary (negation witness, F12c).** Even with a canonical rule, the
alias redirect need not preserve the arguments: the rule `build()` finds first may carry extra default-only
arguments. -/
theorem alias_redirect_same_arguments_false :
    ¬ (∀ (cfg : MapCfg) (specs : List RuleSpec) (m : RMap) (a : Adapter) (p : Str) (r : Rule) (vals vals' : List (Str × Value)) (i : Nat),
        mkMap cfg specs = some m →
        matchSM m.root m.cfg.mergeSlashes m.cfg.redirectDefaults (reqOf a none none) (domainPartOf m.cfg a) (pathPart p) = .aliasRedirect r vals →
        (∃ rc ∈ m.rules, rc.endpoint = r.endpoint ∧ rc.alias = false ∧ sameSet rc.arguments r.arguments = true) →
        finalMatch (follow m a none none 3 p .none []).1 = some (i, vals') →
        vals'.length = vals.length) := by
  intro H
  let a : Adapter := { adapter0 with scriptName := "/".toList, queryArgs := QueryArgs.none }
  have hw : (mkMap {} specsF12c).any (fun m =>
        (match matchSM m.root m.cfg.mergeSlashes m.cfg.redirectDefaults (reqOf a none none) (domainPartOf m.cfg a) (pathPart pathF12c) with
         | .aliasRedirect r vals => vals.length == 1 && r.idx == 2 &&
             m.rules.any (fun rc => rc.endpoint == r.endpoint && !rc.alias && sameSet rc.arguments r.arguments)
         | _ => false) &&
        finalMatch (follow m a none none 3 pathF12c .none []).1 ==
          some (1, [("n".toList, Value.str "b".toList), ("fmt".toList, Value.int 0)])) = true := by decide +kernel
  obtain ⟨m, hmk, hw⟩ := (Option.any_eq_true _ _).1 hw
  simp only [Bool.and_eq_true, beq_iff_eq] at hw
  obtain ⟨h1, h2⟩ := hw
  cases hsm : matchSM m.root m.cfg.mergeSlashes m.cfg.redirectDefaults (reqOf a none none) (domainPartOf m.cfg a) (pathPart pathF12c) with
  | aliasRedirect r vals =>
    simp only [hsm, Bool.and_eq_true, beq_iff_eq, List.any_eq_true, Bool.not_eq_true'] at h1
    obtain ⟨⟨hlen, _⟩, rc, hrc, hcond⟩ := h1
    have := H {} specsF12c m a pathF12c r vals _ 1 hmk hsm
      ⟨rc, hrc, hcond.1.1, hcond.1.2, hcond.2⟩ h2
    rw [hlen] at this
    simp at this
  | ok r v => simp [hsm] at h1
  | requestPath p => simp [hsm] at h1
  | noMatch ms w => simp [hsm] at h1

-- Non-vacuity of `MatchesBack`'s fields: the `buildDomainGB` examples of Props/C04 and the documented `/all/page/1` example above.
-- OPEN: the literal full-strength form of slash_redirect_converges without SlashDomainOK is FALSE (F12b,
-- `slash_redirect_converges_full_false`); `FinalShape` for rules WITH a subdomain rule (`bindRule_finalShape` covers
-- rules without); the alias redirect in one piece (`alias_redirect_converges_partial` + `MatchesBack` would
-- compose the same way; F12c shows the equal-arguments hypothesis is needed); `MatchesBack.roundTrip` for values
-- produced by `to_python` (idempotence of the float text normalisation) is assumed, validated by stream `redirects`.

end Wz.Props.C12
