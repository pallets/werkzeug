/-
From the builder's arguments to the request (C15): `Request` over the environ an `EnvironBuilder` builds - its
path, root path, host and URL as text (`builder_request_text`), what the URL denotes, and `Request.args` for each
form of the `query_string` argument. Uses C02's `parse_qsl(_urlencode(items)) = items`.
-/
import WzVerif.Lemmas.UrlBuilder
import WzVerif.Lemmas.Urlencode
namespace Wz.Url
open Wz

theorem lstripSlash_pathArg {p : Str} (h : PathArg p) : '/' :: lstripSlash p = p := by
  obtain ⟨q, rfl, hq⟩ := h.cons
  exact congrArg _ (lstripSlash_of_head hq)

/-- what `get_current_url` is given for the builder's environ: the encoded host, the port `get_host` leaves -/
theorem CurInput.of_base {o : UrlOpaque} (laws : HostLaws o) {scheme h ha root : Str} {port : Option Nat} {q : Bytes}
    (b : BaseArg o scheme h port root) (hconv : o.hostToAscii h = some ha)
    (hq : wellFormed (quoteBytes Gen.UrlTables.curQuerySafe q) = true) :
    CurInput o scheme ha (dropDefaultPort scheme port) (rstripSlash (rstripSlash root)) q :=
  ⟨b.scheme, (laws.a_chars _ _ hconv).1, (laws.a_chars _ _ hconv).2,
    fun k hk => (dropDefaultPort_cases scheme port).elim (fun h0 => by rw [h0] at hk; cases hk)
      (fun h0 => b.port k (h0 ▸ hk)),
    laws.bracket_a _ _ hconv, rstripSlash_form (rstripSlash_form b.root_form), hq⟩

/-- **From the builder's arguments to the request, as text.** For arguments without `%`: the environ is built,
`Request` reads the path, the stripped root and the host with the scheme's default port dropped, and
`Request.url` splits into `curSplit` of the decoded host. -/
theorem builder_request_text {o : UrlOpaque} (laws : HostLaws o)
    {scheme h ha root p qs : Str} {port : Option Nat}
    (b : BaseArg o scheme h port root) (hp : PathArg p) (hpp : '%' ∉ p) (hrp : '%' ∉ root)
    (hq : wellFormed (quoteBytes Gen.UrlTables.curQuerySafe (utf8Enc qs)) = true)
    (hconv : o.hostToAscii h = some ha) :
    ∃ e r hu, builderEnviron o p (baseText scheme h port root) qs = .ok e ∧ o.hostToUnicode ha = some hu ∧
      requestView o e = .ok ⟨p, rstripSlash root, hostBr ha ++ portText (dropDefaultPort scheme port), r⟩ ∧
      urlsplit o r = .ok (curSplit scheme hu (dropDefaultPort scheme port) (rstripSlash root) p (utf8Enc qs)) := by
  obtain ⟨hu, hconvu⟩ := laws.u_of_a _ _ hconv
  have he := builderEnviron_eq laws qs b hp hconv
  rw [unquoteReplace_quote _ _ (fun hm => hrp ((rstripSlash_prefix root).subset hm)),
    unquoteReplace_quote _ _ hpp] at he
  obtain ⟨r, hv, hs⟩ := requestView_text laws (root := rstripSlash root) (p := p) (CurInput.of_base laws b hconv hq)
    hconvu (by rw [getHost_hostport, dropDefaultPort_idem])
  rw [← requestView_dropPort, rstripSlash_idem, lstripSlash_pathArg hp] at hv
  rw [rstripSlash_idem, lstripSlash_pathArg hp] at hs
  exact ⟨_, r, hu, he, hconvu, hv, hs⟩

/-- **`Request.args` reads back the mapping given to the builder**: for every list of pairs over
Unicode (repeated / empty keys, `&`, `=`, `+`, `%` inside keys and values) - by C02's
`parse_qsl(_urlencode(items)) = items` and the losslessness of the dance. -/
theorem builder_args_roundtrip {o : UrlOpaque} {path : Str} {base : Option Str} {l : List (Str × Str)}
    {b : Builder} (hs : Urlencode.SafeOk Gen.Urlencode.urlencodeSafe)
    (h : builderInit o path base (.items l) = .ok b) :
    b.argsProp = .ok l ∧ requestArgs b.environ.toEnviron = some l := by
  obtain ⟨ru, _, hq⟩ := builderInit_queryText h
  obtain ⟨_, _, _, _, _, _, hb⟩ := builderInit_inv h
  refine ⟨by subst hb; rfl, ?_⟩
  rw [requestArgs_dance _ b.queryText rfl, hq]
  simp only [urlencodeText, Urlencode.wzUrlencode]
  rw [Urlencode.parseQsl_urlencode_lemma hs l]

/-- ... and for the `str` form, `Request.args` is `parse_qsl` of that string (the `args` property
of the builder is then unavailable: `AttributeError`) -/
theorem builder_text_args {o : UrlOpaque} {path : Str} {base : Option Str} {s : Str} {b : Builder}
    (h : builderInit o path base (.text s) = .ok b) :
    b.argsProp = .error "AttributeError" ∧
    requestArgs b.environ.toEnviron = some (Urlencode.parseQsl true s) := by
  obtain ⟨ru, _, hq⟩ := builderInit_queryText h
  obtain ⟨_, _, _, _, _, _, hb⟩ := builderInit_inv h
  refine ⟨by subst hb; rfl, ?_⟩
  rw [requestArgs_dance _ b.queryText rfl, hq]

end Wz.Url
