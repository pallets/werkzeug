/-
Routing lemmas: the text functions of the model — `str.split` / `join` on one character (`splitOn`, `joinWith`), the strips,
`endsWithChar`, prefix / suffix tests — and the two character conditions the C04 theorems speak of: `noSlash` (a text that
stays one path segment) and `noCut` (a text without `?` / `#`, which end the path part of a URL).
-/
import WzVerif.Model.RoutingSpec
import WzVerif.Lemmas.Basics
namespace Wz.Routing

theorem lstripChar_head (c : Char) (s : Str) : (lstripChar c s).head? ≠ some c := by
  intro h
  have := List.head?_dropWhile_not (fun x => x == c) s
  rw [show List.dropWhile (fun x => x == c) s = lstripChar c s from rfl, h] at this
  simp at this

theorem rstripChar_prefix (c : Char) (s : Str) : rstripChar c s <+: s := by
  simp only [rstripChar]
  have := List.dropWhile_suffix (l := s.reverse) (fun x => x == c)
  have := List.reverse_prefix.2 this
  simpa using this

theorem stripChar_head (c : Char) (s : Str) : (stripChar c s).head? ≠ some c := by
  intro h
  obtain ⟨u, hu⟩ := rstripChar_prefix c (lstripChar c s)
  have := lstripChar_head c s
  rw [← hu] at this
  simp only [stripChar] at h
  cases hr : rstripChar c (lstripChar c s) with
  | nil => rw [hr] at h; cases h
  | cons x t => rw [hr] at h this; exact this (by simpa using h)

theorem lstripChar_of_head {c : Char} {s : Str} (h : s.head? ≠ some c) : lstripChar c s = s :=
  dropWhile_head_false fun _ hc => beq_eq_false_iff_ne.mpr fun e => h (e ▸ hc)

theorem lstripChar_cons_of_head {c : Char} {s : Str} (h : s.head? ≠ some c) : lstripChar c (c :: s) = s := by
  have : lstripChar c (c :: s) = lstripChar c s := by simp [lstripChar]
  rw [this, lstripChar_of_head h]

theorem dropWhile_all {p : Char → Bool} : ∀ (a : Str), (∀ c ∈ a, p c = true) → a.dropWhile p = [] :=
  fun _ ha => dropWhile_eq_nil_iff.2 ha

theorem splitOn_ne_nil (c : Char) (s : Str) : splitOn c s ≠ [] := by
  cases s with
  | nil => simp [splitOn]
  | cons x t =>
    simp only [splitOn]
    split
    · simp
    · split <;> simp

theorem splitOn_append (c : Char) (a b : Str) : splitOn c (a ++ c :: b) = splitOn c a ++ splitOn c b := by
  induction a with
  | nil => simp [splitOn]
  | cons x t ih =>
    simp only [List.cons_append, splitOn]
    split
    · simp [ih]
    · rw [ih]
      cases h : splitOn c t with
      | nil => exact absurd h (splitOn_ne_nil c t)
      | cons s r => simp

theorem segments_append_slash (dom path : Str) : segments dom (path ++ ['/']) = segments dom path ++ [[]] := by
  simp [segments, splitOn_append, splitOn]

theorem joinWith_append_nil (c : Char) (x : Str) (xs : List Str) :
    joinWith c (x :: (xs ++ [[]])) = joinWith c (x :: xs) ++ [c] := by
  induction xs generalizing x with
  | nil => simp [joinWith]
  | cons y t ih => simp only [List.cons_append, joinWith, ih, List.append_assoc, List.cons_append]

theorem endsWithChar_append (s : Str) (c : Char) : endsWithChar (s ++ [c]) c = true := by
  simp [endsWithChar]

theorem endsWithChar_append_right (a b : Str) (c : Char) (hb : b ≠ []) : endsWithChar (a ++ b) c = endsWithChar b c := by
  simp only [endsWithChar, List.getLast?_append]
  cases hl : b.getLast? with
  | none => exact absurd (List.getLast?_eq_none_iff.1 hl) hb
  | some x => simp

theorem joinWith_splitOn (c : Char) (s : Str) : joinWith c (splitOn c s) = s := by
  induction s with
  | nil => simp [splitOn, joinWith]
  | cons x t ih =>
    simp only [splitOn]
    split
    · rename_i hx
      have hx : x = c := by simpa using hx
      subst hx
      cases hs : splitOn x t with
      | nil => exact absurd hs (splitOn_ne_nil _ _)
      | cons a b => rw [hs] at ih; simp [joinWith, ih]
    · cases hs : splitOn c t with
      | nil => exact absurd hs (splitOn_ne_nil _ _)
      | cons a b =>
        rw [hs] at ih
        cases b with
        | nil => simp only [joinWith] at ih ⊢; rw [ih]
        | cons b1 b2 => simp only [joinWith, List.cons_append] at ih ⊢; rw [ih]

def noSlash (s : Str) : Prop := '/' ∉ s

theorem noSlash_append {a b : Str} (ha : noSlash a) (hb : noSlash b) : noSlash (a ++ b) := by
  intro h; rcases List.mem_append.1 h with h | h
  · exact ha h
  · exact hb h

theorem splitOn_noSlash (s : Str) (h : noSlash s) : splitOn '/' s = [s] := by
  induction s with
  | nil => rfl
  | cons x t ih =>
    have hx : x ≠ '/' := fun hx => h (by simp [hx])
    have ht : noSlash t := fun ht => h (List.mem_cons_of_mem _ ht)
    simp [splitOn, hx, ih ht]

theorem splitOn_append_slash (s rest : Str) (h : noSlash s) :
    splitOn '/' (s ++ '/' :: rest) = s :: splitOn '/' rest := by
  rw [splitOn_append, splitOn_noSlash s h]; rfl

theorem stripPrefix_append (pre rest : Str) : stripPrefix? pre (pre ++ rest) = some rest := by
  simp [stripPrefix?]

theorem stripSuffix_append (v post : Str) : stripSuffix? post (v ++ post) = some v := by
  simp [stripSuffix?]

/-- no character that ends the path part of a URL -/
def noCut (s : Str) : Prop := ∀ c ∈ s, c ≠ '?' ∧ c ≠ '#'

theorem noCut_append {a b : Str} (ha : noCut a) (hb : noCut b) : noCut (a ++ b) := by
  intro c hc
  rcases List.mem_append.1 hc with h | h
  · exact ha c h
  · exact hb c h

end Wz.Routing
