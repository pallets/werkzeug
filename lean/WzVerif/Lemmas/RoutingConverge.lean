/-
Routing lemmas (C12): no second slash redirect — when no part of a rule other than its last
one admits the empty segment (no `//` left in the rule after merging, no converter accepting ""),
a path ending in an empty segment cannot be "one slash short" of that rule.
-/
import WzVerif.Lemmas.RoutingWalk
namespace Wz.Routing

def RejectsEmpty (p : Part) : Prop := ∀ rest, step p ([] :: rest) = none

def NoEmptyButLast : List Part → Prop
  | [] => True
  | [_] => True
  | p :: q :: t => RejectsEmpty p ∧ NoEmptyButLast (q :: t)

theorem step_suffixed_trailing {pre kind post w} {x : Str} {xs a rem}
    (hs : step (.dyn pre kind post true true w) (x :: (xs ++ [[]])) = some (a, rem)) : rem = [[]] := by
  rw [step_dyn, Option.map_eq_some_iff] at hs
  obtain ⟨⟨v, sl⟩, hm, hs⟩ := hs
  simp only [if_true, joinWith_append_nil] at hm
  have := (matchDyn_inv hm).1
  simp only [endsWithChar_append, Bool.and_self] at this
  subst this
  simpa using (Prod.mk.inj hs).2.symm

theorem no_noslash_after_empty : ∀ (ps : List Part) (xs : List Str), FinalShape ps → NoEmptyButLast ps →
    walkVia .noslash ps (xs ++ [[]]) = none := by
  intro ps
  induction ps with
  | nil => intro xs _ _; simp [walkVia]
  | cons p t ih =>
    intro xs hshape hne
    cases hw : walkVia .noslash (p :: t) (xs ++ [[]]) with
    | none => rfl
    | some vs =>
      exfalso
      obtain ⟨a, rem, vs', hs, hw', _⟩ := (walkVia_cons_inv hw).resolve_left fun hin => by cases xs <;> simp at hin
      cases t with
      | nil => simp [walkVia] at hw'
      | cons q t' =>
        obtain ⟨hrej, hne'⟩ := hne
        cases xs with
        | nil =>
          have := hrej []
          simp only [List.nil_append] at hs
          rw [this] at hs; cases hs
        | cons x xs' =>
          simp only [List.cons_append] at hs
          cases hf : p.isFinal with
          | false =>
            obtain ⟨rfl, _⟩ := step_nonfinal hf hshape hs
            rw [ih xs' (hshape.tail hf) hne'] at hw'; cases hw'
          | true =>
            obtain ⟨pre, kind, post, sfx, w, rfl, ht⟩ := hshape.of_final hf
            cases sfx with
            | false => cases ht
            | true =>
              injection ht with hq ht
              subst hq ht
              obtain rfl := step_suffixed_trailing hs
              simp [walkVia, step_static] at hw'

/-- the rule's first two parts (domain, leading slash) consume one segment each, and of the others
only the last may admit the empty segment -/
def Rule.SlashDomainOK (r : Rule) : Prop :=
  ∃ a b ps, r.parts = a :: b :: ps ∧ a.isFinal = false ∧ b.isFinal = false ∧ NoEmptyButLast ps

theorem no_noslash_trailing {r : Rule} (hshape : FinalShape r.parts) (hok : r.SlashDomainOK) (dom path : Str) :
    walkVia .noslash r.parts (segments dom (path ++ ['/'])) = none := by
  obtain ⟨a, b, ps, hparts, hfa, hfb, hne⟩ := hok
  rw [hparts] at hshape ⊢
  rw [segments_append_slash]
  simp only [segments]
  cases hsp : splitOn '/' path with
  | nil => exact absurd hsp (splitOn_ne_nil _ _)
  | cons y ys =>
    cases hw : walkVia .noslash (a :: b :: ps) (dom :: y :: ys ++ [[]]) with
    | none => rfl
    | some vs =>
      exfalso
      simp only [List.cons_append] at hw
      obtain ⟨_, hw1⟩ := walkVia_peel hfa hshape hw
      obtain ⟨_, hw2⟩ := walkVia_peel hfb (hshape.tail hfa) hw1
      rw [no_noslash_after_empty ps ys ((hshape.tail hfa).tail hfb) hne] at hw2; cases hw2

/-- decidable form for parts that consume one segment: the part's pattern rejects "" -/
def rejectsEmptyB (p : Part) : Bool := !p.isFinal && (step p [[]]).isNone

theorem rejectsEmptyB_sound {p : Part} (h : rejectsEmptyB p = true) : RejectsEmpty p := by
  intro rest
  simp only [rejectsEmptyB, Bool.and_eq_true, Bool.not_eq_true', Option.isNone_iff_eq_none] at h
  obtain ⟨hf, hn⟩ := h
  cases p with
  | static c =>
    simp only [step_static] at hn ⊢
    split at hn
    · cases hn
    · rename_i hc; simp [hc]
  | dyn pre kind post final suffixed w =>
    simp only [Part.isFinal] at hf
    subst hf
    simp only [step_dyn, Bool.false_eq_true, if_false] at hn ⊢
    cases hm : matchDyn pre kind post suffixed [] with
    | none => simp
    | some vsl => simp [hm] at hn

def noEmptyButLastB : List Part → Bool
  | [] => true
  | [_] => true
  | p :: q :: t => rejectsEmptyB p && noEmptyButLastB (q :: t)

theorem noEmptyButLastB_sound : ∀ ps, noEmptyButLastB ps = true → NoEmptyButLast ps
  | [], _ => trivial
  | [_], _ => trivial
  | p :: q :: t, h => by
    simp only [noEmptyButLastB, Bool.and_eq_true] at h
    exact ⟨rejectsEmptyB_sound h.1, noEmptyButLastB_sound (q :: t) h.2⟩

def slashDomainOKB (r : Rule) : Bool :=
  match r.parts with
  | a :: b :: ps => !a.isFinal && !b.isFinal && noEmptyButLastB ps
  | _ => false

theorem slashDomainOKB_sound {r : Rule} (h : slashDomainOKB r = true) : r.SlashDomainOK := by
  simp only [slashDomainOKB] at h
  split at h
  · rename_i a b ps hp
    simp only [Bool.and_eq_true, Bool.not_eq_true'] at h
    exact ⟨a, b, ps, hp, h.1.1, h.1.2, noEmptyButLastB_sound ps h.2⟩
  · cases h

end Wz.Routing
