/-
C16 ↔ C06 bridge: the views of Model/Views.lean use the codecs of Model/Http.lean. Under an explicit domain predicate on the
view (`setGood`, `dictGood`, `cspGood`, `crGood`, `authGood`, `mpGood`) C06's codec round trips become "a view that wrote itself
back re-reads equal", and the serialised text is free of CR / LF - so that `Headers.set` accepts it - when the view's keys and
values are.
-/
import WzVerif.Lemmas.Views
import WzVerif.Lemmas.ViewsInt
import WzVerif.Lemmas.Http
import WzVerif.Lemmas.HttpAuth
import WzVerif.Lemmas.HttpCC
import WzVerif.Lemmas.HttpCRange
import WzVerif.Lemmas.HttpCsp
import WzVerif.Lemmas.HttpOptions
import WzVerif.Lemmas.HttpSet
namespace Wz.C16L
open Wz Hdr Views

theorem hasNL_append (a b : Str) : hasNL (a ++ b) = (hasNL a || hasNL b) := by simp [hasNL]

theorem hasNL_cons (c : Char) (t : Str) : hasNL (c :: t) = (isNL c || hasNL t) := by simp [hasNL]

theorem hasNL_join (sep : String) (parts : List Str) (hs : hasNL sep.toList = false)
    (hp : ∀ p ∈ parts, hasNL p = false) : hasNL (Http.join sep parts) = false := by
  unfold Http.join
  induction parts with
  | nil => rfl
  | cons a t ih =>
    cases t with
    | nil => simpa using hp a List.mem_cons_self
    | cons b r =>
      rw [List.intercalate_cons_cons, hasNL_append, hasNL_append, hp a List.mem_cons_self, hs,
        ih (fun p h => hp p (List.mem_cons_of_mem _ h))]
      rfl

theorem hasNL_replace1 (c : Char) (r s : Str) (hr : hasNL r = false) (hs : hasNL s = false) :
    hasNL (Http.replace1 c r s) = false := by
  induction s with
  | nil => rfl
  | cons x t ih =>
    rw [hasNL_cons, Bool.or_eq_false_iff] at hs
    simp only [Http.replace1, List.flatMap_cons] at ih ⊢
    rw [hasNL_append, ih hs.2]
    by_cases hx : (x == c) = true
    · simp [hx, hr]
    · simp [hx, hasNL, hs.1]

theorem hasNL_quote (v : Str) (b : Bool) (hv : hasNL v = false) : hasNL (Http.quoteHeaderValue v b) = false := by
  unfold Http.quoteHeaderValue
  split
  · decide
  · split
    · exact hv
    · have : hasNL (Http.escapeDq v) = false := by
        unfold Http.escapeDq
        exact hasNL_replace1 _ _ _ (by decide) (hasNL_replace1 _ _ _ (by decide) hv)
      rw [hasNL_append, hasNL_cons, this]
      decide

theorem isNL_isSpace {c : Char} (h : isNL c = true) : Py.isSpace c = true := by
  simp only [isNL, Bool.or_eq_true, beq_iff_eq] at h
  rcases h with e | e <;> subst e <;> decide

theorem hasNL_of_noSpace (s : Str) (h : ∀ c ∈ s, Py.isSpace c = false) : hasNL s = false := by
  unfold hasNL
  rw [Bool.eq_false_iff]
  intro hc
  rw [List.any_eq_true] at hc
  obtain ⟨c, hm, hn⟩ := hc
  have := isNL_isSpace hn
  rw [h c hm] at this
  exact Bool.noConfusion this

theorem hasNL_token (k : Str) (h : k.all Http.isToken = true) : hasNL k = false :=
  hasNL_of_noSpace k (fun c hc => Http.isToken_not_space (List.all_eq_true.1 h c hc))

theorem httpIntText_eq (i : Int) : Http.intText i = CC.intText i := by
  cases i <;> rfl

/-- the members carry no CR / LF -/
def setGood (c : HS.St) : Bool := c.headers.all (fun w => !hasNL w)

theorem setDump_noNL (c : HS.St) (h : setGood c = true) : hasNL (SetView.dump c) = false := by
  unfold SetView.dump Http.headerSetToHeader
  apply hasNL_join _ _ (by decide)
  intro p hp
  obtain ⟨w, hw, he⟩ := List.mem_map.1 hp
  subst he
  have := List.all_eq_true.1 h w hw
  exact hasNL_quote w true (by simpa using this)

/-- equality of HeaderSet views: same member list, same lookup set (a Python set: order-free) -/
def hsEq (a b : HS.St) : Bool :=
  decide (a.headers = b.headers) && a.set.all (b.set.contains ·) && b.set.all (a.set.contains ·)

theorem hsEq_construct (c : HS.St) (hI : HS.Inv c) : hsEq (HS.construct c.headers) c = true := by
  rw [C08L.construct_of_nodup c.headers hI.nodup_headers]
  simp only [hsEq, decide_true, Bool.true_and, Bool.and_eq_true, List.all_eq_true, List.contains_iff_mem]
  exact ⟨fun x hx => (hI.mem_set_iff x).2 hx, fun x hx => (hI.mem_set_iff x).1 hx⟩

/-- `parse_set_header(HeaderSet(items).to_header())` gives back `items` (the statement of
`Props.C06.parseSet_dump`, on top of Lemmas/Http.lean) -/
theorem parseSet_dump (items : List Str) : Http.parseSetHeader (Http.headerSetToHeader items) = items :=
  Http.parseSet_list_dump_any items

/-- what `on_update` leaves under the header name: nothing for an empty view, else the one line its `dump` gives (this and the
three lemmas of the same shape for `cache_control`, `content_security_policy`, `content_range`) -/
theorem set_write_getlist (h : HList) (name : Str) (c : HS.St) :
    (c.set.isEmpty = true → getlist (SetView.write h name c) name = []) ∧
    (c.set.isEmpty = false → setGood c = true → getlist (SetView.write h name c) name = [SetView.dump c]) := by
  unfold SetView.write
  exact ⟨fun he => by rw [if_pos he]; exact ite_contains_delKey_getlist h name,
    fun he hv => by rw [if_neg (by rw [he]; exact Bool.false_ne_true)]; exact Hdr.set_getlist h name _ (setDump_noNL c hv)⟩

theorem set_roundtrip (h : HList) (name : Str) (c : HS.St) (hI : HS.Inv c) (hg : setGood c = true) :
    hsEq (SetView.load (SetView.write h name c) name) c = true := by
  rw [SetView.load, getKey_eq_head]
  cases he : c.set.isEmpty with
  | true =>
    have hset : c.set = [] := by simpa using he
    have hh : c.headers = [] := by
      cases hc : c.headers with
      | nil => rfl
      | cons w r =>
        have := (hI.mem_set_iff (lower w)).2 (by rw [hc]; simp)
        rw [hset] at this; cases this
    rw [(set_write_getlist h name c).1 he]
    simp [hsEq, HS.construct, HS.updateLoop, hh, hset]
  | false =>
    rw [(set_write_getlist h name c).2 he hg]
    simp only [List.head?_cons, SetView.dump, parseSet_dump]
    exact hsEq_construct c hI

theorem writeText_ok (h : HList) (name t : Str) : (writeText h name (.ok t)).1 = (Hdr.set h name t).1 := rfl

def valNoNL : Option Str → Bool
  | none => true
  | some v => !hasNL v

/-- distinct non-empty token keys without `*`; values `None` or text without CR / LF -/
def dictGood (d : ODict) : Bool :=
  d.all (fun e => Http.KeyOk e.1 && valNoNL e.2) && decide ((d.map (·.1)).Nodup)

theorem dictGood_keys {d : ODict} (h : dictGood d = true) : ∀ x ∈ d, Http.KeyOk x.1 = true := by
  intro x hx
  simp only [dictGood, Bool.and_eq_true, List.all_eq_true] at h
  exact (h.1 x hx).1

theorem dictGood_nodup {d : ODict} (h : dictGood d = true) : (d.map (·.1)).Nodup := by
  simp only [dictGood, Bool.and_eq_true, decide_eq_true_eq] at h
  exact h.2

theorem dictGood_vals {d : ODict} (h : dictGood d = true) : ∀ x ∈ d, valNoNL x.2 = true := by
  intro x hx
  simp only [dictGood, Bool.and_eq_true, List.all_eq_true] at h
  exact (h.1 x hx).2

theorem dictText_noNL (d : ODict) (h : dictGood d = true) :
    hasNL (Http.join ", " (d.map Http.dictItemText)) = false := by
  apply hasNL_join _ _ (by decide)
  intro p hp
  obtain ⟨e, he, hpe⟩ := List.mem_map.1 hp
  subst hpe
  have hk := hasNL_token e.1 (Http.keyOk_all (dictGood_keys h e he))
  have hv := dictGood_vals h e he
  obtain ⟨k, v⟩ := e
  cases v with
  | none => simpa [Http.dictItemText] using hk
  | some v =>
    simp only [valNoNL, Bool.not_eq_true'] at hv
    simp only [Http.dictItemText, hasNL_append, hasNL_cons]
    simp only at hk
    rw [hk, hasNL_quote v true hv]
    decide

theorem dictText_ne_nil (x : Str × Option Str) (d : ODict) (hk : Http.KeyOk x.1 = true) :
    Http.join ", " ((x :: d).map Http.dictItemText) ≠ [] := by
  have hx : Http.dictItemText x ≠ [] := by
    obtain ⟨k, v⟩ := x
    have : k ≠ [] := by
      intro e; subst e; simp [Http.KeyOk] at hk
    cases v <;> cases k <;> simp_all [Http.dictItemText]
  exact Http.intercalate_ne_nil _ _ _ hx

theorem cc_write_getlist (h : HList) (d : ODict) :
    (d.isEmpty = true → getlist (CC.write h d).1 "cache-control".toList = []) ∧
    (d.isEmpty = false → dictGood d = true → ∃ t, CC.dump d = .ok t ∧
      getlist (CC.write h d).1 "cache-control".toList = [t]) := by
  unfold CC.write
  refine ⟨fun he => by rw [if_pos he]; exact ite_contains_delKey_getlist h _, fun he hg => ?_⟩
  have hd : CC.dump d = .ok (Http.join ", " (d.map Http.dictItemText)) := Http.dumpHeaderDict_ok d (dictGood_keys hg)
  rw [if_neg (by rw [he]; exact Bool.false_ne_true), hd, writeText_ok]
  exact ⟨_, rfl, set_getlist' h _ _ _ (by decide) (dictText_noNL d hg)⟩

theorem cc_roundtrip (h : HList) (d : ODict) (hg : dictGood d = true) : CC.load (CC.write h d).1 = d := by
  rw [CC.load, getKey_eq_head]
  cases d with
  | nil => rw [(cc_write_getlist h []).1 rfl]; rfl
  | cons x r =>
    have hk := dictGood_keys hg
    obtain ⟨t, hd, ht⟩ := (cc_write_getlist h (x :: r)).2 rfl hg
    have hrt := Http.parseDict_dump_any (x :: r) hk (dictGood_nodup hg)
    rw [show Http.dumpHeaderDict (x :: r) = .ok t from hd, ok_bind] at hrt
    have hne : t ≠ [] := by
      cases (Http.dumpHeaderDict_ok _ hk).symm.trans hd; exact dictText_ne_nil x r (hk x List.mem_cons_self)
    have hemp : t.isEmpty = false := by cases t with | nil => exact absurd rfl hne | cons _ _ => rfl
    rw [ht]
    simp only [List.head?_cons, Http.parseCacheControl, hemp, hrt]
    rfl

/-- directives and values in the domain of `csp_roundtrip`, distinct directives, no CR / LF -/
def cspGood (d : CSP.St) : Bool :=
  d.all (fun e => Http.CspItemOk e && !hasNL e.1 && !hasNL e.2) && decide ((d.map (·.1)).Nodup)

theorem cspGood_items {d : CSP.St} (h : cspGood d = true) :
    ∀ e ∈ d, Http.CspItemOk e = true ∧ hasNL e.1 = false ∧ hasNL e.2 = false := by
  intro e he
  simp only [cspGood, Bool.and_eq_true, List.all_eq_true, Bool.not_eq_true'] at h
  exact ⟨(h.1 e he).1.1, (h.1 e he).1.2, (h.1 e he).2⟩

theorem cspGood_nodup {d : CSP.St} (h : cspGood d = true) : (d.map (·.1)).Nodup := by
  simp only [cspGood, Bool.and_eq_true, decide_eq_true_eq] at h
  exact h.2

theorem cspText_noNL (d : CSP.St) (h : cspGood d = true) : hasNL (CSP.dump d) = false := by
  unfold CSP.dump Http.dumpCsp
  apply hasNL_join _ _ (by decide)
  intro p hp
  obtain ⟨e, he, hpe⟩ := List.mem_map.1 hp
  subst hpe
  obtain ⟨_, h1, h2⟩ := cspGood_items h e he
  obtain ⟨k, v⟩ := e
  simp only at h1 h2
  simp only [hasNL_append, hasNL_cons, h1, h2]
  decide

theorem csp_write_getlist (h : HList) (name writeName : Str) (hk : lower name = lower writeName) (d : CSP.St) :
    (d.isEmpty = true → getlist (CSP.write h name writeName d) name = []) ∧
    (d.isEmpty = false → cspGood d = true → getlist (CSP.write h name writeName d) name = [CSP.dump d]) := by
  unfold CSP.write
  exact ⟨fun he => by rw [if_pos he]; exact delKey_getlist h name,
    fun he hv => by rw [if_neg (by rw [he]; exact Bool.false_ne_true)]; exact set_getlist' h _ _ _ hk (cspText_noNL d hv)⟩

theorem csp_roundtrip (h : HList) (name writeName : Str) (hk : lower name = lower writeName) (d : CSP.St)
    (hg : cspGood d = true) : CSP.load (CSP.write h name writeName d) name = d := by
  rw [CSP.load, getKey_eq_head]
  cases d with
  | nil => rw [(csp_write_getlist h name writeName hk []).1 rfl]; rfl
  | cons x r =>
    rw [(csp_write_getlist h name writeName hk (x :: r)).2 rfl hg]
    exact Http.csp_roundtrip_any (x :: r) (fun e he => (cspGood_items hg e he).1) (cspGood_nodup hg)

/-- the unset range, or a range `is_byte_range_valid` accepts with units free of white space -/
def crGood (c : CR.St) : Bool := decide (c = CR.empty) || Http.CRangeOk c

theorem crText_noNL (c : CR.St) (h : Http.CRangeOk c = true) : hasNL (Http.contentRangeToHeader c) = false := by
  obtain ⟨units, start, stop, length⟩ := c
  simp only [Http.CRangeOk, Bool.and_eq_true] at h
  cases units with
  | none => simp at h
  | some u =>
    have hu : hasNL u = false := by
      apply hasNL_of_noSpace
      intro ch hch
      have := h.1
      simp only [Http.CUnitsOk, Bool.and_eq_true, List.all_eq_true, Bool.not_eq_true'] at this
      exact this.2 ch hch
    have hlen : hasNL (Http.lenText length) = false := by
      cases length with
      | none => decide
      | some l => simp only [Http.lenText, httpIntText_eq]; exact intText_noNL l
    simp only [Http.contentRangeToHeader]
    cases start <;> cases stop <;>
      simp only [hasNL_append, hasNL_cons, hu, hlen, httpIntText_eq, intText_noNL] <;> decide

theorem cr_toHeader_ok (c : CR.St) (hok : Http.CRangeOk c = true) : CR.toHeader c = .ok (Http.contentRangeToHeader c) := by
  obtain ⟨units, start, stop, length⟩ := c
  simp only [Http.CRangeOk, Bool.and_eq_true] at hok
  unfold CR.toHeader
  cases units <;> cases start <;> cases stop <;> simp_all [Http.isByteRangeValid]

theorem cr_write_getlist (h : HList) (c : CR.St) :
    (c.units = none → getlist (CR.write h c).1 "content-range".toList = []) ∧
    (Http.CRangeOk c = true →
      getlist (CR.write h c).1 "content-range".toList = [Http.contentRangeToHeader c]) := by
  constructor
  · intro he; simp only [CR.write, he]; exact delKey_getlist h _
  · intro hok
    obtain ⟨units, start, stop, length⟩ := c
    cases units with
    | none => simp [Http.CRangeOk] at hok
    | some u =>
      simp only [CR.write, cr_toHeader_ok _ hok, writeText_ok]
      exact set_getlist' h _ _ _ (by decide) (crText_noNL _ hok)

theorem cr_roundtrip (h : HList) (c : CR.St) (hg : crGood c = true) : CR.load (CR.write h c).1 = c := by
  rw [CR.load, getKey_eq_head]
  simp only [crGood, Bool.or_eq_true, decide_eq_true_eq] at hg
  rcases hg with he | hok
  · subst he; rw [(cr_write_getlist h CR.empty).1 rfl]; rfl
  · rw [(cr_write_getlist h c).2 hok]
    simp only [List.head?_cons, CR.parse, Http.contentRange_roundtrip_any c hok]
    rfl

/-- the scheme survives `.title()` (no space appears) followed by `.lower()` -/
def WwwSchemeOk (t : Str) : Bool :=
  !(Http.pyTitle t).contains ' ' && (Http.pyLower (Http.pyTitle t) == t)

theorem wwwFrom_token (t tok : Str) (hs : WwwSchemeOk t = true) (htok : Http.AuthTokenOk tok = true) :
    Http.wwwFromHeader (Http.pyTitle t ++ ' ' :: tok) = .ok (some ⟨t, [], some tok⟩) := by
  have hstrip : Http.strip tok = tok := by simpa using (Bool.and_eq_true_iff.1 htok).1
  rw [Http.wwwFromHeader_title t tok hs, hstrip, Http.authRest_token t tok htok]
  rfl

theorem wwwFrom_params (t : Str) (x : Str × Option Str) (d : ODict) (hs : WwwSchemeOk t = true)
    (hk : ∀ y ∈ x :: d, Http.KeyOk y.1 = true) (hnd : ((x :: d).map (·.1)).Nodup) (hv : x.2.isSome = true) :
    Http.wwwFromHeader (Http.pyTitle t ++ ' ' :: Http.join ", " ((x :: d).map Http.dictItemText))
      = .ok (some ⟨t, x :: d, none⟩) := by
  rw [Http.wwwFromHeader_title t _ hs, Http.authRest_params t x d hk hnd hv]
  rfl

/-- parameters of a `Digest` challenge in the domain of `www_digest_roundtrip` (C06): distinct
non-empty token keys without `*`, every value a text (the digest dumper writes `None` as the text
`None`) without CR / LF -/
def digestOk (d : ODict) : Bool :=
  d.all (fun e => Http.KeyOk e.1 && e.2.isSome && valNoNL e.2) && decide ((d.map (·.1)).Nodup)

/-- the text values of a digest parameter dict -/
def digestVals (d : ODict) : List (Str × Str) := d.map fun e => (e.1, e.2.getD [])

theorem digestVals_back (d : ODict) (h : digestOk d = true) :
    (digestVals d).map (fun kv => (kv.1, some kv.2)) = d := by
  simp only [digestOk, Bool.and_eq_true, List.all_eq_true] at h
  simp only [digestVals, List.map_map]
  conv => rhs; rw [← List.map_id d]
  apply List.map_congr_left
  intro e he
  obtain ⟨k, v⟩ := e
  have := (h.1 (k, v) he).1.2
  cases v with
  | none => simp at this
  | some t => rfl

theorem digestText_noNL (ps : List (Str × Str)) (hk : ∀ y ∈ ps, Http.KeyOk y.1 = true)
    (hv : ∀ y ∈ ps, hasNL y.2 = false) :
    hasNL ("Digest ".toList ++ Http.join ", " (ps.map Http.digestItemText)) = false := by
  rw [hasNL_append]
  have : hasNL (Http.join ", " (ps.map Http.digestItemText)) = false := by
    apply hasNL_join _ _ (by decide)
    intro p hp
    obtain ⟨y, hy, rfl⟩ := List.mem_map.1 hp
    have hky := hk y hy
    simp only [Http.KeyOk, Bool.and_eq_true] at hky
    simp only [Http.digestItemText, hasNL_append, hasNL_cons, hasNL_token y.1 hky.1.2, hasNL_quote y.2 _ (hv y hy)]
    decide
  rw [this]; decide

/-- a challenge in the domain: a scheme that survives title/lower-casing, and either a token
(stripped, `=` only as trailing padding, no CR/LF) with no parameters, or a non-empty dict of
parameters with no token - in the domain of `dictGood` with the first value present, or for the
scheme `digest` (always-quoted parameters) in the domain `digestOk` -/
def authGood (c : Auth.St) : Bool :=
  WwwSchemeOk c.type && !hasNL (Http.pyTitle c.type) &&
  (match c.token, c.params with
   | some tok, [] => Http.AuthTokenOk tok && !hasNL tok
   | none, x :: d =>
     if c.type == "digest".toList then digestOk (x :: d) else dictGood (x :: d) && x.2.isSome
   | _, _ => false)

theorem auth_roundtrip (h : HList) (c : Auth.St) (hg : authGood c = true) : Auth.load (Auth.write h c).1 = c := by
  obtain ⟨t, params, token⟩ := c
  simp only [authGood, Bool.and_eq_true, Bool.not_eq_true'] at hg
  obtain ⟨⟨hs, hnt⟩, hm⟩ := hg
  cases token with
  | some tok =>
    cases params with
    | cons x d => simp at hm
    | nil =>
      simp only [Bool.and_eq_true, Bool.not_eq_true'] at hm
      have hth : Auth.toHeader ⟨t, [], some tok⟩ = .ok (Http.pyTitle t ++ ' ' :: tok) := by
        simp [Auth.toHeader, Http.wwwToHeader]
      have hnl : hasNL (Http.pyTitle t ++ ' ' :: tok) = false := by
        simp only [hasNL_append, hasNL_cons, hnt, hm.2]; decide
      simp only [Auth.write, hth, writeText_ok, Auth.load, set_getKey _ _ _ hnl, wwwFrom_token t tok hs hm.1]
  | none =>
    cases params with
    | nil => simp at hm
    | cons x d =>
      by_cases hdig : (t == "digest".toList) = true
      · -- Digest: C06's `www_digest_roundtrip`
        simp only [hdig, if_true] at hm
        have ht : t = "digest".toList := by simpa using hdig
        subst ht
        have hback := digestVals_back (x :: d) hm
        have hall := hm
        simp only [digestOk, Bool.and_eq_true, List.all_eq_true, decide_eq_true_eq] at hall
        have hk : ∀ y ∈ digestVals (x :: d), Http.KeyOk y.1 = true := by
          intro y hy
          obtain ⟨e, he, rfl⟩ := List.mem_map.1 hy
          exact (hall.1 e he).1.1
        have hvv : ∀ y ∈ digestVals (x :: d), hasNL y.2 = false := by
          intro y hy
          obtain ⟨e, he, rfl⟩ := List.mem_map.1 hy
          have h1 := (hall.1 e he).2
          have h2 := (hall.1 e he).1.2
          obtain ⟨k, v⟩ := e
          cases v with
          | none => simp at h2
          | some tt => simpa [valNoNL] using h1
        have hnd : ((digestVals (x :: d)).map (·.1)).Nodup := by
          simpa [digestVals, Function.comp_def] using hall.2
        have hdump := Http.wwwToHeader_digest (digestVals (x :: d))
        have hrt := Http.www_digest_roundtrip_any (x.1, x.2.getD []) (digestVals d) hk hnd
        rw [show (x.1, x.2.getD []) :: digestVals d = digestVals (x :: d) from rfl, hdump, hback] at hrt
        rw [hback] at hdump
        simp only [ok_bind] at hrt
        simp only [Auth.write, Auth.toHeader, hdump, writeText_ok, Auth.load,
          set_getKey _ _ _ (digestText_noNL _ hk hvv), hrt]
      have hdig' : (t == "digest".toList) = false := by simpa using hdig
      simp only [hdig', Bool.false_eq_true, if_false, Bool.and_eq_true] at hm
      obtain ⟨hdg, hv⟩ := hm
      have hk := dictGood_keys hdg
      have hth : Auth.toHeader ⟨t, x :: d, none⟩
          = .ok (Http.pyTitle t ++ ' ' :: Http.join ", " ((x :: d).map Http.dictItemText)) := by
        unfold Auth.toHeader Http.wwwToHeader
        simp only [hdig', Bool.false_eq_true, if_false, Http.dumpHeaderDict_ok _ hk]
        rfl
      have hnl : hasNL (Http.pyTitle t ++ ' ' :: Http.join ", " ((x :: d).map Http.dictItemText)) = false := by
        simp only [hasNL_append, hasNL_cons, hnt, dictText_noNL _ hdg]; decide
      simp only [Auth.write, hth, writeText_ok, Auth.load, set_getKey _ _ _ hnl,
        wwwFrom_params t x d hs hk (dictGood_nodup hdg) hv]

/-- the Content-Type currently has a primary value `m` (non-empty, stripped, no `;`, no CR/LF) and
the parameters are in the domain of `parseOptions_dump`: distinct lower-case token names without
`*`, values without the literal `%22` and without CR/LF -/
def mpGood (h : HList) (d : MP.St) : Bool :=
  match MP.mimetype h with
  | none => false
  | some m =>
    Http.HdrOk m && !hasNL m &&
    d.all (fun e => Http.OptKeyOk e.1 && !Http.hasPct22 e.2 && !hasNL e.2) && decide ((d.map (·.1)).Nodup)

theorem mp_roundtrip (h : HList) (d : MP.St) (hg : mpGood h d = true) : MP.load (MP.write h d).1 = d := by
  unfold mpGood at hg
  cases hm : MP.mimetype h with
  | none => rw [hm] at hg; exact absurd hg (by simp)
  | some m =>
    rw [hm] at hg
    simp only [Bool.and_eq_true, Bool.not_eq_true', List.all_eq_true, decide_eq_true_eq] at hg
    obtain ⟨⟨⟨hh, hmn⟩, hall⟩, hnd⟩ := hg
    have hk : ∀ x ∈ d, Http.OptKeyOk x.1 = true := fun x hx => (hall x hx).1.1
    have hv : ∀ x ∈ d, Http.hasPct22 x.2 = false := fun x hx => (hall x hx).1.2
    have hdump := Http.dumpOptions_ok m d hk
    have hrt := Http.parseOptions_dump_any m d hh hk hv hnd
    rw [hdump] at hrt
    simp only [ok_bind] at hrt
    have hnl : hasNL (Http.join "; " (m :: d.map Http.seg)) = false := by
      apply hasNL_join _ _ (by decide)
      intro p hp
      rcases List.mem_cons.1 hp with e | e
      · subst e; exact hmn
      · obtain ⟨x, hx, hpx⟩ := List.mem_map.1 e
        subst hpx
        have hkx := hasNL_token x.1 (Http.keyOk_all (Http.optKeyOk_keyOk (hk x hx)))
        simp only [Http.seg, hasNL_append, hasNL_cons, hkx, hasNL_quote x.2 true (hall x hx).2]
        decide
    simp only [MP.write, MP.dumpOptions, hm, hdump, writeText_ok, MP.load,
      set_getKey' _ "content-type".toList "Content-Type".toList _ (by decide) hnl, hrt]

end Wz.C16L
