/-
C16 — live views of response headers never drift from the header text.
Property theorems (helper lemmas: Lemmas/Views.lean, ViewsShared.lean, ViewsCodec.lean, ViewsTyped.lean, ViewsInt.lean; model:
Model/Views.lean on top of the C06 codecs of Model/Http.lean).

Every view family is an instance of `C16L.Family`: getter (`load`), `on_update` writer (`write`),
view mutators reporting whether they notified. The coherence statement has the two parts of the
property:
  (i)  along EVERY history of view mutators, re-fetches and arbitrary header edits (direct edits,
       whole-property assignments, deletions), whenever the held view is in sync with the headers
       (fetched, or just written back, and no header edit since) re-reading the property gives the
       held view;
  (ii) an effective view mutation rewrites the header from the new view: its text is the view's
       serialisation, or the header is absent when the view became empty.
The side conditions of a history (`okHistGood`) are explicit *domain* predicates on the views that
are written back (`setGood`, `dictGood`, `cspGood`, `crGood`, `authGood`, `mpGood`: token keys,
values without CR/LF, valid ranges, …); the codec round trip itself is not assumed — it is
the C06 theorem for that codec. Each restriction is shown necessary by a witness (`*_needs_*`).
-/
import WzVerif.Lemmas.ViewsCodec
import WzVerif.Lemmas.ViewsShared
import WzVerif.Lemmas.ViewsTyped
import WzVerif.Lemmas.HttpEtag
namespace Wz.Props.C16
open Wz Hdr Views Wz.C16L

def setFamily (name : Str) : Family HS.St HS.Op :=
  ⟨fun h => SetView.load h name, id, fun h c => SetView.write h name c,
   fun c op => ((HS.step c op).st, (HS.step c op).notified)⟩

def ccFamily : Family ODict CC.Op :=
  ⟨CC.load, id, fun h d => (CC.write h d).1, fun d op => ((CC.step d op).st, (CC.step d op).notified)⟩

def cspFamily (name writeName : Str) : Family CSP.St CSP.Op :=
  ⟨fun h => CSP.load h name, id, fun h d => CSP.write h name writeName d,
   fun d op => ((CSP.step d op).st, (CSP.step d op).notified)⟩

def crFamily : Family CR.St CR.Op :=
  ⟨CR.load, fun h => (CR.fetch h).2, fun h c => (CR.write h c).1,
   fun c op => ((CR.step c op).st, (CR.step c op).notified)⟩

def authFamily : Family Auth.St Auth.Op :=
  ⟨Auth.load, id, fun h c => (Auth.write h c).1, fun c op => ((Auth.step c op).st, (Auth.step c op).notified)⟩

def mpFamily : Family MP.St (DOp Str) :=
  ⟨MP.load, id, fun h d => (MP.write h d).1, fun d op => ((dstep d op).st, (dstep d op).notified)⟩

def anyView {σ : Type} : σ → Bool := fun _ => true
def anyOp {σ ο : Type} : σ → ο → Bool := fun _ _ => true

/-- Vary / Allow / Content-Language, members of ANY text (Unicode, quotes, commas, …) without
CR/LF: for every history, under `HeaderSet.Inv` of the fetched views and non-colliding item
assignments (`hsOk`; F08b otherwise; since repair 1a2e0e6 every fetched view satisfies the invariant), the held view equals the re-read property whenever it
is in sync, and the invariant is kept. The codec round trip is `parseSet_dump` (C06). -/
theorem view_coherent_set (name : Str) (evs : List (Ev HS.Op)) (s : S HS.St)
    (hI : HS.Inv s.v) (hs : s.synced = true → hsEq (SetView.load s.h name) s.v = true)
    (hok : okHistGood (setFamily name) hsEq (fun c => decide (HS.Inv c)) C08L.hsOk (fun _ c => setGood c) s evs = true) :
    HS.Inv (run (setFamily name) s evs).v ∧
    ((run (setFamily name) s evs).synced = true →
      hsEq (SetView.load (run (setFamily name) s evs).h name) (run (setFamily name) s evs).v = true) := by
  have := coherent (setFamily name) hsEq (fun c => decide (HS.Inv c)) C08L.hsOk (fun _ c => setGood c)
    (fun v op hv ha => decide_eq_true (C08L.hs_inv_preserved v (of_decide_eq_true hv) op ha))
    (fun v op hv _ hq => hs_quiet v (of_decide_eq_true hv) op hq)
    (fun h v hv hg => set_roundtrip h name v (of_decide_eq_true hv) hg) evs s (decide_eq_true hI) hs hok
  exact ⟨of_decide_eq_true this.1, this.2⟩

example : okHistGood (setFamily "Vary".toList) hsEq (fun c => decide (HS.Inv c)) C08L.hsOk (fun _ c => setGood c)
    ⟨[("Vary".toList, "Cookie".toList)], SetView.load [("Vary".toList, "Cookie".toList)] "Vary".toList, true⟩
    [.view (.remove "cookie".toList), .view (.add "Accept".toList), .edit (fun h => (Hdr.add h "X".toList "1".toList).1),
     .view (.update ["a, \"b\\".toList, "ACCEPT".toList, "é ü".toList]), .refetch, .view (.setitem 0 "Origin".toList),
     .view (.discard "x-foo".toList), .view .clear] = true := by
  -- each literal becomes its character list by a lemma; the kernel would decode its UTF-8 bytes over and over
  repeat rw [String.toList_ofList]
  decide +kernel

/-- the restriction is needed: a member with a line break is refused by `Headers.set`, the header
keeps its old text and the view drifts -/
theorem set_needs_no_newline :
    hsEq (SetView.load (SetView.write [] "Vary".toList (HS.construct ["a\nb".toList])) "Vary".toList)
      (HS.construct ["a\nb".toList]) = false := by
  decide +kernel

/-- cache_control: every typed directive assignment / deletion and every dict mutator; written
views have distinct non-empty token keys without `*` and values without CR/LF (`dictGood`).
Round trip: `parseDict_dump` (C06). -/
theorem view_coherent_cc (evs : List (Ev CC.Op)) (s : S ODict)
    (hs : s.synced = true → CC.load s.h = s.v)
    (hok : okHistGood ccFamily eqB anyView anyOp (fun _ d => dictGood d) s evs = true) :
    (run ccFamily s evs).synced = true → CC.load (run ccFamily s evs).h = (run ccFamily s evs).v := by
  exact coherent_eq ccFamily anyView anyOp _ (fun _ => rfl) cc_quiet (fun h v hg => cc_roundtrip h v hg) evs s hs hok

example : okHistGood ccFamily eqB anyView anyOp (fun _ d => dictGood d) ⟨[], CC.load [], true⟩
    [.view (.attr "max-age".toList .int (.int 3600)), .view (.attr "no-store".toList .bool (.bool true)),
     .view (.attr "private".toList .str (.str "a, \"b\" é".toList)), .view (.delattr "no-store".toList),
     .edit (fun h => (Hdr.set h "Cache-Control".toList "public".toList).1), .refetch,
     .view (.dict (.pop "public".toList none))] = true := by
  repeat rw [String.toList_ofList]
  decide +kernel

/-- each restriction of `dictGood` is needed: a key that is not a token, a key ending in `*`, an
empty key (`dump_header` raises IndexError), a value with a line break -/
theorem cc_needs_domain :
    CC.load (CC.write [] [("a,b".toList, none)]).1 ≠ [("a,b".toList, none)] ∧
    CC.load (CC.write [] [("k*".toList, some "v".toList)]).1 ≠ [("k*".toList, some "v".toList)] ∧
    (CC.write [] [([], some "v".toList)]).2 = .error "IndexError" ∧
    CC.load (CC.write [] [("k".toList, some "a\nb".toList)]).1 ≠ [("k".toList, some "a\nb".toList)] := by
  refine ⟨by decide +kernel, by decide +kernel, by rfl, by decide +kernel⟩

/-- content_security_policy / content_security_policy_report_only; written views are in the domain
of `csp_roundtrip` (C06): stripped directives without space / `;`, stripped non-empty values without
`;`, no CR/LF -/
theorem view_coherent_csp (name writeName : Str) (hk : lower name = lower writeName)
    (evs : List (Ev CSP.Op)) (s : S CSP.St) (hs : s.synced = true → CSP.load s.h name = s.v)
    (hok : okHistGood (cspFamily name writeName) eqB anyView anyOp (fun _ d => cspGood d) s evs = true) :
    (run (cspFamily name writeName) s evs).synced = true →
      CSP.load (run (cspFamily name writeName) s evs).h name = (run (cspFamily name writeName) s evs).v := by
  exact coherent_eq (cspFamily name writeName) anyView anyOp _ (fun _ => rfl) csp_quiet
    (fun h v hg => C16L.csp_roundtrip h name writeName hk v hg) evs s hs hok

example : lower "content-security-policy-report-only".toList = lower "Content-Security-policy-report-only".toList := by
  decide

example : okHistGood (cspFamily "content-security-policy".toList "Content-Security-Policy".toList) eqB anyView anyOp
    (fun _ d => cspGood d) ⟨[], [], true⟩
    [.view (.attr "default-src".toList (some "'self'".toList)), .view (.attr "img-src".toList (some "* data:".toList)),
     .view (.delattr "default-src".toList), .refetch, .view (.dict .clear)] = true := by
  repeat rw [String.toList_ofList]
  decide +kernel

/-- the restrictions of `cspGood` are needed: `;` in a value, a space in a directive, an empty value -/
theorem csp_needs_domain :
    CSP.load (CSP.write [] "csp".toList "csp".toList [("a".toList, "x; y".toList)]) "csp".toList ≠ [("a".toList, "x; y".toList)] ∧
    CSP.load (CSP.write [] "csp".toList "csp".toList [("a b".toList, "x".toList)]) "csp".toList ≠ [("a b".toList, "x".toList)] ∧
    CSP.load (CSP.write [] "csp".toList "csp".toList [("sandbox".toList, [])]) "csp".toList ≠ [("sandbox".toList, [])] := by
  decide +kernel

/-- content_range (reading the property rewrites the header: `refetchH`); written views are unset
or valid for `is_byte_range_valid` with units free of white space (`contentRange_roundtrip`, C06) -/
theorem view_coherent_cr (evs : List (Ev CR.Op)) (s : S CR.St)
    (hs : s.synced = true → CR.load s.h = s.v)
    (hok : okHistGood crFamily eqB anyView anyOp (fun _ c => crGood c) s evs = true) :
    (run crFamily s evs).synced = true → CR.load (run crFamily s evs).h = (run crFamily s evs).v := by
  exact coherent_eq crFamily anyView anyOp _ (fun _ => rfl) cr_quiet (fun h v hg => cr_roundtrip h v hg) evs s hs hok

example : okHistGood crFamily eqB anyView anyOp (fun _ c => crGood c) ⟨[], CR.empty, true⟩
    [.view (.set (some 0) (some 10) (some 100) (some "bytes".toList)), .view (.setLength none), .refetch,
     .view (.set (some 5) (some 2) none (some "bytes".toList)), .view .unset,
     .view (.set none none (some 0) (some "bytes".toList)), .refetch, .view (.setLength (some 7)),
     .view (.setLength (some 0)), .edit (fun h => (Hdr.set h "Content-Range".toList "items */0".toList).1), .refetch,
     .view (.setUnits (some "bytes".toList))] = true := by
  decide +kernel

/-- boundary value length 0 (only valid in the unsatisfied form): it is serialised as `0`, not `*`,
read back as 0, and the written view re-reads equal — for `set(None, None, 0)`, `length = 0` and a
header `bytes */0` read through the property -/
theorem cr_length_zero :
    (CR.toHeader ⟨some "bytes".toList, none, none, some 0⟩).toOption = some "bytes */0".toList ∧
    CR.parse "bytes */0".toList = some ⟨some "bytes".toList, none, none, some 0⟩ ∧
    CR.parse "bytes */*".toList = some ⟨some "bytes".toList, none, none, none⟩ ∧
    CR.load (CR.write [] ⟨some "bytes".toList, none, none, some 0⟩).1 = ⟨some "bytes".toList, none, none, some 0⟩ ∧
    (CR.step ⟨some "bytes".toList, none, none, some 7⟩ (.setLength (some 0))).st = ⟨some "bytes".toList, none, none, some 0⟩ ∧
    (CR.step CR.empty (.set none none (some 0) (some "bytes".toList))).st = ⟨some "bytes".toList, none, none, some 0⟩ ∧
    CR.valid (some 0) (some 1) (some 0) = false ∧
    crGood ⟨some "bytes".toList, none, none, some 0⟩ = true := by
  repeat rw [String.toList_ofList]
  decide +kernel

/-- the restrictions of `crGood` are needed: an invalid combination (F16d: `stop` without `start`),
units containing white space, an unset range that still carries a length -/
theorem cr_needs_domain :
    CR.load (CR.write [] ⟨some "bytes".toList, none, some 10, none⟩).1 ≠ ⟨some "bytes".toList, none, some 10, none⟩ ∧
    CR.load (CR.write [] ⟨some "my units".toList, none, none, none⟩).1 ≠ ⟨some "my units".toList, none, none, none⟩ ∧
    CR.load (CR.write [] ⟨none, none, none, some 5⟩).1 ≠ ⟨none, none, none, some 5⟩ := by
  decide +kernel

/-- www_authenticate (as repaired: `type`, `token`, `parameters` reach their setters, `type` is
lower-cased); written views are in `authGood`: a token challenge without parameters or a parameter
challenge without token - for the scheme `digest` with every value a text (`digestOk`; the digest
dumper writes `None` as the text `None`) - (round trips: C06's `www_digest_roundtrip` and the lemmas
`authRest_token` / `authRest_params` behind `token_auth_roundtrip` / `www_param_roundtrip`; unlike
C06's `SchemeOk` the scheme `basic` is allowed here — it is only special for `Authorization`) -/
theorem view_coherent_auth (evs : List (Ev Auth.Op)) (s : S Auth.St)
    (hs : s.synced = true → Auth.load s.h = s.v)
    (hok : okHistGood authFamily eqB anyView anyOp (fun _ c => authGood c) s evs = true) :
    (run authFamily s evs).synced = true → Auth.load (run authFamily s evs).h = (run authFamily s evs).v := by
  exact coherent_eq authFamily anyView anyOp _ (fun _ => rfl) auth_quiet (fun h v hg => auth_roundtrip h v hg) evs s hs hok

example : okHistGood authFamily eqB anyView anyOp (fun _ c => authGood c) ⟨[], Auth.default, true⟩
    [.view (.setitem "realm".toList (some "login area".toList)), .view (.setType "Negotiate".toList),
     .view (.setitem "charset".toList (some "UTF-8".toList)), .view (.delitem "charset".toList), .refetch,
     .edit (fun h => (Hdr.set h "WWW-Authenticate".toList "Bearer t0k".toList).1), .refetch,
     .view (.setToken (some "other==".toList)), .view (.setType "token68".toList)] = true := by
  repeat rw [String.toList_ofList]
  decide +kernel

/-- a `Digest` challenge through the view (always-quoted `realm` / `nonce` / `qop`, quoted-on-demand
others; round trip: C06's `www_digest_roundtrip`): parameters set one by one, re-read, changed,
removed -/
example : okHistGood authFamily eqB anyView anyOp (fun _ c => authGood c)
    ⟨[("WWW-Authenticate".toList, "Digest realm=\"r\", nonce=\"n\"".toList)],
     Auth.load [("WWW-Authenticate".toList, "Digest realm=\"r\", nonce=\"n\"".toList)], true⟩
    [.view (.setitem "qop".toList (some "auth".toList)), .view (.setitem "algorithm".toList (some "MD5".toList)),
     .refetch, .view (.setitem "realm".toList (some "a \"b\" c".toList)), .view (.delitem "algorithm".toList),
     .view (.pdict (.pop "qop".toList none)), .refetch] = true := by
  repeat rw [String.toList_ofList]
  decide +kernel

/-- the restrictions of `authGood` are needed: F16b (neither token nor parameters), F16c (token and
parameters), a token with an inner `=`, a scheme containing a space -/
theorem auth_needs_domain :
    Auth.load (Auth.write [] Auth.default).1 ≠ Auth.default ∧
    Auth.load (Auth.write [] ⟨"basic".toList, [("realm".toList, some "x".toList)], some "xyz".toList⟩).1
      ≠ ⟨"basic".toList, [("realm".toList, some "x".toList)], some "xyz".toList⟩ ∧
    Auth.load (Auth.write [] ⟨"bearer".toList, [], some "a=b".toList⟩).1 ≠ ⟨"bearer".toList, [], some "a=b".toList⟩ ∧
    Auth.load (Auth.write [] ⟨"my scheme".toList, [], some "t".toList⟩).1 ≠ ⟨"my scheme".toList, [], some "t".toList⟩ := by
  decide +kernel

/-- F16b: the full statement "every written view re-reads equal" is false for the WWW-Authenticate
view with neither token nor parameters: it is written as `Basic ` and re-read with token `""`. -/
theorem auth_roundtrip_full_false : ¬ (∀ (h : HList) (c : Auth.St), Auth.load (Auth.write h c).1 = c) := by
  intro h
  exact absurd (h [] Auth.default) auth_needs_domain.1

/-- ... concretely `Response().www_authenticate.x = None` creates the header for an empty view -/
theorem auth_empty_view_header :
    (next authFamily ⟨[], Auth.default, true⟩ (.view (.setitem "x".toList none))).h
      = [("WWW-Authenticate".toList, "Basic ".toList)] := by
  decide +kernel

/-- mimetype_params; the Content-Type has a primary value and the written parameters are in the
domain of `parseOptions_dump` (C06): distinct lower-case token names without `*`, values without the
literal `%22` and without CR/LF (`mpGood`, which also looks at the current headers) -/
theorem view_coherent_mp (evs : List (Ev (DOp Str))) (s : S MP.St)
    (hs : s.synced = true → MP.load s.h = s.v)
    (hok : okHistGood mpFamily eqB anyView anyOp mpGood s evs = true) :
    (run mpFamily s evs).synced = true → MP.load (run mpFamily s evs).h = (run mpFamily s evs).v := by
  exact coherent_eq mpFamily anyView anyOp _ (fun _ => rfl) dstep_quiet (fun h v hg => mp_roundtrip h v hg) evs s hs hok

example : okHistGood mpFamily eqB anyView anyOp mpGood
    ⟨[("Content-Type".toList, "text/html; charset=utf-8".toList)],
     MP.load [("Content-Type".toList, "text/html; charset=utf-8".toList)], true⟩
    [.view (.setitem "charset".toList "latin-1".toList), .view (.setitem "boundary".toList "a \"b\"; c".toList),
     .view (.pop "charset".toList none), .refetch, .view .clear] = true := by
  repeat rw [String.toList_ofList]
  decide +kernel

/-- the restrictions of `mpGood` are needed: F16f (no Content-Type to carry the parameters), an
upper-case parameter name (the parser lower-cases), a value containing the literal `%22` -/
theorem mp_needs_domain :
    MP.load (MP.write [] [("charset".toList, "utf-8".toList)]).1 ≠ [("charset".toList, "utf-8".toList)] ∧
    MP.load (MP.write [("Content-Type".toList, "a/b".toList)] [("Name".toList, "v".toList)]).1 ≠ [("Name".toList, "v".toList)] ∧
    MP.load (MP.write [("Content-Type".toList, "a/b".toList)] [("n".toList, "x %22y".toList)]).1 ≠ [("n".toList, "x %22y".toList)] := by
  decide +kernel

/-! ## view objects shared between responses, several live views of one response

`W` = any number of responses and any number of held view objects; every object remembers the
response its `on_update` closure writes to: the response whose property getter made it, or - for
`www_authenticate`, whose setter installs a new closure - the response it was last assigned to
(`Ev2.assign`; for the other properties the setter stores the text and does not re-bind, the object
stays a view of the response it was read from). Events: a mutator on any held object, reading any
response's property into any slot, assigning any held object to any response's property, any edit
of any response's headers (including replacing `response.headers` altogether). -/

/-- **www_authenticate across responses**: for every history over any number of responses and held
`WWWAuthenticate` objects (objects read from one response and assigned to another, one object
assigned to several responses in turn, several objects live for one response, stale objects whose
header was edited, replaced or deleted), every held object that is in sync re-reads equal from the
response its callback targets - where the setter re-targets the callback to the assigned-to
response. -/
theorem view_coherent_shared_auth (evs : List (Ev2 Auth.Op)) (w : W Auth.St)
    (hinv : ∀ x ∈ w.held, x.synced = true → Auth.load (w.hs x.tgt) = x.v)
    (hok : okHist2 (sharedOf authFamily true) eqB anyView anyOp (fun _ c => authGood c) w evs = true) :
    ∀ x ∈ (run2 (sharedOf authFamily true) w evs).held, x.synced = true →
      Auth.load ((run2 (sharedOf authFamily true) w evs).hs x.tgt) = x.v :=
  coherent2_eq (sharedOf authFamily true) anyView anyOp _ (fun _ => rfl) (fun v op h => auth_quiet v op h)
    (fun h v hg => auth_roundtrip h v hg) (fun _ h v hg => auth_roundtrip h v hg) evs w hinv hok

/-- two responses, none has the header; slot 0 holds `r0.www_authenticate`:
`v.realm = "one"; r1.www_authenticate = v; v.realm = "two"; r0.headers[...] edited; w = r0.www_authenticate;
w.token = …` -/
example : okHist2 (sharedOf authFamily true) eqB anyView anyOp (fun _ c => authGood c)
    ⟨fun _ => [], [⟨Auth.default, 0, true⟩, ⟨Auth.default, 1, true⟩]⟩
    [.view 0 (.setitem "realm".toList (some "one".toList)), .assign 0 1,
     .view 0 (.setitem "realm".toList (some "two".toList)),
     .edit 0 (fun _ => [("WWW-Authenticate".toList, "Bearer abc".toList)]), .fetch 1 0,
     .view 1 (.setToken (some "t0k".toList)), .assign 1 2] = true := by
  decide +kernel

/-- **the setter re-binds**: after `response_i.www_authenticate = v` the object `v` is a view of
response `i` (its callback targets `i`, the header of `i` is `v`'s serialisation), and a later
mutation of `v` rewrites the header of response `i` from the new view and leaves the headers of every
other response - in particular the one `v` was read from - untouched. -/
theorem www_authenticate_setter_rebinds (w : W Auth.St) (j i : Nat) (x : Held Auth.St) (op : Auth.Op)
    (hj : w.held[j]? = some x) :
    let w1 := next2 (sharedOf authFamily true) w (.assign j i)
    let w2 := next2 (sharedOf authFamily true) w1 (.view j op)
    w1.held[j]? = some ⟨x.v, i, true⟩ ∧ w1.hs i = (Auth.write (w.hs i) x.v).1 ∧
    (∀ k, k ≠ i → w2.hs k = w.hs k) ∧
    ((Auth.step x.v op).notified = true → w2.hs i = (Auth.write (w1.hs i) (Auth.step x.v op).st).1) := by
  intro w1 w2
  have h1 := assign_retargets (sharedOf authFamily true) rfl w j i x hj
  have h2 := view_frame (sharedOf authFamily true) w1 j op ⟨x.v, i, true⟩ h1.1
  refine ⟨h1.1, h1.2, fun k hk => ?_, h2.2⟩
  rw [h2.1 k hk]
  simp only [w1, next2, hj, sharedOf, if_true]
  exact upd_ne _ _ _ _ hk

/-- the C16-c2 scenario in the model: `r0.www_authenticate = WWWAuthenticate("basic", {"realm": "one"});
v = r0.www_authenticate; r1.www_authenticate = v; v.realm = "two"` leaves `r0` with realm one and
writes realm two into `r1` -/
theorem www_authenticate_shared_regression :
    let w := run2 (sharedOf authFamily true)
      ⟨fun k => if k = 0 then [("WWW-Authenticate".toList, "Basic realm=one".toList)] else [], [⟨Auth.default, 5, false⟩]⟩
      [.fetch 0 0, .assign 0 1, .view 0 (.setitem "realm".toList (some "two".toList))]
    w.hs 0 = [("WWW-Authenticate".toList, "Basic realm=one".toList)] ∧
    w.hs 1 = [("WWW-Authenticate".toList, "Basic realm=two".toList)] := by
  decide +kernel

/-- **Vary / Allow / Content-Language across responses** (the setter stores the text; the object
stays a view of the response it was read from): every held object in sync re-reads equal from its own
response, under `HeaderSet.Inv` and the restrictions of `view_coherent_set`. -/
theorem view_coherent_shared_set (name : Str) (evs : List (Ev2 HS.Op)) (w : W HS.St)
    (hinv : ∀ x ∈ w.held, HS.Inv x.v ∧ (x.synced = true → hsEq (SetView.load (w.hs x.tgt) name) x.v = true))
    (hok : okHist2 (sharedOf (setFamily name) false) hsEq (fun c => decide (HS.Inv c)) C08L.hsOk
      (fun _ c => setGood c) w evs = true) :
    ∀ x ∈ (run2 (sharedOf (setFamily name) false) w evs).held, HS.Inv x.v ∧ (x.synced = true →
      hsEq (SetView.load ((run2 (sharedOf (setFamily name) false) w evs).hs x.tgt) name) x.v = true) := by
  have := coherent2 (sharedOf (setFamily name) false) hsEq (fun c => decide (HS.Inv c)) C08L.hsOk (fun _ c => setGood c)
    (fun v op hv ha => decide_eq_true (C08L.hs_inv_preserved v (of_decide_eq_true hv) op ha))
    (fun v op hv _ hq => hs_quiet v (of_decide_eq_true hv) op hq)
    (fun h v hv hg => set_roundtrip h name v (of_decide_eq_true hv) hg)
    (fun hb => by cases hb) evs w
    (fun x hx => ⟨decide_eq_true (hinv x hx).1, (hinv x hx).2⟩) hok
  exact fun x hx => ⟨of_decide_eq_true (this x hx).1, (this x hx).2⟩

example : okHist2 (sharedOf (setFamily "Vary".toList) false) hsEq (fun c => decide (HS.Inv c)) C08L.hsOk (fun _ c => setGood c)
    ⟨fun k => if k = 0 then [("Vary".toList, "Cookie".toList)] else [],
     [⟨SetView.load [("Vary".toList, "Cookie".toList)] "Vary".toList, 0, true⟩, ⟨HS.construct [], 1, true⟩]⟩
    [.view 0 (.add "Accept".toList), .assign 0 1, .view 1 (.add "x".toList), .view 0 (.remove "cookie".toList),
     .fetch 1 0, .view 0 (.add "late".toList), .view 1 (.discard "accept".toList), .edit 1 (fun _ => [])] = true := by
  decide +kernel

/-- **cache_control, content_security_policy(_report_only), content_range, mimetype_params across
responses and with several live view objects per response** (no setter re-binds). -/
theorem view_coherent_shared_plain :
    (∀ (evs : List (Ev2 CC.Op)) (w : W ODict), (∀ x ∈ w.held, x.synced = true → CC.load (w.hs x.tgt) = x.v) →
      okHist2 (sharedOf ccFamily false) eqB anyView anyOp (fun _ d => dictGood d) w evs = true →
      ∀ x ∈ (run2 (sharedOf ccFamily false) w evs).held, x.synced = true →
        CC.load ((run2 (sharedOf ccFamily false) w evs).hs x.tgt) = x.v) ∧
    (∀ (name writeName : Str), lower name = lower writeName → ∀ (evs : List (Ev2 CSP.Op)) (w : W CSP.St),
      (∀ x ∈ w.held, x.synced = true → CSP.load (w.hs x.tgt) name = x.v) →
      okHist2 (sharedOf (cspFamily name writeName) false) eqB anyView anyOp (fun _ d => cspGood d) w evs = true →
      ∀ x ∈ (run2 (sharedOf (cspFamily name writeName) false) w evs).held, x.synced = true →
        CSP.load ((run2 (sharedOf (cspFamily name writeName) false) w evs).hs x.tgt) name = x.v) ∧
    (∀ (evs : List (Ev2 CR.Op)) (w : W CR.St), (∀ x ∈ w.held, x.synced = true → CR.load (w.hs x.tgt) = x.v) →
      okHist2 (sharedOf crFamily false) eqB anyView anyOp (fun _ c => crGood c) w evs = true →
      ∀ x ∈ (run2 (sharedOf crFamily false) w evs).held, x.synced = true →
        CR.load ((run2 (sharedOf crFamily false) w evs).hs x.tgt) = x.v) ∧
    (∀ (evs : List (Ev2 (DOp Str))) (w : W MP.St), (∀ x ∈ w.held, x.synced = true → MP.load (w.hs x.tgt) = x.v) →
      okHist2 (sharedOf mpFamily false) eqB anyView anyOp mpGood w evs = true →
      ∀ x ∈ (run2 (sharedOf mpFamily false) w evs).held, x.synced = true →
        MP.load ((run2 (sharedOf mpFamily false) w evs).hs x.tgt) = x.v) := by
  refine ⟨fun evs w hinv hok => ?_, fun name writeName hk evs w hinv hok => ?_, fun evs w hinv hok => ?_,
    fun evs w hinv hok => ?_⟩
  · exact coherent2_eq (sharedOf ccFamily false) anyView anyOp _ (fun _ => rfl) (fun v op h => cc_quiet v op h)
      (fun h v hg => cc_roundtrip h v hg) (fun hb => by cases hb) evs w hinv hok
  · exact coherent2_eq (sharedOf (cspFamily name writeName) false) anyView anyOp _ (fun _ => rfl)
      (fun v op h => csp_quiet v op h) (fun h v hg => C16L.csp_roundtrip h name writeName hk v hg)
      (fun hb => by cases hb) evs w hinv hok
  · exact coherent2_eq (sharedOf crFamily false) anyView anyOp _ (fun _ => rfl) (fun v op h => cr_quiet v op h)
      (fun h v hg => cr_roundtrip h v hg) (fun hb => by cases hb) evs w hinv hok
  · exact coherent2_eq (sharedOf mpFamily false) anyView anyOp _ (fun _ => rfl) (fun v op h => dstep_quiet v op h)
      (fun h v hg => mp_roundtrip h v hg) (fun hb => by cases hb) evs w hinv hok

/-- two live cache_control objects of one response: the second is stale after the first wrote, and
in sync again after it wrote itself (no claim is made about it in between) -/
example : okHist2 (sharedOf ccFamily false) eqB anyView anyOp (fun _ d => dictGood d)
    ⟨fun _ => [], [⟨[], 0, true⟩, ⟨[], 0, true⟩]⟩
    [.view 0 (.attr "max-age".toList .int (.int 5)), .view 1 (.attr "no-store".toList .bool (.bool true)),
     .edit 0 (fun _ => []), .view 0 (.delattr "max-age".toList), .fetch 1 0] = true := by
  decide +kernel

/-- In every family a mutator that changes the view calls `on_update` (notification completeness:
`add` of a present member, `discard` of an absent one, deleting a missing parameter, a failing
`set` are exactly the calls that do not notify, and they leave the view unchanged). -/
theorem effective_mutation_notifies :
    (∀ (c : HS.St) (op : HS.Op), HS.Inv c → (HS.step c op).st ≠ c → (HS.step c op).notified = true) ∧
    (∀ (d : ODict) (op : CC.Op), (CC.step d op).st ≠ d → (CC.step d op).notified = true) ∧
    (∀ (d : CSP.St) (op : CSP.Op), (CSP.step d op).st ≠ d → (CSP.step d op).notified = true) ∧
    (∀ (c : CR.St) (op : CR.Op), (CR.step c op).st ≠ c → (CR.step c op).notified = true) ∧
    (∀ (c : Auth.St) (op : Auth.Op), (Auth.step c op).st ≠ c → (Auth.step c op).notified = true) ∧
    (∀ (d : MP.St) (op : DOp Str), (dstep d op).st ≠ d → (dstep d op).notified = true) := by
  have notifies : ∀ {b : Bool} {P : Prop}, (b = false → P) → ¬P → b = true := by
    intro b P hq hne
    cases b
    · exact absurd (hq rfl) hne
    · rfl
  exact ⟨fun c op hI => notifies (hs_quiet c hI op), fun d op => notifies (cc_quiet d op),
    fun d op => notifies (csp_quiet d op), fun c op => notifies (cr_quiet c op),
    fun c op => notifies (auth_quiet c op), fun d op => notifies (dstep_quiet d op)⟩

/-- HeaderSet views: after `on_update` the header is absent when the view is empty, else it is the
single line `to_header()` -/
theorem view_text_set (h : HList) (name : Str) (c : HS.St) :
    (c.set.isEmpty = true → getlist (SetView.write h name c) name = []) ∧
    (c.set.isEmpty = false → setGood c = true →
      getlist (SetView.write h name c) name = [SetView.dump c]) :=
  set_write_getlist h name c

example : setGood (HS.construct ["Cookie".toList, "Accept Encoding".toList]) = true := by decide

/-- cache_control -/
theorem view_text_cc (h : HList) (d : ODict) :
    (d.isEmpty = true → getlist (CC.write h d).1 "cache-control".toList = []) ∧
    (d.isEmpty = false → dictGood d = true → ∃ t, CC.dump d = .ok t ∧
      getlist (CC.write h d).1 "cache-control".toList = [t]) :=
  cc_write_getlist h d

/-- content_security_policy (`name` is the lower-case header name used for deleting, `writeName`
the spelling used for setting) -/
theorem view_text_csp (h : HList) (name writeName : Str) (hk : lower name = lower writeName) (d : CSP.St) :
    (d.isEmpty = true → getlist (CSP.write h name writeName d) name = []) ∧
    (d.isEmpty = false → cspGood d = true →
      getlist (CSP.write h name writeName d) name = [CSP.dump d]) :=
  csp_write_getlist h name writeName hk d

/-- content_range: absent when unset, else the serialisation -/
theorem view_text_cr (h : HList) (c : CR.St) :
    (c.units = none → getlist (CR.write h c).1 "content-range".toList = []) ∧
    (Http.CRangeOk c = true →
      getlist (CR.write h c).1 "content-range".toList = [Http.contentRangeToHeader c]) :=
  cr_write_getlist h c

/-- www_authenticate: the header is always the serialisation of the view -/
theorem view_text_auth (h : HList) (c : Auth.St) (t : Str) (ht : Auth.toHeader c = .ok t) (hv : hasNL t = false) :
    getlist (Auth.write h c).1 "WWW-Authenticate".toList = [t] := by
  simp only [Auth.write, ht, writeText_ok]
  exact Hdr.set_getlist h _ _ hv

/-- the regressions repaired by bc9f56a / 8064f72 / 78ff821 hold in the model: removing a Vary
entry with another letter case deletes the header; assigning `token` reaches the setter; `type` is
stored lower-cased and re-reads equal -/
theorem repaired_regressions :
    (next (setFamily "Vary".toList) ⟨[("Vary".toList, "Cookie".toList)],
        SetView.load [("Vary".toList, "Cookie".toList)] "Vary".toList, true⟩ (.view (.remove "cookie".toList))).h = [] ∧
    (next authFamily ⟨[], Auth.default, true⟩ (.view (.setToken (some "xyz".toList)))).h
      = [("WWW-Authenticate".toList, "Basic xyz".toList)] ∧
    (next authFamily ⟨[], ⟨"bearer".toList, [], some "abc".toList⟩, true⟩ (.view (.setType "Basic".toList))).v.type
      = "basic".toList ∧
    Auth.load (next authFamily ⟨[], ⟨"bearer".toList, [], some "abc".toList⟩, true⟩ (.view (.setType "Basic".toList))).h
      = (next authFamily ⟨[], ⟨"bearer".toList, [], some "abc".toList⟩, true⟩ (.view (.setType "Basic".toList))).v := by
  decide +kernel

/-- the C16 face of F08c (repaired by 1a2e0e6): a view over `Vary: Cookie, cookie` has ONE member;
`del view[0]` empties it and removes the header, and the re-read view equals the held one (it used
to delete the header while an item remained) -/
theorem set_view_case_duplicates_regression :
    SetView.load [("Vary".toList, "Cookie, cookie".toList)] "Vary".toList = ⟨["Cookie".toList], ["cookie".toList]⟩ ∧
    (let s := next (setFamily "Vary".toList) ⟨[("Vary".toList, "Cookie, cookie".toList)],
        SetView.load [("Vary".toList, "Cookie, cookie".toList)] "Vary".toList, true⟩ (.view (.delitem 0))
     s.h = [] ∧ s.v = ⟨[], []⟩ ∧ SetView.load s.h "Vary".toList = s.v) := by
  repeat rw [String.toList_ofList]
  decide +kernel

/-- `_DictAccessorProperty`: after `response.<prop> = v` (stored text `dump v`, newline-free) the
getter returns `load (dump v)`, or the default when loading fails -/
theorem typed_get_set {τ : Type} (load : Str → Option τ) (dflt : Option τ) (h : HList) (name text : Str)
    (hv : hasNL text = false) :
    Scalar.get load dflt (Scalar.set h name text).1 name = (match load text with | some x => some x | none => dflt) := by
  unfold Scalar.get Scalar.set
  rw [set_getKey h name text hv]
  cases hl : load text <;> simp [hl]

/-- int-typed properties (content_length, access_control_max_age): the value read back is the int
that was assigned -/
theorem typed_get_set_int (h : HList) (name : Str) (i : Int) :
    Scalar.get CC.pyInt none (Scalar.set h name (CC.intText i)).1 name = some i := by
  rw [typed_get_set CC.pyInt none h name _ (intText_noNL i), pyInt_intText]

/-- str-typed properties (location, content_type, …): the text read back is the text assigned -/
theorem typed_get_set_str (h : HList) (name text : Str) (hv : hasNL text = false) :
    Scalar.get (fun s => some s) none (Scalar.set h name text).1 name = some text := by
  rw [typed_get_set _ none h name text hv]

/-- age: a non-negative count of seconds reads back as assigned (negative ones are refused by
`dump_age`, and a negative header text reads as None) -/
theorem typed_get_set_age (h : HList) (n : Nat) :
    Scalar.get Scalar.parseAge none (Scalar.set h "Age".toList (CC.natText n)).1 "Age".toList = some (n : Int) := by
  rw [typed_get_set Scalar.parseAge none h _ _ (natText_noNL n), parseAge_natText]

/-- deleting a typed property makes the getter return the default -/
theorem typed_delete {τ : Type} (load : Str → Option τ) (dflt : Option τ) (h : HList) (name : Str) :
    Scalar.get load dflt (Scalar.delete h name) name = dflt := by
  simp only [Scalar.get, Scalar.delete, popKey_getKey]

/-- date-typed properties (`date`, `expires`, `last_modified`): a datetime assigned - any instant
from year 100 to year 9999, given in whole seconds `t` since the proleptic-Gregorian epoch after
`http_date` normalised it to UTC at one-second resolution - is stored as its IMF-fixdate text and
read back as the same instant (C06's `date_roundtrip`). -/
theorem typed_get_set_date (h : HList) (name : Str) (t : Nat) (h1 : Date.tMin ≤ t) (h2 : t ≤ Date.tMax) :
    Scalar.get Date.parseDate none (Scalar.set h name (Date.httpDate t)).1 name = some t := by
  rw [typed_get_set Date.parseDate none h name _ (httpDate_noNL t), Date.date_roundtrip_any t h1 h2]

example : Date.tMin ≤ 63839700306 ∧ 63839700306 ≤ Date.tMax := by decide

/-- set-valued properties (`access_control_allow_headers` / `_methods` / `_expose_headers`):
`dump_header(items)` is stored and `parse_set_header` reads back a `HeaderSet` with the same item
list, for every list of strings without CR/LF (C06's `parseSet_dump`). -/
theorem typed_get_set_set (h : HList) (name : Str) (items : List Str) (hv : ∀ w ∈ items, hasNL w = false) :
    Scalar.get (fun s => some (Http.parseSetHeader s)) none (Scalar.set h name (Http.dumpHeaderList items)).1 name
      = some items := by
  have hnl : hasNL (Http.dumpHeaderList items) = false :=
    setDump_noNL ⟨items, []⟩ (by simpa [setGood] using hv)
  rw [typed_get_set _ none h name _ hnl]
  exact congrArg some (parseSet_dump items)

example : ∀ w ∈ ["X-A".toList, "x b".toList], hasNL w = false := by decide

/-- enum-typed properties (`cross_origin_opener_policy`, `cross_origin_embedder_policy`): a member's
value is stored and the member is read back; any other header text reads as the default -/
theorem typed_get_set_enum (h : HList) (name : Str) (members : List String) (v : String)
    (hm : members.contains v = true) (hv : hasNL v.toList = false) (dflt : String) :
    Scalar.get (fun s => if members.contains (String.ofList s) then some (String.ofList s) else none) (some dflt)
      (Scalar.set h name v.toList).1 name = some v := by
  rw [typed_get_set _ _ h name _ hv]
  have hm' : v ∈ members := by simpa using hm
  simp [hm']

example : Gen.Views.coopValues.contains "same-origin" = true ∧ Gen.Views.coepValues.contains "require-corp" = true := by
  decide

/-- `mimetype`: after `response.mimetype = m` (a stripped, non-empty type without `;` and CR/LF) the
getter returns `m` - whether or not `get_content_type` appended `; charset=utf-8` -/
theorem typed_get_set_mimetype (h : HList) (m : Str) (hne : m ≠ []) (hsc : ∀ x ∈ m, (x == ';') = false)
    (hstrip : Views.strip m = m) (hnl : hasNL m = false) :
    MP.mimetype (Scalar.mimetypeSet h m).1 = some m :=
  mimetype_get_set h m hne hsc hstrip hnl

example : Scalar.getContentType "text/html".toList = "text/html; charset=utf-8".toList ∧
    Scalar.getContentType "application/json".toList = "application/json".toList ∧
    Scalar.getContentType "image/svg+xml".toList = "image/svg+xml; charset=utf-8".toList ∧
    Views.strip "text/html".toList = "text/html".toList := by decide +kernel

/-- `retry_after`: an int is stored as its decimal text and found again as that number of seconds
(the getter adds it to the clock); a datetime is stored as IMF-fixdate text which is handed to
`parse_date` (→ `typed_get_set_date`); assigning `None` removes the header -/
theorem typed_get_set_retry_after (h : HList) (i : Int) (t : Nat) :
    Scalar.retryAfterGet (Scalar.retryAfterSet h (some (CC.intText i))).1 = .seconds i ∧
    Scalar.retryAfterGet (Scalar.retryAfterSet h (some (Date.httpDate t))).1 = .date (Date.httpDate t) ∧
    Scalar.retryAfterGet (Scalar.retryAfterSet h none).1 = .none := by
  have key : ∀ v, hasNL v = false → getKey (Hdr.set h "Retry-After".toList v).1 "retry-after".toList = .ok v :=
    fun v hv => set_getKey' h _ _ v (by decide) hv
  refine ⟨?_, ?_, ?_⟩
  · simp only [Scalar.retryAfterGet, Scalar.retryAfterSet, key _ (intText_noNL i), pyInt_intText]
  · have hd : CC.pyInt (Date.httpDate t) = none := httpDate_not_int t
    simp only [Scalar.retryAfterGet, Scalar.retryAfterSet, key _ (httpDate_noNL t), hd]
  · simp only [Scalar.retryAfterGet, Scalar.retryAfterSet, ite_contains_delKey_getKey]

/-- `access_control_allow_credentials`: `True` stores `true` and reads back `True`; anything else
removes the header and reads back `False` -/
theorem typed_get_set_credentials (h : HList) :
    Scalar.credentialsGet (Scalar.credentialsSet h true).1 = true ∧
    Scalar.credentialsGet (Scalar.credentialsSet h false).1 = false := by
  constructor
  · simp only [Scalar.credentialsGet, Scalar.credentialsSet, if_true, contains_eq_getKey,
      set_getKey h Scalar.credentialsName "true".toList (by decide)]
  · simp only [Scalar.credentialsGet, Scalar.credentialsSet, Bool.false_eq_true, if_false, contains_eq_getKey,
      popKey_getKey]

/-- `set_etag` / `get_etag`: for every tag without `"` and CR/LF, weak or strong, `get_etag()` after
`set_etag(e, weak)` is `(e, weak)` (C06's `etag_roundtrip`); a tag containing `"` is refused and the
headers are unchanged -/
theorem typed_get_set_etag (h : HList) (e : Str) (weak : Bool) (hq : e.contains '"' = false) (hnl : hasNL e = false) :
    Scalar.getEtag (Scalar.setEtag h e weak).1 = some (e, weak) := by
  rw [Scalar.getEtag, Scalar.setEtag, Http.quoteEtag_of_noQuote e weak hq]
  simp only [set_getKey h _ _ ((hasNL_etagItemText e weak).trans hnl), Http.unquoteEtag_itemText]

example : Scalar.setEtag [] "a\"b".toList false = ([], .error "ValueError") := by decide

/-- **every typed Cache-Control accessor x every kind of value**: `_set_cache_value` followed by
`_get_cache_value`, evaluated on the live class for directive type bool / int / str x value None /
True / False / zero, positive, negative ints / empty, numeric, other strings x directive absent or
present - the model's `CC.setValue` / `CC.getValue` predict every row (what is stored: removed, present
without value, the text; ValueError; and the typed read-back). A bool directive is removed by every
falsy value and set by every truthy one. -/
theorem cache_set_table_matches_model :
    Gen.CacheSetTable.rows.all (fun (ty, code, present, stored, got) =>
      CC.tableRow ty.toList code.toList present == (stored.toList, got.toList)) = true ∧
    Gen.CacheSetTable.rows.length = 66 := by
  decide +kernel

/-! ## every header-backed attribute of `sansio.Response` is covered

`Gen.ResponseProps.attrs` is regenerated from the live class and the AST of the module: every
descriptor of the class and every method that touches `self.headers`. -/

/-- attribute → the theorems that speak about it -/
def covered : List (String × String) := [
  ("accept_ranges", "typed_get_set_str"), ("access_control_allow_credentials", "typed_get_set_credentials"),
  ("access_control_allow_headers", "typed_get_set_set"), ("access_control_allow_methods", "typed_get_set_set"),
  ("access_control_allow_origin", "typed_get_set_str"), ("access_control_expose_headers", "typed_get_set_set"),
  ("access_control_max_age", "typed_get_set_int"), ("age", "typed_get_set_age"),
  ("allow", "view_coherent_set"), ("cache_control", "view_coherent_cc"),
  ("content_encoding", "typed_get_set_str"), ("content_language", "view_coherent_set"),
  ("content_length", "typed_get_set_int"), ("content_location", "typed_get_set_str"),
  ("content_md5", "typed_get_set_str"), ("content_range", "view_coherent_cr"),
  ("content_security_policy", "view_coherent_csp"), ("content_security_policy_report_only", "view_coherent_csp"),
  ("content_type", "typed_get_set_str"), ("cross_origin_embedder_policy", "typed_get_set_enum"),
  ("cross_origin_opener_policy", "typed_get_set_enum"), ("date", "typed_get_set_date"),
  ("expires", "typed_get_set_date"), ("get_etag", "typed_get_set_etag"),
  ("last_modified", "typed_get_set_date"), ("location", "typed_get_set_str"),
  ("mimetype", "typed_get_set_mimetype"), ("mimetype_params", "view_coherent_mp"),
  ("retry_after", "typed_get_set_retry_after"), ("set_etag", "typed_get_set_etag"),
  ("vary", "view_coherent_set"), ("www_authenticate", "view_coherent_auth")]

/-- attribute → why it is not a C16 obligation -/
def excluded : List (String × String) := [
  ("set_cookie", "Set-Cookie is write-only here; dump_cookie / parse_cookie are property C13"),
  ("status", "not header-backed (status line; _clean_status is modelled in C05)"),
  ("status_code", "not header-backed"),
  ("is_json", "read-only predicate on mimetype")]

/-- the (load, dump) pairs of `header_property` descriptors the typed theorems cover -/
def codecPairs : List (String × String × String) := [
  ("none", "none", "typed_get_set_str"), ("int", "str", "typed_get_set_int"),
  ("parse_age", "dump_age", "typed_get_set_age"), ("parse_date", "http_date", "typed_get_set_date"),
  ("parse_set_header", "dump_header", "typed_get_set_set"), ("<lambda>", "<lambda>", "typed_get_set_enum")]

/-- **Coverage**: every descriptor of `sansio.Response` and every method using `self.headers` is
mapped to its theorem or explicitly excluded; nothing listed is stale; every `header_property` is in
the generated descriptor table with a (load, dump) pair that has a typed theorem and is mapped to
that theorem; every `_set_property` is in the generated set-view table; the view-kind attributes are
exactly the six view families. A new or renamed property, or a new codec pair, breaks this. -/
theorem response_attrs_covered :
    Gen.ResponseProps.attrs.all (fun (a, _, _, _, _) =>
      (covered.map (·.1)).contains a != (excluded.map (·.1)).contains a) = true ∧
    (covered ++ excluded).all (fun (a, _) => (Gen.ResponseProps.attrs.map (·.1)).contains a) = true ∧
    Gen.ResponseProps.attrs.all (fun (a, k, _, _, _) => k != "header_property" ||
      Gen.Views.headerProps.any (fun (a', _, lf, df, _, _) => a' == a &&
        codecPairs.any (fun (l, d, thm) => l == lf && d == df && covered.contains (a, thm)))) = true ∧
    Gen.ResponseProps.attrs.all (fun (a, k, hn, _, _) => k != "set_view" ||
      Gen.Views.setProps.any (fun (a', n) => a' == a && hn == [n])) = true ∧
    (Gen.ResponseProps.attrs.filter (fun (_, k, _, _, _) => k == "view")).map (·.1) =
      ["cache_control", "content_range", "content_security_policy", "content_security_policy_report_only",
       "mimetype_params", "www_authenticate"] := by
  decide +kernel

/-- the `on_update` (re)binding of `www_authenticate` is unconditional in the source: the getter and
the setter each assign `value._on_update` exactly once, not under a test of that attribute (the
model's `rebinds := true`; the C16-c2 regression) -/
theorem www_authenticate_rebinds_in_source : Gen.ResponseProps.wwwAuthRebind = ((1, 0), (1, 0)) := by decide

end Wz.Props.C16
