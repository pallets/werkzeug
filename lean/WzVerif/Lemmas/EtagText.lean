/-
Entity-tag *lists* as header text, for C11's `If-None-Match` / `If-Match` theorems. `parse_etags` on a rendered list of
quoted tags (`"t1", W/"t2", …` with any `\s*,\s*` separator) yields exactly those tags (`parseEtags_render`) — whatever
the tag texts are, in particular when a tag's text looks like syntax (`*`, `W/`, `,`, empty). What the parsed list
then answers to the strong and the weak comparison and to the truth test is `contains_render`, `containsWeak_render`,
`truthy_render`. The tags are `CleanTag`s (no `"`, no line feed: what the lazy quoted alternative of `_etag_re` reads back
whole). At the end, the one unquoted form that is read back as itself: `PlainTag`, `parseEtags_plain`.
-/
import WzVerif.Lemmas.Conditional
namespace Wz.Cond
open Wz

/-- tag text that the lazy `"(.*?)"` of `_etag_re` reads back whole: no `"` and no line feed inside -/
def CleanTag (tag : Str) : Prop := ∀ c ∈ tag, c ≠ '"' ∧ c ≠ '\n'

theorem weakPrefix_other {s : Str} (h : ∀ t, s ≠ 'W' :: '/' :: t ∧ s ≠ 'w' :: '/' :: t) :
    weakPrefix s = (false, s) := by
  unfold weakPrefix
  split
  · exact absurd rfl (h _).1
  · exact absurd rfl (h _).2
  · rfl

theorem getLast_quote (tag : Str) : ('"' :: (tag ++ ['"'])).getLast? = some '"' := by
  rw [← List.cons_append, List.getLast?_append]
  simp

theorem strip_quoteTag (tag : Str) : Py.strip (quoteTag tag) = quoteTag tag :=
  strip_first_last tag (by decide) (by decide)

/-- `"tag"` or `W/"tag"` -/
def renderTag (t : Str × Bool) : Str := if t.2 then 'W' :: '/' :: quoteTag t.1 else quoteTag t.1

/-- a list separator `\s*,\s*` -/
def IsSep (sep : Str) : Prop :=
  ∃ a b, sep = a ++ ',' :: b ∧ (∀ c ∈ a, Py.isSpace c = true) ∧ (∀ c ∈ b, Py.isSpace c = true)

def renderTags (sep : Str) : List (Str × Bool) → Str
  | [] => []
  | [t] => renderTag t
  | t :: t' :: r => renderTag t ++ (sep ++ renderTags sep (t' :: r))

def strongOf (ts : List (Str × Bool)) : List (Option Str) := (ts.filter (!·.2)).map (some ·.1)
def weakOf (ts : List (Str × Bool)) : List (Option Str) := (ts.filter (·.2)).map (some ·.1)

theorem etagDelim_sep (sep rest : Str) (hs : IsSep sep)
    (hr : ∀ c, rest.head? = some c → Py.isSpace c = false) :
    etagDelim (sep ++ rest) = some rest := by
  obtain ⟨a, b, rfl, ha, hb⟩ := hs
  unfold etagDelim
  have hne : (a ++ ',' :: b ++ rest).isEmpty = false := by
    cases a <;> simp
  simp only [hne, Bool.false_eq_true, ↓reduceIte]
  have e1 : (a ++ ',' :: b ++ rest) = a ++ (',' :: (b ++ rest)) := by simp
  rw [e1, List.dropWhile_append_of_pos ha]
  have hc : Py.isSpace ',' = false := by decide
  simp only [List.dropWhile_cons, hc, Bool.false_eq_true, ↓reduceIte]
  rw [List.dropWhile_append_of_pos hb, dropWhile_head_false hr]

/-- the lazy `"(.*?)"` stops at the first quote that a delimiter follows; a clean tag has none inside -/
theorem quotedTag_clean_rest (tag acc rest r : Str) (h : CleanTag tag) (hd : etagDelim rest = some r) :
    quotedTag (tag ++ '"' :: rest) acc = some (acc.reverse ++ tag, r) := by
  induction tag generalizing acc with
  | nil => simp [quotedTag, hd]
  | cons c t ih =>
    have hc := h c (by simp)
    have ht : CleanTag t := fun x hx => h x (by simp [hx])
    simp only [List.cons_append, quotedTag]
    have h1 : (c == '"') = false := by simpa using hc.1
    have h2 : (c == '\n') = false := by simpa using hc.2
    simp only [h1, h2, Bool.false_eq_true, ↓reduceIte]
    rw [ih (c :: acc) ht]
    simp

/-- one iteration of the `parse_etags` loop on a quoted tag: the tag is stored as it is spelled —
**never** read as the wildcard, whatever its text -/
theorem parseEtagsLoop_tag (fuel : Nat) (t : Str × Bool) (rest r : Str) (st wk : List (Option Str))
    (h : CleanTag t.1) (hd : etagDelim rest = some r) :
    parseEtagsLoop (fuel + 1) (renderTag t ++ rest) st wk =
      if t.2 then parseEtagsLoop fuel r st (some t.1 :: wk)
      else parseEtagsLoop fuel r (some t.1 :: st) wk := by
  obtain ⟨tag, w⟩ := t
  have hq := quotedTag_clean_rest tag [] rest r h hd
  simp only [List.reverse_nil, List.nil_append] at hq
  cases w with
  | false =>
    simp only [renderTag, quoteTag, Bool.false_eq_true, ↓reduceIte, List.cons_append, List.append_assoc]
    rw [parseEtagsLoop]
    simp [weakPrefix, etagMatch, quotedAt, hq]
  | true =>
    simp only [renderTag, quoteTag, ↓reduceIte, List.cons_append, List.append_assoc]
    rw [parseEtagsLoop]
    simp [weakPrefix, etagMatch, quotedAt, hq]

theorem renderTag_head (t : Str × Bool) : ∃ c rest, renderTag t = c :: rest ∧ Py.isSpace c = false := by
  obtain ⟨tag, w⟩ := t
  cases w with
  | false => exact ⟨'"', tag ++ ['"'], rfl, by decide⟩
  | true => exact ⟨'W', '/' :: quoteTag tag, rfl, by decide⟩

theorem renderTags_head (sep : Str) (t : Str × Bool) (r : List (Str × Bool)) :
    ∀ c, (renderTags sep (t :: r)).head? = some c → Py.isSpace c = false := by
  intro c hc
  obtain ⟨c0, rest, he, hsp⟩ := renderTag_head t
  cases r with
  | nil =>
    simp only [renderTags, he, List.head?_cons, Option.some.injEq] at hc
    subst hc; exact hsp
  | cons t' r' =>
    simp only [renderTags, he, List.cons_append, List.head?_cons, Option.some.injEq] at hc
    subst hc; exact hsp

theorem parseEtagsLoop_render (sep : Str) (hs : IsSep sep) (ts : List (Str × Bool))
    (hc : ∀ t ∈ ts, CleanTag t.1) (fuel : Nat) (hf : ts.length < fuel) (st wk : List (Option Str)) :
    parseEtagsLoop fuel (renderTags sep ts) st wk =
      ⟨st.reverse ++ strongOf ts, wk.reverse ++ weakOf ts, false⟩ := by
  induction ts generalizing fuel st wk with
  | nil =>
    cases fuel with
    | zero => omega
    | succ f => simp [renderTags, parseEtagsLoop, strongOf, weakOf]
  | cons t r ih =>
    cases fuel with
    | zero => omega
    | succ f =>
      have hct : CleanTag t.1 := hc t (by simp)
      have hcr : ∀ x ∈ r, CleanTag x.1 := fun x hx => hc x (by simp [hx])
      have hfr : r.length < f := by simp only [List.length_cons] at hf; omega
      cases r with
      | nil =>
        have e : renderTags sep [t] = renderTag t ++ [] := by simp [renderTags]
        rw [e, parseEtagsLoop_tag f t [] [] st wk hct (by simp [etagDelim])]
        have h0 := ih hcr f hfr
        simp only [renderTags] at h0
        obtain ⟨tag, w⟩ := t
        cases w <;> simp [h0, strongOf, weakOf]
      | cons t' r' =>
        have e : renderTags sep (t :: t' :: r') = renderTag t ++ (sep ++ renderTags sep (t' :: r')) := rfl
        rw [e, parseEtagsLoop_tag f t _ _ st wk hct
          (etagDelim_sep sep _ hs (renderTags_head sep t' r'))]
        have h0 := ih hcr f hfr
        obtain ⟨tag, w⟩ := t
        cases w <;> simp [h0, strongOf, weakOf]

theorem renderTag_length (t : Str × Bool) : 2 ≤ (renderTag t).length := by
  obtain ⟨tag, w⟩ := t
  cases w <;> simp [renderTag, quoteTag] <;> omega

theorem renderTags_length (sep : Str) (ts : List (Str × Bool)) : ts.length ≤ (renderTags sep ts).length := by
  induction ts with
  | nil => simp
  | cons t r ih =>
    cases r with
    | nil => have := renderTag_length t; simp [renderTags]; omega
    | cons t' r' =>
      have := renderTag_length t
      simp only [renderTags, List.length_append, List.length_cons] at ih ⊢
      omega

/-- `parse_etags` on the header text of a non-empty list of quoted entity tags: exactly those tags,
strong and weak apart, and **no wildcard** — for every tag text without `"` and line feed, e.g.
`*`, `W/`, `,`, the empty text. -/
theorem parseEtags_render (sep : Str) (hs : IsSep sep) (ts : List (Str × Bool)) (hne : ts ≠ [])
    (hc : ∀ t ∈ ts, CleanTag t.1) :
    parseEtags (some (renderTags sep ts)) = ⟨strongOf ts, weakOf ts, false⟩ := by
  unfold parseEtags
  have hl := renderTags_length sep ts
  have hnE : (renderTags sep ts).isEmpty = false := by
    cases ts with
    | nil => exact absurd rfl hne
    | cons t r =>
      have := renderTags_head sep t r
      cases h : renderTags sep (t :: r) with
      | nil => simp [h] at hl
      | cons _ _ => rfl
  simp only [hnE, Bool.false_eq_true, ↓reduceIte]
  rw [parseEtagsLoop_render sep hs ts hc _ (by omega)]
  simp

theorem strip_renderTag (t : Str × Bool) : Py.strip (renderTag t) = renderTag t := by
  obtain ⟨tag, w⟩ := t
  cases w with
  | false => exact strip_quoteTag tag
  | true => exact strip_first_last ('/' :: '"' :: tag) (by decide) (by decide)

theorem unquoteEtag_render (t : Str × Bool) : unquoteEtag (renderTag t) = some t := by
  unfold unquoteEtag
  rw [strip_renderTag]
  obtain ⟨tag, w⟩ := t
  cases w with
  | false => simp [renderTag, quoteTag, getLast_quote]
  | true => simp [renderTag, quoteTag, getLast_quote]

theorem parseEtags_quoted (tag : Str) (h : CleanTag tag) :
    parseEtags (some (quoteTag tag)) = ⟨[some tag], [], false⟩ :=
  parseEtags_render [','] ⟨[], [], rfl, by simp, by simp⟩ [(tag, false)] (by simp) (by simpa using h)

theorem unquoteEtag_quoted (tag : Str) : unquoteEtag (quoteTag tag) = some (tag, false) :=
  unquoteEtag_render (tag, false)

theorem mem_strongOf (ts : List (Str × Bool)) (e : Str) :
    (strongOf ts).contains (some e) = true ↔ (e, false) ∈ ts := by
  simp only [strongOf, List.contains_iff_mem, List.mem_map, List.mem_filter, Option.some.injEq]
  constructor
  · rintro ⟨⟨a, w⟩, ⟨hm, hw⟩, rfl⟩
    have : w = false := by simpa using hw
    subst this; exact hm
  · intro h; exact ⟨(e, false), ⟨h, rfl⟩, rfl⟩

theorem mem_weakOf (ts : List (Str × Bool)) (e : Str) :
    (weakOf ts).contains (some e) = true ↔ (e, true) ∈ ts := by
  simp only [weakOf, List.contains_iff_mem, List.mem_map, List.mem_filter, Option.some.injEq]
  constructor
  · rintro ⟨⟨a, w⟩, ⟨hm, hw⟩, rfl⟩
    have : w = true := by simpa using hw
    subst this; exact hm
  · intro h; exact ⟨(e, true), ⟨h, rfl⟩, rfl⟩

/-- strong comparison against a parsed list: only the strong entries count -/
theorem contains_render (ts : List (Str × Bool)) (e : Str) :
    (ETags.mk (strongOf ts) (weakOf ts) false).contains e = true ↔ (e, false) ∈ ts := by
  simp only [ETags.contains, Bool.false_or, mem_strongOf]

/-- weak comparison against a parsed list: the `W/` marks are ignored -/
theorem containsWeak_render (ts : List (Str × Bool)) (e : Str) :
    (ETags.mk (strongOf ts) (weakOf ts) false).containsWeak e = true ↔ ∃ t ∈ ts, t.1 = e := by
  simp only [ETags.containsWeak, ETags.contains, Bool.false_or, Bool.or_eq_true, mem_strongOf, mem_weakOf]
  constructor
  · rintro (h | h) <;> exact ⟨_, h, rfl⟩
  · rintro ⟨⟨a, b⟩, hm, rfl⟩
    cases b
    · exact Or.inr hm
    · exact Or.inl hm

theorem truthy_render (ts : List (Str × Bool)) (hne : ts ≠ []) :
    (ETags.mk (strongOf ts) (weakOf ts) false).truthy = true := by
  cases ts with
  | nil => exact absurd rfl hne
  | cons t r =>
    obtain ⟨tag, w⟩ := t
    cases w <;> simp [ETags.truthy, strongOf, weakOf]

/-- tag text that `parse_etags` reads back as the single strong tag it is: no white space, `,`,
`"`, `/`, `*` -/
def PlainTag (tag : Str) : Prop :=
  tag ≠ [] ∧ ∀ c ∈ tag, Py.isSpace c = false ∧ c ≠ ',' ∧ c ≠ '"' ∧ c ≠ '/' ∧ c ≠ '*'

theorem etagDelim_plain (c : Char) (t : Str) (hs : Py.isSpace c = false) (hc : c ≠ ',') :
    etagDelim (c :: t) = none := by
  unfold etagDelim
  simp only [List.isEmpty_cons, Bool.false_eq_true, ↓reduceIte, List.dropWhile_cons, hs]
  split
  · rename_i heq
    simp only [List.cons.injEq] at heq
    exact absurd heq.1 hc
  · rfl

theorem rawTag_plain (tag acc : Str)
    (h : ∀ c ∈ tag, Py.isSpace c = false ∧ c ≠ ',' ∧ c ≠ '"' ∧ c ≠ '/' ∧ c ≠ '*') :
    rawTag tag acc = some (acc.reverse ++ tag, []) := by
  induction tag generalizing acc with
  | nil => unfold rawTag; simp
  | cons c t ih =>
    obtain ⟨hs, hc, _⟩ := h c (by simp)
    have hnl : (c == '\n') = false := by
      rw [beq_eq_false_iff_ne]; intro e; subst e; revert hs; decide
    conv => lhs; unfold rawTag
    simp only [etagDelim_plain c t hs hc, hnl, Bool.false_eq_true, ↓reduceIte]
    rw [ih (c :: acc) (fun x hx => h x (by simp [hx]))]
    simp

theorem weakPrefix_plain (tag : Str) (h : ∀ c ∈ tag, c ≠ '/') : weakPrefix tag = (false, tag) :=
  weakPrefix_other fun t => ⟨fun e => h '/' (by simp [e]) rfl, fun e => h '/' (by simp [e]) rfl⟩

theorem quotedAt_plain (tag : Str) (h : ∀ c ∈ tag, c ≠ '"') : quotedAt tag = none := by
  unfold quotedAt
  split
  · exact absurd rfl (h '"' (by simp))
  · rfl

theorem parseEtags_plain (tag : Str) (h : PlainTag tag) :
    parseEtags (some tag) = ⟨[some tag], [], false⟩ := by
  obtain ⟨hne, hall⟩ := h
  have hraw := rawTag_plain tag [] hall
  simp only [List.reverse_nil, List.nil_append] at hraw
  have hw := weakPrefix_plain tag (fun c hc => (hall c hc).2.2.2.1)
  have hq := quotedAt_plain tag (fun c hc => (hall c hc).2.2.1)
  have hstar : (tag == ['*']) = false := by
    rw [beq_eq_false_iff_ne]; intro e
    exact (hall '*' (by rw [e]; simp)).2.2.2.2 rfl
  have hE : tag.isEmpty = false := by
    cases tag with
    | nil => exact absurd rfl hne
    | cons _ _ => rfl
  unfold parseEtags
  simp only [hE, Bool.false_eq_true, ↓reduceIte]
  rw [parseEtagsLoop]
  simp only [hE, Bool.false_eq_true, ↓reduceIte, hw, etagMatch, hq, hraw, hstar]
  cases hl : tag.length with
  | zero => simp [parseEtagsLoop]
  | succ n => simp [parseEtagsLoop]

end Wz.Cond
