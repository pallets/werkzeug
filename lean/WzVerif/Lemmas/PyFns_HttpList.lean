/-
What the equalities of Props/C06T (translated `parse_list_header`, `dump_header`, `dump_options_header`, `quote_etag`,
`parse_set_header` = `Model/Http.lean`) need about the model and the prelude alone. The translator inlines Python idioms wherever
they occur, so each idiom is one lemma whose left-hand side is the emitted text with arbitrary continuations, and whose right-hand
side is the model's function for it: `len(v) >= 2 and v[0] == v[-1] == '"'` / `v[1:-1]` is `stripDq?` (`dq_step2`, `dq_step`),
`key[-1] == "*"` is `getLast?` (`star_step`); the prelude's dict primitives are the model's by definition.
-/
import WzVerif.Model.Http
import WzVerif.Lemmas.PyFns_Prelude
namespace Wz.PyFnsHttp
open Wz Wz.Pre

theorem getItemStr_zero {α : Type} (s : List α) :
    getItemStr s 0 = match s.head? with
      | some c => .ok [c]
      | none => .error "IndexError" := by
  cases s with
  | nil => simp [getItemStr_zero_nil]
  | cons x t => simp [getItemStr_zero_cons]

theorem last!_eq (s : Str) : Http.last! s = match s.getLast? with
    | some c => .ok c
    | none => .error "IndexError" := by
  unfold Http.last!; cases s.getLast? <;> rfl

/-- the value the idiom `if len(v) >= 2 and v[0] == v[-1] == '"': v = v[1:-1]` leaves in `v` -/
def unq (v : Str) : Str := (Http.stripDq? v).getD v

/-- the test `len(v) >= 2 and v[0] == v[-1] == '"'` -/
def isDq (v : Str) : Bool := (Http.stripDq? v).isSome

theorem stripDq?_nil : Http.stripDq? [] = none := rfl

theorem stripDq?_single (x : Char) : Http.stripDq? [x] = none := by
  unfold Http.stripDq?
  split <;> simp_all

theorem stripDq?_cons2 (x y : Char) (t : Str) :
    Http.stripDq? (x :: y :: t) =
      if x = '"' ∧ (y :: t).getLast (by simp) = '"' then some (slice (x :: y :: t) (some 1) (some (-1))) else none := by
  have hl2 : (y :: t).getLast? = some ((y :: t).getLast (by simp)) := List.getLast?_eq_some_getLast (by simp)
  rw [slice_one_neg_one_cons]
  unfold Http.stripDq?
  by_cases hx : x = '"'
  · subst hx
    simp only [hl2, true_and]
    by_cases hz : (y :: t).getLast (by simp) = '"'
    · simp [hz]
    · simp [hz]
  · simp [hx]

/-- the two comparisons `v[0] == v[-1]` and `v[-1] == '"'` on one-character texts -/
theorem dq_cmp (a b : Char) : (([a] : Str) == [b] && ([b] : Str) == ['"']) = (decide (a = '"' ∧ b = '"')) := by
  by_cases ha : a = '"' <;> by_cases hb : b = '"' <;> simp [ha, hb]

/-- the idiom `if len(v) >= 2 and v[0] == v[-1] == '"': …` as the translator emits it (evaluation order made
explicit; `e` = what an IndexError would lead to: never reached), with a continuation for each outcome: `g`
receives `v[1:-1]`, `f` receives `v`. Stated for arbitrary continuations so that every translated function
containing the idiom can use it (`have := dq_step2 …; simp at this ⊢; exact this` - the `match`es agree up
to unfolding). -/
theorem dq_step2 {β : Type} (item : Str) (g f : Str → β) (e : String → β) :
    (if decide (Int.ofNat item.length ≥ 2) then
      match Pre.getItemStr item 0 with
      | .error x => e x
      | .ok a =>
        match Pre.getItemStr item (-1) with
        | .error x => e x
        | .ok b => if (a == b) && (b == ['"']) then g (Pre.slice item (some 1) (some (-1))) else f item
    else f item) = match Http.stripDq? item with
      | some inner => g inner
      | none => f item := by
  match item with
  | [] => simp [stripDq?_nil]
  | [x] => simp [stripDq?_single]
  | x :: y :: t =>
    have hlen : decide (Int.ofNat (x :: y :: t).length ≥ 2) = true := by simp; omega
    rw [stripDq?_cons2]
    simp only [hlen, if_true, getItemStr_zero_cons, getItemStr_neg_one_cons, dq_cmp]
    have hl : (x :: y :: t).getLast (by simp) = (y :: t).getLast (by simp) := by simp
    rw [hl]
    by_cases h : x = '"' ∧ (y :: t).getLast (by simp) = '"' <;> simp [h]

/-- the same idiom when both outcomes go on alike, `if …: v = v[1:-1]` followed by anything that uses `v`
(`f`): `f` applied to the unquoted value -/
theorem dq_step {β : Type} (item : Str) (f : Str → β) (e : String → β) :
    (if decide (Int.ofNat item.length ≥ 2) then
      match Pre.getItemStr item 0 with
      | .error x => e x
      | .ok a =>
        match Pre.getItemStr item (-1) with
        | .error x => e x
        | .ok b => if (a == b) && (b == ['"']) then f (Pre.slice item (some 1) (some (-1))) else f item
    else f item) = f (unq item) := by
  rw [dq_step2, unq]
  cases Http.stripDq? item <;> rfl

/-- `key[-1] == "*"` followed by two alternatives, as the translator emits it -/
theorem star_step {β : Type} (key : Str) (a b : β) (e : String → β) :
    (match Pre.getItemStr key (-1) with
      | .error x => e x
      | .ok l => if l == ['*'] then a else b) =
    (match key.getLast? with
      | none => e "IndexError"
      | some l => if l == '*' then a else b) := by
  rw [getItemStr_neg_one]
  cases key.getLast? with
  | none => rfl
  | some l => by_cases h : l = '*' <;> simp [h]

/-- what `dump_header` / `dump_options_header` print for one `key: value` (value not None):
`key[-1]` raises IndexError for an empty key, a key ending in `*` keeps the value unquoted -/
def kvText (key v : Str) : Except String Str :=
  match key.getLast? with
  | none => .error "IndexError"
  | some l => if l == '*' then .ok (key ++ '=' :: v) else .ok (key ++ '=' :: Http.quoteHeaderValue v)

/-- one item of `dump_header(dict)` -/
def dictItemText (kv : Str × Option Str) : Except String Str :=
  match kv.2 with
  | none => .ok kv.1
  | some v => kvText kv.1 v

theorem kvText_eq (key v : Str) :
    kvText key v = (do
      let l ← Http.last! key
      if l == '*' then pure (key ++ '=' :: v) else pure (key ++ '=' :: Http.quoteHeaderValue v)) := by
  unfold kvText
  rw [last!_eq]
  cases key.getLast? with
  | none => rfl
  | some l => by_cases h : l = '*' <;> simp [h, bind, Except.bind, pure, Except.pure]

theorem dumpHeaderDict_spec (d : List (Str × Option Str)) :
    Http.dumpHeaderDict d = (do let items ← d.mapM dictItemText; pure (Http.join ", " items)) := by
  unfold Http.dumpHeaderDict
  congr 2
  funext x
  obtain ⟨key, value⟩ := x
  cases value with
  | none => rfl
  | some v => simp only [dictItemText, kvText_eq]

theorem optionSegment_eq (kv : Str × Option Str) :
    Http.optionSegment kv = match kv.2 with
      | none => .ok none
      | some v => (kvText kv.1 v).map some := by
  unfold Http.optionSegment
  cases kv.2 with
  | none => rfl
  | some v =>
    simp only [kvText, last!_eq]
    cases kv.1.getLast? with
    | none => rfl
    | some l => by_cases h : l = '*' <;> simp [h, bind, Except.bind, pure, Except.pure, Except.map]

theorem dictHas_eq {ν : Type} (d : Http.Dict ν) (k : Str) : Pre.dictHas d k = Http.dictHas d k := rfl
theorem dictGet?_eq {ν : Type} (d : Http.Dict ν) (k : Str) : Pre.dictGet? d k = Http.dictGet? d k := rfl
theorem dictSet_eq {ν : Type} (d : Http.Dict ν) (k : Str) (v : ν) : Pre.dictSet d k v = Http.dictSet d k v := rfl
theorem dictDel_eq {ν : Type} (d : Http.Dict ν) (k : Str) : Pre.dictDel d k = Http.dictPop d k := rfl

end Wz.PyFnsHttp
