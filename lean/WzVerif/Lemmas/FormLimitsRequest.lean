/-
The request level of C10 (Model/FormLimitsRequest.lean): the access tree (`Request.stream`,
`_load_form_data`, `get_data`, the attributes) as equations and eliminators, one per branch; what every access
keeps true of the request state (`Stable`: the limits handed to each parser run, the bytes taken from
`wsgi.input`); and what a form access shows in terms of the parser models `formParse` / `parseUrlencoded`
(`parseFrom_clean`: on a stream that ends cleanly, only the bytes delivered matter).
-/
import WzVerif.Model.FormLimitsRequest
import WzVerif.Lemmas.FormLimitsSim
namespace Wz.FormReq
open Wz Wz.Multipart

theorem getStream_some {c : Cfg} {w : RS} {s : Strm} (h : w.stream = some s) : getStream c w = .ok (s, w) := by
  simp only [getStream, h]

theorem getStream_none {c : Cfg} {w : RS} (h : w.stream = none) :
    getStream c w =
      match chooseStream c with
      | none => .error "RequestEntityTooLarge"
      | some s => .ok (s, { w with stream := some s }) := by
  simp only [getStream, h]
  cases chooseStream c <;> rfl

theorem getStream_cases {motive : Except String (Strm × RS) → Prop} (c : Cfg) (w : RS)
    (held : ∀ s, w.stream = some s → motive (.ok (s, w)))
    (created : ∀ s, w.stream = none → chooseStream c = some s → motive (.ok (s, { w with stream := some s })))
    (refused : w.stream = none → chooseStream c = none → motive (.error "RequestEntityTooLarge")) :
    motive (getStream c w) := by
  cases hs : w.stream with
  | some s => rw [getStream_some hs]; exact held s hs
  | none =>
    rw [getStream_none hs]
    cases hc : chooseStream c with
    | none => exact refused hs hc
    | some s => exact created s hs hc

theorem getStream_eq {c : Cfg} {w w1 : RS} {s : Strm} (h : getStream c w = .ok (s, w1)) :
    w1 = { w with stream := some s } := by
  revert h
  refine getStream_cases (motive := fun r => r = .ok (s, w1) → _) c w (fun s0 hs h => ?_) (fun s0 _ _ h => ?_)
    (fun _ _ h => ?_) <;> cases h
  · cases w; simp_all
  · rfl

theorem loadForm_loaded {c : Cfg} {w : RS} {r : FormRes} (hf : w.form = some r) : loadForm c w = (none, w) := by
  simp [loadForm, hf]

theorem loadForm_cached {c : Cfg} {w : RS} {d : Bytes} (hf : w.form = none) (hm : c.mime ≠ .absent)
    (hc : w.cached = some d) : loadForm c w = loadCached c w d := by
  simp [loadForm, hf, hm, hc]

theorem loadForm_stream {c : Cfg} {w : RS} (hf : w.form = none) (hm : c.mime ≠ .absent)
    (hc : w.cached = none) : loadForm c w = loadStream c w := by
  simp [loadForm, hf, hm, hc]

theorem loadForm_plain {c : Cfg} {w : RS} (hf : w.form = none) (hm : c.mime = .absent) :
    loadForm c w = loadPlain c w := by
  simp [loadForm, hf, hm]

theorem loadForm_cases {motive : Option String × RS → Prop} (c : Cfg) (w : RS)
    (loaded : ∀ r, w.form = some r → motive (none, w))
    (cached : ∀ d, w.form = none → c.mime ≠ .absent → w.cached = some d → motive (loadCached c w d))
    (stream : w.form = none → c.mime ≠ .absent → w.cached = none → motive (loadStream c w))
    (plain : w.form = none → c.mime = .absent → motive (loadPlain c w)) : motive (loadForm c w) := by
  cases hf : w.form with
  | some r => rw [loadForm_loaded hf]; exact loaded r hf
  | none =>
    by_cases hm : c.mime = .absent
    · rw [loadForm_plain hf hm]; exact plain hf hm
    · cases hc : w.cached with
      | some d => rw [loadForm_cached hf hm hc]; exact cached d hf hm hc
      | none => rw [loadForm_stream hf hm hc]; exact stream hf hm hc

/-- the three accesses that go through `_load_form_data` and show its result -/
def Op.isFormAccess : Op → Bool
  | .form => true
  | .files => true
  | .values => true
  | _ => false

/-- what a form access shows for the outcome `r` of `_load_form_data`'s parse -/
def obsOf (op : Op) (r : Except String FormRes) : Obs :=
  match r with
  | .error e => .exc e
  | .ok res => match op with
    | .files => .files res.2
    | _ => .fields res.1

/-- `.form`, `.values`, `.files`: `_load_form_data()`, then the attribute -/
theorem stepOp_formAccess (c : Cfg) (w : RS) {op : Op} (h : op.isFormAccess = true) :
    stepOp c w op =
      (match (loadForm c w).1 with
        | some e => .exc e
        | none => obsOf op (.ok ((loadForm c w).2.form.getD ([], []))), (loadForm c w).2) := by
  cases op <;> simp [Op.isFormAccess] at h <;>
    (simp only [stepOp]; rcases loadForm c w with ⟨e, w'⟩; cases e <;> rfl)

/-- `.data` and `get_json()`: `get_data(…)`, then a flag is set when it returned -/
def afterData (g : Bytes → Obs) (u : Bytes → RS → RS) (r : Except String Bytes × RS) : Obs × RS :=
  match r with
  | (.error e, w') => (.exc e, w')
  | (.ok d, w') => (g d, u d w')

theorem stepOp_data (c : Cfg) (w : RS) :
    stepOp c w .data =
      match w.dataProp with
      | some d => (.bytes d, w)
      | none => afterData .bytes (fun d w' => { w' with dataProp := some d }) (getData c true true w) := by
  simp only [stepOp, afterData]
  cases w.dataProp with
  | some d => rfl
  | none => simp only; rcases getData c true true w with ⟨r, w'⟩; cases r <;> rfl

theorem stepOp_json (c : Cfg) (w : RS) (cache : Bool) :
    stepOp c w (.json cache) =
      if (cache && w.jsonDone) = true then (.json, w)
      else afterData (fun _ => .json) (fun _ w' => { w' with jsonDone := w'.jsonDone || cache })
        (getData c cache false w) := by
  simp only [stepOp, afterData]
  split
  · rfl
  · rcases getData c cache false w with ⟨r, w'⟩; cases r <;> rfl

/-- What a property of the request state needs in order to hold along every access history: it looks
only at `stream`, `input` and the ghost `calls`, and it survives the three things an access does to
them — creating the stream, running a parse function (on the stream, or on the cached bytes, where a
failing run leaves only its ghost record: `call`), and `stream.read()`. -/
structure Stable (c : Cfg) (P : RS → Prop) : Prop where
  frame : ∀ {w w' : RS}, P w → w'.stream = w.stream → w'.input = w.input → w'.calls = w.calls → P w'
  create : ∀ {w : RS} {s : Strm}, P w → w.stream = none → chooseStream c = some s → P { w with stream := some s }
  parse : ∀ {w : RS} {s : Strm}, P w → w.stream = some s →
    P { w with stream := some (parseFrom c s w.input).2.1, input := (parseFrom c s w.input).2.2,
               calls := w.calls ++ callOf c false }
  call : ∀ {w : RS}, P w → P { w with calls := w.calls ++ callOf c true }
  parseCached : ∀ {w : RS} (d : Bytes), P w →
    P { w with stream := some (parseFrom c (.bio d) w.input).2.1, calls := w.calls ++ callOf c true }
  read : ∀ {w : RS} {s : Strm}, P w → w.stream = some s →
    P { w with stream := some (sReadAll s w.input).2.1, input := (sReadAll s w.input).2.2 }

namespace Stable
variable {c : Cfg} {P : RS → Prop} (hP : Stable c P)
include hP

theorem getStream {w w1 : RS} {s : Strm} (h : P w) (hg : getStream c w = .ok (s, w1)) :
    P w1 ∧ w1.stream = some s := by
  revert hg
  refine getStream_cases (motive := fun r => r = .ok (s, w1) → _) c w (fun s0 hs hg => ?_)
    (fun s0 hs hc hg => ?_) (fun _ _ hg => ?_) <;> cases hg
  · exact ⟨h, hs⟩
  · exact ⟨hP.create h hs hc, rfl⟩

theorem loadCached {w : RS} (d : Bytes) (h : P w) : P (loadCached c w d).2 := by
  simp only [FormReq.loadCached]
  split
  · exact hP.call h
  · exact hP.frame (hP.parseCached d h) rfl rfl rfl

theorem loadStream {w : RS} (h : P w) : P (loadStream c w).2 := by
  simp only [FormReq.loadStream]
  cases hg : FormReq.getStream c w with
  | error e => exact h
  | ok p =>
    obtain ⟨h1, hs1⟩ := hP.getStream h hg
    simp only
    split
    · exact hP.parse h1 hs1
    · exact hP.frame (hP.parse h1 hs1) rfl rfl rfl

theorem loadPlain {w : RS} (h : P w) : P (loadPlain c w).2 := by
  simp only [FormReq.loadPlain]
  cases hg : FormReq.getStream c w with
  | error e => exact h
  | ok p => exact hP.frame (hP.getStream h hg).1 rfl rfl rfl

theorem loadForm {w : RS} (h : P w) : P (loadForm c w).2 :=
  loadForm_cases (motive := fun r => P r.2) c w (fun _ _ => h) (fun d _ _ _ => hP.loadCached d h)
    (fun _ _ _ => hP.loadStream h) (fun _ _ => hP.loadPlain h)

theorem streamReadAll {w : RS} (h : P w) : P (streamReadAll c w).2 := by
  unfold FormReq.streamReadAll
  cases hg : FormReq.getStream c w with
  | error e => exact h
  | ok p =>
    obtain ⟨h1, hs1⟩ := hP.getStream h hg
    exact hP.read h1 hs1

theorem getData (cache parse : Bool) {w : RS} (h : P w) : P (getData c cache parse w).2 := by
  unfold FormReq.getData
  cases w.cached with
  | some d => exact h
  | none =>
    simp only
    have hl : P (if parse then FormReq.loadForm c w else (none, w)).2 := by
      split
      · exact hP.loadForm h
      · exact h
    split
    · exact hl
    · have hr := hP.streamReadAll hl
      split
      · rename_i heq; rw [heq] at hr; exact hr
      · rename_i heq
        rw [heq] at hr
        split
        · exact hP.frame hr rfl rfl rfl
        · exact hr

omit hP in
theorem afterData {g : Bytes → Obs} {u : Bytes → RS → RS} {r : Except String Bytes × RS}
    (hu : ∀ d w', P w' → P (u d w')) (h : P r.2) : P (afterData g u r).2 := by
  obtain ⟨r, w'⟩ := r
  cases r with
  | error e => exact h
  | ok d => exact hu d w' h

theorem stepOp (op : Op) {w : RS} (h : P w) : P (stepOp c w op).2 := by
  cases op with
  | getData cache parse => exact hP.getData cache parse h
  | streamRead => exact hP.streamReadAll h
  | form | values | files => rw [stepOp_formAccess c w rfl]; exact hP.loadForm h
  | data =>
    rw [stepOp_data]
    split
    · exact h
    · exact Stable.afterData (fun _ _ hw => hP.frame hw rfl rfl rfl) (hP.getData true true h)
  | json cache =>
    rw [stepOp_json]
    split
    · exact h
    · exact Stable.afterData (fun _ _ hw => hP.frame hw rfl rfl rfl) (hP.getData cache false h)

theorem run (ops : List Op) : ∀ {w : RS}, P w → P (run c w ops).2 := by
  induction ops with
  | nil => intro w hw; exact hw
  | cons op t ih => intro w hw; exact ih (hP.stepOp op hw)

end Stable

/-- the limits (and declared length) a parser run was given are the request's -/
def ParserCall.Good (c : Cfg) (k : ParserCall) : Prop :=
  k.mm = c.mm ∧ k.mp = c.mp ∧ k.contentLength = c.declared

def CallsOk (c : Cfg) (w : RS) : Prop := ∀ k ∈ w.calls, k.Good c

theorem callOf_good (c : Cfg) (b : Bool) : ∀ k ∈ callOf c b, k.Good c := by
  intro k hk
  unfold callOf at hk
  split at hk
  · simp at hk; subst hk; exact ⟨rfl, rfl, rfl⟩
  · simp at hk

theorem callsOk_append {c : Cfg} {w : RS} (hw : CallsOk c w) (b : Bool) :
    ∀ k ∈ w.calls ++ callOf c b, k.Good c := by
  intro k hk
  rcases List.mem_append.1 hk with hk | hk
  · exact hw k hk
  · exact callOf_good c b k hk

theorem callsOk_stable (c : Cfg) : Stable c (CallsOk c) where
  frame := fun h _ _ hc k hk => h k (hc ▸ hk)
  create := fun h _ _ => h
  parse := fun h _ => callsOk_append h false
  call := fun h => callsOk_append h true
  parseCached := fun _ h => callsOk_append h true
  read := fun h _ => h

/-- the most bytes the stream `get_input_stream` chooses will ever take from `wsgi.input`
(`none` = no bound: the raw stream of a terminated input without a maximum) -/
def cap (c : Cfg) : Option Nat :=
  match chooseStream c with
  | none => some 0
  | some .empty => some 0
  | some (.limited l _ _) => some l
  | some .raw => none
  | some (.bio _) => some 0

/-- consistency of a stream object with the input it reads: a `LimitedStream` has handed out exactly
what was taken from `wsgi.input`; the bytes taken never exceed `cap` -/
def SOk (c : Cfg) (body : Bytes) (s : Strm) (i : Bytes) : Prop :=
  i.length ≤ body.length ∧ (∀ l, cap c = some l → body.length - i.length ≤ l) ∧
  match s with
  | .empty => i.length = body.length
  | .raw => chooseStream c = some .raw
  | .limited l p m => chooseStream c = some (.limited l 0 m) ∧ p + i.length = body.length ∧ p ≤ l
  | .bio _ => True

theorem avail_length_le (s : Strm) (i : Bytes) :
    (match s with | .bio _ => True | _ => (avail s i).length ≤ i.length) := by
  cases s <;> simp [avail, List.length_take]
  omega

theorem avail_of_le {l : Nat} {m : Bool} {i : Bytes} (h : i.length ≤ l) : avail (.limited l 0 m) i = i := by
  simp [avail, List.take_of_length_le h]

theorem endErr_of_le {l p : Nat} {i : Bytes} (h : l - p ≤ i.length) : endErr (.limited l p false) i = none := by
  simp [endErr, h]

theorem advance_zero (s : Strm) (i : Bytes) : advance s i 0 = (s, i) := by
  cases s <;> simp [advance]

theorem advance_ok {c : Cfg} {body : Bytes} {s : Strm} {i : Bytes} {k : Nat}
    (h : SOk c body s i) (hk : k ≤ (avail s i).length) :
    SOk c body (advance s i k).1 (advance s i k).2 := by
  rcases h with ⟨h1, h2, h3⟩
  cases s with
  | empty => exact ⟨h1, h2, h3⟩
  | bio rest => exact ⟨h1, h2, trivial⟩
  | raw =>
    simp only [avail] at hk
    simp only [SOk, advance, List.length_drop]
    refine ⟨by omega, ?_, h3⟩
    intro l hl
    simp [cap, h3] at hl
  | limited l p m =>
    simp only [avail, List.length_take] at hk
    simp only [SOk, advance, List.length_drop]
    rcases h3 with ⟨hc, hp, hl⟩
    refine ⟨by omega, ?_, hc, by omega, by omega⟩
    intro l' hl'
    simp [cap, hc] at hl'
    omega

/-- every primitive leaves the stream / input pair either untouched or advanced by bytes that were
available -/
def Adv (s : Strm) (i : Bytes) (s' : Strm) (i' : Bytes) : Prop :=
  ∃ k, k ≤ (avail s i).length ∧ (s', i') = advance s i k

theorem adv_refl (s : Strm) (i : Bytes) : Adv s i s i := ⟨0, Nat.zero_le _, (advance_zero s i).symm⟩

theorem adv_ok {c : Cfg} {body : Bytes} {s s' : Strm} {i i' : Bytes} (h : SOk c body s i)
    (ha : Adv s i s' i') : SOk c body s' i' := by
  rcases ha with ⟨k, hk, he⟩
  have := advance_ok h hk
  rw [← he] at this
  exact this

theorem sReadAll_adv (s : Strm) (i : Bytes) : Adv s i (sReadAll s i).2.1 (sReadAll s i).2.2 := by
  unfold sReadAll
  cases s with
  | limited l p m =>
    simp only
    split
    · exact adv_refl _ _
    · split
      · refine ⟨l - p, ?_, rfl⟩
        simp [avail, List.length_take]; omega
      · split
        · refine ⟨i.length, ?_, rfl⟩
          simp [avail, List.length_take]; omega
        · refine ⟨i.length, ?_, rfl⟩
          simp [avail, List.length_take]; omega
  | empty => exact ⟨_, Nat.le_refl _, rfl⟩
  | raw => exact ⟨_, Nat.le_refl _, rfl⟩
  | bio r => exact ⟨_, Nat.le_refl _, rfl⟩

theorem lenSum_take_le (l : List Bytes) (k : Nat) : lenSum (l.take k) ≤ lenSum l := by
  unfold lenSum
  have h : l.flatten = (l.take k).flatten ++ (l.drop k).flatten := by
    rw [← List.flatten_append, List.take_append_drop]
  rw [h, List.length_append]
  exact Nat.le_add_right _ _

theorem lenSum_readChunks (D : Bytes) : lenSum (readChunks bufferSize D.length [] D) = D.length := by
  unfold lenSum
  rw [readChunks_flatten bufferSize D.length [] D (Nat.le_refl _)]

theorem lenSum_take_readChunks_le (D : Bytes) (k : Nat) :
    lenSum ((readChunks bufferSize D.length [] D).take k) ≤ D.length := by
  have := lenSum_take_le (readChunks bufferSize D.length [] D) k
  rw [lenSum_readChunks] at this
  exact this

theorem parseMultipartS_adv (bnd : Bytes) (mm mp : Option Nat) (s : Strm) (i : Bytes) :
    Adv s i (parseMultipartS bnd mm mp s i).2.1 (parseMultipartS bnd mm mp s i).2.2 := by
  unfold parseMultipartS
  simp only []
  have hle := lenSum_take_readChunks_le (avail s i)
  cases endErr s i with
  | none => exact ⟨_, hle _, rfl⟩
  | some e =>
    simp only
    cases (formLoopN mm (mkDecoder bnd mm mp) {} ((readChunks bufferSize (avail s i).length [] (avail s i)).map some)).1 with
    | error e' => exact ⟨_, hle _, rfl⟩
    | ok st => exact ⟨_, Nat.le_refl _, rfl⟩

theorem parseUrlencodedS_adv (mm cl : Option Nat) (s : Strm) (i : Bytes) :
    Adv s i (parseUrlencodedS mm cl s i).2.1 (parseUrlencodedS mm cl s i).2.2 := by
  unfold parseUrlencodedS
  simp only []
  cases mm with
  | none =>
    simp only
    have h := sReadAll_adv s i
    rcases hr : sReadAll s i with ⟨r, s', i'⟩
    rw [hr] at h
    cases r <;> exact h
  | some m =>
    simp only
    split
    · exact adv_refl _ _
    · split
      · rename_i hlt
        exact ⟨m + 1, by omega, rfl⟩
      · cases endErr s i with
        | none => exact ⟨_, Nat.le_refl _, rfl⟩
        | some e => exact ⟨_, Nat.le_refl _, rfl⟩

theorem silentRes_snd (r : Except String FormRes × Strm × Bytes) : (silentRes r).2 = r.2 := by
  rcases r with ⟨r, s', i'⟩
  unfold silentRes
  cases r with
  | ok x => rfl
  | error e => simp only; split <;> rfl

/-- `silent=True`: a ValueError becomes the empty result, anything else escapes -/
def silence (r : Except String FormRes) : Except String FormRes :=
  match r with
  | .error e => if isValueError e then .ok ([], []) else .error e
  | .ok x => .ok x

theorem silentRes_fst (r : Except String FormRes × Strm × Bytes) : (silentRes r).1 = silence r.1 := by
  rcases r with ⟨r, s', i'⟩
  unfold silentRes silence
  cases r with
  | ok x => rfl
  | error e => simp only; split <;> rfl

theorem parseDispatch_adv (mime : Mime) (mm mp cl : Option Nat) (s : Strm) (i : Bytes) :
    Adv s i (parseDispatch mime mm mp cl s i).2.1 (parseDispatch mime mm mp cl s i).2.2 := by
  unfold parseDispatch
  cases mime with
  | multipart bnd =>
    simp only
    split
    · exact adv_refl _ _
    · rw [silentRes_snd]; exact parseMultipartS_adv bnd mm mp s i
  | urlencoded =>
    simp only
    rw [silentRes_snd]; exact parseUrlencodedS_adv mm cl s i
  | other => exact adv_refl _ _
  | absent => exact adv_refl _ _

/-- a `BytesIO` never touches `wsgi.input` -/
theorem parseFrom_bio_input (c : Cfg) (d i : Bytes) : (parseFrom c (.bio d) i).2.2 = i := by
  obtain ⟨k, _, hk⟩ := parseDispatch_adv c.mime c.mm c.mp c.declared (.bio d) i
  exact congrArg Prod.snd hk

/-- the request state is consistent with the `body` it started from: nothing taken while there is no stream,
`SOk` for the stream once there is one -/
def Inv (c : Cfg) (body : Bytes) (w : RS) : Prop :=
  match w.stream with
  | none => w.input.length = body.length
  | some s => SOk c body s w.input

theorem inv_base {c : Cfg} {body : Bytes} {w : RS} (h : Inv c body w) :
    w.input.length ≤ body.length ∧ (∀ l, cap c = some l → body.length - w.input.length ≤ l) := by
  unfold Inv at h
  cases hs : w.stream with
  | none => rw [hs] at h; simp only at h; exact ⟨by omega, fun l _ => by omega⟩
  | some s => rw [hs] at h; exact ⟨h.1, h.2.1⟩

theorem chooseStream_limited_pos {c : Cfg} {l p : Nat} {m : Bool}
    (h : chooseStream c = some (.limited l p m)) : p = 0 := by
  rcases c with ⟨mcl, mm, mp, mime, declared, terminated⟩
  cases mcl <;> cases declared <;> cases terminated <;> simp [chooseStream] at h <;> omega

theorem chooseStream_none_iff {c : Cfg} :
    chooseStream c = none ↔ ∃ n m, c.declared = some n ∧ c.mcl = some m ∧ m < n := by
  rcases c with ⟨mcl, mm, mp, mime, declared, terminated⟩
  cases mcl <;> cases declared <;> cases terminated <;> simp [chooseStream]

/-- a truthful declared length within `max_content_length` gets a `LimitedStream` of exactly that length -/
theorem chooseStream_declared {c : Cfg} {n : Nat} (ht : c.terminated = false) (hd : c.declared = some n)
    (hm : ∀ m, c.mcl = some m → n ≤ m) : chooseStream c = some (.limited n 0 false) := by
  rcases c with ⟨mcl, mm, mp, mime, declared, terminated⟩
  simp only at ht hd hm; subst ht hd
  cases mcl with
  | none => rfl
  | some m => simp [chooseStream, Nat.not_lt.2 (hm m rfl)]

theorem inv_of_sok {c : Cfg} {body : Bytes} {w : RS} {s : Strm} (hs : w.stream = some s)
    (h : SOk c body s w.input) : Inv c body w := by
  unfold Inv; rw [hs]; exact h

theorem sok_of_inv {c : Cfg} {body : Bytes} {w : RS} {s : Strm} (hs : w.stream = some s)
    (h : Inv c body w) : SOk c body s w.input := by
  unfold Inv at h; rw [hs] at h; exact h

theorem inv_stable (c : Cfg) (body : Bytes) : Stable c (Inv c body) where
  frame := fun h hs hi _ => by unfold Inv at h ⊢; rw [hs, hi]; exact h
  create := fun {w s} h hs hc => by
    unfold Inv at h; rw [hs] at h
    refine inv_of_sok (s := s) rfl ⟨Nat.le_of_eq h, fun l _ => by simp only; omega, ?_⟩
    cases s with
    | empty => exact h
    | raw => exact hc
    | bio r => trivial
    | limited l p m =>
      cases chooseStream_limited_pos hc
      exact ⟨hc, by simp only; omega, Nat.zero_le _⟩
  parse := fun {w s} h hs =>
    inv_of_sok rfl (adv_ok (sok_of_inv hs h) (parseDispatch_adv c.mime c.mm c.mp c.declared s w.input))
  call := fun h => h
  parseCached := fun {w} d h => by
    have hb := inv_base h
    refine inv_of_sok rfl ?_
    have hok := adv_ok (c := c) (body := body) ⟨hb.1, hb.2, trivial⟩
      (parseDispatch_adv c.mime c.mm c.mp c.declared (.bio d) w.input)
    rw [show (parseDispatch c.mime c.mm c.mp c.declared (.bio d) w.input).2.2 = w.input from
      parseFrom_bio_input c d w.input] at hok
    exact hok
  read := fun {w s} h hs => inv_of_sok rfl (adv_ok (sok_of_inv hs h) (sReadAll_adv s w.input))

theorem fresh_inv (c : Cfg) (body : Bytes) : Inv c body (fresh body) := by
  simp [Inv, fresh]

theorem mcl_cap {c : Cfg} {m : Nat} (h : c.mcl = some m) : ∃ l, cap c = some l ∧ l ≤ m := by
  unfold cap chooseStream
  simp only [h]
  cases hd : c.declared with
  | none =>
    simp only
    cases c.terminated with
    | true => exact ⟨m, by simp, Nat.le_refl _⟩
    | false => exact ⟨0, by simp, Nat.zero_le _⟩
  | some n =>
    simp only
    by_cases hov : n > m
    · exact ⟨0, by simp [hov], Nat.zero_le _⟩
    · cases c.terminated with
      | true => exact ⟨m, by simp [hov], Nat.le_refl _⟩
      | false => exact ⟨n, by simp [hov], by omega⟩

/-- the state in which an over-long declared body refuses every access (`run_tooLarge`) -/
def Untouched (w : RS) : Prop :=
  w.stream = none ∧ w.cached = none ∧ w.form = none ∧ w.dataProp = none ∧ w.jsonDone = false

theorem getStream_tooLarge {c : Cfg} {w : RS} (hc : chooseStream c = none) (hw : w.stream = none) :
    getStream c w = .error "RequestEntityTooLarge" := by
  rw [getStream_none hw, hc]

theorem loadForm_tooLarge {c : Cfg} {w : RS} (hc : chooseStream c = none) (hw : Untouched w) :
    loadForm c w = (some "RequestEntityTooLarge", w) := by
  rcases hw with ⟨h1, h2, h3, _, _⟩
  by_cases hm : c.mime = .absent
  · rw [loadForm_plain h3 hm, loadPlain, getStream_tooLarge hc h1]
  · rw [loadForm_stream h3 hm h2, loadStream, getStream_tooLarge hc h1]

theorem getData_tooLarge {c : Cfg} {w : RS} (cache parse : Bool) (hc : chooseStream c = none)
    (hw : Untouched w) : getData c cache parse w = (.error "RequestEntityTooLarge", w) := by
  have hl := loadForm_tooLarge hc hw
  rcases hw with ⟨h1, h2, _, _, _⟩
  unfold getData
  cases parse <;> simp [h2, hl, streamReadAll, getStream_tooLarge hc h1]

theorem stepOp_tooLarge {c : Cfg} {w : RS} (op : Op) (hc : chooseStream c = none) (hw : Untouched w) :
    stepOp c w op = (.exc "RequestEntityTooLarge", w) := by
  have hl := loadForm_tooLarge hc hw
  have hg := fun a b => getData_tooLarge a b hc hw
  rcases hw with ⟨h1, h2, h3, h4, h5⟩
  cases op with
  | getData cache parse => simp [stepOp, hg, obsBytes]
  | data => rw [stepOp_data, h4, hg]; rfl
  | streamRead => simp [stepOp, streamReadAll, getStream_tooLarge hc h1, obsBytes]
  | form | values | files => rw [stepOp_formAccess c w rfl, hl]
  | json cache => rw [stepOp_json, h5, hg]; simp [afterData]

theorem run_tooLarge {c : Cfg} (ops : List Op) {w : RS} (hc : chooseStream c = none) (hw : Untouched w) :
    run c w ops = (ops.map fun _ => .exc "RequestEntityTooLarge", w) := by
  induction ops with
  | nil => rfl
  | cons op t ih => simp [run, stepOp_tooLarge op hc hw, ih]

/-- **multipart at the request level is `formParse`.** When the read after the last byte returns
`b""` (`endErr = none`), `MultiPartParser.parse` over the stream is the C01 / C10 parser model applied
to the bytes the stream can deliver, with 64 KiB reads. -/
theorem parseMultipartS_clean (bnd : Bytes) (mm mp : Option Nat) {s : Strm} {i : Bytes}
    (h : endErr s i = none) :
    (parseMultipartS bnd mm mp s i).1 = formParse bnd mm mp bufferSize [] (avail s i) := by
  unfold parseMultipartS
  simp only [h, formLoopN_fst, formParse_eq]

/-- a stream that is not a streaming maximum (`LimitedStream(…, is_max=True)`) -/
def NoMax : Strm → Prop
  | .limited _ _ true => False
  | _ => True

/-- `stream.read()` in closed form, on a stream that is not a streaming maximum or that ends cleanly:
everything deliverable, then what the read after the last byte does. (The case left out is the
maximum reached while reading, which returns what it has without raising: F09b / F10b.) -/
theorem sReadAll_eq {s : Strm} (i : Bytes) (h : NoMax s ∨ endErr s i = none) :
    sReadAll s i =
      (match endErr s i with
        | none => .ok (avail s i)
        | some e => .error e, advance s i (avail s i).length) := by
  cases s with
  | empty => rfl
  | raw => rfl
  | bio r => rfl
  | limited l p mx =>
    simp only [sReadAll, endErr, avail, List.length_take]
    cases mx with
    | false =>
      by_cases h1 : l ≤ p
      · have h0 : l - p = 0 := by omega
        simp [h1, h0, advance]
      · simp only [h1, if_false]
        by_cases h2 : l - p ≤ i.length
        · simp [h2, Nat.min_eq_left h2]
        · have : min (l - p) i.length = i.length := by omega
          simp [h2, this]
    | true =>
      have h2 : ¬ l - p ≤ i.length := by
        rcases h with h | h
        · exact h.elim
        · intro hle; simp [endErr, hle] at h
      have h1 : ¬ l ≤ p := by omega
      have ht : i.take (l - p) = i := List.take_of_length_le (by omega)
      have hm : min (l - p) i.length = i.length := by omega
      simp [h1, h2, ht, hm]

theorem sReadAll_clean {s : Strm} {i : Bytes} (h : endErr s i = none) :
    (sReadAll s i).1 = .ok (avail s i) := by
  rw [sReadAll_eq i (Or.inr h), h]

theorem formAccess_stream (c : Cfg) {w : RS} (hcd : w.cached = none) (hf : w.form = none)
    (hm : c.mime ≠ .absent) {op : Op} (h : op.isFormAccess = true) :
    (stepOp c w op).1 =
      match getStream c w with
      | .error e => .exc e
      | .ok (s, w1) => obsOf op (parseFrom c s w1.input).1 := by
  rw [stepOp_formAccess c _ h, loadForm_stream hf hm hcd]
  simp only [loadStream]
  cases hg : getStream c w with
  | error e => rfl
  | ok p =>
    rcases p with ⟨s, w1⟩
    simp only
    cases (parseFrom c s w1.input).1 with
    | error e => rfl
    | ok res => simp [obsOf]

theorem formAccess_fresh (c : Cfg) (body : Bytes) {s0 : Strm} (hc : chooseStream c = some s0)
    (hm : c.mime ≠ .absent) {op : Op} (h : op.isFormAccess = true) :
    (stepOp c (fresh body) op).1 = obsOf op (parseFrom c s0 body).1 := by
  rw [formAccess_stream c rfl rfl hm h, getStream_none rfl, hc]
  rfl

theorem formAccess_cached (c : Cfg) {w : RS} {d : Bytes} (hcd : w.cached = some d) (hf : w.form = none)
    (hm : c.mime ≠ .absent) {op : Op} (h : op.isFormAccess = true) :
    (stepOp c w op).1 = obsOf op (parseFrom c (.bio d) w.input).1 := by
  rw [stepOp_formAccess c _ h, loadForm_cached hf hm hcd]
  simp only [loadCached]
  cases (parseFrom c (.bio d) w.input).1 with
  | error e => rfl
  | ok res => simp [obsOf]

theorem formAccess_absent (c : Cfg) {w : RS} (hf : w.form = none) (hm : c.mime = .absent)
    {s : Strm} {w1 : RS} (hg : getStream c w = .ok (s, w1)) {op : Op} (h : op.isFormAccess = true) :
    (stepOp c w op).1 = obsOf op (.ok ([], [])) := by
  rw [stepOp_formAccess c _ h, loadForm_plain hf hm]
  simp [loadPlain, hg]

theorem getData_fresh_clean (c : Cfg) (body : Bytes) {s0 : Strm} (hc : chooseStream c = some s0)
    (he : endErr s0 body = none) :
    ∃ w1, stepOp c (fresh body) (.getData true false) = (.bytes (avail s0 body), w1) ∧
      w1.cached = some (avail s0 body) ∧ w1.form = none ∧ w1.stream.isSome = true := by
  have hr := sReadAll_clean he
  have h1 : (stepOp c (fresh body) (.getData true false)).1 = .bytes (avail s0 body) := by
    simp [stepOp, getData, fresh, streamReadAll, getStream_none, hc, hr, obsBytes]
  have h2 : (stepOp c (fresh body) (.getData true false)).2.cached = some (avail s0 body) ∧
      (stepOp c (fresh body) (.getData true false)).2.form = none ∧
      (stepOp c (fresh body) (.getData true false)).2.stream.isSome = true := by
    simp [stepOp, getData, fresh, streamReadAll, getStream_none, hc, hr]
  exact ⟨_, Prod.ext h1 rfl, h2⟩

theorem stepOp_getData_cached (c : Cfg) {w : RS} {d : Bytes} (cache parse : Bool) (h : w.cached = some d) :
    stepOp c w (.getData cache parse) = (.bytes d, w) := by
  simp [stepOp, getData, h, obsBytes]

theorem run_append (c : Cfg) (a b : List Op) (w : RS) :
    run c w (a ++ b) = ((run c w a).1 ++ (run c (run c w a).2 b).1, (run c (run c w a).2 b).2) := by
  induction a generalizing w with
  | nil => simp [run]
  | cons op t ih => simp [run, ih]

theorem run_take (c : Cfg) (w : RS) (ops : List Op) (k : Nat) :
    (run c w (ops.take k)).1 = (run c w ops).1.take k := by
  induction ops generalizing w k with
  | nil => simp [run]
  | cons op t ih =>
    cases k with
    | zero => simp [run]
    | succ n => simp [run, ih]

theorem run_replicate_getData_cached (c : Cfg) {w : RS} {d : Bytes} (h : w.cached = some d) (k : Nat) :
    run c w (List.replicate k (.getData true false)) = (List.replicate k (.bytes d), w) := by
  induction k with
  | zero => rfl
  | succ n ih => simp [List.replicate_succ, run, stepOp_getData_cached c true false h, ih]

/-- the form `_parse_urlencoded` returns for the items of the C02 / C10 model -/
def urlForm (r : Except String (List (Urlencode.Str × Urlencode.Str))) : Except String FormRes :=
  match r with
  | .error e => .error e
  | .ok items => .ok (items.map (fun (k, v) => (some k, v)), [])

/-- **urlencoded at the request level is `parseUrlencoded`** (the bounded read of C10, fed by a stream
that ends cleanly) -/
theorem parseUrlencodedS_clean (mm cl : Option Nat) {s : Strm} {i : Bytes} (h : endErr s i = none) :
    (parseUrlencodedS mm cl s i).1 = urlForm (Urlencode.parseUrlencoded mm cl [] (avail s i)) := by
  unfold parseUrlencodedS Urlencode.parseUrlencoded
  simp only []
  cases mm with
  | none =>
    simp only [Urlencode.urlencodedRead]
    have hr := sReadAll_clean h
    rcases hs : sReadAll s i with ⟨r, s', i'⟩
    rw [hs] at hr
    simp only at hr
    subst hr
    simp only
    cases utf8Dec? (avail s i) <;> rfl
  | some m =>
    rw [Urlencode.urlencodedRead_fst]
    cases hd : Urlencode.declaredTooLarge m cl with
    | true => simp [hd, urlForm]
    | false =>
      by_cases hl : (avail s i).length > m
      · simp [hd, hl, urlForm]
      · simp only [hd, hl, if_false, h, Bool.false_eq_true, false_or]
        cases utf8Dec? (avail s i) <;> rfl

theorem formAccess_loaded (c : Cfg) {w : RS} {r : FormRes} (hf : w.form = some r) {op : Op}
    (h : op.isFormAccess = true) : (stepOp c w op).1 = obsOf op (.ok r) := by
  rw [stepOp_formAccess c _ h, loadForm_loaded hf, hf]
  rfl

/-- the parse function of the content type over given bytes, `silent=True` applied -/
def parseBytes (c : Cfg) (b : Bytes) : Except String FormRes :=
  match c.mime with
  | .multipart bnd => if bnd.isEmpty then .ok ([], []) else silence (formParse bnd c.mm c.mp bufferSize [] b)
  | .urlencoded => silence (urlForm (Urlencode.parseUrlencoded c.mm c.declared [] b))
  | _ => .ok ([], [])

/-- on a stream that ends cleanly the parse depends only on the bytes the stream delivers -/
theorem parseFrom_clean (c : Cfg) {s : Strm} {i : Bytes} (h : endErr s i = none) :
    (parseFrom c s i).1 = parseBytes c (avail s i) := by
  unfold parseFrom parseDispatch parseBytes
  cases c.mime with
  | multipart bnd =>
    simp only
    split
    · rfl
    · rw [silentRes_fst, parseMultipartS_clean _ _ _ h]
  | urlencoded => simp only; rw [silentRes_fst, parseUrlencodedS_clean _ _ h]
  | other => rfl
  | absent => rfl

theorem parseBytes_multipart {c : Cfg} {bnd : Bytes} (hm : c.mime = .multipart bnd) (hb : bnd ≠ []) (b : Bytes) :
    parseBytes c b = silence (formParse bnd c.mm c.mp bufferSize [] b) := by
  cases bnd with
  | nil => exact absurd rfl hb
  | cons x t => simp only [parseBytes, hm]; rfl

theorem parseBytes_urlencoded {c : Cfg} (hm : c.mime = .urlencoded) (b : Bytes) :
    parseBytes c b = silence (urlForm (Urlencode.parseUrlencoded c.mm c.declared [] b)) := by
  simp only [parseBytes, hm]

/-- parsing the bytes cached by `get_data()` is parsing the stream itself, when the stream ends cleanly -/
theorem parseFrom_cached_eq (c : Cfg) {s : Strm} {i : Bytes} (j : Bytes) (h : endErr s i = none) :
    (parseFrom c (.bio (avail s i)) j).1 = (parseFrom c s i).1 := by
  rw [parseFrom_clean c h, parseFrom_clean c (s := .bio (avail s i)) rfl]; rfl

theorem run_fresh_formAccess (c : Cfg) (body : Bytes) {s0 : Strm} (hc : chooseStream c = some s0)
    (hm : c.mime ≠ .absent) (he : endErr s0 body = none) {op : Op} (h : op.isFormAccess = true) :
    (run c (fresh body) [op]).1 = [obsOf op (parseBytes c (avail s0 body))] := by
  simp only [run]
  rw [formAccess_fresh c body hc hm h, parseFrom_clean c he]

theorem form_after_get_data_lemma (c : Cfg) (body : Bytes) {s0 : Strm} (hc : chooseStream c = some s0)
    (he : endErr s0 body = none) (k : Nat) {op : Op} (h : op.isFormAccess = true) :
    (run c (fresh body) (List.replicate (k + 1) (.getData true false) ++ [op])).1 =
      List.replicate (k + 1) (.bytes (avail s0 body)) ++ (run c (fresh body) [op]).1 := by
  rcases getData_fresh_clean c body hc he with ⟨w1, hs, hcd, hf, hst⟩
  have hrun1 : run c (fresh body) (List.replicate (k + 1) (.getData true false)) =
      (List.replicate (k + 1) (.bytes (avail s0 body)), w1) := by
    simp only [List.replicate_succ, run, hs, run_replicate_getData_cached c hcd k]
  rw [run_append, hrun1]
  simp only [run]
  congr 1
  congr 1
  by_cases hm : c.mime = .absent
  · have hg1 : ∃ s w2, getStream c w1 = .ok (s, w2) := by
      cases hs1 : w1.stream with
      | none => rw [hs1] at hst; simp at hst
      | some s1 => exact ⟨s1, w1, getStream_some hs1⟩
    rcases hg1 with ⟨s, w2, hg⟩
    rw [formAccess_absent c hf hm hg h]
    have hg0 : getStream c (fresh body) = .ok (s0, { fresh body with stream := some s0 }) := by
      rw [getStream_none rfl, hc]
    rw [formAccess_absent c rfl hm hg0 h]
  · rw [formAccess_cached c hcd hf hm h, formAccess_fresh c body hc hm h, parseFrom_cached_eq c _ he]

end Wz.FormReq
