/-
C10T2 — C10T continued: the C10 bounds on `MultipartDecoder.next_event` restated on the method *as
regenerated from the source* (`Gen/PyFns_Decoder.lean`; equality with the model: Props/C01T2.lean): a call
never grows the buffer - whether it returns or raises -, and with `max_parts = m` a returned Field / File
event leaves `_parts_decoded ≤ m`.
-/
import WzVerif.Props.C01T2
import WzVerif.Props.C10
namespace Wz.Props.C10T2
open Wz Wz.Multipart Wz.Gen.PyFns_Decoder Wz.PyFnsEq.Decoder

/-- `Props.C10.nextEvent_never_grows` on the translated method: a `next_event()` call that returns
leaves at most as many bytes in `self.buffer` as it found -/
theorem next_event_never_grows_translated (d : Decoder) (ev : Event) (h : (nextEventT d).2 = .ok ev) :
    (nextEventT d).1.1.length ≤ d.buffer.length := by
  rw [Props.C01T2.next_event_eq] at h ⊢
  obtain ⟨d', hn⟩ := view_ok_iff.mp h
  rw [hn]
  exact (Props.C10.nextEvent_never_grows hn).1

/-- the same for every call, returning or raising: `next_event()` never grows `self.buffer` -/
theorem next_event_never_grows_always (d : Decoder) :
    (nextEventT d).1.1.length ≤ d.buffer.length := by
  rw [Props.C01T2.next_event_eq]
  cases hn : nextEvent d with
  | error e => exact raisedSt_buffer_le d
  | ok r =>
    rcases r with ⟨ev', d'⟩
    exact (Props.C10.nextEvent_never_grows hn).1

/-- the step behind `Props.C10.parts_bounded` on the translated method: with `max_parts = m`, a
`next_event()` call that returns a Field or File event leaves `_parts_decoded ≤ m` -/
theorem next_event_parts_bounded_translated (d : Decoder) (m : Nat) (hm : d.maxParts = some m)
    (ev : Event) (h : (nextEventT d).2 = .ok ev) (hp : isPart ev = true) :
    (nextEventT d).1.2.2.2 ≤ (m : Int) := by
  rw [Props.C01T2.next_event_eq] at h ⊢
  obtain ⟨d', hn⟩ := view_ok_iff.mp h
  rw [hn]
  exact Int.ofNat_le.2 ((step_ok (nextEvent_ok hn)).parts_le m hm hp)

end Wz.Props.C10T2
