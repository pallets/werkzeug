/-
The netloc of a URL (C15): how `iri_to_uri` / `uri_to_iri` assemble it from userinfo, host and port (`netloc_eq`:
`authText ++ hostBr host ++ portText port`), what characters it can contain - every statement of that kind is an
instance of `netloc_all`, general in the predicate -, and that the `SplitResult` attributes (`hostname`, `port`,
`username`, `password`) and `urlsplit`'s bracket check read the pieces back.
-/
import WzVerif.Lemmas.UrlSplit
namespace Wz.Url
open Wz

/-- characters a converted host may contain (`:` allowed: IPv6 literals) -/
def hostChar (c : Char) : Bool :=
  !(isNetlocDelim c || c == '@' || c == '[' || c == ']' || isTabCrLf c)

/-- characters of converted user / password text -/
def plainChar (c : Char) : Bool := hostChar c && c != ':'

def portText : Option Nat → Str
  | some 0 => []
  | some k => ':' :: (toString k).toList
  | none => []

def hostBr (h : Str) : Str := if h.contains ':' then '[' :: h ++ [']'] else h

def authText (fu fp : Str → Str) (p : Parts) : Str :=
  match truthy p.username with
  | some u => (fu u ++ match truthy p.password with | some pw => ':' :: fp pw | none => []) ++ ['@']
  | none => []

theorem netloc_eq (fu fp : Str → Str) (p : Parts) :
    netloc fu fp p = authText fu fp p ++ (hostBr p.host ++ portText p.port) := by
  unfold netloc authText hostBr portText
  cases hu : truthy p.username with
  | none =>
    simp only [List.nil_append]
    cases hp : p.port with
    | none => simp
    | some k => cases k <;> simp
  | some u =>
    simp only
    cases hpw : truthy p.password <;> cases hp : p.port with
    | none => simp
    | some k => cases k <;> simp

theorem digits_spec (k : Nat) : (toString k).toList ≠ [] ∧ (∀ c ∈ (toString k).toList, isAsciiDigit c = true) ∧
    digitsToNat (toString k).toList = k := by
  rw [Nat.toString_eq_repr, Nat.toList_repr]
  refine ⟨Nat.toDigits_ne_nil, ?_, Nat.ofDigitChars_ten_toDigits⟩
  intro c hc
  have := Char.isDigit_iff_toNat.mp (Nat.isDigit_of_mem_toDigits (by decide) (by decide) hc)
  simp only [isAsciiDigit, Bool.and_eq_true, decide_eq_true_eq]
  exact ⟨this.1, this.2⟩

theorem digit_facts {c : Char} (h : isAsciiDigit c = true) :
    hostChar c = true ∧ c ≠ ':' ∧ c.toNat < 128 := by
  have hlt : c.toNat < 128 := by
    simp only [isAsciiDigit, Bool.and_eq_true, decide_eq_true_eq] at h
    have : c.toNat ≤ '9'.toNat := h.2
    have h9 : '9'.toNat = 57 := by decide
    omega
  have := of_ascii_sweep (P := fun c => isAsciiDigit c = true → hostChar c = true ∧ c ≠ ':') (by decide +kernel) hlt h
  exact ⟨this.1, this.2, hlt⟩

/-- the hypotheses under which an assembled netloc parses back into its pieces: a host of host characters, converted
userinfo that is non-empty and has no delimiter, a port in range -/
structure NetlocParts (fu fp : Str → Str) (p : Parts) : Prop where
  host_ne : p.host ≠ []
  host_chars : ∀ c ∈ p.host, hostChar c = true
  user : ∀ u, truthy p.username = some u → fu u ≠ [] ∧ ∀ c ∈ fu u, plainChar c = true
  pass : ∀ pw, truthy p.password = some pw → fp pw ≠ [] ∧ ∀ c ∈ fp pw, plainChar c = true
  port : ∀ k, p.port = some k → k ≤ 65535

theorem hostChar_quiet {c : Char} (h : hostChar c = true) : isNetlocDelim c = false ∧ isTabCrLf c = false := by
  simp only [hostChar, Bool.not_eq_true', Bool.or_eq_false_iff] at h
  exact ⟨h.1.1.1.1, h.2⟩

theorem plainChar_ne {c : Char} (h : plainChar c = true) : hostChar c = true ∧ c ≠ ':' := by
  simp only [plainChar, Bool.and_eq_true, bne_iff_ne] at h
  exact h

theorem plainChar_path {c : Char} (h : plainChar c = true) : pathChar c = true := by
  obtain ⟨h1, h2⟩ := hostChar_quiet (plainChar_ne h).1
  simp only [isNetlocDelim, Bool.or_eq_false_iff] at h1
  simp [pathChar, h1.1.2, h1.2, h2]

theorem hostBr_of_colon {h : Str} (hc : ':' ∈ h) : hostBr h = '[' :: h ++ [']'] := by simp [hostBr, hc]

theorem hostBr_of_no_colon {h : Str} (hc : ':' ∉ h) : hostBr h = h := by simp [hostBr, hc]

theorem hostBr_ne {h : Str} (hne : h ≠ []) : hostBr h ≠ [] := by
  unfold hostBr
  split
  · exact List.cons_ne_nil _ _
  · exact hne

theorem portText_pos {k : Nat} (hk : k ≠ 0) : portText (some k) = ':' :: (toString k).toList := by
  cases k with
  | zero => exact absurd rfl hk
  | succ k => rfl

theorem portText_head (port : Option Nat) : ∀ c ∈ (portText port).head?, c = ':' := by
  unfold portText
  split <;> simp

theorem hostport_ne {h : Str} (hne : h ≠ []) (port : Option Nat) : hostBr h ++ portText port ≠ [] :=
  fun he => hostBr_ne hne (List.append_eq_nil_iff.mp he).1

theorem authText_congr {fu fp fu' fp' : Str → Str} {p : Parts}
    (hu : ∀ u, truthy p.username = some u → fu u = fu' u)
    (hp : ∀ pw, truthy p.password = some pw → fp pw = fp' pw) : authText fu fp p = authText fu' fp' p := by
  unfold authText
  cases hx : truthy p.username with
  | none => rfl
  | some u =>
    cases hy : truthy p.password with
    | none => simp [hu u hx]
    | some pw => simp [hu u hx, hp pw hy]

theorem netloc_nouser (fu fp : Str → Str) {p : Parts} (h : p.username = none) :
    netloc fu fp p = hostBr p.host ++ portText p.port := by
  rw [netloc_eq]; simp [authText, h, truthy]

/-- the port `urlsplit` reads back from `portText port` -/
def normPort : Option Nat → Option Nat
  | some 0 => none
  | port => port

theorem normPort_some {port : Option Nat} {k : Nat} (h : normPort port = some k) : port = some k := by
  cases port with
  | none => cases h
  | some j => cases j with
    | zero => cases h
    | succ j => exact h

theorem portText_norm (port : Option Nat) : portText (normPort port) = portText port := by
  cases port with
  | none => rfl
  | some k => cases k <;> rfl

theorem portText_all {P : Char → Prop} (hc : P ':') (hd : ∀ c, isAsciiDigit c = true → P c) (port : Option Nat) :
    ∀ c ∈ portText port, P c := by
  unfold portText
  split <;> simp only [List.mem_cons, List.not_mem_nil, false_imp_iff, implies_true, forall_eq_or_imp]
  exact ⟨hc, fun c hm => hd c ((digits_spec _).2.1 c hm)⟩

theorem hostBr_all {P : Char → Prop} (hl : P '[') (hr : P ']') {h : Str} (hh : ∀ c ∈ h, P c) :
    ∀ c ∈ hostBr h, P c := by
  unfold hostBr
  split
  · simp only [List.cons_append, List.mem_cons, List.mem_append, List.not_mem_nil, or_false, or_imp, forall_and, forall_eq]
    exact ⟨hl, hh, hr⟩
  · exact hh

theorem authText_all {P : Char → Prop} (hc : P ':') (ha : P '@') {fu fp : Str → Str} {p : Parts}
    (hu : ∀ u, truthy p.username = some u → ∀ c ∈ fu u, P c)
    (hp : ∀ pw, truthy p.password = some pw → ∀ c ∈ fp pw, P c) : ∀ c ∈ authText fu fp p, P c := by
  unfold authText
  cases hx : truthy p.username with
  | none => simp
  | some u =>
    cases hy : truthy p.password <;>
      simp only [List.mem_append, List.mem_cons, List.not_mem_nil, or_false, or_imp, forall_and, forall_eq, List.append_nil]
    · exact ⟨hu u hx, ha⟩
    · exact ⟨⟨hu u hx, hc, hp _ hy⟩, ha⟩

theorem netloc_all {P : Char → Prop} (hpunct : P '[' ∧ P ']' ∧ P ':' ∧ P '@') (hd : ∀ c, isAsciiDigit c = true → P c)
    {fu fp : Str → Str} {p : Parts} (hh : ∀ c ∈ p.host, P c)
    (hu : ∀ u, truthy p.username = some u → ∀ c ∈ fu u, P c)
    (hp : ∀ pw, truthy p.password = some pw → ∀ c ∈ fp pw, P c) : ∀ c ∈ netloc fu fp p, P c := by
  rw [netloc_eq]
  simp only [List.mem_append, or_imp, forall_and]
  exact ⟨authText_all hpunct.2.2.1 hpunct.2.2.2 hu hp, hostBr_all hpunct.1 hpunct.2.1 hh, portText_all hpunct.2.2.1 hd _⟩

theorem netloc_ascii {fu fp : Str → Str} (hu : ∀ s, ∀ c ∈ fu s, c.toNat < 128)
    (hp : ∀ s, ∀ c ∈ fp s, c.toNat < 128) (p : Parts) (hh : ∀ c ∈ p.host, c.toNat < 128) :
    ∀ c ∈ netloc fu fp p, c.toNat < 128 :=
  netloc_all (by decide) (fun _ h => (digit_facts h).2.2) hh (fun u _ => hu u) (fun u _ => hp u)

/-- `iri_to_uri` yields ASCII: every quoted component is, and the netloc adds only `[ ] : @` and port digits to an ASCII
host and the quoted userinfo (used by C15 and, for the `Location` header, by C05) -/
theorem iriToUri_ascii (p : Parts) (hs : ∀ c ∈ p.scheme, c.toNat < 128) (hh : ∀ c ∈ p.host, c.toNat < 128) :
    let u := iriToUri p
    (∀ c ∈ u.scheme, c.toNat < 128) ∧ (∀ c ∈ u.netloc, c.toNat < 128) ∧ (∀ c ∈ u.path, c.toNat < 128) ∧
    (∀ c ∈ u.query, c.toNat < 128) ∧ (∀ c ∈ u.fragment, c.toNat < 128) :=
  ⟨hs, netloc_ascii (fun _ => quoteBytes_ascii _ _) (fun _ => quoteBytes_ascii _ _) p hh, quoteBytes_ascii _ _,
    quoteBytes_ascii _ _, quoteBytes_ascii _ _⟩

theorem hostport_not_mem {d : Char} (hd : hostChar d = false) (hl : d ≠ '[') (hr : d ≠ ']') {h : Str}
    (hh : ∀ c ∈ h, hostChar c = true) (port : Option Nat) : d ∉ hostBr h ++ portText port := by
  intro hm
  rcases List.mem_append.mp hm with hm | hm
  · exact hostBr_all (P := (· ≠ d)) hl.symm hr.symm (fun c hc => ne_of_class (hh c hc) hd) _ hm rfl
  · exact portText_all (P := (· ≠ d)) (ne_of_class (by decide) hd) (fun c hc => ne_of_class (digit_facts hc).1 hd) _ _ hm rfl

theorem hostPortOf_hostport {h : Str} (hh : ∀ c ∈ h, hostChar c = true) (port : Option Nat) :
    hostPortOf (hostBr h ++ portText port) = (h, (portText port).drop 1) := by
  unfold hostPortOf
  have hnot : ∀ d, hostChar d = false → d ∉ h := fun d hd hm => ne_of_class (hh _ hm) hd rfl
  by_cases hc : ':' ∈ h
  · have e : hostBr h ++ portText port = [] ++ '[' :: (h ++ ']' :: portText port) := by simp [hostBr_of_colon hc]
    rw [e, partitionChar_append [] _ (by simp)]
    simp only
    rw [partitionChar_append h _ (hnot _ (by decide))]
    exact Prod.ext rfl (partitionChar_head [] (by simp) (portText_head port)).2
  · rw [hostBr_of_no_colon hc]
    have hnb : '[' ∉ h ++ portText port := fun hm => (List.mem_append.mp hm).elim (hnot _ (by decide)) fun hm =>
      portText_all (P := (· ≠ '[')) (by decide) (fun c hc => ne_of_class (digit_facts hc).1 (by decide)) _ _ hm rfl
    rw [partitionChar_none _ hnb]
    exact Prod.ext (partitionChar_head h hc (portText_head port)).1 (partitionChar_head h hc (portText_head port)).2

theorem rpartition_netloc {fu fp : Str → Str} {p : Parts} (np : NetlocParts fu fp p) :
    (rpartitionChar '@' (netloc fu fp p)).2 = hostBr p.host ++ portText p.port ∧
    (rpartitionChar '@' (netloc fu fp p)).1 =
      (match truthy p.username with
        | some u => some (fu u ++ match truthy p.password with | some pw => ':' :: fp pw | none => [])
        | none => none) := by
  rw [netloc_eq]
  have hno := hostport_not_mem (d := '@') (by decide) (by decide) (by decide) np.host_chars p.port
  unfold authText
  cases hu : truthy p.username with
  | none => rw [List.nil_append, rpartitionChar_none _ hno]; exact ⟨rfl, rfl⟩
  | some u =>
    simp only [List.append_assoc, List.singleton_append]
    rw [← List.append_assoc, rpartitionChar_append _ _ hno]
    exact ⟨rfl, rfl⟩

theorem netloc_hostinfo {fu fp : Str → Str} {p : Parts} (np : NetlocParts fu fp p) :
    hostinfo (netloc fu fp p) =
      (p.host, (normPort p.port).map fun k => (toString k).toList) := by
  unfold hostinfo
  simp only [(rpartition_netloc np).1]
  rw [hostPortOf_hostport np.host_chars p.port]
  cases hp : p.port with
  | none => rfl
  | some k =>
    cases k with
    | zero => rfl
    | succ k => simp [normPort, portText]

theorem netloc_port {fu fp : Str → Str} {p : Parts} (np : NetlocParts fu fp p) :
    portOf (netloc fu fp p) = .ok (normPort p.port) := by
  unfold portOf
  rw [netloc_hostinfo np]
  cases hp : p.port with
  | none => rfl
  | some k =>
    cases k with
    | zero => rfl
    | succ k =>
      obtain ⟨_, h2, h3⟩ := digits_spec (k + 1)
      have hall : (toString (k + 1)).toList.all isAsciiDigit = true := by
        simp only [List.all_eq_true]; exact h2
      have hle := np.port _ hp
      simp only [normPort, Option.map_some, hall, if_true, h3, hle]

theorem netloc_userinfo {fu fp : Str → Str} {p : Parts} (np : NetlocParts fu fp p) :
    userinfo (netloc fu fp p) =
      (match truthy p.username with
        | some u => (some (fu u), (truthy p.password).map fp)
        | none => (none, none)) := by
  unfold userinfo
  obtain ⟨_, h2⟩ := rpartition_netloc np
  generalize rpartitionChar '@' (netloc fu fp p) = r at h2
  obtain ⟨r1, r2⟩ := r
  simp only at h2
  subst h2
  cases hu : truthy p.username with
  | none => rfl
  | some u =>
    simp only
    have hnc : ':' ∉ fu u := fun hm => (plainChar_ne ((np.user u hu).2 _ hm)).2 rfl
    cases hpw : truthy p.password with
    | none => simp [partitionChar_none _ hnc]
    | some pw => simp [partitionChar_append _ _ hnc]

theorem netloc_chars {fu fp : Str → Str} {p : Parts} (np : NetlocParts fu fp p) :
    netloc fu fp p ≠ [] ∧ ∀ c ∈ netloc fu fp p, isNetlocDelim c = false ∧ isTabCrLf c = false :=
  ⟨by rw [netloc_eq]; exact fun he => hostport_ne np.host_ne p.port (List.append_eq_nil_iff.mp he).2,
   netloc_all (by decide) (fun _ h => hostChar_quiet (digit_facts h).1) (fun c hc => hostChar_quiet (np.host_chars c hc))
    (fun u hu c hc => hostChar_quiet (plainChar_ne ((np.user u hu).2 c hc)).1)
    (fun u hu c hc => hostChar_quiet (plainChar_ne ((np.pass u hu).2 c hc)).1)⟩

theorem netloc_brackets (o : UrlOpaque) {fu fp : Str → Str} {p : Parts} (np : NetlocParts fu fp p) :
    bracketsOk o (netloc fu fp p) = (if p.host.contains ':' then o.bracketOk p.host else true) := by
  rw [netloc_eq]
  have plain : ∀ c, plainChar c = true → c ≠ '[' ∧ c ≠ ']' := fun c h =>
    ⟨ne_of_class (plainChar_ne h).1 (by decide), ne_of_class (plainChar_ne h).1 (by decide)⟩
  have hauth : ∀ c ∈ authText fu fp p, c ≠ '[' ∧ c ≠ ']' :=
    authText_all (by decide) (by decide) (fun u hu c hc => plain c ((np.user u hu).2 c hc))
      (fun u hu c hc => plain c ((np.pass u hu).2 c hc))
  have hport : ∀ c ∈ portText p.port, c ≠ '[' ∧ c ≠ ']' :=
    portText_all (by decide) (fun c hc => ⟨ne_of_class (digit_facts hc).1 (by decide), ne_of_class (digit_facts hc).1 (by decide)⟩) _
  have hh : ∀ c ∈ p.host, c ≠ '[' ∧ c ≠ ']' := fun c hc =>
    ⟨ne_of_class (np.host_chars c hc) (by decide), ne_of_class (np.host_chars c hc) (by decide)⟩
  unfold bracketsOk
  by_cases hcm : ':' ∈ p.host
  · have hc : p.host.contains ':' = true := by simpa using hcm
    rw [hostBr_of_colon hcm]
    simp only [hc, if_true]
    have e : authText fu fp p ++ ('[' :: p.host ++ [']'] ++ portText p.port)
        = authText fu fp p ++ '[' :: (p.host ++ ']' :: portText p.port) := by simp
    rw [e]
    have h1 : (authText fu fp p ++ '[' :: (p.host ++ ']' :: portText p.port)).contains '[' = true := by simp
    have h2 : (authText fu fp p ++ '[' :: (p.host ++ ']' :: portText p.port)).contains ']' = true := by simp
    simp only [h1, h2, bne_self_eq_false, Bool.false_eq_true, if_false, if_true]
    rw [partitionChar_append _ _ (fun hm => (hauth _ hm).1 rfl)]
    simp only [Option.getD_some]
    rw [partitionChar_append _ _ (fun hm => (hh _ hm).2 rfl)]
  · have hc : p.host.contains ':' = false := by simpa using hcm
    rw [hostBr_of_no_colon hcm]
    simp only [hc, Bool.false_eq_true, if_false]
    have h1 : (authText fu fp p ++ (p.host ++ portText p.port)).contains '[' = false := by
      simp only [List.contains_eq_mem, decide_eq_false_iff_not, List.mem_append, not_or]
      exact ⟨fun hm => (hauth _ hm).1 rfl, fun hm => (hh _ hm).1 rfl, fun hm => (hport _ hm).1 rfl⟩
    have h2 : (authText fu fp p ++ (p.host ++ portText p.port)).contains ']' = false := by
      simp only [List.contains_eq_mem, decide_eq_false_iff_not, List.mem_append, not_or]
      exact ⟨fun hm => (hauth _ hm).2 rfl, fun hm => (hh _ hm).2 rfl, fun hm => (hport _ hm).2 rfl⟩
    simp only [h1, h2, bne_self_eq_false, Bool.false_eq_true, if_false]

end Wz.Url
