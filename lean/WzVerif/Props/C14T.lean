/-
C14T — `werkzeug.security.safe_join` *as regenerated from the source* by `tools/py2lean.py`
(`Gen/PyFns_Paths.lean`, rewritten on every check run) is equal, for all inputs, to the hand-written
model `safeJoinWith` / `safeJoin` of `Model/Paths.lean` that the C14 containment theorems are about;
the containment theorem is restated on the translated definition.
`posixpath.normpath / join / isabs` stay the hand models of Model/Paths.lean (validated by stream
normpath-kernel). The same for `secure_filename` and for the export loop of
`SharedDataMiddleware.__call__` (`shared_data_select`) against `Paths.findExport` / `Paths.sharedData`.
-/
import WzVerif.Gen.PyFns_Paths
import WzVerif.Lemmas.PyFns_Paths
import WzVerif.Lemmas.SecureFilename
import WzVerif.Lemmas.PyFnsEq_SharedData
namespace Wz.Props.C14T
open Wz Wz.Pre Wz.PyFnsPaths Wz.Gen.PyFns_Paths Wz.PyFnsEq.Middleware

/-- The translation maps `os.path.isabs` to the model of `posixpath.isabs`; that is what `os.path` is
on the platform the generated file was produced on. -/
theorem os_path_is_posixpath : Gen.PyFns_Paths.osPathIsPosixpath = true := by decide

/-- The `for filename in pathnames` loop of `safe_join`, as translated from the current source
(conditional `normpath`, the five-way refusal test, `parts.append`): it returns `None` from inside
the loop exactly when the model's `checkAll` refuses a component, and otherwise ends with the
accepted (normalised) components appended to `parts`, for every list of components, every
`parts` and every list of single-character alternative separators. -/
theorem safe_join_loop_eq (alts : List Char) (ps : List (List Char)) : ∀ parts : List (List Char),
    Gen.PyFns_Paths.safe_join.loop1 (alts.map fun c => [c]) ps parts =
      match Paths.checkAll alts ps with
      | none => .ret (.ok none)
      | some cs => .fall (parts ++ cs) := by
  induction ps with
  | nil => intro parts; simp [Gen.PyFns_Paths.safe_join.loop1, Paths.checkAll]
  | cons f rest ih =>
    intro parts
    rw [safe_join_loop_cons, Paths.checkAll]
    cases Paths.checkComp alts f with
    | none => rfl
    | some g => simp only [ih]; cases Paths.checkAll alts rest <;> simp

/-- `safe_join(directory, *pathnames)`, as translated from the current source, never raises (the
`posixpath.join(*parts)` call always has its first argument) and returns exactly the model's
`safeJoinWith`, for every directory, every number of untrusted components and every list of
single-character alternative separators. -/
theorem safe_join_eq (alts : List Char) (d : List Char) (ps : List (List Char)) :
    Gen.PyFns_Paths.safe_join (alts.map fun c => [c]) d ps = .ok (Paths.safeJoinWith alts d ps) := by
  unfold Gen.PyFns_Paths.safe_join Paths.safeJoinWith
  simp only [safe_join_loop_eq]
  cases Paths.checkAll alts ps with
  | none => simp
  | some cs => 
    simp [starCall1, Paths.dot]

/-- The same with this platform's `_os_alt_seps` (regenerated from the source, `Gen/Paths.lean`). -/
theorem safe_join_eq_here (d : List Char) (ps : List (List Char)) :
    Gen.PyFns_Paths.safe_join (Gen.Paths.osAltSeps.map fun c => [c]) d ps = .ok (Paths.safeJoin d ps) :=
  safe_join_eq _ d ps

/-- **Containment (C14 `safe_join_contained`) on the translated definition.** Whenever the regenerated
`safe_join` returns a path, the normalised result has the normalised directory's segments as a
prefix, continues only with clean components and keeps the directory's root class. -/
theorem safe_join_contained_translated (alts : List Char) (d : List Char) (ps : List (List Char))
    (p : List Char) (h : Gen.PyFns_Paths.safe_join (alts.map fun c => [c]) d ps = .ok (some p)) :
    ∃ extra, Paths.segments (Paths.normpath p) = Paths.segments (Paths.normpath d) ++ extra ∧
      (∀ c ∈ extra, Paths.Clean c) ∧
      Paths.initialSlashes (Paths.normpath p) = Paths.initialSlashes (Paths.normpath d) := by
  rw [safe_join_eq] at h
  have h' : Paths.safeJoinWith alts d ps = some p := by simpa using h
  exact Paths.safeJoinWith_contained h'

/-- The Windows device-file branch of `secure_filename` was decided at generation time
(`os.name == "nt"` is false): the translation leaves that branch out, this pins the decision. -/
theorem windows_branch_static : Gen.PyFns_Paths.osNameNt = false := by decide

/-- `secure_filename`, as translated from the current source (NFKD as an opaque function, the
`ascii`/`ignore` fold, the `os.sep` / `os.path.altsep` replacement loop, `"_".join(split())`, the
strip regex and `.strip("._")`; the Windows branch is dead, see above), returns exactly the model's
`secureFilename`, for every NFKD function and every file name. -/
theorem secure_filename_eq (nfkd : List Char → List Char) (s : List Char) :
    Gen.PyFns_Paths.secure_filename nfkd s = Paths.secureFilename nfkd s := by
  unfold Gen.PyFns_Paths.secure_filename Paths.secureFilename Paths.secureAscii
  simp only [Gen.PyFns_Paths.osSep, Gen.PyFns_Paths.osAltsep, replace_singleton, splitWs_eq, join_eq, stripChars_eq,
    Gen.PyFns_Paths.filenameAsciiStripReSubEmpty]
  -- the regenerated constants are the literals of the source (C14 `model_constants_match_source`)
  rw [show Gen.Paths.stripChars = ['.', '_'] from rfl, show Gen.Paths.joinChars = ['_'] from rfl]
  -- what is left to compare is the separator replacement under `split()`
  congr 4
  have e3 : Gen.Paths.osSeps = ['/'] := rfl
  simp only [List.isEmpty_cons, Bool.not_false, if_true, Paths.replaceSeps, e3, Pre.asciiIgnore, Paths.asciiIgnore]
  apply List.map_congr_left
  intro c _
  simp

/-- C14 `secure_filename_charset` on the translated definition: whatever the regenerated code
returns uses only `[A-Za-z0-9_.-]`. -/
theorem secure_filename_charset_translated (nfkd : List Char → List Char) (s : List Char) :
    ∀ c ∈ Gen.PyFns_Paths.secure_filename nfkd s, Paths.allowed c = true := by
  rw [secure_filename_eq]
  exact Paths.secureAscii_allowed _

example : Gen.PyFns_Paths.secure_filename id " ../.. /etc/pass wd\t$._".toList
    = "etc_pass_wd".toList := by
  repeat rw [String.toList_ofList]
  decide +kernel

example : (Gen.PyFns_Paths.safe_join [] "/srv/root".toList
    ["a/../b".toList, "".toList, "c".toList]).toOption = some (some "/srv/root/b/c".toList) := by
  repeat rw [String.toList_ofList]
  decide +kernel
example : (Gen.PyFns_Paths.safe_join [] "/srv".toList ["a".toList, "b/../..".toList]).toOption
    = some none := by
  repeat rw [String.toList_ofList]
  decide +kernel

/-! ### `SharedDataMiddleware.__call__` up to the decision which file is served (middleware/shared_data.py;
the translation stops at `guessed_type = …`) -/

/-- **The `for search_path, loader in self.exports` loop** of `SharedDataMiddleware.__call__`, as
translated from the current source, for **arbitrary** loaders (`call` is `loader(path)`), entered
with `file_loader = None` and `real_filename` in any state (unbound or bound): it is left by `break`
exactly when some export's loader answers a non-`None` file loader - for the first such export in
the order of `self.exports`, with the `(real_filename, file_loader)` of that call (`firstLoader`) -
and otherwise runs to its end with `file_loader` still `None`. It never returns from inside. -/
theorem shared_data_loop_eq (pinfo : Str) (call : Ldr → Option Str → Option Str × Option Fld)
    (allowed : Str → Bool) (path : Str) : ∀ (exports : List (Str × Ldr)) (rf : Option (Option Str)),
    (∀ r, firstLoader call path exports = some r →
      shared_data_select.loop1 pinfo call allowed path exports rf none = .brk (some r.1, some r.2)) ∧
    (firstLoader call path exports = none →
      ∃ rf', shared_data_select.loop1 pinfo call allowed path exports rf none = .fall (rf', none)) := by
  intro exports
  induction exports with
  | nil => intro rf; exact ⟨fun r h => by simp [firstLoader] at h, fun _ => ⟨rf, rfl⟩⟩
  | cons x rest ih =>
    intro rf
    obtain ⟨rf', h⟩ := shared_data_loop_cons pinfo call allowed path x.1 x.2 rest rf
    rw [h, firstLoader]
    cases tryLoader call path x.1 x.2 with
    | some r => exact ⟨fun r' hr => by cases hr; rfl, fun hn => by cases hn⟩
    | none => exact ih rf'

/-- **`SharedDataMiddleware.__call__` up to the decision which file is served**, as translated from
the current source (the export loop, then `if file_loader is None or not
self.is_allowed(real_filename): return self.app(…)`), for **arbitrary** loaders, every `is_allowed`
predicate, every export list and every request path: the request goes to the wrapped application
(`none`) when no export's loader answers a file loader, or when `is_allowed` rejects the
`real_filename` of the first one that does; otherwise that `(real_filename, file_loader)` is served.
The only error arm that can be reached is `is_allowed(None)` ("TypeError": a loader answered
`(None, file_loader)` with a file loader - none of werkzeug's three loaders does, see
`shared_data_select_eq`). -/
theorem shared_data_select_general (path : Str) (call : Ldr → Option Str → Option Str × Option Fld)
    (allowed : Str → Bool) (exports : List (Str × Ldr)) :
    shared_data_select path call allowed exports () ()
      = selected allowed (firstLoader call path exports) := by
  unfold shared_data_select
  dsimp only
  obtain ⟨hb, hf⟩ := shared_data_loop_eq path call allowed path exports none
  cases h : firstLoader call path exports with
  | none =>
    obtain ⟨rf', hl⟩ := hf h
    rw [hl]; rfl
  | some r =>
    obtain ⟨n, fl⟩ := r
    rw [hb _ h]
    cases n with
    | none => rfl
    | some name => cases ha : allowed name <;> simp [selected, ha]

/-- `real_filename` is declared by its first assignment inside the loop, and read after the loop;
the translation therefore has an "UnboundLocalError" arm. It is **unreachable for every loader**:
`real_filename` is only read when `file_loader is not None`, and both are assigned together. -/
theorem shared_data_select_not_unbound (path : Str)
    (call : Ldr → Option Str → Option Str × Option Fld) (allowed : Str → Bool)
    (exports : List (Str × Ldr)) :
    shared_data_select path call allowed exports () () ≠ .error "UnboundLocalError" := by
  rw [shared_data_select_general]
  exact selected_ne_unbound allowed _

/-- **`SharedDataMiddleware.__call__` with werkzeug's own loaders**, as translated from the current
source, for every file system (`isfile`), every `is_allowed` predicate, every export list as
`__init__` builds it (directory / single-file / package exports, in the order of `self.exports`) and
every request path: the function **never raises** - no `UnboundLocalError` and no `TypeError` arm is
reachable, because these loaders answer `(None, None)` or `(basename, opener)` - and it decides
exactly as C14's model: the first export whose loader finds a file (`Paths.findExport`), served iff
`is_allowed(real_filename)`. The answer is `(real_filename, path that is opened)`, `none` = the
wrapped application is called. -/
theorem shared_data_select_eq (isfile allowed : Str → Bool) (exports : List (Str × Paths.Export))
    (path : Str) :
    shared_data_select path
        (fun ex p => match Paths.loaderOf isfile ex p with
          | some (name, f) => (some name, some f)
          | none => (none, none))
        allowed exports () ()
      = .ok ((Paths.findExport isfile exports path).bind fun (name, f) =>
          if allowed name then some (name, f) else none) := by
  have h := shared_data_select_general path (callOf isfile) allowed exports
  rwa [firstLoader_callOf, selected_lift] at h

/-- **The file that is served**: the path opened by the file loader the translated `__call__`
selects is exactly C14's `Paths.sharedData` (the function the C14 containment theorems are about),
for every file system, `is_allowed`, export list and request path. -/
theorem shared_data_select_served (isfile allowed : Str → Bool) (exports : List (Str × Paths.Export))
    (path : Str) :
    (shared_data_select path
        (fun ex p => match Paths.loaderOf isfile ex p with
          | some (name, f) => (some name, some f)
          | none => (none, none))
        allowed exports () ()).map (Option.map (·.2))
      = .ok (Paths.sharedData isfile allowed exports path) := by
  rw [shared_data_select_eq]
  unfold Paths.sharedData
  cases Paths.findExport isfile exports path with
  | none => rfl
  | some r =>
    obtain ⟨name, f⟩ := r
    cases ha : allowed name <;> simp [Except.map, ha]

end Wz.Props.C14T
