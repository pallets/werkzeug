/-
Routing lemmas: the trie (`State`) that `StateMachineMatcher.add` builds and `update` sorts. What it stores is a relation
(`InTrie st ps r`: rule `r` sits in the state reached along the parts `ps`), and `add` / `update` are read through it and
through two invariants: `WF` (static keys distinct, the dynamic list holds dynamic parts only, with distinct keys) and
`Sorted` (every `dynamic` list in weight order, which `update` establishes). Central statement: the matcher's root stores
exactly the non-`build_only` rules, each at its own parts (`inTrie_buildRoot`), and is `WF` and `Sorted`; the search
(`RoutingSearch`) rests on these three and on nothing else about `add` / `update`.
-/
import WzVerif.Lemmas.RoutingOrder
namespace Wz.Routing
open State

mutual
theorem State.induct_aux {P : State → Prop}
    (h : ∀ rs ss ds, (∀ k s, (k, s) ∈ ss → P s) → (∀ p s, (p, s) ∈ ds → P s) → P (.node rs ss ds)) :
    ∀ st, P st
  | .node rs ss ds => h rs ss ds (State.induct_auxS h ss) (State.induct_auxD h ds)

theorem State.induct_auxS {P : State → Prop}
    (h : ∀ rs ss ds, (∀ k s, (k, s) ∈ ss → P s) → (∀ p s, (p, s) ∈ ds → P s) → P (.node rs ss ds)) :
    ∀ (ss : List (Str × State)) k s, (k, s) ∈ ss → P s
  | [], _, _, hm => by cases hm
  | (k', s') :: t, k, s, hm => by
    rcases List.mem_cons.1 hm with heq | hm
    · cases heq; exact State.induct_aux h s'
    · exact State.induct_auxS h t k s hm

theorem State.induct_auxD {P : State → Prop}
    (h : ∀ rs ss ds, (∀ k s, (k, s) ∈ ss → P s) → (∀ p s, (p, s) ∈ ds → P s) → P (.node rs ss ds)) :
    ∀ (ds : List (Part × State)) p s, (p, s) ∈ ds → P s
  | [], _, _, hm => by cases hm
  | (p', s') :: t, p, s, hm => by
    rcases List.mem_cons.1 hm with heq | hm
    · cases heq; exact State.induct_aux h s'
    · exact State.induct_auxD h t p s hm
end

@[elab_as_elim]
theorem State.induct {P : State → Prop} (st : State)
    (h : ∀ rs ss ds, (∀ k s, (k, s) ∈ ss → P s) → (∀ p s, (p, s) ∈ ds → P s) → P (.node rs ss ds)) : P st :=
  State.induct_aux h st

def Part.isDyn : Part → Bool
  | .dyn .. => true
  | .static _ => false

/-- rule `r` is stored in the state reached from `st` along the parts `ps` -/
inductive InTrie : State → List Part → Rule → Prop
  | here {rs ss ds r} : r ∈ rs → InTrie (.node rs ss ds) [] r
  | viaStatic {rs ss ds k s ps r} : (k, s) ∈ ss → InTrie s ps r → InTrie (.node rs ss ds) (.static k :: ps) r
  | viaDyn {rs ss ds p s ps r} : (p, s) ∈ ds → p.isDyn = true → InTrie s ps r → InTrie (.node rs ss ds) (p :: ps) r

/-- well-formed: static keys pairwise distinct, dynamic entries are dynamic parts, recursively -/
inductive WF : State → Prop
  | node {rs ss ds} : (ss.map (·.1)).Nodup → (ds.map (·.1)).Nodup → (∀ p s, (p, s) ∈ ds → p.isDyn = true) →
      (∀ k s, (k, s) ∈ ss → WF s) → (∀ p s, (p, s) ∈ ds → WF s) → WF (.node rs ss ds)

theorem inTrie_nil_rules {st : State} {r : Rule} : InTrie st [] r ↔ r ∈ st.rules := by
  cases st with
  | node rs ss ds => exact ⟨fun h => by cases h; assumption, InTrie.here⟩

theorem WF.empty : WF State.empty :=
  .node (by simp) (by simp) (by intro _ _ h; cases h) (by intro _ _ h; cases h) (by intro _ _ h; cases h)

theorem WF.static_nodup {rs ss ds} (h : WF (.node rs ss ds)) : (ss.map (·.1)).Nodup := by
  cases h with | node h1 _ _ _ _ => exact h1

theorem WF.dyn_nodup {rs ss ds} (h : WF (.node rs ss ds)) : (ds.map (·.1)).Nodup := by
  cases h with | node _ h2 _ _ _ => exact h2

theorem WF.dyn_isDyn {rs ss ds p s} (h : WF (.node rs ss ds)) (hm : (p, s) ∈ ds) : p.isDyn = true := by
  cases h with | node _ _ h3 _ _ => exact h3 p s hm

theorem WF.static_child {rs ss ds k s} (h : WF (.node rs ss ds)) (hm : (k, s) ∈ ss) : WF s := by
  cases h with | node _ _ _ h4 _ => exact h4 k s hm

theorem WF.dyn_child {rs ss ds p s} (h : WF (.node rs ss ds)) (hm : (p, s) ∈ ds) : WF s := by
  cases h with | node _ _ _ _ h5 => exact h5 p s hm

/-- `lookupStatic` for any key type: `updAssoc` serves both the static dict (keyed by text) and the dynamic list (keyed
by parts), so the facts about it are stated once, over this lookup -/
def lookupA {κ} [DecidableEq κ] (k : κ) : List (κ × State) → Option State
  | [] => none
  | (k', s) :: t => if k' = k then some s else lookupA k t

theorem lookupStatic_eq (k : Str) (ss : List (Str × State)) : lookupStatic k ss = lookupA k ss := by
  induction ss with
  | nil => rfl
  | cons x t ih => obtain ⟨k', s⟩ := x; simp [lookupStatic, lookupA, ih]

theorem lookupA_of_mem {κ} [DecidableEq κ] {l : List (κ × State)} {k s} (hnd : (l.map (·.1)).Nodup) (hm : (k, s) ∈ l) :
    lookupA k l = some s := by
  induction l with
  | nil => cases hm
  | cons x t ih =>
    obtain ⟨k', s'⟩ := x
    simp only [List.map_cons, List.nodup_cons] at hnd
    rcases List.mem_cons.1 hm with heq | hm
    · cases heq; simp [lookupA]
    · have hne : k' ≠ k := by
        intro h; subst h
        exact hnd.1 (List.mem_map.2 ⟨(k', s), hm, rfl⟩)
      simp [lookupA, hne, ih hnd.2 hm]

theorem mem_of_lookupA {κ} [DecidableEq κ] {l : List (κ × State)} {k s} (h : lookupA k l = some s) : (k, s) ∈ l := by
  induction l with
  | nil => simp [lookupA] at h
  | cons x t ih =>
    obtain ⟨k', s'⟩ := x
    simp only [lookupA] at h
    split at h
    · rename_i hk; subst hk; cases h; simp
    · exact List.mem_cons_of_mem _ (ih h)

theorem lookupA_none {κ} [DecidableEq κ] {l : List (κ × State)} {k} (h : lookupA k l = none) : ∀ s, (k, s) ∉ l := by
  induction l with
  | nil => simp
  | cons x t ih =>
    obtain ⟨k', s'⟩ := x
    simp only [lookupA] at h
    split at h
    · cases h
    · rename_i hk
      intro s hm
      rcases List.mem_cons.1 hm with heq | hm
      · cases heq; exact hk rfl
      · exact ih h s hm

theorem lookupStatic_of_mem {ss : List (Str × State)} {k s} (hnd : (ss.map (·.1)).Nodup) (hm : (k, s) ∈ ss) :
    lookupStatic k ss = some s := by
  rw [lookupStatic_eq]; exact lookupA_of_mem hnd hm

theorem mem_of_lookupStatic {ss : List (Str × State)} {k s} (h : lookupStatic k ss = some s) : (k, s) ∈ ss :=
  mem_of_lookupA (lookupStatic_eq k ss ▸ h)

theorem mem_iff_lookupA {κ} [DecidableEq κ] {l : List (κ × State)} (hnd : (l.map (·.1)).Nodup) {k s} :
    (k, s) ∈ l ↔ lookupA k l = some s := ⟨lookupA_of_mem hnd, mem_of_lookupA⟩

theorem keys_updAssoc {κ} [BEq κ] [LawfulBEq κ] [DecidableEq κ] (k : κ) (f : State → State) (l : List (κ × State)) :
    (updAssoc k f l).map (·.1) = if k ∈ l.map (·.1) then l.map (·.1) else l.map (·.1) ++ [k] := by
  induction l with
  | nil => simp [updAssoc]
  | cons x t ih =>
    obtain ⟨k', s⟩ := x
    by_cases hk : k' = k
    · subst hk; simp [updAssoc]
    · have hk' : ¬ k = k' := fun h => hk h.symm
      simp only [updAssoc, beq_iff_eq, hk, if_false, List.map_cons, ih, List.mem_cons, hk', false_or]
      split <;> simp

theorem nodup_keys_updAssoc {κ} [BEq κ] [LawfulBEq κ] [DecidableEq κ] {k : κ} {f : State → State} {l : List (κ × State)}
    (h : (l.map (·.1)).Nodup) : ((updAssoc k f l).map (·.1)).Nodup := by
  rw [keys_updAssoc]
  split
  · exact h
  · rename_i hk
    exact List.nodup_append.2 ⟨h, by simp, by
      intro a ha b hb
      simp at hb; subst hb
      intro hab; subst hab; exact hk ha⟩

theorem lookupA_updAssoc {κ} [BEq κ] [LawfulBEq κ] [DecidableEq κ] (k k' : κ) (f : State → State) (l : List (κ × State)) :
    lookupA k' (updAssoc k f l) = if k' = k then some (f ((lookupA k l).getD State.empty)) else lookupA k' l := by
  induction l with
  | nil =>
    by_cases h : k' = k
    · subst h; simp [updAssoc, lookupA]
    · simp [updAssoc, lookupA, h, Ne.symm h]
  | cons x t ih =>
    obtain ⟨k1, s1⟩ := x
    by_cases hk : k1 = k
    · subst hk
      by_cases h : k' = k1
      · subst h; simp [updAssoc, lookupA]
      · simp [updAssoc, lookupA, h, Ne.symm h]
    · by_cases h1 : k1 = k'
      · subst h1; simp [updAssoc, lookupA, hk]
      · simp [updAssoc, lookupA, hk, h1, ih]

theorem mem_updAssoc {κ} [BEq κ] [LawfulBEq κ] [DecidableEq κ] {k : κ} {f : State → State} {l : List (κ × State)}
    (hnd : (l.map (·.1)).Nodup) {k' s'} :
    (k', s') ∈ updAssoc k f l ↔
      (k' ≠ k ∧ (k', s') ∈ l) ∨ (k' = k ∧ s' = f ((lookupA k l).getD State.empty)) := by
  rw [mem_iff_lookupA (nodup_keys_updAssoc hnd), lookupA_updAssoc, mem_iff_lookupA hnd]
  by_cases h : k' = k <;> simp [h, eq_comm]

theorem InTrie.not_empty {ps r} : ¬ InTrie State.empty ps r := by
  intro h
  cases h with
  | here h => cases h
  | viaStatic h _ => cases h
  | viaDyn h _ _ => cases h

theorem add_nil (r : Rule) (rs ss ds) : State.add [] r (.node rs ss ds) = .node (rs ++ [r]) ss ds := by
  simp [State.add]

theorem add_static (c : Str) (ps : List Part) (r : Rule) (rs ss ds) :
    State.add (.static c :: ps) r (.node rs ss ds) = .node rs (updAssoc c (State.add ps r) ss) ds := by
  simp [State.add]

theorem add_dyn (pre kind post final suffixed w) (ps : List Part) (r : Rule) (rs ss ds) :
    State.add (.dyn pre kind post final suffixed w :: ps) r (.node rs ss ds) =
      .node rs ss (updAssoc (.dyn pre kind post final suffixed w) (State.add ps r) ds) := by
  simp [State.add]

theorem InTrie.static_iff {rs ss ds k ps r} :
    InTrie (.node rs ss ds) (.static k :: ps) r ↔ ∃ s, (k, s) ∈ ss ∧ InTrie s ps r := by
  constructor
  · intro h
    cases h with
    | viaStatic hm hi => exact ⟨_, hm, hi⟩
    | viaDyn _ hd _ => cases hd
  · rintro ⟨s, hm, hi⟩; exact .viaStatic hm hi

theorem InTrie.dyn_iff {rs ss ds pre kind post f sf w ps r} :
    InTrie (.node rs ss ds) (.dyn pre kind post f sf w :: ps) r ↔
      ∃ s, (Part.dyn pre kind post f sf w, s) ∈ ds ∧ InTrie s ps r := by
  constructor
  · intro h
    cases h with
    | viaDyn hm _ hi => exact ⟨_, hm, hi⟩
  · rintro ⟨s, hm, hi⟩; exact .viaDyn hm rfl hi

theorem updAssoc_add {κ} [BEq κ] [LawfulBEq κ] [DecidableEq κ] {l : List (κ × State)} (hnd : (l.map (·.1)).Nodup)
    (hwf : ∀ k s, (k, s) ∈ l → WF s) (k : κ) {ps : List Part} {r : Rule}
    (ih : ∀ {st : State}, WF st → WF (State.add ps r st) ∧
      ∀ {ps' r'}, (InTrie (State.add ps r st) ps' r' ↔ InTrie st ps' r' ∨ (r' = r ∧ ps' = ps))) :
    (∀ k' s, (k', s) ∈ updAssoc k (State.add ps r) l → WF s) ∧
    ∀ {k' ps' r'}, (∃ s, (k', s) ∈ updAssoc k (State.add ps r) l ∧ InTrie s ps' r') ↔
      (∃ s, (k', s) ∈ l ∧ InTrie s ps' r') ∨ (k' = k ∧ r' = r ∧ ps' = ps) := by
  have hchild : WF ((lookupA k l).getD State.empty) ∧
      ∀ {ps' r'}, InTrie ((lookupA k l).getD State.empty) ps' r' ↔ ∃ s, (k, s) ∈ l ∧ InTrie s ps' r' := by
    cases hl : lookupA k l with
    | none => exact ⟨WF.empty, ⟨fun h => absurd h InTrie.not_empty, fun ⟨s, hm, _⟩ => absurd hm (lookupA_none hl s)⟩⟩
    | some s0 =>
      refine ⟨hwf k s0 (mem_of_lookupA hl), ⟨fun h => ⟨s0, mem_of_lookupA hl, h⟩, fun ⟨s, hm, h⟩ => ?_⟩⟩
      rw [lookupA_of_mem hnd hm] at hl
      cases hl; exact h
  refine ⟨fun k' s hm => ?_, fun {k' ps' r'} => ?_⟩
  · rcases (mem_updAssoc hnd).1 hm with ⟨_, hm⟩ | ⟨_, rfl⟩
    · exact hwf k' s hm
    · exact (ih hchild.1).1
  · simp only [mem_updAssoc hnd]
    by_cases hk : k' = k
    · subst hk
      simp [(ih hchild.1).2, hchild.2]
    · simp [hk]

theorem InTrie.cons_rules {rs rs' ss ds p ps r} (h : InTrie (.node rs ss ds) (p :: ps) r) :
    InTrie (.node rs' ss ds) (p :: ps) r := by
  cases h with
  | viaStatic hm hi => exact .viaStatic hm hi
  | viaDyn hm hd hi => exact .viaDyn hm hd hi

theorem add_spec {ps : List Part} {r : Rule} : ∀ {st : State}, WF st → WF (State.add ps r st) ∧
    ∀ {ps' r'}, (InTrie (State.add ps r st) ps' r' ↔ InTrie st ps' r' ∨ (r' = r ∧ ps' = ps)) := by
  induction ps with
  | nil =>
    intro st h
    cases h with
    | @node rs ss ds h1 h2 h3 h4 h5 =>
      rw [add_nil]
      refine ⟨.node h1 h2 h3 h4 h5, fun {ps' r'} => ?_⟩
      cases ps' with
      | nil => simp [inTrie_nil_rules, State.rules]
      | cons p t => simpa using ⟨InTrie.cons_rules, InTrie.cons_rules⟩
  | cons p ps ih =>
    intro st h
    cases h with
    | @node rs ss ds h1 h2 h3 h4 h5 =>
      cases p with
      | static c =>
        rw [add_static]
        obtain ⟨hw, hi⟩ := updAssoc_add h1 h4 c ih
        refine ⟨.node (nodup_keys_updAssoc h1) h2 h3 hw h5, fun {ps' r'} => ?_⟩
        cases ps' with
        | nil => simp [inTrie_nil_rules, State.rules]
        | cons p' t =>
          cases p' with
          | static k' => simp [InTrie.static_iff, hi, and_left_comm]
          | dyn _ _ _ _ _ _ => simp [InTrie.dyn_iff]
      | dyn pre kind post final suffixed w =>
        rw [add_dyn]
        obtain ⟨hw, hi⟩ := updAssoc_add h2 h5 (Part.dyn pre kind post final suffixed w) ih
        refine ⟨.node h1 (nodup_keys_updAssoc h2) (fun p s hm => ?_) h4 hw, fun {ps' r'} => ?_⟩
        · rcases (mem_updAssoc h2).1 hm with ⟨_, hm⟩ | ⟨rfl, _⟩
          · exact h3 p s hm
          · rfl
        · cases ps' with
          | nil => simp [inTrie_nil_rules, State.rules]
          | cons p' t =>
            cases p' with
            | static k' => simp [InTrie.static_iff]
            | dyn _ _ _ _ _ _ => simp [InTrie.dyn_iff, hi, and_left_comm]

theorem sortDyn_eq (l : List (Part × State)) : sortDyn l = sortBy (fun a b => a.1.weight.lt b.1.weight) l := by
  have ins : ∀ x l, insertDyn x l = insertBy (fun a b : Part × State => a.1.weight.lt b.1.weight) x l := by
    intro x l
    induction l with
    | nil => rfl
    | cons y t ih => simp only [insertDyn, insertBy, ih]
  induction l with
  | nil => rfl
  | cons x t ih => simp only [sortDyn, sortBy, ins, ih]

theorem sortDyn_perm (l : List (Part × State)) : (sortDyn l).Perm l := by
  rw [sortDyn_eq]; exact sortBy_perm _ l

def DynSortedList (l : List (Part × State)) : Prop :=
  l.Pairwise (fun a b => b.1.weight.lt a.1.weight = false)

theorem sortDyn_sorted (l : List (Part × State)) : DynSortedList (sortDyn l) := by
  rw [sortDyn_eq]; exact sortBy_sorted (swo_weighting.comap (·.1.weight)) l

theorem updateS_eq (ss : List (Str × State)) : updateS ss = ss.map (fun e => (e.1, update e.2)) := by
  induction ss with
  | nil => simp [updateS]
  | cons x t ih => obtain ⟨k, s⟩ := x; simp [updateS, ih]

theorem updateD_eq (ds : List (Part × State)) : updateD ds = ds.map (fun e => (e.1, update e.2)) := by
  induction ds with
  | nil => simp [updateD]
  | cons x t ih => obtain ⟨k, s⟩ := x; simp [updateD, ih]

theorem update_node (rs ss ds) :
    update (.node rs ss ds) = .node rs (ss.map (fun e => (e.1, update e.2))) (sortDyn (ds.map (fun e => (e.1, update e.2)))) := by
  simp [update, updateS_eq, updateD_eq]

theorem mem_map_update {κ} {l : List (κ × State)} {k : κ} {s' : State} :
    (k, s') ∈ l.map (fun e => (e.1, update e.2)) ↔ ∃ s, (k, s) ∈ l ∧ s' = update s := by
  simp only [List.mem_map, Prod.mk.injEq, Prod.exists]
  constructor
  · rintro ⟨a, b, hm, rfl, rfl⟩; exact ⟨b, hm, rfl⟩
  · rintro ⟨s, hm, rfl⟩; exact ⟨k, s, hm, rfl, rfl⟩

theorem keys_map_update {κ} (l : List (κ × State)) : (l.map (fun e => (e.1, update e.2))).map (·.1) = l.map (·.1) := by
  simp [List.map_map, Function.comp_def]

theorem mem_dyn_update {ds : List (Part × State)} {p : Part} {s' : State} :
    (p, s') ∈ sortDyn (ds.map fun e => (e.1, update e.2)) ↔ ∃ s, (p, s) ∈ ds ∧ s' = update s :=
  (sortDyn_perm _).mem_iff.trans mem_map_update

theorem keys_dyn_update (ds : List (Part × State)) :
    ((sortDyn (ds.map fun e => (e.1, update e.2))).map (·.1)).Perm (ds.map (·.1)) := by
  have := (sortDyn_perm (ds.map fun e => (e.1, update e.2))).map (·.1)
  rwa [keys_map_update] at this

theorem inTrie_update (st : State) : ∀ {ps r}, InTrie (update st) ps r ↔ InTrie st ps r := by
  induction st using State.induct with
  | h rs ss ds ihs ihd =>
    intro ps r
    rw [update_node]
    constructor
    · intro hi
      cases hi with
      | here hm => exact .here hm
      | viaStatic hm hi =>
        obtain ⟨s, hm', rfl⟩ := mem_map_update.1 hm
        exact .viaStatic hm' ((ihs _ s hm').1 hi)
      | viaDyn hm hd hi =>
        obtain ⟨s, hm', rfl⟩ := mem_dyn_update.1 hm
        exact .viaDyn hm' hd ((ihd _ s hm').1 hi)
    · intro hi
      cases hi with
      | here hm => exact .here hm
      | viaStatic hm hi => exact .viaStatic (mem_map_update.2 ⟨_, hm, rfl⟩) ((ihs _ _ hm).2 hi)
      | viaDyn hm hd hi =>
        exact .viaDyn (mem_dyn_update.2 ⟨_, hm, rfl⟩) hd ((ihd _ _ hm).2 hi)

theorem WF.update (st : State) : WF st → WF (update st) := by
  induction st using State.induct with
  | h rs ss ds ihs ihd =>
    intro h
    rw [update_node]
    refine .node ?_ ?_ ?_ ?_ ?_
    · rw [keys_map_update]; exact h.static_nodup
    · exact (keys_dyn_update ds).nodup_iff.2 h.dyn_nodup
    · intro p s hm
      obtain ⟨s0, hm', _⟩ := mem_dyn_update.1 hm
      exact h.dyn_isDyn hm'
    · intro k s hm
      obtain ⟨s0, hm', rfl⟩ := mem_map_update.1 hm
      exact ihs k s0 hm' (h.static_child hm')
    · intro p s hm
      obtain ⟨s0, hm', rfl⟩ := mem_dyn_update.1 hm
      exact ihd p s0 hm' (h.dyn_child hm')

/-- every `dynamic` list below `st` is sorted by weight -/
inductive Sorted : State → Prop
  | node {rs ss ds} : DynSortedList ds → (∀ k s, (k, s) ∈ ss → Sorted s) → (∀ p s, (p, s) ∈ ds → Sorted s) →
      Sorted (.node rs ss ds)

theorem Sorted.update (st : State) : Sorted (State.update st) := by
  induction st using State.induct with
  | h rs ss ds ihs ihd =>
    rw [update_node]
    refine .node (sortDyn_sorted _) ?_ ?_
    · intro k s hm
      obtain ⟨s0, hm', rfl⟩ := mem_map_update.1 hm
      exact ihs k s0 hm'
    · intro p s hm
      obtain ⟨s0, hm', rfl⟩ := mem_dyn_update.1 hm
      exact ihd p s0 hm'

def addAll (rules : List Rule) (st : State) : State :=
  rules.foldl (fun st r => if r.spec.buildOnly then st else State.add r.parts r st) st

theorem buildRoot_eq (rules : List Rule) : buildRoot rules = (addAll rules State.empty).update := rfl

theorem addAll_spec (rules : List Rule) : ∀ {st : State}, WF st →
    WF (addAll rules st) ∧ ∀ {ps r}, (InTrie (addAll rules st) ps r ↔
      InTrie st ps r ∨ (r ∈ rules ∧ r.spec.buildOnly = false ∧ ps = r.parts)) := by
  induction rules with
  | nil => intro st h; exact ⟨h, by simp [addAll]⟩
  | cons x t ih =>
    intro st h
    have step : WF (if x.spec.buildOnly then st else State.add x.parts x st) ∧
        ∀ {ps r}, (InTrie (if x.spec.buildOnly then st else State.add x.parts x st) ps r ↔
          InTrie st ps r ∨ (r = x ∧ r.spec.buildOnly = false ∧ ps = r.parts)) := by
      cases hb : x.spec.buildOnly with
      | true => exact ⟨h, ⟨.inl, fun h' => h'.elim id fun ⟨e, hb', _⟩ => by rw [e, hb] at hb'; cases hb'⟩⟩
      | false =>
        refine ⟨(add_spec h).1, ?_⟩
        simp only [Bool.false_eq_true, if_false, (add_spec h).2]
        exact or_congr Iff.rfl ⟨fun ⟨e, hp⟩ => by subst e; exact ⟨rfl, hb, hp⟩, fun ⟨e, _, hp⟩ => by subst e; exact ⟨rfl, hp⟩⟩
    obtain ⟨hw, hi⟩ := ih step.1
    exact ⟨hw, fun {ps r} => by
      rw [show addAll (x :: t) st = addAll t (if x.spec.buildOnly then st else State.add x.parts x st) from rfl, hi, step.2]
      simp only [List.mem_cons, or_and_right, or_assoc]⟩

theorem inTrie_buildRoot (rules : List Rule) {ps r} :
    InTrie (buildRoot rules) ps r ↔ (r ∈ rules ∧ r.spec.buildOnly = false ∧ ps = r.parts) := by
  rw [buildRoot_eq, inTrie_update, (addAll_spec rules WF.empty).2]
  exact ⟨fun h => h.resolve_left InTrie.not_empty, .inr⟩

theorem WF.buildRoot (rules : List Rule) : WF (buildRoot rules) := by
  rw [buildRoot_eq]; exact WF.update _ (addAll_spec rules WF.empty).1

theorem Sorted.buildRoot (rules : List Rule) : Sorted (buildRoot rules) := by
  rw [buildRoot_eq]; exact Sorted.update _

def UniqPath (st : State) : Prop := ∀ ps1 ps2 r, InTrie st ps1 r → InTrie st ps2 r → ps1 = ps2

theorem UniqPath.static {rs ss ds k s} (h : UniqPath (.node rs ss ds)) (hm : (k, s) ∈ ss) : UniqPath s := by
  intro a b r ha hb
  have := h _ _ r (.viaStatic hm ha) (.viaStatic hm hb)
  injection this

end Wz.Routing
