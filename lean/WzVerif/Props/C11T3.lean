/-
C11T3 — C11T continued: `Response.make_conditional` (`wrappers/response.py`, `accept_ranges: bool`) *as
regenerated from the source* by `tools/py2lean.py` (`Gen/PyFns_Response.lean`, rewritten on every check
run) is, for every request / response pair and every previous value of what it writes, exactly what the
model's `makeConditionalStatus` decides (`make_conditional_bool_eq`, through the view `mcView`): which
status is assigned (412 / 304 / 206 / none), that `RequestedRangeNotSatisfiable` is raised exactly in the
model's 416 case (with only the Date header written), what `_process_range_request` writes on a 206, that
preconditions are evaluated before the Range header, when the Date and Content-Length headers are
written. What the method asks of the request and the headers are parameters, instantiated from the
model (`isResourceModified`, `parseEtags … .truthy`, `rangeProcessable`, the Range header); what it
writes is recorded in six `out_*` attributes. The model's whole-response function `respond` is tied to
the translation on status, the 416 case, the 206 headers and Content-Length.
The structural equation of the translated method and the equality with `mcView` that everything here
is read off are in Lemmas/PyFnsEq_MakeConditional.lean.
-/
import WzVerif.Lemmas.PyFnsEq_MakeConditional
namespace Wz.Props.C11T3
open Wz Wz.Pre Wz.Gen.PyFns_Response Wz.PyFnsEq.Response Wz.PyFnsEq.MakeConditional

/-- `make_conditional` on a request whose method is neither GET nor HEAD writes nothing and returns
`self`: all six recorded attributes keep their previous values - whatever the headers, the response and
the arguments are (no hypothesis on the other parameters). -/
theorem make_conditional_bool_other_method (method : Str) (hasDate modified ifMatch processable : Bool)
    (httpRange : Option Str) (auto hasCL : Bool) (calcLen : Option Int) (s : MCState)
    (acceptRanges : Bool) (completeLength : Option Int) (hm : isGetHead method = false) :
    make_conditional_bool method hasDate modified ifMatch processable httpRange auto hasCL calcLen
        s.1 s.2.1 s.2.2.1 s.2.2.2.1 s.2.2.2.2.1 s.2.2.2.2.2 () acceptRanges completeLength
      = (s, .ok ()) := by
  rw [make_conditional_bool_struct, hm]
  rfl

/-- The Date header, for every value of the other parameters (also when
`RequestedRangeNotSatisfiable` is raised, and whatever `is_resource_modified` answers): after
`make_conditional` `out_date` is true when the method is GET / HEAD and the response had no Date header,
and keeps its previous value otherwise. -/
theorem make_conditional_bool_date (method : Str) (hasDate modified ifMatch processable : Bool)
    (httpRange : Option Str) (auto hasCL : Bool) (calcLen : Option Int) (s : MCState)
    (acceptRanges : Bool) (completeLength : Option Int) :
    (make_conditional_bool method hasDate modified ifMatch processable httpRange auto hasCL calcLen
        s.1 s.2.1 s.2.2.1 s.2.2.2.1 s.2.2.2.2.1 s.2.2.2.2.2 () acceptRanges completeLength).1.1
      = dateAfter method hasDate s.1 := by
  rw [make_conditional_bool_struct]
  cases hm : isGetHead method
  · simp [dateAfter, hm]
  · cases modified
    · rfl
    · simp only [↓reduceIte]
      split <;> rfl

/-- the model only answers 200, 206, 304, 412, and a range goes with 206 exactly -/
theorem makeConditionalStatus_cases (method : Str) (q : Cond.CondReq) (r : Cond.RespIn)
    (completeLength : Option Int) (acceptRanges : Bool) :
    Cond.makeConditionalStatus method q r completeLength acceptRanges = none ∨
    Cond.makeConditionalStatus method q r completeLength acceptRanges = some (200, .notRange) ∨
    Cond.makeConditionalStatus method q r completeLength acceptRanges = some (304, .notRange) ∨
    Cond.makeConditionalStatus method q r completeLength acceptRanges = some (412, .notRange) ∨
    ∃ a b, Cond.makeConditionalStatus method q r completeLength acceptRanges
      = some (206, .partialContent a b) :=
  Cond.makeConditionalStatus_values method q r completeLength acceptRanges

/-- `Response.make_conditional(environ, accept_ranges, complete_length)` for `accept_ranges: bool`, as
translated from the current source of `werkzeug/wrappers/response.py` (the GET / HEAD test, the Date
header, `is_resource_modified` before the Range header with its 412 / 304 split on If-Match, else
`_process_range_request`, the closing Content-Length block), does exactly what the model's
`makeConditionalStatus` decides - `mcView` of its answer - for every method text, every request /
response pair, every previous value `s` of the six recorded attributes, every value of
`"date" in headers`, `automatically_set_content_length`, `"content-length" in headers`,
`calculate_content_length()`, `complete_length` (or `None`) and both values of `accept_ranges`; the
readings of the environ are the model's (`isResourceModified … true`, truthiness of
`parseEtags (If-Match)`, `rangeProcessable`, the Range header text). -/
theorem make_conditional_bool_eq (method : Str) (q : Cond.CondReq) (r : Cond.RespIn)
    (hasDate auto hasCL : Bool) (calcLen : Option Int) (s : MCState)
    (completeLength : Option Int) (acceptRanges : Bool) :
    make_conditional_bool method hasDate (Cond.isResourceModified q r.etag (Cond.lmOf r) true)
        (Cond.parseEtags q.im).truthy (Cond.rangeProcessable q r) q.range auto hasCL calcLen
        s.1 s.2.1 s.2.2.1 s.2.2.2.1 s.2.2.2.2.1 s.2.2.2.2.2 () acceptRanges completeLength
      = mcView method hasDate auto hasCL calcLen s (completeLength.getD 0)
          (Cond.makeConditionalStatus method q r completeLength acceptRanges) :=
  PyFnsEq.MakeConditional.make_conditional_bool_eq method q r hasDate auto hasCL calcLen s completeLength acceptRanges

/-- `make_conditional_bool_eq` read from the fresh state `(d0, None, None, None, None, None)`: the
translated `make_conditional` raises `RequestedRangeNotSatisfiable` exactly when the model's
`makeConditionalStatus` is `none` (416), and otherwise returns `self` with `out_status` unassigned for
the model's 200 and `412 / 304 / 206` when the model says so, the range attributes
(`Content-Range`, `_wrap_range_response`, `Accept-Ranges`) written as `rangeResult` describes for
`.partialContent a b` and untouched otherwise, `out_date` and `out_content_length` as `dateAfter` /
`fillLength` say - all of that is `mcView … (fresh d0) …`. -/
theorem make_conditional_bool_status (method : Str) (q : Cond.CondReq) (r : Cond.RespIn)
    (hasDate auto hasCL : Bool) (calcLen : Option Int) (d0 : Bool)
    (completeLength : Option Int) (acceptRanges : Bool) :
    make_conditional_bool method hasDate (Cond.isResourceModified q r.etag (Cond.lmOf r) true)
        (Cond.parseEtags q.im).truthy (Cond.rangeProcessable q r) q.range auto hasCL calcLen
        d0 none none none none none () acceptRanges completeLength
      = mcView method hasDate auto hasCL calcLen (fresh d0) (completeLength.getD 0)
          (Cond.makeConditionalStatus method q r completeLength acceptRanges) :=
  make_conditional_bool_eq method q r hasDate auto hasCL calcLen (fresh d0) completeLength acceptRanges


section corollaries
variable (method : Str) (q : Cond.CondReq) (r : Cond.RespIn) (hasDate auto hasCL : Bool)
  (calcLen : Option Int) (s : MCState) (completeLength : Option Int) (acceptRanges : Bool)

/-- `make_conditional` raises an exception exactly when the model's `makeConditionalStatus` is `none`
(the 416 case), and the exception is `RequestedRangeNotSatisfiable`. -/
theorem make_conditional_bool_raises_iff (e : String) :
    (mcRun method q r hasDate auto hasCL calcLen s completeLength acceptRanges).2 = .error e
      ↔ (Cond.makeConditionalStatus method q r completeLength acceptRanges = none
          ∧ e = "RequestedRangeNotSatisfiable") := by
  rw [mcRun_snd]
  cases Cond.makeConditionalStatus method q r completeLength acceptRanges <;> simp [eq_comm]

/-- `make_conditional` returns (`self`) exactly when the model's `makeConditionalStatus` gives a status. -/
theorem make_conditional_bool_ok_iff :
    (mcRun method q r hasDate auto hasCL calcLen s completeLength acceptRanges).2 = .ok ()
      ↔ (Cond.makeConditionalStatus method q r completeLength acceptRanges).isSome = true := by
  rw [mcRun_snd]
  cases Cond.makeConditionalStatus method q r completeLength acceptRanges <;> simp

/-- When `RequestedRangeNotSatisfiable` is raised (model `none`), the only thing written before is the
Date header: the five other attributes keep their previous values. -/
theorem make_conditional_bool_raise_state
    (h : Cond.makeConditionalStatus method q r completeLength acceptRanges = none) :
    (mcRun method q r hasDate auto hasCL calcLen s completeLength acceptRanges).1
      = (dateAfter method hasDate s.1, s.2) := by
  rw [mcRun_416 h]

/-- Model status 412 (precondition failed: the resource counts as unmodified and If-Match carries
tags): `make_conditional` returns with `self.status_code = 412` assigned. -/
theorem make_conditional_bool_status_412 (o : Cond.RangeOutcome)
    (h : Cond.makeConditionalStatus method q r completeLength acceptRanges = some (412, o)) :
    (mcRun method q r hasDate auto hasCL calcLen s completeLength acceptRanges).2 = .ok () ∧
    (mcRun method q r hasDate auto hasCL calcLen s completeLength acceptRanges).1.2.2.2.2.1 = some 412 := by
  exact mcRun_status method q r hasDate auto hasCL calcLen s completeLength acceptRanges 412 o h

/-- Model status 304 (not modified, no If-Match tags): `make_conditional` returns with
`self.status_code = 304` assigned. -/
theorem make_conditional_bool_status_304 (o : Cond.RangeOutcome)
    (h : Cond.makeConditionalStatus method q r completeLength acceptRanges = some (304, o)) :
    (mcRun method q r hasDate auto hasCL calcLen s completeLength acceptRanges).2 = .ok () ∧
    (mcRun method q r hasDate auto hasCL calcLen s completeLength acceptRanges).1.2.2.2.2.1 = some 304 := by
  exact mcRun_status method q r hasDate auto hasCL calcLen s completeLength acceptRanges 304 o h

/-- Model status 206: `make_conditional` returns with `self.status_code = 206` assigned (by
`_process_range_request`). -/
theorem make_conditional_bool_status_206 (o : Cond.RangeOutcome)
    (h : Cond.makeConditionalStatus method q r completeLength acceptRanges = some (206, o)) :
    (mcRun method q r hasDate auto hasCL calcLen s completeLength acceptRanges).2 = .ok () ∧
    (mcRun method q r hasDate auto hasCL calcLen s completeLength acceptRanges).1.2.2.2.2.1 = some 206 := by
  exact mcRun_status method q r hasDate auto hasCL calcLen s completeLength acceptRanges 206 o h

/-- Model status 200: `make_conditional` returns and never assigns `self.status_code` (the recorded
value stays what it was), writes no Accept-Ranges / Content-Range and does not wrap the body. -/
theorem make_conditional_bool_status_200 (o : Cond.RangeOutcome)
    (h : Cond.makeConditionalStatus method q r completeLength acceptRanges = some (200, o)) :
    (mcRun method q r hasDate auto hasCL calcLen s completeLength acceptRanges).2 = .ok () ∧
    (mcRun method q r hasDate auto hasCL calcLen s completeLength acceptRanges).1.2.2
      = s.2.2 := by
  -- a 200 is no partial content
  have ho : ∀ a b, o ≠ .partialContent a b := fun a b hab => by
    subst hab; cases (Cond.status_partial_iff.mp h).2.2.1
  rw [mcRun_plain h ho]
  exact ⟨rfl, rfl⟩

/-- From the fresh state, the assigned status code read back from the model: never assigned when the
model says 200 (or when the exception is raised), else the model's code. -/
theorem make_conditional_bool_out_status (d0 : Bool) :
    (mcRun method q r hasDate auto hasCL calcLen (fresh d0) completeLength acceptRanges).1.2.2.2.2.1
      = match Cond.makeConditionalStatus method q r completeLength acceptRanges with
        | none => none
        | some (code, _) => if code = 200 then none else some (code : Int) := by
  cases h : Cond.makeConditionalStatus method q r completeLength acceptRanges with
  | none => rw [make_conditional_bool_raise_state method q r hasDate auto hasCL calcLen _ completeLength acceptRanges h]; rfl
  | some p => exact (mcRun_status method q r hasDate auto hasCL calcLen _ completeLength acceptRanges p.1 p.2 h).2

/-- From the fresh state, `self.status_code = code` is assigned exactly when the model answers a
status `code` other than 200 (so: 412, 304 or 206). -/
theorem make_conditional_bool_out_status_iff (d0 : Bool) (code : Nat) :
    (mcRun method q r hasDate auto hasCL calcLen (fresh d0) completeLength acceptRanges).1.2.2.2.2.1
        = some (code : Int)
      ↔ (code ≠ 200 ∧ ∃ o, Cond.makeConditionalStatus method q r completeLength acceptRanges = some (code, o)) := by
  rw [make_conditional_bool_out_status]
  rcases makeConditionalStatus_cases method q r completeLength acceptRanges with h | h | h | h | ⟨a, b, h⟩ <;>
    simp [h] <;> omega

/-- The range outcome: when the model answers `.partialContent a b`, `make_conditional` returns after
exactly the five writes of `_process_range_request` - `Content-Length: b - a`, `Accept-Ranges: bytes`,
`Content-Range: bytes a-(b-1)/complete_length`, `status_code = 206`, `_wrap_range_response(a, b - a)` -
(and the Date header); neither `automatically_set_content_length` nor an existing Content-Length header
nor `calculate_content_length()` matter. -/
theorem make_conditional_bool_partial (code : Nat) (a b : Int)
    (h : Cond.makeConditionalStatus method q r completeLength acceptRanges = some (code, .partialContent a b)) :
    mcRun method q r hasDate auto hasCL calcLen s completeLength acceptRanges
      = ((dateAfter method hasDate s.1,
          (rangeResult s.2 Cond.bytesUnit (completeLength.getD 0) (.partialContent a b)).1), .ok ()) := by
  exact mcRun_partial h

/-- When the model's outcome is not a partial content, `make_conditional` writes no Accept-Ranges, no
Content-Range and does not wrap the body (those three attributes keep their previous values). -/
theorem make_conditional_bool_no_range (code : Nat) (o : Cond.RangeOutcome)
    (h : Cond.makeConditionalStatus method q r completeLength acceptRanges = some (code, o))
    (ho : ∀ a b, o ≠ .partialContent a b) :
    let out := (mcRun method q r hasDate auto hasCL calcLen s completeLength acceptRanges).1
    out.2.2.1 = s.2.2.1 ∧ out.2.2.2.1 = s.2.2.2.1 ∧ out.2.2.2.2.2 = s.2.2.2.2.2 := by
  rw [mcRun_plain h ho]
  exact ⟨rfl, rfl, rfl⟩

/-- Content-Length after a 206: it is the length of the range, `b - a`, written by
`_process_range_request`; the closing block of `make_conditional` leaves it alone whatever
`automatically_set_content_length` and `calculate_content_length()` are. -/
theorem make_conditional_bool_content_length_206 (code : Nat) (a b : Int)
    (h : Cond.makeConditionalStatus method q r completeLength acceptRanges = some (code, .partialContent a b)) :
    (mcRun method q r hasDate auto hasCL calcLen s completeLength acceptRanges).1.2.1 = some (b - a) := by
  rw [make_conditional_bool_partial method q r hasDate auto hasCL calcLen s completeLength acceptRanges code a b h]
  rfl

/-- `calculate_content_length()` is not consulted after a 206: the whole result is the same for any two
values of it (and of `automatically_set_content_length`, `"content-length" in headers`). -/
theorem make_conditional_bool_calc_unused_206 (code : Nat) (a b : Int) (auto' hasCL' : Bool) (calcLen' : Option Int)
    (h : Cond.makeConditionalStatus method q r completeLength acceptRanges = some (code, .partialContent a b)) :
    mcRun method q r hasDate auto hasCL calcLen s completeLength acceptRanges
      = mcRun method q r hasDate auto' hasCL' calcLen' s completeLength acceptRanges := by
  rw [make_conditional_bool_partial method q r hasDate auto hasCL calcLen s completeLength acceptRanges code a b h,
    make_conditional_bool_partial method q r hasDate auto' hasCL' calcLen' s completeLength acceptRanges code a b h]

/-- Content-Length when the method is GET / HEAD and the model's outcome is not a partial content (200,
304, 412): `fillLength` - under `automatically_set_content_length`, with no Content-Length header
present (nor recorded before), it becomes `calculate_content_length()` when that is not `None`; in every
other case it keeps its previous value. -/
theorem make_conditional_bool_content_length_fill (code : Nat) (o : Cond.RangeOutcome)
    (hm : isGetHead method = true)
    (h : Cond.makeConditionalStatus method q r completeLength acceptRanges = some (code, o))
    (ho : ∀ a b, o ≠ .partialContent a b) :
    (mcRun method q r hasDate auto hasCL calcLen s completeLength acceptRanges).1.2.1
      = fillLength auto hasCL calcLen s.2.1 := by
  rw [mcRun_plain h ho, hm]; rfl

end corollaries

/-! ### the model's WSGI answer `Cond.respond`

`respond` is `make_conditional` followed by `get_wsgi_response`; what can be compared with the
translation without modelling `get_wsgi_headers` is: whether 416 is raised, the status, the range
headers of a 206 and - for GET / HEAD answers other than 304 - the Content-Length. Not compared: the
body chunks (`_RangeWrapper`, not part of this translation), the 304 answer's Content-Length
(`make_conditional` does write `calculate_content_length()` there; `get_wsgi_headers` removes the entity
headers of a 304 afterwards, so `respond` says `none`) and the Content-Length of other methods (written
by `get_wsgi_headers`, not by `make_conditional`). -/

section respond
variable (method : Str) (q : Cond.CondReq) (r : Cond.RespIn) (hasDate auto hasCL : Bool)
  (calcLen : Option Int) (s : MCState) (completeLength : Option Int) (acceptRanges : Bool)
  (chunks : List Bytes) (seekable : Option Nat) (kind : Nat)

/-- The model's `respond` answers `none` (416) exactly when the translated `make_conditional` raises
`RequestedRangeNotSatisfiable`. -/
theorem respond_none_iff :
    Cond.respond method q r completeLength acceptRanges chunks seekable kind = none
      ↔ (mcRun method q r hasDate auto hasCL calcLen s completeLength acceptRanges).2
          = .error "RequestedRangeNotSatisfiable" := by
  rw [make_conditional_bool_raises_iff, Cond.respond_eq_none_iff]
  simp

/-- The status of the model's `respond` is the status the translated `make_conditional` leaves on a
response that was 200: the assigned `status_code` (from the fresh state), 200 when none was assigned. -/
theorem respond_status_eq (o : Cond.WsgiOut) (d0 : Bool)
    (ho : Cond.respond method q r completeLength acceptRanges chunks seekable kind = some o) :
    (o.status : Int)
      = ((mcRun method q r hasDate auto hasCL calcLen (fresh d0) completeLength acceptRanges).1.2.2.2.2.1).getD 200 := by
  obtain ⟨oc, h⟩ := Cond.respond_status ho
  rw [make_conditional_bool_out_status, h]
  by_cases h200 : o.status = 200 <;> simp [h200]

/-- A 206 of the model's `respond` carries the range headers the translated `make_conditional` wrote:
same Content-Length (`b - a`), `Accept-Ranges` present on both sides, and the model's Content-Range triple
`(first, last, length)` printed as `bytes first-last/length` is the recorded `Content-Range` text. -/
theorem respond_partial_eq (o : Cond.WsgiOut)
    (ho : Cond.respond method q r completeLength acceptRanges chunks seekable kind = some o)
    (h206 : o.status = 206) :
    let out := (mcRun method q r hasDate auto hasCL calcLen s completeLength acceptRanges).1
    o.contentLength = out.2.1 ∧ o.acceptRanges = out.2.2.1.isSome ∧ out.2.2.1 = some Cond.bytesUnit ∧
    o.contentRange.map (fun t => crText Cond.bytesUnit t.1 (t.2.1 + 1) t.2.2) = out.2.2.2.1 := by
  rcases Cond.respond_inv ho with ⟨a, b, h, rfl⟩ | ⟨_, rfl⟩ | ⟨st, hst, _, rfl⟩
  · rw [make_conditional_bool_partial method q r hasDate auto hasCL calcLen s completeLength acceptRanges 206 a b h]
    simp [rangeResult]
  · cases h206
  · rcases hst with rfl | rfl <;> cases h206

/-- Content-Length of the model's `respond` for a GET / HEAD request whose answer is not 304 (so 200, 206
or 412): it is the Content-Length the translated `make_conditional` leaves on a fresh response with
`automatically_set_content_length` on, no Content-Length header and `calculate_content_length()` as
`kindLength` says (the range length after a 206, the total of the body for a list or an iterable, none
under `direct_passthrough`). -/
theorem respond_content_length_eq (o : Cond.WsgiOut) (d0 : Bool) (hm : isGetHead method = true)
    (ho : Cond.respond method q r completeLength acceptRanges chunks seekable kind = some o)
    (h304 : o.status ≠ 304) :
    o.contentLength
      = (mcRun method q r hasDate true false (kindLength kind chunks) (fresh d0) completeLength acceptRanges).1.2.1 := by
  have hgh : (method == ['G', 'E', 'T'] || method == ['H', 'E', 'A', 'D']) = true := hm
  rcases Cond.respond_inv ho with ⟨a, b, h, rfl⟩ | ⟨_, rfl⟩ | ⟨st, hst, h, rfl⟩
  · -- a 206: the length of the range
    exact (make_conditional_bool_content_length_206 method q r hasDate true false _ _ completeLength acceptRanges
      _ a b h).symm
  · exact absurd rfl h304
  · -- a complete body: `make_conditional` fills in the calculated length
    rw [make_conditional_bool_content_length_fill method q r hasDate true false _ _ completeLength acceptRanges
      _ _ hm h (fun _ _ => nofun)]
    simp only [hgh, Bool.and_true, fresh, fillLength_none, Bool.not_false, Bool.and_self, if_true, kindLength]

end respond

end Wz.Props.C11T3
