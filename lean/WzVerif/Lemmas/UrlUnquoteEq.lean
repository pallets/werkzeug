/-
The two hand models of `urllib.parse.unquote(s, "utf-8", "werkzeug.url_quote")` are the same function
(C15): C02's (`Model/Urlencode.lean`: strict UTF-8 decoding through Lean core's decoder, a monolithic
re-quoting scanner otherwise) and C15's (`Model/Url.lean`: `firstItem` / `items` / `render`). With it
every theorem about `Url.unquote` speaks about the `unquote` inside C02's `parse_qsl` model.
-/
import WzVerif.Model.Urlencode
import WzVerif.Lemmas.UrlDecode
namespace Wz.Url
open Wz

theorem hexVal_byte' : ∀ n, n < 256 →
    Wz.hexVal? (Char.ofNat (UInt8.ofNat n).toNat) = Urlencode.hexVal? (UInt8.ofNat n) := by
  decide +kernel

theorem hexVal_byte (x : UInt8) : Wz.hexVal? (Char.ofNat x.toNat) = Urlencode.hexVal? x := by
  have := hexVal_byte' x.toNat x.toNat_lt
  rwa [UInt8.ofNat_toNat] at this

/-- `_unquote_impl`: the two models agree on every byte string -/
theorem unquoteBytes_eq : ∀ B : Bytes, Urlencode.unquoteBytes B = unquoteBytes B
  | [] => rfl
  | [c] => by simp [Urlencode.unquoteBytes, unquoteBytes]
  | [c, a] => by simp [Urlencode.unquoteBytes, unquoteBytes]
  | c :: a :: b :: t => by
    have ih1 := unquoteBytes_eq t
    have ih2 := unquoteBytes_eq (a :: b :: t)
    by_cases hc : c = 0x25
    · subst hc
      simp only [Urlencode.unquoteBytes, unquoteBytes, hexVal_byte, if_true, beq_self_eq_true]
      cases Urlencode.hexVal? a <;> cases Urlencode.hexVal? b <;> simp [ih1, ih2]
    · have hc' : (c == 37) = false := by simpa using hc
      simp only [Urlencode.unquoteBytes, unquoteBytes, hc', hc, if_false, Bool.false_eq_true, ih2]

theorem hexU_hexUpper : ∀ n, n < 16 → hexU n = Char.ofNat (Urlencode.hexUpper n).toNat := by decide

theorem pct_eq_pctChars (b : UInt8) : pct b = Urlencode.pctChars b := by
  have h1 := hexU_hexUpper (b.toNat / 16) (by have := b.toNat_lt; omega)
  have h2 := hexU_hexUpper (b.toNat % 16) (Nat.mod_lt _ (by decide))
  simp only [pct, Urlencode.pctChars, Urlencode.pct, List.map_cons, List.map_nil, h1, h2]
  congr 1

theorem decodeQ_cons (fuel : Nat) (b0 : UInt8) (t : Bytes) : decodeQ (fuel+1) (b0::t) =
    render (firstItem b0 t) ++ decodeQ fuel (t.drop ((firstItem b0 t).raw.length - 1)) := by
  simp [decodeQ, items]

theorem render_bad_eq {span : Bytes} (h : ∀ b ∈ span, 0x80 ≤ b) :
    render (.bad span) = span.flatMap Urlencode.pctChars := by
  simp only [render, requote_bad h]
  congr 1
  funext b
  exact pct_eq_pctChars b

/-- `render` with C02's spelling of the re-quoted bytes -/
def renderU : Item → Str
  | .chr c _ => [c]
  | .bad span => span.flatMap Urlencode.pctChars

theorem render_firstItem_eq (b0 : UInt8) (t : Bytes) : render (firstItem b0 t) = renderU (firstItem b0 t) := by
  rcases firstItem_cases b0 t with ⟨_, h⟩ | ⟨span, h, hs⟩ | ⟨c, raw, h, _⟩
  · rw [h]; rfl
  · rw [h, render_bad_eq hs]; rfl
  · rw [h]; rfl

theorem inRange_eq (b lo hi : UInt8) : Urlencode.inRange b lo hi = Py.inRange b lo hi := rfl

/-- one step of C02's re-quoting scanner is one item of C15's decoder. The scanner spells out, per
class of lead byte, what `takeCont` does for one, two and three continuation bytes; the admissible
range of the first one is the same expression on both sides and stays opaque. -/
theorem decodeQuoteFuel_cons (fuel : Nat) (b0 : UInt8) (t : Bytes) :
    Urlencode.decodeQuoteFuel (fuel + 1) (b0 :: t) =
      renderU (firstItem b0 t) ++ Urlencode.decodeQuoteFuel fuel (t.drop ((firstItem b0 t).raw.length - 1)) := by
  simp only [Urlencode.decodeQuoteFuel, inRange_eq]
  by_cases h0 : b0 < 0x80
  · simp only [h0, if_true, firstItem, renderU, Item.raw]; rfl
  by_cases h1 : Py.inRange b0 194 223 = true
  · have hl : leadInfo b0 = some (1, 0x80, 0xBF) := by simp only [leadInfo, h1, if_true]
    simp only [h0, h1, if_true, if_false, firstItem_lead h0 hl]
    rcases t with _ | ⟨b1, t1⟩
    · simp [takeCont, renderU, Item.raw]
    · cases hb : Py.inRange b1 128 191 <;> simp [takeCont, renderU, Item.raw, codePoint, hb]
  by_cases h2 : Py.inRange b0 224 239 = true
  · have hl : leadInfo b0 = some (2, if b0 == 0xE0 then 0xA0 else 0x80, if b0 == 0xED then 0x9F else 0xBF) := by
      simp only [leadInfo, h1, h2, if_true, Bool.false_eq_true, if_false]
    simp only [h0, h1, h2, if_true, if_false, firstItem_lead h0 hl]
    generalize (if (b0 == 224) = true then (160 : UInt8) else 128) = lo
    generalize (if (b0 == 237) = true then (159 : UInt8) else 191) = hi
    rcases t with _ | ⟨b1, _ | ⟨b2, t2⟩⟩
    · simp [takeCont, renderU, Item.raw]
    · cases hb : Py.inRange b1 lo hi <;> simp [takeCont, renderU, Item.raw, hb]
    · cases hb : Py.inRange b1 lo hi <;> cases hc : Py.inRange b2 128 191 <;>
        simp [takeCont, renderU, Item.raw, codePoint, hb, hc]
      exact congrArg Char.ofNat (by omega)
  by_cases h3 : Py.inRange b0 240 244 = true
  · have hl : leadInfo b0 = some (3, if b0 == 0xF0 then 0x90 else 0x80, if b0 == 0xF4 then 0x8F else 0xBF) := by
      simp only [leadInfo, h1, h2, h3, if_true, Bool.false_eq_true, if_false]
    simp only [h0, h1, h2, h3, if_true, if_false, firstItem_lead h0 hl]
    generalize (if (b0 == 240) = true then (144 : UInt8) else 128) = lo
    generalize (if (b0 == 244) = true then (143 : UInt8) else 191) = hi
    rcases t with _ | ⟨b1, _ | ⟨b2, _ | ⟨b3, t3⟩⟩⟩
    · simp [takeCont, renderU, Item.raw]
    · cases hb : Py.inRange b1 lo hi <;> simp [takeCont, renderU, Item.raw, hb]
    · cases hb : Py.inRange b1 lo hi <;> cases hc : Py.inRange b2 128 191 <;>
        simp [takeCont, renderU, Item.raw, hb, hc]
    · cases hb : Py.inRange b1 lo hi <;> cases hc : Py.inRange b2 128 191 <;> cases hd : Py.inRange b3 128 191 <;>
        simp [takeCont, renderU, Item.raw, codePoint, hb, hc, hd]
      exact congrArg Char.ofNat (by omega)
  · have hl : leadInfo b0 = none := by
      simp only [leadInfo, h1, h2, h3, Bool.false_eq_true, if_false]
    simp [h0, h1, h2, h3, firstItem, hl, renderU, Item.raw]

theorem decodeQuoteFuel_eq : ∀ (fuel : Nat) (bs : Bytes), Urlencode.decodeQuoteFuel fuel bs = decodeQ fuel bs
  | 0, _ => by simp [Urlencode.decodeQuoteFuel, decodeQ, items]
  | _ + 1, [] => by simp [Urlencode.decodeQuoteFuel, decodeQ, items]
  | fuel + 1, b0 :: t => by
    rw [decodeQuoteFuel_cons, decodeQ_cons, render_firstItem_eq, decodeQuoteFuel_eq fuel]

theorem utf8Dec_some {bs : Bytes} {s : List Char} (h : utf8Dec? bs = some s) : bs = utf8Enc s := by
  unfold utf8Dec? at h
  cases hd : ByteArray.utf8Decode? bs.toByteArray with
  | none => rw [hd] at h; cases h
  | some a =>
    rw [hd] at h
    simp only [Option.map_some, Option.some.injEq] at h
    have hs : (ByteArray.utf8Decode? bs.toByteArray).isSome := by rw [hd]; rfl
    have := @ByteArray.utf8Encode_get_utf8Decode? bs.toByteArray hs
    have hg : (ByteArray.utf8Decode? bs.toByteArray).get hs = a := by simp [hd]
    rw [hg, h] at this
    simp only [List.utf8Encode] at this
    have h2 := congrArg (fun b => b.data.toList) this
    simpa [utf8Enc] using h2.symm

/-- `bytes.decode("utf-8", "werkzeug.url_quote")`: the two models agree on every byte string -/
theorem decodeUrlQuote_eq (bs : Bytes) : Urlencode.decodeUrlQuote bs = decodeQ (bs.length + 1) bs := by
  unfold Urlencode.decodeUrlQuote
  cases h : utf8Dec? bs with
  | none => exact decodeQuoteFuel_eq _ _
  | some s =>
    have := utf8Dec_some h
    subst this
    simp only
    rw [decodeQ_eq (Nat.le_succ _), dec_utf8Enc]

theorem flushRun_eq (acc : Bytes) : Urlencode.flushRun acc = unquoteRun acc.reverse := by
  unfold Urlencode.flushRun unquoteRun
  cases acc with
  | nil => simp [unquoteBytes, decodeQ, items]
  | cons b t =>
    simp only [List.isEmpty_cons, Bool.false_eq_true, if_false]
    rw [unquoteBytes_eq, decodeUrlQuote_eq]

theorem unquoteGo_eq : ∀ (s : Str) (acc : Bytes), Urlencode.unquoteGo acc s = unquoteAux s acc
  | [], acc => by simp [Urlencode.unquoteGo, unquoteAux, flushRun_eq]
  | c :: t, acc => by
    simp only [Urlencode.unquoteGo, unquoteAux]
    split
    · exact unquoteGo_eq t _
    · rw [flushRun_eq, unquoteGo_eq t []]

/-- **the two models of `unquote(s, "utf-8", "werkzeug.url_quote")` are equal** on every string -/
theorem unquote_models_eq (s : Str) : Urlencode.unquote s = unquote s :=
  unquoteGo_eq s []

end Wz.Url
