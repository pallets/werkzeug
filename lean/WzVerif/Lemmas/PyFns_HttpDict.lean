/-
What the equalities of Props/C06T / C16T2 about the functions of `Gen/PyFns_HttpDict.lean` that read numbers (translated
`parse_age`, `dump_age`, `parse_content_range_header`, `ContentRange.*` = `Model/Http.lean`) need about the model alone: the
model's `_plain_int` is the prelude's, so the two sides agree in the value and in the one exception class (`ValueError`) that the
`try` around it catches; the two idioms of these functions, each one equation between the emitted text and the model's: a `try`
whose handler assigns a default (`try_step`: the model binds `catching`, the translator matches on the body and forgets the
exception) and `if c not in s: … / a, b = s.split(c, 1)` (`split_step`: the model's `partition`); and, from them, the part of
`parse_content_range_header` after the length field is the same computation in the translator's spelling and in the model's
(`parseLength_eq`, `cr_tail`). The file is named after the generated module; the dict headers of that module need nothing from here.
-/
import WzVerif.Model.Http
import WzVerif.Lemmas.PyFns_HttpList
import WzVerif.Lemmas.HttpSafe
import WzVerif.Lemmas.Http
namespace Wz.PyFnsHttp
open Wz Wz.Pre

theorem http_plainInt_eq (v : Str) : Http.plainInt v = Pre.plainInt v := by
  have hf : Http.isPlainDigit = Pre.isDigitA := funext Http.isPlainDigit_eq
  unfold Http.plainInt Http.strip
  cases hs : Py.strip v with
  | nil => rw [plainInt_pos (by simp [hs]), hs]; rfl
  | cons c t =>
    by_cases hc : c = '-'
    · subst hc; rw [plainInt_neg hs, hf]; rfl
    · rw [plainInt_pos (by simp [hs, hc]), hs, hf]
      simp [Http.signSplit, hc]
      rfl

theorem pyInt_error (v : Str) (e : String) (h : Http.pyInt v = .error e) : e = "ValueError" := by
  simpa using Http.pyInt_onlyRaises v e h

/-- `a, b = s.split(None, 1)`: the prelude's is the model's -/
theorem splitWsOnce_eq (s : Str) : Pre.splitWsOnce s = Http.splitWs2 s := rfl

/-- `try: a = x` / `except cls: a = h` followed by anything: the model binds `catching cls x h`, the translator matches on `x`
and forgets which exception it was; they agree when `x` raises caught classes only -/
theorem try_step {α β : Type} {cls : List String} {x : Except String α} (hx : Http.OnlyRaises cls x) (h : α)
    (k : α → Except String β) :
    (Http.catching cls x h >>= k) = match (generalizing := false) x with
      | .error _ => k h
      | .ok a => k a := by
  cases x with
  | ok a => rfl
  | error e =>
    have hc : cls.contains e = true := by simpa using hx e rfl
    simp only [Http.catching, hc, if_true]
    rfl

/-- the same when the handler returns `None` and the value is wrapped in an option -/
theorem try_step_some {α β : Type} {cls : List String} {x : Except String α} (hx : Http.OnlyRaises cls x)
    (k : Option α → Except String β) :
    (Http.catching cls (x.map some) none >>= k) = match (generalizing := false) x with
      | .error _ => k none
      | .ok a => k (some a) := by
  rw [try_step (Http.onlyRaises_map _ hx)]
  cases x <;> rfl

/-- `if c not in s: a` / `x, y = s.split(c, 1)` as the translator emits it (the unpacking error `e` is never reached) and as
the model writes it with `partition` -/
theorem split_step {β : Type} (s : Str) (c : Char) (a : β) (e : String → β) (k : Str × Str → β) :
    (if !s.contains c then a else
      match Pre.splitOnce s [c] with
      | .error x => e x
      | .ok p => k p) =
    if !s.contains c then a else k ((Http.partition c s).1, (Http.partition c s).2.2) := by
  by_cases hm : c ∈ s
  · have hc : s.contains c = true := by simpa using hm
    simp only [hc, Bool.not_true, Bool.false_eq_true, if_false, Pre.splitOnce_singleton_mem s c hm,
      Http.partition_eq_of_mem c s hm]
  · have hc : s.contains c = false := by simpa using hm
    simp only [hc, Bool.not_false, if_true]

theorem parseLength_eq (ls : Str) :
    Http.parseLength ls = if ls == ['*'] then .ok (some none) else
      match Pre.plainInt ls with
      | .ok l => .ok (some (some l))
      | .error _ => .ok none := by
  unfold Http.parseLength
  split
  · rfl
  · rw [← bind_pure (Http.catching _ _ _), try_step (Http.onlyRaises_map _ (Http.plainInt_onlyRaises ls)), http_plainInt_eq]
    cases Pre.plainInt ls <;> rfl

/-- `ContentRangeV` as the tuple the translation builds -/
def crTup (c : Http.ContentRangeV) : Option Str × Option Int × Option Int × Option Int :=
  (c.units, c.start, c.stop, c.length)

/-- the part of `parse_content_range_header` after the length field, for either form of the length,
as the translator emits it (left) and as the model writes it (right) -/
theorem cr_tail (units rng : Str) (length : Option Int) :
    (if rng == ['*'] then
      if !(Http.isByteRangeValid none none length) then (.ok none : Except String (Option (Option Str × Option Int × Option Int × Option Int)))
      else
        match (if Http.isByteRangeValid none none length then (.ok (some units, none, none, length) : Except String _) else .error "AssertionError") with
        | .error e_ => .error e_
        | .ok v5_ => .ok (some v5_)
    else
      if !(rng.contains '-') then .ok none
      else
        match splitOnce rng ['-'] with
        | .error e_ => .error e_
        | .ok v6_ =>
          match plainInt v6_.1 with
          | .error _ => .ok none
          | .ok v8_ =>
            match plainInt v6_.2 with
            | .error _ => .ok none
            | .ok v9_ =>
              if Http.isByteRangeValid (some v8_) (some (v9_ + 1)) length then
                match (if Http.isByteRangeValid (some v8_) (some (v9_ + 1)) length then (.ok (some units, some v8_, some (v9_ + 1), length) : Except String _) else .error "AssertionError") with
                | .error e_ => .error e_
                | .ok v5_ => .ok (some v5_)
              else .ok none) =
    Except.map (Option.map crTup) (do
      if rng == ['*'] then
        if !Http.isByteRangeValid none none length then return none
        return some ⟨some units, none, none, length⟩
      if !rng.contains '-' then return none
      let (startStr, _, stopStr) := Http.partition '-' rng
      let se ← Http.catching ["ValueError"] (do
        let s ← Http.plainInt startStr
        let e ← Http.plainInt stopStr
        pure (some (s, e + 1))) none
      match se with
      | none => return none
      | some (s, e) =>
        if Http.isByteRangeValid (some s) (some e) length then return some ⟨some units, some s, some e, length⟩
        return none) := by
  by_cases hr : rng = ['*']
  · subst hr
    by_cases hv : Http.isByteRangeValid none none length = true <;>
      simp only [hv, beq_self_eq_true, if_true, Bool.not_true, Bool.not_false, Bool.false_eq_true, if_false] <;> rfl
  · simp only [hr, beq_iff_eq, if_false]
    refine (split_step rng '-' _ _ _).trans ?_
    split
    · rfl
    · generalize (Http.partition '-' rng).1 = a
      generalize (Http.partition '-' rng).2.2 = b
      have hx : Http.OnlyRaises ["ValueError"] (do
          let s ← Http.plainInt a
          let e ← Http.plainInt b
          pure (some (s, e + 1))) :=
        Http.onlyRaises_bind (Http.plainInt_onlyRaises a) fun _ =>
          Http.onlyRaises_bind (Http.plainInt_onlyRaises b) fun _ => Http.onlyRaises_ok _
      rw [try_step hx]
      simp only [http_plainInt_eq]
      cases plainInt a with
      | error e => rfl
      | ok s =>
        cases plainInt b with
        | error e => rfl
        | ok t =>
          by_cases hv : Http.isByteRangeValid (some s) (some (t + 1)) length = true <;>
            simp [hv, crTup, Except.map, bind, Except.bind, pure, Except.pure]

end Wz.PyFnsHttp
