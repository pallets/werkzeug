/-
From the environ to `Request` (C15), for an environ given by its decoded values (`danceEnviron`): the four attributes
and `Request.url` as text (`requestView_text`); the path text `get_current_url` assembles stands for
`root_path + path`, and partial unquoting keeps that; `werkzeug.wsgi.get_current_url` is `Request.url`; `Request` looks
at the host only through `get_host`; `Request.args` and `Request.full_path` read the query string back.
-/
import WzVerif.Lemmas.UrlCurrent
import WzVerif.Model.UrlBuilder
import WzVerif.Lemmas.UrlUnquoteEq
namespace Wz.Url
open Wz

theorem unquote_curPathText (root path : Str) :
    unquote (curPathText root path) = rstripSlash root ++ '/' :: lstripSlash path :=
  unquote_of_den (Spells.of_curPathText root path).den_eq

/-- the environ of a request whose SCRIPT_NAME / PATH_INFO / QUERY_STRING are the dances of the
given texts -/
def danceEnviron (scheme host root p qs : Str) : Environ :=
  { scriptName := encodingDance root
    pathInfo := encodingDance p
    queryString := encodingDance qs
    httpHost := host
    urlScheme := scheme }

theorem getCurrentUrl_eq_opt (o : UrlOpaque) (scheme host root path : Str) (q : Bytes) :
    getCurrentUrl o scheme host root path q = getCurrentUrlOpt o scheme host (some root) (some path) q := by
  simp [getCurrentUrl, getCurrentUrlOpt, List.append_assoc]

theorem getCurrentUrlOpt_root (o : UrlOpaque) (scheme host root : Str) :
    getCurrentUrlOpt o scheme host (some root) none [] = getCurrentUrl o scheme host root [] [] := by
  simp [getCurrentUrl, getCurrentUrlOpt, lstripSlash, quote, quoteBytes, utf8Enc]

theorem getCurrentUrlOpt_host (o : UrlOpaque) (scheme host : Str) :
    getCurrentUrlOpt o scheme host none none [] = getCurrentUrl o scheme host [] [] [] := by
  simp [getCurrentUrl, getCurrentUrlOpt, lstripSlash, rstripSlash, quote, quoteBytes, utf8Enc]

theorem wsgiCurrentUrl_eq_request_url (o : UrlOpaque) (e : Environ) :
    wsgiCurrentUrl o e false false false = (requestView o e).map (fun r => r.url) := by
  unfold wsgiCurrentUrl requestView
  -- `rfl` only where a dance fails: on the success branch it would unfold both URL builders
  rcases decodingDance e.scriptName with _ | root
  · rfl
  rcases decodingDance e.pathInfo with _ | p
  · rfl
  rcases Py.latin1Enc e.queryString with _ | q
  · rfl
  simp only [Bool.false_eq_true, if_false, Bool.or_self, getCurrentUrl_eq_opt]
  have h : getCurrentUrlOpt o e.urlScheme (getHost e.urlScheme e.httpHost) (some (rstripSlash root))
      (some ('/' :: lstripSlash p)) q
      = getCurrentUrlOpt o e.urlScheme (getHost e.urlScheme e.httpHost) (some root) (some p) q := by
    simp only [getCurrentUrlOpt, rstripSlash_idem, lstripSlash_cons]
  rw [h]
  cases getCurrentUrlOpt o e.urlScheme (getHost e.urlScheme e.httpHost) (some root) (some p) q <;> rfl

theorem requestView_dance (o : UrlOpaque) {scheme host root p qs r : Str} (hgh : getHost scheme host = host)
    (hr : getCurrentUrl o scheme host (rstripSlash root) ('/' :: lstripSlash p) (utf8Enc qs) = .ok r) :
    requestView o (danceEnviron scheme host root p qs) =
      .ok ⟨'/' :: lstripSlash p, rstripSlash root, host, r⟩ := by
  unfold requestView danceEnviron
  simp only [dance_roundtrip']
  have hq := latin1Enc_encodingDance qs
  simp only [hq, hgh, hr]

theorem unquote_partial_curPathText (root path : Str) :
    unquote (unquotePartial Gen.UrlTables.keepPath (curPathText root path)) =
      rstripSlash root ++ '/' :: lstripSlash path := by
  rw [unquote_unquotePartial keepPath_exactly.keepOK _ (curPathText_wf root path), unquote_curPathText]

/-- **`Request` over a dance environ, as text.** For an environ whose SCRIPT_NAME / PATH_INFO / QUERY_STRING are
the latin-1 dances of `root`, `p`, `qs`, whose host is a URI-form netloc without userinfo that `get_host` leaves
alone: the four attributes, and `Request.url` splits into `curSplit`. -/
theorem requestView_text {o : UrlOpaque} (laws : HostLaws o) {scheme ha hu root p qs : Str} {port : Option Nat}
    (ci : CurInput o scheme ha port (rstripSlash root) (utf8Enc qs)) (hconv : o.hostToUnicode ha = some hu)
    (hgh : getHost scheme (hostBr ha ++ portText port) = hostBr ha ++ portText port) :
    ∃ r, requestView o (danceEnviron scheme (hostBr ha ++ portText port) root p qs) =
        .ok ⟨'/' :: lstripSlash p, rstripSlash root, hostBr ha ++ portText port, r⟩ ∧
      urlsplit o r = .ok (curSplit scheme hu port (rstripSlash root) ('/' :: lstripSlash p) (utf8Enc qs)) := by
  obtain ⟨g, hr⟩ := getCurrentUrl_tuple laws (path := '/' :: lstripSlash p) ci hconv
  exact ⟨_, requestView_dance o hgh hr, urlsplit_urlunsplit g⟩

/-- `Request` looks at HTTP_HOST only through `get_host` -/
theorem requestView_getHost (o : UrlOpaque) (scheme H H' root p qs : Str)
    (h : getHost scheme H = getHost scheme H') :
    requestView o (danceEnviron scheme H root p qs) = requestView o (danceEnviron scheme H' root p qs) := by
  unfold requestView danceEnviron
  simp only [h]

theorem requestView_dropPort (o : UrlOpaque) (scheme ha root p qs : Str) (port : Option Nat) :
    requestView o (danceEnviron scheme (hostBr ha ++ portText port) root p qs) =
    requestView o (danceEnviron scheme (hostBr ha ++ portText (dropDefaultPort scheme port)) root p qs) :=
  requestView_getHost o scheme _ _ root p qs (by rw [getHost_hostport, getHost_hostport, dropDefaultPort_idem])

/-- `Request.args` of an environ whose QUERY_STRING is the dance of `s` is `parse_qsl(s)` - for
every Unicode string -/
theorem requestArgs_dance (e : Environ) (s : Str) (h : e.queryString = encodingDance s) :
    requestArgs e = some (Urlencode.parseQsl true s) := by
  unfold requestArgs
  rw [h]
  have hq := latin1Enc_encodingDance s
  rw [hq]
  simp only [Option.map_some, decodeUrlQuote_eq, decodeQ_eq (Nat.le_succ _), dec_utf8Enc]

theorem requestFullPath_dance (scheme host root p qs : Str) :
    requestFullPath (danceEnviron scheme host root p qs) = some (('/' :: lstripSlash p) ++ '?' :: qs) := by
  unfold requestFullPath danceEnviron
  simp only [dance_roundtrip']
  have hq := latin1Enc_encodingDance qs
  simp only [hq]
  rw [decodeQ_eq (Nat.le_succ _), dec_utf8Enc]

end Wz.Url
