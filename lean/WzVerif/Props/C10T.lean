/-
C10T — `MultipartDecoder.receive_data` *as regenerated from the source* by `tools/py2lean.py`
(`Gen/PyFns_Multipart.lean`, rewritten on every check run) is equal, for every decoder state and every
argument (`None` or a chunk), to the hand-written `Multipart.receive` on which C10's memory bound rests
(`receive_respects_limit`, `receive_raises_iff`, `buffer_bounded`); the two C10 theorems about
`receive` are restated on the translated definition.
-/
import WzVerif.Gen.PyFns_Multipart
import WzVerif.Model.Multipart
import WzVerif.Lemmas.MultipartStep
namespace Wz.Props.C10T
open Wz Wz.Pre Wz.Multipart Wz.Gen.PyFns_Multipart

/-- how an outcome of the model's `receive` is read as an outcome of the translated method: the two
attributes it may assign (`complete`, `buffer`; unchanged when it raises) and `None` / the exception -/
def view (d : Decoder) : Except String Decoder → (Bool × Bytes) × Except String Unit
  | .ok d' => ((d'.complete, d'.buffer), .ok ())
  | .error e => ((d.complete, d.buffer), .error e)

/-- `receive_data(data)`, as translated from the current source (`None` sets `complete`; a chunk that
would take the buffer over `max_form_memory_size` raises RequestEntityTooLarge *before* the buffer is
touched; otherwise the chunk is appended), is the model's `receive` for every decoder and argument. -/
theorem receive_data_eq (d : Decoder) (c : Option Bytes) :
    receive_data d.complete d.buffer (d.maxMem.map Int.ofNat) c = view d (receive d c) := by
  cases c with
  | none => simp [receive_data, receive, view]
  | some c =>
    cases hm : d.maxMem with
    | none => simp [receive_data, receive, view, hm]
    | some m =>
      simp only [receive_data, receive, view, hm, Option.map]
      by_cases h : d.buffer.length + c.length > m
      · have h' : (m : Int) < (d.buffer.length : Int) + (c.length : Int) := by omega
        simp [h, h']
      · have h' : ¬ (m : Int) < (d.buffer.length : Int) + (c.length : Int) := by omega
        simp [h, h']

/-- the model's `receive` assigns nothing but `complete` and `buffer` (so `view` loses nothing) -/
theorem receive_frame (d d' : Decoder) (c : Option Bytes) (h : receive d c = .ok d') :
    d' = { d with complete := d'.complete, buffer := d'.buffer } :=
  (receive_ok h).frame

/-- C10 `receive_respects_limit`, restated on the translated method: when a limit `m` is set and the
buffer holds at most `m` bytes, then after a `receive_data(chunk)` that does not raise it still holds
at most `m` bytes. -/
theorem receive_data_respects_limit (d : Decoder) (c : Bytes) (m : Nat) (hm : d.maxMem = some m)
    (hr : (receive_data d.complete d.buffer (some (Int.ofNat m)) (some c)).2 = .ok ()) :
    (receive_data d.complete d.buffer (some (Int.ofNat m)) (some c)).1.2.length ≤ m := by
  have e := receive_data_eq d (some c)
  simp only [hm, Option.map] at e
  rw [e] at hr ⊢
  cases h : receive d (some c) with
  | error e' => rw [h] at hr; cases hr
  | ok d' => exact (receive_ok h).buffer_le m c hm rfl

/-- C10 `receive_raises_iff`, restated on the translated method: with a limit `m`, `receive_data(chunk)`
raises RequestEntityTooLarge exactly when buffer plus chunk exceed `m` bytes, and raises nothing else. -/
theorem receive_data_raises_iff (d : Decoder) (c : Bytes) (m : Nat) :
    (receive_data d.complete d.buffer (some (Int.ofNat m)) (some c)).2 =
      if d.buffer.length + c.length > m then .error "RequestEntityTooLarge" else .ok () := by
  refine (congrArg Prod.snd (receive_data_eq { d with maxMem := some m } (some c))).trans ?_
  by_cases h : d.buffer.length + c.length > m
  · rw [receive_some_too_large (d := { d with maxMem := some m }) rfl h, if_pos h]; rfl
  · rw [receive_some_of_fits (d := { d with maxMem := some m }) fun _ hm => by cases hm; exact Nat.not_lt.1 h,
      if_neg h]; rfl

end Wz.Props.C10T
