/-
The `HeaderSet` constructor's case-insensitive de-duplication (C06, after repair 1a2e0e6 / F08c):
the result has no two members equal ignoring case, and a list without such duplicates is kept as is —
hence `parse_set_header(HeaderSet(items).to_header())` has the members of `HeaderSet(items)` for
*every* list, and parsing is a normal form on duplicate-bearing text.
-/
import WzVerif.Lemmas.Http
namespace Wz.Http
open Wz

theorem hsDedupGo_spec (seen : List Str) (l : List Str) :
    ((hsDedupGo seen l).map pyLower).Nodup ∧ ∀ x ∈ hsDedupGo seen l, pyLower x ∉ seen := by
  induction l generalizing seen with
  | nil => simp [hsDedupGo]
  | cons h t ih =>
    unfold hsDedupGo
    by_cases hc : seen.contains (pyLower h) = true
    · simp only [hc, if_true]; exact ih seen
    · simp only [hc, Bool.false_eq_true, if_false]
      obtain ⟨h1, h2⟩ := ih (pyLower h :: seen)
      constructor
      · simp only [List.map_cons, List.nodup_cons]
        refine ⟨?_, h1⟩
        intro hm
        obtain ⟨x, hx, hxe⟩ := List.mem_map.1 hm
        exact h2 x hx (by rw [hxe]; exact List.mem_cons_self)
      · intro x hx
        rcases List.mem_cons.1 hx with rfl | hx
        · simpa using hc
        · intro hs
          exact h2 x hx (List.mem_cons_of_mem _ hs)

theorem hsDedupGo_id (seen : List Str) (l : List Str) (hn : (l.map pyLower).Nodup)
    (hd : ∀ x ∈ l, pyLower x ∉ seen) : hsDedupGo seen l = l := by
  induction l generalizing seen with
  | nil => rfl
  | cons h t ih =>
    unfold hsDedupGo
    have hc : seen.contains (pyLower h) = false := by
      have := hd h List.mem_cons_self
      simpa using this
    simp only [hc, Bool.false_eq_true, if_false]
    simp only [List.map_cons, List.nodup_cons] at hn
    rw [ih (pyLower h :: seen) hn.2 (by
      intro x hx hm
      rcases List.mem_cons.1 hm with e | e
      · exact hn.1 (by rw [← e]; exact List.mem_map_of_mem hx)
      · exact hd x (List.mem_cons_of_mem _ hx) e)]

theorem headerSetMembers_nodup (items : List Str) : ((headerSetMembers items).map pyLower).Nodup :=
  (hsDedupGo_spec [] items).1

theorem headerSetMembers_of_nodup (items : List Str) (h : (items.map pyLower).Nodup) : headerSetMembers items = items :=
  hsDedupGo_id [] items h (by simp)

theorem headerSetMembers_idem (items : List Str) : headerSetMembers (headerSetMembers items) = headerSetMembers items :=
  headerSetMembers_of_nodup _ (headerSetMembers_nodup items)

theorem parseSet_list_dump_any (items : List Str) : parseSetHeader (headerSetToHeader items) = items := by
  have h : parseListHeader (headerSetToHeader items) = items := parseList_dump_any items
  unfold parseSetHeader
  split
  · next he => rw [List.isEmpty_iff.1 he] at h; exact h
  · exact h

end Wz.Http
