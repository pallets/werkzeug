/-
The methods of `werkzeug.wsgi.LimitedStream` *as regenerated from werkzeug's
source* by `tools/py2lean.py` (`Gen/PyFns_Length.lean`, rewritten on every check run) are equal, for all inputs, to
the hand-written model functions the C09 theorems are about (`Model/LimitedStream.lean`). Here: how a model outcome
is read as a translated one (`view`, `viewRead`, `viewLoop`), and `readinto` against `LS.readinto`, on which everything
else rests; `is_exhausted`, `read`, the loop of `readall`, `readall`, `exhaust`, the hooks and the consequences are in
Props/C09T2.lean. A change of the Python source changes the generated definition and breaks these obligations.

How the two sides are related. The translated methods take the object's attributes as arguments
(`_pos`, `limit` as `Int`s, `_limit_is_max`, `hasattr(_stream, "readinto")`) and thread the wrapped
stream as the model's `LS.Under`; `readinto` also hands back the caller's bytearray. The model's state
`LS.St` has naturals and three ghost fields (`out`, `u.taken`, `u.log`; the last two live inside
`LS.Under`, which both sides share, so they are compared too; `out` has no counterpart). A model
outcome `(r, s') : LS.Res × LS.St` is *read as* a translated outcome by `view` (for `readinto`: new
`_pos`, new `u`, new buffer, returned count / exception) and `viewRead` (for `read`, `readall`,
`exhaust`: new `_pos`, new `u`, returned bytes / exception). All theorems are plain equalities
`translated … = view (model …)`, for every model state (also states outside C09's invariant, e.g.
`pos > limit`) and every buffer.
-/
import WzVerif.Gen.PyFns_Length
import WzVerif.Lemmas.PyFns_Prelude
namespace Wz.PyFnsEq.LimitedStream
open Wz Wz.Pre Wz.Gen.PyFns_Length

/-- A model outcome `(r, s')` of `LS.readinto s (len b)` read as the outcome of the translated
`readinto(b)`: the new `_pos` is `s'.pos`, the wrapped stream is `s'.u`; on a normal return of the
bytes `d` the method returns `len(d)` and the buffer holds `d` followed by its own untouched rest
`b[len(d):]`; on an exception the buffer is exactly as the caller passed it. -/
def view (b : Bytes) (m : LS.Res × LS.St) : (Int × LS.Under × Bytes) × Except String Int :=
  match m.1 with
  | .ok d => (((m.2.pos : Int), m.2.u, d ++ b.drop d.length), .ok (d.length : Int))
  | .error e => (((m.2.pos : Int), m.2.u, b), .error e)

/-- A model outcome `(r, s')` of `read` / `readall` / `exhaust` read as the outcome of the translated
method: new `(_pos, u)` and the same bytes, or the same exception. -/
def viewRead (m : LS.Res × LS.St) : (Int × LS.Under) × Except String Bytes :=
  (((m.2.pos : Int), m.2.u), m.1)

/-- A model outcome of the `readall` loop read as the outcome of the translated `while` loop:
`.ok acc` = the loop was left (test false or `break`) with the accumulated bytes `acc`;
`.error e` = the exception `e` escaped from inside the loop. -/
def viewLoop (m : LS.Res × LS.St) :
    Pre.Loop ((Int × LS.Under) × Except String Bytes) (Int × LS.Under × Bytes) :=
  match m.1 with
  | .ok acc => .fall ((m.2.pos : Int), m.2.u, acc)
  | .error e => .ret (((m.2.pos : Int), m.2.u), .error e)

theorem view_pos (b : Bytes) (m : LS.Res × LS.St) : (view b m).1.1 = (m.2.pos : Int) := by
  unfold view; cases m.1 <;> rfl

theorem view_u (b : Bytes) (m : LS.Res × LS.St) : (view b m).1.2.1 = m.2.u := by
  unfold view; cases m.1 <;> rfl

theorem view_result (b : Bytes) (m : LS.Res × LS.St) :
    (view b m).2 = m.1.map (fun d => (d.length : Int)) := by
  unfold view; cases m.1 <;> rfl

/-- a hook's outcome `some e` (raises `e`) / `none` (returns) as the translated hook's `Except` -/
def raised : Option String → Except String Unit
  | some e => .error e
  | none => .ok ()

/-- The three paths of the code collapse into the model's one underlying call of size `LS.request s (len b)`
(`Props.C09T2.ls_readinto_eq` has the statement in werkzeug's terms). -/
theorem ls_readinto_eq (s : LS.St) (b : Bytes) :
    ls_readinto s.hasReadinto (s.pos : Int) (s.limit : Int) s.isMax s.u b
      = view b (LS.readinto s b.length) := by
  obtain ⟨limit, isMax, ri, pos, out, u⟩ := s
  unfold ls_readinto LS.readinto
  simp only
  by_cases hlim : limit ≤ pos
  · have h1 : decide ((limit : Int) - (pos : Int) ≤ 0) = true := by simp; omega
    simp only [h1, hlim, if_true]
    cases isMax <;> simp [ls_on_exhausted, LS.onExhausted, LS.hook, view]
  · have h1 : decide ((limit : Int) - (pos : Int) ≤ 0) = false := by simp; omega
    simp only [h1, hlim, if_false, Bool.false_eq_true]
    cases ri with
    | false =>
      -- `self._stream.read(min(size, remaining))`, then `b[:len(data)] = data`
      have hreq : (min (Int.ofNat b.length) ((limit : Int) - (pos : Int))).toNat
          = min b.length (limit - pos) := by
        rw [Int.ofNat_eq_natCast]; omega
      simp only [Bool.false_eq_true, if_false, underRead, hreq, LS.request]
      rcases hc : u.call (min b.length (limit - pos)) with ⟨o, u'⟩
      cases o with
      | raised => cases isMax <;> simp [ls_on_disconnect, LS.onDisconnect, LS.hook, view]
      | got d =>
        simp only [Int.ofNat_eq_natCast, setSlice_none_nat]
        cases d with
        | nil => cases isMax <;> simp [ls_on_disconnect, LS.onDisconnect, LS.hook, view]
        | cons x t =>
          have h0 : (((x :: t).length : Int) == 0) = false := by simp; omega
          simp only [h0, Bool.false_eq_true, if_false, List.isEmpty_cons, view, Int.natCast_add]
    | true =>
      by_cases hfit : b.length ≤ limit - pos
      · -- `self._stream.readinto(b)`: the caller's buffer is used directly
        have h2 : decide (Int.ofNat b.length ≤ (limit : Int) - (pos : Int)) = true := by
          rw [Int.ofNat_eq_natCast]; simp; omega
        simp only [if_true, h2, underReadinto, LS.request, hfit]
        rcases hc : u.call b.length with ⟨o, u'⟩
        cases o with
        | raised => cases isMax <;> simp [ls_on_disconnect, LS.onDisconnect, LS.hook, view]
        | got d =>
          simp only []
          cases d with
          | nil => cases isMax <;> simp [ls_on_disconnect, LS.onDisconnect, LS.hook, view]
          | cons x t =>
            have h0 : (((x :: t).length : Int) == 0) = false := by simp; omega
            simp only [h0, Bool.false_eq_true, if_false, List.isEmpty_cons, view, Int.natCast_add]
      · -- `temp_b = bytearray(remaining)`, `b[:out_size] = temp_b[:out_size]`
        have h2 : decide (Int.ofNat b.length ≤ (limit : Int) - (pos : Int)) = false := by
          rw [Int.ofNat_eq_natCast]; simp; omega
        have hz : (bytearrayZeros ((limit : Int) - (pos : Int))).length = limit - pos := by
          rw [bytearrayZeros_length]; omega
        simp only [if_true, h2, underReadinto, LS.request, hfit, Bool.false_eq_true, if_false, hz]
        rcases hc : u.call (limit - pos) with ⟨o, u'⟩
        cases o with
        | raised => cases isMax <;> simp [ls_on_disconnect, LS.onDisconnect, LS.hook, view]
        | got d =>
          simp only []
          cases d with
          | nil => cases isMax <;> simp [ls_on_disconnect, LS.onDisconnect, LS.hook, view]
          | cons x t =>
            have h0 : (((x :: t).length : Int) == 0) = false := by simp; omega
            simp only [h0, Bool.false_eq_true, if_false, List.isEmpty_cons, view, Int.natCast_add,
              Bool.not_false, if_true]
            rw [slice_none_nat, setSlice_none_nat, List.take_left']
            rfl

/-- the real class on these inputs (limit 3, five bytes behind a stream that gives 2 per call, a
5-byte buffer of `9`s; both kinds of stream): returns 2, buffer `[1, 2, 9, 9, 9]`, `tell() == 2`, one
underlying request `(0, 3)` -/
example : ∀ ri, ls_readinto ri 0 3 false { data := [1, 2, 3, 4, 5], script := [.give 2] } [9, 9, 9, 9, 9]
    = ((2, { data := [3, 4, 5], taken := [1, 2], script := [], log := [(0, 3)] }, [1, 2, 9, 9, 9]), .ok 2) := by
  intro ri; cases ri <;> rfl

/-- the object of the sharpness example: limit 2 (a maximum), two bytes behind a stream that gives one
byte per call -/
def sharpSt (ri : Bool) : LS.St :=
  { limit := 2, isMax := true, hasReadinto := ri, u := { data := [1, 2], script := [.give 1, .give 1] } }

end Wz.PyFnsEq.LimitedStream
