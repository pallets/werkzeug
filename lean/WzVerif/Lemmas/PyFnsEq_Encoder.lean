/-
PyFnsEq_Encoder — `MultipartEncoder.send_event` of src/werkzeug/sansio/multipart.py *as regenerated
from werkzeug's source* by `tools/py2lean.py` (`Gen/PyFns_Encoder.lean`, rewritten on every check run;
one definition per event class, because the `isinstance` tests are decided by the declared class of
`event`: `send_event_preamble`, `send_event_field` (+ its header loop `send_event_field.loop1`),
`send_event_file` (+ `send_event_file.loop1`), `send_event_data`, `send_event_epilogue`) is equal, for
all inputs, to the hand-written model `Multipart.sendEvent` (Model/Multipart.lean) the C02 theorems
are about: the theorems are in Props/C02T.lean, this file holds what they are stated with (`headerLines`,
`view`, `sendEventT`, `encodeEventsT`) and the facts about literals and header lines they use. A change
of the Python source changes the generated definitions and breaks these obligations.

How the two sides are related. A translated function takes `self.boundary`, `self.state` and the
event's fields and returns `(new self.state, returned bytes / exception)`; the model returns
`Except String (Bytes × State)`. A model outcome is *read as* a translated outcome by `view`: on a
normal return the new state and the bytes, on an exception the exception and the state the call
started in (`send_event` assigns `self.state` only on paths that return). The Python dataclasses
declare `name: str`, so the translation has a plain string where the model has `Option Str`: the
translated Field / File functions are compared with the model at `some n`.

On `sendEventT`: for a Field / File event whose name is `None` (outside the declared type
`name: str`, so there is no translated function for it) the answer cannot be a flat
`AttributeError`: the state test comes first in the Python code, so in a state that does not allow a
part the call raises `ValueError` (`noname_wrong_state`; replayed on the real code:
`Field(name=None)` in state DATA_START raises ValueError, in state PREAMBLE raises AttributeError).
`sendEventT` therefore answers `AttributeError` only in the three states that allow a part. `ValidPart`
(the hypothesis of `decode_encode`) forces `name = some _` (`Multipart.validPart_name`), so the events of
`decode_encode_translated` only ever reach translated functions (`partHeadEvent_named`).
-/
import WzVerif.Gen.PyFns_Encoder
import WzVerif.Lemmas.MultipartCodec
namespace Wz.PyFnsEq.Encoder
open Wz Wz.Gen.PyFns_Encoder

/-- `"\r\n".encode() == b"\r\n"` -/
theorem utf8Enc_crlf : utf8Enc [Char.ofNat 13, Char.ofNat 10] = Multipart.crlf := by decide +kernel

/-- one step of "keep the headers that pass a test on the name, write a line for each, concatenate":
the first header contributes its line iff it passes the test -/
theorem lines_cons (p : List Char → Bool) (g : List Char × List Char → Bytes) (k v : List Char)
    (hs : Multipart.Headers) :
    ((((k, v) :: hs).filter fun (k, _) => p k).map g).flatten =
      (if p k then g (k, v) else []) ++ ((hs.filter fun (k, _) => p k).map g).flatten := by
  cases h : p k <;> simp [h]

/-- the bytes the model writes for the extra headers of a Field / File event: for every header whose
lower-cased name is not `content-disposition`, in order, `name: value` in UTF-8 and CRLF -/
def headerLines (hs : Multipart.Headers) : Bytes :=
  ((hs.filter fun (k, _) => Multipart.lowerAscii k != "content-disposition".toList).map
    fun (k, v) => utf8Enc (k ++ ':' :: ' ' :: v) ++ Multipart.crlf).flatten

theorem headerLines_nil : headerLines [] = [] := rfl

theorem headerLines_cons (k v : List Char) (hs : Multipart.Headers) :
    headerLines ((k, v) :: hs) =
      (if Multipart.lowerAscii k != "content-disposition".toList then
        utf8Enc (k ++ ':' :: ' ' :: v) ++ Multipart.crlf else []) ++ headerLines hs :=
  lines_cons (fun k => Multipart.lowerAscii k != "content-disposition".toList) _ k v hs

/-- One iteration of the Python loop body
`if name.lower() != "content-disposition": data += f"{name}: {value}\r\n".encode()` on the
accumulator `acc`, followed by the model's lines for the remaining headers, is `acc` followed by the
model's lines for all the headers. -/
theorem headerLines_step (k v : List Char) (hs : Multipart.Headers) (acc : Bytes) :
    (if (!(Pre.lower k == ['c', 'o', 'n', 't', 'e', 'n', 't', '-', 'd', 'i', 's', 'p', 'o', 's', 'i', 't', 'i', 'o', 'n'])) = true
      then acc ++ Pre.encodeUtf8 (k ++ [':', ' '] ++ v ++ [Char.ofNat 13, Char.ofNat 10]) else acc) ++
      headerLines hs = acc ++ headerLines ((k, v) :: hs) := by
  have e : Pre.encodeUtf8 (k ++ [':', ' '] ++ v ++ [Char.ofNat 13, Char.ofNat 10]) =
      utf8Enc (k ++ ':' :: ' ' :: v) ++ Multipart.crlf := by
    show utf8Enc _ = _
    rw [Utf8Facts.utf8Enc_append, utf8Enc_crlf]
    simp
  rw [headerLines_cons, e, ← Multipart.cdKey]
  show (if (!(Multipart.lowerAscii k == _)) = true then _ else _) ++ _ = _
  generalize "content-disposition".toList = c
  cases h : (Multipart.lowerAscii k == c) <;> simp [h, bne]

/-- the bytes literal `b'Content-Disposition: form-data; name="'` of the Python source is the model's
string constant -/
theorem str_cdName_bytes : Multipart.str "Content-Disposition: form-data; name=\"" =
    [67, 111, 110, 116, 101, 110, 116, 45, 68, 105, 115, 112, 111, 115, 105, 116, 105, 111, 110, 58, 32,
     102, 111, 114, 109, 45, 100, 97, 116, 97, 59, 32, 110, 97, 109, 101, 61, 34] := by
  rw [Multipart.str_ofList]; decide +kernel

/-- the bytes literal `b'; filename="'` of the Python source is the model's string constant -/
theorem str_filename_bytes : Multipart.str "; filename=\"" =
    [59, 32, 102, 105, 108, 101, 110, 97, 109, 101, 61, 34] := by
  rw [Multipart.str_ofList]; decide +kernel

theorem sendEvent_field_some (bnd : Bytes) (st : Multipart.State) (n : List Char)
    (hs : Multipart.Headers) :
    Multipart.sendEvent bnd st (.field (some n) hs) =
      if st == .preamble || st == .part || st == .data then
        .ok (Multipart.crlf ++ 45 :: 45 :: bnd ++ Multipart.crlf ++
          Multipart.str "Content-Disposition: form-data; name=\"" ++ utf8Enc n ++ [34] ++
          Multipart.crlf ++ headerLines hs, .dataStart)
      else .error "ValueError" := rfl

theorem sendEvent_file_some (bnd : Bytes) (st : Multipart.State) (n f : List Char)
    (hs : Multipart.Headers) :
    Multipart.sendEvent bnd st (.file (some n) f hs) =
      if st == .preamble || st == .part || st == .data then
        .ok (Multipart.crlf ++ 45 :: 45 :: bnd ++ Multipart.crlf ++
          Multipart.str "Content-Disposition: form-data; name=\"" ++ utf8Enc n ++ [34] ++
          Multipart.str "; filename=\"" ++ utf8Enc f ++ [34] ++ Multipart.crlf ++
          headerLines hs, .dataStart)
      else .error "ValueError" := rfl

/-- the Field / File event sent for a valid part carries a name: it is one of the events the
translated `send_event_field` / `send_event_file` are about -/
theorem partHeadEvent_named {nl : Multipart.Nl} {bnd : Bytes} {p : Multipart.Part}
    (h : Multipart.ValidPart nl bnd p) :
    ∃ n, Multipart.partHeadEvent p = .field (some n) p.headers ∨
      ∃ f, Multipart.partHeadEvent p = .file (some n) f p.headers := by
  have hn := Multipart.validPart_name h
  refine ⟨Multipart.nameOf p, ?_⟩
  unfold Multipart.partHeadEvent
  rw [hn]
  cases p.filename with
  | none => exact .inl rfl
  | some f => exact .inr ⟨f, rfl⟩

/-- A model outcome of `sendEvent bnd st ev` read as the outcome of the translated `send_event`
started in state `st`: on a normal return the new `self.state` and the returned bytes; on an
exception the exception, with `self.state` as it was. -/
def view (st : Multipart.State) :
    Except String (Bytes × Multipart.State) → Multipart.State × Except String Bytes
  | .ok (out, st') => (st', .ok out)
  | .error e => (st, .error e)

/-- `send_event(ev)` on the translated definitions: dispatch on the class of the event to the five
translated functions. A Field / File event whose name is `None` (outside the declared type, no
translated function) raises ValueError in a state that does not allow a part (the state test comes
first) and AttributeError (`None.encode`) otherwise; `NeedData` is not an event the encoder accepts. -/
def sendEventT (bnd : Bytes) (st : Multipart.State) :
    Multipart.Event → Multipart.State × Except String Bytes
  | .preamble d => send_event_preamble bnd st d
  | .field (some n) hs => send_event_field bnd st (n, hs)
  | .file (some n) f hs => send_event_file bnd st (n, f, hs)
  | .field none _ | .file none _ _ =>
    if st == .preamble || st == .part || st == .data then (st, .error "AttributeError")
    else (st, .error "ValueError")
  | .data d more => send_event_data bnd st (d, more)
  | .epilogue d => send_event_epilogue bnd st d
  | .needData => (st, .error "ValueError")

/-- feed a list of events through the translated `send_event`, starting in state `st`: the
concatenated output, or the first exception -/
def encodeEventsT (bnd : Bytes) : Multipart.State → List Multipart.Event → Except String Bytes
  | _, [] => .ok []
  | st, ev :: t =>
    match sendEventT bnd st ev with
    | (_, .error e) => .error e
    | (st', .ok out) =>
      match encodeEventsT bnd st' t with
      | .error e => .error e
      | .ok rest => .ok (out ++ rest)

end Wz.PyFnsEq.Encoder
