/-
`iri_to_uri` and `uri_to_iri` as functions on URL text (C15). Both are one scheme, `convText`: split, read the parts,
convert each component with a family `Conv` of functions, unsplit. The file's idea is the pass lemma (`pass_reparse`,
`pass_text`): when the converted tuple is of the grammar and its netloc pieces are known (`PassOk`),
splitting the produced text gives the tuple back, so a second pass sees the parts the first one wrote (`reparsed`).
Each direction supplies the two conditions from the character class its component functions write (`iri_pass`,
`uri_pass`); idempotence and ASCII output of `iri_to_uri`, the one-step fixpoint of `uri_to_iri`, a URL given by its
parts (`plain_url`, `plain_text`) and the IRI → URI → IRI round trip are then component laws put through the passes.
Hypotheses travel in structures: the laws assumed of the opaque host conversions (`AsciiHostLaws`, `HostLaws`), the URLs
of the property's grammar (`InGrammar`, `InGrammarU`), what a pass needs of the parts it converts (`PartsBase`, and
`UriInput` for the text components `uri_to_iri` unquotes), scheme / host / port of a URL without userinfo (`Authority`).
-/
import WzVerif.Lemmas.UrlNetloc
import WzVerif.Lemmas.UrlPartial
import WzVerif.Lemmas.UrlKeep
import WzVerif.Lemmas.TableSweep
namespace Wz.Url
open Wz

/-- the component functions of a conversion (`iri_to_uri`: quote, `uri_to_iri`: partial unquote) -/
structure Conv where
  fu : Str → Str
  fp : Str → Str
  fpath : Str → Str
  fquery : Str → Str
  ffrag : Str → Str

def Conv.apply (F : Conv) (p : Parts) : Split :=
  { scheme := p.scheme, netloc := netloc F.fu F.fp p, path := F.fpath p.path,
    query := F.fquery p.query, fragment := F.ffrag p.fragment }

def iriConv : Conv :=
  { fu := quote Gen.UrlTables.iriUserSafe, fp := quote Gen.UrlTables.iriPasswordSafe,
    fpath := quote Gen.UrlTables.iriPathSafe, fquery := quote Gen.UrlTables.iriQuerySafe,
    ffrag := quote Gen.UrlTables.iriFragmentSafe }

def uriConv : Conv :=
  { fu := unquotePartial Gen.UrlTables.keepUser, fp := unquotePartial Gen.UrlTables.keepUser,
    fpath := unquotePartial Gen.UrlTables.keepPath, fquery := unquotePartial Gen.UrlTables.keepQuery,
    ffrag := unquotePartial Gen.UrlTables.keepFragment }

theorem iriToUri_eq (p : Parts) : iriToUri p = iriConv.apply p := rfl
theorem uriToIri_eq (p : Parts) : uriToIri p = uriConv.apply p := rfl

/-- `iri_to_uri` / `uri_to_iri` on URL text: split, read the parts (the host through `conv`), convert with `F`,
unsplit -/
def convText (o : UrlOpaque) (conv : Str → Option Str) (F : Conv) (url : Str) : Except String Str :=
  match urlsplit o url with
  | .error e => .error e
  | .ok sp =>
    match partsOf conv sp with
    | .error e => .error e
    | .ok p => .ok (urlunsplit (F.apply p))

theorem iriToUriText_eq (o : UrlOpaque) : iriToUriText o = convText o o.hostToAscii iriConv := by
  funext url; unfold iriToUriText convText; rfl

theorem uriToIriText_eq (o : UrlOpaque) : uriToIriText o = convText o o.hostToUnicode uriConv := by
  funext url; unfold uriToIriText convText; rfl

theorem convText_of {o : UrlOpaque} {conv : Str → Option Str} {F : Conv} {url : Str} {sp : Split} {p : Parts}
    (hsp : urlsplit o url = .ok sp) (hp : partsOf conv sp = .ok p) :
    convText o conv F url = .ok (urlunsplit (F.apply p)) := by
  simp only [convText, hsp, hp]

theorem convText_inv {o : UrlOpaque} {conv : Str → Option Str} {F : Conv} {url r : Str} {sp : Split}
    (hsp : urlsplit o url = .ok sp) (h : convText o conv F url = .ok r) :
    ∃ p, partsOf conv sp = .ok p ∧ urlunsplit (F.apply p) = r := by
  simp only [convText, hsp] at h
  cases hp : partsOf conv sp with
  | error e => rw [hp] at h; cases h
  | ok p => rw [hp] at h; exact ⟨p, rfl, Except.ok.inj h⟩

/-- what a following pass reads back from the URL a pass produced -/
def reparsed (F : Conv) (p : Parts) (h' : Str) : Parts :=
  { scheme := p.scheme
    username := (truthy p.username).map F.fu
    password := match truthy p.username with
      | some _ => (truthy p.password).map F.fp
      | none => none
    host := h'
    port := normPort p.port
    path := F.fpath p.path
    query := F.fquery p.query
    fragment := F.ffrag p.fragment }

/-- a pass whose output is of the grammar and whose netloc pieces are known -/
structure PassOk (o : UrlOpaque) (F : Conv) (p : Parts) : Prop where
  parts : NetlocParts F.fu F.fp p
  good : GoodSplit o (F.apply p)

/-- **Pass lemma.** Splitting the URL text a pass produced gives its 5-tuple back, and the
attributes read from it are the converted ones. -/
theorem pass_reparse {o : UrlOpaque} {F : Conv} {p : Parts} (ok : PassOk o F p)
    {conv' : Str → Option Str} {h' : Str} (hconv : conv' p.host = some h') :
    urlsplit o (urlunsplit (F.apply p)) = .ok (F.apply p) ∧
    partsOf conv' (F.apply p) = .ok (reparsed F p h') := by
  have np := ok.parts
  refine ⟨urlsplit_urlunsplit ok.good, ?_⟩
  unfold partsOf
  have hne : p.host.isEmpty = false := by
    cases h : p.host with
    | nil => exact absurd h np.host_ne
    | cons _ _ => rfl
  simp only [Conv.apply, netloc_hostinfo np, hne, Bool.false_eq_true, if_false, hconv, netloc_port np,
    netloc_userinfo np]
  unfold reparsed
  cases hu : truthy p.username <;> simp

/-- **One pass over URL text**: the text a pass `F` produced, given to a pass `G` whose host conversion accepts the
host, is converted as the parts `F` wrote. -/
theorem pass_text {o : UrlOpaque} {F : Conv} {p : Parts} (ok : PassOk o F p)
    {conv' : Str → Option Str} {h' : Str} (hconv : conv' p.host = some h') (G : Conv) :
    convText o conv' G (urlunsplit (F.apply p)) = .ok (urlunsplit (G.apply (reparsed F p h'))) :=
  convText_of (pass_reparse ok hconv).1 (pass_reparse ok hconv).2

theorem good_apply {o : UrlOpaque} {F : Conv} {p : Parts} (np : NetlocParts F.fu F.fp p)
    (hs : validScheme p.scheme = true ∧ p.scheme.map asciiLower = p.scheme ∧ noTab p.scheme)
    (hb : p.host.contains ':' = true → o.bracketOk p.host = true)
    (hn : netlocOk o (netloc F.fu F.fp p) = true)
    (hform : F.fpath p.path = [] ∨ (F.fpath p.path).head? = some '/')
    (hpath : ∀ c ∈ F.fpath p.path, pathChar c = true) (hquery : ∀ c ∈ F.fquery p.query, queryChar c = true)
    (hfrag : noTab (F.ffrag p.fragment)) : PassOk o F p := by
  refine ⟨np, ?_⟩
  obtain ⟨n1, n2⟩ := netloc_chars np
  obtain ⟨p1, p2, p3⟩ := pathChar_iff.mp hpath
  obtain ⟨q1, q2⟩ := queryChar_iff.mp hquery
  refine ⟨hs.1, hs.2.1, n1, fun c hc => (n2 c hc).1, ?_, hn, hform, ⟨p1, p2⟩, q1,
    ⟨hs.2.2, fun c hc => (n2 c hc).2, p3, q2, hfrag⟩⟩
  show bracketsOk o (netloc F.fu F.fp p) = true
  rw [netloc_brackets o np]
  split
  · rename_i h; exact hb h
  · rfl

theorem partsOf_inv {conv : Str → Option Str} {sp : Split} {p : Parts} (h : partsOf conv sp = .ok p) :
    ∃ host port, (if (hostinfo sp.netloc).1 = [] then host = [] else conv (hostinfo sp.netloc).1 = some host) ∧
      portOf sp.netloc = .ok port ∧
      p = { scheme := sp.scheme, username := (userinfo sp.netloc).1, password := (userinfo sp.netloc).2,
            host := host, port := port, path := sp.path, query := sp.query, fragment := sp.fragment } := by
  unfold partsOf at h
  by_cases hraw : (hostinfo sp.netloc).1 = []
  · simp only [hraw, List.isEmpty_nil, if_true] at h
    cases hp : portOf sp.netloc with
    | error e => simp [hp] at h
    | ok port => simp only [hp, Except.ok.injEq] at h; exact ⟨[], port, by simp [hraw], rfl, h.symm⟩
  · have hne : (hostinfo sp.netloc).1.isEmpty = false := by simpa using hraw
    simp only [hne, Bool.false_eq_true, if_false] at h
    cases hc : conv (hostinfo sp.netloc).1 with
    | none => simp [hc] at h
    | some hh =>
      simp only [hc] at h
      cases hp : portOf sp.netloc with
      | error e => simp [hp] at h
      | ok port => simp only [hp, Except.ok.injEq] at h; exact ⟨hh, port, by simp [hraw], rfl, h.symm⟩

theorem portOf_le {n : Str} {k : Nat} (h : portOf n = .ok (some k)) : k ≤ 65535 := by
  unfold portOf at h
  split at h
  · cases h
  · split at h
    · simp only at h
      split at h
      · rename_i hle; cases h; exact hle
      · cases h
    · cases h

/-! A byte is left alone by `quote(·, safe)` when urllib's always-safe table has it or the literal `safe`
does. The table is characterised once (its characters are plain); each literal is a dozen characters. -/

theorem alwaysSafe_plain {n : Nat} (h : tbl Gen.UrlTables.alwaysSafe n = true) :
    n < 128 ∧ plainChar (Char.ofNat n) = true := by
  by_cases hn : n < Gen.UrlTables.alwaysSafe.length
  · have := getD_sweep (d := false) (q := fun b n => !b || (decide (n < 128) && plainChar (Char.ofNat n)))
      (t := Gen.UrlTables.alwaysSafe) (by decide +kernel) hn
    rw [show Gen.UrlTables.alwaysSafe.getD n false = true from h] at this
    simpa using this
  · rw [tbl, List.getD, List.getElem?_eq_none (Nat.le_of_not_lt hn)] at h
    cases h

theorem Fixed.elim {safe : Str} {P : Char → Prop} (hplain : ∀ c, plainChar c = true → P c)
    (hsafe : ∀ c ∈ safe, P c) {c : Char} (h : Fixed safe c) : P c := by
  rcases (fixed_iff.mp h).2 with h2 | h2
  · exact hplain c (Char.ofNat_toNat c ▸ (alwaysSafe_plain h2).2)
  · exact hsafe c h2

theorem quote_writes {safe : Str} {P : Char → Prop} (hpct : P '%') (hplain : ∀ c, plainChar c = true → P c)
    (hsafe : ∀ c ∈ safe, P c) (B : Bytes) : ∀ c ∈ quoteBytes safe B, P c :=
  quoteBytes_all hpct (fun _ h => h.elim hplain hsafe) B

theorem iriSafe_chars :
    (∀ c ∈ Gen.UrlTables.iriUserSafe, plainChar c = true) ∧
    (∀ c ∈ Gen.UrlTables.iriPasswordSafe, plainChar c = true) ∧
    (∀ c ∈ Gen.UrlTables.iriPathSafe, pathChar c = true) ∧
    (∀ c ∈ Gen.UrlTables.iriQuerySafe, queryChar c = true) ∧
    (∀ c ∈ Gen.UrlTables.iriFragmentSafe, isTabCrLf c = false) := by
  unfold Gen.UrlTables.iriUserSafe Gen.UrlTables.iriPasswordSafe Gen.UrlTables.iriPathSafe
    Gen.UrlTables.iriQuerySafe Gen.UrlTables.iriFragmentSafe
  rw [String.toList_ofList, String.toList_ofList, String.toList_ofList, String.toList_ofList]
  decide +kernel

theorem iriSafe_pct : Gen.UrlTables.iriUserSafe.contains '%' = true ∧
    Gen.UrlTables.iriPasswordSafe.contains '%' = true ∧ Gen.UrlTables.iriPathSafe.contains '%' = true ∧
    Gen.UrlTables.iriQuerySafe.contains '%' = true ∧ Gen.UrlTables.iriFragmentSafe.contains '%' = true := by
  unfold Gen.UrlTables.iriUserSafe Gen.UrlTables.iriPasswordSafe Gen.UrlTables.iriPathSafe
    Gen.UrlTables.iriQuerySafe Gen.UrlTables.iriFragmentSafe
  rw [String.toList_ofList, String.toList_ofList, String.toList_ofList, String.toList_ofList]
  decide +kernel

theorem iri_user_chars (s : Str) : ∀ c ∈ iriConv.fu s, plainChar c = true :=
  quote_writes (by decide) (fun _ h => h) iriSafe_chars.1 _

theorem iri_pass_chars (s : Str) : ∀ c ∈ iriConv.fp s, plainChar c = true :=
  quote_writes (by decide) (fun _ h => h) iriSafe_chars.2.1 _

theorem iri_path_chars (s : Str) : ∀ c ∈ iriConv.fpath s, pathChar c = true :=
  quote_writes (by decide) (fun _ => plainChar_path) iriSafe_chars.2.2.1 _

theorem iri_query_chars (s : Str) : ∀ c ∈ iriConv.fquery s, queryChar c = true :=
  quote_writes (by decide) (fun _ h => pathChar_query (plainChar_path h)) iriSafe_chars.2.2.2.1 _

theorem iri_frag_chars (s : Str) : noTab (iriConv.ffrag s) :=
  quote_writes (P := fun c => isTabCrLf c = false) (by decide)
    (fun _ h => queryChar_tab (pathChar_query (plainChar_path h))) iriSafe_chars.2.2.2.2 _

/-- laws assumed of the opaque `hostname.lower()` + IDNA encoding -/
structure AsciiHostLaws (o : UrlOpaque) : Prop where
  chars : ∀ h r, o.hostToAscii h = some r → r ≠ [] ∧ ∀ c ∈ r, hostChar c = true ∧ c.toNat < 128
  fixed : ∀ h r, o.hostToAscii h = some r → o.hostToAscii r = some r
  bracket : ∀ h r, o.hostToAscii h = some r → r.contains ':' = true → o.bracketOk r = true

/-- a URL of the property's grammar: it splits, has a scheme and a host -/
def InGrammar (o : UrlOpaque) (url : Str) : Prop :=
  ∃ sp, urlsplit o url = .ok sp ∧ sp.scheme ≠ [] ∧ (hostinfo sp.netloc).1 ≠ []

theorem allAscii_iff {s : Str} : allAscii s = true ↔ ∀ c ∈ s, c.toNat < 128 := by
  simp [allAscii]

theorem truthy_some_ne {s : Str} (h : s ≠ []) : truthy (some s) = some s := by
  cases s with
  | nil => exact absurd rfl h
  | cons _ _ => rfl

theorem truthy_ne {o : Option Str} {u : Str} (h : truthy o = some u) : u ≠ [] := by
  intro e; subst e
  cases o with
  | none => simp [truthy] at h
  | some v => cases v <;> simp [truthy] at h

/-- what a pass needs to know about the parts it converts -/
structure PartsBase (p : Parts) : Prop where
  scheme : validScheme p.scheme = true ∧ p.scheme.map asciiLower = p.scheme ∧ noTab p.scheme
  host_ne : p.host ≠ []
  host_chars : ∀ c ∈ p.host, hostChar c = true
  port : ∀ k, p.port = some k → k ≤ 65535
  path_form : p.path = [] ∨ p.path.head? = some '/'

theorem partsBase_of_split {o : UrlOpaque} {url : Str} {sp : Split} (hsp : urlsplit o url = .ok sp)
    (hsch : sp.scheme ≠ []) (hraw : (hostinfo sp.netloc).1 ≠ []) {conv : Str → Option Str} {p : Parts}
    (hp : partsOf conv sp = .ok p) (hchars : ∀ h r, conv h = some r → r ≠ [] ∧ ∀ c ∈ r, hostChar c = true) :
    PartsBase p ∧ conv (hostinfo sp.netloc).1 = some p.host := by
  have shape := urlsplit_shape hsp
  obtain ⟨host, port, hconv, hport, rfl⟩ := partsOf_inv hp
  rw [if_neg hraw] at hconv
  obtain ⟨hne, hc⟩ := hchars _ _ hconv
  have hnetne : sp.netloc ≠ [] := by
    intro e; apply hraw; rw [e]; rfl
  refine ⟨⟨?_, hne, hc, fun k (hk : port = some k) => portOf_le (hk ▸ hport), shape.path_form hnetne⟩, hconv⟩
  rcases shape.scheme with h | h
  · exact absurd h hsch
  · exact ⟨h.1, h.2, shape.tabs.1⟩

theorem path_form_of_slash {f : Str → Str} (hnil : f [] = []) (hslash : ∀ s, f ('/' :: s) = '/' :: f s)
    (s : Str) (h : s = [] ∨ s.head? = some '/') : f s = [] ∨ (f s).head? = some '/' := by
  rcases h with h | h
  · left; rw [h, hnil]
  · right
    cases s with
    | nil => cases h
    | cons x xs =>
      simp only [List.head?_cons, Option.some.injEq] at h
      rw [h, hslash]
      rfl

theorem quote_path_form (s : Str) (h : s = [] ∨ s.head? = some '/') :
    quote Gen.UrlTables.iriPathSafe s = [] ∨ (quote Gen.UrlTables.iriPathSafe s).head? = some '/' :=
  path_form_of_slash rfl (quote_cons_fixed ⟨by decide, by decide⟩) s h

theorem iri_pass {o : UrlOpaque} {p : Parts} (b : PartsBase p)
    (hb : p.host.contains ':' = true → o.bracketOk p.host = true)
    (hn : netlocOk o (netloc iriConv.fu iriConv.fp p) = true) :
    PassOk o iriConv p := by
  have np : NetlocParts iriConv.fu iriConv.fp p :=
    ⟨b.host_ne, b.host_chars, fun u hu => ⟨quote_ne (truthy_ne hu), iri_user_chars u⟩,
      fun pw hpw => ⟨quote_ne (truthy_ne hpw), iri_pass_chars pw⟩, b.port⟩
  exact good_apply np b.scheme hb hn (quote_path_form _ b.path_form) (iri_path_chars _) (iri_query_chars _)
    (iri_frag_chars _)

theorem iri_first_pass {o : UrlOpaque} (laws : AsciiHostLaws o) {url : Str} {sp : Split} {p : Parts}
    (hsp : urlsplit o url = .ok sp) (hp : partsOf o.hostToAscii sp = .ok p) (hsch : sp.scheme ≠ [])
    (hraw : (hostinfo sp.netloc).1 ≠ []) :
    PassOk o iriConv p ∧ o.hostToAscii p.host = some p.host ∧ (∀ c ∈ netloc iriConv.fu iriConv.fp p, c.toNat < 128) := by
  obtain ⟨b, hconv⟩ := partsBase_of_split hsp hsch hraw hp
    (fun h r e => ⟨(laws.chars h r e).1, fun c hc => ((laws.chars h r e).2 c hc).1⟩)
  have hchars := (laws.chars _ _ hconv).2
  have hascii : ∀ c ∈ netloc iriConv.fu iriConv.fp p, c.toNat < 128 :=
    netloc_ascii (fun _ => quoteBytes_ascii _ _) (fun _ => quoteBytes_ascii _ _) p (fun c hc => (hchars c hc).2)
  have ok := iri_pass b (laws.bracket _ _ hconv) (by
    simp only [netlocOk, Bool.or_eq_true]
    exact Or.inl (Or.inr (allAscii_iff.mpr hascii)))
  exact ⟨ok, laws.fixed _ _ hconv, hascii⟩

theorem authText_reparsed {F : Conv} (hu : ∀ u, u ≠ [] → F.fu u ≠ []) (hp : ∀ u, u ≠ [] → F.fp u ≠ [])
    (gu gp : Str → Str) (p : Parts) (h' : Str) :
    authText gu gp (reparsed F p h') = authText (gu ∘ F.fu) (gp ∘ F.fp) p := by
  unfold authText reparsed
  cases hx : truthy p.username with
  | none => simp [truthy]
  | some u =>
    simp only [Option.map_some, truthy_some_ne (hu u (truthy_ne hx))]
    cases hy : truthy p.password with
    | none => simp [truthy]
    | some pw => simp [truthy_some_ne (hp pw (truthy_ne hy))]

theorem netloc_reparsed {F : Conv} (hu : ∀ u, u ≠ [] → F.fu u ≠ []) (hp : ∀ u, u ≠ [] → F.fp u ≠ [])
    (gu gp : Str → Str) (p : Parts) (h' : Str) :
    netloc gu gp (reparsed F p h') = authText (gu ∘ F.fu) (gp ∘ F.fp) p ++ (hostBr h' ++ portText p.port) := by
  rw [netloc_eq, authText_reparsed hu hp]
  exact congrArg _ (congrArg _ (portText_norm p.port))

/-- a second pass with an idempotent family reproduces the tuple -/
theorem apply_reparsed {F : Conv} {p : Parts}
    (hne : (∀ u, u ≠ [] → F.fu u ≠ []) ∧ (∀ u, u ≠ [] → F.fp u ≠ []))
    (hu : ∀ u, truthy p.username = some u → F.fu (F.fu u) = F.fu u)
    (hpw : ∀ pw, truthy p.password = some pw → F.fp (F.fp pw) = F.fp pw)
    (hpath : F.fpath (F.fpath p.path) = F.fpath p.path)
    (hquery : F.fquery (F.fquery p.query) = F.fquery p.query)
    (hfrag : F.ffrag (F.ffrag p.fragment) = F.ffrag p.fragment) :
    F.apply (reparsed F p p.host) = F.apply p := by
  unfold Conv.apply
  rw [netloc_reparsed hne.1 hne.2, netloc_eq, authText_congr (fu := F.fu ∘ F.fu) (fp := F.fp ∘ F.fp) hu hpw]
  simp only [reparsed, hpath, hquery, hfrag]

/-- **`iri_to_uri` is idempotent on URL text** for every URL of the grammar (it splits, has a scheme
and a host), under the laws assumed of the opaque IDNA step. -/
theorem iriToUriText_idem {o : UrlOpaque} (laws : AsciiHostLaws o) {url r : Str}
    (hg : InGrammar o url) (h : iriToUriText o url = .ok r) : iriToUriText o r = .ok r := by
  obtain ⟨sp, hsp, hsch, hraw⟩ := hg
  rw [iriToUriText_eq] at h ⊢
  obtain ⟨p, hp, rfl⟩ := convText_inv hsp h
  obtain ⟨ok, hfix, _⟩ := iri_first_pass laws hsp hp hsch hraw
  obtain ⟨pu, pp, pa, pq, pf⟩ := iriSafe_pct
  rw [pass_text ok hfix, apply_reparsed (F := iriConv) ⟨fun _ => quote_ne, fun _ => quote_ne⟩
    (fun u _ => quote_idem pu u) (fun pw _ => quote_idem pp pw)
    (quote_idem pa _) (quote_idem pq _) (quote_idem pf _)]

/-- **`iri_to_uri` yields pure ASCII text** for every URL of the grammar. -/
theorem iriToUriText_ascii {o : UrlOpaque} (laws : AsciiHostLaws o) {url r : Str}
    (hg : InGrammar o url) (h : iriToUriText o url = .ok r) : ∀ c ∈ r, c.toNat < 128 := by
  obtain ⟨sp, hsp, hsch, hraw⟩ := hg
  rw [iriToUriText_eq] at h
  obtain ⟨p, hp, rfl⟩ := convText_inv hsp h
  obtain ⟨ok, _, hascii⟩ := iri_first_pass laws hsp hp hsch hraw
  exact good_all (by decide) ok.good (fun c hc => schemeChar_ascii ((validScheme_cons ok.good.scheme_valid).2 c hc)) hascii
    (quoteBytes_ascii _ _) (quoteBytes_ascii _ _) (quoteBytes_ascii _ _)

/-- laws assumed of the opaque host conversions (lower-casing + IDNA codec / `_decode_idna`), of the
`ipaddress` check and of the NFKC test -/
structure HostLaws (o : UrlOpaque) : Prop where
  a_chars : ∀ h r, o.hostToAscii h = some r → r ≠ [] ∧ ∀ c ∈ r, hostChar c = true
  u_chars : ∀ h r, o.hostToUnicode h = some r → r ≠ [] ∧ ∀ c ∈ r, hostChar c = true
  u_fixed : ∀ h r, o.hostToUnicode h = some r → o.hostToUnicode r = some r
  /-- encoding a decoded host and decoding again gives the decoded host -/
  a_of_u : ∀ h r, o.hostToUnicode h = some r → ∃ a, o.hostToAscii r = some a ∧ o.hostToUnicode a = some r
  /-- decoding an encoded host succeeds -/
  u_of_a : ∀ h a, o.hostToAscii h = some a → ∃ r, o.hostToUnicode a = some r
  bracket_a : ∀ h r, o.hostToAscii h = some r → r.contains ':' = true → o.bracketOk r = true
  bracket_u : ∀ h r, o.hostToUnicode h = some r → r.contains ':' = true → o.bracketOk r = true
  nfkc : ∀ n, o.nfkcOk n = true

theorem netlocOk_of_law {o : UrlOpaque} (h : ∀ n, o.nfkcOk n = true) (n : Str) : netlocOk o n = true := by
  simp [netlocOk, h n]

/-! What `uri_to_iri` keeps quoted in each component: everything outside the component's class - TAB / CR / LF as
always-unsafe bytes, the others as the delimiters of the component's keep set. -/

theorem user_kept (c : Char) (h : ¬ plainChar c = true) : KeptChar Gen.UrlTables.keepUser c := by
  have k := keepUser_exactly
  rw [String.toList_ofList] at k
  refine k.kept_of_not (P := fun c => plainChar c = true) (by decide) (fun c hc => ?_) c h
  refine Decidable.byContradiction fun hn => hc ?_
  simp only [List.mem_cons, List.mem_nil_iff, or_false, not_or, Bool.not_eq_true] at hn
  simp [plainChar, hostChar, isNetlocDelim, hn]

theorem path_kept (c : Char) (h : ¬ pathChar c = true) : KeptChar Gen.UrlTables.keepPath c := by
  have k := keepPath_exactly
  rw [String.toList_ofList] at k
  refine k.kept_of_not (P := fun c => pathChar c = true) (by decide) (fun c hc => ?_) c h
  simp only [pathChar, Bool.not_eq_true, Bool.not_eq_false', Bool.or_eq_true, beq_iff_eq] at hc
  rcases hc with (rfl | rfl) | hc
  · exact Or.inr (by decide)
  · exact Or.inr (by decide)
  · exact Or.inl hc

theorem query_kept (c : Char) (h : ¬ queryChar c = true) : KeptChar Gen.UrlTables.keepQuery c := by
  have k := keepQuery_exactly
  rw [String.toList_ofList] at k
  refine k.kept_of_not (P := fun c => queryChar c = true) (by decide) (fun c hc => ?_) c h
  simp only [queryChar, Bool.not_eq_true, Bool.not_eq_false', Bool.or_eq_true, beq_iff_eq] at hc
  rcases hc with rfl | hc
  · exact Or.inr (by decide)
  · exact Or.inl hc

theorem frag_kept (c : Char) (h : ¬ isTabCrLf c = false) : KeptChar Gen.UrlTables.keepFragment c :=
  keepFragment_exactly.kept_tab (by simpa using h)

theorem unquotePartial_path_form (s : Str) (h : s = [] ∨ s.head? = some '/') :
    unquotePartial Gen.UrlTables.keepPath s = [] ∨ (unquotePartial Gen.UrlTables.keepPath s).head? = some '/' :=
  path_form_of_slash rfl (unquotePartial_slash _) s h

/-- what the `uri_to_iri` pass needs of the text components -/
structure UriInput (p : Parts) : Prop where
  user : ∀ u, truthy p.username = some u → wellFormed u = true ∧ ∀ c ∈ u, plainChar c = true
  pass : ∀ pw, truthy p.password = some pw → wellFormed pw = true ∧ ∀ c ∈ pw, plainChar c = true
  path : wellFormed p.path = true ∧ ∀ c ∈ p.path, pathChar c = true
  query : wellFormed p.query = true ∧ ∀ c ∈ p.query, queryChar c = true
  fragment : wellFormed p.fragment = true ∧ noTab p.fragment

theorem uri_pass {o : UrlOpaque} (laws : HostLaws o) {p : Parts} (b : PartsBase p) (ui : UriInput p)
    (hb : p.host.contains ':' = true → o.bracketOk p.host = true) :
    PassOk o uriConv p := by
  have np : NetlocParts uriConv.fu uriConv.fp p :=
    ⟨b.host_ne, b.host_chars,
      fun u hu => ⟨unquotePartial_ne (truthy_ne hu), unquotePartial_all user_kept (ui.user u hu).1 (ui.user u hu).2⟩,
      fun pw hpw => ⟨unquotePartial_ne (truthy_ne hpw),
        unquotePartial_all user_kept (ui.pass pw hpw).1 (ui.pass pw hpw).2⟩, b.port⟩
  exact good_apply np b.scheme hb (netlocOk_of_law laws.nfkc _) (unquotePartial_path_form _ b.path_form)
    (unquotePartial_all path_kept ui.path.1 ui.path.2) (unquotePartial_all query_kept ui.query.1 ui.query.2)
    (unquotePartial_all frag_kept ui.fragment.1 ui.fragment.2)

/-- a URL of the grammar whose text components are in the `%XX` grammar and whose userinfo has no
raw delimiter -/
structure InGrammarU (o : UrlOpaque) (url : Str) (sp : Split) : Prop where
  split : urlsplit o url = .ok sp
  scheme : sp.scheme ≠ []
  host : (hostinfo sp.netloc).1 ≠ []
  user : ∀ u, truthy (userinfo sp.netloc).1 = some u → wellFormed u = true ∧ ∀ c ∈ u, plainChar c = true
  pass : ∀ pw, truthy (userinfo sp.netloc).2 = some pw → wellFormed pw = true ∧ ∀ c ∈ pw, plainChar c = true
  path : wellFormed sp.path = true
  query : wellFormed sp.query = true
  fragment : wellFormed sp.fragment = true

theorem base_of_split {o : UrlOpaque} {url : Str} {sp : Split} (g : InGrammarU o url sp)
    {conv : Str → Option Str} {p : Parts} (hp : partsOf conv sp = .ok p)
    (hchars : ∀ h r, conv h = some r → r ≠ [] ∧ ∀ c ∈ r, hostChar c = true) :
    PartsBase p ∧ UriInput p ∧ conv (hostinfo sp.netloc).1 = some p.host := by
  have shape := urlsplit_shape g.split
  obtain ⟨b, hconv⟩ := partsBase_of_split g.split g.scheme g.host hp hchars
  obtain ⟨_, _, _, _, rfl⟩ := partsOf_inv hp
  exact ⟨b, ⟨g.user, g.pass, ⟨g.path, pathChar_iff.mpr ⟨shape.path_chars.1, shape.path_chars.2, shape.tabs.2.2.1⟩⟩,
    ⟨g.query, queryChar_iff.mpr ⟨shape.query_chars, shape.tabs.2.2.2.1⟩⟩, ⟨g.fragment, shape.tabs.2.2.2.2⟩⟩, hconv⟩

/-- **`uri_to_iri` is a fixpoint after one step on URL text.** -/
theorem uriToIriText_fix {o : UrlOpaque} (laws : HostLaws o)
    {url r : Str} {sp : Split} (g : InGrammarU o url sp) (h : uriToIriText o url = .ok r) :
    uriToIriText o r = .ok r := by
  rw [uriToIriText_eq] at h ⊢
  obtain ⟨p, hp, rfl⟩ := convText_inv g.split h
  obtain ⟨b, ui, hconv⟩ := base_of_split g hp laws.u_chars
  rw [pass_text (uri_pass laws b ui (laws.bracket_u _ _ hconv)) (laws.u_fixed _ _ hconv), apply_reparsed (F := uriConv) ⟨fun _ => unquotePartial_ne, fun _ => unquotePartial_ne⟩
    (fun u hu => unquotePartial_fix keepUser_exactly.keepOK u (ui.user u hu).1)
    (fun pw hpw => unquotePartial_fix keepUser_exactly.keepOK pw (ui.pass pw hpw).1)
    (unquotePartial_fix keepPath_exactly.keepOK _ ui.path.1) (unquotePartial_fix keepQuery_exactly.keepOK _ ui.query.1)
    (unquotePartial_fix keepFragment_exactly.keepOK _ ui.fragment.1)]

theorem base_reparsed {F : Conv} {p : Parts} (b : PartsBase p) {h' : Str}
    (hh : h' ≠ [] ∧ ∀ c ∈ h', hostChar c = true)
    (hform : ∀ s : Str, (s = [] ∨ s.head? = some '/') → (F.fpath s = [] ∨ (F.fpath s).head? = some '/')) :
    PartsBase (reparsed F p h') := by
  exact ⟨b.scheme, hh.1, hh.2, fun k hk => b.port k (normPort_some hk), hform _ b.path_form⟩

/-- scheme, host and port of a URL without userinfo -/
structure Authority (o : UrlOpaque) (scheme h : Str) (port : Option Nat) : Prop where
  scheme : validScheme scheme = true ∧ scheme.map asciiLower = scheme ∧ noTab scheme
  host_ne : h ≠ []
  host_chars : ∀ c ∈ h, hostChar c = true
  port : ∀ k, port = some k → k ≤ 65535
  bracket : h.contains ':' = true → o.bracketOk h = true

/-- the parts a pass reads from a URL without userinfo and fragment -/
def plainParts (scheme h : Str) (port : Option Nat) (path query : Str) : Parts :=
  { scheme := scheme, host := h, port := normPort port, path := path, query := query }

theorem apply_plainParts (F : Conv) (scheme h : Str) (port : Option Nat) (path query : Str) :
    F.apply (plainParts scheme h port path query)
      = ⟨scheme, hostBr h ++ portText port, F.fpath path, F.fquery query, F.ffrag []⟩ := by
  simp [Conv.apply, plainParts, netloc_nouser, portText_norm]

theorem plainParts_base {scheme h path query : Str} {port : Option Nat}
    (hs : validScheme scheme = true ∧ scheme.map asciiLower = scheme ∧ noTab scheme)
    (hh : h ≠ [] ∧ ∀ c ∈ h, hostChar c = true) (hport : ∀ k, port = some k → k ≤ 65535)
    (hform : path = [] ∨ path.head? = some '/') : PartsBase (plainParts scheme h port path query) :=
  ⟨hs, hh.1, hh.2, fun k hk => hport k (normPort_some hk), hform⟩

/-- **A URL without userinfo, given by its parts**: the 5-tuple is of the grammar, and a pass reads from it
the converted host, the same port (as text) and the components. -/
theorem plain_url {o : UrlOpaque} (hn : ∀ n, o.nfkcOk n = true) {scheme h path query : Str} {port : Option Nat}
    (a : Authority o scheme h port) (hform : path = [] ∨ path.head? = some '/')
    (hpath : ∀ c ∈ path, pathChar c = true) (hquery : ∀ c ∈ query, queryChar c = true) :
    GoodSplit o ⟨scheme, hostBr h ++ portText port, path, query, []⟩ ∧
    ∀ {conv' : Str → Option Str} {h' : Str}, conv' h = some h' →
      partsOf conv' ⟨scheme, hostBr h ++ portText port, path, query, []⟩
        = .ok (plainParts scheme h' port path query) := by
  -- the tuple as the output of a pass with constant component functions, so that `pass_reparse` applies
  let p0 : Parts := { scheme := scheme, host := h, port := port }
  let F0 : Conv := { fu := id, fp := id, fpath := fun _ => path, fquery := fun _ => query, ffrag := fun _ => [] }
  have np0 : NetlocParts F0.fu F0.fp p0 :=
    ⟨a.host_ne, a.host_chars, fun u hu => by simp [p0, truthy] at hu, fun u hu => by simp [p0, truthy] at hu, a.port⟩
  have ok0 : PassOk o F0 p0 :=
    good_apply np0 a.scheme a.bracket (netlocOk_of_law hn _) hform hpath hquery (fun c hc => by cases hc)
  have e : F0.apply p0 = ⟨scheme, hostBr h ++ portText port, path, query, []⟩ := by
    simp [Conv.apply, netloc_nouser, F0, p0]
  rw [← e]
  exact ⟨ok0.good, fun hconv => (pass_reparse ok0 hconv).2⟩

theorem plain_text {o : UrlOpaque} (hn : ∀ n, o.nfkcOk n = true) {scheme h path query : Str} {port : Option Nat}
    (a : Authority o scheme h port) (hform : path = [] ∨ path.head? = some '/')
    (hpath : ∀ c ∈ path, pathChar c = true) (hquery : ∀ c ∈ query, queryChar c = true)
    {conv' : Str → Option Str} {h' : Str} (hconv : conv' h = some h') (F : Conv) :
    convText o conv' F (urlunsplit ⟨scheme, hostBr h ++ portText port, path, query, []⟩)
      = .ok (urlunsplit (F.apply (plainParts scheme h' port path query))) :=
  convText_of (urlsplit_urlunsplit (plain_url hn a hform hpath hquery).1) ((plain_url hn a hform hpath hquery).2 hconv)

theorem uriInput_after_iri {p : Parts} (ui : UriInput p) (h' : Str) : UriInput (reparsed iriConv p h') := by
  obtain ⟨pu, pp, pa, pq, pf⟩ := iriSafe_pct
  refine ⟨?_, ?_, ?_, ?_, ?_⟩
  · intro u hu
    simp only [reparsed] at hu
    cases hx : truthy p.username with
    | none => rw [hx] at hu; simp [truthy] at hu
    | some v =>
      have hq : iriConv.fu v ≠ [] := quote_ne (truthy_ne hx)
      simp only [hx, Option.map_some, truthy_some_ne hq, Option.some.injEq] at hu
      subst hu
      exact ⟨wellFormed_quote pu v (ui.user v hx).1, iri_user_chars v⟩
  · intro pw hpw
    simp only [reparsed] at hpw
    cases hx : truthy p.username with
    | none => rw [hx] at hpw; simp [truthy] at hpw
    | some v =>
      simp only [hx] at hpw
      cases hy : truthy p.password with
      | none => rw [hy] at hpw; simp [truthy] at hpw
      | some w =>
        have hq : iriConv.fp w ≠ [] := quote_ne (truthy_ne hy)
        simp only [hy, Option.map_some, truthy_some_ne hq, Option.some.injEq] at hpw
        subst hpw
        exact ⟨wellFormed_quote pp w (ui.pass w hy).1, iri_pass_chars w⟩
  · exact ⟨wellFormed_quote pa _ ui.path.1, iri_path_chars _⟩
  · exact ⟨wellFormed_quote pq _ ui.query.1, iri_query_chars _⟩
  · exact ⟨wellFormed_quote pf _ ui.fragment.1, iri_frag_chars _⟩

/-- component law of the round trip, for a text `s` of the `%XX` grammar -/
theorem requote_stable {safe : Str} {keep : List Bool} (hp : safe.contains '%' = true) (hk : KeepOK keep) {s : Str}
    (hs : wellFormed s = true) :
    unquotePartial keep (quote safe (unquotePartial keep (quote safe s))) = unquotePartial keep (quote safe s) :=
  unquotePartial_quote_stable hp hk _ (wellFormed_quote hp s hs) (quote_fixed hp s)

/-- the tuple after four passes equals the tuple after two -/
theorem roundtrip_apply {p : Parts} (ui : UriInput p) {h2 a3 : Str} :
    uriConv.apply (reparsed iriConv (reparsed uriConv (reparsed iriConv p h2) a3) h2)
      = uriConv.apply (reparsed iriConv p h2) := by
  obtain ⟨pu, pp, pa, pq, pf⟩ := iriSafe_pct
  have hI : (∀ u, u ≠ [] → iriConv.fu u ≠ []) ∧ (∀ u, u ≠ [] → iriConv.fp u ≠ []) :=
    ⟨fun _ => quote_ne, fun _ => quote_ne⟩
  have hU : (∀ u, u ≠ [] → uriConv.fu u ≠ []) ∧ (∀ u, u ≠ [] → uriConv.fp u ≠ []) :=
    ⟨fun _ => unquotePartial_ne, fun _ => unquotePartial_ne⟩
  have hnet : netloc uriConv.fu uriConv.fp (reparsed iriConv (reparsed uriConv (reparsed iriConv p h2) a3) h2)
      = netloc uriConv.fu uriConv.fp (reparsed iriConv p h2) := by
    rw [netloc_reparsed (F := iriConv) hI.1 hI.2, netloc_reparsed (F := iriConv) hI.1 hI.2,
      authText_reparsed (F := uriConv) hU.1 hU.2, authText_reparsed (F := iriConv) hI.1 hI.2]
    simp only [iriConv, uriConv, Function.comp_def]
    rw [authText_congr (fun u hx => requote_stable pu keepUser_exactly.keepOK (ui.user u hx).1)
      (fun pw hy => requote_stable pp keepUser_exactly.keepOK (ui.pass pw hy).1)]
    exact congrArg _ (congrArg _ ((portText_norm _).trans (portText_norm p.port)))
  unfold Conv.apply
  rw [hnet]
  have e1 := requote_stable pa keepPath_exactly.keepOK ui.path.1
  have e2 := requote_stable pq keepQuery_exactly.keepOK ui.query.1
  have e3 := requote_stable pf keepFragment_exactly.keepOK ui.fragment.1
  simp only [reparsed, iriConv, uriConv, e1, e2, e3]

/-- **IRI → URI → IRI is stable after one round, on URL text**: with `n` the normalised IRI
`uri_to_iri(iri_to_uri(url))`, converting `n` to a URI and back gives `n` again. -/
theorem iri_uri_iri_text {o : UrlOpaque} (laws : HostLaws o)
    {url u1 : Str} {sp : Split} (g : InGrammarU o url sp) (h1 : iriToUriText o url = .ok u1) :
    ∃ n u3, uriToIriText o u1 = .ok n ∧ iriToUriText o n = .ok u3 ∧ uriToIriText o u3 = .ok n := by
  simp only [iriToUriText_eq, uriToIriText_eq] at h1 ⊢
  obtain ⟨p1, hp1, rfl⟩ := convText_inv g.split h1
  -- pass 1: iri_to_uri(url)
  obtain ⟨b1, ui1, hconv1⟩ := base_of_split g hp1 laws.a_chars
  have ok1 := iri_pass b1 (laws.bracket_a _ _ hconv1) (netlocOk_of_law laws.nfkc _)
  -- pass 2: uri_to_iri of that
  obtain ⟨h2, hu2⟩ := laws.u_of_a _ _ hconv1
  have b2 : PartsBase (reparsed iriConv p1 h2) := base_reparsed b1 (laws.u_chars _ _ hu2) quote_path_form
  have ui2 : UriInput (reparsed iriConv p1 h2) := uriInput_after_iri ui1 h2
  have ok2 := uri_pass laws b2 ui2 (laws.bracket_u _ _ hu2)
  -- pass 3: iri_to_uri of the normalised IRI
  obtain ⟨a3, ha3, hu3⟩ := laws.a_of_u _ _ hu2
  have b3 : PartsBase (reparsed uriConv (reparsed iriConv p1 h2) a3) :=
    base_reparsed b2 (laws.a_chars _ _ ha3) unquotePartial_path_form
  have ok3 := iri_pass b3 (laws.bracket_a _ _ ha3) (netlocOk_of_law laws.nfkc _)
  -- pass 4: uri_to_iri again
  exact ⟨_, _, pass_text ok1 hu2 uriConv, pass_text ok2 ha3 iriConv, by
    rw [pass_text ok3 hu3 uriConv, roundtrip_apply ui1]⟩

end Wz.Url
