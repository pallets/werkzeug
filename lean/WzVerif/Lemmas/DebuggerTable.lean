/-
Reading the generated dispatch table of C20 (`Gen/Debugger.lean`): the point behind a digit of a packed
row, the model's prediction for it, the table compared with the model row by row as numbers
(`outcomeAt_of_rows`), and what an outcome code then says in the table's coordinates: the five gates of
`respond` (`Gates`, `code_gates`, `gates_at`). `Decoded`, `Gates`, `code_gates`, `pack` and `check_of_forall`
serve the widened table (Lemmas/DebuggerWide.lean) as well.
-/
import WzVerif.Gen.Debugger
import WzVerif.Lemmas.Debugger
namespace Wz.Dbg
open Wz Wz.Gen.Debugger

/-- one point of the property's product -/
structure Point where
  cmd : Nat
  sec : Nat
  host : Nat
  cookie : Nat
  frame : Nat
  evalex : Bool
  pinOn : Bool

/-- the point stored as hex digit `j` of packed row `idx` (mixed-radix order of `Gen.Debugger.dims`) -/
def pointAt (idx j : Nat) : Point :=
  { cmd := idx / (nSec * nHost), sec := (idx / nHost) % nSec, host := idx % nHost,
    cookie := j / (nFrame * 4), frame := (j / 4) % nFrame, evalex := (j / 2) % 2 == 0, pinOn := j % 2 == 0 }

/-- observed outcome at that point -/
def outcomeAt (idx j : Nat) : Nat := (rows.getD idx 15 / 16 ^ j) % 16

/-- class of the point's Host by the property text: 0 trusted, 1 must never be accepted, 2 case variant -/
def hostClass (p : Point) : Nat := hostClasses.getD p.host 1
/-- the live `host_is_trusted` verdict for the point's Host: 1 True, 0 False, 2 raised -/
def hostVerdict (p : Point) : Nat := hostVerdicts.getD p.host 2

/-- a predicate on (row index, digit index, outcome) -/
abbrev PointPred := Nat → Nat → Nat → Bool

def checkInner (Q : Nat → Nat → Bool) (n : Nat) : Nat → Bool
  | 0 => true
  | k + 1 => Q k ((n / 16 ^ k) % 16) && checkInner Q n k

/-- `checkTable P` is how `table_complete` spells "`P` at every point of the live table"; it is not evaluated
but proved from the ∀-statement (`checkTable_of_forall`). The fuel `k` counts the rows still to come. -/
def checkRows (P : PointPred) (total : Nat) : List Nat → Nat → Bool
  | [], _ => true
  | _ :: _, 0 => false
  | n :: rest, k + 1 => checkInner (P (total - (k + 1))) n rowLen && checkRows P total rest k

/-- `P` holds at every point of the live table -/
def checkTable (P : PointPred) : Bool := checkRows P nRows rows nRows

/-- the model's prediction for a table point, given the live Host verdict -/
def modelOutcome (p : Point) : Nat :=
  outcomeCode (dispatch { evalex := p.evalex, pinOn := p.pinOn } 0
    (reqOf p.cmd p.sec p.cookie p.frame (hostVerdict p == 1))).1

theorem outcomeCode_eq_four {o : Outcome} : outcomeCode o = 4 ↔ o = .evalRan := by
  rcases o with _ | _ | _ | _ | _ | ⟨_ | _⟩ | r <;> simp [outcomeCode]; omega

theorem outcomeCode_eq_five {o : Outcome} : outcomeCode o = 5 ↔ o = .console := by
  rcases o with _ | _ | _ | _ | _ | ⟨_ | _⟩ | r <;> simp [outcomeCode]; omega

theorem outcomeCode_printpin {o : Outcome} (h : outcomeCode o = 6 ∨ outcomeCode o = 7) :
    ∃ b, o = .printpin b := by
  rcases o with _ | _ | _ | _ | _ | b | r <;> simp [outcomeCode] at h ⊢; omega

theorem outcomeCode_pinauth {o : Outcome} (h : 8 ≤ outcomeCode o) :
    ∃ res, o = .pinauth res ∧ (outcomeCode o = 10 ∨ outcomeCode o = 11 → res.auth = true) := by
  rcases o with _ | _ | _ | _ | _ | ⟨_ | _⟩ | r <;> simp [outcomeCode] at h ⊢
  cases r.auth <;> cases r.exhausted <;> simp

theorem outcomeCode_lt (o : Outcome) : outcomeCode o < 16 := by
  rcases o with _ | _ | _ | _ | _ | ⟨_ | _⟩ | ⟨_ | _, _ | _⟩ <;> decide

/-- no outcome of the model is coded as a missing resource (2) or as unclassifiable (15) -/
theorem outcomeCode_classified (o : Outcome) : (outcomeCode o != 15 && outcomeCode o != 2) = true := by
  rcases o with _ | _ | _ | _ | _ | ⟨_ | _⟩ | ⟨_ | _, _ | _⟩ <;> rfl

/-- the number whose hex digits, least significant first, are `ds` -/
def pack : List Nat → Nat
  | [] => 0
  | d :: ds => d + 16 * pack ds

theorem pack_digit : ∀ (ds : List Nat) (j : Nat), (∀ d ∈ ds, d < 16) →
    (pack ds / 16 ^ j) % 16 = ds.getD j 0
  | [], j, _ => by simp [pack]
  | d :: ds, 0, h => by
    simp [pack, Nat.add_mul_mod_self_left, Nat.mod_eq_of_lt (h d List.mem_cons_self)]
  | d :: ds, j + 1, h => by
    rw [pack, Nat.pow_succ', ← Nat.div_div_eq_div_mul, Nat.add_mul_div_left _ _ (by decide),
      Nat.div_eq_of_lt (h d List.mem_cons_self), Nat.zero_add]
    simpa using pack_digit ds j fun x hx => h x (List.mem_cons_of_mem _ hx)

theorem pack_range_digit (g : Nat → Nat) (hg : ∀ j, g j < 16) {n j : Nat} (hj : j < n) :
    (pack ((List.range n).map g) / 16 ^ j) % 16 = g j := by
  rw [pack_digit _ _ (by simp; intro a _; exact hg a)]
  simp [hj]

theorem getElem?_flatMap {α β : Type} (f : α → List β) {m : Nat} (hm : 0 < m)
    (hf : ∀ a, (f a).length = m) :
    ∀ (l : List α) (i : Nat), (l.flatMap f)[i]? = l[i / m]?.bind fun a => (f a)[i % m]?
  | [], i => by simp
  | a :: l, i => by
    rw [List.flatMap_cons]
    by_cases hi : i < m
    · simp [List.getElem?_append_left (hf a ▸ hi), Nat.div_eq_of_lt hi, Nat.mod_eq_of_lt hi]
    · obtain ⟨r, rfl⟩ := Nat.exists_eq_add_of_le (Nat.le_of_not_lt hi)
      rw [List.getElem?_append_right (hf a ▸ Nat.le_add_right _ _), hf, Nat.add_sub_cancel_left,
        getElem?_flatMap f hm hf l r]
      simp [Nat.add_div_left _ hm, Nat.add_mod_left]

/-- a three-level product table is indexed in mixed radix -/
theorem getElem?_product {α β γ δ : Type} (as : List α) (bs : List β) (cs : List γ) (f : α → β → γ → δ)
    (hb : 0 < bs.length) (hc : 0 < cs.length) (i : Nat) :
    (as.flatMap fun a => bs.flatMap fun b => cs.map (f a b))[i]? =
      as[i / (bs.length * cs.length)]?.bind fun a => bs[i / cs.length % bs.length]?.bind fun b =>
        cs[i % cs.length]?.map (f a b) := by
  rw [getElem?_flatMap _ (m := bs.length * cs.length) (Nat.mul_pos hb hc) fun a => by
    simp [List.length_flatMap, List.map_const']]
  congr 1; funext a
  rw [getElem?_flatMap _ (m := cs.length) hc fun _ => by simp, Nat.mod_mul_left_div_self, Nat.mod_mul_left_mod]
  congr 1; funext b
  rw [List.getElem?_map]

/-! The model's answer at a point depends on the row index only through the command, the secret and
the Host *verdict*. So the table is compared row by row, as numbers, with the packed rows the model
predicts (`modelRows`): the kernel runs the model once per (command, secret, verdict) and digit —
it shares the identical `modelRow` terms of the Hosts with the same verdict — not once per point. -/

/-- the model's outcome code at digit `j` of the row of command `c`, secret `s`, Host verdict `t` -/
def outcomeOf (c s : Nat) (t : Bool) (j : Nat) : Nat :=
  outcomeCode (respond { evalex := (j / 2) % 2 == 0, pinOn := j % 2 == 0 } 0
    (reqOf c s (j / (nFrame * 4)) ((j / 4) % nFrame) t))

def modelRow (c s : Nat) (t : Bool) : Nat := pack ((List.range rowLen).map (outcomeOf c s t))

def modelRows : List Nat :=
  (List.range nCmd).flatMap fun c => (List.range nSec).flatMap fun s =>
    hostVerdicts.map fun v => modelRow c s (v == 1)

theorem modelOutcome_pointAt (idx j : Nat) : modelOutcome (pointAt idx j) =
    outcomeOf (idx / (nSec * nHost)) ((idx / nHost) % nSec) (hostVerdicts.getD (idx % nHost) 2 == 1) j :=
  rfl

theorem modelRows_get (idx : Nat) (hi : idx < nRows) :
    modelRows[idx]? = some (modelRow (idx / (nSec * nHost)) ((idx / nHost) % nSec)
      (hostVerdicts.getD (idx % nHost) 2 == 1)) := by
  have h1 : idx / (nSec * nHost) < nCmd := Nat.div_lt_of_lt_mul (Nat.mul_comm .. ▸ hi)
  have h2 : idx / nHost % nSec < nSec := Nat.mod_lt _ (by decide)
  have h3 : idx % nHost < hostVerdicts.length := Nat.mod_lt _ (by decide)
  rw [modelRows, getElem?_product _ _ _ (fun c s v => modelRow c s (v == 1)) (by decide) (by decide)]
  simp only [List.length_range, show hostVerdicts.length = nHost from rfl, List.getElem?_range h1,
    List.getElem?_range h2, Option.bind_some, List.getElem?_eq_getElem h3, Option.map_some,
    List.getD_eq_getElem?_getD, Option.getD_some]

theorem outcomeAt_of_rows (h : rows = modelRows) (idx j : Nat) (hi : idx < nRows) (hj : j < rowLen) :
    outcomeAt idx j = modelOutcome (pointAt idx j) := by
  rw [outcomeAt, List.getD_eq_getElem?_getD, h, modelRows_get idx hi, modelOutcome_pointAt]
  exact pack_range_digit _ (fun _ => outcomeCode_lt _) hj

/-- A predicate that holds at every digit of every row passes a row check. The two tables have their own
`checkInner` / `checkRows` (the same text; only the row length inside `checkRows` differs), so the check enters
through its equations: `inner` for one row, `chk` for the list of rows. -/
theorem check_of_forall {inner : (Nat → Nat → Bool) → Nat → Nat → Bool}
    {chk : PointPred → Nat → List Nat → Nat → Bool} {len : Nat}
    (hi0 : ∀ Q n, inner Q n 0 = true)
    (his : ∀ Q n m, inner Q n (m + 1) = (Q m ((n / 16 ^ m) % 16) && inner Q n m))
    (hc0 : ∀ P t k, chk P t [] k = true)
    (hcs : ∀ P t n rest k, chk P t (n :: rest) (k + 1) = (inner (P (t - (k + 1))) n len && chk P t rest k))
    {P : PointPred} {total : Nat} : ∀ {l : List Nat} {k}, l.length = k → k ≤ total →
    (∀ i j, i < k → j < len → P (total - k + i) j ((l.getD i 15 / 16 ^ j) % 16) = true) →
    chk P total l k = true
  | [], _, _, _, _ => hc0 ..
  | n :: rest, k + 1, hl, hk, h => by
    have hin : ∀ {Q : Nat → Nat → Bool} {m}, (∀ j, j < m → Q j ((n / 16 ^ j) % 16) = true) →
        inner Q n m = true := by
      intro Q m
      induction m with
      | zero => intro _; exact hi0 ..
      | succ m ih =>
        intro hq
        rw [his, hq m (Nat.lt_succ_self m), ih fun j hj => hq j (Nat.lt_succ_of_lt hj)]
        rfl
    rw [hcs, hin fun j hj => by simpa using h 0 j (Nat.succ_pos k) hj,
      check_of_forall hi0 his hc0 hcs (Nat.succ.inj hl) (Nat.le_of_succ_le hk) fun i j hi hj => by
        have := h (i + 1) j (Nat.succ_lt_succ hi) hj
        rwa [List.getD_cons_succ, show total - (k + 1) + (i + 1) = total - k + i by omega] at this]
    rfl

theorem checkTable_of_forall {P : PointPred} (hlen : rows.length = nRows)
    (h : ∀ idx j, idx < nRows → j < rowLen → P idx j (outcomeAt idx j) = true) : checkTable P = true :=
  check_of_forall (fun _ _ => rfl) (fun _ _ _ => rfl) (fun _ _ _ => rfl) (fun _ _ _ _ _ => rfl) hlen
    (Nat.le_refl _) fun i j hi hj => by simpa [outcomeAt] using h i j hi hj

/-! Through `outcomeAt_of_rows` the outcome at a point is the model's; what that code says about the
request is the gate of `respond`, and the request is read backwards to the point's coordinates. -/

/-- How a table decodes to requests, as far as the gates need it: `c` is the command index (eval,
console, pinauth-right, pinauth-wrong, printpin, resource, …); `S`, `K`, `F`, `H` say in the table's
coordinates what the right secret, a valid cookie, a known frame and a trusted Host are. -/
structure Decoded (r : Req) (c : Nat) (S K F H : Prop) : Prop where
  other : r.cmd = .other ↔ c = 0
  pinauth : r.cmd = .pinauth ↔ c = 2 ∨ c = 3
  printpin : r.cmd = .printpin ↔ c = 4
  resource : r.cmd = .resource → r.hasArg = true
  console : r.atConsole = (c == 1)
  pinRight : r.pinRight = (c == 2)
  secret : r.secret = .right → S
  cookie : r.cookie = .valid → K
  frame : r.frameKnown = true → F
  host : r.hostTrusted = true → H

theorem Decoded.imp_host {r : Req} {c : Nat} {S K F H H' : Prop} (d : Decoded r c S K F H) (h : H → H') :
    Decoded r c S K F H' :=
  { d with host := fun ht => h (d.host ht) }

/-- the five gates of `respond`, read off an outcome code `o` in a table's coordinates: `c` the command
index, `S K F H` what the right secret, a valid cookie, a known frame and an acceptable Host are there -/
structure Gates (cfg : Config) (c o : Nat) (S K F H : Prop) : Prop where
  /-- `frame.eval` ran -/
  eval : o = 4 → c = 0 ∧ cfg.evalex = true ∧ H ∧ S ∧ F ∧ (cfg.pinOn = false ∨ K)
  /-- the console page -/
  console : o = 5 → c = 1 ∧ cfg.evalex = true ∧ H
  /-- the PIN endpoint answered; codes 10 / 11: `auth` granted -/
  pinauth : 8 ≤ o → (c = 2 ∨ c = 3) ∧ S ∧ H ∧ (o = 10 ∨ o = 11 → cfg.pinOn = false ∨ K ∨ c = 2)
  printpin : o = 6 ∨ o = 7 → c = 4 ∧ S ∧ H
  /-- an unacceptable Host gets the application, a resource or 400 -/
  untrusted : ¬ H → o = 0 ∨ o = 1 ∨ o = 3

theorem code_gates {cfg : Config} {failed : UInt8} {r : Req} {c o : Nat} {S K F H : Prop}
    (d : Decoded r c S K F H) (ho : outcomeCode (respond cfg failed r) = o) : Gates cfg c o S K F H := by
  subst ho
  refine ⟨fun h => ?_, fun h => ?_, fun h => ?_, fun h => ?_, fun h => ?_⟩
  · obtain ⟨_, ht, hc, h1, h2, h3⟩ := respond_evalRan (outcomeCode_eq_four.mp h)
    obtain ⟨he, hn, hf, hs, hk⟩ := evalCond_iff.mp hc
    refine ⟨d.other.mp ?_, he, d.host ht, d.secret hs, d.frame hf, hk.imp_right d.cookie⟩
    -- of the five commands only `other` is left: not `none`, not `pinauth`, not `printpin`, and a
    -- `resource` request carries its argument in the table (`d.resource`), which `h1` excludes
    have := d.resource
    cases hcm : r.cmd <;> simp_all
  · obtain ⟨_, ht, he, _, hc⟩ := respond_console (outcomeCode_eq_five.mp h)
    exact ⟨beq_iff_eq.mp (d.console ▸ hc), he, d.host ht⟩
  · obtain ⟨res, hr, ha⟩ := outcomeCode_pinauth h
    obtain ⟨_, ht, hc, hs, rfl⟩ := respond_pinauth hr
    exact ⟨d.pinauth.mp hc, d.secret hs, d.host ht, fun ho => (pinAuth_auth (ha ho)).imp_right
      (Or.imp d.cookie fun hp => beq_iff_eq.mp (d.pinRight ▸ hp.1))⟩
  · obtain ⟨b, hb⟩ := outcomeCode_printpin h
    obtain ⟨_, ht, hc, hs⟩ := respond_printpin hb
    exact ⟨d.printpin.mp hc, d.secret hs, d.host ht⟩
  · rcases respond_untrusted cfg failed (Bool.eq_false_iff.mpr fun ht => h (d.host ht)) with e | e | e <;>
      simp [e, outcomeCode]

/-- A Host the live `host_is_trusted` accepted is not of the never-accept class: the class and verdict
columns are those of the Host table `hs`, and no row of it has class 1 with a verdict other than 0
(`hc`, `hv`, `hr`: what `table_complete` and `table_host_verdicts` say of the generated table). -/
theorem class_of_verdict {hs : List (Option (List Char) × Nat × Nat)}
    (hc : hostClasses = hs.map (·.2.1)) (hv : hostVerdicts = hs.map (·.2.2))
    (hr : ∀ r ∈ hs, r.2.2 ≠ 2 ∧ (r.2.1 = 1 → r.2.2 = 0) ∧ (r.2.1 = 0 → r.2.2 = 1))
    {p : Point} (h : hostVerdict p = 1) : hostClass p ≠ 1 := by
  rw [hostVerdict, hv, List.getD_eq_getElem?_getD, List.getElem?_map] at h
  rw [hostClass, hc, List.getD_eq_getElem?_getD, List.getElem?_map]
  cases hg : hs[p.host]? with
  | none => rw [hg] at h; cases h
  | some r =>
    rw [hg] at h
    intro hcl
    have h0 : r.2.2 = 0 := (hr r (List.mem_of_getElem? hg)).2.1 hcl
    have h1 : r.2.2 = 1 := h
    omega

theorem reqOf_decoded (p : Point) :
    Decoded (reqOf p.cmd p.sec p.cookie p.frame (hostVerdict p == 1)) p.cmd (p.sec = 0) (p.cookie = 0)
      (p.frame = 0) (hostVerdict p = 1) := by
  refine ⟨?_, ?_, ?_, ?_, rfl, rfl, ?_, ?_, beq_iff_eq.mp, beq_iff_eq.mp⟩ <;>
    dsimp only [reqOf] <;> split <;> simp_all

/-- the gates at a point of the live table where the table shows the model's outcome (`hm`); `hc`, `hv`, `hr`
as for `class_of_verdict` -/
theorem gates_at {hs : List (Option (List Char) × Nat × Nat)}
    (hc : hostClasses = hs.map (·.2.1)) (hv : hostVerdicts = hs.map (·.2.2))
    (hr : ∀ r ∈ hs, r.2.2 ≠ 2 ∧ (r.2.1 = 1 → r.2.2 = 0) ∧ (r.2.1 = 0 → r.2.2 = 1))
    {idx j : Nat} (hm : outcomeAt idx j = modelOutcome (pointAt idx j)) :
    Gates { evalex := (pointAt idx j).evalex, pinOn := (pointAt idx j).pinOn } (pointAt idx j).cmd
      (outcomeAt idx j) ((pointAt idx j).sec = 0) ((pointAt idx j).cookie = 0) ((pointAt idx j).frame = 0)
      (hostClass (pointAt idx j) ≠ 1) :=
  code_gates ((reqOf_decoded _).imp_host (class_of_verdict hc hv hr)) hm.symm

end Wz.Dbg
