/-
Routing lemmas (C04): the URL text around the path — what `MapAdapter.build` wraps around
the rule's path (script root, scheme and host for external URLs, the query string) is undone by the
server side `readBuilt` (authority -> adapter, script root stripped, query cut, percent-decoding).
-/
import WzVerif.Lemmas.RoutingRedirect
import WzVerif.Lemmas.RoutingQuote
import WzVerif.Lemmas.Basics
namespace Wz.Routing

theorem cut_query (path q : Str) (h : noCut path) (hq : q = [] ∨ q.head? = some '?') :
    (path ++ q).takeWhile (fun c => c != '?' && c != '#') = path := by
  have hp : ∀ c ∈ path, (c != '?' && c != '#') = true := by
    intro c hc; have := h c hc; simp [this.1, this.2]
  refine (takeWhile_append_stop hp fun c hc => ?_).1
  rcases hq with rfl | hq
  · cases hc
  · rw [hq] at hc; cases hc; rfl

/-- the script root as `MapAdapter` stores it: ends with exactly one '/', starts with '/', contains no
'?' / '#', and is not followed by a second '/' at the front -/
structure ScriptOK (a : Adapter) : Prop where
  rstrip : rstripChar '/' a.scriptName ++ ['/'] = a.scriptName
  dropLast : a.scriptName.dropLast ++ ['/'] = a.scriptName
  head : a.scriptName.head? = some '/'
  second : (a.scriptName.drop 1).head? ≠ some '/' ∨ a.scriptName = ['/']
  nocut : noCut a.scriptName

theorem ScriptOK.cons {a : Adapter} (hs : ScriptOK a) : ∃ sc, a.scriptName = '/' :: sc := by
  cases hsn : a.scriptName with
  | nil => have := hs.head; rw [hsn] at this; cases this
  | cons c r => have := hs.head; rw [hsn] at this; simp at this; subst this; exact ⟨r, rfl⟩

theorem splitAuthority_relative {s : Str} (h0 : s.head? = some '/') (h1 : (s.drop 1).head? ≠ some '/') :
    splitAuthority s = none := by
  cases s with
  | nil => cases h0
  | cons c t =>
    simp only [List.head?_cons, Option.some.injEq] at h0
    subst h0
    cases t with
    | nil => rfl
    | cons d t' =>
      simp only [List.drop_succ_cons, List.drop_zero, List.head?_cons, ne_eq, Option.some.injEq] at h1
      simp only [splitAuthority]
      split
      · rename_i heq; injection heq with _ h2; injection h2 with h3 _; exact absurd h3 h1
      · rfl
      · rename_i _ hne2; exact absurd rfl (hne2 _)

theorem readBuilt_relative (cfg : MapCfg) (a : Adapter) (hs : ScriptOK a) (t q : Str)
    (ht : noCut t) (hq : q = [] ∨ q.head? = some '?')
    (hfront : a.scriptName ≠ ['/'] ∨ (t ++ q).head? ≠ some '/') :
    readBuilt cfg a (a.scriptName ++ t ++ q) = some (a, '/' :: unquote t) := by
  have hsplit : splitAuthority (a.scriptName ++ t ++ q) = none := by
    obtain ⟨sc, hsc⟩ := hs.cons
    apply splitAuthority_relative
    · rw [hsc]; rfl
    · cases sc with
      | nil => rw [hsc] at hfront ⊢; simpa using hfront
      | cons d r' =>
        rcases hs.second with h2 | h2 <;> rw [hsc] at h2
        · rw [hsc]; simpa using h2
        · simp at h2
  have hcut : (a.scriptName ++ t ++ q).takeWhile (fun c => c != '?' && c != '#') = a.scriptName ++ t := by
    apply cut_query _ _ _ hq
    intro c hc
    rcases List.mem_append.1 hc with hc | hc
    · exact hs.nocut c hc
    · exact ht c hc
  simp only [readBuilt, hsplit, hcut, stripPrefix_append]

theorem splitAuthority_scheme {s : Str} (hs : s ∈ ["http".toList, "https".toList, "ws".toList, "wss".toList]) (rest : Str) :
    splitAuthority (s ++ ':' :: '/' :: '/' :: rest) =
      some (rest.takeWhile (· != '/'), rest.dropWhile (· != '/')) := by
  simp only [List.mem_cons, List.mem_nil_iff, or_false] at hs
  rcases hs with rfl | rfl | rfl | rfl <;> simp [splitAuthority, List.dropWhile]

theorem splitAuthority_noscheme (rest : Str) :
    splitAuthority ('/' :: '/' :: rest) = some (rest.takeWhile (· != '/'), rest.dropWhile (· != '/')) := by
  simp [splitAuthority]

/-- host of the adapter a server binds for `get_host(dom)` (no host matching) -/
theorem host_to_adapter (a : Adapter) (dom : Str) :
    (let host := getHost false a (some dom)
     if host == a.serverName then (some { a with subdomain := some [] } : Option Adapter)
     else match stripSuffix? ('.' :: a.serverName) host with
       | some sub => some { a with subdomain := some sub }
       | none => none) = some { a with subdomain := some dom } := by
  simp only [getHost, Bool.false_eq_true, if_false]
  cases hd : dom with
  | nil => simp
  | cons c d =>
    have hne : ¬ ((c :: d) ++ '.' :: a.serverName = a.serverName) := by
      intro h
      have := congrArg List.length h
      simp at this
      omega
    simp only [List.isEmpty_cons, Bool.false_eq_true, if_false, beq_iff_eq, hne, stripSuffix_append]

theorem readBuilt_external (cfg : MapCfg) (hhm : cfg.hostMatching = false) (a : Adapter) (hs : ScriptOK a)
    (dom : Str) (hhost : ∀ c ∈ getHost false a (some dom), c ≠ '/')
    (sch : Str) (hsch : sch = [] ∨ ∃ s ∈ ["http".toList, "https".toList, "ws".toList, "wss".toList], sch = s ++ [':'])
    (t q : Str) (ht : noCut t) (hq : q = [] ∨ q.head? = some '?') :
    readBuilt cfg a (sch ++ '/' :: '/' :: getHost false a (some dom) ++ a.scriptName ++ t ++ q) =
      some ({ a with subdomain := some dom }, '/' :: unquote t) := by
  obtain ⟨sc, hsc⟩ := hs.cons
  have hp : ∀ c ∈ getHost false a (some dom), (c != '/') = true := by
    intro c hc; simpa using hhost c hc
  have hsplit : splitAuthority (sch ++ '/' :: '/' :: getHost false a (some dom) ++ a.scriptName ++ t ++ q) =
      some (getHost false a (some dom), a.scriptName ++ t ++ q) := by
    have hrest : (getHost false a (some dom) ++ a.scriptName ++ t ++ q) =
        getHost false a (some dom) ++ '/' :: (sc ++ t ++ q) := by rw [hsc]; simp
    have hstop := takeWhile_append_stop (b := '/' :: (sc ++ t ++ q)) hp (fun c hc => by cases hc; rfl)
    rcases hsch with rfl | ⟨s, hs', rfl⟩
    · simp only [List.nil_append]
      rw [show ('/' :: '/' :: getHost false a (some dom) ++ a.scriptName ++ t ++ q) =
            '/' :: '/' :: (getHost false a (some dom) ++ a.scriptName ++ t ++ q) by simp,
        splitAuthority_noscheme, hrest, hstop.1, hstop.2]
      simp [hsc]
    · rw [show (s ++ [':'] ++ '/' :: '/' :: getHost false a (some dom) ++ a.scriptName ++ t ++ q) =
            s ++ ':' :: '/' :: '/' :: (getHost false a (some dom) ++ a.scriptName ++ t ++ q) by simp,
        splitAuthority_scheme hs', hrest, hstop.1, hstop.2]
      simp [hsc]
  have hcut : (a.scriptName ++ t ++ q).takeWhile (fun c => c != '?' && c != '#') = a.scriptName ++ t := by
    apply cut_query _ _ _ hq
    intro c hc
    rcases List.mem_append.1 hc with hc | hc
    · exact hs.nocut c hc
    · exact ht c hc
  have hadapt := host_to_adapter a dom
  simp only at hadapt
  simp only [readBuilt, hsplit, hhm, Bool.false_eq_true, if_false]
  split at hadapt
  · rename_i heq
    simp only [heq, if_true]
    injection hadapt with hadapt
    rw [hadapt, hcut, stripPrefix_append]
  · rename_i hne
    simp only [hne, Bool.false_eq_true, if_false]
    split at hadapt
    · rename_i sub hsub
      simp only [hsub]
      injection hadapt with hadapt
      rw [hadapt, hcut, stripPrefix_append]
    · cases hadapt

/-- **what `MapAdapter.build` returns reads back to the path it was built from**: whichever form `build`
chooses — relative (`script_root + path`) or external (`[scheme:]//host + script_root + path`), with or
without a query string — the server side recovers the adapter for the rule's domain part and the
percent-decoded path. -/
theorem readBuilt_adapterBuild {cfg : MapCfg} (hhm : cfg.hostMatching = false) {a : Adapter} (hs : ScriptOK a)
    {rules : List Rule} {ep : Str} {values : List (Str × Value)} {method : Option Str}
    {fe au : Bool} {dom : Str} {w : Bool} {t q : Str}
    (hp : partialBuild cfg a rules ep values method au = .ok (some (dom, '/' :: t ++ q, w)))
    (hhost : ∀ c ∈ getHost false a (some dom), c ≠ '/')
    (ht : noCut t) (hthead : t.head? ≠ some '/') (hq : q = [] ∨ q.head? = some '?') :
    ∃ url, adapterBuild cfg a rules ep values method fe au = .ok url ∧
      readBuilt cfg a url = some ({ a with subdomain := some dom }, '/' :: unquote t) := by
  have htq : (t ++ q).head? ≠ some '/' := by
    cases t with
    | nil =>
      rcases hq with rfl | hq
      · simp
      · simp only [List.nil_append, hq]; simp
    | cons x r => simpa using hthead
  have hl : lstripChar '/' ('/' :: t ++ q) = t ++ q := lstripChar_cons_of_head htq
  rcases adapterBuild_forms (fe := fe) hp with ⟨_, _, hrel, hu⟩ | hu
  · -- relative form: the rule lives on the bound subdomain
    refine ⟨_, hu, ?_⟩
    simp only [hhm, Bool.false_and, Bool.not_false, Bool.true_and, Bool.false_or, beq_iff_eq] at hrel
    have hsub : ({ a with subdomain := some dom } : Adapter) = a := by
      cases a; simp only at hrel ⊢; rw [hrel]
    rw [hl, hsub, List.append_cons, hs.rstrip, ← List.append_assoc]
    exact readBuilt_relative cfg a hs t q ht hq (.inr htq)
  · refine ⟨_, hu, ?_⟩
    have hsch : (if (buildScheme a w).isEmpty then [] else buildScheme a w ++ [':']) = [] ∨
        ∃ s ∈ ["http".toList, "https".toList, "ws".toList, "wss".toList],
          (if (buildScheme a w).isEmpty then [] else buildScheme a w ++ [':']) = s ++ [':'] := by
      rcases buildScheme_cases a w with ⟨h0, _, _⟩ | ⟨hmem, hemp⟩
      · exact .inl (by rw [h0]; rfl)
      · exact .inr ⟨_, hmem, by rw [hemp]; rfl⟩
    have := readBuilt_external cfg hhm a hs dom hhost _ hsch t q ht hq
    rw [hl, hhm, List.append_cons _ '/' (t ++ q), List.append_assoc _ a.scriptName.dropLast, hs.dropLast]
    simpa only [List.append_assoc] using this

/-- `readBuilt_adapterBuild` on the text `Rule.build` returns for a rule (the built path `'/' :: t`, with or without a query
string: `rule_build_path`), and what `MapAdapter.match` then makes of the PATH_INFO -/
theorem readBuilt_rule_path {cfg : MapCfg} (hhm : cfg.hostMatching = false) {a : Adapter} (hs : ScriptOK a)
    {rules : List Rule} {ep : Str} {values : List (Str × Value)} {method : Option Str}
    {fe au : Bool} {dom : Str} {w : Bool} {u t : Str}
    (hp : partialBuild cfg a rules ep values method au = .ok (some (dom, u, w)))
    (hform : u = '/' :: t ∨ ∃ params, u = '/' :: t ++ '?' :: params)
    (hhost : ∀ c ∈ getHost false a (some dom), c ≠ '/')
    (hnc : noCut ('/' :: t)) (hthead : t.head? ≠ some '/') (hdec : (unquote t).head? ≠ some '/') :
    ∃ url pathInfo, adapterBuild cfg a rules ep values method fe au = .ok url ∧
      readBuilt cfg a url = some ({ a with subdomain := some dom }, pathInfo) ∧
      pathPart pathInfo = '/' :: unquote t := by
  obtain ⟨q, rfl, hq⟩ : ∃ q, u = '/' :: t ++ q ∧ (q = [] ∨ q.head? = some '?') := by
    rcases hform with h | ⟨params, h⟩
    · exact ⟨[], by rw [h, List.append_nil], .inl rfl⟩
    · exact ⟨'?' :: params, h, .inr rfl⟩
  obtain ⟨url, hbuilt, hread⟩ := readBuilt_adapterBuild (fe := fe) hhm hs hp hhost
    (fun c hc => hnc c (List.mem_cons_of_mem _ hc)) hthead hq
  exact ⟨url, _, hbuilt, hread, by rw [pathPart, if_neg (by simp), lstripChar_cons_of_head hdec]⟩

end Wz.Routing
