/-
The urlsplit / urlunsplit model (C15): the character classes of the components (`pathChar`, `queryChar`, `noTab`);
what an assembled URL of the property's grammar (`GoodSplit`) consists of (`urlunsplit_good`, `good_all`); the stages of
`urlsplit` read forwards (`cleanUrl_id`, `splitScheme_*`, `splitNetloc_*`, `urlsplit_of_stages`), so that re-splitting
such a URL gives the components back (`urlsplit_urlunsplit`); and, backwards, what every result of `urlsplit`
satisfies (`SplitShape`).
-/
import WzVerif.Model.UrlSplit
import WzVerif.Lemmas.Url
namespace Wz.Url
open Wz

theorem partitionChar_append {d : Char} : ∀ (a b : Str), d ∉ a →
    partitionChar d (a ++ d :: b) = (a, some b)
  | [], b, _ => by simp [partitionChar]
  | c :: a, b, h => by
    have hc : c ≠ d := fun e => h (by simp [e])
    have ih := partitionChar_append a b (fun m => h (List.mem_cons_of_mem _ m))
    simp [partitionChar, hc, ih]

theorem partitionChar_none {d : Char} : ∀ (a : Str), d ∉ a → partitionChar d a = (a, none)
  | [], _ => rfl
  | c :: a, h => by
    have hc : c ≠ d := fun e => h (by simp [e])
    have ih := partitionChar_none a (fun m => h (List.mem_cons_of_mem _ m))
    simp [partitionChar, hc, ih]

theorem partitionChar_head {d : Char} (a : Str) {t : Str} (ha : d ∉ a) (ht : ∀ c ∈ t.head?, c = d) :
    (partitionChar d (a ++ t)).1 = a ∧ (partitionChar d (a ++ t)).2.getD [] = t.drop 1 := by
  cases t with
  | nil => rw [List.append_nil, partitionChar_none a ha]; exact ⟨rfl, rfl⟩
  | cons c t => rw [ht c rfl, partitionChar_append a t ha]; exact ⟨rfl, rfl⟩

theorem partitionChar_spec {d : Char} : ∀ (s : Str),
    (∃ a b, partitionChar d s = (a, some b) ∧ s = a ++ d :: b ∧ d ∉ a) ∨
    (partitionChar d s = (s, none) ∧ d ∉ s)
  | [] => Or.inr ⟨rfl, by simp⟩
  | c :: t => by
    by_cases hc : c = d
    · left; exact ⟨[], t, by simp [partitionChar, hc], by simp [hc], by simp⟩
    · rcases partitionChar_spec (d := d) t with ⟨a, b, h1, h2, h3⟩ | ⟨h1, h2⟩
      · left
        refine ⟨c :: a, b, by simp [partitionChar, hc, h1], by simp [h2], ?_⟩
        intro hm
        rcases List.mem_cons.mp hm with e | e
        · exact hc e.symm
        · exact h3 e
      · right
        refine ⟨by simp [partitionChar, hc, h1], ?_⟩
        intro hm
        rcases List.mem_cons.mp hm with e | e
        · exact hc e.symm
        · exact h2 e

theorem rpartitionChar_append {d : Char} (a b : Str) (h : d ∉ b) :
    rpartitionChar d (a ++ d :: b) = (some a, b) := by
  unfold rpartitionChar
  have : (a ++ d :: b).reverse = b.reverse ++ d :: a.reverse := by simp
  rw [this, partitionChar_append _ _ (by simpa using h)]
  simp

theorem rpartitionChar_none {d : Char} (s : Str) (h : d ∉ s) : rpartitionChar d s = (none, s) := by
  unfold rpartitionChar
  rw [partitionChar_none _ (by simpa using h)]

theorem splitFirst_append {d : Char} (a b : Str) (h : d ∉ a) : splitFirst d (a ++ d :: b) = (a, b) := by
  simp [splitFirst, partitionChar_append a b h]

theorem splitFirst_none {d : Char} (a : Str) (h : d ∉ a) : splitFirst d a = (a, []) := by
  simp [splitFirst, partitionChar_none a h]

/-- no TAB, CR or LF: the characters `urlsplit` deletes from its input (known finding F15c) -/
def noTab (s : Str) : Prop := ∀ c ∈ s, isTabCrLf c = false

/-- characters a path component may contain (a fragment's class is `noTab`) -/
def pathChar (c : Char) : Bool := !(c == '?' || c == '#' || isTabCrLf c)

/-- characters a query component may contain -/
def queryChar (c : Char) : Bool := !(c == '#' || isTabCrLf c)

theorem pathChar_query {c : Char} (h : pathChar c = true) : queryChar c = true := by
  simp only [pathChar, Bool.not_eq_true', Bool.or_eq_false_iff] at h
  simp [queryChar, h.1.2, h.2]

theorem queryChar_tab {c : Char} (h : queryChar c = true) : isTabCrLf c = false := by
  simp only [queryChar, Bool.not_eq_true', Bool.or_eq_false_iff] at h
  exact h.2

theorem pathChar_iff {s : Str} : (∀ c ∈ s, pathChar c = true) ↔ '?' ∉ s ∧ '#' ∉ s ∧ noTab s := by
  simp only [pathChar, Bool.not_eq_true', Bool.or_eq_false_iff, beq_eq_false_iff_ne, noTab]
  exact ⟨fun h => ⟨fun hm => (h _ hm).1.1 rfl, fun hm => (h _ hm).1.2 rfl, fun c hc => (h c hc).2⟩,
    fun h c hc => ⟨⟨fun e => h.1 (e ▸ hc), fun e => h.2.1 (e ▸ hc)⟩, h.2.2 c hc⟩⟩

theorem queryChar_iff {s : Str} : (∀ c ∈ s, queryChar c = true) ↔ '#' ∉ s ∧ noTab s := by
  simp only [queryChar, Bool.not_eq_true', Bool.or_eq_false_iff, beq_eq_false_iff_ne, noTab]
  exact ⟨fun h => ⟨fun hm => (h _ hm).1 rfl, fun c hc => (h c hc).2⟩,
    fun h c hc => ⟨fun e => h.1 (e ▸ hc), h.2 c hc⟩⟩

/-- a 5-tuple of the property's URL grammar: scheme and authority present, components free of the
delimiters that end them -/
structure GoodSplit (o : UrlOpaque) (t : Split) : Prop where
  scheme_valid : validScheme t.scheme = true
  scheme_lower : t.scheme.map asciiLower = t.scheme
  netloc_ne : t.netloc ≠ []
  netloc_nodelim : ∀ c ∈ t.netloc, isNetlocDelim c = false
  brackets : bracketsOk o t.netloc = true
  nfkc : netlocOk o t.netloc = true
  path_form : t.path = [] ∨ t.path.head? = some '/'
  path_chars : '?' ∉ t.path ∧ '#' ∉ t.path
  query_chars : '#' ∉ t.query
  tabs : noTab t.scheme ∧ noTab t.netloc ∧ noTab t.path ∧ noTab t.query ∧ noTab t.fragment

theorem schemeChar_ne_colon {c : Char} (h : isSchemeChar c = true) : c ≠ ':' := by
  intro e; subst e; revert h; decide

theorem alpha_not_c0 {c : Char} (h : isAsciiAlpha c = true) : isC0OrSpace c = false := by
  simp only [isAsciiAlpha, Bool.or_eq_true, Bool.and_eq_true, decide_eq_true_eq] at h
  simp only [isC0OrSpace, decide_eq_false_iff_not, Nat.not_le]
  have ha : 'a'.toNat = 97 := by decide
  have hA : 'A'.toNat = 65 := by decide
  rcases h with h | h
  · have : 'a'.toNat ≤ c.toNat := h.1
    omega
  · have : 'A'.toNat ≤ c.toNat := h.1
    omega

/-- the tail `path ?query #fragment` of an assembled URL -/
def tailOf (t : Split) : Str :=
  t.path ++ (if t.query.isEmpty then [] else '?' :: t.query) ++
    (if t.fragment.isEmpty then [] else '#' :: t.fragment)

theorem urlunsplit_good {o : UrlOpaque} {t : Split} (g : GoodSplit o t) :
    urlunsplit t = t.scheme ++ ':' :: '/' :: '/' :: t.netloc ++ tailOf t := by
  have hne : t.netloc.isEmpty = false := by
    cases h : t.netloc with
    | nil => exact absurd h g.netloc_ne
    | cons _ _ => rfl
  have hs : t.scheme.isEmpty = false := by
    have := g.scheme_valid
    cases h : t.scheme with
    | nil => simp [validScheme, h] at this
    | cons _ _ => rfl
  have hp : (if (!t.path.isEmpty && t.path.head? != some '/') = true then '/' :: t.path else t.path) = t.path := by
    rcases g.path_form with h | h
    · simp [h]
    · simp [h]
  unfold urlunsplit tailOf
  simp only [hne, hs, Bool.not_false, Bool.true_or, if_true, hp]
  by_cases hq : t.query.isEmpty = true <;> by_cases hf : t.fragment.isEmpty = true <;>
    simp [hq, hf, List.append_assoc]

theorem tailOf_all {P : Char → Prop} (hq : P '?') (hf : P '#') {t : Split} (h1 : ∀ c ∈ t.path, P c)
    (h2 : ∀ c ∈ t.query, P c) (h3 : ∀ c ∈ t.fragment, P c) : ∀ c ∈ tailOf t, P c := by
  unfold tailOf
  simp only [List.mem_append, or_imp, forall_and]
  refine ⟨⟨h1, ?_⟩, ?_⟩ <;> split <;>
    simp only [List.mem_cons, List.not_mem_nil, false_imp_iff, implies_true, forall_eq_or_imp]
  · exact ⟨hq, h2⟩
  · exact ⟨hf, h3⟩

theorem good_all {P : Char → Prop} (hpunct : P ':' ∧ P '/' ∧ P '?' ∧ P '#') {o : UrlOpaque} {t : Split}
    (g : GoodSplit o t) (h0 : ∀ c ∈ t.scheme, P c) (hn : ∀ c ∈ t.netloc, P c) (h1 : ∀ c ∈ t.path, P c)
    (h2 : ∀ c ∈ t.query, P c) (h3 : ∀ c ∈ t.fragment, P c) : ∀ c ∈ urlunsplit t, P c := by
  rw [urlunsplit_good g]
  simp only [List.mem_append, List.mem_cons, or_imp, forall_and, forall_eq]
  exact ⟨⟨h0, hpunct.1, hpunct.2.1, hpunct.2.1, hn⟩, tailOf_all hpunct.2.2.1 hpunct.2.2.2 h1 h2 h3⟩

theorem splitTail {t : Split} (hp : '?' ∉ t.path ∧ '#' ∉ t.path) (hq : '#' ∉ t.query) :
    (splitFirst '?' (splitFirst '#' (tailOf t)).1 = (t.path, t.query)) ∧
    (splitFirst '#' (tailOf t)).2 = t.fragment := by
  have hno : '#' ∉ t.path ++ '?' :: t.query := by
    intro hm
    rcases List.mem_append.mp hm with h | h
    · exact hp.2 h
    · rcases List.mem_cons.mp h with e | e
      · exact absurd e (by decide)
      · exact hq e
  unfold tailOf
  by_cases hqe : t.query.isEmpty = true <;> by_cases hfe : t.fragment.isEmpty = true
  · have e1 : t.query = [] := List.isEmpty_iff.mp hqe
    have e2 : t.fragment = [] := List.isEmpty_iff.mp hfe
    simp only [hqe, hfe, if_true, List.append_nil]
    rw [splitFirst_none _ hp.2, splitFirst_none _ hp.1, e1, e2]
    exact ⟨rfl, rfl⟩
  · have e1 : t.query = [] := List.isEmpty_iff.mp hqe
    simp only [hqe, hfe, if_true, List.append_nil, Bool.false_eq_true, if_false]
    rw [splitFirst_append _ _ hp.2, splitFirst_none _ hp.1, e1]
    exact ⟨rfl, rfl⟩
  · have e2 : t.fragment = [] := List.isEmpty_iff.mp hfe
    simp only [hqe, hfe, if_true, List.append_nil, Bool.false_eq_true, if_false]
    rw [splitFirst_none _ hno, splitFirst_append _ _ hp.1, e2]
    exact ⟨rfl, rfl⟩
  · simp only [hqe, hfe, Bool.false_eq_true, if_false]
    rw [splitFirst_append _ _ hno, splitFirst_append _ _ hp.1]
    exact ⟨rfl, rfl⟩

theorem tailOf_head (t : Split) (hp : t.path = [] ∨ t.path.head? = some '/') :
    ∀ c, (tailOf t).head? = some c → isNetlocDelim c = true := by
  intro c hc
  unfold tailOf at hc
  rcases hp with h | h
  · rw [h] at hc
    by_cases hq : t.query.isEmpty = true
    · by_cases hf : t.fragment.isEmpty = true
      · simp [hq, hf] at hc
      · simp [hq, hf] at hc; subst hc; decide
    · simp [hq] at hc; subst hc; decide
  · cases hpath : t.path with
    | nil => rw [hpath] at h; cases h
    | cons x xs =>
      rw [hpath] at h hc
      simp at h hc
      subst hc; subst h; decide

theorem cleanUrl_id {u : Str} (h0 : ∀ c, u.head? = some c → isC0OrSpace c = false) (ht : noTab u) :
    cleanUrl u = u := by
  unfold cleanUrl
  rw [dropWhile_head_false h0]
  exact List.filter_eq_self.mpr fun c hc => by simp [ht c hc]

theorem validScheme_cons {s : Str} (h : validScheme s = true) :
    (∃ s0 st, s = s0 :: st ∧ isAsciiAlpha s0 = true) ∧ ∀ c ∈ s, isSchemeChar c = true := by
  cases s with
  | nil => cases h
  | cons a b =>
    simp only [validScheme, Bool.and_eq_true, List.all_eq_true] at h
    exact ⟨⟨a, b, rfl, by simpa using h.1.2⟩, h.2⟩

theorem splitScheme_of_valid {s : Str} (hv : validScheme s = true) (hl : s.map asciiLower = s) (rest : Str) :
    splitScheme (s ++ ':' :: rest) = (s, rest) := by
  unfold splitScheme
  rw [partitionChar_append _ _ (fun hm => schemeChar_ne_colon ((validScheme_cons hv).2 _ hm) rfl)]
  simp only [hv, if_true, hl]

theorem splitScheme_none {u : Str} (h : ∀ c, u.head? = some c → isAsciiAlpha c = false) : splitScheme u = ([], u) := by
  unfold splitScheme
  rcases partitionChar_spec (d := ':') u with ⟨a, b, h1, h2, _⟩ | ⟨h1, _⟩
  · have hv : validScheme a = false := by
      cases a with
      | nil => rfl
      | cons x a' => simp [validScheme, h x (by rw [h2]; rfl)]
    rw [h1]
    simp [hv]
  · rw [h1]

theorem splitNetloc_slashes {n rest : Str} (hn : ∀ c ∈ n, isNetlocDelim c = false)
    (hr : ∀ c, rest.head? = some c → isNetlocDelim c = true) : splitNetloc ('/' :: '/' :: n ++ rest) = (n, rest) := by
  unfold splitNetloc
  rw [if_pos (by simp [List.isPrefixOf])]
  obtain ⟨h1, h2⟩ := takeWhile_append_stop (p := fun c => !isNetlocDelim c) (a := n) (b := rest)
    (fun c hc => by simp [hn c hc]) (fun c hc => by simp [hr c hc])
  rw [show ('/' :: '/' :: n ++ rest).drop 2 = n ++ rest from rfl, h1, h2]

theorem splitNetloc_none {u : Str} (h : (['/', '/'] : Str).isPrefixOf u = false) : splitNetloc u = ([], u) := by
  unfold splitNetloc
  rw [h]
  rfl

theorem urlsplit_of_stages {o : UrlOpaque} {url s rest n tail : Str} (hc : cleanUrl url = url)
    (hs : splitScheme url = (s, rest)) (hn : splitNetloc rest = (n, tail)) (hb : bracketsOk o n = true)
    (hk : netlocOk o n = true) :
    urlsplit o url = .ok ⟨s, n, (splitFirst '?' (splitFirst '#' tail).1).1,
      (splitFirst '?' (splitFirst '#' tail).1).2, (splitFirst '#' tail).2⟩ := by
  unfold urlsplit
  simp only [hc, hs, hn, hb, hk, Bool.not_true, Bool.false_eq_true, if_false]

/-- **Re-splitting.** `urlsplit(urlunsplit(t)) == t` for 5-tuples of the grammar. -/
theorem urlsplit_urlunsplit {o : UrlOpaque} {t : Split} (g : GoodSplit o t) :
    urlsplit o (urlunsplit t) = .ok t := by
  obtain ⟨ts, tn, tp, tq, tf⟩ := g.tabs
  have htab : noTab (urlunsplit t) := good_all (P := fun c => isTabCrLf c = false) (by decide) g ts tn tp tq tf
  obtain ⟨⟨s0, st, hsch, halpha⟩, _⟩ := validScheme_cons g.scheme_valid
  rw [urlunsplit_good g] at htab ⊢
  have e : t.scheme ++ ':' :: '/' :: '/' :: t.netloc ++ tailOf t
      = t.scheme ++ ':' :: ('/' :: '/' :: t.netloc ++ tailOf t) := by simp
  obtain ⟨hpq, hfr⟩ := splitTail g.path_chars g.query_chars
  rw [urlsplit_of_stages (cleanUrl_id (fun c hc => by rw [hsch] at hc; cases hc; exact alpha_not_c0 halpha) htab)
    (e ▸ splitScheme_of_valid g.scheme_valid g.scheme_lower _)
    (splitNetloc_slashes g.netloc_nodelim (tailOf_head t g.path_form)) g.brackets g.nfkc, hpq, hfr]

theorem cleanUrl_noTab (url : Str) : noTab (cleanUrl url) := by
  intro c hc
  have := (List.mem_filter.mp hc).2
  simpa using this

theorem noTab_of_subset {a b : Str} (h : ∀ c ∈ a, c ∈ b) (hb : noTab b) : noTab a :=
  fun c hc => hb c (h c hc)

theorem asciiLower_idem (c : Char) : asciiLower (asciiLower c) = asciiLower c := by
  unfold asciiLower
  by_cases h : ('A' ≤ c && c ≤ 'Z') = true
  · have h1 : 'A'.toNat ≤ c.toNat ∧ c.toNat ≤ 'Z'.toNat := by
      simp only [Bool.and_eq_true, decide_eq_true_eq] at h; exact h
    have hA : 'A'.toNat = 65 := by decide
    have hZ : 'Z'.toNat = 90 := by decide
    have hv : (Char.ofNat (c.toNat + 32)).toNat = c.toNat + 32 := toNat_ofNat_lt (by omega)
    have h2 : ¬ (('A' ≤ Char.ofNat (c.toNat + 32) && Char.ofNat (c.toNat + 32) ≤ 'Z') = true) := by
      simp only [Bool.and_eq_true, decide_eq_true_eq, not_and]
      intro _ hle
      have : (Char.ofNat (c.toNat + 32)).toNat ≤ 'Z'.toNat := hle
      omega
    simp [h, h2]
  · simp [h]

theorem schemeChar_ascii {c : Char} (h : isSchemeChar c = true) : c.toNat < 128 := by
  simp only [isSchemeChar, isAsciiAlpha, isAsciiDigit, Bool.or_eq_true, Bool.and_eq_true,
    decide_eq_true_eq, beq_iff_eq] at h
  have hz : 'z'.toNat = 122 := by decide
  have hZ : 'Z'.toNat = 90 := by decide
  have h9 : '9'.toNat = 57 := by decide
  rcases h with ((((h | h) | h) | h) | h) | h
  · have : c.toNat ≤ 'z'.toNat := h.2; omega
  · have : c.toNat ≤ 'Z'.toNat := h.2; omega
  · have : c.toNat ≤ '9'.toNat := h.2; omega
  · subst h; decide
  · subst h; decide
  · subst h; decide

theorem schemeChar_lower {c : Char} (h : isSchemeChar c = true) :
    isSchemeChar (asciiLower c) = true ∧ (isAsciiAlpha c = true → isAsciiAlpha (asciiLower c) = true) ∧
    isTabCrLf (asciiLower c) = false :=
  of_ascii_sweep (P := fun c => isSchemeChar c = true → isSchemeChar (asciiLower c) = true ∧
    (isAsciiAlpha c = true → isAsciiAlpha (asciiLower c) = true) ∧ isTabCrLf (asciiLower c) = false)
    (by decide +kernel) (schemeChar_ascii h) h

/-- what every result of `urlsplit` satisfies: `GoodSplit` without the demand for a scheme and a netloc
(the scheme may be empty, the path form is only known next to a netloc) -/
structure SplitShape (o : UrlOpaque) (sp : Split) : Prop where
  scheme : sp.scheme = [] ∨ (validScheme sp.scheme = true ∧ sp.scheme.map asciiLower = sp.scheme)
  netloc_nodelim : ∀ c ∈ sp.netloc, isNetlocDelim c = false
  brackets : bracketsOk o sp.netloc = true
  nfkc : netlocOk o sp.netloc = true
  path_form : sp.netloc ≠ [] → sp.path = [] ∨ sp.path.head? = some '/'
  path_chars : '?' ∉ sp.path ∧ '#' ∉ sp.path
  query_chars : '#' ∉ sp.query
  tabs : noTab sp.scheme ∧ noTab sp.netloc ∧ noTab sp.path ∧ noTab sp.query ∧ noTab sp.fragment

theorem splitFirst_spec (d : Char) (s : Str) :
    d ∉ (splitFirst d s).1 ∧ (∀ c ∈ (splitFirst d s).1, c ∈ s) ∧ (∀ c ∈ (splitFirst d s).2, c ∈ s) ∧
    (splitFirst d s).1 <+: s := by
  unfold splitFirst
  rcases partitionChar_spec (d := d) s with ⟨a, b, h1, h2, h3⟩ | ⟨h1, h2⟩
  · rw [h1]
    simp only
    refine ⟨h3, ?_, ?_, ⟨d :: b, h2.symm⟩⟩
    · intro c hc; rw [h2]; simp [hc]
    · intro c hc; rw [h2]; simp [hc]
  · rw [h1]
    exact ⟨h2, fun c hc => hc, by simp, List.prefix_refl _⟩

theorem splitScheme_spec (u : Str) :
    ((splitScheme u).1 = [] ∨ (validScheme (splitScheme u).1 = true ∧
      (splitScheme u).1.map asciiLower = (splitScheme u).1)) ∧
    noTab (splitScheme u).1 ∧ ∀ c ∈ (splitScheme u).2, c ∈ u := by
  unfold splitScheme
  rcases partitionChar_spec (d := ':') u with ⟨a, b, h1, h2, _⟩ | ⟨h1, _⟩
  · rw [h1]
    simp only
    by_cases hv : validScheme a = true
    · rw [if_pos hv]
      simp only [validScheme, Bool.and_eq_true, List.all_eq_true] at hv
      obtain ⟨⟨hne, hhead⟩, hall⟩ := hv
      refine ⟨Or.inr ⟨?_, by simp [asciiLower_idem]⟩, ?_, fun c hc => by rw [h2]; simp [hc]⟩
      · simp only [validScheme, Bool.and_eq_true, List.all_eq_true]
        refine ⟨⟨by simpa using hne, ?_⟩, ?_⟩
        · cases a with
          | nil => simp at hne
          | cons x xs =>
            simp only [List.map_cons, List.head?_cons, Option.map_some, Option.getD_some] at hhead ⊢
            exact (schemeChar_lower (hall x (by simp))).2.1 hhead
        · intro c hc
          obtain ⟨x, hx, rfl⟩ := List.mem_map.mp hc
          exact (schemeChar_lower (hall x hx)).1
      · intro c hc
        obtain ⟨x, hx, rfl⟩ := List.mem_map.mp hc
        exact (schemeChar_lower (hall x hx)).2.2
    · rw [if_neg hv]; exact ⟨Or.inl rfl, (fun c hc => by cases hc), fun c hc => hc⟩
  · rw [h1]; exact ⟨Or.inl rfl, (fun c hc => by cases hc), fun c hc => hc⟩

theorem splitNetloc_spec (u : Str) :
    (∀ c ∈ (splitNetloc u).1, isNetlocDelim c = false) ∧
    (∀ c ∈ (splitNetloc u).1, c ∈ u) ∧ (∀ c ∈ (splitNetloc u).2, c ∈ u) ∧
    ((splitNetloc u).1 ≠ [] → ∀ c, (splitNetloc u).2.head? = some c → isNetlocDelim c = true) := by
  unfold splitNetloc
  split
  · refine ⟨fun c hc => by simpa using mem_takeWhile hc,
      fun c hc => List.mem_of_mem_drop ((List.takeWhile_subset _) hc),
      fun c hc => List.mem_of_mem_drop ((List.dropWhile_suffix _).subset hc), fun _ c hc => ?_⟩
    have := List.head?_dropWhile_not (fun c => !isNetlocDelim c) (List.drop 2 u)
    rw [hc] at this
    simpa using this
  · exact ⟨by simp, by simp, fun c hc => hc, fun h => absurd rfl h⟩

theorem urlsplit_shape {o : UrlOpaque} {url : Str} {sp : Split} (h : urlsplit o url = .ok sp) :
    SplitShape o sp := by
  unfold urlsplit at h
  simp only at h
  split at h
  · cases h
  rename_i hbr
  split at h
  · cases h
  rename_i hnf
  simp only [Except.ok.injEq] at h
  have hclean := cleanUrl_noTab url
  generalize cleanUrl url = u at h hbr hnf hclean
  have hsch := splitScheme_spec u
  generalize hs : splitScheme u = s at h hbr hnf hsch
  have hrest_tab : noTab s.2 := noTab_of_subset hsch.2.2 hclean
  have hnet := splitNetloc_spec s.2
  generalize hn : splitNetloc s.2 = n at h hbr hnf hnet
  have hn2_tab : noTab n.2 := noTab_of_subset hnet.2.2.1 hrest_tab
  obtain ⟨f1, f2, f3, f4⟩ := splitFirst_spec '#' n.2
  obtain ⟨q1, q2, q3, q4⟩ := splitFirst_spec '?' (splitFirst '#' n.2).1
  rw [← h]
  refine ⟨?_, hnet.1, by simpa using hbr, by simpa using hnf, ?_, ⟨q1, ?_⟩, ?_, ?_⟩
  · exact hsch.1
  · intro hne
    simp only
    have hhead := hnet.2.2.2 hne
    -- the path is a prefix of the text after the netloc
    obtain ⟨w1, hw1⟩ := q4
    obtain ⟨w2, hw2⟩ := f4
    cases hq : (splitFirst '?' (splitFirst '#' n.2).1).1 with
    | nil => left; rfl
    | cons x xs =>
      right
      rw [hq] at hw1
      have : n.2.head? = some x := by rw [← hw2, ← hw1]; rfl
      have hd := hhead x this
      -- a delimiter that is neither '?' nor '#'
      have hx1 : x ≠ '?' := by intro e; apply q1; rw [hq, e]; simp
      have hx2 : x ≠ '#' := by
        intro e; apply f1
        rw [← hw1, e]; simp
      simp only [isNetlocDelim, Bool.or_eq_true, beq_iff_eq] at hd
      rcases hd with (hd | hd) | hd
      · simp [hd]
      · exact absurd hd hx1
      · exact absurd hd hx2
  · intro hm; exact f1 (q2 _ hm)
  · intro hm; exact f1 (q3 _ hm)
  · exact ⟨hsch.2.1, noTab_of_subset hnet.2.1 hrest_tab,
      noTab_of_subset (fun c hc => f2 c (q2 c hc)) hn2_tab,
      noTab_of_subset (fun c hc => f2 c (q3 c hc)) hn2_tab,
      noTab_of_subset f3 hn2_tab⟩

end Wz.Url
