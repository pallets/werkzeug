/-
Routing lemmas (C04): the `int` converter's text — `int(str(i)) = i` on the model's reading of decimal digits
(`intOfText_toString`), zero padding (`zfill`) changes neither the number nor, when the text fits, anything but the length,
and neither puts a '%' into the text.
-/
import WzVerif.Model.RoutingBuild
import WzVerif.Lemmas.Basics
namespace Wz.Routing

theorem digitVal_digitChar : ∀ d : Fin 10, digitVal? (Nat.digitChar d.val) = some d.val := by
  decide +kernel

theorem digitsVal_append (l : Str) (c : Char) : digitsVal (l ++ [c]) = digitsVal l * 10 + (digitVal? c).getD 0 := by
  simp [digitsVal, List.foldl_append]

theorem digitsVal_toDigits (n : Nat) : digitsVal (Nat.toDigits 10 n) = n := by
  induction n using Nat.strongRecOn with
  | _ n ih =>
    rw [Nat.toDigits_eq_if (by omega)]
    split
    · rename_i h
      have := digitVal_digitChar ⟨n, h⟩
      simp [digitsVal, this]
    · rename_i h
      have hd := digitVal_digitChar ⟨n % 10, Nat.mod_lt _ (by omega)⟩
      rw [digitsVal_append, ih (n / 10) (by omega)]
      simp only at hd
      rw [hd]
      simp only [Option.getD_some]
      omega

theorem toDigits_head_ne_minus (n : Nat) : (Nat.toDigits 10 n).head? ≠ some '-' := by
  intro h
  have hne := @Nat.toDigits_ne_nil n 10
  cases hl : Nat.toDigits 10 n with
  | nil => exact hne hl
  | cons c t =>
    rw [hl] at h
    simp only [List.head?_cons, Option.some.injEq] at h
    subst h
    exact absurd (toDigits_isDigit n '-' (by rw [hl]; simp)) (by decide)

theorem intOfText_toString (i : Int) : intOfText (toString i).toList = i := by
  cases i with
  | ofNat n =>
    rw [toString_ofNat_toList]
    have hh := toDigits_head_ne_minus n
    simp only [intOfText]
    split
    · rename_i t heq
      rw [heq] at hh; simp at hh
    · rw [digitsVal_toDigits]; rfl
  | negSucc n =>
    rw [toString_negSucc_toList]
    simp only [intOfText, digitsVal_toDigits]
    omega

theorem zfill_length (w : Nat) (s : Str) (h : s.length ≤ w) : (zfill w s).length = w := by
  unfold zfill
  split
  · rename_i t
    simp only [List.length_cons, List.length_append, List.length_replicate] at h ⊢
    omega
  · simp only [List.length_append, List.length_replicate]
    omega

theorem digitsVal_zeros (k : Nat) (l : Str) : digitsVal (List.replicate k '0' ++ l) = digitsVal l := by
  have h0 : (digitVal? '0').getD 0 = 0 := by decide +kernel
  induction k with
  | zero => rfl
  | succ k ih =>
    simp only [List.replicate_succ, List.cons_append, digitsVal, List.foldl_cons, h0, Nat.zero_mul, Nat.add_zero] at ih ⊢
    exact ih

theorem intOfText_zfill (w : Nat) (s : Str) : intOfText (zfill w s) = intOfText s := by
  unfold zfill
  split
  · rename_i t
    simp only [intOfText, digitsVal_zeros]
  · rename_i hnm
    cases hk : w - s.length with
    | zero => simp
    | succ k =>
      have : intOfText (List.replicate (k + 1) '0' ++ s) = (digitsVal (List.replicate (k + 1) '0' ++ s) : Int) := by
        simp [List.replicate_succ, intOfText]
      rw [this, digitsVal_zeros]
      cases s with
      | nil => simp [intOfText, digitsVal]
      | cons c t =>
        by_cases hc : c = '-'
        · subst hc; exact absurd rfl (hnm t)
        · simp only [intOfText]

theorem percent_not_in_toString (i : Int) : '%' ∉ (toString i).toList := by
  have hd : ∀ n : Nat, '%' ∉ Nat.toDigits 10 n := fun n h => absurd (toDigits_isDigit n _ h) (by decide)
  cases i with
  | ofNat n => rw [toString_ofNat_toList]; exact hd n
  | negSucc n =>
    rw [toString_negSucc_toList]
    intro h
    rcases List.mem_cons.1 h with h | h
    · cases h
    · exact hd _ h

theorem percent_not_in_zfill (w : Nat) (s : Str) (h : '%' ∉ s) : '%' ∉ zfill w s := by
  unfold zfill
  split
  · rename_i t
    intro hm
    rcases List.mem_cons.1 hm with hm | hm
    · cases hm
    · rcases List.mem_append.1 hm with hm | hm
      · simp [List.mem_replicate] at hm
      · exact h (List.mem_cons_of_mem _ hm)
  · intro hm
    rcases List.mem_append.1 hm with hm | hm
    · simp [List.mem_replicate] at hm
    · exact h hm

/-- when `int`'s `to_python` takes a text: the length fits `fixed_digits` and the number read lies within `min` / `max` -/
theorem toPython_int_of_bounds (fixed : Nat) (signed : Bool) (mn mx : Option Int) (t : Str)
    (hlen : fixed = 0 ∨ t.length = fixed)
    (hmn : ∀ m, mn = some m → m ≤ intOfText t) (hmx : ∀ m, mx = some m → intOfText t ≤ m) :
    toPython (.int fixed signed mn mx) t = some (.int (intOfText t)) := by
  have hl : ¬ (fixed ≠ 0 ∧ t.length ≠ fixed) := fun h => hlen.elim h.1 h.2
  simp only [toPython, hl, if_false]
  rw [if_neg]
  rw [Bool.or_eq_true]
  rintro (h | h)
  · cases mn with
    | none => cases h
    | some m => exact Int.not_lt.2 (hmn m rfl) (of_decide_eq_true h)
  · cases mx with
    | none => cases h
    | some m => exact Int.not_lt.2 (hmx m rfl) (of_decide_eq_true h)

end Wz.Routing
