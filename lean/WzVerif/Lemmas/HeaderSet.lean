/-
HeaderSet keeps the spellings in a list and the lower-cased members in a set. `HS.Inv` ties the two (same
members, none twice); every operation keeps it, and under it the list of spellings is the case-insensitive
ordered set `HSSpec` (`hs_step_refines`).
-/
import WzVerif.Lemmas.PyDictModel
namespace Wz
namespace HSLemmas
open Hdr HS

theorem map_lower_dropFirst (key : Str) (hs : List Str) :
    (dropFirst key hs).map lower = (hs.map lower).erase key := by
  induction hs with
  | nil => rfl
  | cons h t ih =>
    simp only [dropFirst, List.map_cons, List.erase_cons]
    by_cases hk : (lower h == key) = true
    · simp [hk]
    · simp [hk, ih]

theorem dropFirst_eq_filter (key : Str) (hs : List Str) (hn : (hs.map lower).Nodup) :
    dropFirst key hs = hs.filter (fun x => !(lower x == key)) := by
  induction hs with
  | nil => rfl
  | cons h t ih =>
    simp only [List.map_cons, List.nodup_cons] at hn
    simp only [dropFirst, List.filter_cons]
    by_cases hk : (lower h == key) = true
    · simp only [hk, if_true, Bool.not_true, Bool.false_eq_true, if_false]
      symm
      rw [List.filter_eq_self]
      intro x hx
      have : lower x ≠ key := fun e => hn.1 (beq_iff_eq.1 hk ▸ e ▸ List.mem_map_of_mem hx)
      simp [this]
    · simp [hk, ih hn.2]

theorem split_at {α : Type} (l : List α) (n : Nat) (h : n < l.length) :
    l = l.take n ++ l[n] :: l.drop (n + 1) := by
  rw [← List.drop_eq_getElem_cons h, List.take_append_drop]

theorem mem_setAdd (s : List Str) (x y : Str) : y ∈ setAdd s x ↔ y ∈ s ∨ y = x := by
  unfold setAdd
  split
  · rename_i h
    exact ⟨Or.inl, fun h1 => h1.elim id fun e => e ▸ List.contains_iff_mem.1 h⟩
  · simp only [List.mem_append, List.mem_singleton]

theorem nodup_setAdd (s : List Str) (x : Str) (h : s.Nodup) : (setAdd s x).Nodup := by
  unfold setAdd
  split
  · exact h
  · rename_i hc; exact nodup_snoc h (fun hm => hc (List.contains_iff_mem.2 hm))

end HSLemmas

namespace HS
open Hdr

theorem Inv.nodup_headers {c : St} (h : Inv c) : (c.headers.map lower).Nodup := h.1

theorem Inv.nodup_set {c : St} (h : Inv c) : c.set.Nodup := h.2.1

theorem Inv.mem_set_iff {c : St} (h : Inv c) (x : Str) : x ∈ c.set ↔ x ∈ c.headers.map lower := h.2.2 x

end HS
end Wz

namespace Wz.C08L
open Wz Hdr HS HSLemmas

theorem pyIdx_lt {n : Nat} {i : Int} {k : Nat} (h : pyIdx n i = some k) : k < n := by
  unfold pyIdx at h
  split at h
  · split at h
    · simp at h; omega
    · simp at h
  · split at h
    · simp at h; omega
    · simp at h

theorem inv_empty : Inv ⟨[], []⟩ := ⟨List.nodup_nil, List.nodup_nil, fun _ => Iff.rfl⟩

theorem contains_of_getElem? {c : St} (h : Inv c) {n : Nat} {rv : Str} (hg : c.headers[n]? = some rv) :
    c.set.contains (lower rv) = true := by
  rw [List.contains_iff_mem, h.mem_set_iff]
  exact List.mem_map_of_mem (List.mem_of_getElem? hg)

theorem inv_append (c : St) (h : Inv c) (x : Str) (hx : c.set.contains (lower x) = false) :
    Inv ⟨c.headers ++ [x], c.set ++ [lower x]⟩ := by
  have h1 := h.nodup_headers; have h2 := h.nodup_set; have h3 := h.mem_set_iff
  have hx' : lower x ∉ c.set := by simpa using hx
  have hx'' : lower x ∉ c.headers.map lower := fun hm => hx' ((h3 _).2 hm)
  refine ⟨?_, nodup_snoc h2 hx', ?_⟩
  · simp only [List.map_append, List.map_cons, List.map_nil]
    exact nodup_snoc h1 hx''
  · intro y
    simp only [List.mem_append, List.mem_singleton, List.map_append, List.map_cons, List.map_nil]
    rw [h3 y]

theorem inv_updateLoop (c : St) (h : Inv c) (hs : List Str) : Inv (updateLoop c hs).1 := by
  induction hs generalizing c with
  | nil => exact h
  | cons x t ih =>
    simp only [updateLoop]
    cases hc : c.set.contains (lower x) with
    | true => simp only [if_true]; exact ih c h
    | false => simp only [Bool.false_eq_true, if_false]; exact ih _ (inv_append c h x hc)

theorem mem_iff_contains (c : St) (h : Inv c) (x : Str) : HSSpec.mem c.headers x = c.set.contains (lower x) := by
  rw [HSSpec.mem, Bool.eq_iff_iff, List.contains_iff_mem, List.contains_iff_mem]
  exact (h.mem_set_iff (lower x)).symm

theorem updateLoop_spec (c : St) (h : Inv c) (hs : List Str) :
    (updateLoop c hs).1.headers = HSSpec.insertAll c.headers hs := by
  induction hs generalizing c with
  | nil => rfl
  | cons x t ih =>
    simp only [updateLoop, HSSpec.insertAll, HSSpec.insert, mem_iff_contains c h]
    cases hc : c.set.contains (lower x) with
    | true => simp only [if_true]; exact ih c h
    | false =>
      simp only [Bool.false_eq_true, if_false]
      exact ih _ (inv_append c h x hc)

theorem inv_remove_key (c : St) (h : Inv c) (key : Str) :
    Inv ⟨dropFirst key c.headers, c.set.erase key⟩ := by
  have h1 := h.nodup_headers; have h2 := h.nodup_set; have h3 := h.mem_set_iff
  refine ⟨?_, h2.erase key, ?_⟩
  · rw [map_lower_dropFirst]; exact h1.erase key
  · intro y
    simp only []
    rw [map_lower_dropFirst, h2.mem_erase_iff, h1.mem_erase_iff, h3 y]

theorem eraseIdx_eq_dropFirst (hs : List Str) (hn : (hs.map lower).Nodup) (n : Nat) (rv : Str)
    (hg : hs[n]? = some rv) : hs.eraseIdx n = dropFirst (lower rv) hs := by
  induction hs generalizing n with
  | nil => simp at hg
  | cons h t ih =>
    simp only [List.map_cons, List.nodup_cons] at hn
    cases n with
    | zero =>
      simp at hg; subst hg
      simp [dropFirst]
    | succ m =>
      simp only [List.getElem?_cons_succ] at hg
      have hmem : rv ∈ t := List.mem_of_getElem? hg
      have hne : ¬ (lower h == lower rv) = true := by
        rw [beq_iff_eq]
        intro e; apply hn.1; rw [e]; exact List.mem_map_of_mem hmem
      simp only [List.eraseIdx_cons_succ, dropFirst, hne]
      simp [ih hn.2 m hg]

theorem inv_delitem (c : St) (h : Inv c) (i : Int) : Inv (delitem c i).st := by
  unfold delitem
  cases hp : pyIdx c.headers.length i with
  | none => exact h
  | some n =>
    simp only
    cases hg : c.headers[n]? with
    | none => exact h
    | some rv =>
      simp only [contains_of_getElem? h hg, if_true]
      rw [eraseIdx_eq_dropFirst c.headers h.nodup_headers n rv hg]
      exact inv_remove_key c h (lower rv)

/-- the value assigned by `hs[i] = v` is not already a member at another position -/
def setitemOk (c : St) (i : Int) (v : Str) : Bool :=
  match pyIdx c.headers.length i with
  | none => true
  | some n => !((c.headers.eraseIdx n).map lower).contains (lower v)

theorem inv_setitem (c : St) (h : Inv c) (i : Int) (v : Str) (hok : setitemOk c i v = true) :
    Inv (setitem c i v).st := by
  unfold setitem
  unfold setitemOk at hok
  cases hp : pyIdx c.headers.length i with
  | none => exact h
  | some n =>
    rw [hp] at hok
    simp only at hok ⊢
    have hlt := pyIdx_lt hp
    cases hg : c.headers[n]? with
    | none => exact h
    | some old =>
      simp only [contains_of_getElem? h hg, if_true]
      have hrem := inv_remove_key c h (lower old)
      rw [← eraseIdx_eq_dropFirst c.headers h.nodup_headers n old hg] at hrem
      have r1 := hrem.nodup_headers; have r2 := hrem.nodup_set; have r3 := hrem.mem_set_iff
      have hv : lower v ∉ (c.headers.eraseIdx n).map lower := by
        simpa using hok
      simp only [List.eraseIdx_eq_take_drop_succ] at r1 r3 hv
      have hset : c.headers.set n v = c.headers.take n ++ v :: c.headers.drop (n + 1) := by
        rw [List.set_eq_take_append_cons_drop]; simp [hlt]
      refine ⟨?_, nodup_setAdd _ _ r2, ?_⟩
      · simp only [hset, List.map_append, List.map_cons]
        rw [List.perm_middle.nodup_iff, List.nodup_cons]
        simp only [List.map_append] at r1 hv
        exact ⟨hv, r1⟩
      · intro y
        simp only [hset]
        rw [mem_setAdd, r3 y]
        simp only [List.map_append, List.map_cons, List.mem_append, List.mem_cons]
        exact or_assoc.trans (or_congr_right or_comm)

theorem inv_remove (c : St) (h : Inv c) (x : Str) : Inv (HS.step c (.remove x)).st := by
  simp only [HS.step, HS.remove]
  split
  · exact inv_remove_key c h (lower x)
  · exact h

/-- the operations `hs_inv_preserved` is about: all but an item assignment whose value is a member elsewhere (F08b) -/
def hsOk (c : St) : HS.Op → Bool
  | .setitem i v => setitemOk c i v
  | _ => true

theorem hs_inv_preserved (c : St) (h : Inv c) (op : HS.Op) (hok : hsOk c op = true) :
    Inv (HS.step c op).st := by
  cases op with
  | add x => exact inv_updateLoop c h [x]
  | remove x => exact inv_remove c h x
  -- `discard` leaves the state `remove` leaves: they differ in what they answer for a missing member
  | discard x => exact inv_remove c h x
  | update hs => exact inv_updateLoop c h hs
  | clear => exact inv_empty
  | delitem i => exact inv_delitem c h i
  | setitem i v => exact inv_setitem c h i v hok

theorem delete_of_not_mem (s : List Str) (x : Str) (h : HSSpec.mem s x = false) :
    HSSpec.delete s x = s := by
  unfold HSSpec.delete
  rw [List.filter_eq_self]
  intro y hy
  have : lower y ≠ lower x := by
    intro e
    have : HSSpec.mem s x = true := by
      unfold HSSpec.mem
      rw [List.contains_iff_mem, ← e]
      exact List.mem_map_of_mem hy
    rw [h] at this; exact Bool.noConfusion this
  simp [this]

theorem hs_step_refines (c : St) (h : Inv c) (op : HS.Op) :
    (HS.step c op).st.headers = (HSSpec.step c.headers op).1 ∧
    (HS.step c op).res = (HSSpec.step c.headers op).2 := by
  cases op with
  | add x =>
    have := updateLoop_spec c h [x]
    simp only [HSSpec.insertAll] at this
    exact ⟨this, rfl⟩
  | update hs => exact ⟨updateLoop_spec c h hs, rfl⟩
  | clear => exact ⟨rfl, rfl⟩
  | remove x =>
    simp only [HS.step, HS.remove, HSSpec.step, mem_iff_contains c h]
    cases hc : c.set.contains (lower x) with
    | true => simp only [if_true]; exact ⟨dropFirst_eq_filter _ _ h.nodup_headers, trivial⟩
    | false => exact ⟨rfl, rfl⟩
  | discard x =>
    simp only [HS.step, HS.discard, HS.remove, HSSpec.step]
    cases hc : c.set.contains (lower x) with
    | true => simp only [if_true]; exact ⟨dropFirst_eq_filter _ _ h.nodup_headers, trivial⟩
    | false =>
      simp only [Bool.false_eq_true, if_false]
      have : HSSpec.mem c.headers x = false := by rw [mem_iff_contains c h, hc]
      exact ⟨(delete_of_not_mem _ _ this).symm, trivial⟩
  | delitem i =>
    simp only [HS.step, HS.delitem, HSSpec.step]
    cases hp : pyIdx c.headers.length i with
    | none => exact ⟨rfl, rfl⟩
    | some n =>
      have hlt := pyIdx_lt hp
      have hg : c.headers[n]? = some c.headers[n] := List.getElem?_eq_getElem hlt
      simp only [hg]
      simp only [contains_of_getElem? h hg, if_true]
      refine ⟨?_, ?_⟩ <;> first | rfl | trivial
  | setitem i v =>
    simp only [HS.step, HS.setitem, HSSpec.step]
    cases hp : pyIdx c.headers.length i with
    | none => exact ⟨rfl, rfl⟩
    | some n =>
      have hlt := pyIdx_lt hp
      have hg : c.headers[n]? = some c.headers[n] := List.getElem?_eq_getElem hlt
      simp only [hg]
      simp only [contains_of_getElem? h hg, if_true]
      refine ⟨?_, ?_⟩ <;> first | rfl | trivial

theorem hs_len_eq (c : St) (h : Inv c) : HS.len c = c.headers.length := by
  unfold HS.len
  rw [((List.perm_ext_iff_of_nodup h.nodup_set h.nodup_headers).2 h.mem_set_iff).length_eq, List.length_map]

def hsSpecRun (s : HSSpec.CISet) : List HS.Op → HSSpec.CISet
  | [] => s
  | op :: t => hsSpecRun (HSSpec.step s op).1 t

def hsOkHist (c : St) : List HS.Op → Bool
  | [] => true
  | op :: t => hsOk c op && hsOkHist (HS.step c op).st t

theorem hs_run_refines (c : St) (h : Inv c) (ops : List HS.Op) (hok : hsOkHist c ops = true) :
    Inv (HS.run c ops) ∧ (HS.run c ops).headers = hsSpecRun c.headers ops := by
  induction ops generalizing c with
  | nil => exact ⟨h, rfl⟩
  | cons op t ih =>
    simp only [hsOkHist, Bool.and_eq_true] at hok
    simp only [HS.run, hsSpecRun]
    have := ih _ (hs_inv_preserved c h op hok.1) hok.2
    rw [(hs_step_refines c h op).1] at this
    exact this

theorem foldl_setAdd (l : List Str) (s : List Str) (hs : s.Nodup) :
    (l.foldl (fun s h => setAdd s (lower h)) s).Nodup ∧
    ∀ x, x ∈ l.foldl (fun s h => setAdd s (lower h)) s ↔ x ∈ s ∨ x ∈ l.map lower := by
  induction l generalizing s with
  | nil => simp [hs]
  | cons a t ih =>
    simp only [List.foldl_cons]
    have := ih (setAdd s (lower a)) (nodup_setAdd _ _ hs)
    refine ⟨this.1, ?_⟩
    intro x
    rw [this.2 x, mem_setAdd, List.map_cons, List.mem_cons, or_assoc]

/-- the constructor (as repaired) establishes the invariant for EVERY input -/
theorem hs_construct_inv_any (l : List Str) : Inv (HS.construct l) :=
  inv_updateLoop ⟨[], []⟩ inv_empty l

theorem hs_construct_inv (l : List Str) (_h : (l.map lower).Nodup) : Inv (HS.construct l) :=
  hs_construct_inv_any l

theorem updateLoop_of_nodup (c : St) (l : List Str) (hn : (l.map lower).Nodup)
    (hd : ∀ x ∈ l, lower x ∉ c.set) :
    (updateLoop c l).1 = ⟨c.headers ++ l, c.set ++ l.map lower⟩ := by
  induction l generalizing c with
  | nil => simp [updateLoop]
  | cons x t ih =>
    simp only [List.map_cons, List.nodup_cons] at hn
    have hx : c.set.contains (lower x) = false := by simpa using hd x List.mem_cons_self
    simp only [updateLoop, hx, Bool.false_eq_true, if_false]
    rw [ih ⟨c.headers ++ [x], c.set ++ [lower x]⟩ hn.2 (fun y hy => by
      simp only [List.mem_append, List.mem_singleton, not_or]
      exact ⟨hd y (List.mem_cons_of_mem _ hy), fun e => hn.1 (e ▸ List.mem_map_of_mem hy)⟩)]
    simp

theorem construct_of_nodup (l : List Str) (hn : (l.map lower).Nodup) : HS.construct l = ⟨l, l.map lower⟩ := by
  have := updateLoop_of_nodup ⟨[], []⟩ l hn (by simp)
  simpa [HS.construct] using this

end Wz.C08L
