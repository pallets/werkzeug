/-
`DebuggedApplication.check_pin_trust`, `_fail_pin_auth`, `pin_auth` and `__call__` of `werkzeug.debug`
*as regenerated from the source* by `tools/py2lean.py` (`Gen/PyFns_Debug.lean`, rewritten on every
check run) against the hand-written model of `Model/Debugger.lean` that the C20 theorems are about.

What the request and the collaborators supply enters the translated functions as parameters
(`tools/gen/pyfns.py`: `CHECK_PIN_TRUST`, `FAIL_PIN_AUTH`, `PIN_AUTH`, `DBG_CALL`): the raw value of
the PIN cookie, `hash_pin`, the freshness test `(time.time() - PIN_TIME) < ts`, the verdict of
`check_host_trust`, `request.args["pin"]` (text or KeyError), the query arguments `__debugger__`,
`cmd`, `f`, `s`, whether `frm` names a known frame, `request.path`. This file is the abstraction from
these concrete values to the model's `Dbg.Cookie` / `Dbg.Trust` / `Dbg.Req` / `Dbg.Config` (`classify`,
`trustOf`, `reqOf`, `cfgOf`). That the translated code computes what the model computes is stated in
Props/C20T2.lean; those theorems rest on `check_pin_trust_eq`, `fail_pin_auth_val` / `fail_pin_auth_eq`,
`pin_auth_paths` / `pin_auth_spec` (the translated bodies are unfolded there and nowhere else) and
`debugger_dispatch_eq` (the translated `__call__` answers `handler` of the abstracted request; the model's
side of `handler` is in Lemmas/Debugger.lean).
Behaviour of the running `DebuggedApplication` that the abstraction mirrors: an empty cookie value
gives `False`; a missing `pin` argument raises `BadRequestKeyError` - a `KeyError` - only on the
comparison path and leaves the counter alone; `pin = None` authenticates without AttributeError;
`cmd=resource` with an empty or missing `f`, the right secret, a known frame and a valid cookie
reaches `execute_command`.
-/
import WzVerif.Gen.PyFns_Debug
import WzVerif.Model.Debugger
import WzVerif.Lemmas.PyFns_Prelude
import WzVerif.Lemmas.Debugger
namespace Wz.PyFnsEq.Debug
open Wz Wz.Pre

/-- `True` / `False` / `None` of `check_pin_trust` as the translation's `Option Bool` -/
def trustCode : Dbg.Trust → Option Bool
  | .yes => some true
  | .no => some false
  | .bad => none

/-- the inverse reading: what an answer of `check_pin_trust` means in the model -/
def trustOf : Option Bool → Dbg.Trust
  | some true => .yes
  | some false => .no
  | none => .bad

@[simp] theorem trustOf_trustCode (t : Dbg.Trust) : trustOf (trustCode t) = t := by cases t <;> rfl

@[simp] theorem trustCode_trustOf (t : Option Bool) : trustCode (trustOf t) = t := by
  cases t with
  | none => rfl
  | some b => cases b <;> rfl

/-- The class of the PIN cookie, read off the raw cookie value exactly as `check_pin_trust` reads
it: no cookie is `absent`; an empty value, a value without `|`, or one whose part before the first
`|` is not accepted by `int()` is `malformed`; a value whose part after the first `|` differs from
`hash_pin(self.pin)` is `wrongHash` (with no PIN configured no cookie carries "the right hash"; the
class is not looked at then); otherwise the timestamp decides between `valid` and `expired`
(`fresh ts` = `(time.time() - PIN_TIME) < ts`). -/
def classify (hash_pin : Str → Str) (fresh : Int → Bool) (cookie : Option Str) (pin : Option Str) :
    Dbg.Cookie :=
  match cookie with
  | none => .absent
  | some val =>
    if val.isEmpty || !(val.contains '|') then .malformed
    else
      match Http.pyInt (val.takeWhile (· != '|')) with
      | .error _ => .malformed
      | .ok ts =>
        if some ((val.dropWhile (· != '|')).drop 1) == pin.map hash_pin then
          (if fresh ts then .valid else .expired)
        else .wrongHash

/-- An empty cookie value (`not val`) is classified `malformed` - it has no `|` -, which
`checkPinTrust` answers like `absent` (`False`): the `not val` test of the code is subsumed by
`"|" not in val`. -/
theorem classify_empty (hash_pin : Str → Str) (fresh : Int → Bool) (pin : Option Str) :
    classify hash_pin fresh (some []) pin = .malformed := rfl

theorem check_pin_trust_eq (hash_pin : Str → Str) (fresh : Int → Bool) (cookie pin : Option Str) :
    Gen.PyFns_Debug.check_pin_trust hash_pin fresh cookie pin ()
      = .ok (trustCode (Dbg.checkPinTrust pin.isSome (classify hash_pin fresh cookie pin))) := by
  unfold Gen.PyFns_Debug.check_pin_trust
  cases pin with
  | none => rfl
  | some p =>
    cases cookie with
    | none => rfl
    | some val =>
      simp only [contains_singleton, classify]
      by_cases hm : '|' ∈ val
      · have hc : val.contains '|' = true := by simpa using hm
        simp only [hc, Pre.splitOnce_singleton_mem val '|' hm]
        by_cases he : val.isEmpty = true
        · simp [he, Dbg.checkPinTrust, trustCode]
        · cases hp : Http.pyInt (val.takeWhile (· != '|')) with
          | error e => simp [he, Dbg.checkPinTrust, trustCode]
          | ok ts =>
            generalize (val.dropWhile (· != '|')).drop 1 = rest
            by_cases hh : rest = hash_pin p <;>
              cases hf : fresh ts <;> simp [he, hh, hf, Dbg.checkPinTrust, trustCode]
      · simp [hm, Dbg.checkPinTrust, trustCode]

/-- the `multiprocessing.Value("B")` counter (an `Int` in the translation) as the model's byte -/
def byte (c : Int) : UInt8 := UInt8.ofNat c.toNat

theorem byte_toNat (c : Int) (h0 : 0 ≤ c) (h1 : c ≤ 255) : ((byte c).toNat : Int) = c := by
  simp [byte, UInt8.toNat_ofNat']; omega

theorem byte_gt_ten (c : Int) (h0 : 0 ≤ c) (h1 : c ≤ 255) : (byte c > 10) ↔ c > 10 := by
  rw [Dbg.gt_ten_iff]
  have := byte_toNat c h0 h1
  omega

/-- `_fail_pin_auth` for every counter value: the body of the translation, read once -/
theorem fail_pin_auth_val (c : Int) (s l : Bool) :
    Gen.PyFns_Debug.fail_pin_auth c s l = (if c < 255 then c + 1 else c, true, decide (c > 5)) := by
  unfold Gen.PyFns_Debug.fail_pin_auth
  by_cases h : c < 255 <;> simp [h]

theorem fail_pin_auth_eq (c : Int) (s l : Bool) (h0 : 0 ≤ c) (h1 : c ≤ 255) :
    Gen.PyFns_Debug.fail_pin_auth c s l
      = (((Dbg.failPinAuth (byte c)).toNat : Int), true, decide (c > 5)) := by
  have hb := byte_toNat c h0 h1
  have := Dbg.failPinAuth_toNat (byte c)
  rw [fail_pin_auth_val]
  congr 1
  split <;> omega

/-- the counter component alone, with `byte c` spelled out -/
theorem fail_pin_auth_counter (c : Int) (s l : Bool) (h0 : 0 ≤ c) (h1 : c ≤ 255) :
    (Gen.PyFns_Debug.fail_pin_auth c s l).1
      = ((Dbg.failPinAuth (UInt8.ofNat c.toNat)).toNat : Int) := by
  rw [fail_pin_auth_eq c s l h0 h1]; rfl

/-- `entered_pin.strip().replace("-", "") == pin.replace("-", "")`, as the code computes it -/
def pinRight (text pin : Str) : Bool :=
  Pre.replace (Pre.strip text) ['-'] [] == Pre.replace pin ['-'] []

/-- the same with the `self.pin` attribute (`None`: nothing matches; that path is unreachable, see
`pin_request_no_attribute_error`) -/
def pinRightOpt (text : Str) : Option Str → Bool
  | some p => pinRight text p
  | none => false

/-- the third component of the translated answer: 1 = `set_cookie`, 2 = `delete_cookie`,
0 = cookie untouched -/
def cookieAction (auth : Bool) (t : Dbg.Trust) : Int :=
  if auth then 1 else if t = .bad then 2 else 0

/-- the request is counted as a failure (and delayed): a stale cookie, or a wrong PIN while not
locked out -/
def penalised (failed : Int) (t : Dbg.Trust) (right : Bool) : Bool :=
  match t with
  | .bad => true
  | .yes => false
  | .no => !(decide (failed > 10)) && !right

/-- what the model says `pin_auth` does after a passed Host check: the JSON answer and new counter
of `Dbg.pinAuth` (= `pinAuthWith failPinAuth`), the cookie action, and the two sleep flags -/
def pinAuthSpec (trust : Dbg.Trust) (right : Bool) (failed : Int) (s l : Bool) :
    (Int × Bool × Bool) × Except String (Option (Bool × Bool × Int)) :=
  let m := Dbg.pinAuth (byte failed) trust right
  let pen := penalised failed trust right
  (((m.2.toNat : Int), (if pen then true else s), (if pen then decide (failed > 5) else l)),
    .ok (some (m.1.auth, m.1.exhausted, cookieAction m.1.auth trust)))

/-- `pin_auth` as the request runs it: the trust verdict is what `check_pin_trust` answers for the
same request and the same `self.pin` (an exception of `check_pin_trust` would propagate; there is
none, `check_pin_trust_eq`) -/
def pinRequest (hash_pin : Str → Str) (fresh : Int → Bool) (cookie : Option Str)
    (host_trusted : Bool) (entered : Except String Str) (pin : Option Str) (failed : Int)
    (s l : Bool) : (Int × Bool × Bool) × Except String (Option (Bool × Bool × Int)) :=
  match Gen.PyFns_Debug.check_pin_trust hash_pin fresh cookie pin () with
  | .ok trust => Gen.PyFns_Debug.pin_auth host_trusted trust entered pin failed s l ()
  | .error e => ((failed, s, l), .error e)

theorem pinRequest_eq (hash_pin : Str → Str) (fresh : Int → Bool) (cookie : Option Str) (ht : Bool)
    (entered : Except String Str) (pin : Option Str) (failed : Int) (s l : Bool) :
    pinRequest hash_pin fresh cookie ht entered pin failed s l =
      Gen.PyFns_Debug.pin_auth ht (trustCode (Dbg.checkPinTrust pin.isSome (classify hash_pin fresh cookie pin)))
        entered pin failed s l () := by
  unfold pinRequest
  rw [check_pin_trust_eq]

/-- the `cmd` query argument as the model's `Cmd` -/
def cmdOf : Option Str → Dbg.Cmd
  | none => .none
  | some c =>
    if c = ['r', 'e', 's', 'o', 'u', 'r', 'c', 'e'] then .resource
    else if c = ['p', 'i', 'n', 'a', 'u', 't', 'h'] then .pinauth
    else if c = ['p', 'r', 'i', 'n', 't', 'p', 'i', 'n'] then .printpin
    else .other

/-- the `s` query argument against `self.secret` -/
def secretOf (arg_s : Option Str) (secret : Str) : Dbg.Secret :=
  match arg_s with
  | none => .absent
  | some s => if s = secret then .right else .wrong

/-- the `f` query argument is present and non-empty (`and arg`) -/
def hasArgOf : Option Str → Bool
  | none => false
  | some a => !a.isEmpty

/-- The model's request for the concrete values `__call__` reads: `__debugger__ == "yes"`, the
class of `cmd`, the truthiness of `f`, `s` against `self.secret`, whether `frm` names a known
frame, `request.path == self.console_path`; plus the three fields only the handlers read (the Host
verdict, the cookie class, whether the entered PIN is right). -/
def reqOf (arg_debugger arg_cmd arg_f arg_s : Option Str) (frame_known : Bool)
    (request_path secret : Str) (console_path : Option Str)
    (hostTrusted : Bool) (cookie : Dbg.Cookie) (pinRight : Bool) : Dbg.Req :=
  { debugger := arg_debugger == some ['y', 'e', 's'],
    cmd := cmdOf arg_cmd,
    hasArg := hasArgOf arg_f,
    secret := secretOf arg_s secret,
    frameKnown := frame_known,
    hostTrusted := hostTrusted,
    cookie := cookie,
    pinRight := pinRight,
    atConsole := console_path == some request_path }

/-- The model's configuration for the attributes `__call__` and the handlers read: `self.evalex`,
`self.pin is not None`, `self.console_path is not None`, `self.pin_logging`. -/
def cfgOf (evalex pinOn : Bool) (console_path : Option Str) (pinLogging : Bool) : Dbg.Config :=
  { evalex := evalex, pinOn := pinOn, consoleOn := console_path.isSome, pinLogging := pinLogging }

theorem any_trustCode (t : Dbg.Trust) : Option.any (fun v => v) (trustCode t) = t.isYes := by
  cases t <;> rfl

theorem cmdOf_cases (ac : Option Str) :
    (ac = none ∧ cmdOf ac = .none)
    ∨ (ac = some ['r', 'e', 's', 'o', 'u', 'r', 'c', 'e'] ∧ cmdOf ac = .resource)
    ∨ (ac = some ['p', 'i', 'n', 'a', 'u', 't', 'h'] ∧ cmdOf ac = .pinauth)
    ∨ (ac = some ['p', 'r', 'i', 'n', 't', 'p', 'i', 'n'] ∧ cmdOf ac = .printpin)
    ∨ (∃ c, ac = some c ∧ c ≠ ['r', 'e', 's', 'o', 'u', 'r', 'c', 'e']
        ∧ c ≠ ['p', 'i', 'n', 'a', 'u', 't', 'h'] ∧ c ≠ ['p', 'r', 'i', 'n', 't', 'p', 'i', 'n']
        ∧ cmdOf ac = .other) := by
  cases ac with
  | none => exact .inl ⟨rfl, rfl⟩
  | some c =>
    by_cases h1 : c = ['r', 'e', 's', 'o', 'u', 'r', 'c', 'e']
    · subst h1; exact .inr (.inl ⟨rfl, rfl⟩)
    · by_cases h2 : c = ['p', 'i', 'n', 'a', 'u', 't', 'h']
      · subst h2; exact .inr (.inr (.inl ⟨rfl, rfl⟩))
      · by_cases h3 : c = ['p', 'r', 'i', 'n', 't', 'p', 'i', 'n']
        · subst h3; exact .inr (.inr (.inr (.inl ⟨rfl, rfl⟩)))
        · exact .inr (.inr (.inr (.inr ⟨c, rfl, h1, h2, h3, by simp [cmdOf, h1, h2, h3]⟩)))

theorem secret_isRight (arg_s : Option Str) (secret : Str) :
    (secretOf arg_s secret).isRight = (arg_s == some secret) := by
  cases arg_s with
  | none => rfl
  | some s => by_cases h : s = secret <;> simp [secretOf, Dbg.Secret.isRight, h]

theorem debugger_dispatch_eq (ad ac af as : Option Str) (fk : Bool) (pin_trust : Option Bool)
    (path secret : Str) (evalex : Bool) (cp : Option Str)
    (pinOn pinLogging hostTrusted pinRight : Bool) (cookie : Dbg.Cookie)
    (hpt : pin_trust = trustCode (Dbg.checkPinTrust pinOn cookie)) :
    Gen.PyFns_Debug.debugger_dispatch ad ac af as fk pin_trust path secret evalex cp () ()
      = ((handler (cfgOf evalex pinOn cp pinLogging)
          (reqOf ad ac af as fk path secret cp hostTrusted cookie pinRight) : Nat) : Int) := by
  -- the three command names become variables (only their distinctness matters): with the literals
  -- in place every `simp` below compares character lists
  subst hpt
  unfold Gen.PyFns_Debug.debugger_dispatch handler
  dsimp only [reqOf, cfgOf, Dbg.evalCond, cmdOf]
  simp only [secret_isRight, any_trustCode]
  have h1 : ['r', 'e', 's', 'o', 'u', 'r', 'c', 'e'] ≠ ['p', 'i', 'n', 'a', 'u', 't', 'h'] := by decide
  have h2 : ['r', 'e', 's', 'o', 'u', 'r', 'c', 'e'] ≠ ['p', 'r', 'i', 'n', 't', 'p', 'i', 'n'] := by decide
  have h3 : ['p', 'i', 'n', 'a', 'u', 't', 'h'] ≠ ['p', 'r', 'i', 'n', 't', 'p', 'i', 'n'] := by decide
  generalize ['r', 'e', 's', 'o', 'u', 'r', 'c', 'e'] = R at *
  generalize ['p', 'i', 'n', 'a', 'u', 't', 'h'] = P at *
  generalize ['p', 'r', 'i', 'n', 't', 'p', 'i', 'n'] = Q at *
  rw [show (some secret == as) = (as == some secret) from BEq.comm]
  generalize (as == some secret) = s
  generalize (Dbg.checkPinTrust pinOn cookie).isYes = y
  by_cases hd : ad = some ['y', 'e', 's']
  · subst hd
    rcases ac with _ | c
    · rcases af with _ | a <;> cases fk <;> cases s <;> simp [Dbg.Cmd.isSome]
    · by_cases hR : c = R
      · subst hR
        rcases af with _ | _ | ⟨x, t⟩ <;> cases fk <;> cases s <;>
          simp [hasArgOf, Dbg.Cmd.isSome, apply_ite (Nat.cast : Nat → Int), h1, h2]
      · by_cases hP : c = P
        · subst hP
          rcases af with _ | a <;> cases fk <;> cases s <;>
            simp [hasArgOf, Dbg.Cmd.isSome, hR]
        · by_cases hQ : c = Q
          · subst hQ
            rcases af with _ | a <;> cases fk <;> cases s <;>
              simp [hasArgOf, Dbg.Cmd.isSome, hR, hP]
          · rcases af with _ | a <;> cases fk <;> cases s <;>
              simp [hasArgOf, Dbg.Cmd.isSome, apply_ite (Nat.cast : Nat → Int), hR, hP, hQ]
  · cases cp with
    | none => simp [hd]
    | some p =>
      by_cases hp : path = p
      · subst hp; simp [hd, apply_ite (Nat.cast : Nat → Int)]
      · have hp' : ¬ p = path := fun h => hp h.symm
        simp [hd, hp, hp']

/-- the translated `__call__` answers code `k` iff the model selects handler `k`, for whatever the handlers go
on to read (`pinLogging`, the Host verdict, the PIN comparison) -/
theorem debugger_dispatch_eq_iff {ad ac af as : Option Str} {fk : Bool} {pin_trust : Option Bool}
    {path secret : Str} {evalex : Bool} {cp : Option Str} {pinOn : Bool} {cookie : Dbg.Cookie}
    (hpt : pin_trust = trustCode (Dbg.checkPinTrust pinOn cookie)) (k : Nat)
    (pinLogging hostTrusted pinRight : Bool) :
    Gen.PyFns_Debug.debugger_dispatch ad ac af as fk pin_trust path secret evalex cp () () = (k : Int) ↔
    handler (cfgOf evalex pinOn cp pinLogging)
      (reqOf ad ac af as fk path secret cp hostTrusted cookie pinRight) = k := by
  rw [debugger_dispatch_eq ad ac af as fk pin_trust path secret evalex cp pinOn pinLogging hostTrusted
    pinRight cookie hpt, Int.ofNat_inj]

/-- `pin_auth` without the translator's duplicated tails and dead flags: the paths of the source (its two exception exits
included), for every input. The one place where the translated body is unfolded. -/
theorem pin_auth_paths (ht : Bool) (trust : Option Bool) (entered : Except String Str) (pin : Option Str)
    (failed : Int) (s l : Bool) :
    Gen.PyFns_Debug.pin_auth ht trust entered pin failed s l () =
      if ht = false then ((failed, s, l), .ok none) else
      match trust with
      | none => (Gen.PyFns_Debug.fail_pin_auth failed s l, .ok (some (false, false, 2)))
      | some true => ((failed, s, l), .ok (some (true, false, 1)))
      | some false =>
        if failed > 10 then ((failed, s, l), .ok (some (false, true, 0))) else
        match entered, pin with
        | .error e, _ => ((failed, s, l), .error e)
        | .ok _, none => ((failed, s, l), .error "AttributeError")
        | .ok text, some p =>
          if pinRight text p then ((0, s, l), .ok (some (true, false, 1)))
          else (Gen.PyFns_Debug.fail_pin_auth failed s l, .ok (some (false, false, 0))) := by
  unfold Gen.PyFns_Debug.pin_auth
  rcases ht with _ | _
  · rfl
  rcases trust with _ | _ | _
  · rfl
  · by_cases h10 : failed > 10
    · simp [h10, Gen.PyFns_Debug.pinResponse]
    · rcases entered with e | text
      · simp [h10]
      · rcases pin with _ | p
        · simp [h10]
        · by_cases hr : pinRight text p = true <;> have hr' := hr <;> unfold pinRight at hr' <;>
            simp [h10, hr, hr', Gen.PyFns_Debug.pinResponse]
  · rfl

/-- `pin_auth` after a passed Host check, with a present `pin` argument, for every `self.pin`: the model's
answer, except that on the comparison path a missing PIN is an AttributeError -/
theorem pin_auth_spec (trust : Option Bool) (text : Str) (pin : Option Str) (failed : Int) (s l : Bool)
    (h0 : 0 ≤ failed) (h1 : failed ≤ 255) :
    Gen.PyFns_Debug.pin_auth true trust (.ok text) pin failed s l ()
      = if trust = some false ∧ failed ≤ 10 ∧ pin = none then ((failed, s, l), .error "AttributeError")
        else pinAuthSpec (trustOf trust) (pinRightOpt text pin) failed s l := by
  have hf := fail_pin_auth_eq failed s l h0 h1
  have hb := byte_toNat failed h0 h1
  have hg := byte_gt_ten failed h0 h1
  rw [pin_auth_paths, hf]
  unfold pinAuthSpec
  rcases trust with _ | _ | _
  · simp [trustOf, Dbg.pinAuth, Dbg.pinAuthWith, penalised, cookieAction]
  · by_cases h10 : failed > 10
    · simp [h10, Int.not_le.mpr h10, hg.mpr h10, hb, trustOf, Dbg.pinAuth, Dbg.pinAuthWith, penalised, cookieAction]
    · have hg' : ¬ byte failed > 10 := fun h => h10 (hg.mp h)
      rcases pin with _ | p
      · simp [h10, Int.not_lt.mp h10]
      · by_cases hr : pinRight text p = true <;>
          simp [h10, hg', hr, trustOf, pinRightOpt, Dbg.pinAuth, Dbg.pinAuthWith, penalised, cookieAction]
  · simp [hb, trustOf, Dbg.pinAuth, Dbg.pinAuthWith, penalised, cookieAction]

/-- a cookie class that makes `check_pin_trust` (with a PIN configured) give a chosen verdict -/
def cookieOfTrust : Option Bool → Dbg.Cookie
  | some true => .valid
  | some false => .absent
  | none => .wrongHash

theorem trustCode_cookieOfTrust (t : Option Bool) :
    trustCode (Dbg.checkPinTrust true (cookieOfTrust t)) = t := by
  cases t with
  | none => rfl
  | some b => cases b <;> rfl

/-- `debugger_dispatch_eq_iff` for an arbitrary trust verdict (every verdict is the verdict of some cookie when a
PIN is configured) -/
theorem debugger_dispatch_eq_iff_of_trust {ad ac af as : Option Str} {fk : Bool} {pin_trust : Option Bool}
    {path secret : Str} {evalex : Bool} {cp : Option Str} (k : Nat) :
    Gen.PyFns_Debug.debugger_dispatch ad ac af as fk pin_trust path secret evalex cp () () = (k : Int) ↔
    handler (cfgOf evalex true cp true)
      (reqOf ad ac af as fk path secret cp true (cookieOfTrust pin_trust) true) = k :=
  debugger_dispatch_eq_iff (trustCode_cookieOfTrust pin_trust).symm k true true true

theorem isYes_cookieOfTrust (t : Option Bool) :
    (Dbg.checkPinTrust true (cookieOfTrust t)).isYes = (t == some true) := by
  cases t with
  | none => rfl
  | some b => cases b <;> rfl

theorem cmdOf_eq_resource (ac : Option Str) :
    cmdOf ac = .resource ↔ ac = some ['r', 'e', 's', 'o', 'u', 'r', 'c', 'e'] := by
  rcases cmdOf_cases ac with ⟨rfl, hc⟩ | ⟨rfl, hc⟩ | ⟨rfl, hc⟩ | ⟨rfl, hc⟩ | ⟨c, rfl, h1, h2, h3, hc⟩ <;>
    simp [*]

theorem cmdOf_eq_pinauth (ac : Option Str) :
    cmdOf ac = .pinauth ↔ ac = some ['p', 'i', 'n', 'a', 'u', 't', 'h'] := by
  rcases cmdOf_cases ac with ⟨rfl, hc⟩ | ⟨rfl, hc⟩ | ⟨rfl, hc⟩ | ⟨rfl, hc⟩ | ⟨c, rfl, h1, h2, h3, hc⟩ <;>
    simp [*]

theorem cmdOf_eq_printpin (ac : Option Str) :
    cmdOf ac = .printpin ↔ ac = some ['p', 'r', 'i', 'n', 't', 'p', 'i', 'n'] := by
  rcases cmdOf_cases ac with ⟨rfl, hc⟩ | ⟨rfl, hc⟩ | ⟨rfl, hc⟩ | ⟨rfl, hc⟩ | ⟨c, rfl, h1, h2, h3, hc⟩ <;>
    simp [*]

theorem cmdOf_isSome (ac : Option Str) : (cmdOf ac).isSome = ac.isSome := by
  rcases cmdOf_cases ac with ⟨rfl, hc⟩ | ⟨rfl, hc⟩ | ⟨rfl, hc⟩ | ⟨rfl, hc⟩ | ⟨c, rfl, h1, h2, h3, hc⟩ <;>
    simp [hc, Dbg.Cmd.isSome]

theorem secretOf_eq_right (arg_s : Option Str) (secret : Str) :
    secretOf arg_s secret = .right ↔ arg_s = some secret := by
  cases arg_s with
  | none => simp [secretOf]
  | some s => by_cases h : s = secret <;> simp [secretOf, h]

/-- the answer of the translated `pin_auth` as an outcome of the model (`none`: an exception) -/
def pinAnswerOutcome : Except String (Option (Bool × Bool × Int)) → Option Dbg.Outcome
  | .ok none => some .securityError
  | .ok (some (a, e, _)) => some (.pinauth ⟨a, e⟩)
  | .error _ => none

example : Gen.PyFns_Debug.check_pin_trust id (fun ts => decide (5 < ts)) (some "17|abc".toList)
    (some "abc".toList) () = .ok (some true) := by
  rw [String.toList_ofList, String.toList_ofList]
  decide +kernel
example : Gen.PyFns_Debug.check_pin_trust id (fun ts => decide (5 < ts)) (some "17|abd".toList)
    (some "abc".toList) () = .ok none := by
  rw [String.toList_ofList, String.toList_ofList]
  decide +kernel
example : Gen.PyFns_Debug.check_pin_trust id (fun ts => decide (5 < ts)) (some [])
    (some "abc".toList) () = .ok (some false) := by
  rw [String.toList_ofList]
  decide +kernel
example : Gen.PyFns_Debug.fail_pin_auth 255 false false = (255, true, true) := by decide
example : Gen.PyFns_Debug.pin_auth true (some false) (.ok " 123-456 ".toList) (some "123456".toList)
    7 false false () = ((0, false, false), .ok (some (true, false, 1))) := by
  rw [String.toList_ofList, String.toList_ofList]
  decide +kernel
example : Gen.PyFns_Debug.pin_auth true (some false) (.ok "123-456".toList) (some "123456".toList)
    11 false false () = ((11, false, false), .ok (some (false, true, 0))) := by
  rw [String.toList_ofList, String.toList_ofList]
  decide +kernel
example : Gen.PyFns_Debug.debugger_dispatch (some "yes".toList) (some "1+1".toList) none
    (some "S".toList) true (some true) "/".toList "S".toList true (some "/console".toList) () () = 4 := by
  rw [String.toList_ofList, String.toList_ofList, String.toList_ofList, String.toList_ofList, String.toList_ofList]
  decide +kernel

end Wz.PyFnsEq.Debug
