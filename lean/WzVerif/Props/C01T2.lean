/-
C01T2 — C01T continued: `MultipartDecoder._parse_data`, `_parse_headers` and `next_event` *as regenerated
from the source* by `tools/py2lean.py` (`Gen/PyFns_Decoder.lean`, rewritten on every check run) equal the
hand-written model the C01 (and C10) theorems are about (`Model/Multipart.lean`: `parseData`,
`parseHeaders`, `nextEvent`), for every decoder state and buffer. The regex calls go through the
model's hand-written matchers (`lbLen`, `searchDelim`, `searchDelimFrom`, `searchBlankFrom`: glue at the
top of the generated file; compared with the live regexes by stream regex-kernels), `parse_options_header`
is a parameter instantiated with `FormOptions.parseOptionsHeader`. `next_event_eq` is one equality for
every decoder: the returned event / exception is the model's, the four attributes the method assigns
(`buffer`, `state`, `_search_position`, `_parts_decoded`) are the model's after a return, and after a
raise the values assigned before the `raise` (`raisedSt`, replayed on the real code).
-/
import WzVerif.Lemmas.PyFnsEq_Decoder
import WzVerif.Props.C01T
namespace Wz.Props.C01T2
open Wz Wz.Multipart Wz.Gen.PyFns_Decoder Wz.PyFnsEq.Decoder

/-- the model's `nextEvent` changes nothing but buffer, state, search position and part counter:
boundary, `complete` and the two limits of the returned decoder are those of the given one -/
theorem nextEvent_frame {d d' : Decoder} {ev : Event} (h : nextEvent d = .ok (ev, d')) :
    d'.boundary = d.boundary ∧ d'.complete = d.complete ∧ d'.maxMem = d.maxMem ∧ d'.maxParts = d.maxParts := by
  have h := step_ok (nextEvent_ok h)
  exact ⟨h.config.boundary, h.complete, h.config.maxMem, h.config.maxParts⟩

/-- `MultipartDecoder._parse_data(data, start=…)` as translated from the current source, for any
`data` and any `self.buffer`: `AttributeError` when `start` and `data` does not begin with a line
break (`LINE_BREAK_RE.match` returned `None`); otherwise the payload is `data[data_start:data_end]`,
`del_index` and `more_data` are as `dataCutG` computes them (`self.buffer` is only asked whether it
contains `--boundary`), and `self.state` becomes EPILOGUE / PART exactly when `boundary_re` matched
(closing / not closing delimiter) and is left alone otherwise. -/
theorem parse_data_general (st : State) (bnd data buf : Bytes) (start : Bool) :
    parse_data st data start bnd buf =
      if start && lbLen data == 0 then (st, .error "AttributeError")
      else
        ((match (dataCutG bnd data buf).2.2 with | some f => afterDelim f | none => st),
          .ok (((data.take (dataCutG bnd data buf).1).drop (if start then lbLen data else 0)),
            ((dataCutG bnd data buf).2.1 : Int), (dataCutG bnd data buf).2.2.isNone)) := by
  have hiff : ((bnd.length : Int) + 1 + 1 + 1 < (data.length : Int) - (lastNewline data : Int)) ↔
      (bnd.length + 1 + 1 + 1 < data.length - lastNewline data) := by omega
  unfold parse_data dataCutG
  simp only [find_neg_one, Props.C01T.last_newline_eq, lineBreakReMatch, boundaryReSearch, mpEnd, mpClosing]
  cases start
  · simp
    cases hc : containsSub (45 :: 45 :: bnd) buf
    · by_cases hl : bnd.length + 1 + 1 + 1 < data.length - lastNewline data
      · simp [hl, hiff.mpr hl, slice_zero_nat]
      · simp [hl, mt hiff.mp hl, slice_zero_nat]
    · cases hs : searchDelim bnd false data with
      | none => simp [slice_zero_nat]
      | some r =>
        rcases r with ⟨s, e, f⟩
        cases f <;> simp [slice_zero_nat, afterDelim]
  · simp
    by_cases hlb : 0 < lbLen data
    · have hne : ¬ (lbLen data = 0) := by omega
      simp [hlb, hne]
      cases hc : containsSub (45 :: 45 :: bnd) buf
      · by_cases hl : bnd.length + 1 + 1 + 1 < data.length - lastNewline data
        · simp [hl, hiff.mpr hl, Pre.slice_nat]
        · simp [hl, mt hiff.mp hl, Pre.slice_nat]
      · cases hs : searchDelim bnd false data with
        | none => simp [Pre.slice_nat]
        | some r =>
          rcases r with ⟨s, e, f⟩
          cases f <;> simp [Pre.slice_nat, afterDelim]
    · have he : lbLen data = 0 := by omega
      simp [he]

/-- `MultipartDecoder._parse_data(self.buffer, start=…)` as translated from the current source (the
way `next_event` calls it: `data` is `self.buffer`) is the model's `parseData`: the same exception,
or the same payload, `del_index` and `more_data` (`more_data` = no delimiter recognised), and
`self.state` is assigned EPILOGUE / PART exactly when the model reports a closing / non-closing
delimiter and keeps its value otherwise. -/
theorem parse_data_eq (st : State) (bnd buf : Bytes) (start : Bool) :
    parse_data st buf start bnd buf =
      match parseData bnd buf start with
      | .error e => (st, .error e)
      | .ok r => ((match r.next with | some f => afterDelim f | none => st),
                  .ok (r.payload, (r.delIndex : Int), r.next.isNone)) := by
  rw [parse_data_general, dataCutG_self]
  unfold parseData
  by_cases h : (start && lbLen buf == 0) = true
  · have h' : (start && (if start = true then lbLen buf else 0) == 0) = true := by
      cases start <;> simp_all
    simp [h, h']
  · have h' : ¬ (start && (if start = true then lbLen buf else 0) == 0) = true := by
      cases start <;> simp_all
    simp [h, h']

/-- the `for line in data.splitlines():` loop of `_parse_headers`, started with the headers `acc`
collected so far: it returns from inside the loop with `UnicodeDecodeError` exactly when the model's
fold over the stripped non-empty lines fails, and otherwise runs to its end having appended the
model's `(name, value)` pairs to `acc` in order -/
theorem parse_headers_loop_eq (L : List Bytes) (acc : Headers) :
    parse_headers.loop1 L acc =
      match ((L.map stripBytes).filter (!·.isEmpty)).foldr hdrStep (.ok []) with
      | .error _ => .ret (.error "UnicodeDecodeError")
      | .ok hs => .fall (acc ++ hs) := by
  induction L generalizing acc with
  | nil => simp [parse_headers.loop1]
  | cons line rest ih =>
    unfold parse_headers.loop1
    cases hl : stripBytes line with
    | nil => simp [hl, ih]
    | cons x t =>
      simp only [List.map_cons, hl]
      simp [decodeUtf8Strict]
      cases hd : utf8Dec? (x :: t) with
      | none => simp [hdrStep_none _ hd]
      | some s =>
        simp only [ih]
        cases ht : (((rest.map stripBytes).filter (!·.isEmpty)).foldr hdrStep (.ok [])) with
        | error e' => simp [hdrStep_error _ hd]
        | ok hs =>
          simp [hdrStep_ok _ hd, (partition_colon s).1, (partition_colon s).2, strip_eq]

/-- `MultipartDecoder._parse_headers(data)` as translated from the current source is the model's
`parseHeaders data` for every byte string: the continuation lines are folded, every line is stripped,
empty lines are skipped, a line that is not UTF-8 raises `UnicodeDecodeError`, and otherwise the
headers are the stripped texts before and after the first `:` of every line, in order. -/
theorem parse_headers_eq (data : Bytes) : parse_headers data = parseHeaders data := by
  unfold parse_headers
  simp only [parse_headers_loop_eq, parseHeaders_unfold, List.nil_append, id]
  cases h : (((splitLines (foldContinuations data)).map stripBytes).filter (!·.isEmpty)).foldr hdrStep (.ok []) with
  | error e => simp [hdrFold_error _ _ h]
  | ok hs => simp

/-- `next_event()` in state PREAMBLE: when `preamble_re` matches from `_search_position` on, the
Preamble event, the deletion up to the end of the match, the new state and `_search_position = 0`
are the model's; when it does not match, `_search_position` becomes the model's `nextSearchPos`
(the `max` / `rfind` / `min` computation) and the call returns NEED_DATA, or raises `ValueError`
when the input is complete. -/
theorem next_event_preamble (d : Decoder) (hs : d.state = .preamble) :
    nextEventT d = view d (nextEvent d) := by
  apply PyFnsEq.Decoder.next_event_preamble <;> assumption

/-- `next_event()` in state PART: without a blank line only `_search_position` moves; with one, the
exceptions come in the model's order (`_parse_headers`, missing Content-Disposition,
`parse_options_header`, `RequestEntityTooLarge` for too many parts), and otherwise the Field / File
event, the deletion of the header block, state DATA_START, `_search_position = 0` and the part
counter are the model's. -/
theorem next_event_part (d : Decoder) (hs : d.state = .part) :
    nextEventT d = view d (nextEvent d) := by
  rcases d with ⟨bnd, buf, st, cpl, sp, pd, mm, mp⟩
  simp only at hs
  subst hs
  unfold nextEventT next_event nextEvent step
  simp only [isNeedData, beq_iff_eq, reduceCtorEq, ↓reduceIte, blankLineReSearch, Int.toNat_natCast]
  cases h : searchBlankFrom sp buf with
  | none =>
    cases cpl <;> simp [view, raisedSt, toSt, h, max_zero_sub1]
  | some r =>
    rcases r with ⟨s, e⟩
    simp only [parse_headers_eq, Pre.slice_none_nat, mpEnd, Option.map_some]
    cases hh : parseHeaders (List.take s buf) with
    | error err => simp only [view, raisedSt, toSt, h, hh]
    | ok headers =>
      simp only [headersHas, headersGetD, view, raisedSt, toSt, h, hh, cdKey, nameKey, filenameKey,
        fdiv_two_nat, setSlice_del_prefix _ _ (Int.natCast_nonneg _), Int.toNat_natCast, lookup_eq_dictGet?]
      generalize ['c', 'o', 'n', 't', 'e', 'n', 't', '-', 'd', 'i', 's', 'p', 'o', 's', 'i', 't', 'i', 'o', 'n'] = kcd
      generalize ['f', 'i', 'l', 'e', 'n', 'a', 'm', 'e'] = kf
      generalize ['n', 'a', 'm', 'e'] = kn
      cases hcd : headerGet kcd headers with
      | none => simp
      | some cd =>
        simp only [Option.isSome_some, Option.getD_some]
        cases hpo : FormOptions.parseOptionsHeader cd with
        | error err => simp
        | ok r =>
          rcases r with ⟨v, extra⟩
          simp only []
          cases mp with
          | none => cases hf : FormOptions.lookup kf extra <;> cases cpl <;> simp
          | some m =>
            have hiff : ((m : Int) < (pd : Int) + 1) ↔ (m < pd + 1) := by omega
            by_cases hlt : m < pd + 1
            · cases hf : FormOptions.lookup kf extra <;> simp [hlt, hiff.mpr hlt]
            · cases hf : FormOptions.lookup kf extra <;> cases cpl <;> simp [hlt, mt hiff.mp hlt]

/-- `next_event()` in state DATA_START: `_parse_data(self.buffer, start=True)`; nothing is consumed
and NEED_DATA is answered while `del_index == 0` (then no delimiter was recognised, so `self.state`
is untouched); otherwise the Data event, the deletion and the new state (DATA, or the state
`_parse_data` assigned) are the model's. -/
theorem next_event_dataStart (d : Decoder) (hs : d.state = .dataStart) :
    nextEventT d = view d (nextEvent d) := by
  rcases d with ⟨bnd, buf, st, cpl, sp, pd, mm, mp⟩
  simp only at hs
  subst hs
  unfold nextEventT next_event nextEvent step stepData dataStep
  simp only [isNeedData, beq_iff_eq, reduceCtorEq, ↓reduceIte, parse_data_eq]
  cases hp : parseData bnd buf true with
  | error err => simp [view, raisedSt, toSt]
  | ok r =>
    by_cases hz : r.delIndex = 0
    · have hn : r.next = none := by
        cases hn : r.next with
        | none => rfl
        | some f => have := parseData_next_some hp hn; omega
      cases cpl <;> simp [hz, hn, view, raisedSt, toSt]
    · have hpos : 0 < r.delIndex := by omega
      cases hn : r.next <;> cases cpl <;>
        simp [hz, hpos, hn, view, toSt, setSlice_del_prefix _ _ (Int.natCast_nonneg _)]

/-- `next_event()` in state DATA: `_parse_data(self.buffer, start=False)`, the deletion of
`del_index` bytes, a Data event unless the payload is empty and more data is expected, and the state
`_parse_data` assigned (or DATA) - all as in the model. -/
theorem next_event_data (d : Decoder) (hs : d.state = .data) :
    nextEventT d = view d (nextEvent d) := by
  rcases d with ⟨bnd, buf, st, cpl, sp, pd, mm, mp⟩
  simp only at hs
  subst hs
  unfold nextEventT next_event nextEvent step stepData dataStep
  simp only [isNeedData, beq_iff_eq, reduceCtorEq, ↓reduceIte, parse_data_eq]
  cases hp : parseData bnd buf false with
  | error err => simp [parseData] at hp
  | ok r =>
    have ⟨h1, h2⟩ := parseData_ok hp
    cases hn : r.next with
    | some f =>
      cases cpl <;> simp [hn, view, toSt, setSlice_del_prefix _ _ (Int.natCast_nonneg _)]
    | none =>
      cases hpl : r.payload <;> cases cpl <;>
        simp [hn, hpl, h1, view, raisedSt, toSt, setSlice_del_prefix _ _ (Int.natCast_nonneg _)]

/-- `next_event()` in state EPILOGUE: once the input is complete the whole buffer is the Epilogue
event, the buffer is emptied and the state becomes COMPLETE; before that NEED_DATA. -/
theorem next_event_epilogue (d : Decoder) (hs : d.state = .epilogue) :
    nextEventT d = view d (nextEvent d) := by
  rcases d with ⟨bnd, buf, st, cpl, sp, pd, mm, mp⟩
  simp only at hs
  subst hs
  unfold nextEventT next_event nextEvent step
  cases cpl <;> simp [isNeedData, view, toSt, setSlice_del_all]

/-- `next_event()` in state COMPLETE: NEED_DATA, or `ValueError` when the input is complete; nothing
is assigned. -/
theorem next_event_complete (d : Decoder) (hs : d.state = .complete) :
    nextEventT d = view d (nextEvent d) := by
  rcases d with ⟨bnd, buf, st, cpl, sp, pd, mm, mp⟩
  simp only at hs
  subst hs
  unfold nextEventT next_event nextEvent step
  cases cpl <;> simp [isNeedData, view, raisedSt, toSt]

/-- **`MultipartDecoder.next_event()` as translated from the current source is the model's
`nextEvent`**, for every decoder: the same event on a normal return, the same exception class
otherwise (with several possible exceptions raised in the same order), and the four attributes the
method assigns (`buffer`, `state`, `_search_position`, `_parts_decoded`) are afterwards those of the
decoder the model returns - or, when the call raises, those described by `raisedSt`. -/
theorem next_event_eq (d : Decoder) : nextEventT d = view d (nextEvent d) := by
  cases hs : d.state
  · exact next_event_preamble d hs
  · exact next_event_part d hs
  · exact next_event_dataStart d hs
  · exact next_event_data d hs
  · exact next_event_epilogue d hs
  · exact next_event_complete d hs

/-- what the translated `next_event` returns or raises is, for every decoder, what the model's
`nextEvent` returns (its event) or raises -/
theorem next_event_result_eq (d : Decoder) :
    (nextEventT d).2 = (nextEvent d).map (·.1) := by
  rw [next_event_eq]
  cases nextEvent d with
  | error e => rfl
  | ok r => rcases r with ⟨ev, d'⟩; rfl

/-- when the model's `nextEvent` returns normally with the decoder `d'`, the translated `next_event`
leaves `buffer`, `state`, `_search_position` and `_parts_decoded` as in `d'` (`nextEvent_frame`: the
other fields of `d'` are those of `d`) -/
theorem next_event_state_eq {d d' : Decoder} {ev : Event} (h : nextEvent d = .ok (ev, d')) :
    (nextEventT d).1 = toSt d' := by
  rw [next_event_eq, h]; rfl

/-- when the model's `nextEvent` raises, the translated `next_event` leaves the four attributes as
`raisedSt` describes (the assignments made before the `raise` are kept) -/
theorem next_event_raised_state_eq {d : Decoder} {e : String} (h : nextEvent d = .error e) :
    (nextEventT d).1 = raisedSt d := by
  rw [next_event_eq, h]; rfl


end Wz.Props.C01T2
