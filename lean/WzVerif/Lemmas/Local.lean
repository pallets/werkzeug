/-
Lemmas for C18 that do not depend on how calls are scheduled: what one primitive effect of a
copy-on-write call does to the world and to the call's registers (`stepOp_facts`), what a whole call
may have done (`CallEffect`), context creation, the translated method bodies against the pure
reference `refCall`, and what the model's proxies (`resolve`, `resolveSrc`, `proxyView`) read, as a function
of what the accessing context observes. The invariant that turns these facts into isolation is in
Lemmas/LocalFine.lean.
-/
import WzVerif.Model.Local
namespace Wz.Local
open Wz.Gen.LocalOps

/-- every reference held by a context points below the allocation counter -/
def WF (w : World) : Prop := ∀ c v id, w.ctxs c v = some id → id < w.next

theorem wf_init : WF World.init := by intro c v id h; simp [World.init] at h

theorem wf_alloc {w : World} (h : WF w) (ob : Obj) : WF (alloc w ob) := by
  intro c v id hid
  have := h c v id hid
  simp [alloc]; omega

/-- world-level facts about one effect of a call of context `c` on cell `v` with registers `rg`,
owned registers `owned` -/
structure StepFacts (w : World) (c v : Nat) (rg : Regs) (owned : List Reg) (w' : World) : Prop where
  wf' : WF w'
  nctxEq : w'.nctx = w.nctx
  nextLe : w.next ≤ w'.next
  ctxOther : ∀ c' v', ¬(c' = c ∧ v' = v) → w'.ctxs c' v' = w.ctxs c' v'
  ctxHere : w'.ctxs c v = w.ctxs c v ∨ ∃ r id, rg r = some id ∧ w'.ctxs c v = some id
  heapKeep : ∀ id, id < w.next → (¬ ∃ r, r ∈ owned ∧ rg r = some id) → w'.heap id = w.heap id

/-- facts about the registers after the effect -/
structure FrameFacts (w : World) (c v : Nat) (rg : Regs) (owned : List Reg) (w' : World)
    (rg' : Regs) (owned' : List Reg) : Prop where
  regsLt' : ∀ r id, rg' r = some id → id < w'.next
  prov : ∀ r id, rg' r = some id → (∃ r0, rg r0 = some id) ∨ w.next ≤ id ∨ w.ctxs c v = some id
  ownedProv : ∀ r, r ∈ owned' → ∃ id, rg' r = some id ∧ (w.next ≤ id ∨ ∃ r0, r0 ∈ owned ∧ rg r0 = some id)

theorem stepFacts_refl {w : World} (hw : WF w) (c v : Nat) (rg : Regs) (owned : List Reg) :
    StepFacts w c v rg owned w :=
  ⟨hw, rfl, Nat.le_refl _, fun _ _ _ => rfl, Or.inl rfl, fun _ _ _ => rfl⟩

theorem stepFacts_alloc {w : World} (hw : WF w) (c v : Nat) (rg : Regs) (owned : List Reg) (o : Obj) :
    StepFacts w c v rg owned (alloc w o) := by
  refine ⟨wf_alloc hw o, rfl, by simp [alloc], fun _ _ _ => rfl, Or.inl rfl, ?_⟩
  intro id hid _
  have : id ≠ w.next := by omega
  simp [alloc, this]

theorem frameFacts_same {w : World} {c v : Nat} {rg : Regs} {owned : List Reg}
    (hr : ∀ r id, rg r = some id → id < w.next) (ho : ∀ r, r ∈ owned → ∃ id, rg r = some id)
    (w' : World) (hn : w'.next = w.next) :
    FrameFacts w c v rg owned w' rg owned :=
  ⟨fun r id h => by rw [hn]; exact hr r id h, fun r id h => Or.inl ⟨r, h⟩, fun r h => by
    obtain ⟨id, hid⟩ := ho r h
    exact ⟨id, hid, Or.inr ⟨r, h, hid⟩⟩⟩

/-- a freshly allocated object is put into register `d`, which becomes owned -/
theorem frameFacts_new {w : World} {c v : Nat} {rg : Regs} {owned : List Reg} (o : Obj) (d : Reg)
    (hr : ∀ r id, rg r = some id → id < w.next) (ho : ∀ r, r ∈ owned → ∃ id, rg r = some id)
    (owned' : List Reg) (hsub : ∀ r, r ∈ owned' → r = d ∨ r ∈ owned) :
    FrameFacts w c v rg owned (alloc w o) (setReg rg d w.next) owned' := by
  refine ⟨?_, ?_, ?_⟩
  · intro r id h
    simp only [setReg] at h
    split at h
    · cases h; simp [alloc]
    · have := hr r id h; simp [alloc]; omega
  · intro r id h
    simp only [setReg] at h
    split at h
    · cases h; exact Or.inr (Or.inl (Nat.le_refl _))
    · exact Or.inl ⟨r, h⟩
  · intro r hr'
    by_cases hrd : r = d
    · subst hrd; exact ⟨w.next, by simp [setReg], Or.inl (Nat.le_refl _)⟩
    · rcases hsub r hr' with h | h
      · exact absurd h hrd
      · obtain ⟨id, hid⟩ := ho r h
        exact ⟨id, by simp [setReg, hrd, hid], Or.inr ⟨r, h, hid⟩⟩

/-- What `stepOp_facts` says of the three outcomes of an effect. Users split on the outcome
(`cases hstep : stepOp …; rw [hstep] at h`), after which the match has reduced and `h` is the facts themselves. -/
def OpFacts (w : World) (c v : Nat) (rg : Regs) (owned owned' : List Reg) : Step → Prop
  | .cont f' => StepFacts w c v rg owned f'.w ∧ FrameFacts w c v rg owned f'.w f'.rg owned'
  | .ret w' _ => StepFacts w c v rg owned w'
  | .skip => True

theorem stepOp_facts {w : World} (hw : WF w) (c v : Nat) (a : Args) (rg : Regs) (acc : Option Nat)
    (owned : List Reg) (hr : ∀ r id, rg r = some id → id < w.next)
    (ho : ∀ r, r ∈ owned → ∃ id, rg r = some id) (op : Op) (hok : opOk owned op = true) :
    OpFacts w c v rg owned (ownedAfter owned op) (stepOp c v a { w := w, rg := rg, acc := acc } op) := by
  have hsame := frameFacts_same (c := c) (v := v) hr ho w rfl
  have hrefl := stepFacts_refl hw c v rg owned
  cases op with
  | load d isList =>
    simp only [stepOp, ownedAfter]
    cases hb : w.ctxs c v with
    | some id =>
      refine ⟨hrefl, ?_, ?_, ?_⟩
      · intro r id' h
        simp only [setReg] at h
        split at h
        · cases h; exact hw c v id hb
        · exact hr r id' h
      · intro r id' h
        simp only [setReg] at h
        split at h
        · cases h; exact Or.inr (Or.inr hb)
        · exact Or.inl ⟨r, h⟩
      · intro r hr'
        have hm := List.mem_filter.mp hr'
        have hne : r ≠ d := by simpa using hm.2
        obtain ⟨id', hid'⟩ := ho r hm.1
        exact ⟨id', by simp [setReg, hne, hid'], Or.inr ⟨r, hm.1, hid'⟩⟩
    | none =>
      refine ⟨stepFacts_alloc hw c v rg owned _, frameFacts_new _ d hr ho _
        fun _ hr' => Or.inr (List.mem_filter.mp hr').1⟩
  | copy d s =>
    simp only [stepOp, ownedAfter]
    cases rg s with
    | none => exact hrefl
    | some id =>
      refine ⟨stepFacts_alloc hw c v rg owned _, frameFacts_new _ d hr ho _ fun _ => List.mem_cons.mp⟩
  | fresh d isList =>
    refine ⟨stepFacts_alloc hw c v rg owned _, frameFacts_new _ d hr ho _ fun _ => List.mem_cons.mp⟩
  | sliceInit d s =>
    simp only [stepOp, ownedAfter]
    cases rg s with
    | none => exact hrefl
    | some id =>
      simp only
      cases w.heap id with
      | dict kv => exact hrefl
      | list xs =>
        refine ⟨stepFacts_alloc hw c v rg owned _, frameFacts_new _ d hr ho _ fun _ => List.mem_cons.mp⟩
  | setItem r | delItem r | append r =>
    have hmem : r ∈ owned := by simpa [opOk] using hok
    obtain ⟨id, hid⟩ := ho r hmem
    simp only [stepOp, ownedAfter, hid]
    refine ⟨⟨hw, rfl, Nat.le_refl _, fun _ _ _ => rfl, Or.inl rfl, ?_⟩,
      frameFacts_same (c := c) (v := v) hr ho _ rfl⟩
    intro id' _ hno
    have : id' ≠ id := fun e => hno ⟨r, hmem, e ▸ hid⟩
    simp [mutate, this]
  | store r =>
    simp only [stepOp, ownedAfter]
    cases hid : rg r with
    | none => exact hrefl
    | some id =>
      refine ⟨⟨?_, rfl, Nat.le_refl _, ?_, Or.inr ⟨r, id, hid, by simp [bindVar]⟩, fun _ _ _ => rfl⟩,
        frameFacts_same (c := c) (v := v) hr ho _ rfl⟩
      · intro c' v' id' h
        simp only [bindVar] at h
        split at h
        · cases h; exact hr r id hid
        · exact hw c' v' id' h
      · intro c' v' hne
        simp [bindVar, hne]
  | assumeContains r b | assumeEmpty r b =>
    simp only [stepOp, ownedAfter]
    cases rg r with
    | none => exact hrefl
    | some id =>
      simp only
      split
      · exact ⟨hrefl, hsame⟩
      · trivial
  | peekLast r =>
    simp only [stepOp, ownedAfter]
    cases rg r with
    | none => exact hrefl
    | some id =>
      simp only
      cases w.heap id with
      | dict kv => exact hrefl
      | list xs => exact ⟨hrefl, hsame⟩
  | retAcc | retNone | raiseAttr => exact hrefl
  | retItem r | retItems r | retLast r | retReg r =>
    simp only [stepOp]
    cases rg r with
    | none => exact hrefl
    | some id => simp only; cases w.heap id <;> exact hrefl

/-- what a call of context `c` on cell `v` that started in `w` has done when the world is `w'`:
no context was created, no other (context, cell) was re-bound or sees another payload -/
structure CallEffect (w : World) (c v : Nat) (w' : World) : Prop where
  wf : WF w'
  nctxEq : w'.nctx = w.nctx
  ctxOther : ∀ c' v', ¬(c' = c ∧ v' = v) → w'.ctxs c' v' = w.ctxs c' v'
  obsOther : ∀ c' v', ¬(c' = c ∧ v' = v) → obs w' c' v' = obs w c' v'

theorem CallEffect.refl {w : World} (hw : WF w) (c v : Nat) : CallEffect w c v w :=
  ⟨hw, rfl, fun _ _ _ => rfl, fun _ _ _ => rfl⟩

theorem CallEffect.trans {w w' w'' : World} {c v : Nat} (h : CallEffect w c v w')
    (h' : CallEffect w' c v w'') : CallEffect w c v w'' :=
  ⟨h'.wf, h'.nctxEq.trans h.nctxEq, fun c' v' hne => (h'.ctxOther c' v' hne).trans (h.ctxOther c' v' hne),
    fun c' v' hne => (h'.obsOther c' v' hne).trans (h.obsOther c' v' hne)⟩

/-- does event `e` run in context `c'` on var `v'`? -/
def Event.touches (e : Event) (c' v' : Nat) : Prop :=
  match e with
  | .call c v _ _ => c = c' ∧ v = v'
  | _ => False

theorem stepEvent_call {w : World} {c : Nat} (hc : c < w.nctx) (v : Nat) (p : Prog) (a : Args) :
    stepEvent w (.call c v p a) = (runProg w c v a p).1 := if_pos hc

instance Event.decCbw (e : Event) : Decidable e.cbw := by cases e <;> unfold Event.cbw <;> infer_instance

theorem newCtx_ctxs {w : World} {e : Event} (he : e.actor = none) {c v id : Nat}
    (h : (stepEvent w e).ctxs c v = some id) :
    w.ctxs c v = some id ∨ c = w.nctx ∧ ∃ p, e = .copyCtx p ∧ w.ctxs p v = some id := by
  cases e with
  | call => cases he
  | copyCtx parent =>
    simp only [stepEvent] at h
    split at h
    · split at h
      · exact .inr ⟨‹_›, parent, rfl, h⟩
      · cases h
    · exact .inl h
  | freshCtx =>
    simp only [stepEvent] at h
    split at h
    · cases h
    · exact .inl h

theorem newCtx_inv {w : World} (hw : WF w) {e : Event} (he : e.actor = none) :
    WF (stepEvent w e) ∧ w.nctx ≤ (stepEvent w e).nctx ∧
    ∀ c' v', c' < w.nctx → obs (stepEvent w e) c' v' = obs w c' v' := by
  cases e with
  | call => cases he
  | copyCtx parent | freshCtx =>
    refine ⟨fun c v id hid => ?_, by simp [stepEvent], fun c' v' hc' => ?_⟩
    · rcases newCtx_ctxs rfl hid with h | ⟨_, p, _, h⟩ <;> exact hw _ _ _ h
    · have : c' ≠ w.nctx := by omega
      simp [stepEvent, obs, this]

theorem newCtx_nctx {w : World} {e : Event} (he : e.actor = none) : (stepEvent w e).nctx = w.nctx + 1 := by
  cases e with
  | call => cases he
  | copyCtx parent | freshCtx => rfl

theorem obs_copyCtx {w : World} {parent : Nat} (hp : parent < w.nctx) (v : Nat) :
    obs (stepEvent w (.copyCtx parent)) w.nctx v = obs w parent v := by
  simp [obs, stepEvent, hp]

theorem obs_freshCtx (w : World) (v : Nat) : obs (stepEvent w .freshCtx) w.nctx v = none := by
  simp [obs, stepEvent]

def kvOf : Option Obj → List (Nat × Nat)
  | some (.dict kv) => kv
  | _ => []

def xsOf : Option Obj → List Nat
  | some (.list xs) => xs
  | _ => []

/-- the methods whose bodies are translated -/
inductive Method where
  | setattr | delattr | getattr | iter | release | push | pop | top | srelease
deriving DecidableEq, Repr

def Method.prog : Method → Prog
  | .setattr => localSetattr
  | .delattr => localDelattr
  | .getattr => localGetattr
  | .iter => localIter
  | .release => localRelease
  | .push => stackPush
  | .pop => stackPop
  | .top => stackTop
  | .srelease => stackRelease

def Method.onStack : Method → Bool
  | .push | .pop | .top | .srelease => true
  | _ => false

/-- the reference semantics: a pure function on the immutable payload one context sees -/
def refCall (m : Method) (a : Args) (o : Option Obj) : Option Obj × Res :=
  match m with
  | .setattr => (some (.dict (dictSet (kvOf o) a.key a.val)), .none)
  | .delattr =>
    match dictGet (kvOf o) a.key with
    | some _ => (some (.dict (dictDel (kvOf o) a.key)), .none)
    | none => (o, .attrError)
  | .getattr => (o, match dictGet (kvOf o) a.key with | some x => .val x | none => .attrError)
  | .iter => (o, .items (kvOf o))
  | .release => (some (.dict []), .none)
  | .push => (some (.list (xsOf o ++ [a.val])), .list (xsOf o ++ [a.val]))
  | .pop =>
    match (xsOf o).getLast? with
    | some x => (some (.list (xsOf o).dropLast), .val x)
    | none => (o, .none)
  | .top => (o, match (xsOf o).getLast? with | some x => .val x | none => .none)
  | .srelease => (some (.list []), .none)

/-- the payload has the kind the method expects (a `Local` holds a dict, a `LocalStack` a list) -/
def Typed (m : Method) (o : Option Obj) : Prop :=
  o = none ∨ (if m.onStack then ∃ xs, o = some (.list xs) else ∃ kv, o = some (.dict kv))

section
attribute [local simp] runProg runPath stepOp alloc mutate bindVar setReg

/-- each translated body is run symbolically on the three shapes of the payload: unbound, a dict, a list -/
theorem refine_call (w : World) (c v : Nat) (a : Args) (m : Method) (ht : Typed m (obs w c v)) :
    obs (runProg w c v a m.prog).1 c v = (refCall m a (obs w c v)).1 ∧
    (runProg w c v a m.prog).2 = (refCall m a (obs w c v)).2 := by
  unfold obs at *
  cases h : w.ctxs c v with
  | none =>
    cases m <;>
    simp [Method.prog, refCall, localSetattr, localDelattr, localGetattr, localIter, localRelease,
      stackPush, stackPop, stackTop, stackRelease, h, kvOf, xsOf, Obj.empty, objContains, objEmpty, dictGet]
  | some id =>
    rw [h] at ht
    cases ho : w.heap id with
    | dict kv =>
      cases m <;> try (exfalso; simp [Typed, Method.onStack, ho] at ht; done)
      · simp [Method.prog, refCall, localSetattr, h, ho, kvOf]
      · cases hg : dictGet kv a.key <;>
        simp [Method.prog, refCall, localDelattr, h, ho, hg, kvOf, objContains]
      · cases hg : dictGet kv a.key <;>
        simp [Method.prog, refCall, localGetattr, h, ho, hg, kvOf, objContains]
      · simp [Method.prog, refCall, localIter, h, ho, kvOf]
      · simp [Method.prog, refCall, localRelease, Obj.empty]
    | list xs =>
      cases m <;> try (exfalso; simp [Typed, Method.onStack, ho] at ht; done)
      · simp [Method.prog, refCall, stackPush, h, ho, xsOf]
      · cases hx : xs.getLast? with
        | none =>
          have : xs = [] := List.getLast?_eq_none_iff.mp hx
          simp [Method.prog, refCall, stackPop, h, ho, this, xsOf,
            objEmpty]
        | some x =>
          have hne : xs ≠ [] := by intro e; simp [e] at hx
          have hemp : xs.isEmpty = false := by cases xs <;> simp_all
          simp [Method.prog, refCall, stackPop, h, ho, hx, hemp, xsOf, objEmpty]
      · cases hx : xs.getLast? with
        | none =>
          have : xs = [] := List.getLast?_eq_none_iff.mp hx
          simp [Method.prog, refCall, stackTop, h, ho, this, xsOf,
            objEmpty]
        | some x =>
          have hemp : xs.isEmpty = false := by cases xs <;> simp_all
          simp [Method.prog, refCall, stackTop, h, ho, hx, hemp, xsOf, objEmpty]
      · simp [Method.prog, refCall, stackRelease, Obj.empty]

theorem release_cbw (stack : Bool) : CopyBeforeWrite (if stack then stackRelease else localRelease) := by
  cases stack <;> decide

theorem release_obs (w : World) (c v : Nat) (hc : c < w.nctx) (stack : Bool) :
    obs (stepEvent w (.call c v (if stack then stackRelease else localRelease) {})) c v
      = some (Obj.empty stack) := by
  rw [stepEvent_call hc]
  cases stack <;> simp [obs, localRelease, stackRelease, Obj.empty]

theorem resolve_attr_eq (w : World) (c v k : Nat) :
    resolve w c (.attr v k) = match obs w c v with | some (.dict kv) => dictGet kv k | _ => none := by
  unfold obs
  cases h : w.ctxs c v with
  | none =>
    simp [resolve, localGetattr, h, Obj.empty, objContains, dictGet]
  | some id =>
    cases ho : w.heap id with
    | dict kv =>
      cases hg : dictGet kv k <;>
      simp [resolve, localGetattr, h, ho, hg, objContains]
    | list xs =>
      by_cases hx : k ∈ xs
      · simp [resolve, localGetattr, h, ho, hx, objContains]
      · simp [resolve, localGetattr, h, ho, hx, objContains]

theorem resolve_top_eq (w : World) (c v : Nat) :
    resolve w c (.top v) = match obs w c v with | some (.list xs) => xs.getLast? | _ => none := by
  unfold obs
  cases h : w.ctxs c v with
  | none =>
    simp [resolve, stackTop, h, Obj.empty, objEmpty]
  | some id =>
    cases ho : w.heap id with
    | list xs =>
      cases hx : xs.getLast? with
      | none =>
        have : xs = [] := List.getLast?_eq_none_iff.mp hx
        simp [resolve, stackTop, h, ho, this, objEmpty]
      | some x =>
        have hemp : xs.isEmpty = false := by cases xs <;> simp_all
        simp [resolve, stackTop, h, ho, hx, hemp, objEmpty]
    | dict kv =>
      cases kv with
      | nil => simp [resolve, stackTop, h, ho, objEmpty]
      | cons x t => simp [resolve, stackTop, h, ho, objEmpty]

end

def Proxy.var : Proxy → Nat
  | .attr v _ => v
  | .top v => v

theorem resolve_congr {w w' : World} {c : Nat} (p : Proxy) (h : obs w' c p.var = obs w c p.var) :
    resolve w' c p = resolve w c p := by
  cases p with
  | attr v k => simp only [Proxy.var] at h; rw [resolve_attr_eq, resolve_attr_eq, h]
  | top v => simp only [Proxy.var] at h; rw [resolve_top_eq, resolve_top_eq, h]

theorem resolveSrc_congr (falsy : Nat → Bool) {w w' : World} {c : Nat} (p : Proxy)
    (h : obs w' c p.var = obs w c p.var) : resolveSrc falsy w' c p = resolveSrc falsy w c p := by
  cases p with
  | attr v k => exact resolve_congr (.attr v k) h
  | top v =>
    simp only [resolveSrc]
    rw [resolve_congr (.top v) h]

/-- with the source's `is None` test (`ht`) a proxy resolves as in the model, whatever counts as falsy -/
theorem resolveSrc_eq_resolve (ht : stackProxyTest = .isNone) (falsy : Nat → Bool) (w : World) (c : Nat)
    (p : Proxy) : resolveSrc falsy w c p = resolve w c p := by
  cases p with
  | attr v k => rfl
  | top v =>
    simp only [resolveSrc, ht]
    cases resolve w c (.top v) <;> rfl

theorem proxyView_congr {w w' : World} {c : Nat} (p : Proxy) (h : obs w' c p.var = obs w c p.var) :
    proxyView w' c p = proxyView w c p := by
  unfold proxyView; rw [resolve_congr p h]

theorem proxyView_unbound_iff {w : World} {c : Nat} {p : Proxy} :
    proxyView w c p = { obj := none, truthy := false, fallbackRepr := true } ↔ resolve w c p = none := by
  unfold proxyView; cases resolve w c p <;> simp

/-- nothing is bound: what the three faces of both proxy kinds show -/
theorem proxyView_unbound {w : World} {c v : Nat} (h : obs w c v = none) (name : Nat) :
    proxyView w c (.attr v name) = { obj := none, truthy := false, fallbackRepr := true } ∧
    proxyView w c (.top v) = { obj := none, truthy := false, fallbackRepr := true } :=
  ⟨proxyView_unbound_iff.mpr (by rw [resolve_attr_eq, h]), proxyView_unbound_iff.mpr (by rw [resolve_top_eq, h])⟩

end Wz.Local
