/-
For Props/C01T (the translated `MultipartDecoder.last_newline` against the recursive model
`lastNewline` of `Model/Multipart.lean`): the index `lastNlIdx` of the last LF or CR (two `bytes.rfind`
of one byte) and the body `lastNewlineOf` of `last_newline` after that index was computed, related to
the model by induction from the front of the buffer (`lastNewlineOf_eq`). Nothing here mentions the
generated definitions.
-/
import WzVerif.Lemmas.Multipart
import WzVerif.Lemmas.PyFns_Prelude
open Wz Wz.Pre

namespace Wz.PyFnsMultipart

open Wz.Multipart

/-- index of the last LF or CR, or -1 -/
def lastNlIdx (d : Bytes) : Int := max (rfind d [10]) (rfind d [13])

theorem lastNlIdx_ge (d : Bytes) : -1 ≤ lastNlIdx d := by
  unfold lastNlIdx; have := rfind_ge (10 : UInt8) d; omega

theorem lastNlIdx_neg_iff (d : Bytes) : lastNlIdx d = -1 ↔ hasNl d = false := by
  have h1 := rfind_neg_iff (10 : UInt8) d
  have h2 := rfind_neg_iff (13 : UInt8) d
  have g1 := rfind_ge (10 : UInt8) d
  have g2 := rfind_ge (13 : UInt8) d
  have hh := hasNl_iff d
  unfold lastNlIdx
  constructor
  · intro h
    have a1 : rfind d [10] = -1 := by omega
    have a2 : rfind d [13] = -1 := by omega
    cases hb : hasNl d with
    | false => rfl
    | true => rcases hh.mp hb with h | h
              · exact absurd h (h1.mp a1)
              · exact absurd h (h2.mp a2)
  · intro h
    have n1 : (10 : UInt8) ∉ d := fun hm => by have := hh.mpr (Or.inl hm); simp [h] at this
    have n2 : (13 : UInt8) ∉ d := fun hm => by have := hh.mpr (Or.inr hm); simp [h] at this
    have a1 := h1.mpr n1
    have a2 := h2.mpr n2
    omega

theorem lastNlIdx_nonneg {t : Bytes} (h : hasNl t = true) : 0 ≤ lastNlIdx t := by
  have hne : lastNlIdx t ≠ -1 := fun e => by rw [(lastNlIdx_neg_iff t).mp e] at h; cases h
  have := lastNlIdx_ge t
  omega

theorem lastNlIdx_cons_has (a : UInt8) (t : Bytes) (h : hasNl t = true) : lastNlIdx (a :: t) = lastNlIdx t + 1 := by
  have hge := lastNlIdx_nonneg h
  have g1 := rfind_ge (10 : UInt8) t
  have g2 := rfind_ge (13 : UInt8) t
  unfold lastNlIdx at *
  rw [rfind_cons, rfind_cons]
  by_cases c1 : 0 ≤ rfind t [10] <;> by_cases c2 : 0 ≤ rfind t [13] <;> simp only [c1, c2, if_true, if_false]
  · omega
  · split <;> omega
  · split <;> omega
  · omega

theorem lastNlIdx_cons_no (a : UInt8) (t : Bytes) (h : hasNl t = false) :
    lastNlIdx (a :: t) = if isNl a then 0 else -1 := by
  have he := (lastNlIdx_neg_iff t).mpr h
  have g1 := rfind_ge (10 : UInt8) t
  have g2 := rfind_ge (13 : UInt8) t
  unfold lastNlIdx at *
  have a1 : rfind t [10] = -1 := by omega
  have a2 : rfind t [13] = -1 := by omega
  rw [rfind_cons, rfind_cons, a1, a2]
  simp only [isNl]
  by_cases h10 : a = 10
  · subst h10; decide
  · by_cases h13 : a = 13
    · subst h13; decide
    · have b1 : ((10 : UInt8) == a) = false := by simpa using fun e => h10 e.symm
      have b2 : ((13 : UInt8) == a) = false := by simpa using fun e => h13 e.symm
      have b3 : (a == 10) = false := by simpa using h10
      have b4 : (a == 13) = false := by simpa using h13
      simp [b1, b2, b3, b4]


/-- the body of `last_newline` after `last` was computed -/
def lastNewlineOf (d : Bytes) (last : Int) : Int :=
  if last == -1 then (d.length : Int)
  else if decide (last > 0) && (slice d (some (last - 1)) (some (last + 1)) == [13, 10]) then last - 1
  else last

theorem lastNlIdx_zero_tail (t : Bytes) (h : lastNlIdx t = 0) : hasNl t.tail = false := by
  cases t with
  | nil => rfl
  | cons x t' =>
    cases hb : hasNl t' with
    | false => simpa using hb
    | true =>
      exfalso
      have h1 := lastNlIdx_cons_has x t' hb
      have h2 := lastNlIdx_nonneg hb
      omega

theorem lastNlIdx_pos_tail (t : Bytes) (h : 1 ≤ lastNlIdx t) : hasNl t.tail = true := by
  cases t with
  | nil => simp [lastNlIdx, rfind, rfindIdx?] at h
  | cons x t' =>
    cases hb : hasNl t' with
    | true => simpa using hb
    | false =>
      rw [lastNlIdx_cons_no x t' hb] at h
      split at h <;> omega

theorem lastNewlineOf_eq (d : Bytes) : lastNewlineOf d (lastNlIdx d) = (lastNewline d : Int) := by
  induction d with
  | nil => simp [lastNewlineOf, lastNlIdx, rfind, rfindIdx?, lastNewline]
  | cons a t ih =>
    unfold lastNewline
    cases hb : hasNl t with
    | true =>
      have hl := lastNlIdx_cons_has a t hb
      have hge := lastNlIdx_nonneg hb
      obtain ⟨n, hn⟩ : ∃ n : Nat, lastNlIdx t = (n : Int) := ⟨(lastNlIdx t).toNat, by omega⟩
      simp only [if_true]
      rw [hl, hn]
      cases n with
      | zero =>
        -- the last line break of `t` is its first byte
        have htl := lastNlIdx_zero_tail t (by simpa using hn)
        have ih0 : (lastNewline t : Int) = 0 := by rw [← ih, hn]; simp [lastNewlineOf]
        obtain ⟨x, t', rfl⟩ : ∃ x t', t = x :: t' := by
          cases t with
          | nil => simp [hasNl] at hb
          | cons x t' => exact ⟨x, t', rfl⟩
        have e : slice (a :: x :: t') (some ((0 : Nat) : Int)) (some ((2 : Nat) : Int)) = [a, x] := by
          rw [slice_nat]; simp
        simp only [List.tail_cons] at htl
        simp only [lastNewlineOf, isLastCrlf, List.head?_cons, List.tail_cons, htl]
        have e' : slice (a :: x :: t') (some (((0 : Nat) : Int) + 1 - 1)) (some (((0 : Nat) : Int) + 1 + 1)) = [a, x] := by
          simpa using e
        rw [e']
        by_cases h1 : a = 13 <;> by_cases h2 : x = 10
        · subst h1; subst h2; simp
        · subst h1
          have : ((13 : UInt8) :: [x] == [13, 10]) = false := by simp [h2]
          simp [this, h2]; omega
        · have : (a :: [x] == [13, 10]) = false := by simp [h1]
          simp [this, h1]; omega
        · have : (a :: [x] == [13, 10]) = false := by simp [h1]
          simp [this, h1]; omega
      | succ m =>
        have htl := lastNlIdx_pos_tail t (by omega)
        have hcr : isLastCrlf a t = false := by simp [isLastCrlf, htl]
        have es : slice (a :: t) (some ((m + 1 : Nat) : Int)) (some ((m + 3 : Nat) : Int))
            = slice t (some ((m : Nat) : Int)) (some ((m + 2 : Nat) : Int)) := by
          rw [slice_nat, slice_nat]; simp
        simp only [hcr, Bool.false_eq_true, if_false]
        have hc : ((1 + lastNewline t : Nat) : Int) = 1 + (lastNewline t : Int) := by omega
        rw [hc, ← ih, hn]
        unfold lastNewlineOf
        have e1 : (((m + 1 : Nat) : Int) + 1 - 1) = ((m + 1 : Nat) : Int) := by omega
        have e2 : (((m + 1 : Nat) : Int) + 1 + 1) = ((m + 3 : Nat) : Int) := by omega
        have e3 : (((m + 1 : Nat) : Int) - 1) = ((m : Nat) : Int) := by omega
        have e4 : (((m + 1 : Nat) : Int) + 1) = ((m + 2 : Nat) : Int) := by omega
        rw [e1, e2, e3, e4, es]
        cases hX : (slice t (some ((m : Nat) : Int)) (some ((m + 2 : Nat) : Int)) == [13, 10]) <;>
          simp <;> omega
    | false =>
      have hl := lastNlIdx_cons_no a t hb
      simp only [Bool.false_eq_true, if_false]
      rw [hl]
      cases hn : isNl a <;> simp [lastNewlineOf]
      omega

end Wz.PyFnsMultipart
