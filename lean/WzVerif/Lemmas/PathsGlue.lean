/-
The static-file helpers (Model/StaticFiles.lean): `posixpath.join` of a trusted prefix with a `safe_join`
result (`_root_path`, package directory); the export loop of `SharedDataMiddleware` as a first-match
search; what each of the three loaders answers (`…Loader_eq_some_iff`); and how a served file is
related to the export that produced it (`ServedFrom`, `tryExport_served`).
-/
import WzVerif.Lemmas.PathsRefuse
import WzVerif.Model.StaticFiles
namespace Wz.Paths

/-- containment below a trusted prefix: whatever `safe_join(d, *ps)` returns, joined onto any
prefix `r` (`_root_path`, the package directory), lies inside `join(r, d)` (`d` read as `"."` when
empty, as `safe_join` does) -/
theorem safeJoinWith_inside_under {alts : List Char} {d : Str} {ps : List Str} {p : Str}
    (h : safeJoinWith alts d ps = some p) (r : Str) :
    Inside (join r [if d = [] then dot else d]) (join r [p]) := by
  obtain ⟨fs, rfl, hrel, hclean⟩ := safeJoinWith_join h
  generalize (if d = [] then dot else d) = d'
  obtain ⟨hl, hs⟩ := join_rel fs hrel d'
  have hx : (join d' fs).head? = some sep ↔ d'.head? = some sep := by
    refine Decidable.not_iff_not.mp ?_
    show (join d' fs).head? ≠ some sep ↔ d'.head? ≠ some sep
    rw [← lead_eq_zero_iff, ← lead_eq_zero_iff, hl]
  simp only [join, List.foldl_cons, List.foldl_nil] at hl hs hx ⊢
  by_cases hd : d'.head? = some sep
  · -- an absolute directory: `r` is dropped on both sides
    rw [joinStep_abs hd, joinStep_abs (hx.mpr hd)]
    exact contained_of_segments hl hs hclean
  · obtain ⟨l1, s1⟩ := joinStep_rel r hd
    obtain ⟨l2, s2⟩ := joinStep_rel r (mt hx.mp hd)
    exact contained_of_segments (l2.trans l1.symm) (by rw [s2, hs, s1, List.append_assoc]) hclean

theorem findExport_eq_findSome (isfile : Str → Bool) (exports : List (Str × Export)) (path : Str) :
    findExport isfile exports path = exports.findSome? fun e => tryExport isfile e.1 e.2 path := by
  induction exports with
  | nil => rfl
  | cons e rest ih =>
    rw [List.findSome?_cons, ← ih, findExport]
    cases tryExport isfile e.1 e.2 path <;> rfl

theorem findExport_eq_some_iff (isfile : Str → Bool) (exports : List (Str × Export)) (path : Str)
    (r : Str × Str) :
    findExport isfile exports path = some r ↔
      ∃ pre e post, exports = pre ++ e :: post ∧
        (∀ e' ∈ pre, tryExport isfile e'.1 e'.2 path = none) ∧ tryExport isfile e.1 e.2 path = some r := by
  rw [findExport_eq_findSome, List.findSome?_eq_some_iff]
  exact ⟨fun ⟨pre, e, post, h1, h2, h3⟩ => ⟨pre, e, post, h1, h3, h2⟩,
    fun ⟨pre, e, post, h1, h2, h3⟩ => ⟨pre, e, post, h1, h3, h2⟩⟩

theorem findExport_eq_none_iff (isfile : Str → Bool) (exports : List (Str × Export)) (path : Str) :
    findExport isfile exports path = none ↔ ∀ e ∈ exports, tryExport isfile e.1 e.2 path = none := by
  rw [findExport_eq_findSome, List.findSome?_eq_none_iff]

theorem sharedData_eq_some_iff (isfile allowed : Str → Bool) (exports : List (Str × Export)) (path p : Str) :
    sharedData isfile allowed exports path = some p ↔
      ∃ pre e post name, exports = pre ++ e :: post ∧
        (∀ e' ∈ pre, tryExport isfile e'.1 e'.2 path = none) ∧
        tryExport isfile e.1 e.2 path = some (name, p) ∧ allowed name = true := by
  -- the file of the first answering export, if its `real_filename` passes `is_allowed`
  have hgate : sharedData isfile allowed exports path = some p ↔
      ∃ name, findExport isfile exports path = some (name, p) ∧ allowed name = true := by
    unfold sharedData
    cases findExport isfile exports path with
    | none => simp
    | some r =>
      obtain ⟨name, f⟩ := r
      cases h : allowed name with
      | false =>
        simp only [h]
        constructor
        · intro h'; cases h'
        · rintro ⟨n, hn, ha⟩; cases hn; rw [h] at ha; cases ha
      | true =>
        simp only [h, if_true, Option.some.injEq]
        exact ⟨fun e => ⟨name, by rw [e], h⟩, fun ⟨n, hn, _⟩ => by cases hn; rfl⟩
  simp only [hgate, findExport_eq_some_iff]
  exact ⟨fun ⟨name, ⟨pre, e, post, h1, h2, h3⟩, ha⟩ => ⟨pre, e, post, name, h1, h2, h3, ha⟩,
    fun ⟨pre, e, post, name, h1, h2, h3, ha⟩ => ⟨name, ⟨pre, e, post, h1, h2, h3⟩, ha⟩⟩

theorem sharedData_eq_none_iff (isfile allowed : Str → Bool) (exports : List (Str × Export)) (path : Str) :
    sharedData isfile allowed exports path = none ↔
      findExport isfile exports path = none ∨
        ∃ r, findExport isfile exports path = some r ∧ allowed r.1 = false := by
  unfold sharedData
  cases findExport isfile exports path with
  | none => simp
  | some r => cases h : allowed r.1 <;> simp [h]

/-- how file `p` is related to export `e = (search_path, export)` for request path `path`:
* directory export: `p` exists and is either the directory value itself requested by its exact key,
  or `safe_join(directory, rest)` for the rest of the request path behind `search_path + "/"` -
  hence inside the directory;
* single-file export: `p` is that file (for the key and for everything below `key/`);
* package export: `p` can be opened and is `pkgDir/safe_join(package_path, rest)` - hence inside
  `pkgDir/package_path`. -/
def ServedFrom (isfile : Str → Bool) (e : Str × Export) (path p : Str) : Prop :=
  match e.2 with
  | .dir d => isfile p = true ∧ ((e.1 = path ∧ p = d) ∨
      ∃ rel, path = withSlash e.1 ++ rel ∧ safeJoin d [rel] = some p ∧ Inside d p)
  | .file f => p = f ∧ (e.1 = path ∨ ∃ rel, path = withSlash e.1 ++ rel)
  | .pkg pd pp => isfile p = true ∧ ∃ rel rp, path = withSlash e.1 ++ rel ∧
      safeJoin pp [rel] = some rp ∧ p = join pd [rp] ∧ Inside (Export.root (.pkg pd pp)) p

theorem startsWith_split {s pre : Str} (h : startsWith s pre = true) : s = pre ++ s.drop pre.length := by
  have : pre <+: s := List.isPrefixOf_iff_prefix.mp h
  obtain ⟨t, rfl⟩ := this
  simp

theorem joinIfFile_eq_some_iff {isfile : Str → Bool} {d rel p : Str} :
    joinIfFile isfile d rel = some p ↔ safeJoin d [rel] = some p ∧ isfile p = true := by
  unfold joinIfFile
  cases safeJoin d [rel] with
  | none => simp
  | some q => by_cases h : isfile q = true <;> simp [h] <;> rintro rfl <;> simp [h]

theorem sendFromDirectoryRoot_eq_some_iff {isfile : Str → Bool} {root : Option Str} {d path tested opened : Str} :
    sendFromDirectoryRoot isfile root d path = some (tested, opened) ↔
      ∃ p, safeJoin d [path] = some p ∧ tested = sfdChecked root p ∧ isfile tested = true ∧
        opened = sendFileOpened root tested := by
  unfold sendFromDirectoryRoot
  cases safeJoin d [path] with
  | none => simp
  | some p =>
    simp only [Option.some.injEq, exists_eq_left']
    by_cases h : isfile (sfdChecked root p) = true
    · rw [if_pos h]
      constructor
      · rintro h'; cases h'; exact ⟨rfl, h, rfl⟩
      · rintro ⟨rfl, _, rfl⟩; rfl
    · rw [if_neg h]
      constructor
      · intro h'; cases h'
      · rintro ⟨rfl, h', _⟩; exact absurd h' h

/-- with an absolute (or empty) `_root_path`, `send_file`'s second join of the root changes nothing:
the file opened is the file tested -/
theorem sendFileOpened_sfdChecked {r : Str} (hr : r = [] ∨ isabs r = true) (p : Str) :
    sendFileOpened (some r) (sfdChecked (some r) p) = sfdChecked (some r) p :=
  joinStep_abs_idem hr p

/-- the directory loader answers `(basename p, p)` for a file `p` that exists: the directory value
itself for the exact key, `safe_join(directory, rel)` otherwise -/
theorem directoryLoader_eq_some_iff {isfile : Str → Bool} {d : Str} {o : Option Str} {r : Str × Str} :
    directoryLoader isfile d o = some r ↔ r.1 = basename r.2 ∧ isfile r.2 = true ∧
      match o with
      | none => r.2 = d
      | some rel => safeJoin d [rel] = some r.2 := by
  obtain ⟨n, p⟩ := r
  cases o with
  | none =>
    simp only [directoryLoader]
    by_cases h : isfile d = true <;> simp [h]
    · constructor
      · rintro ⟨rfl, rfl⟩; exact ⟨rfl, h, rfl⟩
      · rintro ⟨rfl, _, rfl⟩; exact ⟨rfl, rfl⟩
    · rintro _ h2 rfl; simp [h] at h2
  | some rel =>
    simp only [directoryLoader, Option.map_eq_some_iff, joinIfFile_eq_some_iff, Prod.mk.injEq]
    constructor
    · rintro ⟨q, ⟨h1, h2⟩, rfl, rfl⟩; exact ⟨rfl, h2, h1⟩
    · rintro ⟨rfl, h2, h1⟩; exact ⟨p, ⟨h1, h2⟩, rfl, rfl⟩

/-- the package loader answers only below the key: the resource `safe_join(package_path, rel)`,
opened below the package directory -/
theorem packageLoader_eq_some_iff {canOpen : Str → Bool} {pd pp : Str} {o : Option Str} {r : Str × Str} :
    packageLoader canOpen pd pp o = some r ↔ ∃ rel rp, o = some rel ∧ safeJoin pp [rel] = some rp ∧
      canOpen (join pd [rp]) = true ∧ r = (basename rp, join pd [rp]) := by
  cases o with
  | none => simp [packageLoader]
  | some rel =>
    simp only [packageLoader, Option.some.injEq, exists_and_left, exists_eq_left']
    generalize safeJoin pp [rel] = j
    cases j with
    | none => simp
    | some rp =>
      by_cases h : canOpen (join pd [rp]) = true <;> simp [h]
      exact eq_comm

/-- the prefix call `loader(path[len(search_path):])` of any of the three loaders -/
theorem loader_prefix_spec {isfile : Str → Bool} {s : Str} {ex : Export} {path rel : Str} {r : Str × Str}
    (hpath : path = withSlash s ++ rel) (h : loaderOf isfile ex (some rel) = some r) :
    ServedFrom isfile (s, ex) path r.2 := by
  cases ex with
  | dir d =>
    obtain ⟨_, h2, h1⟩ := directoryLoader_eq_some_iff.mp (show directoryLoader isfile d (some rel) = some r from h)
    exact ⟨h2, Or.inr ⟨rel, hpath, h1, safeJoinWith_contained h1⟩⟩
  | file f =>
    cases h
    exact ⟨rfl, Or.inr ⟨rel, hpath⟩⟩
  | pkg pd pp =>
    obtain ⟨rel', rp, hrel, hj, hf, rfl⟩ :=
      packageLoader_eq_some_iff.mp (show packageLoader isfile pd pp (some rel) = some r from h)
    cases hrel
    exact ⟨hf, rel, rp, hpath, hj, rfl, safeJoinWith_inside_under hj pd⟩

/-- a loader answered for the exact key (`loader(None)`) or for what follows `search_path/` -/
theorem tryExport_cases {isfile : Str → Bool} {s : Str} {ex : Export} {path : Str} {r : Str × Str}
    (h : tryExport isfile s ex path = some r) :
    (s = path ∧ loaderOf isfile ex none = some r) ∨
      ∃ rel, path = withSlash s ++ rel ∧ loaderOf isfile ex (some rel) = some r := by
  unfold tryExport at h
  simp only at h
  split at h
  · rename_i r' hexact
    cases h
    split at hexact
    · exact .inl ⟨‹_›, hexact⟩
    · cases hexact
  · split at h
    · exact .inr ⟨_, startsWith_split ‹_›, h⟩
    · cases h

theorem tryExport_served {isfile : Str → Bool} {s : Str} {ex : Export} {path : Str} {r : Str × Str}
    (h : tryExport isfile s ex path = some r) : ServedFrom isfile (s, ex) path r.2 := by
  rcases tryExport_cases h with ⟨rfl, hl⟩ | ⟨rel, hp, hl⟩
  · cases ex with
    | dir d =>
      obtain ⟨_, h2, rfl⟩ := directoryLoader_eq_some_iff.mp (show directoryLoader isfile d none = some r from hl)
      exact ⟨h2, .inl ⟨rfl, rfl⟩⟩
    | file f => cases hl; exact ⟨rfl, .inl rfl⟩
    | pkg pd pp => cases hl
  · exact loader_prefix_spec hp hl

theorem loaderOf_name {isfile : Str → Bool} {ex : Export} {o : Option Str} {r : Str × Str}
    (h : loaderOf isfile ex o = some r) (hex : ∀ pd pp, ex ≠ .pkg pd pp) : r.1 = basename r.2 := by
  cases ex with
  | pkg pd pp => exact absurd rfl (hex pd pp)
  | file f => cases h; rfl
  | dir d => exact (directoryLoader_eq_some_iff.mp (show directoryLoader isfile d o = some r from h)).1

theorem tryExport_name_dir_file {isfile : Str → Bool} {s : Str} {ex : Export} {path : Str} {r : Str × Str}
    (h : tryExport isfile s ex path = some r) (hex : ∀ pd pp, ex ≠ .pkg pd pp) : r.1 = basename r.2 := by
  rcases tryExport_cases h with ⟨_, hl⟩ | ⟨_, _, hl⟩ <;> exact loaderOf_name hl hex

end Wz.Paths
