/-
C19 — the development server transports requests and responses faithfully (partial).
-/
import WzVerif.Model.Chunked
import WzVerif.Lemmas.Chunked
import WzVerif.Model.DevServer
import WzVerif.Lemmas.DevServer
import WzVerif.Gen.Framing
import WzVerif.Gen.RunWsgiFacts
import WzVerif.Gen.EnvKeys
import WzVerif.Model.DevServerRun
import WzVerif.Lemmas.DevServerRun
import WzVerif.Model.LimitedStream
import WzVerif.Lemmas.LimitedStream
namespace Wz.Props.C19
open Wz Wz.Chunked Wz.DevServer Wz.Gen.Framing

/-- bit `k` of `n` -/
def bit (n k : Nat) : Bool := (n / 2 ^ k) % 2 == 1

/-- the decision the model makes for combination `k` (see `Gen.Framing`) of status `code`:
method index `k / 8` (1 = HEAD), Content-Length present `(k / 4) % 2`, handler protocol `(k / 2) % 2`
(1 = HTTP/1.1); the request-line version `k % 2` is not consulted -/
def modelBit (code k : Nat) : Bool :=
  chunkedDecision ((k / 2) % 2 == 1) ((k / 4) % 2 == 1) (k / 8 == 1) code

def checkCombos (hdr frm code : Nat) : Nat → Bool
  | 0 => true
  | k + 1 => (bit hdr k == modelBit code k) && (bit frm k == modelBit code k) && checkCombos hdr frm code k

def checkStatuses : List Nat → List Nat → Nat → Bool
  | h :: hs, f :: fs, k + 1 =>
    checkCombos h f (statusLo + (nStatus - (k + 1))) nCombos && checkStatuses hs fs k
  | [], [], 0 => true
  | _, _, _ => false

/-- **framing_decision** (live table): for every status 100–599 × {GET, HEAD, POST} × Content-Length
present/absent × handler protocol {1.0, 1.1} × request version {1.0, 1.1}, the real handler sent
`Transfer-Encoding: chunked` — and chunk-framed the body — exactly when the model's decision says so. -/
theorem framing_table_matches_model :
    checkStatuses chunkedHeader bodyFramed nStatus = true := by
  -- The model's row for a status is a constant: a bit is set exactly for the combinations "handler
  -- speaks HTTP/1.1, no Content-Length, method not HEAD" (bits 2, 3, 18, 19), unless the status has no
  -- body. So the 12000 comparisons reduce to 24 symbolic ones and one pass over each table.
  let row (code : Nat) : Nat := if chunkedDecision true false false code then 786444 else 0
  have hbit : ∀ code k, modelBit code k =
      ((k / 2 % 2 == 1) && !(k / 4 % 2 == 1) && !(k / 8 == 1) && chunkedDecision true false false code) :=
    fun code k => chunkedDecision_eq _ _ _ code
  have hrow : ∀ code, checkCombos (row code) (row code) code nCombos = true := by
    intro code
    simp only [row, nCombos, checkCombos, hbit]
    cases chunkedDecision true false false code <;> decide
  have hall : ∀ k, k ≤ nStatus → ∀ hs, hs = (List.range' (statusLo + (nStatus - k)) k).map row →
      checkStatuses hs hs k = true := by
    intro k
    induction k with
    | zero => intro _ hs h; subst h; rfl
    | succ k ih =>
      intro hk hs h
      subst h
      have e : statusLo + (nStatus - (k + 1)) + 1 = statusLo + (nStatus - k) := by omega
      simp only [List.range'_succ, List.map_cons, checkStatuses, hrow, Bool.true_and, e]
      exact ih (by omega) _ rfl
  have h1 : chunkedHeader = (List.range' statusLo nStatus).map row := by decide +kernel
  have h2 : bodyFramed = chunkedHeader := by decide +kernel
  rw [h2]
  exact hall nStatus (Nat.le_refl _) _ (by rw [h1, Nat.sub_self, Nat.add_zero])

/-- **framing_decision** (the rule): chunked ⇔ HTTP/1.1 ∧ no Content-Length ∧ ¬HEAD ∧ ¬1xx ∧
status ∉ {204, 304}. -/
theorem framing_decision (protocol11 hasCl isHead : Bool) (code : Nat) :
    chunkedDecision protocol11 hasCl isHead code = true ↔
      protocol11 = true ∧ hasCl = false ∧ isHead = false ∧ ¬ (100 ≤ code ∧ code < 200) ∧
      code ≠ 204 ∧ code ≠ 304 := by
  cases protocol11 <;> cases hasCl <;> cases isHead <;> simp [chunkedDecision] <;> omega

example : chunkedDecision true false false 200 = true := by decide
example : chunkedDecision true false true 200 = false := by decide
example : chunkedDecision true false false 304 = false := by decide

/-! ### structure of the I/O calls (what the byte-list model of `rfile` presupposes) -/

/-- **The de-chunker reads with the blocking `read(n)`, and header values are only unfolded** — read
off the AST of the live `serving.py` on every run. `DechunkedInput` calls nothing on `self._rfile`
but `readline()` (size lines, terminators) and one `read(n)` for chunk payload: the model's
`rfile.read n` ("n bytes unless the stream ends") is `BufferedReader.read`, not `read1` / `recv`,
which would hand over only what has already arrived and make a chunk that is larger than the
handler's 8 KiB buffer, or that arrives in two TCP segments, look like a body that ended inside a
chunk. And in `make_environ`'s header loop the value is rewritten by `value.replace("\r\n", "")`
(and the comma-join) only — what `foldHeaders` / `header_folding` transcribe — so no other byte of
a latin-1 header value (`\x0b`, `\x0c`, `\x1c`–`\x1e`, `\x85`, …) is dropped. -/
theorem serving_io_structure :
    rfileMethodsAreReadAndReadline = true ∧ payloadReadIsBlocking = true ∧ sizeLineIsReadline = true ∧
    unfoldIsReplaceCrlf = true := by
  decide

/-- **Size lines round-trip**: the size line a client writes for a chunk of `n` bytes — lower or upper
case hex, terminated by CRLF or a bare LF — is read back as `n` by `read_chunk_len`
(Python's `int(line.strip(), 16)`), for every `n`. -/
theorem chunk_size_line_roundtrip (upper : Bool) (n : Nat) (t : Term) :
    chunkLenOf (hexOf upper n ++ t.bytes) = .ok n :=
  chunkLenOf_hexLine upper n t

example : chunkLenOf (hexOf true 255 ++ Term.lf.bytes) = .ok 255 := by rfl

/-- **dechunk_roundtrip**: for every list of non-empty chunks, each with its own terminator style
(CRLF / LF) and hex case, every terminator of the zero chunk, whatever follows the body on the
connection (`tail`), and **every** sequence of read sizes, the reads on the de-chunking stream return
exactly what the same reads on `BytesIO(payload)` return: consecutive slices of the joined chunk data,
then empty reads (EOF). No size line, terminator or trailing byte is ever delivered, none of the
payload is lost, and no read raises. -/
theorem dechunk_roundtrip (chunks : List (Bytes × Term × Bool)) (hne : ∀ c ∈ chunks, c.1 ≠ [])
    (tf : Term) (tail : Bytes) (sizes : List Nat) :
    (readMany { wire := encode chunks tf ++ tail } sizes).1 = (slices (payload chunks) sizes).map .ok :=
  readMany_repC tf tail sizes _ _ (RepC.start tf tail chunks hne)

/-- ... hence the concatenation of everything read is the payload (all of it once at least
`|payload|` bytes were asked for), whatever the read sizes were. -/
theorem dechunk_roundtrip_concat (chunks : List (Bytes × Term × Bool)) (hne : ∀ c ∈ chunks, c.1 ≠ [])
    (tf : Term) (tail : Bytes) (sizes : List Nat) :
    ∃ outs : List Bytes, (readMany { wire := encode chunks tf ++ tail } sizes).1 = outs.map .ok ∧
      outs.flatten = (payload chunks).take sizes.sum ∧
      ((payload chunks).length ≤ sizes.sum → outs.flatten = payload chunks) := by
  refine ⟨slices (payload chunks) sizes, dechunk_roundtrip chunks hne tf tail sizes, slices_flatten _ _, ?_⟩
  intro h
  rw [slices_flatten, List.take_of_length_le h]

example : (readMany { wire := encode [([1, 2, 3], .crlf, false), ([4, 5], .lf, true)] .crlf ++ [71, 69, 84] }
    [2, 2, 5, 1]).1 = [.ok [1, 2], .ok [3, 4], .ok [5], .ok []] := by rfl

/-- **Only OSError escapes, only received bytes are delivered, EOF only after a final chunk** — for
*every* wire content (well-formed or not), every state of the stream and every read size:
`readinto` raises nothing but OSError; the bytes it returns were copied, in order, from the part of
the wire it consumed (never stale or invented bytes — the defect repaired by 68c4de0); it never
returns more than asked; and it returns fewer bytes than asked only once the final chunk was seen,
which in turn requires a size line that reads as 0 somewhere in the consumed wire. A body that is
truncated, or whose framing is damaged, therefore never ends in a clean end-of-body: reading on
raises OSError. -/
theorem dechunk_safety (st : DState) (size : Nat) :
    (∀ e, (readinto st size).1 = .error e → e = "OSError") ∧
    (∃ pre, st.wire = pre ++ (readinto st size).2.wire ∧
      ∀ out, (readinto st size).1 = .ok out → out.Sublist pre ∧ out.length ≤ size) ∧
    (∀ out, (readinto st size).1 = .ok out → out.length < size → (readinto st size).2.done = true) ∧
    ((readinto st size).2.done = true → st.done = true ∨
      ∃ a line b, st.wire = a ++ line ++ b ∧ chunkLenOf line = .ok 0) := by
  have h := readinto_facts st size
  refine ⟨h.err, ?_, h.eof, h.fin⟩
  obtain ⟨pre, h1, h2⟩ := h.prov
  refine ⟨pre, h1, fun out ho => ?_⟩
  obtain ⟨d, hd1, hd2⟩ := h2 out ho
  simp only [List.nil_append] at hd1
  subst hd1
  exact ⟨hd2, h.le _ ho (by simp)⟩

/-- **dechunk_malformed_error** — the three ways chunk framing can be broken, each for every state
and wire that exhibits it and every positive read size:
(a) a size line that is not a hexadecimal number (or is negative) at a chunk boundary,
(b) the connection ending inside a chunk before the bytes this read needs have arrived,
(c) chunk data that is not followed by a line terminator
— each makes the read raise OSError (and, by `dechunk_safety`, nothing but received chunk bytes was
or will be delivered). -/
theorem dechunk_malformed_error (st : DState) (size : Nat) (hsize : 0 < size) (hnd : st.done = false) :
    (st.len = 0 → (∃ e, chunkLenOf (readline st.wire).1 = .error e) →
      (readinto st size).1 = .error "OSError") ∧
    (0 < st.len → st.wire.length < min size st.len → (readinto st size).1 = .error "OSError") ∧
    (0 < st.len → st.len ≤ size → st.len ≤ st.wire.length →
      isTerminator (readline (st.wire.drop st.len)).1 = false → (readinto st size).1 = .error "OSError") := by
  exact ⟨fun hl ⟨e, he⟩ => readinto_bad_size_line hsize hnd hl he,
    fun hl hshort => readinto_short_chunk hsize hnd hl hshort,
    fun hl hle hwl hterm => readinto_missing_terminator hnd hl hle hwl hterm⟩

-- (a) `zz`, (b) `64\r\n0123456789` read(20) — the replay of F19 —, (c) `2\r\nabXX`
example : (readinto { wire := [122, 122, 13, 10] } 5).1 = .error "OSError" := by rfl
example : (readinto { wire := [54, 52, 13, 10, 48, 49, 50, 51, 52, 53, 54, 55, 56, 57] } 20).1
    = .error "OSError" := by rfl
example : (readinto { wire := [50, 13, 10, 97, 98, 88, 88] } 2).1 = .error "OSError" := by rfl

/-- the pieces an application produced, as the chunk list the writer puts on the wire: empty pieces
are skipped, sizes in lower-case hex, CRLF everywhere -/
def asChunks (pieces : List Bytes) : List (Bytes × Term × Bool) :=
  (pieces.filter (fun d => !d.isEmpty)).map (fun d => (d, Term.crlf, false))

theorem bodyWire_chunked (pieces : List Bytes) : bodyWire true pieces = encode (asChunks pieces) .crlf :=
  RunWsgi.bodyWire_eq_encode pieces

/-- **response_wire_roundtrip**: the body the response writer puts on the wire when it chose chunked
framing, read back through the de-chunking state machine with any read sizes, is exactly the
concatenation of the pieces the application produced (empty pieces included, they contribute
nothing); without chunked framing the wire body *is* that concatenation. -/
theorem response_wire_roundtrip (pieces : List Bytes) (tail : Bytes) (sizes : List Nat) :
    (readMany { wire := bodyWire true pieces ++ tail } sizes).1 = (slices pieces.flatten sizes).map .ok ∧
    bodyWire false pieces = pieces.flatten := by
  constructor
  · have hne : ∀ c ∈ asChunks pieces, c.1 ≠ [] := RunWsgi.chunksOf_ne pieces
    have hp : payload (asChunks pieces) = pieces.flatten := RunWsgi.payload_chunksOf pieces
    rw [bodyWire_chunked, dechunk_roundtrip _ hne, hp]
  · exact RunWsgi.bodyWire_unchunked pieces

example : bodyWire true [[97, 98], [], [99]] = [50, 13, 10, 97, 98, 13, 10, 49, 13, 10, 99, 13, 10, 48, 13, 10, 13, 10] := by
  rfl

/-! ### request headers -> environ (`make_environ`; input = the headers as http.server parsed them) -/

/-- **Underscore names never reach the environ**: the folded environ is the same as if the headers
whose name contains `_` had not been sent — `User_Agent` cannot shadow or extend `User-Agent`. -/
theorem underscore_headers_ignored (hs : List (Str × Str)) :
    foldHeaders hs = foldHeaders (hs.filter fun h => !h.1.contains '_') :=
  foldl_foldHeader_filter hs []

/-- **Repeated headers are comma-joined in order**: for every header list and every environ name `k`
other than CONTENT_TYPE / CONTENT_LENGTH, `environ["HTTP_" + k]` is absent when no dash-named header
maps to `k`, and otherwise is the first such value followed by `"," + value` for each later one
(values with embedded line folds `\r\n` removed) — nothing else contributes to it. -/
theorem header_folding (hs : List (Str × Str)) (k : Str) (hk : isContentKey k = false) :
    (foldHeaders hs).get ("HTTP_".toList ++ k) =
      match valuesFor k hs with
      | [] => none
      | v :: vs => some (v ++ vs.flatMap (fun x => ',' :: x)) := by
  have h := foldl_foldHeader_get k hk hs []
  simp only [foldHeaders, h]
  cases valuesFor k hs with
  | nil => rfl
  | cons v vs =>
    show joinFrom (joinStep none v) vs = _
    exact joinFrom_some v vs

example : foldHeaders [("X-A".toList, "1".toList), ("X_A".toList, "2".toList), ("x-a".toList, "3".toList)]
    = [("HTTP_X_A".toList, "1,3".toList)] := by
  repeat rw [String.toList_ofList]
  decide

/-- **environ_path_roundtrip** (origin-form). For every text `cs`, every percent-encoding `l` of the
UTF-8 bytes of `cs` (each byte literal — printable ASCII other than `%`, `?`, `#` — or `%XY` in either
hex case), an optional query `q` of printable ASCII without `#`, every method, version and header list:
if the path does not start with a second slash, the environ's PATH_INFO is `"/" + cs` tunnelled through
latin-1 — the application's `PATH_INFO.encode("latin-1")` is exactly the UTF-8 of the percent-decoded
path the client sent, `.decode("utf-8")` gives `"/" ++ cs` — QUERY_STRING is the query verbatim, and
REQUEST_METHOD / SERVER_PROTOCOL are passed through. (`http.server` hands such a target to the handler
unchanged: `httpServerPath`.) -/
theorem environ_path_roundtrip (cs : List Char) (l : List (UInt8 × PEnc)) (hv : ValidEnc l)
    (hl : l.map (·.1) = utf8Enc cs) (hslash : (pctEncode l).head? ≠ some '/')
    (q : Str) (hasQ : Bool) (hq : ∀ c ∈ q, c ≠ '#' ∧ domChar c = true)
    (cmd ver : Str) (hs : List (Str × Str)) :
    httpServerPath ('/' :: pctEncode l ++ (if hasQ then '?' :: q else []))
      = '/' :: pctEncode l ++ (if hasQ then '?' :: q else []) ∧
    ∃ e, makeEnviron cmd ('/' :: pctEncode l ++ (if hasQ then '?' :: q else [])) ver hs = some e ∧
      Py.latin1Enc e.pathInfo = some (utf8Enc ('/' :: cs)) ∧
      (Py.latin1Enc e.pathInfo).bind utf8Dec? = some ('/' :: cs) ∧
      e.query = (if hasQ then q else []) ∧ e.method = cmd ∧ e.protocol = ver := by
  have hsplit := urlsplit_origin (pctEncode l) q hasQ (pctEncode_chars hv) hslash hq
  have hpi := latin1Enc_unquoteDance_pctEncode cs l hv hl
  refine ⟨httpServerPath_single ?_, _, makeEnviron_of_split hsplit, hpi, ?_, ?_, rfl, rfl⟩
  · cases hp : pctEncode l with
    | nil => cases hasQ <;> simp
    | cons c t => rw [hp] at hslash; simpa using hslash
  · show (Py.latin1Enc (unquoteDance ('/' :: pctEncode l))).bind utf8Dec? = _
    rw [hpi, Option.bind_some, utf8Dec_utf8Enc]
  · cases hasQ with
    | false => rfl
    | true => exact dance_query q hq

/-- a path with a space, `é` and `日`: `/a%20b/%C3%A9` … -/
example : (makeEnviron "GET".toList "/a%20b/%C3%A9?q=%20".toList "HTTP/1.1".toList []).map
    (fun e => (e.pathInfo, e.query)) = some ("/a b/\u00c3\u00a9".toList, "q=%20".toList) := by
  -- the kernel evaluates `String.toList` of a literal in time quadratic in its length;
  -- `String.toList_ofList` turns the literal into its list of characters without evaluation
  repeat rw [String.toList_ofList]
  decide +kernel

/-- **environ_path_roundtrip** (absolute-form). For `scheme://netloc/path?query` the same holds for
the path — which here may start with `//` — and `environ["HTTP_HOST"]` is the target's authority,
overriding any Host header. -/
theorem environ_absolute_form (sch n : Str) (cs : List Char) (l : List (UInt8 × PEnc)) (hv : ValidEnc l)
    (hl : l.map (·.1) = utf8Enc cs) (hs0 : headIsAlpha sch = true) (hsc : sch.all isSchemeChar = true)
    (hn : ∀ c ∈ n, netlocChar c = true) (hn0 : n ≠ [])
    (q : Str) (hasQ : Bool) (hq : ∀ c ∈ q, c ≠ '#' ∧ domChar c = true)
    (cmd ver : Str) (hs : List (Str × Str)) :
    ∃ e, makeEnviron cmd (sch ++ ':' :: ('/' :: '/' :: (n ++ ('/' :: pctEncode l ++ (if hasQ then '?' :: q else [])))))
        ver hs = some e ∧
      Py.latin1Enc e.pathInfo = some (utf8Enc ('/' :: cs)) ∧
      e.query = (if hasQ then q else []) ∧ e.headers.get "HTTP_HOST".toList = some n := by
  have hsplit := urlsplit_absolute sch n (pctEncode l) q hasQ hs0 hsc hn (pctEncode_chars hv) hq
  have hpi := latin1Enc_unquoteDance_pctEncode cs l hv hl
  have hsne : sch ≠ [] := by intro e; subst e; simp [headIsAlpha] at hs0
  have h1 : (sch.map lowerAscii).isEmpty = false := by
    cases sch with
    | nil => exact absurd rfl hsne
    | cons => rfl
  have h2 : n.isEmpty = false := by
    cases n with
    | nil => exact absurd rfl hn0
    | cons => rfl
  refine ⟨_, makeEnviron_of_split hsplit, ?_, ?_, ?_⟩
  · simp only [h1, Bool.false_and, Bool.false_eq_true, if_false]; exact hpi
  · cases hasQ with
    | false => rfl
    | true => exact dance_query q hq
  · simp only [h1, h2, Bool.not_false, Bool.and_self, if_true, Env.get_set_same]

example : (makeEnviron "GET".toList "http://abs.example:8080//p/%2F?x=1".toList "HTTP/1.1".toList
    [("Host".toList, "other".toList)]).map (fun e => (e.pathInfo, e.query, e.headers))
    = some ("//p//".toList, "x=1".toList, [("HTTP_HOST".toList, "abs.example:8080".toList)]) := by
  repeat rw [String.toList_ofList]
  decide +kernel

/-- **Known finding F19b, in the model**: the property asks that the application sees exactly the
percent-decoded path the client sent, also for `//` prefixes. At full strength this is false: an
origin-form target that starts with `//` reaches the application with a single leading slash.
CPython ≥ 3.12's `http.server` collapses the slashes before the handler runs (`httpServerPath`), and
`make_environ`'s own `//` repair (`"/" + netloc + path`) produces the same single slash when it is
given the target unchanged — `environ_path_roundtrip` excludes exactly these targets. -/
theorem environ_path_double_slash_false :
    ¬ (∀ (target : Str) (e : Environ), target.head? = some '/' → inDomain target = true →
        makeEnviron "GET".toList (httpServerPath target) "HTTP/1.1".toList [] = some e →
        Py.latin1Enc e.pathInfo = some (pctDecode (target.takeWhile (· != '?')))) := by
  intro h
  have hmk : makeEnviron "GET".toList (httpServerPath "//a".toList) "HTTP/1.1".toList []
      = some { method := "GET".toList, pathInfo := "/a".toList, query := [], protocol := "HTTP/1.1".toList,
               rawUri := "/a".toList, headers := [], terminated := false } := by rfl
  have := h "//a".toList _ (by decide) (by decide) hmk
  revert this
  decide +kernel

/-- the same single slash without http.server's help: werkzeug's repair on the unmodified target -/
example : (makeEnviron "GET".toList "//double/slash?x=1".toList "HTTP/1.1".toList []).map (·.pathInfo)
    = some "/double/slash".toList := by
  repeat rw [String.toList_ofList]
  decide +kernel

/-- **chunked_sets_terminated**: `wsgi.input_terminated` is set, and `wsgi.input` replaced by the
de-chunking stream, exactly when the folded `Transfer-Encoding` value, stripped and lower-cased, is
`chunked`; in particular a single dash-named `Transfer-Encoding: chunked` header (any letter case of
name and value, underscore look-alikes ignored) sets it, and no such header leaves the input alone. -/
theorem chunked_sets_terminated (cmd path ver : Str) (hs : List (Str × Str)) (e : Environ)
    (h : makeEnviron cmd path ver hs = some e) :
    (e.terminated = isChunkedRequest (foldHeaders hs)) ∧
    (∀ v, valuesFor "TRANSFER_ENCODING".toList hs = [v] → lowerStr (Py.strip v) = "chunked".toList →
      e.terminated = true) ∧
    (valuesFor "TRANSFER_ENCODING".toList hs = [] → e.terminated = false) := by
  have ht := makeEnviron_terminated h
  have hc : isContentKey "TRANSFER_ENCODING".toList = false := by
    unfold isContentKey; repeat rw [String.toList_ofList]
    rfl
  have hf := header_folding hs "TRANSFER_ENCODING".toList hc
  have hk : "HTTP_".toList ++ "TRANSFER_ENCODING".toList = "HTTP_TRANSFER_ENCODING".toList := by
    repeat rw [String.toList_ofList]
    rfl
  rw [hk] at hf
  refine ⟨ht, fun v hv hc => ?_, fun hv => ?_⟩
  · rw [ht, isChunkedRequest, hf, hv]
    simp [hc]
  · rw [ht, isChunkedRequest, hf, hv]

example : (makeEnviron "POST".toList "/".toList "HTTP/1.1".toList
    [("transfer-encoding".toList, " Chunked ".toList), ("Transfer_Encoding".toList, "x".toList)]).map (·.terminated)
    = some true := by
  repeat rw [String.toList_ofList]
  decide +kernel

/-- **Headers exactly once, before the first body byte; zero chunk exactly when chunked**: for every
sequence of `write()` calls and yielded pieces — empty pieces, no pieces at all, an empty header
list — the wire is the head (status line, `Server`/`Date`, the application's headers in order,
`Transfer-Encoding: chunked` iff the framing decision says so, `Connection: close`, blank line)
followed by the framed body. -/
theorem response_head_once (r : Resp) (written yielded : List Bytes) :
    runWsgi r written yielded = r.head ++ bodyWire r.chunked (written ++ yielded) :=
  runWsgi_closed r written yielded

/-- **response_wire_exact**: when the status line and header lines contain no CR (and header names no
`:`), parsing the bytes on the wire — lines up to the first empty line, then the body — returns
exactly the status line and, in order, the headers the application produced (between the server's
`Server`/`Date` and the writer's framing / `Connection: close` lines); and the body, de-chunked with
any read sizes when the response is chunked, is exactly the concatenation of the pieces the
application wrote and yielded. -/
theorem response_wire_exact (r : Resp) (written yielded : List Bytes)
    (hclean : ∀ l ∈ r.headLines, 13 ∉ l ∧ l ≠ []) :
    parseHead (r.headLines.length + 1) (runWsgi r written yielded)
      = some (r.headLines, bodyWire r.chunked (written ++ yielded)) ∧
    (∀ k v : Str, 58 ∉ strBytes k → splitHeaderLine (strBytes k ++ [58, 32] ++ strBytes v) = (strBytes k, strBytes v)) ∧
    (r.chunked = true → ∀ tail sizes,
      (readMany { wire := bodyWire true (written ++ yielded) ++ tail } sizes).1
        = (slices (written ++ yielded).flatten sizes).map .ok) ∧
    (r.chunked = false → bodyWire r.chunked (written ++ yielded) = (written ++ yielded).flatten) := by
  refine ⟨?_, fun k v hk => splitHeaderLine_render _ _ hk, ?_, ?_⟩
  · rw [runWsgi_closed]
    unfold Resp.head
    exact parseHead_lines r.headLines _ hclean
  · intro _ tail sizes
    exact (response_wire_roundtrip (written ++ yielded) tail sizes).1
  · intro hc
    rw [hc]
    exact (response_wire_roundtrip (written ++ yielded) [] []).2

example : runWsgi ⟨"HTTP/1.1".toList, "200 OK".toList, [], [], false⟩ [] []
    = strBytes "HTTP/1.1 200 OK\r\nTransfer-Encoding: chunked\r\nConnection: close\r\n\r\n0\r\n\r\n".toList := by
  repeat rw [String.toList_ofList]
  decide +kernel

/-- **Every response ends the connection**: whatever the application's status and headers, the last
header line of the head is `Connection: close` (the development server does not do keep-alive: a
pipelined second request on the connection is never answered, and bytes the application left unread
can never be mistaken for a next request line). -/
theorem response_always_closes (r : Resp) :
    r.headLines.getLast? = some (strBytes "Connection: close".toList) := by
  have key : ∀ (A : List Bytes) (B : List (Str × Str)) (x : Str × Str) (f : Str × Str → Bytes),
      (A ++ (B ++ [x]).map f).getLast? = some (f x) := by
    intro A B x f
    simp
  unfold Resp.headLines
  rw [key]
  repeat rw [String.toList_ofList]
  decide

open Wz.RunWsgi

/-- **Headers exactly once, before the first body byte; every body byte inside exactly one frame, in
order; the terminating chunk last and only when chunked** — for *every* application behaviour
(`start_response` called any number of times with or without `exc_info`, `write()` before or after it,
any mix of `write()` calls and yielded pieces, empty pieces, exceptions raised anywhere, a `close`
method or none) and every fallback application: the bytes on the wire are the interim response(s),
then — if anything was sent at all — one head built from the status and headers that were set when
the first `write` happened (`Transfer-Encoding: chunked` iff the framing decision says so), then the
frames of the successful `write` calls in order (`frame`: nothing for an empty piece; `size CRLF data
CRLF` when chunked; the data itself otherwise), then possibly the zero chunk, which implies chunked
framing. Nothing else is ever written. -/
theorem run_wsgi_wire_structure (c : Conf) (pre : Bytes) (expect : Bool) (a fb : AppRun) :
    (runHandler c pre expect a fb).wire = (runHandler c pre expect a fb).final.wire ∧
    ((runHandler c pre expect a fb).final.statusSent = none →
      (runHandler c pre expect a fb).wire = startWire pre expect) ∧
    (∀ s, (runHandler c pre expect a fb).final.statusSent = some s →
      ∃ h, (runHandler c pre expect a fb).final.headersSent = some h ∧
        (runHandler c pre expect a fb).final.chunk = (respOf c s h).chunked ∧
        (runHandler c pre expect a fb).wire = startWire pre expect ++ (respOf c s h).head
          ++ framesOf (runHandler c pre expect a fb).final.chunk (runHandler c pre expect a fb).final.pieces
          ++ (if (runHandler c pre expect a fb).final.done then zeroChunk else [])) ∧
    ((runHandler c pre expect a fb).final.done = true → (runHandler c pre expect a fb).final.chunk = true) := by
  obtain ⟨hw, hf, _⟩ := runHandler_spec c pre expect a fb
  refine ⟨hw, fun hn => ?_, fun s hs => ?_, hf.done_chunk⟩
  · rw [hw]; exact (hf.unsent hn).1
  · obtain ⟨h, e1, e2, e3⟩ := hf.sent s hs
    exact ⟨h, e1, e2, by rw [hw]; exact e3⟩

/-- an application that replaces the status through `exc_info` before writing, writes an empty and a
non-empty piece and yields another one, on HTTP/1.1 without Content-Length -/
example : (runHandler ⟨"HTTP/1.1".toList, [], false⟩ [] false
    { call := [.start "200 OK".toList [] false, .start "201 Created".toList [("A".toList, "1".toList)] true,
               .emit [], .emit [97]], iter := [.emit [98, 99]] } { call := [] }).wire
    = strBytes "HTTP/1.1 201 Created\r\nA: 1\r\nTransfer-Encoding: chunked\r\nConnection: close\r\n\r\n1\r\na\r\n2\r\nbc\r\n0\r\n\r\n".toList := by
  repeat rw [String.toList_ofList]
  decide +kernel

/-- **A run that completes is a complete response**: when no exception escapes, a head *was* sent
(also when the application wrote and yielded nothing), the terminating chunk is there exactly when
the response is chunked, the wire is `head ++ bodyWire` — so `response_wire_exact` /
`response_wire_roundtrip` apply: parsing the head gives back status and headers, de-chunking the body
with any read sizes gives the pieces — and the pieces are exactly the data of the application's
`write()` calls and yielded pieces, in order (`execute`'s closing `write(b"")` adds nothing). -/
theorem run_wsgi_complete_response (c : Conf) (pre : Bytes) (expect : Bool) (a fb : AppRun)
    (hok : (runHandler c pre expect a fb).failed = false) :
    ∃ s h, (runHandler c pre expect a fb).final.statusSent = some s ∧
      (runHandler c pre expect a fb).final.headersSent = some h ∧
      (runHandler c pre expect a fb).final.done = (respOf c s h).chunked ∧
      (runHandler c pre expect a fb).wire = startWire pre expect ++ (respOf c s h).head
        ++ bodyWire (respOf c s h).chunked (runHandler c pre expect a fb).final.pieces ∧
      (runHandler c pre expect a fb).final.pieces.flatten = (emitsOf (a.call ++ a.iter)).flatten := by
  obtain ⟨_, _, hsent, _⟩ := run_wsgi_wire_structure c pre expect a fb
  obtain ⟨hsome, hdone, hpieces⟩ := (runHandler_spec c pre expect a fb).2.2 hok
  obtain ⟨s, hs⟩ := Option.isSome_iff_exists.mp hsome
  obtain ⟨h, e1, e2, e3⟩ := hsent s hs
  refine ⟨s, h, hs, e1, by rw [hdone, e2], ?_, hpieces⟩
  rw [e3, bodyWire_frames, hdone, e2]
  simp [List.append_assoc]

example : (runHandler ⟨"HTTP/1.1".toList, [], false⟩ [] false
    { call := [.start "204 No Content".toList [("A".toList, "1".toList)] false] } { call := [] }).wire
    = strBytes "HTTP/1.1 204 No Content\r\nA: 1\r\nConnection: close\r\n\r\n".toList := by
  repeat rw [String.toList_ofList]
  decide +kernel

/-- **An error after the head is never papered over** (full strength since fix bc55b83). If the
application's run ends with an exception after a head was sent — with any header list, the empty one
included — `execute(InternalServerError())` adds nothing (its `start_response` hits "Headers already
set") and no terminating chunk is written: the client of a chunked response sees a body that does not
end (`truncated_response_is_detected`: reading on raises OSError), the client of a Content-Length
response a short body. -/
theorem run_wsgi_error_after_head (c : Conf) (pre : Bytes) (expect : Bool) (a fb : AppRun)
    (st1 : HState) (cl : Nat)
    (hex : execute c { wire := startWire pre expect } a = (st1, cl, true))
    (hsent : st1.statusSent.isSome = true)
    (s' : Str) (h' : List (Str × Str)) (rest : List Ev) (hfb : fb.call = .start s' h' false :: rest) :
    (runHandler c pre expect a fb).wire = st1.wire ∧ (runHandler c pre expect a fb).final.done = false ∧
    (runHandler c pre expect a fb).failed = true := by
  obtain ⟨x, rfl⟩ := execute_raised_conc hex
  cases x with
  | unsent o => cases hsent
  | sent s h ps =>
    -- nothing is rolled back, and `start_response` of the fallback hits "Headers already set"
    rw [runHandler_raised fb hex, show (Abs.sent s h ps).rollback = .sent s h ps from rfl,
      execute_sent_start c _ s h ps hfb]
    exact ⟨rfl, rfl, rfl⟩

example : (runHandler ⟨"HTTP/1.1".toList, [], false⟩ [] false
    { call := [.start "200 OK".toList [("A".toList, "1".toList)] false], iter := [.emit [97]], iterRaises := true }
    { call := [.start "500 X".toList [("B".toList, "2".toList)] false], iter := [.emit [98]] }).wire
    = strBytes "HTTP/1.1 200 OK\r\nA: 1\r\nTransfer-Encoding: chunked\r\nConnection: close\r\n\r\n1\r\na\r\n".toList := by
  repeat rw [String.toList_ofList]
  decide +kernel

/-- **What the client of a failed chunked response sees**: the wire after an error behind the head is
`head ++ framesOf true pieces` with no terminating chunk (`run_wsgi_error_after_head`). Read back
through the de-chunking state machine — any sequence of reads that stays inside the data the
application managed to write returns exactly that data, in order; the first read that asks for a byte
beyond it raises OSError. The response can not be mistaken for a complete one: there is no short read
and no clean end of body, whatever bytes the pieces contain (`0\r\n\r\n` inside a piece included). -/
theorem truncated_response_is_detected (pieces : List Bytes) (sizes : List Nat) (n : Nat)
    (hin : sizes.sum ≤ pieces.flatten.length) (hout : pieces.flatten.length < sizes.sum + n) :
    (readMany { wire := framesOf true pieces } (sizes ++ [n])).1
      = (slices pieces.flatten sizes).map .ok ++ [.error "OSError"] := by
  have hp := RunWsgi.payload_chunksOf pieces
  rw [framesOf_eq_openEnc, ← hp, ← List.append_nil (openEnc _)]
  exact readMany_cut sizes _ _ n (Rep.start _ (chunksOf_ne pieces)) (by rw [hp]; exact hin) (by rw [hp]; exact hout)

example : (readMany { wire := framesOf true [[97, 98], [48, 13, 10, 13, 10]] } [3, 4, 1]).1
    = [.ok [97, 98, 48], .ok [13, 10, 13, 10], .error "OSError"] := by rfl

/-- **Regression for F19c (repaired by bc55b83)**: a response started with an **empty** header list
whose application then raises is left unterminated like any other — before the repair the truthiness
tests on `headers_set` / `headers_sent` let `execute(InternalServerError())` through, the error page
was appended as one more chunk and the zero chunk written (`…1\r\na\r\n1\r\nb\r\n0\r\n\r\n`). -/
theorem run_wsgi_empty_header_list_regression :
    (runHandler ⟨"HTTP/1.1".toList, [], false⟩ [] false
      { call := [.start "200 OK".toList [] false], iter := [.emit [97]], iterRaises := true }
      { call := [.start "500 X".toList [("B".toList, "2".toList)] false], iter := [.emit [98]] }).wire
      = strBytes "HTTP/1.1 200 OK\r\nTransfer-Encoding: chunked\r\nConnection: close\r\n\r\n1\r\na\r\n".toList ∧
    (runHandler ⟨"HTTP/1.1".toList, [], false⟩ [] false
      { call := [.start "200 OK".toList [] false], iter := [.emit [97]], iterRaises := true }
      { call := [.start "500 X".toList [("B".toList, "2".toList)] false], iter := [.emit [98]] }).final.done = false := by
  repeat rw [String.toList_ofList]
  decide +kernel

/-- **An error before anything was sent gives the fallback response, whole**: the closure variables
are rolled back and `InternalServerError()` runs as if it had been the application — the wire is
exactly what `execute` writes for it on a clean slate (after the interim responses). -/
theorem run_wsgi_error_before_head (c : Conf) (pre : Bytes) (expect : Bool) (a fb : AppRun)
    (st1 : HState) (cl : Nat)
    (hex : execute c { wire := startWire pre expect } a = (st1, cl, true))
    (hsent : st1.statusSent = none) :
    (runHandler c pre expect a fb).wire = (execute c { wire := startWire pre expect } fb).1.wire ∧
    (runHandler c pre expect a fb).closeCalls = cl := by
  obtain ⟨x, rfl⟩ := execute_raised_conc hex
  rw [runHandler_raised fb hex]
  cases x with
  | unsent o => exact ⟨rfl, rfl⟩
  | sent s h ps => cases hsent

example : (runHandler ⟨"HTTP/1.1".toList, [], false⟩ [] true
    { call := [.emit [97]] }   -- write() before start_response: AssertionError
    { call := [.start "500 X".toList [("Content-Length".toList, "1".toList)] false], iter := [.emit [98]] }).wire
    = strBytes "HTTP/1.1 100 Continue\r\n\r\nHTTP/1.1 500 X\r\nContent-Length: 1\r\nConnection: close\r\n\r\nb".toList := by
  repeat rw [String.toList_ofList]
  decide +kernel

/-- **`close()` of the application's iterable is called exactly once** when the application call
returned (whether or not the iteration or the writer failed afterwards) and the iterable has the
method; never when the call itself raised; the fallback's iterable is not counted. -/
theorem run_wsgi_close_once (c : Conf) (pre : Bytes) (expect : Bool) (a fb : AppRun) :
    (runHandler c pre expect a fb).closeCalls =
      if a.closable && !((runEvs c { wire := startWire pre expect } a.call).2 || a.callRaises) then 1 else 0 := by
  rw [runHandler_closeCalls, execute_closeCalls]

/-! ### structure of `run_wsgi`'s source that the state machine transcribes (AST facts, every run) -/

open Wz.Gen.RunWsgiFacts in
/-- **The state machine is the code**: `run_wsgi` starts with
`if self.headers.get("Expect", "").lower().strip() == "100-continue": write(b"HTTP/1.1 100 Continue\r\n\r\n")`
(`continueLine`); `write` asserts that status and headers are set, sends status line and headers only
inside `if status_sent is None:` and always ends the head with `Connection: close`; its only socket
writes are the size line, `\r\n`, the data, `\r\n`; `start_response` tests `exc_info`, then
`headers_sent is not None` resp. `headers_set is not None` (identity tests since bc55b83, F19c); `execute`
calls the application outside its `try`, closes with `if headers_sent is None: write(b"")` and
`if chunk_response: write(b"0\r\n\r\n")` (`zeroChunk`), and calls `application_iter.close()` exactly
in its `finally`; the error path rolls `status_set` / `headers_set` back only when nothing was sent and
runs `execute(InternalServerError())` with every exception swallowed. -/
theorem run_wsgi_source_structure :
    expectTest = "self.headers.get('Expect', '').lower().strip() == '100-continue'" ∧
    continueLiteral = continueLine ∧ zeroChunkLiteral = zeroChunk ∧
    writeAsserts = ["status_set is not None", "headers_set is not None", "isinstance(data, bytes)"] ∧
    sentOnlyWhenNone = true ∧ connectionCloseAlways = true ∧
    wfileWritesInWrite = ["b'\\r\\n'", "b'\\r\\n'", "data", "hex(len(data))[2:].encode()"] ∧
    startResponseTests = ["exc_info", "headers_set is not None", "headers_sent is not None"] ∧
    appCallOutsideTry = true ∧ closingWriteTest = "headers_sent is None" ∧ terminatorTest = "chunk_response" ∧
    closeInFinally = true ∧ rollbackOnlyWhenUnsent = true ∧ fallbackIsInternalServerError = true ∧
    fallbackErrorsSwallowed = true := by
  refine ⟨rfl, ?_, rfl, rfl, rfl, rfl, rfl, rfl, rfl, rfl, rfl, rfl, rfl, rfl, rfl⟩
  rw [continueLine, String.toList_ofList]
  decide +kernel

/-- **A chunked body is never cut by a Content-Length and never replaced by the empty stream**: when
`make_environ` marked the input as terminated (it did so exactly for `Transfer-Encoding: chunked`,
`chunked_sets_terminated`), `wsgi.get_input_stream` — whatever CONTENT_LENGTH text the client sent
next to it, whatever the letter case of the coding, with or without `safe_fallback` — hands the
application the de-chunking stream itself (no maximum), or that stream under
`LimitedStream(max, is_max=True)`, or refuses with 413 because the *declared* length exceeds the
maximum; never a `LimitedStream` of the declared length and never `BytesIO()`. -/
theorem chunked_body_not_cut_by_content_length (cl : Option (List Char)) (teIsLowerChunked safe : Bool)
    (max : Option Nat) :
    (max = none → LS.getInputStream cl teIsLowerChunked true max safe = .raw) ∧
    (∀ m, max = some m → LS.getInputStream cl teIsLowerChunked true max safe = .limited m true ∨
      LS.getInputStream cl teIsLowerChunked true max safe = .tooLarge) ∧
    (teIsLowerChunked = true → ∀ m, max = some m →
      LS.getInputStream cl teIsLowerChunked true max safe = .limited m true) := by
  -- the input is terminated: of the five rows of the decision only `tooLarge`, `maxed`, `raw` remain
  have h := LS.getInputStream_chooses cl teIsLowerChunked true max safe
  have hc : teIsLowerChunked = true → LS.getContentLength cl teIsLowerChunked = none :=
    fun e => (LS.getContentLength_eq_none cl _).mpr (Or.inl e)
  generalize LS.getInputStream cl teIsLowerChunked true max safe = c at h
  generalize LS.getContentLength cl teIsLowerChunked = n at h hc
  refine ⟨?_, ?_, ?_⟩
  · intro h1; cases h <;> simp_all
  · intro m h1; cases h <;> simp_all
  · intro ht m h1; cases h <;> simp_all

example : LS.getInputStream (some ['3']) false true none true = .raw := by decide

/-- **Every branch of `make_environ`'s key mapping, on the live code**: for each of the header names
of `Gen.EnvKeys` — `Content-Type` / `Content-Length` in any letter case (un-prefixed, last value
wins), every *other* `Content-*` name (`Content-Encoding`, `-Disposition`, `-Range`, `-MD5`,
`-Language`, `-Location`) and every near miss of the two (`Content-Typex`, `Content-Type-`,
`Content-Lengths`, `X-Content-Type`, `Content`, `Content-`, `Http-Content-Type`: all `HTTP_`-prefixed
and comma-joined), underscore names (`Content_Type`, `Content-Type_`, `X_A`, `User_Agent`: dropped),
names that resemble fixed environ keys (`Server-Name`, `Remote-Addr`, `Path-Info`, `Wsgi.Input`,
`Host`) — the environ entries the real handler derived from `name: v1`, `X-Other: o`, `name: v2` are
exactly what the model's `foldHeaders` computes. -/
theorem env_key_table_matches_model :
    ∀ r ∈ Gen.EnvKeys.table,
      foldHeaders [(r.1, "v1".toList), ("X-Other".toList, "o".toList), (r.1, "v2".toList)] = r.2 := by
  repeat rw [String.toList_ofList]
  decide +kernel

end Wz.Props.C19
