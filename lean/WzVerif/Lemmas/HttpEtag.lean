/-
`parse_etags(ETags(…).to_header())` (C06). The list is written as `"tag"` / `W/"tag"` items joined by `, ` and read
back by a loop around `_etag_re.match`, whose lazy `"(.*?)"` stops at the first quote that is followed by a
terminator (`\s*,\s*` or the end). A tag is `Closed` when, written as `"tag"`, it is captured whole again: no LF,
and no inner `"` followed by optional white space and a comma. That is the weakest domain of the list round trip
(`parseEtags_items`, `etags_roundtrip_closed`); tags without `"` and LF (`TagOk`, the property's domain) are closed,
and so is whatever the regex captures (Lemmas/HttpEtagNF.lean), which is why parsing is a normal form on arbitrary text.
-/
import WzVerif.Lemmas.Http
namespace Wz.Http
open Wz

/-- the property's domain for a tag: `quote_etag` refuses a `"`, and `.` of `_etag_re` does not match LF -/
def TagOk (x : Str) : Bool := !x.contains '"' && !x.contains '\n'

def etagItemText (it : Bool × Str) : Str :=
  (if it.1 then ['W', '/'] else []) ++ '"' :: (it.2 ++ ['"'])

/-- after optional white space comes a comma -/
def commaNext (x : Str) : Bool :=
  match x.dropWhile Py.isSpace with
  | ',' :: _ => true
  | _ => false

theorem commaNext_cons_space {c : Char} (x : Str) (h : Py.isSpace c = true) : commaNext (c :: x) = commaNext x := by
  simp [commaNext, h]

theorem commaNext_cons_nonspace {c : Char} (x : Str) (h : Py.isSpace c = false) : commaNext (c :: x) = (c == ',') := by
  simp only [commaNext, List.dropWhile_cons, h, Bool.false_eq_true, if_false]
  by_cases hc : c = ','
  · subst hc; rfl
  · have : (c == ',') = false := by simpa using hc
    rw [this]
    split
    · next heq => simp at heq; exact absurd heq.1 hc
    · rfl

theorem commaNext_append (b y : Str) : commaNext (b ++ y) = if b.all Py.isSpace then commaNext y else commaNext b := by
  induction b with
  | nil => simp
  | cons c t ih =>
    by_cases hc : Py.isSpace c = true
    · simp only [List.cons_append, commaNext_cons_space _ hc, ih, List.all_cons, hc, Bool.true_and]
    · have hc' : Py.isSpace c = false := by simpa using hc
      simp [commaNext_cons_nonspace _ hc', hc']

theorem commaNext_dq (b r1 r2 : Str) : commaNext (b ++ '"' :: r1) = commaNext (b ++ '"' :: r2) := by
  rw [commaNext_append, commaNext_append]
  have : ∀ r, commaNext ('"' :: r) = false := fun r => by
    rw [commaNext_cons_nonspace _ (by decide)]; decide
  simp [this]

/-- without a comma after optional white space the terminator `(?:\s*,\s*|$)` can only match at the end -/
theorem etagTerm_of_commaNext_false {r : Str} (h : commaNext r = false) :
    etagTerm? r = if r.isEmpty then some [] else if r == ['\n'] then some r else none := by
  unfold etagTerm?
  unfold commaNext at h
  split
  · next r2 heq => rw [heq] at h; cases h
  · rfl

theorem commaNext_of_etagTerm_none (x : Str) (h : etagTerm? x = none) : commaNext x = false := by
  unfold etagTerm? at h
  unfold commaNext
  split at h
  · simp at h
  · next hno =>
    split
    · next r heq => exact absurd heq (hno r)
    · rfl

/-- a tag whose quoted form `"t"` is read back whole: no LF, and no inner `"` is followed by
(white space and) a comma -/
def Closed (t : Str) : Prop :=
  '\n' ∉ t ∧ ∀ a b, t = a ++ '"' :: b → ∀ r, commaNext (b ++ '"' :: r) = false

theorem closed_tail {c : Char} {t : Str} (h : Closed (c :: t)) : Closed t :=
  ⟨fun hm => h.1 (by simp [hm]), fun a b hab r => h.2 (c :: a) b (by simp [hab]) r⟩

theorem closed_nil : Closed [] := ⟨by simp, fun a b h => by cases a <;> cases h⟩

theorem closed_cons {c : Char} {u : Str} (hn : c ≠ '\n') (hu : Closed u)
    (hc : c = '"' → ∀ r, commaNext (u ++ '"' :: r) = false) : Closed (c :: u) := by
  refine ⟨by simp [hu.1, Ne.symm hn], fun a b hab r => ?_⟩
  cases a with
  | nil => cases hab; exact hc rfl r
  | cons x a' => cases hab; exact hu.2 a' b rfl r

theorem closed_of_tagOk {t : Str} (h : TagOk t = true) : Closed t := by
  simp only [TagOk, Bool.and_eq_true, Bool.not_eq_true'] at h
  refine ⟨by simpa using h.2, ?_⟩
  intro a b hab r
  exfalso
  have : '"' ∈ t := by rw [hab]; simp
  simp at h
  exact h.1 this

theorem etagAlt1_closed (t rest rest' acc : Str) (hc : Closed t) (ht : etagTerm? rest = some rest') :
    etagAlt1 (t ++ '"' :: rest) acc = some (acc.reverse ++ t, rest') := by
  induction t generalizing acc with
  | nil => simp [etagAlt1, ht]
  | cons c u ih =>
    have hn : c ≠ '\n' := fun e => hc.1 (by simp [e])
    have := ih (c :: acc) (closed_tail hc)
    by_cases hq : c = '"'
    · subst hq
      have hcn := hc.2 [] u rfl rest
      have hne2 : u ++ '"' :: rest ≠ ['\n'] := by
        intro e
        have : ('"' : Char) ∈ u ++ '"' :: rest := by simp
        rw [e] at this; simp at this
      have htn : etagTerm? (u ++ '"' :: rest) = none := by
        rw [etagTerm_of_commaNext_false hcn, if_neg (by simp), if_neg (by simpa using hne2)]
      simp [etagAlt1, htn, this]
    · simp [etagAlt1, hq, dotCh, hn, this]

theorem etagTerm_nil : etagTerm? [] = some [] := by decide

theorem etagTerm_sep (more : Str) (h : ∀ c, more.head? = some c → Py.isSpace c = false) :
    etagTerm? (", ".toList ++ more) = some more := by
  rw [commaSpace_toList]
  simp only [List.cons_append, List.nil_append, etagTerm?]
  simp only [List.dropWhile_cons, show Py.isSpace ',' = false from by decide, Bool.false_eq_true, if_false,
    show Py.isSpace ' ' = true from by decide, if_true]
  cases more with
  | nil => rfl
  | cons c t => simp [h c rfl]

theorem etagMatch_item (it : Bool × Str) (rest rest' : Str) (hok : Closed it.2)
    (ht : etagTerm? rest = some rest') :
    etagMatch (etagItemText it ++ rest) = some (it.1, some it.2, none, rest') := by
  obtain ⟨w, x⟩ := it
  have hb : etagBody ('"' :: (x ++ '"' :: rest)) = some (some x, none, rest') := by
    simp [etagBody, etagAlt1_closed x rest rest' [] hok ht]
  cases w with
  | true =>
    simp only [etagItemText, if_true, List.cons_append, List.nil_append, List.append_assoc]
    simp [etagMatch, hb]
  | false =>
    simp only [etagItemText, Bool.false_eq_true, if_false, List.nil_append, List.cons_append, List.append_assoc]
    unfold etagMatch
    split
    · next w q heq =>
      simp at heq
      have hw : (w == 'W' || w == 'w') = false := by rw [← heq.1]; decide
      simp only [hw, Bool.false_eq_true, if_false]
      rw [← heq.1] at *
      simp [hb]
    · simp [hb]

theorem etagItemText_head (it : Bool × Str) :
    ∃ c t, etagItemText it = c :: t ∧ Py.isSpace c = false := by
  obtain ⟨w, x⟩ := it
  cases w with
  | true => exact ⟨'W', _, rfl, by decide⟩
  | false => exact ⟨'"', _, rfl, by decide⟩

def etagStrongs (items : List (Bool × Str)) : List (Option Str) :=
  (items.filter (fun it => !it.1)).map (fun it => some it.2)
def etagWeaks (items : List (Bool × Str)) : List (Option Str) :=
  (items.filter (fun it => it.1)).map (fun it => some it.2)

theorem parseEtagsGo_nil (fuel : Nat) (sacc wacc : List (Option Str)) :
    parseEtagsGo fuel [] sacc wacc = ⟨sacc.reverse, wacc.reverse, false⟩ := by
  cases fuel <;> simp [parseEtagsGo]

theorem parseEtagsGo_step (it : Bool × Str) (rest rest' : Str) (fuel : Nat) (sacc wacc : List (Option Str))
    (hok : Closed it.2) (ht : etagTerm? rest = some rest') :
    parseEtagsGo (fuel + 1) (etagItemText it ++ rest) sacc wacc
      = parseEtagsGo fuel rest' (if it.1 then sacc else some it.2 :: sacc) (if it.1 then some it.2 :: wacc else wacc) := by
  obtain ⟨c, t, hct, _⟩ := etagItemText_head it
  have hne : (etagItemText it ++ rest).isEmpty = false := by rw [hct]; rfl
  simp only [parseEtagsGo, hne, Bool.false_eq_true, if_false, etagMatch_item it rest rest' hok ht]
  obtain ⟨w, x⟩ := it
  cases w <;> simp

theorem parseEtagsGo_items (it : Bool × Str) (items : List (Bool × Str)) (fuel : Nat)
    (sacc wacc : List (Option Str))
    (hok : ∀ x ∈ it :: items, Closed x.2) (hf : items.length < fuel) :
    parseEtagsGo fuel (join ", " ((it :: items).map etagItemText)) sacc wacc
      = ⟨sacc.reverse ++ etagStrongs (it :: items), wacc.reverse ++ etagWeaks (it :: items), false⟩ := by
  induction items generalizing it fuel sacc wacc with
  | nil =>
    obtain ⟨f, rfl⟩ : ∃ f, fuel = f + 1 := ⟨fuel - 1, by omega⟩
    have := parseEtagsGo_step it [] [] f sacc wacc (hok it (by simp)) etagTerm_nil
    simp only [List.append_nil] at this
    simp only [join, List.map_cons, List.map_nil, List.intercalate_singleton, this, parseEtagsGo_nil]
    obtain ⟨w, x⟩ := it
    cases w <;> simp [etagStrongs, etagWeaks]
  | cons y ys ih =>
    obtain ⟨f, rfl⟩ : ∃ f, fuel = f + 1 := ⟨fuel - 1, by omega⟩
    have hj : join ", " ((it :: y :: ys).map etagItemText)
        = etagItemText it ++ (", ".toList ++ join ", " ((y :: ys).map etagItemText)) := by
      simp [join, List.intercalate_cons_cons]
    have hhead : ∀ c, (join ", " ((y :: ys).map etagItemText)).head? = some c → Py.isSpace c = false := by
      intro c hc
      obtain ⟨c', t', hct', hsp⟩ := etagItemText_head y
      rw [join, List.map_cons, intercalate_head _ _ _ (by rw [hct']; simp), hct'] at hc
      exact Option.some.inj hc ▸ hsp
    rw [hj, parseEtagsGo_step it _ _ f sacc wacc (hok it (by simp)) (etagTerm_sep _ hhead),
      ih y f _ _ (fun z hz => hok z (List.mem_cons_of_mem _ hz)) (by simp at hf; omega)]
    obtain ⟨w, x⟩ := it
    cases w <;> simp [etagStrongs, etagWeaks]

theorem parseEtags_items (items : List (Bool × Str)) (hok : ∀ x ∈ items, Closed x.2) :
    parseEtags (join ", " (items.map etagItemText)) = ⟨etagStrongs items, etagWeaks items, false⟩ := by
  cases items with
  | nil => simp [parseEtags, join, parseEtagsGo, etagStrongs, etagWeaks]
  | cons it rest =>
    have hlen := length_intercalate_ge ", ".toList ((it :: rest).map etagItemText) (by
      simp only [List.mem_map]
      rintro _ ⟨y, _, rfl⟩
      obtain ⟨c, t, h, _⟩ := etagItemText_head y
      rw [h]; simp)
    rw [parseEtags, parseEtagsGo_items it rest _ [] [] hok (by simp only [join]; simp at hlen ⊢; omega)]
    simp

theorem etags_roundtrip_closed (strong weak : List Str)
    (hs : ∀ x ∈ strong, Closed x) (hw : ∀ x ∈ weak, Closed x) :
    parseEtags (etagsToHeader ⟨strong.map some, weak.map some, false⟩)
      = ⟨strong.map some, weak.map some, false⟩ := by
  have hhdr : etagsToHeader ⟨strong.map some, weak.map some, false⟩
      = join ", " ((strong.map (fun x => (false, x)) ++ weak.map (fun x => (true, x))).map etagItemText) := by
    simp [etagsToHeader, etagItemText, etagElemText, Function.comp_def]
  rw [hhdr, parseEtags_items _ (by
    simp only [List.mem_append, List.mem_map]
    rintro _ (⟨y, hy, rfl⟩ | ⟨y, hy, rfl⟩)
    · exact hs y hy
    · exact hw y hy)]
  have f1 : ∀ l : List Str, l.filter (fun _ => true) = l := fun l => List.filter_eq_self.2 fun _ _ => rfl
  have f2 : ∀ l : List Str, l.filter (fun _ => false) = [] := fun l => List.filter_eq_nil_iff.2 fun _ _ => by simp
  simp [etagStrongs, etagWeaks, List.filter_append, List.filter_map, Function.comp_def, f1, f2]

theorem quoteEtag_of_noQuote (e : Str) (w : Bool) (hq : e.contains '"' = false) :
    quoteEtag e w = .ok (etagItemText (w, e)) := by
  have hq' : ¬ '"' ∈ e := by simpa using hq
  simp [quoteEtag, hq', etagItemText]

theorem unquoteEtag_itemText (e : Str) (w : Bool) : unquoteEtag (etagItemText (w, e)) = some (e, w) := by
  have hl : ('"' :: (e ++ ['"'])).getLast? = some '"' := by rw [← List.cons_append, List.getLast?_concat]
  cases w with
  | true =>
    have hs := strip_first_last (a := 'W') (b := '"') ('/' :: '"' :: e) (by decide) (by decide)
    simp only [etagItemText, if_true, unquoteEtag, List.cons_append, List.nil_append, List.isEmpty_cons, strip] at hs ⊢
    rw [hs]
    simp [hl]
  | false =>
    have hs := strip_first_last (a := '"') (b := '"') e (by decide) (by decide)
    simp only [etagItemText, Bool.false_eq_true, if_false, unquoteEtag, List.nil_append,
      List.isEmpty_cons, strip] at hs ⊢
    rw [hs]
    simp [hl]

theorem unquote_quoteEtag (e : Str) (w : Bool) (hq : e.contains '"' = false) :
    (quoteEtag e w).map unquoteEtag = .ok (some (e, w)) := by
  rw [quoteEtag_of_noQuote e w hq, Except.map, unquoteEtag_itemText]

end Wz.Http
