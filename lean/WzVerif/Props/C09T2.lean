/-
C09T2 — the translated code against the model, second part (C09T: `get_content_length`, `get_input_stream`; here:
the class `LimitedStream`): the methods of `werkzeug.wsgi.LimitedStream` *as regenerated from the source* by
`tools/py2lean.py` (`Gen/PyFns_Length.lean`, rewritten on every check run: `is_exhausted`, `on_exhausted`,
`on_disconnect`, `tell`, `readinto`, `readall`, `exhaust`, and the glue `ls_raw_read` = CPython's
`RawIOBase.read(n)` on top of `readinto`) equal, for every model state and buffer, the hand-written
model functions the C09 theorems are about (`Model/LimitedStream.lean`), read through `view` /
`viewRead` (new `_pos`, the wrapped stream with its call log, the caller's buffer, the result /
exception). The `while` loop of `readall` is translated with fuel: `limit - pos + 1` iterations are
enough and exactly needed (`ls_readall_fuel_sharp`). The C09 bounds (`*_no_overread`,
`ls_readinto_errors`) are restated on the translated definitions.
The others rest on `ls_readinto_eq`. In the loop every iteration
that does not leave it appends at least one byte and advances `_pos` by as many (`LS.Adv.fuel`), and the loop is left as soon
as `_pos >= limit`: with more than `limit - pos` units of fuel neither side runs out, whatever the wrapped stream does.
-/
import WzVerif.Lemmas.PyFnsEq_LimitedStream
import WzVerif.Lemmas.LimitedStream
namespace Wz.Props.C09T2
open Wz Wz.Pre Wz.Gen.PyFns_Length Wz.PyFnsEq.LimitedStream

/-- the model's `hook` is "call the hook, then `return 0`" (zero bytes written) -/
theorem hook_raised (o : Option String) : LS.hook o = (raised o).map (fun _ => ([] : Bytes)) := by
  cases o <;> rfl

/-- `LimitedStream.is_exhausted`, as translated from the current source (`self._pos >= self.limit`),
is the model's test `limit ≤ pos` (`LS.isExhausted`) that guards `readinto`, `readall`, `exhaust`,
for every position and limit. -/
theorem ls_is_exhausted_eq (s : LS.St) :
    ls_is_exhausted (s.pos : Int) (s.limit : Int) = decide (s.limit ≤ s.pos) := by
  unfold ls_is_exhausted
  rw [Bool.eq_iff_iff]; simp

/-- the same, against the model's observer `LS.isExhausted` -/
theorem ls_is_exhausted_eq_model (s : LS.St) :
    ls_is_exhausted (s.pos : Int) (s.limit : Int) = LS.isExhausted s := ls_is_exhausted_eq s

/-- `LimitedStream.tell()`, as translated from the current source, returns the model's `pos`. -/
theorem ls_tell_eq (s : LS.St) : ls_tell (s.pos : Int) = (LS.tell s : Int) := rfl

/-- `LimitedStream.on_exhausted()`, as translated from the current source, raises
`RequestEntityTooLarge` exactly when the limit is a maximum and otherwise returns: the model's
`LS.onExhausted`. -/
theorem ls_on_exhausted_eq (s : LS.St) : ls_on_exhausted s.isMax = raised (LS.onExhausted s) := by
  unfold ls_on_exhausted LS.onExhausted
  cases s.isMax <;> rfl

/-- `LimitedStream.on_disconnect(error)`, as translated from the current source, raises
`ClientDisconnected` unless the limit is a maximum and no error was passed: the model's
`LS.onDisconnect s err`, `err` = "`error is not None`". -/
theorem ls_on_disconnect_eq (s : LS.St) (err : Option Unit) :
    ls_on_disconnect s.isMax err = raised (LS.onDisconnect s err.isSome) := by
  unfold ls_on_disconnect LS.onDisconnect
  cases err <;> cases s.isMax <;> rfl

/-- **`LimitedStream.readinto(b)`, as translated from the current source, is the model's
`LS.readinto`** - for every object state `s` (position, limit, `is_max`, with or without
`_stream.readinto`, any wrapped stream: any data, any script of short reads / empty reads / raises)
and every buffer `b`:
the new `_pos`, the wrapped stream after the call (including the ghost log of the request made), the
returned count and the escaping exception are the model's, and the caller's buffer afterwards is the
bytes the model hands out followed by the untouched rest of `b` (unchanged on an exception or a zero
return). The three paths of the code - `_stream.readinto(b)` when the buffer fits into the remaining
limit, a temporary `bytearray(remaining)` copied into `b[:out_size]` when it does not,
`_stream.read(min(size, remaining))` for a stream without `readinto` - collapse into the model's one
underlying call of size `LS.request s (len b)`; `on_exhausted` runs iff `limit ≤ pos`,
`on_disconnect(error=e)` iff the stream raised, `on_disconnect()` iff it gave zero bytes. -/
theorem ls_readinto_eq (s : LS.St) (b : Bytes) :
    ls_readinto s.hasReadinto (s.pos : Int) (s.limit : Int) s.isMax s.u b
      = view b (LS.readinto s b.length) :=
  PyFnsEq.LimitedStream.ls_readinto_eq s b

/-- **`read(n)` (CPython's `RawIOBase.read` glue over the translated `readinto`: allocate `n` zero
bytes, `readinto`, truncate to the returned count) returns exactly the model's `LS.read s n`**: the
same bytes or the same exception, the same new position and wrapped stream - for every state and every
`n ≥ 0`. -/
theorem ls_raw_read_eq (s : LS.St) (n : Nat) :
    ls_raw_read s.hasReadinto (s.limit : Int) s.isMax (s.pos : Int) s.u (n : Int)
      = viewRead (LS.read s n) := by
  have h := ls_readinto_eq s (bytearrayZeros (n : Int))
  rw [bytearrayZeros_length, Int.toNat_natCast] at h
  unfold ls_raw_read LS.read
  simp only [h, view, viewRead]
  rcases LS.readinto s n with ⟨r, s'⟩
  cases r with
  | error e => rfl
  | ok d => simp

/-- the same for an integer argument `n ≥ 0` -/
theorem ls_raw_read_eq_int (s : LS.St) (n : Int) (hn : 0 ≤ n) :
    ls_raw_read s.hasReadinto (s.limit : Int) s.isMax (s.pos : Int) s.u n
      = viewRead (LS.read s n.toNat) := by
  obtain ⟨k, rfl⟩ := Int.eq_ofNat_of_zero_le hn
  simpa using ls_raw_read_eq s k

/-- one iteration of the translated loop from an unexhausted state, in terms of the model's `read` -/
theorem ls_readall_loop_step (f : Nat) (s : LS.St) (acc : Bytes) (hlim : ¬ s.limit ≤ s.pos) :
    ls_readall.loop1 s.hasReadinto (s.limit : Int) s.isMax (f + 1) (s.pos : Int) s.u acc
      = match (LS.read s 65536).1 with
        | .error e => .ret ((((LS.read s 65536).2.pos : Int), (LS.read s 65536).2.u), .error e)
        | .ok d =>
          if d.isEmpty then .fall (((LS.read s 65536).2.pos : Int), (LS.read s 65536).2.u, acc)
          else ls_readall.loop1 s.hasReadinto (s.limit : Int) s.isMax f
            ((LS.read s 65536).2.pos : Int) (LS.read s 65536).2.u (acc ++ d) := by
  have h64 : (1024 * 64 : Int) = ((65536 : Nat) : Int) := by decide
  rw [ls_readall.loop1, ls_is_exhausted_eq]
  simp only [hlim, decide_false, Bool.not_false, if_true, h64, ls_raw_read_eq, viewRead]
  cases (LS.read s 65536).1 <;> rfl

/-- The translated `while not self.is_exhausted: data = self.read(1024 * 64); if not data: break;
out.extend(data)` loop agrees with the model's `readallLoop` from every state and every accumulator,
whenever both have more fuel than `limit - pos`: same accumulated bytes / same escaping exception,
same position and wrapped stream; the marker error does not occur. -/
theorem ls_readall_loop_eq : ∀ (f g : Nat) (s : LS.St) (acc : Bytes),
    s.limit - s.pos < f → s.limit - s.pos < g →
    ls_readall.loop1 s.hasReadinto (s.limit : Int) s.isMax f (s.pos : Int) s.u acc
      = viewLoop (LS.readallLoop g s acc) := by
  intro f
  induction f with
  | zero => intro g s acc hf; omega
  | succ f ih =>
    intro g s acc hf hg
    cases g with
    | zero => omega
    | succ g =>
      by_cases hlim : s.limit ≤ s.pos
      · unfold ls_readall.loop1 LS.readallLoop
        rw [ls_is_exhausted_eq]
        simp [hlim, viewLoop]
      · rw [ls_readall_loop_step f s acc hlim, LS.readallLoop]
        simp only [hlim, if_false]
        have hadv := LS.readinto_adv s 65536
        unfold LS.read
        rcases hr : LS.readinto s 65536 with ⟨r, s'⟩
        rw [hr] at hadv
        cases r with
        | error e => rfl
        | ok d =>
          simp only [LS.given] at hadv
          simp only []
          by_cases hd : d.isEmpty = true
          · simp [hd, viewLoop]
          · simp only [hd, Bool.false_eq_true, if_false]
            have hne : d ≠ [] := by simpa using hd
            have := ih g s' (acc ++ d) (hadv.fuel hne (by omega) hf) (hadv.fuel hne (by omega) hg)
            rw [hadv.limit_eq, hadv.isMax_eq, hadv.ri_eq] at this
            exact this

/-- **`LimitedStream.readall()` (= `read()` / `read(-1)`), as translated from the current source, is
the model's `LS.readall`** - for every object state and every amount of fuel `≥ limit - pos + 1`: the
function terminates (the marker error "py2lean: out of fuel" does not occur) and returns exactly the
model's bytes, or raises exactly the model's exception (`on_exhausted` when already exhausted, what
escapes from `read` otherwise), leaving the same position and the same wrapped stream. All C09
theorems about `LS.readall` therefore speak about the current source. -/
theorem ls_readall_eq (fuel : Nat) (s : LS.St) (hf : s.limit - s.pos + 1 ≤ fuel) :
    ls_readall fuel s.hasReadinto (s.pos : Int) s.u (s.limit : Int) s.isMax = viewRead (LS.readall s) := by
  unfold ls_readall LS.readall
  rw [ls_is_exhausted_eq]
  by_cases hlim : s.limit ≤ s.pos
  · simp only [hlim, decide_true, if_true]
    cases hm : s.isMax <;> simp [ls_on_exhausted, LS.onExhausted, LS.hook, viewRead, hm]
  · simp only [hlim, decide_false, Bool.false_eq_true, if_false]
    rw [ls_readall_loop_eq fuel (s.limit - s.pos + 1) s [] (by omega) (by omega)]
    rcases LS.readallLoop (s.limit - s.pos + 1) s [] with ⟨r, s'⟩
    cases r <;> rfl

/-- **`LimitedStream.exhaust()`, as translated from the current source, is the model's `LS.exhaust`**
(`b""` without touching anything when already exhausted - no `on_exhausted`, unlike `readall` - else
`readall()`), for every object state and every amount of fuel `≥ limit - pos + 1`. -/
theorem ls_exhaust_eq (fuel : Nat) (s : LS.St) (hf : s.limit - s.pos + 1 ≤ fuel) :
    ls_exhaust fuel s.hasReadinto (s.pos : Int) s.u (s.limit : Int) s.isMax = viewRead (LS.exhaust s) := by
  unfold ls_exhaust LS.exhaust
  rw [ls_is_exhausted_eq]
  by_cases hlim : s.limit ≤ s.pos
  · simp [hlim, viewRead]
  · simp only [hlim, decide_false, Bool.not_false, if_true, if_false, ls_readall_eq fuel s hf, viewRead]
    cases (LS.readall s).1 <;> rfl

/-- The result of the translated `readall` does not depend on the fuel once it exceeds `limit - pos`. -/
theorem ls_readall_fuel_irrelevant (f1 f2 : Nat) (s : LS.St)
    (h1 : s.limit - s.pos + 1 ≤ f1) (h2 : s.limit - s.pos + 1 ≤ f2) :
    ls_readall f1 s.hasReadinto (s.pos : Int) s.u (s.limit : Int) s.isMax
      = ls_readall f2 s.hasReadinto (s.pos : Int) s.u (s.limit : Int) s.isMax := by
  rw [ls_readall_eq f1 s h1, ls_readall_eq f2 s h2]

/-- The bound `limit - pos + 1` is sharp: on `sharpSt` the loop makes two productive iterations and
needs a third unit for the final (failing) loop test, so with 2 units the marker error appears, and
with 3 the result is the real one (`LimitedStream(u, 2, is_max=True).exhaust() == b"\x01\x02"`,
`tell() == 2`, underlying requests `(0, 2)` then `(1, 1)`; replayed on CPython with both kinds of
stream). -/
theorem ls_readall_fuel_sharp (ri : Bool) :
    (ls_exhaust 2 ri 0 (sharpSt ri).u 2 true).2 = .error "py2lean: out of fuel" ∧
    ls_exhaust 3 ri 0 (sharpSt ri).u 2 true
      = ((2, { data := [], taken := [1, 2], script := [], log := [(1, 1), (0, 2)] }), .ok [1, 2]) := by
  have hx : ls_is_exhausted 0 2 = false := by decide
  have key : ∀ (s : LS.St), ¬ s.limit ≤ s.pos → (LS.read s 65536).1 = .ok [1] →
      ¬ (LS.read s 65536).2.limit ≤ (LS.read s 65536).2.pos →
      (LS.read (LS.read s 65536).2 65536).1 = .ok [2] →
      ∃ p u, ls_readall.loop1 s.hasReadinto (s.limit : Int) s.isMax 2 (s.pos : Int) s.u []
        = .ret ((p, u), .error "py2lean: out of fuel") := by
    intro s h0 e1 h1 e2
    have hadv := LS.readinto_adv s 65536
    have s1 := ls_readall_loop_step 1 s [] h0
    have s2 := ls_readall_loop_step 0 (LS.read s 65536).2 [1] h1
    rw [e1] at s1
    rw [e2] at s2
    simp only [List.isEmpty_cons, Bool.false_eq_true, if_false, List.nil_append] at s1 s2
    unfold LS.read at s1 s2 h1 e1 e2
    rw [hadv.limit_eq, hadv.isMax_eq, hadv.ri_eq] at s2
    rw [s1, s2]
    exact ⟨_, _, rfl⟩
  constructor
  · obtain ⟨p, u, h⟩ := key (sharpSt ri) (by cases ri <;> decide) (by cases ri <;> rfl)
      (by cases ri <;> decide) (by cases ri <;> rfl)
    have h' : ls_readall.loop1 ri 2 true 2 0 (sharpSt ri).u []
        = .ret ((p, u), .error "py2lean: out of fuel") := h
    unfold ls_exhaust ls_readall
    simp only [hx, Bool.not_false, if_true, Bool.false_eq_true, if_false, h']
  · exact (ls_exhaust_eq 3 (sharpSt ri) (by cases ri <;> decide)).trans (by cases ri <;> rfl)

/-- **No over-read, for the translated `readinto`**: on an object that satisfies C09's invariant
(every state reachable from a fresh object does, `LS.fresh_inv` / `LS.readinto_adv`), after the
translated `readinto(b)` every request the wrapped stream has ever received - including the one just
made, on whichever of the three paths - asked for at most `limit - (bytes consumed before it)` bytes. -/
theorem ls_readinto_no_overread (s : LS.St) (b : Bytes) (hinv : LS.Inv s) :
    ∀ p ∈ (ls_readinto s.hasReadinto (s.pos : Int) (s.limit : Int) s.isMax s.u b).1.2.1.log,
      p.1 + p.2 ≤ s.limit := by
  rw [ls_readinto_eq, view_u]
  have h := LS.readinto_adv s b.length
  intro p hp
  exact h.limit_eq ▸ (h.inv hinv).no_overread p hp

/-- **No over-read, for the translated `readall`** (hence `exhaust`, `read()`): the same bound for
every request made by all the iterations of the loop together. -/
theorem ls_readall_no_overread (fuel : Nat) (s : LS.St) (hf : s.limit - s.pos + 1 ≤ fuel) (hinv : LS.Inv s) :
    ∀ p ∈ (ls_readall fuel s.hasReadinto (s.pos : Int) s.u (s.limit : Int) s.isMax).1.2.log,
      p.1 + p.2 ≤ s.limit := by
  rw [ls_readall_eq fuel s hf]
  obtain ⟨d, h⟩ := LS.readall_spec s
  intro p hp
  exact h.adv.limit_eq ▸ (h.adv.inv hinv).no_overread p hp

/-- The only exceptions that escape from the translated `readinto` are `RequestEntityTooLarge` (only
at or past a maximum) and `ClientDisconnected`: an `OSError` / `ValueError` of the wrapped stream never
gets through. -/
theorem ls_readinto_errors (s : LS.St) (b : Bytes) (e : String)
    (h : (ls_readinto s.hasReadinto (s.pos : Int) (s.limit : Int) s.isMax s.u b).2 = .error e) :
    LS.GoodErr s e := by
  rw [ls_readinto_eq, view_result] at h
  cases hm : (LS.readinto s b.length).1 with
  | ok d => rw [hm] at h; cases h
  | error e' =>
    rw [hm] at h
    simp only [Except.map, Except.error.injEq] at h
    exact h ▸ LS.readinto_error hm

/-- A normal return `n` of the translated `readinto(b)` satisfies `0 ≤ n ≤ len(b)`, the position
advances by exactly `n`, and the buffer keeps its length. -/
theorem ls_readinto_ok_bounds (s : LS.St) (b : Bytes) (n : Int)
    (h : (ls_readinto s.hasReadinto (s.pos : Int) (s.limit : Int) s.isMax s.u b).2 = .ok n) :
    0 ≤ n ∧ n ≤ b.length
    ∧ (ls_readinto s.hasReadinto (s.pos : Int) (s.limit : Int) s.isMax s.u b).1.1 = (s.pos : Int) + n
    ∧ (ls_readinto s.hasReadinto (s.pos : Int) (s.limit : Int) s.isMax s.u b).1.2.2.length = b.length := by
  rw [ls_readinto_eq] at h ⊢
  have hadv := LS.readinto_adv s b.length
  have hle := LS.readinto_length_le s b.length
  unfold view at h ⊢
  cases hm : (LS.readinto s b.length).1 with
  | error e => rw [hm] at h; cases h
  | ok d =>
    rw [hm] at h hadv
    simp only [Except.ok.injEq] at h
    simp only [LS.given] at hadv
    have hd := hle d hm
    subst h
    refine ⟨by omega, by omega, ?_, ?_⟩
    · simp only [hadv.pos_eq]; omega
    · simp only [List.length_append, List.length_drop]; omega


end Wz.Props.C09T2
