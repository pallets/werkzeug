/-
Routing lemmas (C04, C12): the shape of the URLs the router emits. `make_redirect_url` is bound scheme, `://`, host of the bound
adapter (never anything from the path), script root, the path without its leading slashes, the query (`makeRedirectUrl_shape`); `MapAdapter.build` returns a
URL relative to the script root or `[scheme:]//host` + script root + path (`adapterBuild_forms`: what `RoutingReadBuilt`
reads back for C04); which redirects `MapAdapter.match` raises on its own (`matchAdapter_redirect_inv`). At the end, two
notions the C12 statements use: `SMResult.isAlias`, and `finalMatch`, the last outcome of a followed redirect chain.
-/
import WzVerif.Lemmas.RoutingMatch
import WzVerif.Lemmas.RoutingSelect
import WzVerif.Model.RoutingFollow
namespace Wz.Routing

/-- the query part of a redirect URL -/
def querySuffix (a : Adapter) (qa : QueryArgs) : Str :=
  let qa := effQa a qa
  if qa.truthy && !(encodeQueryArgs qa).isEmpty then '?' :: encodeQueryArgs qa else []

/-- `self.url_scheme or "http"` of `make_redirect_url` -/
def schemeOf (a : Adapter) : Str := if a.urlScheme.isEmpty then "http".toList else a.urlScheme

theorem schemeOf_ne_nil (a : Adapter) : (schemeOf a).isEmpty = false := by
  simp only [schemeOf]
  split
  · rfl
  · rename_i h; simpa using h

theorem urlunsplit_host {scheme host path : Str} {q : Option Str} (hs : scheme.isEmpty = false) (hh : host.isEmpty = false) :
    urlunsplit scheme host path q =
      scheme ++ "://".toList ++ host ++ (if !path.isEmpty && path.take 1 != ['/'] then '/' :: path else path) ++
        (match q with | some q => if q.isEmpty then [] else '?' :: q | none => []) := by
  simp only [urlunsplit, hh, hs, Bool.not_false, Bool.true_or, if_true, Bool.false_eq_true, if_false]
  cases q with
  | none => simp
  | some q =>
    by_cases hq : q = []
    · simp [hq]
    · simp [hq]

theorem boundPrefix_eq (hm : Bool) (a : Adapter) (dp : Option Str) :
    boundPrefix hm a dp = schemeOf a ++ "://".toList ++ getHost hm a dp := rfl

theorem makeRedirectUrl_shape (hm : Bool) (a : Adapter) (p : Str) (qa : QueryArgs) (dp : Option Str)
    (hhost : getHost hm a dp ≠ []) :
    makeRedirectUrl hm a p qa dp =
      boundPrefix hm a dp ++ scriptRoot a ++ lstripChar '/' p ++ querySuffix a qa := by
  have hne : (getHost hm a dp).isEmpty = false := by
    cases h : getHost hm a dp with
    | nil => exact absurd h hhost
    | cons x t => rfl
  have hsch := schemeOf_ne_nil a
  simp only [makeRedirectUrl]
  rw [show (if a.urlScheme.isEmpty = true then "http".toList else a.urlScheme) = schemeOf a from rfl,
    urlunsplit_host hsch hne]
  simp only [boundPrefix_eq, scriptRoot, querySuffix]
  generalize effQa a qa = qq
  have hpath : (if (!(stripChar '/' a.scriptName ++ '/' :: lstripChar '/' p).isEmpty &&
        (stripChar '/' a.scriptName ++ '/' :: lstripChar '/' p).take 1 != ['/']) = true
      then '/' :: (stripChar '/' a.scriptName ++ '/' :: lstripChar '/' p)
      else stripChar '/' a.scriptName ++ '/' :: lstripChar '/' p) =
      (if (stripChar '/' a.scriptName).isEmpty = true then ['/'] else '/' :: stripChar '/' a.scriptName ++ ['/']) ++
        lstripChar '/' p := by
    cases hs : (stripChar '/' a.scriptName) with
    | nil => simp
    | cons x t =>
      have hx : x ≠ '/' := by
        intro hx; subst hx
        have := stripChar_head '/' a.scriptName
        rw [hs] at this; simp at this
      simp [hx]
  rw [hpath]
  cases ht : qq.truthy with
  | false => simp
  | true =>
    by_cases he : encodeQueryArgs qq = []
    · simp [he]
    · simp [he]

theorem effQa_idem (a : Adapter) (qa : QueryArgs) : effQa a (effQa a qa) = effQa a qa := by
  cases qa with
  | none => simp only [effQa]; cases a.queryArgs <;> rfl
  | text s => rfl
  | pairs l => rfl

theorem adapterBuild_ok_inv {cfg : MapCfg} {a : Adapter} {rules : List Rule} {ep : Str} {values : List (Str × Value)}
    {method : Option Str} {fe au : Bool} {u : Str} (h : adapterBuild cfg a rules ep values method fe au = .ok u) :
    ∃ d path w, partialBuild cfg a rules ep values method au = .ok (some (d, path, w)) := by
  simp only [adapterBuild] at h
  split at h
  · cases h
  · cases h
  · rename_i d path w hp
    exact ⟨d, path, w, hp⟩

/-- the scheme `MapAdapter.build` gives an external URL: ws / wss for a websocket rule, else http / https when a
scheme is bound, else none (`//host/...`) -/
def buildScheme (a : Adapter) (websocket : Bool) : Str :=
  let secure := a.urlScheme == "https".toList || a.urlScheme == "wss".toList
  if websocket then (if secure then "wss".toList else "ws".toList)
  else if !a.urlScheme.isEmpty then (if secure then "https".toList else "http".toList)
  else []

theorem buildScheme_cases (a : Adapter) (w : Bool) :
    (buildScheme a w = [] ∧ a.urlScheme = [] ∧ w = false) ∨
    (buildScheme a w ∈ ["http".toList, "https".toList, "ws".toList, "wss".toList] ∧ (buildScheme a w).isEmpty = false) := by
  unfold buildScheme
  cases w <;> cases (a.urlScheme == "https".toList || a.urlScheme == "wss".toList) <;> cases a.urlScheme <;> simp

theorem adapterBuild_forms {cfg : MapCfg} {a : Adapter} {rules : List Rule} {ep : Str} {values : List (Str × Value)}
    {method : Option Str} {fe au : Bool} {d path : Str} {w : Bool}
    (hp : partialBuild cfg a rules ep values method au = .ok (some (d, path, w))) :
    (fe = false ∧ w = false ∧
      ((cfg.hostMatching && getHost cfg.hostMatching a (some d) == a.serverName) ||
        (!cfg.hostMatching && some d == a.subdomain)) = true ∧
      adapterBuild cfg a rules ep values method fe au =
        .ok (rstripChar '/' a.scriptName ++ '/' :: lstripChar '/' path)) ∨
    adapterBuild cfg a rules ep values method fe au =
      .ok ((if (buildScheme a w).isEmpty then [] else buildScheme a w ++ [':']) ++ '/' :: '/' ::
        getHost cfg.hostMatching a (some d) ++ a.scriptName.dropLast ++ '/' :: lstripChar '/' path) := by
  unfold adapterBuild
  rw [hp]
  by_cases h : (!(fe || w) && ((cfg.hostMatching && getHost cfg.hostMatching a (some d) == a.serverName) ||
      (!cfg.hostMatching && some d == a.subdomain))) = true
  · refine .inl ?_
    simp only [Bool.and_eq_true, Bool.not_eq_true', Bool.or_eq_false_iff] at h
    exact ⟨h.1.1, h.1.2, h.2, if_pos (by simp [h])⟩
  · exact .inr (if_neg h)

theorem adapterBuild_external {cfg : MapCfg} {a : Adapter} {rules : List Rule} {ep : Str} {vals meth au} {u : Str}
    (hne : a.urlScheme ≠ [])
    (h : adapterBuild cfg a rules ep vals meth true au = .ok u) :
    ∃ s dom path, u = s ++ "://".toList ++ getHost cfg.hostMatching a (some dom) ++ (a.scriptName.dropLast ++ ['/']) ++
        lstripChar '/' path ∧
      s ∈ ["http".toList, "https".toList, "ws".toList, "wss".toList] := by
  obtain ⟨dom, path, w, hp⟩ := adapterBuild_ok_inv h
  rcases adapterBuild_forms (fe := true) hp with ⟨hfe, _⟩ | hu
  · cases hfe
  · rcases buildScheme_cases a w with ⟨_, hs, _⟩ | ⟨hmem, hemp⟩
    · exact absurd hs hne
    · rw [h, hemp] at hu
      injection hu with hu
      exact ⟨_, dom, path, by rw [hu]; simp, hmem⟩

theorem matchAdapter_redirect_inv {m : RMap} {a : Adapter} {p : Str} {meth : Option Str} {qa : QueryArgs} {ws : Option Bool}
    {url : Str} (h : matchAdapter m a p meth qa ws = .redirect url) :
    (∃ p', matchSM m.root m.cfg.mergeSlashes m.cfg.redirectDefaults (reqOf a meth ws) (domainPartOf m.cfg a) (pathPart p) = .requestPath p' ∧
        url = makeRedirectUrl m.cfg.hostMatching a (quote pathSafe p') (effQa a qa) none) ∨
    (∃ r vals u, matchSM m.root m.cfg.mergeSlashes m.cfg.redirectDefaults (reqOf a meth ws) (domainPartOf m.cfg a) (pathPart p) = .aliasRedirect r vals ∧
        adapterBuild m.cfg a m.rules r.endpoint vals (some (reqOf a meth ws).method) true false = .ok u ∧
        url = (if (effQa a qa).truthy then u ++ '?' :: encodeQueryArgs (effQa a qa) else u)) ∨
    (∃ r vals path dom, matchSM m.root m.cfg.mergeSlashes m.cfg.redirectDefaults (reqOf a meth ws) (domainPartOf m.cfg a) (pathPart p) = .ok r vals ∧
        url = makeRedirectUrl m.cfg.hostMatching a path (effQa a qa) (some dom)) := by
  have g := matchAdapter_graph m a p meth qa ws
  rw [h] at g
  cases g with
  | requestPath hsm => exact .inl ⟨_, hsm, rfl⟩
  | alias hsm hu => exact .inr (.inl ⟨_, _, _, hsm, hu, rfl⟩)
  | defaults hsm _ hd =>
    obtain ⟨_, _, _, _, fp⟩ := getDefaultRedirect_first hd
    obtain ⟨dom, path, _, hu⟩ := fp.built
    exact .inr (.inr ⟨_, _, path, dom, hsm, hu⟩)

theorem getHost_ne_nil (a : Adapter) (dp : Option Str) (h : a.serverName ≠ []) : getHost false a dp ≠ [] := by
  have key : ∀ sub : Str, (if sub.isEmpty then a.serverName else sub ++ '.' :: a.serverName) ≠ [] := by
    intro sub
    split
    · exact h
    · simp
  simp only [getHost, Bool.false_eq_true, if_false]
  cases dp with
  | none => exact key _
  | some d => exact key _

theorem scriptRoot_dropLast (a : Adapter) : (scriptRoot a).dropLast ++ ['/'] = scriptRoot a := by
  simp only [scriptRoot]
  split
  · rfl
  · rw [show ('/' :: stripChar '/' a.scriptName ++ ['/']) = ('/' :: stripChar '/' a.scriptName) ++ ['/'] from rfl,
      List.dropLast_concat]

theorem urlencode_ne_nil (x : Str × Str) (l : List (Str × Str)) : urlencode (x :: l) ≠ [] := by
  obtain ⟨k, v⟩ := x
  simp only [urlencode, List.map_cons]
  cases hl : l.map (fun (kv : Str × Str) => quotePlus querySafe kv.1 ++ '=' :: quotePlus querySafe kv.2) with
  | nil => simp [joinWith]
  | cons y t => simp [joinWith]

theorem encodeQueryArgs_ne_nil {qa : QueryArgs} (h : qa.truthy = true) : encodeQueryArgs qa ≠ [] := by
  cases qa with
  | none => cases h
  | text s =>
    simp only [QueryArgs.truthy, Bool.not_eq_true', List.isEmpty_eq_false_iff] at h
    exact h
  | pairs l =>
    cases l with
    | nil => cases h
    | cons x t => exact urlencode_ne_nil x t

theorem append_querySuffix (a : Adapter) (qa : QueryArgs) (u : Str) :
    (if (effQa a qa).truthy then u ++ '?' :: encodeQueryArgs (effQa a qa) else u) = u ++ querySuffix a qa := by
  simp only [querySuffix]
  cases ht : (effQa a qa).truthy with
  | false => simp
  | true =>
    cases he : encodeQueryArgs (effQa a qa) with
    | nil => exact absurd he (encodeQueryArgs_ne_nil ht)
    | cons x t => simp

theorem querySuffix_effQa (a : Adapter) (qa : QueryArgs) : querySuffix a (effQa a qa) = querySuffix a qa := by
  simp only [querySuffix, effQa_idem]

def SMResult.isAlias : SMResult → Bool
  | .aliasRedirect .. => true
  | _ => false

theorem matchSM_isAlias_of_found {root : State} {mg rd : Bool} {q : Req} {dom path : Str} {r : Rule} {vs : List Str}
    (h : (dfs q root (segments dom path) []).res = .found r vs) (hal : r.alias = false) :
    (matchSM root mg rd q dom path).isAlias = false := by
  have g := matchSM_graph root mg rd q dom path
  generalize matchSM root mg rd q dom path = res at g ⊢
  cases g with
  | alias h1 _ ha => rw [h] at h1; cases h1; rw [hal] at ha; cases ha
  | _ => rfl

/-- index and values of the last outcome of a redirect chain when it is a match -/
def finalMatch (l : List Outcome) : Option (Nat × List (Str × Value)) :=
  match l.getLast? with
  | some (.matched r vals) => some (r.idx, vals)
  | _ => none

end Wz.Routing
