/-
Decimal text and the two integer parsers of the header codecs (C06): `str(i)` (`intText`) is read back by `_plain_int`
(`plainInt_intText`) and by `int()` (`pyInt_intText`; Unicode digits, `_` separators and `int()`'s own white space do not
occur in it), hence `parse_age(dump_age(n))`; and what `parse_age` returns fits a `timedelta` (`parseAge_returns`).
-/
import WzVerif.Lemmas.Http
import WzVerif.Lemmas.HttpSafe
namespace Wz.Http
open Wz

theorem catching_ok {α : Type} (cl : List String) (a : α) (h : α) :
    catching cl (Except.ok a) h = .ok a := rfl

theorem catching_map_some_eq {α : Type} {cls : List String} (x : Except String α) (r : α)
    (h : catching cls (x.map some) none = .ok (some r)) : x = .ok r := by
  cases x with
  | ok a => simp [Except.map, catching] at h; rw [h]
  | error e =>
    simp only [Except.map, catching] at h
    split at h <;> cases h

theorem natText_all_digit (n : Nat) : (natText n).all Char.isDigit = true :=
  List.all_eq_true.2 (toDigits_isDigit n)

theorem natText_ne_nil (n : Nat) : natText n ≠ [] := Nat.toDigits_ne_nil

theorem digits_tight {ds : Str} (h : ds.all Char.isDigit = true) : Tight ds :=
  tight_of_noSpace fun c hc => isDigit_not_space (List.all_eq_true.1 h c hc)

theorem natText_isEmpty (n : Nat) : (natText n).isEmpty = false :=
  List.isEmpty_eq_false_iff.2 (natText_ne_nil n)

theorem natText_head (n : Nat) : ∃ c t, natText n = c :: t ∧ c.isDigit = true := by
  cases hq : natText n with
  | nil => exact absurd hq (natText_ne_nil _)
  | cons c t =>
    have := natText_all_digit n
    rw [hq, List.all_cons, Bool.and_eq_true] at this
    exact ⟨c, t, rfl, this.1⟩

theorem last_natText_not_space (pre : Str) (n : Nat) (c : Char)
    (h : (pre ++ natText n).getLast? = some c) : Py.isSpace c = false := by
  rw [getLast?_append_of_ne_nil (natText_ne_nil n)] at h
  exact (digits_tight (natText_all_digit n)).2 c h

theorem neg_natText_tight (n : Nat) : Tight ('-' :: natText n) :=
  ⟨fun c hc => by simp at hc; subst hc; decide, last_natText_not_space ['-'] n⟩

theorem digitsVal_natText (n : Nat) : digitsVal (natText n) = n := Nat.ofDigitChars_ten_toDigits

theorem signSplit_digits {ds : Str} (h : ds.all Char.isDigit = true) : signSplit ds = (false, ds) := by
  unfold signSplit
  split
  · next r =>
    have : ('-' : Char) ∈ ('-' :: r) := by simp
    exact absurd this (all_not_mem h (by decide))
  · rfl

theorem plainInt_digits (ds : Str) (h : ds.all Char.isDigit = true) (hne : ds ≠ []) :
    plainInt ds = .ok (digitsVal ds : Int) := by
  unfold plainInt
  rw [strip_tight (digits_tight h), signSplit_digits h]
  have hall : ds.all isPlainDigit = true := by rwa [funext isPlainDigit_eq]
  have hemp : ds.isEmpty = false := List.isEmpty_eq_false_iff.2 hne
  simp [hall, hemp]

theorem plainInt_intText (i : Int) : plainInt (intText i) = .ok i := by
  cases i with
  | ofNat n =>
    simp only [intText]
    rw [plainInt_digits _ (natText_all_digit n) (natText_ne_nil n), digitsVal_natText]
    rfl
  | negSucc n =>
    simp only [intText]
    unfold plainInt
    rw [strip_tight (neg_natText_tight _)]
    have hall : (natText (n + 1)).all isPlainDigit = true := by
      rw [funext isPlainDigit_eq]; exact natText_all_digit (n + 1)
    simp only [signSplit, hall, natText_isEmpty, digitsVal_natText]
    simp
    rfl

theorem intText_nonneg {b : Int} (h : 0 ≤ b) : intText b = natText b.toNat := by
  cases b with
  | ofNat n => rfl
  | negSucc n => omega

theorem plainInt_natText (n : Nat) : plainInt (natText n) = .ok (n : Int) := by
  have := plainInt_intText (Int.ofNat n)
  simpa [intText] using this

theorem dash_not_digit : ('-' : Char).isDigit = false := by decide

theorem decimalTbl_eq : Gen.Http.decimalTbl = (List.range 256).map isDigitNat := by decide +kernel

/-- among U+0000..U+00FF only the ASCII digits are `str.isdecimal()` -/
theorem isDecimalCh_eq (c : Char) : isDecimalCh c = c.isDigit := by
  rw [isDecimalCh, decimalTbl_eq, tbl_tabulate, isDigit_nat, isDigitNat]
  by_cases h : c.toNat < 256 <;> simp [h]
  omega

theorem isDecimalCh_of_isDigit {c : Char} (h : c.isDigit = true) : isDecimalCh c = true :=
  (isDecimalCh_eq c).trans h

/-- without underscores the digit-group scanner of C06's `int()` model accepts exactly a run of ASCII digits -/
theorem intBody_go_plain (t : Str) : ∀ acc : Str, '_' ∉ t →
    intBody?.go t acc = if t.all Char.isDigit then some (acc.reverse ++ t) else none := by
  induction t with
  | nil => intro acc _; simp [intBody?.go]
  | cons d r ih =>
    intro acc hu
    have hd : d ≠ '_' := fun e => hu (by simp [e])
    have hr : '_' ∉ r := fun e => hu (by simp [e])
    rw [intBody?.go.eq_def]
    split
    · next heq => simp at heq
    · next d' t' heq => simp at heq; exact absurd heq.1 hd
    · next d' t' hno heq =>
      simp at heq
      obtain ⟨rfl, rfl⟩ := heq
      rw [isDecimalCh_eq]
      cases hdg : d.isDigit <;> simp [hdg, ih _ hr]

theorem intBody_plain (d : Str) (hu : '_' ∉ d) :
    intBody? d = if d.isEmpty || !d.all Char.isDigit then none else some d := by
  cases d with
  | nil => rfl
  | cons x t =>
    have hr : '_' ∉ t := fun e => hu (by simp [e])
    simp only [intBody?, isDecimalCh_eq, intBody_go_plain t [x] hr]
    cases hx : x.isDigit
    · simp [hx]
    · cases ht : t.all Char.isDigit <;> simp [hx, ht]

theorem intBody_digits (ds : Str) (h : ds.all Char.isDigit = true) (hne : ds ≠ []) :
    intBody? ds = some ds := by
  rw [intBody_plain ds (all_not_mem h (by decide)), h, List.isEmpty_eq_false_iff.2 hne]; rfl

theorem signSplit2_digits {ds : Str} (h : ds.all Char.isDigit = true) : signSplit2 ds = (false, ds) := by
  unfold signSplit2
  split
  · next r =>
    have : ('-' : Char) ∈ ('-' :: r) := by simp
    exact absurd this (all_not_mem h (by decide))
  · next r =>
    have : ('+' : Char) ∈ ('+' :: r) := by simp
    exact absurd this (all_not_mem h (by decide))
  · rfl

theorem intStrip_tight {x : Str} (h : Tight x) : intStrip x = x := by
  have hp : ∀ c, Py.isSpace c = false → isIntSpace c = false := fun c hc => by simp [isIntSpace, hc]
  rw [intStrip, dropWhile_head_false fun c hc => hp c (h.1 c hc), rstripBy_noop fun c hc => hp c (h.2 c hc)]

/-- ASCII has the one run of decimal digits `0..9`: every other run starts above U+007F -/
theorem decimalVal?_ascii {c : Char} (h : c.toNat < 128) :
    decimalVal? c = if 48 ≤ c.toNat ∧ c.toNat ≤ 57 then some (c.toNat - 48) else none := by
  have hz : Gen.Http.decimalZeros = 48 :: Gen.Http.decimalZeros.tail := rfl
  have ht : Gen.Http.decimalZeros.tail.find? (fun z => decide (z ≤ c.toNat) && decide (c.toNat < z + 10)) = none := by
    have : ∀ z ∈ Gen.Http.decimalZeros.tail, 128 ≤ z := by decide
    exact List.find?_eq_none.2 fun z hz => by have := this z hz; simp; omega
  rw [decimalVal?, hz, List.find?_cons, ht]
  by_cases hd : 48 ≤ c.toNat ∧ c.toNat ≤ 57
  · have : c.toNat < 58 := by omega
    simp [this, hd]
  · have : (decide (48 ≤ c.toNat) && decide (c.toNat < 48 + 10)) = false := by simp; omega
    simp [this, hd, Gen.Http.decimalStray]

theorem toAsciiDecimal_ascii (s : Str) (h : ∀ c ∈ s, c.toNat < 128) : toAsciiDecimal s = s := by
  unfold toAsciiDecimal
  conv => rhs; rw [← List.map_id s]
  apply List.map_congr_left
  intro c hc
  rw [decimalVal?_ascii (h c hc)]
  by_cases hd : 48 ≤ c.toNat ∧ c.toNat ≤ 57
  · rw [if_pos hd]
    show Char.ofNat (48 + (c.toNat - 48)) = c
    rw [show 48 + (c.toNat - 48) = c.toNat by omega, Char.ofNat_toNat]
  · rw [if_neg hd]; rfl

theorem pyInt_natText (n : Nat) : pyInt (natText n) = .ok (n : Int) := by
  have h := natText_all_digit n
  unfold pyInt
  rw [toAsciiDecimal_ascii _ (fun c hc => isDigit_lt128 (List.all_eq_true.1 h c hc)), intStrip_tight (digits_tight h), signSplit2_digits h]
  simp [intBody_digits _ h (natText_ne_nil n), digitsVal_natText]

theorem pyInt_intText (i : Int) : pyInt (intText i) = .ok i := by
  cases i with
  | ofNat n => exact pyInt_natText n
  | negSucc n =>
    have h := natText_all_digit (n + 1)
    simp only [intText]
    unfold pyInt
    rw [toAsciiDecimal_ascii _ (by
      intro c hc
      rcases List.mem_cons.1 hc with e | e
      · subst e; decide
      · exact isDigit_lt128 (List.all_eq_true.1 h c e)), intStrip_tight (neg_natText_tight _)]
    simp [signSplit2, intBody_digits _ h (natText_ne_nil _), digitsVal_natText]
    rfl

theorem age_roundtrip_any (n : Nat) (h : n ≤ Gen.Http.timedeltaMaxSeconds) :
    parseAge (dumpAge n) = .ok (some n) := by
  unfold parseAge dumpAge
  simp only [natText_isEmpty, Bool.false_eq_true, if_false, pyInt_natText, Except.map, catching_ok, ok_bind]
  have : ¬ ((n : Int) < 0) := by omega
  simp [this, h]

theorem parseAge_returns (s : Str) :
    Returns (fun r => ∀ n, r = some n → n ≤ Gen.Http.timedeltaMaxSeconds) (parseAge s) := by
  unfold parseAge
  split
  · exact .ok (by simp)
  · refine (catching_safe (onlyRaises_map _ (pyInt_onlyRaises s))).returns.bind fun r _ => ?_
    cases r with
    | none => exact .ok (by simp)
    | some secs =>
      simp only
      split
      · exact .ok (by simp)
      · split
        · exact .ok (by simp)
        · exact .ok (by rintro n ⟨rfl⟩; omega)

theorem parseAge_safe (s : Str) : Safe (parseAge s) := (parseAge_returns s).safe

end Wz.Http
