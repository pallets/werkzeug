/-
From `EnvironBuilder` to the environ (C15). The arguments inside the property's domain are a `path` that starts with
exactly one `/` (`PathArg`) and a `base_url` given by its parts (`BaseArg`, its text `baseText`). What
`EnvironBuilder.__init__` / `get_environ` make of them (`urlsplit(path)`, `iri_to_uri`, the base_url setter, the
unquoting of the script root and the path, the latin-1 dances) is `builderEnviron_eq`; the general constructor
`builderInit` agrees with `builderEnviron` on the (path, base_url, str) form (`builderEnviron_eq_init`), and the URL side
of it does not look at the query argument (`builderInit_map_congr`).
-/
import WzVerif.Model.UrlBuilder
import WzVerif.Lemmas.UrlDenote
namespace Wz.Url
open Wz

/-- a `path` argument inside the property's domain: it starts with exactly one `/` ("paths not
starting with '//'"), and it is a URL *path* - no `?` (query), no `#` (fragment) - without TAB / CR /
LF (known finding F15c: `urlsplit` deletes them) -/
structure PathArg (p : Str) : Prop where
  slash : p.head? = some '/'
  single : (p.drop 1).head? ≠ some '/'
  noq : '?' ∉ p
  noh : '#' ∉ p
  notab : noTab p

theorem single_slash_cons {p : Str} (h1 : p.head? = some '/') (h2 : (p.drop 1).head? ≠ some '/') :
    ∃ q, p = '/' :: q ∧ q.head? ≠ some '/' := by
  cases p with
  | nil => cases h1
  | cons x q =>
    obtain rfl : x = '/' := by simpa using h1
    exact ⟨q, rfl, by simpa using h2⟩

theorem PathArg.cons {p : Str} (h : PathArg p) : ∃ q, p = '/' :: q ∧ q.head? ≠ some '/' :=
  single_slash_cons h.slash h.single

theorem urlsplit_path_only (o : UrlOpaque) {p : Str} (h : PathArg p) :
    urlsplit o p = .ok ⟨[], [], p, [], []⟩ := by
  obtain ⟨q, rfl, hq⟩ := h.cons
  have hhead : ∀ c, ('/' :: q).head? = some c → c = '/' := fun c hc => (Option.some.inj hc).symm
  have hnet : (['/', '/'] : Str).isPrefixOf ('/' :: q) = false := by
    cases q with
    | nil => rfl
    | cons y q' => simp [List.isPrefixOf, show '/' ≠ y from fun e => hq (by simp [← e])]
  rw [urlsplit_of_stages (cleanUrl_id (fun c hc => by rw [hhead c hc]; decide) h.notab)
    (splitScheme_none fun c hc => by rw [hhead c hc]; decide) (splitNetloc_none hnet) rfl rfl,
    splitFirst_none _ h.noh, splitFirst_none _ h.noq]

theorem urlunsplit_path_only (x : Str) : urlunsplit ⟨[], [], x, [], []⟩ = x := by
  simp [urlunsplit]

/-- `iri_to_uri` of a path argument only quotes it (`self.path = iri_to_uri(request_uri.path)`): the other parts
are empty, and so are their conversions -/
theorem iriToUriText_path (o : UrlOpaque) {p : Str} (h : PathArg p) :
    iriToUriText o p = .ok (quote Gen.UrlTables.iriPathSafe p) := by
  rw [iriToUriText_eq, convText_of (urlsplit_path_only o h) (p := { path := p }) rfl]
  exact congrArg _ (urlunsplit_path_only _)

/-- a `base_url` argument of the property's grammar, given by its parts: scheme, raw host text
(ASCII, IDN, IPv4 or an IPv6 literal without its brackets), optional port and root path -/
structure BaseArg (o : UrlOpaque) (scheme h : Str) (port : Option Nat) (root : Str) : Prop where
  scheme : validScheme scheme = true ∧ scheme.map asciiLower = scheme ∧ noTab scheme
  host_ne : h ≠ []
  host_chars : ∀ c ∈ h, hostChar c = true
  port : ∀ k, port = some k → k ≤ 65535
  bracket : h.contains ':' = true → o.bracketOk h = true
  root_form : root = [] ∨ root.head? = some '/'
  root_chars : '?' ∉ root ∧ '#' ∉ root ∧ noTab root

/-- the text of the base URL: `scheme://host[:port]root` (an IPv6 host in brackets) -/
def baseText (scheme h : Str) (port : Option Nat) (root : Str) : Str :=
  scheme ++ "://".toList ++ (hostBr h ++ portText port) ++ root

theorem BaseArg.authority {o : UrlOpaque} {scheme h root : Str} {port : Option Nat}
    (b : BaseArg o scheme h port root) : Authority o scheme h port :=
  ⟨b.scheme, b.host_ne, b.host_chars, b.port, b.bracket⟩

theorem BaseArg.root_class {o : UrlOpaque} {scheme h root : Str} {port : Option Nat}
    (b : BaseArg o scheme h port root) : ∀ c ∈ root, pathChar c = true :=
  pathChar_iff.mpr b.root_chars

theorem BaseArg.rstrip {o : UrlOpaque} {scheme h root : Str} {port : Option Nat}
    (b : BaseArg o scheme h port root) : BaseArg o scheme h port (rstripSlash root) :=
  have hsub := (rstripSlash_prefix root).subset
  ⟨b.scheme, b.host_ne, b.host_chars, b.port, b.bracket, rstripSlash_form b.root_form,
    fun hm => b.root_chars.1 (hsub hm), fun hm => b.root_chars.2.1 (hsub hm), fun c hc => b.root_chars.2.2 c (hsub hc)⟩

theorem BaseArg.add_slash {o : UrlOpaque} {scheme h root : Str} {port : Option Nat}
    (b : BaseArg o scheme h port root) : BaseArg o scheme h port (root ++ ['/']) :=
  ⟨b.scheme, b.host_ne, b.host_chars, b.port, b.bracket,
    Or.inr (by
      cases root with
      | nil => rfl
      | cons x xs => simpa using b.root_form),
    pathChar_iff.mp (List.forall_mem_append.mpr ⟨b.root_class, by decide⟩)⟩

theorem baseText_eq {o : UrlOpaque} (hn : ∀ n, o.nfkcOk n = true) {scheme h root : Str} {port : Option Nat}
    (b : BaseArg o scheme h port root) :
    baseText scheme h port root = urlunsplit ⟨scheme, hostBr h ++ portText port, root, [], []⟩ := by
  rw [urlunsplit_good (plain_url hn b.authority b.root_form b.root_class (query := []) (fun c hc => by cases hc)).1]
  simp [baseText, tailOf, List.append_assoc]

/-- **What `EnvironBuilder` reads from `base_url`**: `iri_to_uri(base_url)` succeeds and splits into
the scheme, the IDNA-encoded host with the same port, and the quoted root path; no query, no
fragment. -/
theorem builder_base_split {o : UrlOpaque} (laws : HostLaws o) {scheme h ha root : Str} {port : Option Nat}
    (b : BaseArg o scheme h port root) (hconv : o.hostToAscii h = some ha) :
    ∃ B, iriToUriText o (baseText scheme h port root) = .ok B ∧
      urlsplit o B = .ok ⟨scheme, hostBr ha ++ portText port, quote Gen.UrlTables.iriPathSafe root, [], []⟩ := by
  have g1 := (iri_pass (plainParts_base b.scheme (laws.a_chars _ _ hconv) b.port b.root_form (query := []))
    (laws.bracket_a _ _ hconv) (netlocOk_of_law laws.nfkc _)).good
  rw [apply_plainParts] at g1
  refine ⟨_, ?_, urlsplit_urlunsplit g1⟩
  rw [baseText_eq laws.nfkc b, iriToUriText_eq,
    plain_text laws.nfkc b.authority b.root_form b.root_class (fun c hc => by cases hc) hconv, apply_plainParts]
  rfl

/-- **`EnvironBuilder(path, base_url, query_string).get_environ()`** for arguments of the property's
domain: SCRIPT_NAME / PATH_INFO are the dances of the unquoted (quoted) root path and path,
QUERY_STRING the dance of the query string, HTTP_HOST the IDNA-encoded host with its port. -/
theorem builderEnviron_eq {o : UrlOpaque} (laws : HostLaws o) {scheme h ha root p : Str} {port : Option Nat}
    (qs : Str) (b : BaseArg o scheme h port root) (hp : PathArg p) (hconv : o.hostToAscii h = some ha) :
    builderEnviron o p (baseText scheme h port root) qs = .ok
      (danceEnviron scheme (hostBr ha ++ portText port)
        (unquoteReplace (quote Gen.UrlTables.iriPathSafe (rstripSlash root)))
        (unquoteReplace (quote Gen.UrlTables.iriPathSafe p)) qs) := by
  obtain ⟨B, hB, hsB⟩ := builder_base_split laws b hconv
  have h1 : p.contains '?' = false := by simpa using hp.noq
  unfold builderEnviron
  simp only [h1, urlsplit_path_only o hp, iriToUriText_path o hp, hB, hsB]
  rw [rstripSlash_quote (show Fixed Gen.UrlTables.iriPathSafe '/' from ⟨by decide, by decide⟩)]
  rfl

theorem bind_ok {α β : Type} {x : Except String α} {f : α → Except String β} {b : β}
    (h : x.bind f = .ok b) : ∃ a, x = .ok a ∧ f a = .ok b := by
  cases x with
  | error e => cases h
  | ok a => exact ⟨a, rfl, h⟩

theorem map_ok {α β : Type} {x : Except String α} {f : α → β} {b : β}
    (h : x.map f = .ok b) : ∃ a, x = .ok a ∧ f a = b := by
  cases x with
  | error e => cases h
  | ok a => exact ⟨a, rfl, Except.ok.inj h⟩

theorem builderInit_inv {o : UrlOpaque} {path : Str} {base : Option Str} {q : QueryArg} {b : Builder}
    (h : builderInit o path base q = .ok b) :
    ∃ ru selfPath scheme netloc root, urlsplit o path = .ok ru ∧
      b = mkBuilder selfPath path root netloc scheme (effectiveQuery path ru.query q) := by
  unfold builderInit at h
  split at h
  · cases h
  · obtain ⟨ru, h1, h⟩ := bind_ok h
    obtain ⟨sp, _, h⟩ := bind_ok h
    obtain ⟨b', _, h⟩ := bind_ok h
    obtain ⟨t, _, h⟩ := bind_ok h
    exact ⟨ru, sp, t.1, t.2.1, t.2.2, h1, (Except.ok.inj h).symm⟩

/-- two query arguments that are both given (or both absent) and that `f` cannot tell apart after `__init__`
give the same `f` of the builder: the URL side of `__init__` does not look at the query argument -/
theorem builderInit_map_congr {β : Type} (f : Builder → β) (o : UrlOpaque) (path : Str) (base : Option Str)
    {q q' : QueryArg} (hg : q.given = q'.given)
    (h : ∀ sp root netloc scheme rq, f (mkBuilder sp path root netloc scheme (effectiveQuery path rq q)) =
      f (mkBuilder sp path root netloc scheme (effectiveQuery path rq q'))) :
    (builderInit o path base q).map f = (builderInit o path base q').map f := by
  unfold builderInit
  rw [hg]
  split
  · rfl
  · cases urlsplit o path with
    | error e => rfl
    | ok ru =>
      cases h2 : iriToUriText o ru.path with
      | error e => simp [Except.bind, h2, Except.map]
      | ok sp =>
        cases baseIri o base with
        | error e => simp [Except.bind, h2, Except.map]
        | ok b' =>
          cases h4 : baseUrlSetter o b' with
          | error e => simp [Except.bind, h2, h4, Except.map]
          | ok t => simp [Except.bind, h2, h4, Except.map, h]

/-- a mapping given as `query_string` builds the environ of its `_urlencode` text given as a `str` -/
theorem builderInit_items_environ (o : UrlOpaque) (path : Str) (base : Option Str) (l : List (Str × Str)) :
    (builderInit o path base (.items l)).map (fun b => b.environ.toEnviron) =
      (builderInit o path base (.text (urlencodeText l))).map (fun b => b.environ.toEnviron) :=
  builderInit_map_congr _ o path base rfl fun _ _ _ _ _ => rfl

/-- the (path, base_url, query_string: str) form of the general constructor is `builderEnviron` -/
theorem builderEnviron_eq_init (o : UrlOpaque) (path base qs : Str) :
    builderEnviron o path base qs =
      (builderInit o path (some base) (.text qs)).map (fun b => b.environ.toEnviron) := by
  unfold builderEnviron builderInit
  by_cases hq : path.contains '?' = true
  · simp only [hq, QueryArg.given, Bool.true_and, if_true]
    rfl
  · simp only [hq, QueryArg.given, Bool.true_and, Bool.false_eq_true, if_false]
    cases urlsplit o path with
    | error e => rfl
    | ok ru =>
      simp only [Except.bind]
      cases iriToUriText o ru.path with
      | error e => rfl
      | ok sp =>
        simp only [baseIri]
        cases iriToUriText o base with
        | error e => rfl
        | ok b =>
          simp only [Except.map, baseUrlSetter]
          cases urlsplit o b with
          | error e => rfl
          | ok bb =>
            simp only
            by_cases hb : (!bb.query.isEmpty || !bb.fragment.isEmpty) = true
            · simp only [hb, if_true]
            · simp only [hb, Bool.false_eq_true, if_false]
              rfl

theorem builderInit_queryText {o : UrlOpaque} {path : Str} {base : Option Str} {q : QueryArg} {b : Builder}
    (h : builderInit o path base q = .ok b) :
    ∃ ru, urlsplit o path = .ok ru ∧ b.queryText = (match q with
      | .text s => s
      | .items l => urlencodeText l
      | .absent => if path.contains '?' then ru.query else []) := by
  obtain ⟨ru, _, _, _, _, h1, hb⟩ := builderInit_inv h
  refine ⟨ru, h1, ?_⟩
  subst hb
  cases q with
  | absent =>
    by_cases hc : path.contains '?' = true
    · simp only [Builder.queryText, mkBuilder, effectiveQuery, hc, if_true]
    · simp only [Builder.queryText, mkBuilder, effectiveQuery, hc, Bool.false_eq_true, if_false]
      decide
  | text s => simp [Builder.queryText, mkBuilder, effectiveQuery]
  | items l => simp [Builder.queryText, mkBuilder, effectiveQuery]

theorem builderInit_both_refused (o : UrlOpaque) (path : Str) (base : Option Str) (q : QueryArg)
    (hq : q.given = true) (hp : '?' ∈ path) : builderInit o path base q = .error "ValueError" := by
  unfold builderInit
  have : path.contains '?' = true := by simpa using hp
  simp only [hq, this, Bool.and_self, if_true]

end Wz.Url
