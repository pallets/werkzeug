/-
C08 — multi-value containers behave like their documented model.
Property theorems (helper lemmas: Lemmas/MultiDict.lean, MultiDictLaws.lean, MultiDictHeap.lean, HeaderSet.lean, Headers.lean,
HeadersSpec.lean; models: Model/Containers.lean, Model/Headers.lean; generated tables: Gen/Containers.lean).
-/
import WzVerif.Lemmas.Basics
import WzVerif.Lemmas.MultiDictLaws
import WzVerif.Lemmas.MultiDictHeap
import WzVerif.Lemmas.HeaderSet
import WzVerif.Lemmas.HeadersSpec
namespace Wz.Props.C08
open Wz Wz.C08L

/-! ## Immutable variants: every mutator of the mutable base is blocked

`Gen.Containers.immTable` is regenerated on every run from the live classes: for each immutable
class, the mutator names of its mutable base (found behaviourally) and the names the immutable
class answers with `TypeError` leaving the object unchanged. -/

def immBlocksAll (except : List (String × String)) : Bool :=
  Gen.Containers.immTable.all fun (cls, _, muts, blocked) =>
    muts.all fun m => blocked.contains m || except.contains (cls, m)

/-- Every mutator of `list` / `dict` / `TypeConversionDict` / `MultiDict` / `Headers` is answered
with TypeError (object unchanged) by `ImmutableList`, `ImmutableDict`, `ImmutableTypeConversionDict`,
`ImmutableMultiDict`, `CombinedMultiDict`, `EnvironHeaders` — full strength, no exception
(`decide` over the regenerated table; the former holes `ImmutableList.clear` / `EnvironHeaders.clear`,
F08e / F08f, were repaired by 1433786). -/
theorem immutable_blocks_all : immBlocksAll [] = true := by decide

/-- the table is not vacuous: every class has mutators, and `clear` is among the mutators that are
checked for `ImmutableList` and `EnvironHeaders` (the F08e / F08f regressions) -/
theorem immutable_table_covers_clear :
    Gen.Containers.immTable.all (fun (_, _, muts, _) => !muts.isEmpty) = true ∧
    (Gen.Containers.immTable.filter (fun (cls, _, muts, _) =>
      (cls == "ImmutableList" || cls == "EnvironHeaders") && muts.contains "clear")).length = 2 := by
  decide

section MultiDict
open PyDict MD MDSpec
variable {κ ν : Type} [DecidableEq κ]

/-- One step: on a well-formed state (distinct keys, no empty value list) every public mutator of
`MultiDict` — `d[k]=v`, `del d[k]`, `add`, `setlist`, `setdefault`, `setlistdefault`, `update`,
`|=`, `pop`, `popitem`, `poplist`, `popitemlist`, `clear` — changes the state and returns / raises
exactly as the multimap model does, provided the call does not give a key zero values
(`okOp`: `setlist(k, [])`, `setlistdefault(k)` on a missing key — F08d). -/
theorem md_step_refines (c : MD.St κ ν) (h : WF c) (op : MD.Op κ ν) (hop : okOp c op = true) :
    MD.step c op = MDSpec.step c op ∧ WF (MD.step c op).1 :=
  ⟨C08L.md_step_refines c h op hop, C08L.md_step_wf c h op hop⟩

example : okOp ([(1, [2])] : MD.St Nat Nat) (.setlist 1 [3, 4]) = true ∧ WF ([(1, [2])] : MD.St Nat Nat) :=
  ⟨by decide, by simp [WF]⟩

/-- Every read of the public API (`d[k]`, `getlist`, `in`, `len`, `keys`, `values`, `items`
(multi on/off), `lists`, `listvalues`, `to_dict` (flat on/off)) on a well-formed state gives what the
multimap model gives — in particular none of them raises IndexError. -/
theorem md_read_refines (c : MD.St κ ν) (h : WF c) (q : Query κ) : MD.read c q = MDSpec.read c q :=
  C08L.md_read_refines c h q

/-- Refinement over EVERY history: from a well-formed state, after any sequence of operations that
stays inside the model (`okHist`), the concrete state equals the model state, is well-formed, and
every read agrees with the model. No bound on the length of the history or the sizes. -/
theorem md_refines (c : MD.St κ ν) (h : WF c) (ops : List (MD.Op κ ν)) (hok : okHist c ops = true)
    (q : Query κ) :
    MD.read (MD.run c ops) q = MDSpec.read (MDSpec.run c ops) q := by
  have := C08L.md_run_refines c h ops hok
  rw [← this.1]
  exact C08L.md_read_refines _ this.2 q

example : okHist ([] : MD.St Nat Nat)
    [.add 1 2, .add 1 3, .setitem 2 5, .setlist 1 [7, 8], .pop 2 none, .setlistdefault 1 [], .popitem,
     .update (.mapping [(4, .many []), (5, .one 6)])] = true := by decide

/-- The constructor establishes well-formedness for every supported input form (pairs, mapping with
scalar / list values — empty lists are skipped); for a `MultiDict` argument it copies the argument. -/
theorem md_construct_wf (arg : Option (MD.Arg κ ν)) (h : ∀ m, arg = some (.multi m) → WF m) :
    WF (MD.construct arg) := by
  have hnil : WF ([] : MD.St κ ν) := ⟨by simp, by simp⟩
  cases arg with
  | none => exact hnil
  | some a =>
    cases a with
    | multi m => exact h m rfl
    | pairs l => exact MDLemmas.wf_addAll hnil l
    | mapping m =>
      -- every step of the fold stores a non-empty list or nothing
      refine foldl_inv (P := WF) (ok := fun _ => True) (fun acc e hacc _ => ?_) m [] hnil (fun _ _ => trivial)
      obtain ⟨k, mv⟩ := e
      cases mv with
      | one v => exact MDLemmas.wf_set hacc k (List.cons_ne_nil v [])
      | many vs =>
        cases vs with
        | nil => exact hacc
        | cons x r => exact MDLemmas.wf_set hacc k (List.cons_ne_nil x r)

/-- F08d: the full statement (every operation keeps the state a multimap) is false:
`MultiDict().setlist('a', [])` leaves the key `'a'` with zero values — `'a' in d` is true while
`items()` raises IndexError, which no multimap state can exhibit. -/
theorem md_step_wf_full_false :
    ¬ (∀ (c : MD.St Nat Nat) (op : MD.Op Nat Nat), WF c → WF (MD.step c op).1) := by
  intro h
  have := (h [] (.setlist 0 []) ⟨by simp, by simp⟩).2 (0, []) (by simp [MD.step, PyDict.set])
  exact this rfl

/-- ... and the reads really disagree with every multimap: after `setlist('a', [])` (or
`setlistdefault('a')`) the key is present but `items()`, `values()` and `to_dict()` fail. -/
theorem md_zero_values_reads :
    MD.read (MD.step ([] : MD.St Nat Nat) (.setlist 0 [])).1 (.contains 0) = .ok (.bool true) ∧
    MD.read (MD.step ([] : MD.St Nat Nat) (.setlist 0 [])).1 (.items false) = .error "IndexError" ∧
    MD.read (MD.step ([] : MD.St Nat Nat) (.setlist 0 [])).1 .values = .error "IndexError" ∧
    MD.read (MD.step ([] : MD.St Nat Nat) (.setlist 0 [])).1 (.toDict true) = .error "IndexError" ∧
    MD.read (MD.step ([] : MD.St Nat Nat) (.setlistdefault 0 [])).1 (.contains 0) = .ok (.bool true) ∧
    MD.read (MD.step ([] : MD.St Nat Nat) (.setlistdefault 0 [])).1 (.items false) = .error "IndexError" := by
  refine ⟨rfl, rfl, rfl, rfl, rfl, rfl⟩

/-- the multimap model itself never leaves well-formed states (so `MDSpec` is a model of
"insertion-ordered multimap" for every history, including the calls excluded above, where it
removes / does not create the key) -/
theorem mdspec_step_wf (m : MultiMap κ ν) (h : WF m) (op : MD.Op κ ν) : WF (MDSpec.step m op).1 := by
  by_cases hop : okOp m op = true
  · rw [← C08L.md_step_refines m h op hop]; exact C08L.md_step_wf m h op hop
  · cases op with
    | setlist k vs =>
      simp only [okOp, Bool.not_eq_true', Bool.not_eq_false] at hop
      simp only [MDSpec.step, hop, if_true]
      exact MDLemmas.wf_filter h _
    | setlistdefault k vs =>
      simp only [okOp, Bool.or_eq_true, Bool.not_eq_true', not_or, Bool.not_eq_true,
        Bool.not_eq_false] at hop
      simp only [MDSpec.step, MDLemmas.hasKey_eq, hop.1, Bool.false_eq_true, if_false, hop.2, if_true]
      exact h
    | _ => simp [okOp] at hop

end MultiDict

section HeaderSet
open Hdr HS

/-- `HeaderSet.Inv` (`_set` = lower-cased `_headers`, no two members equal ignoring case) is
preserved by `add`, `remove` (as repaired), `discard`, `update`, `clear`, `del hs[i]`, and by
`hs[i] = v` whenever `v` is not already a member at another position. -/
theorem hs_inv_preserved (c : HS.St) (h : Inv c) (op : HS.Op) (hok : hsOk c op = true) :
    Inv (HS.step c op).st :=
  C08L.hs_inv_preserved c h op hok

example : Inv (HS.construct [['a'], ['b']]) ∧ hsOk (HS.construct [['a'], ['b']]) (.setitem 0 ['A']) = true := by
  decide

/-- F08b: item assignment does NOT preserve the invariant in general:
`hs = HeaderSet(['a','b']); hs[0] = 'B'` leaves items `['B','b']` with `len(hs) == 1`. -/
theorem hs_inv_setitem_full_false :
    ¬ (∀ (c : HS.St) (op : HS.Op), Inv c → Inv (HS.step c op).st) := by
  intro h
  exact absurd (h (HS.construct [['a'], ['b']]) (.setitem 0 ['B']) (by decide)) (by decide)

/-- **the constructor establishes the invariant for every input** (as repaired by 1a2e0e6: both
containers are built through the loop of `update()`): `HeaderSet(items)` keeps the first spelling of
every member - it is the case-insensitive ordered set obtained by inserting the items one by one -
and nothing is dropped when the input has no case-duplicates -/
theorem hs_construct_inv (l : List Str) :
    Inv (HS.construct l) ∧ (HS.construct l).headers = HSSpec.insertAll [] l ∧
    ((l.map lower).Nodup → HS.construct l = ⟨l, l.map lower⟩) :=
  ⟨C08L.hs_construct_inv_any l, C08L.updateLoop_spec ⟨[], []⟩ C08L.inv_empty l, C08L.construct_of_nodup l⟩

/-- the F08c regression (repaired by 1a2e0e6): `HeaderSet(['a','A'])` has one item and `len == 1`
(it used to keep both spellings with `len == 1`) -/
theorem hs_construct_case_duplicates_regression :
    HS.construct [['a'], ['A']] = ⟨[['a']], [['a']]⟩ ∧ HS.construct [['b'], ['a'], ['B'], ['c']] = ⟨[['b'], ['a'], ['c']], [['b'], ['a'], ['c']]⟩ := by
  decide

/-- One step: under the invariant every mutator acts on the member list exactly like the
case-insensitive ordered set model (`HSSpec.step`) and raises the same exception. -/
theorem hs_step_refines (c : HS.St) (h : Inv c) (op : HS.Op) :
    (HS.step c op).st.headers = (HSSpec.step c.headers op).1 ∧
    (HS.step c op).res = (HSSpec.step c.headers op).2 :=
  C08L.hs_step_refines c h op

/-- reads: membership and length agree with the model under the invariant (indexing, `find`,
`index`, iteration, `to_header` are functions of the member list alone) -/
theorem hs_reads_refine (c : HS.St) (h : Inv c) (x : Str) :
    HS.contains c x = HSSpec.mem c.headers x ∧ HS.len c = c.headers.length :=
  ⟨(mem_iff_contains c h x).symm, hs_len_eq c h⟩

/-- Refinement over EVERY history: starting from a state satisfying the invariant, after any
sequence of operations (item assignments restricted as in `hsOk`) the invariant holds and the member
list is the one the ordered-set model computes. -/
theorem hs_refines (c : HS.St) (h : Inv c) (ops : List HS.Op) (hok : hsOkHist c ops = true) :
    Inv (HS.run c ops) ∧ (HS.run c ops).headers = hsSpecRun c.headers ops :=
  C08L.hs_run_refines c h ops hok

example : hsOkHist (HS.construct [['a'], ['b']])
    [.remove ['A'], .add ['C'], .setitem 0 ['x'], .discard ['q'], .update [['b'], ['B'], ['d']], .delitem (-1)] = true := by
  decide

/-- the F08a regression (repaired by bc9f56a): `HeaderSet(['foo','bar']).remove('Foo')` removes the
member from both `_headers` and `_set` -/
theorem hs_remove_other_case :
    (HS.step (HS.construct ["foo".toList, "bar".toList]) (.remove "Foo".toList)).st
      = ⟨["bar".toList], ["bar".toList]⟩ := by
  decide

end HeaderSet

section Headers
open Hdr

/-- `Headers.set` (the `for … else` loop with its replace-first / delete-rest slice assignment) is
exactly its documented meaning `specSet`: the first entry of the key is replaced in place, every
later entry of the key is dropped, and without an entry the pair is appended. Every other keyed
mutator (`setlist`, `setdefault`, `update`, `h[k] = v`, …) is defined through `set` / `add`. -/
theorem headers_set_eq_spec (l : HList) (k v : Str) (hv : hasNL v = false) :
    Hdr.set l k v = (specSet l k v, .ok ()) :=
  set_eq_spec l k v hv

/-- Headers refines its abstract spec — an ordered list of `(key, value)` pairs whose keys compare
case-insensitively (`HdrSpec`): every public mutator (`add`, `set`, `h[k]=v`, `setlist`,
`setdefault`, `setlistdefault`, `extend`, `update`, `|=`, `del h[k]`, `remove`, `pop`, `clear`, with
all argument forms) is a sequence of the three atomic actions append / replace-first-drop-rest /
drop-all, performed in order up to the first refused value; positional mutators are the list
operations. One step: same new state, same result / exception. -/
theorem hdr_step_refines (l : HList) (op : Hdr.Op) : Hdr.step l op = HdrSpec.step l op :=
  HdrSpec.step_refines l op

/-- ... hence over EVERY operation history the concrete state is the abstract state, and so every
read (`h[k]`, `get`, `getlist`, `in`, `len`, iteration, `items/keys/values`, index and slice access,
`str`) — any function `read` of the pair list — agrees with the spec. No bound on the history. -/
theorem hdr_refines {α : Type} (l : HList) (ops : List Hdr.Op) (read : HList → α) :
    read (Hdr.run l ops) = read (HdrSpec.run l ops) := by
  rw [HdrSpec.run_refines]

example : HdrSpec.run [] [.add "a".toList "1".toList, .add "A".toList "2".toList, .set "a".toList "3".toList,
    .setlist "b".toList ["x".toList, "y\n".toList], .update (some (.mapping [("a".toList, .many [])])) []]
    = [("b".toList, "x".toList)] := by decide +kernel

/-- `add` appends: the key's values gain `v` at the end, nothing else moves -/
theorem headers_add (l : HList) (k v : Str) (hv : hasNL v = false) :
    (Hdr.add l k v).1 = l ++ [(k, v)] ∧ getlist (Hdr.add l k v).1 k = getlist l k ++ [v] := by
  rw [HdrSpec.add_eq]
  exact ⟨by rw [HdrSpec.Act.apply_add l k hv], HdrSpec.Act.apply_getlist (.add k v) l hv⟩

/-- after `headers.set(k, v)` (newline-free `v`) the key has exactly the one value `v` -/
theorem headers_set_getlist (l : HList) (k v : Str) (hv : hasNL v = false) :
    getlist (Hdr.set l k v).1 k = [v] ∧ (Hdr.set l k v).2 = .ok () :=
  ⟨set_getlist l k v hv, by rw [set_eq_spec l k v hv]⟩

example : hasNL "text/plain".toList = false := by decide

/-- ... every other entry (keys different ignoring case) keeps its value and the relative order of
those entries is unchanged -/
theorem headers_set_others_unchanged (l : HList) (k v : Str) (hv : hasNL v = false) :
    (Hdr.set l k v).1.filter (fun p => !keyEq k p) = l.filter (fun p => !keyEq k p) :=
  set_filter_other l k v

/-- `setlist(k, vs)` with newline-free values: afterwards `getlist k = vs`, and the entries of
other keys (and their order) are unchanged; `setlist(k, [])` removes the key -/
theorem headers_setlist (l : HList) (k : Str) (vs : List Str) (hvs : ∀ v ∈ vs, hasNL v = false) :
    getlist (Hdr.setlist l k vs).1 k = vs ∧
    (Hdr.setlist l k vs).1.filter (fun p => !keyEq k p) = l.filter (fun p => !keyEq k p) := by
  -- `setlist` is the actions `set k v₀, add k v₁, …` (or `remove k`), all on the key `k` and all accepted
  rw [HdrSpec.setlist_eq]
  refine ⟨?_, HdrSpec.seqUntil_filter_other k l _ (HdrSpec.key_setlistActs k vs)⟩
  rw [HdrSpec.seqUntil_getlist k l _ (HdrSpec.key_setlistActs k vs), HdrSpec.eff_setlistActs]
  rw [HdrSpec.bad_setlistActs, List.any_eq_false]
  exact fun v hv => by rw [hvs v hv]; exact Bool.false_ne_true

/-- ... hence `getlist` of any other key is unchanged -/
theorem headers_set_getlist_other (l : HList) (k k' v : Str) (hv : hasNL v = false)
    (hne : lower k' ≠ lower k) : getlist (Hdr.set l k v).1 k' = getlist l k' :=
  set_getlist_ne l k k' v hne

example : lower "Content-Type".toList ≠ lower "content-length".toList := by decide

/-- ... and the new pair sits at the position of the first former occurrence of the key, or at
the end when there was none -/
theorem headers_set_position (l : HList) (k v : Str) (hv : hasNL v = false) :
    let pos := if contains l k then l.findIdx (keyEq k) else l.length
    (Hdr.set l k v).1.findIdx (keyEq k) = pos ∧ (Hdr.set l k v).1[pos]? = some (k, v) := by
  -- `findIdx` of an absent key is the length of the list, so both cases are `l.findIdx (keyEq k)`
  have hpos : (if contains l k then l.findIdx (keyEq k) else l.length) = l.findIdx (keyEq k) := by
    split
    · rfl
    · rename_i h
      rw [Hdr.contains_eq_any, Bool.not_eq_true, List.any_eq_false] at h
      exact (List.findIdx_eq_length.2 fun p hp => Bool.eq_false_iff.2 (h p hp)).symm
  simp only [hpos, set_eq_spec l k v hv]
  exact specSet_findIdx l k v

/-- a value containing CR or LF is refused with ValueError and the list is left unchanged -/
theorem headers_set_refuses_newline (l : HList) (k v : Str) (hv : hasNL v = true) :
    Hdr.set l k v = (l, .error "ValueError") := by
  rw [HdrSpec.set_eq]; exact HdrSpec.Act.apply_bad l hv

example : hasNL "a\r\nSet-Cookie: x".toList = true := by decide

/-- `remove(k)` / `del h[k]` removes exactly the entries of that key -/
theorem headers_remove (l : HList) (k : Str) :
    getlist (delKey l k) k = [] ∧
    (delKey l k).filter (fun p => !keyEq k p) = l.filter (fun p => !keyEq k p) :=
  ⟨Hdr.delKey_getlist l k, HdrSpec.Act.apply_filter_other (.remove k) l⟩

end Headers

section Combined
open PyDict MD
variable {κ ν : Type} [DecidableEq κ]

/-- `combined[k]` is `d[k]` of the first wrapped dict that contains `k`; `getlist` concatenates the
dicts' lists; `k in combined` iff some dict contains it — for every list of dicts (so a change to a
wrapped dict is visible through the view: the view holds no data of its own). -/
theorem combined_reads_through (c : CMD.St κ ν) (k : κ) :
    CMD.getitem c k = (match c.find? (has · k) with
      | some d => MD.getitem d k
      | none => .error "BadRequestKeyError") ∧
    CMD.getlist c k = (c.map (MD.getlist · k)).flatten ∧
    (CMD.contains c k = true ↔ ∃ d ∈ c, has d k = true) := by
  refine ⟨cmd_getitem_first c k, ?_, ?_⟩
  · simp [CMD.getlist, List.flatMap_def]
  · simp [CMD.contains]

end Combined

section ImmutableHistories
open PyDict

/-- every mutator of the MultiDict / dict / Headers models carries the name of a method the
generated table lists as a mutator of the mutable base class (so the table speaks about the same
operations the refinement theorems speak about) -/
theorem model_ops_are_table_mutators {κ ν : Type} :
    (∀ op : MD.Op κ ν, (Imm.mutators "ImmutableMultiDict").contains (Imm.mdOpName op) = true) ∧
    (∀ op : PyDict.Op κ ν, (Imm.mutators "ImmutableDict").contains (PyDict.opName op) = true ∧
      (Imm.mutators "ImmutableTypeConversionDict").contains (PyDict.opName op) = true) ∧
    (∀ op : Hdr.Op, (Imm.mutators "EnvironHeaders").contains (Imm.hdrOpName op) = true) := by
  refine ⟨fun op => ?_, fun op => ?_, fun op => ?_⟩
  · cases op <;> (simp only [Imm.mdOpName]; decide)
  · cases op <;> (simp only [PyDict.opName]; decide)
  · cases op <;> (simp only [Imm.hdrOpName]; decide)

/-- **Immutable variants reject every mutator with TypeError and are left unchanged** - as a
statement over the regenerated blocker table and the models: for each immutable class, every
history of mutator calls (any length, any arguments) on an instance in any state answers TypeError
every time and ends in the initial state. `ImmutableMultiDict` and `CombinedMultiDict` over the
MultiDict mutators, `ImmutableDict` / `ImmutableTypeConversionDict` over the dict mutators,
`EnvironHeaders` over the Headers mutators; for `ImmutableList` (and every class of the table) over
any call whose method name is a mutator of the base class, whatever the inherited method would do. -/
theorem immutable_unchanged_after_refusal {κ ν : Type} [DecidableEq κ] :
    (∀ cls ∈ ["ImmutableMultiDict", "CombinedMultiDict"], ∀ (c : MD.St κ ν) (ops : List (MD.Op κ ν)),
      immRun cls c (ops.map fun op => (Imm.mdOpName op, fun c => MD.step c op))
        = (c, ops.map fun _ => .error "TypeError")) ∧
    (∀ cls ∈ ["ImmutableDict", "ImmutableTypeConversionDict"], ∀ (d : Dict κ ν) (ops : List (PyDict.Op κ ν)),
      immRun cls d (ops.map fun op => (PyDict.opName op, fun d => PyDict.step d op))
        = (d, ops.map fun _ => .error "TypeError")) ∧
    (∀ (l : Hdr.HList) (ops : List Hdr.Op),
      immRun "EnvironHeaders" l (ops.map fun op => (Imm.hdrOpName op, fun l => Hdr.step l op))
        = (l, ops.map fun _ => .error "TypeError")) ∧
    (∀ (σ ρ : Type) (cls : String) (c : σ) (calls : List (String × (σ → σ × Except String ρ))),
      (Gen.Containers.immTable.map (·.1)).contains cls = true →
      (∀ call ∈ calls, (Imm.mutators cls).contains call.1 = true) →
      immRun cls c calls = (c, calls.map fun _ => .error "TypeError")) := by
  have tbl := blocked_of_mutator (by simpa [immBlocksAll] using immutable_blocks_all)
  have names := @model_ops_are_table_mutators κ ν
  refine ⟨?_, ?_, fun l ops => immRun_map _ _ _ l ops (fun op => tbl _ _ (names.2.2 op)),
    fun σ ρ cls c calls _ hm => immRun_unchanged cls c calls (fun call h => tbl cls _ (hm call h))⟩
  · intro cls hcls c ops
    simp only [List.mem_cons, List.not_mem_nil, or_false] at hcls
    rcases hcls with rfl | rfl
    · exact immRun_map _ _ _ c ops (fun op => tbl _ _ (names.1 op))
    · -- `CombinedMultiDict` has the mutable base of `ImmutableMultiDict`, hence the same mutator names
      have base : Imm.mutators "CombinedMultiDict" = Imm.mutators "ImmutableMultiDict" := rfl
      exact immRun_map _ _ _ c ops (fun op => tbl _ _ (base ▸ names.1 op))
  · intro cls hcls d ops
    simp only [List.mem_cons, List.not_mem_nil, or_false] at hcls
    rcases hcls with rfl | rfl
    · exact immRun_map _ _ _ d ops (fun op => tbl _ _ (names.2.1 op).1)
    · exact immRun_map _ _ _ d ops (fun op => tbl _ _ (names.2.1 op).2)

example : (Imm.mdStep "ImmutableMultiDict" ([(1, [2])] : MD.St Nat Nat) (.add 1 3)) = ([(1, [2])], .error "TypeError") := by
  rfl

end ImmutableHistories

section TypeConv
open PyDict
variable {κ ν τ : Type} [DecidableEq κ]

/-- `TypeConversionDict.get(key, default, type)` (also `ImmutableTypeConversionDict`, `MultiDict`,
whose `get` is this one on the first value): the converted value when the key is present and the
callable accepts it; the default when the key is missing or the callable raises ValueError /
TypeError - and it is a read: on the immutable variant it is not refused (`get` is not in the
blocker table). -/
theorem typeconv_get (conv : ν → Option τ) (d : Dict κ ν) (k : κ) (dflt : Option τ) :
    (PyDict.get? d k = none → TCD.get conv d k dflt = dflt) ∧
    (∀ v x, PyDict.get? d k = some v → conv v = some x → TCD.get conv d k dflt = some x) ∧
    (∀ v, PyDict.get? d k = some v → conv v = none → TCD.get conv d k dflt = dflt) ∧
    (Imm.blocked "ImmutableTypeConversionDict").contains "get" = false := by
  refine ⟨fun h => by simp [TCD.get, h], fun v x h hc => by simp [TCD.get, h, hc],
    fun v h hc => by simp [TCD.get, h, hc], by decide⟩

/-- ... and on a MultiDict `get(key, type=conv)` is the conversion of the *first* value of the key -/
theorem md_get_typed_first (conv : ν → Option τ) (c : MD.St κ ν) (h : MDSpec.WF c) (k : κ) :
    MD.getTyped conv c k = (MDSpec.first? c k).bind conv := by
  unfold MD.getTyped MD.getitem
  rw [C08L.first?_eq c h k]
  cases hl : PyDict.get? c k with
  | none => rfl
  | some vs =>
    cases vs with
    | nil => exact absurd rfl (MDLemmas.lookup_ne_nil h hl)
    | cons v r => rfl

/-- `FileMultiDict.add_file(name, file, filename, content_type)` is `add(name, storage)`: the
field's list of files grows by exactly the one `FileStorage` built from the arguments (the given
object itself when it already is a `FileStorage`; otherwise a new one around the stream / opened
path, carrying the field name, the file name - the path when none is given - and a content type
guessed from the file name when none is given), every other field is untouched; hence the file
variant refines the same multimap (`md_refines` with values = file storages). -/
theorem filemultidict_add_file (guess : Hdr.Str → Option Hdr.Str) (c : MD.St Hdr.Str FMD.FS) (name : Hdr.Str)
    (f : FMD.FileArg) (filename ct : Option Hdr.Str) (k : Hdr.Str) :
    FMD.addFile guess c name f filename ct = (MD.step c (.add name (FMD.mkStorage guess name f filename ct))).1 ∧
    MD.getlist (FMD.addFile guess c name f filename ct) k =
      (if k = name then MD.getlist c name ++ [FMD.mkStorage guess name f filename ct] else MD.getlist c k) ∧
    (∀ fs, FMD.mkStorage guess name (.storage fs) filename ct = fs) ∧
    (∀ p h, (FMD.mkStorage guess name (.path p h) none none).filename = some p) := by
  refine ⟨rfl, ?_, fun _ => rfl, fun _ _ => rfl⟩
  unfold FMD.addFile
  rw [getlist_add]

example : FMD.mkStorage (fun _ => some "text/plain".toList) "f".toList (.stream 7) (some "a.txt".toList) none
    = ⟨7, some "a.txt".toList, some "f".toList, some "text/plain".toList⟩ := by decide

end TypeConv

section Bulk
open PyDict MD
variable {κ ν : Type} [DecidableEq κ]

/-- `update` / `|=` / `|` from every supported input form (iterable of pairs, dict with scalar or
list / tuple / set values, another MultiDict): afterwards every key has its old values followed by
the values the argument gives it, in the argument's order (`iter_multi_items`); keys the argument
does not mention keep their lists. No input form replaces existing values. -/
theorem md_update_getlist (c : MD.St κ ν) (a : MD.Arg κ ν) (k : κ) :
    MD.getlist (MD.step c (.update a)).1 k =
      MD.getlist c k ++ ((MD.iterMultiItems a).filter (fun p => p.1 == k)).map (·.2) ∧
    (MD.step c (.ior a)).1 = (MD.step c (.update a)).1 :=
  ⟨getlist_addAll c _ k, rfl⟩

/-- the constructor from pairs is `update` on an empty dict; from a dict with distinct keys too
(list values as they are, scalars as one-element lists, empty lists skipped); from a MultiDict it is
that MultiDict's state (`copy`) -/
theorem md_construct_forms (l : List (κ × ν)) (c : MD.St κ ν) (hc : MDSpec.WF c) :
    MD.construct (some (.pairs l)) = (MD.step [] (.update (.pairs l))).1 ∧
    MD.construct (some (.multi c)) = c ∧
    MD.construct (some (.mapping (c.map fun e => (e.1, MD.MVal.many e.2)))) = c := by
  refine ⟨rfl, rfl, ?_⟩
  rw [construct_mapping_many c hc.ne_nil, dictOf_self c hc.nodupKeys]

/-- **the single-key mutators, stated as laws on the reads** (a multimap state `c`, any keys):
`d[k] = v` / `setlist` give `k` exactly the new values; `del d[k]`, `pop`, `poplist` leave `k`
without values and return the first value / the whole list; `setdefault` returns the first value of a
present key and otherwise stores and returns the default; `popitem` / `popitemlist` take the key
inserted last. No other key's list changes in any of them. -/
theorem md_mutator_laws (c : MD.St κ ν) (hw : MDSpec.WF c) (k k' : κ) (v : ν) (vs : List ν) (d : Option ν) :
    MD.getlist (MD.step c (.setitem k v)).1 k' = (if k' = k then [v] else MD.getlist c k') ∧
    MD.getlist (MD.step c (.setlist k vs)).1 k' = (if k' = k then vs else MD.getlist c k') ∧
    (has c k = true → MD.getlist (MD.step c (.delitem k)).1 k' = (if k' = k then [] else MD.getlist c k')) ∧
    MD.getlist (MD.step c (.pop k d)).1 k' = (if k' = k then [] else MD.getlist c k') ∧
    (∀ x, MDSpec.first? c k = some x → (MD.step c (.pop k d)).2 = .ok (.val x)) ∧
    MD.getlist (MD.step c (.poplist k)).1 k' = (if k' = k then [] else MD.getlist c k') ∧
    (MD.step c (.poplist k)).2 = .ok (.vals (MD.getlist c k)) ∧
    (∀ x, MDSpec.first? c k = some x → MD.step c (.setdefault k v) = (c, .ok (.val x))) ∧
    (MDSpec.first? c k = none → MD.getlist (MD.step c (.setdefault k v)).1 k' = (if k' = k then [v] else MD.getlist c k') ∧
      (MD.step c (.setdefault k v)).2 = .ok (.val v)) ∧
    (MD.step c .popitem).1 = c.dropLast ∧ (MD.step c .popitemlist).1 = c.dropLast := by
  -- the states are `C08L.effect` (a key gets a list / is erased / the last entry goes); what is returned is read at the model
  have st : ∀ op, (MD.step c op).1 = C08L.effect c op := C08L.step_fst c
  have ret : ∀ op, C08L.okOp c op = true → (MD.step c op).2 = (MDSpec.step c op).2 :=
    fun op h => by rw [C08L.md_step_refines c hw op h]
  refine ⟨getlist_set c k k' [v], getlist_set c k k' vs, fun _ => ?_, ?_, fun x hx => ?_, ?_, ?_, fun x hx => ?_,
    fun hx => ⟨?_, ?_⟩, st .popitem, st .popitemlist⟩
  · rw [st]; exact getlist_erase c hw.nodupKeys k k'
  · rw [st]; exact getlist_erase c hw.nodupKeys k k'
  · rw [ret _ rfl]; simp only [MDSpec.step, hx]
  · rw [st]; exact getlist_erase c hw.nodupKeys k k'
  · rw [ret _ rfl]; simp only [MDSpec.step, MDLemmas.valuesOf_eq c hw.nodupKeys]
  · rw [C08L.md_step_refines c hw _ rfl]; simp only [MDSpec.step, hx]
  · have hh : has c k = false := by
      rcases C08L.get?_cases hw k with ⟨hl, _⟩ | ⟨y, r, _, hf⟩
      · rw [has_eq_isSome, hl]; rfl
      · rw [hf] at hx; cases hx
    rw [st]; simp only [C08L.effect, hh, Bool.false_eq_true, if_false]
    exact getlist_set c k k' [v]
  · rw [ret _ rfl]; simp only [MDSpec.step, hx]

end Bulk

section CombinedMerge
open PyDict MD
variable {κ ν : Type} [DecidableEq κ]

/-- `lists()`, `listvalues()`, `to_dict(flat=False)` of a CombinedMultiDict over dicts with distinct
keys: one entry per key of any wrapped dict, in order of first appearance, holding the wrapped
dicts' value lists for that key concatenated in dict order (= `getlist`). -/
theorem combined_lists_merged (c : CMD.St κ ν) (hn : ∀ d ∈ c, NodupKeys d) :
    NodupKeys (CMD.lists c) ∧
    keys (CMD.lists c) = firstOcc [] (c.flatMap keys) ∧
    ∀ k, (CMD.lists c).lookup k = if CMD.contains c k then some (CMD.getlist c k) else none :=
  cmd_lists_spec c hn

example : CMD.lists ([[(1, [10]), (2, [20])], [(2, [21]), (3, [30]), (1, [11, 12])]] : CMD.St Nat Nat)
    = [(1, [10, 11, 12]), (2, [20, 21]), (3, [30])] := by decide

/-- `combined.get(key)` / `combined[key]`: first wins - the first wrapped dict that has the key
answers with its first value; `get(key, type=conv)` skips dicts whose first value does not convert. -/
theorem combined_get_first_wins {τ : Type} (conv : ν → Option τ) (c : CMD.St κ ν) (k : κ)
    (hv : ∀ d ∈ c, has d k = true → ∃ v, MD.getitem d k = .ok v) :
    CMD.get c k = (match c.find? (has · k) with
      | some d => (MD.getitem d k).map some
      | none => .ok none) ∧
    CMD.getTyped conv c k = .ok ((c.filterMap fun d => MD.getTyped conv d k).head?) :=
  ⟨cmd_get_first c k, cmd_getTyped_first conv c k hv⟩

/-- `combined.items()` - and `values()`, `to_dict()`, which are read off it - over multimap states:
exactly one pair per key of any wrapped dict, keys in order of first appearance (the key order of
`lists()`), each carrying `combined[key]`, the first value of the first dict that has the key. -/
theorem combined_items_first_wins (c : CMD.St κ ν) (hw : ∀ d ∈ c, MDSpec.WF d) :
    ∃ l, CMD.itemsFirst c = .ok l ∧ l.map (·.1) = firstOcc [] (c.flatMap keys) ∧
      l.map (·.1) = keys (CMD.lists c) ∧ ∀ p ∈ l, CMD.getitem c p.1 = .ok p.2 := by
  obtain ⟨l, h1, h2, h3⟩ := cmd_itemsFirst_spec c hw []
  have hk : l.map (·.1) = firstOcc [] (c.flatMap keys) := by rw [h2, firstOcc_eq_newKeys]; simp
  exact ⟨l, h1, hk, by rw [hk, (cmd_lists_spec c (fun d hd => (hw d hd).1)).2.1], fun p hp => (h3 p hp).2⟩

example : CMD.itemsFirst ([[(1, [10]), (2, [20])], [(2, [21]), (3, [30]), (1, [11, 12])]] : CMD.St Nat Nat)
    = .ok [(1, 10), (2, 20), (3, 30)] := by rfl

end CombinedMerge

section PickleEq
open PyDict MD Pickle
variable {κ ν : Type} [DecidableEq κ]

/-- **pickle round trip**: `__setstate__(__getstate__())` of a MultiDict with distinct keys restores
the state exactly (keys, order, value lists - also lists without values); the immutable variant,
which pickles as `cls(list(items(multi=True)))`, is restored exactly when it is a multimap state. -/
theorem md_pickle_roundtrip (c old : MD.St κ ν) (hn : NodupKeys c) :
    mdSetstate old (mdGetstate c) = c ∧ (MDSpec.WF c → imdRebuild c = c) := by
  constructor
  · unfold mdSetstate mdGetstate MD.lists
    rw [dictOf_self c hn, dictOf_self c hn]
  · intro hw
    unfold imdRebuild MD.construct
    simpa using addAll_itemsMulti [] c (by simpa using hn) hw.ne_nil

/-- `copy()` and `deepcopy()` (values as atoms) of a multimap state yield an equal state; this is
the *content* half of "copies are consistent" - independence is `copy_independent` below, in a model
with object identity. `deepcopy` goes through the dict constructor and therefore drops a key without
values (a consequence of F08d). -/
theorem md_copy_eq (c : MD.St κ ν) (hw : MDSpec.WF c) :
    mdCopy c = c ∧ mdDeepcopy c = c := by
  refine ⟨rfl, ?_⟩
  unfold mdDeepcopy MD.lists
  rw [dictOf_self c hw.nodupKeys, construct_mapping_many c hw.ne_nil, dictOf_self c hw.nodupKeys]

theorem md_deepcopy_drops_empty : mdDeepcopy ([(0, []), (1, [5])] : MD.St Nat Nat) = [(1, [5])] := by decide

/-- **equality and hashing are consistent** for the immutable multidict (and dict): `==` is dict
equality of the key → value-list maps; `hash` is the hash of the *frozenset* of `items(multi=True)`
(`ImmutableMultiDictMixin._iter_hashitems`). Equal objects have the same set of (key, value) pairs
- whatever the order in which their keys were inserted - hence equal hashes. -/
theorem imd_eq_hash_consistent [DecidableEq ν] (a b : MD.St κ ν) (ha : NodupKeys a) (hb : NodupKeys b)
    (h : dictEq a b = true) : ∀ p, p ∈ MD.itemsMulti a ↔ p ∈ MD.itemsMulti b := by
  have he := dictEq_same_entries a b ha hb h
  intro p
  simp only [MD.itemsMulti, List.mem_flatMap, List.mem_map]
  constructor
  · rintro ⟨e, hea, v, hv, rfl⟩; exact ⟨e, (he e).1 hea, v, hv, rfl⟩
  · rintro ⟨e, heb, v, hv, rfl⟩; exact ⟨e, (he e).2 heb, v, hv, rfl⟩

example : dictEq ([(1, [2, 3]), (4, [5])] : MD.St Nat Nat) [(4, [5]), (1, [2, 3])] = true := by decide

/-- `Headers.copy()` (`cls(self._list)`, every pair re-added through `add`) and pickling (the
instance dict, i.e. `_list`) give a Headers with the same pair list, for every list of stored
values (stored values are CR/LF-free: C05 `headers_newline_free`). -/
theorem headers_copy_eq (l : Hdr.HList) (h : ∀ p ∈ l, Hdr.hasNL p.2 = false) :
    Hdr.construct (some (.pairs l)) = .ok l := by
  -- the constructor's action list is one `add` per pair, and all of them are accepted
  rw [HdrSpec.construct_eq, show HdrSpec.extendActs (some (.pairs l)) = l.map (fun p => .add p.1 p.2) from rfl,
    ← HdrSpec.addPairs_eq, addPairs_append [] l h]
  rfl

end PickleEq

/-! ## copies are independent of the original - in a model with object identity

`HeapMD`: the inner lists of a MultiDict are heap objects, mutators change them in place where the
Python code does, `setlistdefault` leaks the live list (`Ev.via`), `copy()` / `copy.copy` /
`deepcopy` / unpickling allocate new list objects. -/
section CopyIndependence
open HeapMD
variable {κ ν : Type} [DecidableEq κ]

/-- the heap model refines the functional model: every history of mutators and of appends through
leaked live lists on one MultiDict object changes its value exactly as the functional model says -/
theorem heap_refines (h : Heap ν) (o : Obj κ) (hw : HeapMD.WF h o) (evs : List (Ev κ ν)) :
    abs (run h o evs).1 (run h o evs).2 = runAbs (abs h o) evs :=
  (run_spec h o evs hw).abs_eq

example : HeapMD.WF ([[1, 2], [3]] : Heap Nat) ([(10, 1), (20, 0)] : Obj Nat) := by
  refine ⟨by simp [PyDict.NodupKeys], by simp [addrs], ?_⟩
  intro a ha; simp [addrs] at ha; rcases ha with rfl | rfl <;> decide

/-- **Copies are independent of the original.** Take any MultiDict object (distinct keys, every key
its own list object), copy it (`copy()`, `copy.copy`, `deepcopy`, pickle round trip: new list object
per key). Then: the copy has the same value; after ANY history on the copy - every public mutator,
and appends to live lists obtained from the copy - the original still has its value while the copy
has the value the functional model computes; and after any further history on the original the copy
keeps its value. No bound on the histories. -/
theorem copy_independent (h : Heap ν) (o : Obj κ) (hw : HeapMD.WF h o) (evsCopy evsOrig : List (Ev κ ν)) :
    let w1 := copyObj h o
    let w2 := run w1.1 w1.2 evsCopy
    let w3 := run w2.1 o evsOrig
    abs w1.1 w1.2 = abs h o ∧
    abs w2.1 o = abs h o ∧ abs w2.1 w2.2 = runAbs (abs h o) evsCopy ∧
    abs w3.1 w2.2 = abs w2.1 w2.2 ∧ abs w3.1 w3.2 = runAbs (abs h o) evsOrig := by
  intro w1 w2 w3
  obtain ⟨c1, c2, csep⟩ := copyObj_spec h o hw
  have r := run_spec w1.1 w1.2 evsCopy csep.right
  obtain ⟨f1, f2⟩ := frame csep r
  have s := run_spec w2.1 o evsOrig f2.left
  refine ⟨c1, by rw [f1, c2], by rw [r.abs_eq, c1], (frame f2.symm s).1, by rw [s.abs_eq, f1, c2]⟩

/-- the statement is not vacuous and not automatic: a copy that shares the list objects (what a
plain `dict.copy` of the underlying dict would be) is NOT independent - `copy.add(k, v)` on a key
that exists changes the original -/
theorem alias_copy_not_independent :
    let h : Heap Nat := [[1]]
    let o : Obj Nat := [(0, 0)]
    let w1 := aliasCopy h o
    let w2 := run w1.1 w1.2 [.op (.add 0 2)]
    abs w2.1 o ≠ abs h o := by
  decide

end CopyIndependence

section Environ
open Hdr PyDict EH

/-- the environ variable a header name is looked up under -/
def envName (key : Str) : Str :=
  let k := replaceCh '-' '_' (upper key)
  if special k then k else "HTTP_".toList ++ k

/-- The view has no state of its own: a lookup after the environ variable was set returns the new
value, and after it was deleted raises KeyError — for every environ and header name. -/
theorem environ_view_reflects (env : Env) (key v : Str) :
    EH.getKey (PyDict.set env (envName key) v) key = .ok v ∧
    (NodupKeys env → EH.getKey (PyDict.erase env (envName key)) key = .error "KeyError") := by
  have getKey_eq : ∀ e : Env, EH.getKey e key =
      (match PyDict.get? e (envName key) with | some v => .ok v | none => .error "KeyError") := by
    intro e; simp only [EH.getKey, envName]; rfl
  constructor
  · rw [getKey_eq]; unfold PyDict.get?; rw [lookup_set_self]
  · intro hn
    rw [getKey_eq, get?_erase env hn, if_pos rfl]

end Environ

end Wz.Props.C08
