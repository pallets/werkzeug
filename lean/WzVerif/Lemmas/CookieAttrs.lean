/-
The attribute half of C13 on the dump side (Model/CookieAttrs.lean). No attribute text `dump_cookie`
writes can contain `;`: the quoted Path by one pass over the live `urllib.parse.quote` table (`pathChar`),
the Domain by the cases of the idna codec, SameSite by canonicalisation, Max-Age as the text of an `int`
(`attrParts_no_semi`). The `Except`-valued steps of `dump_cookie` have inversion lemmas (`dumpCookie_ok`,
`resolveAttrs_ok`, `dumpCookieFull_ok`) through which Props/C13 reads them.
-/
import WzVerif.Lemmas.Cookie
import WzVerif.Model.CookieAttrs
import WzVerif.Lemmas.CookieInt
namespace Wz.Cookie
open Wz

/-- a character a quoted Path may contain: printable ASCII without SP, `;`, `"`, `\` -/
def pathChar (c : Char) : Bool :=
  0x21 ≤ c.toNat && c.toNat ≤ 0x7E && c != ';' && c != '"' && c != '\\'

/-- one pass over the live table `quoteKeeps`: a kept byte is a path character, the others become `%XX` -/
theorem quoteByte_chars (b : UInt8) : (quoteByte b).all pathChar = true :=
  getD_sweep (t := Gen.CookieGlue.quoteKeeps) (d := false)
    (q := fun keep n => (if keep then [Char.ofNat n] else ['%', hexU (n / 16), hexU (n % 16)]).all pathChar)
    (by decide +kernel) (Nat.lt_of_lt_of_eq b.toNat_lt (by decide +kernel))

theorem quotePath_chars (p : Str) : (quotePath p).all pathChar = true := by
  unfold quotePath
  rw [List.all_flatMap]
  exact List.all_eq_true.mpr fun b _ => quoteByte_chars b

theorem quotePath_no_semi (p : Str) : ∀ c ∈ quotePath p, c ≠ ';' := by
  intro c hc
  have := List.all_eq_true.mp (quotePath_chars p) c hc
  simp only [pathChar, Bool.and_eq_true, bne_iff_ne, ne_eq] at this
  exact this.1.1.2

theorem domainHost_subset (d : Str) (c : Char) (h : c ∈ domainHost d) : c ∈ d := by
  unfold domainHost at h
  exact (List.takeWhile_sublist _).subset ((List.dropWhile_sublist _).subset h)

theorem domainHost_no_colon (d : Str) : ∀ c ∈ domainHost d, c ≠ ':' := by
  intro c hc
  unfold domainHost at hc
  have := List.all_eq_true.mp (List.all_takeWhile (p := (· != ':')) (l := d)) c ((List.dropWhile_sublist _).subset hc)
  simpa using this

theorem domainHost_head (d : Str) : (domainHost d).head? ≠ some '.' := by
  unfold domainHost
  intro h
  have := List.head?_dropWhile_not (· == '.') (d.takeWhile (· != ':'))
  rw [h] at this
  simp at this

theorem isAsciiStr_domainHost {d : Str} (h : isAsciiStr d = true) : isAsciiStr (domainHost d) = true :=
  List.all_eq_true.mpr fun c hc => List.all_eq_true.mp h c (domainHost_subset d c hc)

/-- the codec's ASCII fast path returns its input or refuses it -/
theorem idnaEnc_ascii (lib : Lib) (s : Str) (h : isAsciiStr s = true) :
    idnaEnc lib s = .ok s ∨ idnaEnc lib s = .error "UnicodeError" := by
  unfold idnaEnc
  by_cases he : s.isEmpty = true
  · left; simp only [he, if_true]; cases s <;> simp_all
  · simp only [he, h, if_true]
    by_cases hl : labelsOK (splitOn '.' s) = true <;> simp [hl]

/-- what the codec answers is its input (ASCII fast path, empty text) or the opaque codec's answer -/
theorem idnaEnc_ok {lib : Lib} {s y : Str} (h : idnaEnc lib s = .ok y) : y = s ∨ lib.idna s = .ok y := by
  unfold idnaEnc at h
  split at h
  · cases h; left; simp_all
  · split at h
    · split at h
      · cases h; exact .inl rfl
      · cases h
    · exact .inr h

theorem resolveDomain_of_ne_nil (lib : Lib) {d : Str} (hne : d ≠ []) :
    resolveDomain lib (some d) = (idnaEnc lib (domainHost d)).map some := by
  cases d with
  | nil => exact absurd rfl hne
  | cons c t => rfl

theorem resolveDomain_no_semi (lib : Lib) (d : Option Str) (x : Str)
    (hraw : ∀ y, d = some y → ∀ c ∈ y, c ≠ ';')
    (hidna : ∀ s y, lib.idna s = .ok y → ∀ c ∈ y, c ≠ ';')
    (h : resolveDomain lib d = .ok (some x)) : ∀ c ∈ x, c ≠ ';' := by
  cases d with
  | none => cases h
  | some y =>
    by_cases hy : y = []
    · subst hy; cases h; simp
    · rw [resolveDomain_of_ne_nil lib hy] at h
      cases hi : idnaEnc lib (domainHost y) <;> simp [hi, Except.map] at h
      subst h
      rcases idnaEnc_ok hi with rfl | hi
      · exact fun c hc => hraw _ rfl c (domainHost_subset _ c hc)
      · exact hidna _ _ hi

/-- the two case laws `titleGo_lower` needs, on the 128 ASCII code points (letters are ASCII: `alpha_lt`) -/
theorem ascii_case_rows : ∀ n, n < 128 →
    (Char.ofNat n).toUpper.toLower = (Char.ofNat n).toLower ∧
    (Char.ofNat n).toLower.toLower = (Char.ofNat n).toLower := by decide +kernel

theorem alpha_lt (c : Char) (h : c.isAlpha = true) : c.toNat < 128 := by
  simp only [Char.isAlpha, Char.isUpper, Char.isLower, Bool.or_eq_true, Bool.and_eq_true,
    decide_eq_true_eq] at h
  have h1 : ∀ a b : Char, a ≤ b → a.toNat ≤ b.toNat := fun a b hab => hab
  rcases h with ⟨_, h⟩ | ⟨_, h⟩
  · have := h1 _ _ h; simp at this; omega
  · have := h1 _ _ h; simp at this; omega

theorem case_facts (c : Char) (h : c.isAlpha = true) :
    c.toUpper.toLower = c.toLower ∧ c.toLower.toLower = c.toLower := by
  have := ascii_case_rows c.toNat (alpha_lt c h)
  simpa using this

theorem titleGo_lower (s : Str) (b : Bool) : (titleAscii.go s b).map Char.toLower = s.map Char.toLower := by
  induction s generalizing b with
  | nil => rfl
  | cons c t ih =>
    unfold titleAscii.go
    by_cases hc : c.isAlpha = true
    · have := case_facts c hc
      cases b <;> simp [hc, ih, this.1, this.2]
    · simp [hc, ih]

theorem titleAscii_lower (s : Str) : (titleAscii s).map Char.toLower = s.map Char.toLower :=
  titleGo_lower s false

/-- every upper/lower-case spelling of a word (what C13 `samesite_any_case` ranges over) -/
def caseVariants : Str → List Str
  | [] => [[]]
  | c :: t => (caseVariants t).flatMap fun r => [c.toLower :: r, c.toUpper :: r]

theorem dumpCookieFull_maxSize (lib : Lib) (a : DumpArgs) (m : Int) :
    dumpCookieFull lib { a with maxSize := m } =
      (dumpCookieFull lib a).map (fun r => (r.1, sizeWarning m r.1)) := by
  have e : resolveAttrs lib { a with maxSize := m } = resolveAttrs lib a := rfl
  unfold dumpCookieFull
  rw [e]
  cases resolveAttrs lib a with
  | error e => rfl
  | ok at' => cases hd : dumpCookie a.key a.value at' <;> simp [hd, Except.map]

theorem canonSameSite_ok {s : Str} {ss : Option Str} (h : canonSameSite (some s) = .ok ss) :
    ss = some (titleAscii s) ∧ (titleAscii s = "Strict".toList ∨ titleAscii s = "Lax".toList ∨
      titleAscii s = "None".toList) := by
  unfold canonSameSite at h
  simp only at h
  split at h
  · rename_i hcond
    simp only [Bool.or_eq_true, beq_iff_eq, or_assoc] at hcond
    exact ⟨(Except.ok.inj h).symm, hcond⟩
  · cases h

theorem canonSameSite_cases (s : Option Str) (ss : Option Str) (h : canonSameSite s = .ok ss) :
    ss = none ∨ ss = some "Strict".toList ∨ ss = some "Lax".toList ∨ ss = some "None".toList := by
  cases s with
  | none => exact .inl (Except.ok.inj h).symm
  | some x =>
    obtain ⟨rfl, h1 | h2 | h3⟩ := canonSameSite_ok h
    · exact .inr (.inl (congrArg some h1))
    · exact .inr (.inr (.inl (congrArg some h2)))
    · exact .inr (.inr (.inr (congrArg some h3)))

theorem canonSameSite_clean {s ss : Option Str} (h : canonSameSite s = .ok ss) :
    ∀ x, ss = some x → (∀ c ∈ x, c ≠ ';') ∧ Py.strip x = x := by
  intro x hx
  rcases canonSameSite_cases s ss h with h1 | h1 | h1 | h1 <;> rw [h1] at hx
  · cases hx
  all_goals
    rw [String.toList_ofList] at hx
    obtain rfl := Option.some.inj hx
    decide

theorem attrParts_no_semi (a : Attrs) (ss : Option Str)
    (hss : ∀ x, ss = some x → ∀ c ∈ x, c ≠ ';')
    (hdom : ∀ x, a.domain = some x → ∀ c ∈ x, c ≠ ';')
    (hexp : ∀ x, a.expires = some x → ∀ c ∈ x, c ≠ ';')
    (hpath : ∀ x, a.path = some x → ∀ c ∈ x, c ≠ ';') :
    ∀ p ∈ attrParts a ss, ∀ c ∈ p, c ≠ ';' := by
  intro p hp c hc
  simp only [attrParts, List.mem_append] at hp
  -- the names are turned into character lists by `String.toList_ofList` before they are inspected
  have kvcase : ∀ (k : String) (v : Option (List Char)) (kc : Str), k.toList = kc → (∀ c ∈ kc, c ≠ ';') →
      (∀ x, v = some x → ∀ c ∈ x, c ≠ ';') → p ∈ kvPart k v → c ≠ ';' := by
    rintro k v _ rfl hk hv' hpk
    unfold kvPart at hpk
    cases v with
    | none => simp at hpk
    | some x =>
      simp only [List.mem_singleton] at hpk
      subst hpk
      simp only [List.mem_append, List.mem_cons] at hc
      rcases hc with hc | rfl | hc
      · exact hk c hc
      · decide
      · exact hv' x rfl c hc
  have flcase : ∀ (k : String) (b : Bool) (kc : Str), k.toList = kc → (∀ c ∈ kc, c ≠ ';') →
      p ∈ flagPart k b → c ≠ ';' := by
    rintro k b _ rfl hk hpk
    unfold flagPart at hpk
    split at hpk
    · simp only [List.mem_singleton] at hpk; subst hpk; exact hk c hc
    · simp at hpk
  rcases hp with ((((((hp | hp) | hp) | hp) | hp) | hp) | hp) | hp
  · exact kvcase "Domain" _ _ String.toList_ofList (by decide) hdom hp
  · exact kvcase "Expires" _ _ String.toList_ofList (by decide) hexp hp
  · refine kvcase "Max-Age" _ _ String.toList_ofList (by decide) ?_ hp
    intro x hx
    cases hm : a.maxAge with
    | none => simp [hm] at hx
    | some i => simp only [hm, Option.map_some, Option.some.injEq] at hx; subst hx; exact intText_no_semi i
  · exact flcase "Secure" _ _ String.toList_ofList (by decide) hp
  · exact flcase "HttpOnly" _ _ String.toList_ofList (by decide) hp
  · exact kvcase "Path" _ _ String.toList_ofList (by decide) hpath hp
  · exact kvcase "SameSite" _ _ String.toList_ofList (by decide) hss hp
  · exact flcase "Partitioned" _ _ String.toList_ofList (by decide) hp

theorem dumpCookie_ok (key value h : Str) (a : Attrs) (hd : dumpCookie key value a = .ok h) :
    ∃ hv ss, dumpValue value = .ok hv ∧ canonSameSite a.samesite = .ok ss ∧
      h = List.intercalate "; ".toList ((Py.latin1Dec (utf8Enc key) ++ '=' :: hv) :: attrParts a ss) := by
  unfold dumpCookie at hd
  split at hd
  · cases hd
  · split at hd
    · cases hd
    · cases hd; exact ⟨_, _, ‹_›, ‹_›, rfl⟩

theorem resolveAttrs_ok {lib : Lib} {a : DumpArgs} {at' : Attrs} (h : resolveAttrs lib a = .ok at') :
    ∃ dom exp, resolveDomain lib a.domain = .ok dom ∧
      resolveExpires lib a.expires (resolveMaxAge a.maxAge) a.syncExpires = .ok exp ∧
      at' = { domain := dom, expires := exp, maxAge := resolveMaxAge a.maxAge, secure := a.secure,
              httponly := a.httponly, path := a.path.map quotePath, samesite := a.samesite,
              partitioned := a.partitioned } := by
  unfold resolveAttrs at h
  split at h
  · cases h
  · simp only at h
    split at h
    · cases h
    · cases h; exact ⟨_, _, ‹_›, ‹_›, rfl⟩

theorem dumpCookieFull_ok (lib : Lib) (a : DumpArgs) (h : Str) (w : Bool)
    (hd : dumpCookieFull lib a = .ok (h, w)) :
    ∃ at', resolveAttrs lib a = .ok at' ∧ dumpCookie a.key a.value at' = .ok h ∧ w = sizeWarning a.maxSize h := by
  unfold dumpCookieFull at hd
  split at hd
  · cases hd
  · split at hd
    · cases hd
    · cases hd; exact ⟨_, ‹_›, ‹_›, rfl⟩

theorem resolveExpires_no_semi (lib : Lib) (e : Option ExpiresArg) (ma : Option Int) (sync : Bool) (x : Str)
    (hstr : ∀ s, e = some (.str s) → ∀ c ∈ s, c ≠ ';')
    (hdate : ∀ l y, lib.httpDate l = .ok y → ∀ c ∈ y, c ≠ ';')
    (hsync : ∀ m y, lib.syncDate m = .ok y → ∀ c ∈ y, c ≠ ';')
    (h : resolveExpires lib e ma sync = .ok (some x)) : ∀ c ∈ x, c ≠ ';' := by
  unfold resolveExpires at h
  split at h
  · cases h; exact hstr _ rfl
  · rename_i l
    cases hl : lib.httpDate l <;> simp [hl, Except.map] at h
    subst h; exact hdate _ _ hl
  · split at h
    · split at h
      · rename_i m _
        cases hl : lib.syncDate m <;> simp [hl, Except.map] at h
        subst h; exact hsync _ _ hl
      · cases h
    · cases h

end Wz.Cookie
