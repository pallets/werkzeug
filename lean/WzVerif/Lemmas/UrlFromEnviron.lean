/-
`EnvironBuilder.from_environ` (C15): `_quote_url_syntax` quotes `%`, `?`, `#` before the decoded path is
handed to the URL-syntax `path` parameter, which makes `quote` / `unquote` inside `__init__` /
`get_environ` an exact round trip for EVERY decoded path.
-/
import WzVerif.Lemmas.UrlBuilder
namespace Wz.Url

theorem quoteUrlSyntax_cons (c : Char) (s : Str) :
    quoteUrlSyntax (c :: s) = quoteUrlSyntax [c] ++ quoteUrlSyntax s := by
  simp [quoteUrlSyntax]

theorem quoteUrlSyntax_char (c : Char) :
    (c ≠ '%' ∧ c ≠ '?' ∧ c ≠ '#' ∧ quoteUrlSyntax [c] = [c]) ∨
    (c = '%' ∧ quoteUrlSyntax [c] = ['%', '2', '5']) ∨ (c = '?' ∧ quoteUrlSyntax [c] = ['%', '3', 'F']) ∨
    (c = '#' ∧ quoteUrlSyntax [c] = ['%', '2', '3']) := by
  by_cases h1 : c = '%'
  · exact Or.inr (Or.inl ⟨h1, by subst h1; rfl⟩)
  by_cases h2 : c = '?'
  · exact Or.inr (Or.inr (Or.inl ⟨h2, by subst h2; rfl⟩))
  by_cases h3 : c = '#'
  · exact Or.inr (Or.inr (Or.inr ⟨h3, by subst h3; rfl⟩))
  · exact Or.inl ⟨h1, h2, h3, by simp [quoteUrlSyntax, h1, h2, h3]⟩

/-- **`_quote_url_syntax` followed by `quote` spells the text**, for every text: the escapes it writes for `%`,
`?`, `#` are left alone by a `quote` whose safe set has `%`, everything else is quoted as usual -/
theorem Spells.of_quote_syn {safe : Str} (hp : safe.contains '%' = true) :
    ∀ s : Str, Spells [] (quote safe (quoteUrlSyntax s)) (utf8Enc s)
  | [] => Spells.nil
  | c :: s => by
    rw [quoteUrlSyntax_cons, quote_append, Utf8Facts.utf8Enc_cons]
    refine Spells.append ?_ (Spells.of_quote_syn hp s)
    rcases quoteUrlSyntax_char c with ⟨h1, _, _, e⟩ | ⟨rfl, e⟩ | ⟨rfl, e⟩ | ⟨rfl, e⟩ <;> rw [e]
    · rw [quote_singleton]
      exact Spells.of_quoteBytes fun b hb => ⟨fun _ e => utf8EncodeChar_no_pct h1 (e ▸ hb), fun _ => rfl⟩
    · exact Spells.of_quote_esc hp (x := '2') (y := '5') (hi := 2) (lo := 5) (by decide) (by decide) rfl
    · exact Spells.of_quote_esc hp (x := '3') (y := 'F') (hi := 3) (lo := 15) (by decide) (by decide) rfl
    · exact Spells.of_quote_esc hp (x := '2') (y := '3') (hi := 2) (lo := 3) (by decide) (by decide) rfl

/-- `unquote(quote(_quote_url_syntax(s), safe), errors="replace") == s` for every text `s`, whenever
`%` is in the safe set (as in `iri_to_uri`'s path component) -/
theorem unquoteReplace_quote_syn {safe : Str} (hp : safe.contains '%' = true) (s : Str) :
    unquoteReplace (quote safe (quoteUrlSyntax s)) = s :=
  unquoteReplace_of_den (quoteBytes_ascii safe _) (Spells.of_quote_syn hp s).den_eq

/-- `_make_base_url(scheme, host, script_root)` for a script root without a trailing slash is the base
URL text with one `/` appended -/
theorem makeBaseUrl_eq {o : UrlOpaque} (laws : HostLaws o) {scheme ha R : Str} {port : Option Nat}
    (b : BaseArg o scheme ha port R) (hR : rstripSlash R = R) :
    makeBaseUrl scheme (hostBr ha ++ portText port) R = baseText scheme ha port (R ++ ['/']) := by
  unfold makeBaseUrl
  rw [← baseText_eq laws.nfkc b]
  have hstrip : rstripSlash (baseText scheme ha port R) = baseText scheme ha port R := by
    unfold baseText
    rw [rstripSlash_append, hR]
    by_cases hr : R = []
    · rw [if_pos hr, hr, List.append_nil, rstripSlash_append,
        rstripSlash_noslash (hostport_not_mem (d := '/') (by decide) (by decide) (by decide) b.host_chars port), if_neg (hostport_ne b.host_ne port)]
    · rw [if_neg hr]
  rw [hstrip]
  simp [baseText, List.append_assoc]

/-- a decoded PATH_INFO of the property's domain: starts with exactly one `/`, no TAB / CR / LF
(F15c). `%`, `?`, `#` and `%XX` sequences are ordinary characters of a decoded path. -/
structure EnvPath (p : Str) : Prop where
  slash : p.head? = some '/'
  single : (p.drop 1).head? ≠ some '/'
  notab : noTab p

theorem quoteUrlSyntax_id : ∀ (s : Str), '%' ∉ s → '?' ∉ s → '#' ∉ s → quoteUrlSyntax s = s
  | [], _, _, _ => rfl
  | c :: s, h1, h2, h3 => by
    rw [quoteUrlSyntax_cons, quoteUrlSyntax_id s (fun m => h1 (List.mem_cons_of_mem _ m))
      (fun m => h2 (List.mem_cons_of_mem _ m)) (fun m => h3 (List.mem_cons_of_mem _ m))]
    rcases quoteUrlSyntax_char c with ⟨_, _, _, e⟩ | ⟨rfl, _⟩ | ⟨rfl, _⟩ | ⟨rfl, _⟩
    · rw [e]; rfl
    · exact absurd (by simp) h1
    · exact absurd (by simp) h2
    · exact absurd (by simp) h3

theorem quoteUrlSyntax_mem {s : Str} {x : Char} (hx : x ∈ quoteUrlSyntax s) :
    (x ∈ s ∧ x ≠ '?' ∧ x ≠ '#') ∨ x = '%' ∨ x = '2' ∨ x = '5' ∨ x = '3' ∨ x = 'F' := by
  induction s with
  | nil => cases hx
  | cons c s ih =>
    rw [quoteUrlSyntax_cons] at hx
    rcases List.mem_append.mp hx with hx | hx
    · rcases quoteUrlSyntax_char c with ⟨_, h2, h3, e⟩ | ⟨_, e⟩ | ⟨_, e⟩ | ⟨_, e⟩ <;> rw [e] at hx <;> simp at hx
      · subst hx; exact Or.inl ⟨by simp, h2, h3⟩
      all_goals (rcases hx with rfl | rfl | rfl <;> simp)
    · rcases ih hx with ⟨h, h'⟩ | h
      · exact Or.inl ⟨List.mem_cons_of_mem _ h, h'⟩
      · exact Or.inr h

theorem quoteUrlSyntax_no {s : Str} {x : Char} (hx : x = '?' ∨ x = '#') : x ∉ quoteUrlSyntax s := by
  intro hm
  rcases quoteUrlSyntax_mem hm with ⟨_, h2, h3⟩ | h
  · rcases hx with e | e
    · exact h2 e
    · exact h3 e
  · rcases hx with rfl | rfl <;> revert h <;> decide

theorem pathArg_quoteUrlSyntax {p : Str} (h : EnvPath p) : PathArg (quoteUrlSyntax p) := by
  obtain ⟨q, rfl, hs⟩ := single_slash_cons h.slash h.single
  have hq : quoteUrlSyntax ('/' :: q) = '/' :: quoteUrlSyntax q := by
    simp [quoteUrlSyntax]
  refine ⟨by rw [hq]; rfl, ?_, quoteUrlSyntax_no (Or.inl rfl), quoteUrlSyntax_no (Or.inr rfl), ?_⟩
  · rw [hq]
    simp only [List.drop_succ_cons, List.drop_zero]
    cases q with
    | nil => simp [quoteUrlSyntax]
    | cons y r =>
      have hy : y ≠ '/' := by simpa using hs
      rw [quoteUrlSyntax_cons]
      rcases quoteUrlSyntax_char y with ⟨_, _, _, e⟩ | ⟨_, e⟩ | ⟨_, e⟩ | ⟨_, e⟩ <;> rw [e] <;> simp [hy]
  · intro c hc
    rcases quoteUrlSyntax_mem hc with ⟨hm, _⟩ | rfl | rfl | rfl | rfl | rfl
    · exact h.notab c hm
    all_goals decide

theorem from_environ_roundtrip_fixed {o : UrlOpaque} (laws : HostLaws o) {scheme ha root p : Str}
    {port : Option Nat} (qs : Str) (b : BaseArg o scheme ha port root) (hp : EnvPath p)
    (hrp : '%' ∉ root) (hfix : o.hostToAscii ha = some ha) :
    ∃ b', fromEnviron o (danceEnviron scheme (hostBr ha ++ portText port) (rstripSlash root) p qs) = .ok b' ∧
      b'.environ.toEnviron = danceEnviron scheme (hostBr ha ++ portText port) (rstripSlash root) p qs := by
  have bR := b.rstrip
  have hmk := makeBaseUrl_eq laws bR (rstripSlash_idem root)
  have he0 := builderEnviron_eq laws qs bR.add_slash (pathArg_quoteUrlSyntax hp) hfix
  have hrp' : '%' ∉ rstripSlash root := fun hm => hrp ((rstripSlash_prefix root).subset hm)
  rw [rstripSlash_slash, unquoteReplace_quote _ _ hrp', unquoteReplace_quote_syn iriSafe_pct.2.2.1 p] at he0
  rw [builderEnviron_eq_init] at he0
  have hroot : quoteUrlSyntax (rstripSlash root) = rstripSlash root :=
    quoteUrlSyntax_id _ hrp' bR.root_chars.1 bR.root_chars.2.1
  have hfe : fromEnviron o (danceEnviron scheme (hostBr ha ++ portText port) (rstripSlash root) p qs)
      = builderInit o (quoteUrlSyntax p) (some (baseText scheme ha port (rstripSlash root ++ ['/']))) (.text qs) := by
    unfold fromEnviron danceEnviron
    simp only [dance_roundtrip', hroot, hmk]
  rw [hfe]
  exact map_ok he0

end Wz.Url
