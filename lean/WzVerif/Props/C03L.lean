/-
C03 / C04 / C12 — the lazy re-sort protocol of `werkzeug.routing.Map` (shared obligations).

The priority clause of C03 ("… independent of insertion order"), the rule selection of C04
(`build_compare_key` order of the per-endpoint lists) and the alias / defaults canonicalisation of C12
all rest on `Map.update()` having re-sorted the state machine and the per-endpoint rule lists before
`MapAdapter.match` / `build` read them. `update()` is lazy and runs under double-checked locking on
the `_remap` flag; maps are shared between request threads. The statement order of `Map.update` and
`Map.add` is regenerated from the source on every run (`Gen/RoutingLock.lean`); the theorems below
quantify over every number of threads and every interleaving of their atomic steps.
Model: `Model/RoutingLock.lean`; invariant proof: `Lemmas/RoutingLock.lean`.
-/
import WzVerif.Lemmas.RoutingLock
import WzVerif.Gen.RoutingLock
namespace Wz.Props.C03L
open Wz.RoutingLock

/-- **update_program_disciplined.** The generated programs satisfy the discipline the safety theorem
needs. `Map.update`: unlocked flag test(s), then the lock, then a block in which every sort happens
while the flag is known to be set, the flag is cleared only after both the state machine and the
endpoint lists have been sorted, and nothing but the release follows. `Map.add`: the loop inserts each
rule into both structures and the flag is set after the loop. `Map.__init__` creates the lock and sets
the flag; no other function of map.py writes the flag. -/
theorem update_program_disciplined :
    UpdateOK Gen.RoutingLock.updateProg = true ∧
    AddOK Gen.RoutingLock.addBody Gen.RoutingLock.addAfter = true ∧
    Gen.RoutingLock.initRemap = some true ∧ Gen.RoutingLock.initCreatesLock = true ∧
    Gen.RoutingLock.remapWriters = ["Map.__init__", "Map.add", "Map.update"] := by
  decide

/-- **readers_call_update_first.** Every function of map.py that reads the state machine or the
per-endpoint lists calls `update()` first — `MapAdapter.match`, `MapAdapter.build`, `Map.iter_rules`,
`Map.is_endpoint_expecting` — except the internal helpers `_partial_build`, `get_default_redirect`
and the `_rules` property, which are only reached from those entry points after their `update()` call. -/
theorem readers_call_update_first :
    (["MapAdapter.match", "MapAdapter.build", "Map.iter_rules", "Map.is_endpoint_expecting"].all
      (fun f => Gen.RoutingLock.guardedReaders.contains f)) = true ∧
    (Gen.RoutingLock.unguardedReaders.all
      (fun f => ["Map._rules", "MapAdapter._partial_build", "MapAdapter.get_default_redirect"].contains f)) = true := by
  decide

/-- **update_passes_sorted.** For every pair of programs satisfying the discipline, every initial state
in which no thread has started (any number of threads, each about to call `update()` or `add()` for any
rules), and every interleaving of their atomic steps in which `add()` threads do not move while the
lock is held: whenever a thread leaves `update()` — through the unlocked fast path, the second test
inside the lock, or after doing the sorts itself — the state machine and the per-endpoint lists are,
at that moment, sorted with respect to every rule whose `add()` had returned when the thread
entered. (`result = some b` records exactly that comparison at the moment of leaving.) -/
theorem update_passes_sorted {p body after : List Op} (hp : UpdateOK p = true) (ha : AddOK body after = true)
    {s0 : State} (h0 : Init p body after s0) (sched : List Nat) (hq : addsQuiet s0 sched) (i : Nat)
    (hi : ((run s0 sched).th i).rules = none) : ((run s0 sched).th i).result ≠ some false :=
  inv_result (run_inv sched (h0.inv hp ha) hq) i hi

/-- **map_update_protocol_safe.** … in particular for the programs read off the current source. -/
theorem map_update_protocol_safe {s0 : State}
    (h0 : Init Gen.RoutingLock.updateProg Gen.RoutingLock.addBody Gen.RoutingLock.addAfter s0)
    (sched : List Nat) (hq : addsQuiet s0 sched) (i : Nat)
    (hi : ((run s0 sched).th i).rules = none) : ((run s0 sched).th i).result ≠ some false :=
  update_passes_sorted update_program_disciplined.1 update_program_disciplined.2.1 h0 sched hq i hi

/-- two request threads on a map holding rules 0 and 1 (added by the constructor, nothing sorted yet) -/
def twoRequests (p : List Op) : State :=
  afterInit [0, 1] (fun _ => updateThread p)

-- non-vacuity: thread 0 runs the whole slow path, thread 1 then leaves through the fast path; both
-- record `some true`, the flag is clear and both structures are sorted w.r.t. both rules
example :
    let s := run (twoRequests Gen.RoutingLock.updateProg) [0, 0, 0, 0, 0, 0, 0, 0, 0, 1]
    (s.th 0).result = some true ∧ (s.th 1).result = some true ∧ s.sh.remap = false ∧
    s.sh.mOk = [0, 1] ∧ s.sh.eOk = [0, 1] ∧ s.sh.lock = none := by
  decide

-- non-vacuity: thread 1 arrives while thread 0 is in the middle of the sorts: it blocks on the lock
-- (its grants do nothing) and leaves through the second test once thread 0 is done
example :
    let s1 := run (twoRequests Gen.RoutingLock.updateProg) [0, 0, 0, 0, 1, 1, 1]
    let s := run s1 [0, 0, 0, 0, 0, 1, 1, 1]
    (s1.th 1).result = none ∧ (s1.th 1).pc.head? = some .acquire ∧
    (s.th 0).result = some true ∧ (s.th 1).result = some true := by
  decide

/-- `Map.update` with `self._remap = False` moved in front of the sorts: the reordering the discipline rules
out -/
def flagClearedFirst : List Op :=
  [.retIfClean, .acquire, .retIfClean, .setRemap false, .sortMatcher, .sortEndpoints, .release]

/-- **flag_cleared_before_sort_unsafe.** The discipline is not an artefact of the proof: with the flag
cleared before the sorts the program is rejected by `UpdateOK`, and there is an interleaving of two
request threads — thread 0 is pre-empted after clearing the flag, thread 1 then takes the unlocked
fast path — in which thread 1 leaves `update()` with neither structure sorted (and another in which
it reads the endpoint lists in the middle of the sort). -/
theorem flag_cleared_before_sort_unsafe :
    UpdateOK flagClearedFirst = false ∧
    ((run (twoRequests flagClearedFirst) [0, 0, 0, 0, 1]).th 1).result = some false ∧
    ((run (twoRequests flagClearedFirst) [0, 0, 0, 0, 0, 0, 0, 1]).th 1).result = some false := by
  decide

/-- a request thread and a thread that adds rule 2 to a map holding rules 0 and 1 -/
def requestAndAdd : State :=
  afterInit [0, 1] (fun i => if i = 1 then addThread Gen.RoutingLock.addBody Gen.RoutingLock.addAfter [2]
                             else updateThread Gen.RoutingLock.updateProg)

/-- **add_during_update_loses_flag.** The hypothesis on the schedule is needed on the unchanged code:
`add()` does not take the lock, so a rule added between the sorts and `self._remap = False` of a
concurrent `update()` has its flag overwritten — a request entering afterwards (thread 2) passes the
fast path although rule 2 was never sorted in. (`Map.add` concurrent with request handling is outside
the documented use; recorded here as the reason for `addsQuiet`.) -/
theorem add_during_update_loses_flag :
    let sched := [0, 0, 0, 0, 0, 0, 0, 1, 1, 1, 1, 0, 0, 2]
    ¬ addsQuiet requestAndAdd sched ∧
    ((run requestAndAdd sched).th 2).rules = none ∧
    ((run requestAndAdd sched).th 2).result = some false := by
  refine ⟨?_, by decide, by decide⟩
  intro h
  -- the first step of the add thread (position 7) happens while thread 0 holds the lock
  have := h.2.2.2.2.2.2.2.1
  revert this
  decide

end Wz.Props.C03L
