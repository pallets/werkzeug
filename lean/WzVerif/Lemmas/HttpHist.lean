/-
C06 on objects *built by assignment histories*: a `_CacheControl` / `ContentSecurityPolicy` object is a
dict that the application fills through typed properties (`cc.max_age = 5`, `cc.no_store = True`,
`del cc.max_age`, `csp.default_src = "'self'"`, `csp.img_src = None`) and plain dict operations
(`cc["x"] = "y"`, `del cc["x"]`, `pop`). Every step keeps the domain of the round trip (`DictOk`,
`CspDictOk`), so the round trip holds for every object reachable by such a history from a valid directive
dict, not only for one assignment on a constructed dict.
-/
import WzVerif.Lemmas.HttpCC
import WzVerif.Lemmas.HttpCsp
namespace Wz.Http
open Wz

/-- the operation stays in the property's domain: token keys free of `*`, typed values of the
property's type -/
def CCOpOk : CCOp → Bool
  | .setTyped key ty v => KeyOk key && CCValFor ty v
  | .setItem key _ => KeyOk key
  | _ => true

theorem dictOk_ccStep (d : Dict (Option Str)) (op : CCOp) (hd : DictOk d) (hop : CCOpOk op = true) :
    DictOk (ccStep d op) := by
  cases op with
  | setTyped key ty v =>
    simp only [CCOpOk, Bool.and_eq_true] at hop
    exact dictOk_setCache d key v ty hd hop.1
  | delTyped key => exact DictAll.pop hd key
  | setItem key v => exact DictAll.set hd hop
  | popItem key => exact DictAll.pop hd key
  | clear => exact DictAll.nil

theorem dictOk_ccRun (d : Dict (Option Str)) (ops : List CCOp) (hd : DictOk d)
    (hops : ∀ op ∈ ops, CCOpOk op = true) : DictOk (ccRun d ops) :=
  foldl_inv dictOk_ccStep ops d hd hops

theorem ccRun_snoc (d : Dict (Option Str)) (ops : List CCOp) (op : CCOp) :
    ccRun d (ops ++ [op]) = ccStep (ccRun d ops) op := by
  simp [ccRun]

/-- an assigned directive and value are in the domain of the round trip; deletions always are -/
def CspOpOk : CspOp → Bool
  | .set key (some v) => CspItemOk (key, v)
  | _ => true

theorem cspDictOk_step (d : Dict Str) (op : CspOp) (hd : CspDictOk d) (hop : CspOpOk op = true) :
    CspDictOk (cspOpStep d op) := by
  cases op with
  | set key v =>
    cases v with
    | none => exact DictAll.pop hd key
    | some v => exact DictAll.set hd hop
  | del key => exact DictAll.pop hd key
  | clear => exact DictAll.nil

theorem cspDictOk_cspRun (d : Dict Str) (ops : List CspOp) (hd : CspDictOk d) (hops : ∀ op ∈ ops, CspOpOk op = true) :
    CspDictOk (cspRun d ops) :=
  foldl_inv cspDictOk_step ops d hd hops

end Wz.Http
