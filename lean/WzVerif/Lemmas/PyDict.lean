/-
The dict primitives of the Python prelude (`Util/PyPrelude.lean`: a dict is the list of its `(key, value)`
pairs in insertion order) - `k in d`, `d.get(k)`, `d[k] = v`, `del d[k]`, `d.update(u)` - characterised for every key
and value type and WITHOUT assuming distinct keys: `get` answers from the first pair of a key, `d[k] = v`
rewrites every pair of the key, so reading after writing is what Python says it is on any list of pairs.
Distinct keys are asked for only where an entry is read back by membership (`dictGetD_of_mem_nodup`,
`dictGet?_dictUpdate_of_mem`) and where fresh keys are appended (`dictUpdate_of_fresh`).
-/
import WzVerif.Util.PyPrelude
namespace Wz.Pre
variable {κ ν : Type} [BEq κ]

theorem dictHas_cons (p : κ × ν) (t : List (κ × ν)) (k : κ) :
    dictHas (p :: t) k = (p.1 == k || dictHas t k) := rfl

theorem dictHas_append (a b : List (κ × ν)) (k : κ) : dictHas (a ++ b) k = (dictHas a k || dictHas b k) :=
  List.any_append

theorem dictGet?_cons (p : κ × ν) (t : List (κ × ν)) (k : κ) :
    dictGet? (p :: t) k = if p.1 == k then some p.2 else dictGet? t k := by
  unfold dictGet?
  rw [List.find?_cons]
  cases p.1 == k <;> rfl

theorem dictGet?_append (a b : List (κ × ν)) (k : κ) :
    dictGet? (a ++ b) k = (dictGet? a k).orElse fun _ => dictGet? b k := by
  induction a with
  | nil => rfl
  | cons p t ih => rw [List.cons_append, dictGet?_cons, dictGet?_cons, ih]; cases p.1 == k <;> rfl

theorem dictHas_eq_isSome (d : List (κ × ν)) (k : κ) : dictHas d k = (dictGet? d k).isSome := by
  induction d with
  | nil => rfl
  | cons p t ih => rw [dictHas_cons, dictGet?_cons, ih]; cases p.1 == k <;> rfl

theorem dictGet?_of_has (d : List (κ × ν)) (k : κ) (h : dictHas d k = true) : ∃ v, dictGet? d k = some v := by
  rwa [dictHas_eq_isSome, Option.isSome_iff_exists] at h

theorem dictGetItem_of_has (d : List (κ × ν)) (k : κ) (dflt : ν) (h : dictHas d k = true) :
    dictGetItem d k = .ok (dictGetD d k dflt) := by
  rw [dictHas_eq_isSome] at h
  unfold dictGetItem dictGetD
  cases hg : dictGet? d k with
  | none => rw [hg] at h; cases h
  | some v => rfl

theorem dictGetD_of_not_has (d : List (κ × ν)) (k : κ) (dflt : ν) (h : dictHas d k = false) :
    dictGetD d k dflt = dflt := by
  rw [dictHas_eq_isSome] at h
  unfold dictGetD
  cases hg : dictGet? d k with
  | none => rfl
  | some v => rw [hg] at h; cases h

theorem keys_dictSet (d : List (κ × ν)) (k : κ) (v : ν) :
    (dictSet d k v).map (·.1) = if dictHas d k then d.map (·.1) else d.map (·.1) ++ [k] := by
  unfold dictSet
  cases h : dictHas d k
  · simp
  · simp only [if_true, List.map_map]
    apply List.map_congr_left
    intro p _
    simp only [Function.comp]
    split <;> rfl

theorem keys_dictDel (d : List (κ × ν)) (k : κ) : (dictDel d k).map (·.1) = (d.map (·.1)).filter (· != k) := by
  simp [dictDel, List.filter_map, Function.comp_def]

theorem nodup_keys_dictDel (d : List (κ × ν)) (k : κ) (h : (d.map (·.1)).Nodup) :
    ((dictDel d k).map (·.1)).Nodup := by
  rw [keys_dictDel]; exact h.filter _

theorem dictSet_of_not_has (d : List (κ × ν)) (k : κ) (v : ν) (h : dictHas d k = false) :
    dictSet d k v = d ++ [(k, v)] := by
  unfold dictSet
  rw [h]
  rfl

theorem map_set_of_not_has (d : List (κ × ν)) (k : κ) (v : ν) (h : dictHas d k = false) :
    (d.map fun p => if p.1 == k then (p.1, v) else p) = d := by
  induction d with
  | nil => rfl
  | cons p t ih =>
    rw [dictHas_cons, Bool.or_eq_false_iff] at h
    rw [List.map_cons, ih h.2, h.1]
    rfl

theorem dictSet_append (a b : List (κ × ν)) (k : κ) (v : ν) (h : dictHas a k = false) :
    dictSet (a ++ b) k v = a ++ dictSet b k v := by
  unfold dictSet
  rw [dictHas_append, h, Bool.false_or]
  split
  · rw [List.map_append, map_set_of_not_has a k v h]
  · rw [List.append_assoc]

theorem dictSet_of_has (d : List (κ × ν)) (k : κ) (v : ν) (h : dictHas d k = true) :
    dictSet d k v = d.map fun p => if p.1 == k then (p.1, v) else p := by
  unfold dictSet
  rw [h]
  rfl

theorem dictSet_cons_ne (p : κ × ν) (t : List (κ × ν)) (k : κ) (v : ν) (h : (p.1 == k) = false) :
    dictSet (p :: t) k v = p :: dictSet t k v := by
  unfold dictSet
  rw [dictHas_cons, h, Bool.false_or]
  split
  · rw [List.map_cons, h]; rfl
  · rfl

variable [LawfulBEq κ]

theorem dictHas_iff_mem (d : List (κ × ν)) (k : κ) : dictHas d k = true ↔ k ∈ d.map (·.1) := by
  simp [dictHas]

theorem dictHas_eq_contains (d : List (κ × ν)) (k : κ) :
    dictHas d k = (d.map (·.1)).contains k := by
  rw [Bool.eq_iff_iff, dictHas_iff_mem, List.contains_iff_mem]

theorem mem_dictSet {d : List (κ × ν)} {k : κ} {v : ν} {x : κ × ν} (hx : x ∈ dictSet d k v) :
    x ∈ d ∨ x = (k, v) := by
  unfold dictSet at hx
  split at hx
  · obtain ⟨y, hy, rfl⟩ := List.mem_map.1 hx
    split
    · next hyk => exact Or.inr (by rw [show y.1 = k by simpa using hyk])
    · exact Or.inl hy
  · simpa using hx

theorem dictGetD_of_mem_nodup (d : List (κ × ν)) (k : κ) (v dflt : ν)
    (hn : (d.map (·.1)).Nodup) (hm : (k, v) ∈ d) : dictGetD d k dflt = v := by
  induction d with
  | nil => simp at hm
  | cons x t ih =>
    simp only [List.map_cons, List.nodup_cons] at hn
    unfold dictGetD at ih ⊢
    rw [dictGet?_cons]
    rcases List.mem_cons.mp hm with hx | ht
    · subst hx; simp
    · have hne : x.1 ≠ k := fun he => hn.1 (he ▸ List.mem_map.mpr ⟨(k, v), ht, rfl⟩)
      rw [if_neg (by simpa using hne)]
      exact ih hn.2 ht

theorem dictGet?_map_set (d : List (κ × ν)) (k k' : κ) (v : ν) :
    dictGet? (d.map fun p => if p.1 == k then (p.1, v) else p) k' =
      if k' == k then (if dictHas d k then some v else none) else dictGet? d k' := by
  induction d with
  | nil => simp [dictGet?, dictHas]
  | cons p t ih =>
    rw [List.map_cons, dictGet?_cons, dictGet?_cons, dictHas_cons, ih]
    by_cases hp : p.1 = k
    · by_cases hk : k' = k
      · subst hp; subst hk; simp
      · subst hp
        have hk2 : (p.1 == k') = false := by simpa using fun h => hk h.symm
        simp [hk, hk2]
    · have hp' : (p.1 == k) = false := by simpa using hp
      simp only [hp', Bool.false_eq_true, if_false, Bool.false_or]
      by_cases hk : k' = k
      · subst hk; simp [hp']
      · simp [hk]

/-- `d[k] = v; d.get(k')`: the new value for `k' == k`, the old `d.get(k')` otherwise -/
theorem dictGet?_dictSet (d : List (κ × ν)) (k k' : κ) (v : ν) :
    dictGet? (dictSet d k v) k' = if k' == k then some v else dictGet? d k' := by
  unfold dictSet
  by_cases h : dictHas d k = true
  · simp only [h, if_true, dictGet?_map_set]
  · have h' : dictHas d k = false := by simpa using h
    simp only [h', Bool.false_eq_true, if_false]
    induction d with
    | nil =>
      rw [List.nil_append, dictGet?_cons]
      by_cases hk : k' = k
      · subst hk; simp
      · have hk2 : (k == k') = false := by simpa using fun h => hk h.symm
        simp [hk, hk2, dictGet?]
    | cons p t ih =>
      rw [dictHas_cons, Bool.or_eq_false_iff] at h'
      rw [List.cons_append, dictGet?_cons, dictGet?_cons, ih (by simp [h'.2]) h'.2]
      by_cases hk : k' = k
      · subst hk; simp [h'.1]
      · simp [hk]

theorem dictHas_dictSet (d : List (κ × ν)) (k k' : κ) (v : ν) :
    dictHas (dictSet d k v) k' = (k' == k || dictHas d k') := by
  rw [dictHas_eq_isSome, dictGet?_dictSet, dictHas_eq_isSome]
  cases k' == k <;> rfl

theorem dictHas_dictDel_self (d : List (κ × ν)) (k : κ) : dictHas (dictDel d k) k = false := by
  simp [dictHas, dictDel]

theorem dictGet?_dictDel_self (d : List (κ × ν)) (k : κ) : dictGet? (dictDel d k) k = none := by
  have := dictHas_dictDel_self d k
  rw [dictHas_eq_isSome] at this
  simpa using this

theorem nodup_keys_dictSet (d : List (κ × ν)) (k : κ) (v : ν) (h : (d.map (·.1)).Nodup) :
    ((dictSet d k v).map (·.1)).Nodup := by
  rw [keys_dictSet]
  split
  · exact h
  · next hh =>
    rw [List.nodup_append]
    refine ⟨h, by simp, ?_⟩
    intro a ha b hb
    simp only [List.mem_singleton] at hb
    subst hb
    intro e; subst e
    exact hh ((dictHas_iff_mem d a).mpr ha)

theorem mem_of_dictGet? {d : List (κ × ν)} {k : κ} {v : ν} (h : dictGet? d k = some v) : (k, v) ∈ d := by
  induction d with
  | nil => cases h
  | cons p t ih =>
    rw [dictGet?_cons] at h
    split at h
    · rename_i hk
      cases h
      rw [← eq_of_beq hk]
      exact List.mem_cons_self
    · exact List.mem_cons_of_mem _ (ih h)

theorem dictGet?_dictUpdate_of_not_has (d u : List (κ × ν)) (k : κ) (h : dictHas u k = false) :
    dictGet? (dictUpdate d u) k = dictGet? d k := by
  induction u generalizing d with
  | nil => rfl
  | cons p t ih =>
    rw [dictHas_cons, Bool.or_eq_false_iff] at h
    have hk : (k == p.1) = false := by
      rw [beq_eq_false_iff_ne] at h ⊢
      exact fun e => h.1 e.symm
    show dictGet? (dictUpdate (dictSet d p.1 p.2) t) k = _
    rw [ih _ h.2, dictGet?_dictSet, hk]
    rfl

theorem dictGet?_dictUpdate_of_mem (d u : List (κ × ν)) (hnd : (u.map (·.1)).Nodup) {k : κ} {v : ν} (h : (k, v) ∈ u) :
    dictGet? (dictUpdate d u) k = some v := by
  induction u generalizing d with
  | nil => cases h
  | cons p t ih =>
    rw [List.map_cons, List.nodup_cons] at hnd
    show dictGet? (dictUpdate (dictSet d p.1 p.2) t) k = some v
    rcases List.mem_cons.1 h with rfl | h
    · rw [dictGet?_dictUpdate_of_not_has _ _ _ (by rw [← Bool.not_eq_true, dictHas_iff_mem]; exact hnd.1),
        dictGet?_dictSet]
      simp
    · exact ih _ hnd.2 h

theorem dictDel_of_not_has (d : List (κ × ν)) (k : κ) (h : dictHas d k = false) : dictDel d k = d := by
  unfold dictDel
  rw [List.filter_eq_self]
  intro p hp
  have : (p.1 == k) = false := by
    rw [dictHas, List.any_eq_false] at h
    simpa using h p hp
  simp [bne, this]

theorem dictUpdate_of_fresh (d u : List (κ × ν)) (hnd : (u.map (·.1)).Nodup) (hdis : ∀ x ∈ u, dictHas d x.1 = false) :
    dictUpdate d u = d ++ u := by
  induction u generalizing d with
  | nil => simp [dictUpdate]
  | cons x t ih =>
    rw [List.map_cons, List.nodup_cons] at hnd
    show dictUpdate (dictSet d x.1 x.2) t = _
    rw [dictSet_of_not_has d x.1 x.2 (hdis x (by simp)), ih _ hnd.2]
    · simp
    · intro y hy
      rw [dictHas_append, hdis y (by simp [hy]), Bool.false_or, dictHas_cons, Bool.or_eq_false_iff]
      exact ⟨beq_eq_false_iff_ne.2 fun e => hnd.1 (e ▸ List.mem_map_of_mem hy), rfl⟩

end Wz.Pre
