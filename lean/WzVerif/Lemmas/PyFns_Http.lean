/-
The prelude's text primitives against the functions the hand-written model of `Model/Http.lean` uses for the same Python
calls: `str.replace` with a one-, two- or three-character pattern (`replace1/2/3`), `str.split(c)` (`splitOnChar`),
`str.lower()` on ASCII text (`pyLower`), `str(i)` (`intText`), `sep.join` (`join`); and what `Range.to_header` prints for one
pair. Nothing here mentions the generated definitions.
-/
import WzVerif.Lemmas.Http
import WzVerif.Lemmas.PyFns_Prelude
namespace Wz.PyFnsHttp
open Wz Wz.Pre

theorem replace1_eq (c : Char) (r s : Str) : Pre.replace s [c] r = Http.replace1 c r s := by
  rw [replace_single]; rfl

theorem replaceAux_pair (a b : Char) (r : Str) (s : Str) :
    Pre.replaceAux [a, b] r s 0 = Http.replace2 a b r s := by
  fun_induction Http.replace2 a b r s with
  | case1 x y t h ih =>
    simp only [Bool.and_eq_true, beq_iff_eq] at h
    obtain ⟨rfl, rfl⟩ := h
    simp [Pre.replaceAux, List.isPrefixOf, ih]
  | case2 x y t h ih =>
    have hp : ([a, b] : List Char).isPrefixOf (x :: y :: t) = false := by
      simp only [Bool.and_eq_true, beq_iff_eq, not_and] at h
      simp only [List.isPrefixOf, Bool.and_true, Bool.and_eq_false_imp, beq_iff_eq, beq_eq_false_iff_ne]
      intro h1; subst h1; intro h2; exact h rfl h2.symm
    rw [Pre.replaceAux, hp]
    simp only [Bool.false_eq_true, if_false, ih]
  | case3 l h =>
    match l with
    | [] => rfl
    | [x] => simp [Pre.replaceAux, List.isPrefixOf]
    | x :: y :: t => exact absurd rfl (h x y t)

theorem replace2_eq (a b : Char) (r s : Str) : Pre.replace s [a, b] r = Http.replace2 a b r s := by
  simp [Pre.replace, replaceAux_pair]

theorem replaceAux_triple (a b c : Char) (r : Str) (s : Str) :
    Pre.replaceAux [a, b, c] r s 0 = Http.replace3 a b c r s := by
  fun_induction Http.replace3 a b c r s with
  | case1 x y z t h ih =>
    simp only [Bool.and_eq_true, beq_iff_eq] at h
    obtain ⟨⟨rfl, rfl⟩, rfl⟩ := h
    simp [Pre.replaceAux, List.isPrefixOf, ih]
  | case2 x y z t h ih =>
    have hp : ([a, b, c] : List Char).isPrefixOf (x :: y :: z :: t) = false := by
      simp only [Bool.and_eq_true, beq_iff_eq, not_and] at h
      simp only [List.isPrefixOf, Bool.and_true, Bool.and_eq_false_imp, beq_iff_eq, beq_eq_false_iff_ne]
      intro h1 h2; subst h1; subst h2; intro h3; exact h ⟨rfl, rfl⟩ h3.symm
    rw [Pre.replaceAux, hp]
    simp only [Bool.false_eq_true, if_false, ih]
  | case3 l h =>
    match l with
    | [] => rfl
    | [x] => simp [Pre.replaceAux, List.isPrefixOf]
    | [x, y] => simp [Pre.replaceAux, List.isPrefixOf]
    | x :: y :: z :: t => exact absurd rfl (h x y z t)

theorem replace3_eq (a b c : Char) (r s : Str) : Pre.replace s [a, b, c] r = Http.replace3 a b c r s := by
  simp [Pre.replace, replaceAux_triple]

theorem splitOn_singleton (c : Char) (s : Str) : splitOn s [c] = Http.splitOnChar c s :=
  splitOnAux_singleton_of (fun _ => rfl) (fun _ _ _ => rfl) s []

/-- `str.lower()`: the prelude's is exact on ASCII only, the model's on U+0000..U+00FF (regenerated table); they agree on ASCII
text, which is all that the regexes in front of the callers' `.lower()` let through -/
theorem lower_of_ascii (s : Str) (h : ∀ c ∈ s, c.toNat < 128) : Pre.lower s = Http.pyLower s :=
  List.map_congr_left fun c hc => (Http.lowerChar_ascii (h c hc)).symm

theorem strOfInt_eq (i : Int) : Pre.strOfInt i = Http.intText i := by
  cases i with
  | ofNat n => exact strOfInt_ofNat n
  | negSucc n => exact strOfInt_negSucc n

theorem join_intercalate (sep : String) (ws : List Str) :
    Pre.join sep.toList ws = Http.join sep ws :=
  join_eq_intercalate sep.toList ws

/-- what `Range.to_header` prints for one `(begin, end)` pair -/
def item (p : Int × Option Int) : Str :=
  match p.2 with
  | none => if p.1 ≥ 0 then Http.intText p.1 ++ ['-'] else Http.intText p.1
  | some e => Http.intText p.1 ++ '-' :: Http.intText (e - 1)

end Wz.PyFnsHttp
