/-
C15T — `get_current_url` (sansio/utils.py), `_wsgi_decoding_dance` / `_wsgi_encoding_dance`
(_internal.py) and the bodies of `iri_to_uri` / `uri_to_iri` (urls.py, between `urlsplit` and
`urlunsplit`) *as regenerated from the source* by `tools/py2lean.py` (`Gen/PyFns_Url.lean`, rewritten
on every check run) are equal, for all inputs, to the hand-written model functions of `Model/Url.lean`
/ `Model/UrlEnviron.lean` that the C15 theorems are about. `urllib.parse.quote` is the model's `quote`
(its `safe=` literal is an argument of the translated call and is pinned here against the AST-collected
tables of `Gen/UrlTables.lean`); `urlsplit`, the IDNA conversions and `_make_unquote_part`'s result
stay parameters / model functions. Likewise `DispatcherMiddleware.__call__` (middleware/dispatcher.py)
against `Url.dispatch`. Helper lemmas live in Lemmas/PyFnsEq_Url.lean and Lemmas/PyFnsEq_Middleware.lean.
-/
import WzVerif.Gen.PyFns_Url
import WzVerif.Lemmas.PyFnsEq_Url
import WzVerif.Lemmas.PyFnsEq_Middleware
import WzVerif.Lemmas.UrlDispatch
import WzVerif.Lemmas.Url
namespace Wz.Props.C15T
open Wz Wz.PyFnsEq.Url Wz.Pre Wz.Gen.PyFns_Url Wz.PyFnsEq.Middleware

/-- `_wsgi_decoding_dance`, as translated from the current source
(`s.encode("latin1").decode(errors="replace")`), is the model's `decodingDance`: it raises
`UnicodeEncodeError` exactly when the model answers `none` (a character above U+00FF) and otherwise
returns the model's text. -/
theorem wsgi_decoding_dance_eq (s : List Char) :
    Gen.PyFns_Url.wsgi_decoding_dance s =
      match Url.decodingDance s with
      | some r => .ok r
      | none => .error "UnicodeEncodeError" := by
  unfold Gen.PyFns_Url.wsgi_decoding_dance Pre.encodeLatin1 Url.decodingDance Pre.decodeUtf8Replace
  cases Py.latin1Enc s <;> rfl

/-- `_wsgi_encoding_dance`, as translated from the current source (`s.encode().decode("latin1")`),
is the model's `encodingDance`, for every text. -/
theorem wsgi_encoding_dance_eq (s : List Char) :
    Gen.PyFns_Url.wsgi_encoding_dance s = Url.encodingDance s :=
  rfl

/-- C15 `dance_roundtrip` on the translated pair: what the regenerated `_wsgi_encoding_dance` puts
into the environ, the regenerated `_wsgi_decoding_dance` reads back unchanged and without raising,
for every text. -/
theorem dance_roundtrip_translated (s : List Char) :
    Gen.PyFns_Url.wsgi_decoding_dance (Gen.PyFns_Url.wsgi_encoding_dance s) = .ok s := by
  rw [wsgi_encoding_dance_eq, wsgi_decoding_dance_eq, Url.dance_roundtrip']

/-- The eight `safe=` literals of the translated calls of `quote` are the literals the C15 tables
were collected from (`Gen/UrlTables.lean`, by AST with their call sites). -/
theorem safe_literals_pinned :
    Gen.UrlTables.curRootSafe = "!$&'()*+,/:;=@".toList ∧ Gen.UrlTables.curPathSafe = "!$&'()*+,/:;=@".toList ∧
    Gen.UrlTables.curQuerySafe = "!$&'()*+,/:;=?@%".toList ∧ Gen.UrlTables.iriPathSafe = "%!$&'()*+,/:;=@".toList ∧
    Gen.UrlTables.iriQuerySafe = "%!$&'()*+,/:;=?@".toList ∧ Gen.UrlTables.iriFragmentSafe = "%!#$&'()*+,/:;=?@".toList ∧
    Gen.UrlTables.iriUserSafe = "%!$&'()*+,;=".toList ∧ Gen.UrlTables.iriPasswordSafe = "%!$&'()*+,;=".toList :=
  ⟨rfl, rfl, rfl, rfl, rfl, rfl, rfl, rfl⟩

/-- `sansio.utils.get_current_url`, as translated from the current source (the `url` list with its
`append`s, the early returns for a missing `root_path` / `path`, the truthiness test of
`query_string`, the three `safe=` literals, `rstrip("/")` / `lstrip("/")`, `"".join`), returns exactly
what the model's `getCurrentUrlOpt` returns when both use the same `uri_to_iri` - for every scheme,
host, optional root path, optional path and optional query bytes (`None` and `b""` alike mean: no
query). -/
theorem get_current_url_eq (o : Url.UrlOpaque) (scheme host : List Char)
    (root_path path : Option (List Char)) (query_string : Option Bytes) :
    Gen.PyFns_Url.get_current_url (Url.uriToIriText o) scheme host root_path path query_string
      = Url.getCurrentUrlOpt o scheme host root_path path (query_string.getD []) := by
  unfold Gen.PyFns_Url.get_current_url Url.getCurrentUrlOpt
  simp only [join_nil_eq_flatten, rstripChars_singleton, lstripChars_singleton, Url.rstripSlash, Url.lstripSlash,
    curRootSafe_lit, curPathSafe_lit, curQuerySafe_lit]
  -- every `return uri_to_iri("".join(url))` is translated as a `match` that re-raises: split it, put the
  -- call back (`rw [← h]`), and the two URL texts differ by re-association only
  cases root_path with
  | none => dsimp only; split <;> (rename_i h; rw [← h]; simp)
  | some r =>
    cases path with
    | none => dsimp only; split <;> (rename_i h; rw [← h]; simp)
    | some p =>
      cases query_string with
      | none => dsimp only; split <;> (rename_i h; rw [← h]; simp)
      | some q =>
        cases q with
        | nil =>
          simp only [Option.getD, List.isEmpty_nil, Bool.not_true, if_true, Bool.false_eq_true, if_false]
          split <;> (rename_i h; rw [← h]; simp)
        | cons b t =>
          simp only [Option.getD, List.isEmpty_cons, Bool.not_false, if_true, Bool.false_eq_true, if_false]
          split <;> (rename_i h; rw [← h]; simp)

/-- `werkzeug.urls.iri_to_uri`, as translated from the current source, between `urlsplit` and
`urlunsplit`: for every split result `p` whose port is `None` or non-negative, every IDNA codec and
every input text, the 5-tuple handed to `urlunsplit` is the model's `iriToUri` of the components
(host = the IDNA-encoded hostname, `""` for a missing or empty hostname), and the call raises exactly
when the IDNA step raises. Covers the five `safe=` literals, the `[...]` around a host containing
`:`, `if parts.port:` (port 0 is dropped, like `None`), the truthiness tests of user name / password. -/
theorem iri_to_uri_eq (p : SplitAttrs) (hp : PortOk p) (idna : List Char → Except String (List Char))
    (iri : List Char) :
    Gen.PyFns_Url.iri_to_uri (fun _ => p) idna iri
      = (hostAfter idna p.2.1).map fun h => tuple5 (Url.iriToUri (partsOfAttrs p h)) :=
  (congrArg (fun q => Gen.PyFns_Url.iri_to_uri (fun _ => q) idna iri) (attrs_eq_of_portOk p hp)).trans
    (iri_to_uri_eq_nat _ _ _ _ _ _ _ _ idna iri)

/-- `werkzeug.urls.uri_to_iri`, as translated from the current source, between `urlsplit` and
`urlunsplit`: for every split result `p` whose port is `None` or non-negative, every `_decode_idna`
and every input text, the call does not raise and the 5-tuple handed to `urlunsplit` is the model's
`uriToIri` of the components. -/
theorem uri_to_iri_eq (p : SplitAttrs) (hp : PortOk p) (decode_idna : List Char → List Char) (uri : List Char) :
    Gen.PyFns_Url.uri_to_iri (fun _ => p) decode_idna uri
      = .ok (tuple5 (Url.uriToIri (partsOfAttrs p (hostAfterTotal decode_idna p.2.1)))) :=
  (congrArg (fun q => Gen.PyFns_Url.uri_to_iri (fun _ => q) decode_idna uri) (attrs_eq_of_portOk p hp)).trans
    (uri_to_iri_eq_nat _ _ _ _ _ _ _ _ decode_idna uri)

example : PortOk ("http".toList, some "h".toList, some 8080, none, none, "/p".toList, [], []) := by
  intro k hk; simp at hk; omega

/-- The model's text-level `uri_to_iri` (`uriToIriText`, which C15's whole-URL theorems and
`get_current_url_eq` are stated with) is: the model's `urlsplit` and attribute extraction, then the
body of `uri_to_iri` *as translated from the current source*, then the model's `urlunsplit`. -/
theorem uriToIriText_via_translated (o : Url.UrlOpaque) (url : List Char) :
    Url.uriToIriText o url =
      (Url.urlsplit o url >>= Url.partsOf o.hostToUnicode) >>= fun p =>
        (Gen.PyFns_Url.uri_to_iri (fun _ => attrsOf p) id url).map fun t => Url.urlunsplit (splitOfTuple t) :=
  text_via_translated (fun p => uri_to_iri_attrsOf p url) url

/-- The model's text-level `iri_to_uri` (`iriToUriText`) is: the model's `urlsplit` and attribute
extraction, then the body of `iri_to_uri` *as translated from the current source*, then the model's
`urlunsplit`. -/
theorem iriToUriText_via_translated (o : Url.UrlOpaque) (url : List Char) :
    Url.iriToUriText o url =
      (Url.urlsplit o url >>= Url.partsOf o.hostToAscii) >>= fun p =>
        (Gen.PyFns_Url.iri_to_uri (fun _ => attrsOf p) .ok url).map fun t => Url.urlunsplit (splitOfTuple t) :=
  text_via_translated (fun p => iri_to_uri_attrsOf p url) url

/-- The `while "/" in script` loop, as translated from the current source, started with
`script = reversed(r)` and any `path_info`, with more fuel than `script` has characters, followed by
the `else` clause and the two environ stores: never runs out of fuel, never raises, and produces what
the model loop `dispatchLoop` computes from the reversed text (for any amount of model fuel above the
length). Every iteration removes at least the last `/`, which is why `len(script) + 1` units suffice. -/
theorem dispatcher_loop_eq (pin sin : Str) (mounts : List (Str × α)) (app : α) (o1 o2 : Str) :
    ∀ (f1 f2 : Nat) (r pi : Str), r.length < f1 → r.length < f2 →
      finish sin mounts app (dispatcher_call.loop1 pin sin mounts o1 o2 f1 r.reverse pi)
        = (let d := Url.dispatchLoop (mounts.map (·.1)) f2 r pi
           ((sin ++ d.script, d.pathInfo), .ok (appOf mounts app d))) := by
  intro f1
  induction f1 with
  | zero => intro f2 r pi h; omega
  | succ f ih =>
    intro f2 r pi h1 h2
    obtain ⟨g, rfl⟩ : ∃ g, f2 = g + 1 := ⟨f2 - 1, by omega⟩
    rw [dispatcher_loop_step (app := app), Url.dispatchLoop]
    simp only [← Pre.dictHas_eq_contains]
    cases hc : r.contains '/' <;> cases hm : dictHas mounts r.reverse <;>
      simp only [if_true, Bool.false_eq_true, if_false]
    · simp [finish, appOf, Pre.dictGetD_of_not_has mounts r.reverse app hm]
    · simp [finish, appOf]
    · have hl := Url.rest_length_lt hc
      exact ih g ((r.dropWhile (· != '/')).drop 1) _ (by omega) (by omega)
    · simp [finish, appOf]

/-- **`DispatcherMiddleware.__call__`**, as translated from the current source of
`werkzeug/middleware/dispatcher.py` (`script = environ.get("PATH_INFO", "")`, the
`while "/" in script` loop with its `if script in self.mounts: app = self.mounts[script]; break`,
the `script.rsplit("/", 1)` step and `path_info = f"/{last_item}{path_info}"`, the loop's `else`
clause `app = self.mounts.get(script, self.app)`, the two environ stores and the call of the app),
for **every** mount table (apps are an abstract type), default app, `SCRIPT_NAME`, `PATH_INFO` and
every amount of fuel `≥ len(PATH_INFO) + 1`: the function terminates normally (the marker error
"py2lean: out of fuel" does not occur), **never raises** - `self.mounts[script]` is guarded by
`script in self.mounts`, the two-way unpacking of `rsplit` by `"/" in script` - stores
`SCRIPT_NAME = original + d.script` and `PATH_INFO = d.pathInfo` and calls the app stored under the
mount key `d.mount` (the default app for `none`), where `d` is what C15's model `Url.dispatch`
computes from the mount keys and `PATH_INFO` alone. All C15 theorems about `Url.dispatch`
(`dispatcher_preserves_concat`, `dispatcher_longest_mount`, `dispatcher_default_unchanged`) therefore
speak about the current source. No hypothesis on the mount table is needed: "the app stored under
`k`" is `self.mounts.get(k, self.app)` (`dictGetD`, the first item with that key; for a real dict -
distinct keys - see `dispatcher_call_eq_mem`). The initial values `o1 o2` of the two recorded environ
stores are irrelevant. -/
theorem dispatcher_call_eq (fuel : Nat) (path_info_in script_name_in : Str) (mounts : List (Str × α))
    (app : α) (o1 o2 : Str) (hf : path_info_in.length + 1 ≤ fuel) :
    dispatcher_call fuel path_info_in script_name_in mounts app o1 o2 () ()
      = (let d := Url.dispatch (mounts.map (·.1)) path_info_in
         ((script_name_in ++ d.script, d.pathInfo),
          .ok (match d.mount with
               | some k => dictGetD mounts k app
               | none => app))) := by
  rw [dispatcher_call_finish]
  have := dispatcher_loop_eq path_info_in script_name_in mounts app o1 o2 fuel
    (path_info_in.length + 1) path_info_in.reverse [] (by simp; omega) (by simp)
  rw [List.reverse_reverse] at this
  exact this

/-- `dispatcher_call_eq` for a real `dict` (distinct keys), without reference to the lookup
primitive: when the model selects the mount key `k`, the table has an item `(k, a)`, the function
stores `SCRIPT_NAME = original + k`, `PATH_INFO = d.pathInfo` and calls exactly that `a`; when the
model selects no mount, the default app is called. -/
theorem dispatcher_call_eq_mem (fuel : Nat) (path_info_in script_name_in : Str)
    (mounts : List (Str × α)) (app : α) (o1 o2 : Str) (hn : (mounts.map (·.1)).Nodup)
    (hf : path_info_in.length + 1 ≤ fuel) :
    let d := Url.dispatch (mounts.map (·.1)) path_info_in
    (∀ k, d.mount = some k → ∃ a, (k, a) ∈ mounts ∧
      dispatcher_call fuel path_info_in script_name_in mounts app o1 o2 () ()
        = ((script_name_in ++ k, d.pathInfo), .ok a)) ∧
    (d.mount = none →
      dispatcher_call fuel path_info_in script_name_in mounts app o1 o2 () ()
        = ((script_name_in ++ d.script, d.pathInfo), .ok app)) := by
  intro d
  have he := dispatcher_call_eq fuel path_info_in script_name_in mounts app o1 o2 hf
  constructor
  · intro k hk
    obtain ⟨hmem, hscript, _⟩ := (Url.dispatch_spec (mounts.map (·.1)) path_info_in).chosen k hk
    obtain ⟨⟨k', a⟩, hx, rfl⟩ := List.mem_map.mp hmem
    refine ⟨a, hx, ?_⟩
    rw [he]
    simp only [d] at hk hscript ⊢
    rw [hk, hscript]
    simp only [Pre.dictGetD_of_mem_nodup mounts k' a app hn hx]
  · intro hk
    rw [he]
    simp only [d] at hk ⊢
    rw [hk]

/-- `DispatcherMiddleware.__call__`, as translated, raises nothing itself for any mount table and any
request (whatever it returns or raises is the selected app's doing). -/
theorem dispatcher_call_never_raises (fuel : Nat) (path_info_in script_name_in : Str)
    (mounts : List (Str × α)) (app : α) (o1 o2 : Str) (hf : path_info_in.length + 1 ≤ fuel) :
    ∃ st a, dispatcher_call fuel path_info_in script_name_in mounts app o1 o2 () () = (st, .ok a) :=
  ⟨_, _, dispatcher_call_eq fuel path_info_in script_name_in mounts app o1 o2 hf⟩

example : "/api/v1".toList.length + 1 ≤ 8 := by
  rw [String.toList_ofList]
  decide

end Wz.Props.C15T
