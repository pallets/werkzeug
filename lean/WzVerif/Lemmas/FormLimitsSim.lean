/-
C10: limits only add raise points — a call under limits either raises RequestEntityTooLarge or ends,
*error for error*, as the call without limits does (`Lim`, carried by `Lim.bind` from `receive_data` and
`next_event` to the parser's events; `RunLim` for a run of `feed`, event for event; `formParse_unl` for
`MultiPartParser.parse`). The request level needs
the failing runs too, because `silent=True` turns a ValueError into an empty form. And the two guards are exact.
-/
import WzVerif.Lemmas.FormLimits
import WzVerif.Model.FormLimitsRequest
namespace Wz.Multipart
open Wz

/-- the decoder of the pure-guard statements: what `d` is compared with -/
def unl (d : Decoder) : Decoder := { d with maxMem := none, maxParts := none }

def Run.unl (r : Run) : Run := { r with dec := Wz.Multipart.unl r.dec }

def Agree {α β : Type} (R : α → β → Prop) : Except String α → Except String β → Prop
  | .ok a, .ok b => R a b
  | .error e, .error e' => e = e'
  | _, _ => False

theorem Agree.cases {α β : Type} {R : α → β → Prop} {x : Except String α} {x' : Except String β}
    (h : Agree R x x') : (∃ e, x = .error e ∧ x' = .error e) ∨ ∃ a b, x = .ok a ∧ x' = .ok b ∧ R a b :=
  match x, x', h with
  | .error e, .error _, rfl => Or.inl ⟨e, rfl, rfl⟩
  | .ok a, .ok b, h => Or.inr ⟨a, b, rfl, rfl, h⟩

/-- **limits only add raise points**: `x` (under limits) raises RequestEntityTooLarge, or agrees with `x'`
(without limits) -/
def Lim {α β : Type} (R : α → β → Prop) (x : Except String α) (x' : Except String β) : Prop :=
  x = .error R413 ∨ Agree R x x'

namespace Lim
variable {α β γ δ : Type} {R : α → β → Prop} {S : γ → δ → Prop} {x : Except String α} {x' : Except String β}

theorem ok {a : α} {b : β} (h : R a b) : Lim R (.ok a) (.ok b) := Or.inr h
theorem error (e : String) : Lim R (.error e : Except String α) (.error e : Except String β) := Or.inr rfl

theorem cases (h : Lim R x x') :
    x = .error R413 ∨ (∃ e, x = .error e ∧ x' = .error e) ∨ ∃ a b, x = .ok a ∧ x' = .ok b ∧ R a b :=
  h.elim Or.inl fun h => Or.inr h.cases

theorem bind {f : α → Except String γ} {f' : β → Except String δ} (h : Lim R x x')
    (hf : ∀ a b, R a b → Lim S (f a) (f' b)) : Lim S (x.bind f) (x'.bind f') := by
  rcases h.cases with rfl | ⟨e, rfl, rfl⟩ | ⟨a, b, rfl, rfl, hab⟩
  · exact Or.inl rfl
  · exact .error e
  · exact hf a b hab

end Lim

def Unl (p q : Event × Decoder) : Prop := q = (p.1, unl p.2)

theorem receive_unl (d : Decoder) (c : Option Bytes) :
    Lim (fun a b => b = unl a) (receive d c) (receive (unl d) c) := by
  cases c with
  | none => exact .ok rfl
  | some c =>
    rw [receive_some_of_fits (d := unl d) fun _ hm => by cases hm]
    by_cases h : ∀ m, d.maxMem = some m → d.buffer.length + c.length ≤ m
    · rw [receive_some_of_fits h]; exact .ok rfl
    · left
      cases hm : d.maxMem with
      | none => exact absurd (fun m hm' => by rw [hm] at hm'; cases hm') h
      | some m => exact receive_some_too_large hm (Nat.lt_of_not_le fun hle => h fun _ hm' => by cases hm.symm.trans hm'; exact hle)

theorem stepData_unl (d : Decoder) (start : Bool) : Lim Unl (stepData d start) (stepData (unl d) start) := by
  cases h : dataStep d.boundary start d.buffer with
  | error e => rw [stepData_of_error h, stepData_of_error (d := unl d) h]; exact .error e
  | ok r =>
    obtain ⟨p, buf', start', nx⟩ := r
    rw [stepData_of h, stepData_of (d := unl d) h]; exact .ok rfl

theorem step_unl (d : Decoder) : Lim Unl (step d) (step (unl d)) := by
  rcases d with ⟨bnd, buf, st, cpl, sp, pd, mm, mp⟩
  cases st with
  | part =>
    rw [step_part_eq rfl, step_part_eq (d := unl _) rfl]
    simp only [unl]
    cases searchBlankFrom sp buf with
    | none => exact .ok rfl
    | some r =>
      simp only
      cases headEvent (buf.take r.1) with
      | error er => exact .error er
      | ok ev =>
        simp only
        cases mp with
        | none => exact .ok rfl
        | some m =>
          simp only
          by_cases h : pd + 1 > m
          · left; rw [if_pos h]
          · rw [if_neg h]; exact .ok rfl
  | preamble =>
    rw [step_of_preamble (d := unl _) rfl, step_of_preamble rfl]
    simp only [unl]
    cases searchDelimFrom bnd true sp buf <;> exact .ok rfl
  | dataStart =>
    rw [step_of_data (d := unl _) (start := true) rfl, step_of_data (start := true) rfl]
    exact stepData_unl _ true
  | data =>
    rw [step_of_data (d := unl _) (start := false) rfl, step_of_data (start := false) rfl]
    exact stepData_unl _ false
  | epilogue =>
    rw [step_of_epilogue (d := unl _) rfl, step_of_epilogue rfl]
    cases cpl <;> exact .ok rfl
  | complete => rw [step_of_complete (d := unl _) rfl, step_of_complete rfl]; exact .ok rfl

theorem nextEvent_unl (d : Decoder) : Lim Unl (nextEvent d) (nextEvent (unl d)) := by
  rw [nextEvent_bind, nextEvent_bind]
  refine (step_unl d).bind fun p q h => ?_
  subst h
  show Lim Unl (if (d.complete && p.1 == .needData) = true then _ else _) (if (d.complete && p.1 == .needData) = true then _ else _)
  split
  · exact .error _
  · exact .ok rfl

theorem drain_events_prefix (fuel : Nat) : ∀ (d : Decoder) (acc : List Event),
    ∃ more, (drain fuel d acc).events = acc.reverse ++ more := by
  induction fuel with
  | zero => intro d acc; exact ⟨[], (List.append_nil _).symm⟩
  | succ fuel ih =>
    intro d acc
    cases hn : nextEvent d with
    | error e => rw [drain_succ, hn]; exact ⟨[], (List.append_nil _).symm⟩
    | ok v =>
      obtain ⟨ev, d'⟩ := v
      by_cases hne : ev = .needData
      · subst hne; rw [drain_succ, hn]; exact ⟨[], (List.append_nil _).symm⟩
      · by_cases hep : ∃ x, ev = .epilogue x
        · obtain ⟨x, rfl⟩ := hep
          rw [drain_succ, hn]; exact ⟨[.epilogue x], List.reverse_cons ..⟩
        · rw [drain_step fuel acc hn hne fun x hx => hep ⟨x, hx⟩]
          obtain ⟨more, h⟩ := ih d' (ev :: acc)
          exact ⟨ev :: more, by rw [h, List.reverse_cons, List.append_assoc]; rfl⟩

/-- a run under limits against the run without: stopped by RequestEntityTooLarge with the events so far
coming first without limits, or the same run -/
def RunLim (r r' : Run) : Prop :=
  (r.err = some R413 ∧ ∃ more, r'.events = r.events ++ more) ∨ r' = r.unl

theorem drain_unl (fuel : Nat) : ∀ (d : Decoder) (acc : List Event),
    RunLim (drain fuel d acc) (drain fuel (unl d) acc) := by
  induction fuel with
  | zero => intro d acc; exact Or.inr rfl
  | succ fuel ih =>
    intro d acc
    rcases (nextEvent_unl d).cases with h | ⟨e, h, h'⟩ | ⟨⟨ev, d'⟩, _, h, h', rfl⟩
    · left
      rw [drain_succ fuel d, h]
      exact ⟨rfl, drain_events_prefix (fuel + 1) (unl d) acc⟩
    · rw [drain_succ, drain_succ, h, h']; exact Or.inr rfl
    · by_cases hne : ev = .needData
      · subst hne; rw [drain_succ, drain_succ, h, h']; exact Or.inr rfl
      · by_cases hep : ∃ x, ev = .epilogue x
        · obtain ⟨x, rfl⟩ := hep
          rw [drain_succ, drain_succ, h, h']; exact Or.inr rfl
        · have hep' : ∀ x, ev ≠ .epilogue x := fun x hx => hep ⟨x, hx⟩
          rw [drain_step fuel acc h hne hep', drain_step fuel acc h' hne hep']
          exact ih d' _

theorem feed_unl (d : Decoder) (c : Option Bytes) : RunLim (feed d c) (feed (unl d) c) := by
  rcases (receive_unl d c).cases with h | ⟨e, h, h'⟩ | ⟨d', _, h, h', rfl⟩
  · left; rw [feed_of_error h]; exact ⟨rfl, _, rfl⟩
  · rw [feed_of_error h, feed_of_error h']; exact Or.inr rfl
  · rw [feed_of_ok h, feed_of_ok h']; exact drain_unl _ d' []

theorem feed_unl_of_ok {d : Decoder} {c : Option Bytes} (h : (feed d c).err = none) :
    feed (unl d) c = (feed d c).unl := by
  rcases feed_unl d c with ⟨he, _⟩ | h'
  · rw [h] at he; cases he
  · exact h'

theorem feedAll_unl (chunks : List Bytes) : ∀ (d : Decoder),
    (feedAll d chunks).err = none → feedAll (unl d) chunks = (feedAll d chunks).unl := by
  induction chunks with
  | nil => intro d h; simp only [feedAll] at h ⊢; exact feed_unl_of_ok h
  | cons c cs ih =>
    intro d h
    simp only [feedAll] at h ⊢
    cases he : (feed d (some c)).err with
    | some e => rw [he] at h; simp at h; rw [he] at h; simp at h
    | none =>
      rw [he] at h
      simp only at h
      rw [feed_unl_of_ok he]
      have hdec : (feed d (some c)).unl.dec = unl (feed d (some c)).dec := rfl
      have herr : (feed d (some c)).unl.err = none := he
      have hev : (feed d (some c)).unl.events = (feed d (some c)).events := rfl
      rw [herr]
      simp only [hdec, hev]
      rw [ih _ h]
      simp [Run.unl]

/-- two parser states that differ at most in the running field size -/
def FormState.Sim (a b : FormState) : Prop := b.cur = a.cur ∧ b.fields = a.fields ∧ b.files = a.files

abbrev ESim : Except String FormState → Except String FormState → Prop := Agree FormState.Sim

theorem storeData_sim {st st1 : FormState} (fsz fsz1 : Option Nat) (p : Part) (more : Bool)
    (hs : FormState.Sim st st1) : ESim (storeData st fsz p more) (storeData st1 fsz1 p more) := by
  rcases hs with ⟨_, h2, h3⟩
  unfold storeData
  cases more with
  | true => exact ⟨rfl, h2, h3⟩
  | false =>
    simp only [Bool.false_eq_true, if_false]
    split
    · exact ⟨rfl, h2, by simp only [h3]⟩
    · cases partCharset p.headers with
      | error e => exact rfl
      | ok cs => exact ⟨rfl, by simp only [h2], h3⟩

theorem formEvent_unl {m : Option Nat} {st st1 : FormState} (ev : Event) (hs : FormState.Sim st st1) :
    Lim FormState.Sim (formEvent m st ev) (formEvent none st1 ev) := by
  cases ev with
  | field n h => exact .ok ⟨rfl, hs.2⟩
  | file n f h => exact .ok ⟨rfl, hs.2⟩
  | preamble x => exact .ok hs
  | epilogue x => exact .ok hs
  | needData => exact .ok hs
  | data x more =>
    rw [formEvent_data, formEvent_data, hs.1,
      show fieldSizeStep none st1.fieldSize x.length = .ok st1.fieldSize by cases st1.fieldSize <;> rfl]
    cases hf : fieldSizeStep m st.fieldSize x.length with
    | error e => exact Or.inl (by rw [fieldSizeStep_error hf])
    | ok fsz =>
      right
      cases st.cur with
      | none => exact rfl
      | some p => exact storeData_sim _ _ _ _ hs

theorem formEvents_unl {m : Option Nat} (evs : List Event) : ∀ {st st1 : FormState}, FormState.Sim st st1 →
    Lim FormState.Sim (formEvents m st evs) (formEvents none st1 evs) := by
  induction evs with
  | nil => exact fun hs => .ok hs
  | cons ev t ih =>
    intro st st1 hs
    rw [formEvents_cons_bind, formEvents_cons_bind]
    exact (formEvent_unl ev hs).bind fun _ _ hab => ih hab

open Wz.FormReq in
theorem formLoopN_fst (m : Option Nat) (cs : List (Option Bytes)) : ∀ (d : Decoder) (st : FormState),
    (formLoopN m d st cs).1 = formLoop m d st cs := by
  induction cs with
  | nil => intro d st; rfl
  | cons c t ih =>
    intro d st
    simp only [formLoopN, formLoop]
    cases formEvents m st (feed d c).events with
    | error e => rfl
    | ok st' =>
      simp only
      cases (feed d c).err with
      | some e => rfl
      | none => simp only; exact ih _ _

open Wz.FormReq in
theorem formLoopN_unl {m : Option Nat} (cs : List (Option Bytes)) : ∀ (d : Decoder) {st st1 : FormState},
    FormState.Sim st st1 →
    (formLoopN m d st cs).1 = .error R413 ∨
    (ESim (formLoopN m d st cs).1 (formLoopN none (unl d) st1 cs).1 ∧
      (formLoopN m d st cs).2 = (formLoopN none (unl d) st1 cs).2) := by
  induction cs with
  | nil => intro d st st1 hs; right; exact ⟨hs, rfl⟩
  | cons c t ih =>
    intro d st st1 hs
    simp only [formLoopN]
    rcases (formEvents_unl (m := m) (feed d c).events hs).cases with h | ⟨e, h1, h2⟩ | ⟨a, b, h1, h2, hab⟩
    · left; rw [h]
    · -- the parser fails on the events delivered under limits; without limits they come first
      right
      rw [h1]
      rcases feed_unl d c with ⟨_, more, hmore⟩ | hfeed
      · rw [hmore, formEvents_append, h2]; exact ⟨rfl, rfl⟩
      · rw [hfeed, show (feed d c).unl.events = (feed d c).events from rfl, h2]; exact ⟨rfl, rfl⟩
    · rw [h1]
      rcases feed_unl d c with ⟨herr, _⟩ | hfeed
      · left; rw [herr]
      · rw [hfeed, show (feed d c).unl.events = (feed d c).events from rfl,
          show (feed d c).unl.err = (feed d c).err from rfl,
          show (feed d c).unl.dec = unl (feed d c).dec from rfl, h2]
        cases (feed d c).err with
        | some e => exact Or.inr ⟨rfl, rfl⟩
        | none =>
          rcases ih (feed d c).dec hab with h' | ⟨h', hn⟩
          · exact Or.inl h'
          · exact Or.inr ⟨h', by simp only [hn]⟩

theorem esim_map {r r' : Except String FormState} (h : ESim r r') :
    r.map (fun st => (st.fields, st.files)) = r'.map (fun st => (st.fields, st.files)) := by
  rcases h.cases with ⟨e, rfl, rfl⟩ | ⟨a, b, rfl, rfl, _, h2, h3⟩
  · rfl
  · simp [Except.map, h2, h3]

open Wz.FormReq in
/-- **limits only add raise points, at the parser**: under limits `MultiPartParser.parse` raises
RequestEntityTooLarge or ends, error for error, as it does without limits -/
theorem formParse_unl (bnd : Bytes) (mm mp : Option Nat) (bufSize : Nat) (sched : List Nat)
    (body : Bytes) :
    formParse bnd mm mp bufSize sched body = .error R413 ∨
    formParse bnd mm mp bufSize sched body = formParse bnd none none bufSize sched body := by
  rw [formParse_eq, formParse_eq]
  rcases formLoopN_unl (m := mm) ((readChunks bufSize body.length sched body).map some ++ [none])
    (mkDecoder bnd mm mp) (st := {}) (st1 := {}) ⟨rfl, rfl, rfl⟩ with h | ⟨h, _⟩
  · left; rw [formLoopN_fst] at h; rw [h]; rfl
  · right; rw [formLoopN_fst, formLoopN_fst] at h; exact esim_map h

theorem fieldSizeStep_exact (m sz n : Nat) :
    (fieldSizeStep (some m) (some sz) n = .error "RequestEntityTooLarge" ↔ sz + n > m) ∧
    (fieldSizeStep (some m) (some sz) n = .ok (some (sz + n)) ↔ sz + n ≤ m) := by
  unfold fieldSizeStep
  by_cases h : sz + n > m
  · simp [h]
  · simp [h]; omega

theorem step_part_exact {d : Decoder} {k : Nat} {ev : Event} {d' : Decoder} (hk : d.maxParts = some k)
    (hfree : step { d with maxParts := none } = .ok (ev, d')) (hp : isPart ev = true) :
    (step d = .error "RequestEntityTooLarge" ↔ d.partsDecoded + 1 > k) ∧
    (step d = .ok (ev, { d' with maxParts := some k }) ↔ d.partsDecoded + 1 ≤ k) := by
  cases Step.of_ok hfree with
  | partHead hst hq hev _ =>
    rw [step_part_eq (show d.state = .part from hst), show searchBlankFrom d.searchPos d.buffer = _ from hq]
    simp only [show headEvent (d.buffer.take _) = _ from hev, hk]
    by_cases h : d.partsDecoded + 1 > k
    · simp [h, R413]
    · simp [h]; omega
  | _ => cases hp

end Wz.Multipart
