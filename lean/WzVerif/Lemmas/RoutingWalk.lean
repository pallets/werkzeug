/-
Routing lemmas: the per-rule recogniser `walkVia` (the declarative meaning of one rule in C03) read one part at a time. The
equations `walkVia_cons`, `step_dyn` and, for the regex of a dynamic part, `matchDyn_inv` with its two converses are the form in
which the other files use the recogniser on an input that is not empty. On them rest: the groups of a walk are accepted by the
regexes of the rule's dynamic parts (`walkVia_accepts`); the three ways of admitting exclude each other (`walkVia_exclusive`);
and what `_parse_rule` guarantees about slash-consuming parts (`FinalShape`): a part that is not `final` takes exactly one
segment, and a path one final slash short of a branch rule is admitted directly once the slash is added (`noslash_to_direct`,
the step behind the convergence of the slash redirect in C12).
-/
import WzVerif.Lemmas.RoutingText
namespace Wz.Routing

theorem step_nil (p : Part) : step p [] = none := by cases p <;> rfl

theorem walkVia_cons_of_step {via p ps input a rem vs} (hs : step p input = some (a, rem))
    (hw : walkVia via ps rem = some vs) : walkVia via (p :: ps) input = some (a ++ vs) := by
  have hne : input ≠ [] := by
    intro h; subst h; rw [step_nil] at hs; cases hs
  simp [walkVia, hne, hs, hw]

theorem walkVia_cons_inv {via p ps input w} (h : walkVia via (p :: ps) input = some w) :
    (via = .noslash ∧ ps = [] ∧ p = .static [] ∧ input = [] ∧ w = []) ∨
    (∃ a rem vs, step p input = some (a, rem) ∧ walkVia via ps rem = some vs ∧ w = a ++ vs) := by
  simp only [walkVia] at h
  split at h
  · rename_i hc
    cases h
    exact .inl ⟨hc.1, hc.2.1, hc.2.2.1, hc.2.2.2, rfl⟩
  · cases hs : step p input with
    | none => simp [hs] at h
    | some ar =>
      obtain ⟨a, rem⟩ := ar
      simp only [hs, Option.map_eq_some_iff] at h
      obtain ⟨vs, hv, rfl⟩ := h
      exact .inr ⟨a, rem, vs, rfl, hv, rfl⟩

theorem walkVia_cons (via : Via) (p : Part) (ps : List Part) (x : Str) (xs : List Str) :
    walkVia via (p :: ps) (x :: xs) = (step p (x :: xs)).bind fun ar => (walkVia via ps ar.2).map (ar.1 ++ ·) := by
  rw [walkVia]
  simp only [List.cons_ne_nil, and_false, if_false]
  cases step p (x :: xs) <;> rfl

theorem walkVia_direct_nil : walkVia .direct [] [] = some [] := by simp [walkVia]

theorem walkVia_nil_inv {via : Via} {input : List Str} {w} (h : walkVia via [] input = some w) :
    w = [] ∧ ((via = .direct ∧ input = []) ∨ (via = .trailing ∧ input = [[]])) := by
  cases via <;> simp only [walkVia] at h
  · split at h
    · rename_i hin; cases h; exact ⟨rfl, .inl ⟨rfl, hin⟩⟩
    · cases h
  · split at h
    · rename_i hin; cases h; exact ⟨rfl, .inr ⟨rfl, hin⟩⟩
    · cases h
  · cases h

theorem walkVia_noslash_base : walkVia .noslash [.static []] [] = some [] := by
  simp [walkVia]

theorem step_static {c : Str} {x : Str} {xs : List Str} :
    step (.static c) (x :: xs) = if c == x then some ([], xs) else none := rfl

theorem walkVia_static_cons (via : Via) (s : Str) (more : List Part) (xs : List Str) :
    walkVia via (.static s :: more) (s :: xs) = walkVia via more xs := by
  rw [walkVia_cons, step_static]
  simp only [beq_self_eq_true, if_true, Option.bind_some, List.nil_append]
  cases walkVia via more xs <;> rfl

theorem walkVia_direct_slash : walkVia .direct [.static []] [[]] = some [] := by
  rw [walkVia_static_cons, walkVia_direct_nil]

/-- the regexes of the dynamic parts, in order: one per group a walk yields (`walkVia_accepts`) -/
def dynKinds : List Part → List RKind
  | [] => []
  | .static _ :: t => dynKinds t
  | .dyn _ k _ _ _ _ :: t => k :: dynKinds t

theorem dynKinds_append (a b : List Part) : dynKinds (a ++ b) = dynKinds a ++ dynKinds b := by
  induction a with
  | nil => rfl
  | cons p t ih => cases p <;> simp [dynKinds, ih]

/-- every group is accepted by the regex of the corresponding dynamic part -/
def AllAccept : List RKind → List Str → Prop
  | [], [] => True
  | k :: ks, v :: vs => k.accepts v = true ∧ AllAccept ks vs
  | _, _ => False

theorem AllAccept.append : ∀ {k1 v1 k2 v2}, AllAccept k1 v1 → AllAccept k2 v2 → AllAccept (k1 ++ k2) (v1 ++ v2)
  | [], [], _, _, _, h2 => h2
  | _ :: _, _ :: _, _, _, ⟨h, h1⟩, h2 => ⟨h, AllAccept.append h1 h2⟩
  | [], _ :: _, _, _, h1, _ => h1.elim
  | _ :: _, [], _, _, h1, _ => h1.elim

def allAcceptB : List RKind → List Str → Bool
  | [], [] => true
  | k :: ks, v :: vs => k.accepts v && allAcceptB ks vs
  | _, _ => false

theorem allAcceptB_sound (ks vs) : allAcceptB ks vs = true → AllAccept ks vs := by
  fun_induction allAcceptB ks vs <;> simp_all [AllAccept]

theorem matchCore_accepts {pre kind post t v} (h : matchCore pre kind post t = some v) : kind.accepts v = true := by
  simp only [matchCore] at h
  split at h
  · cases h
  · split at h
    · cases h
    · split at h
      · rename_i hacc; cases h; exact hacc
      · cases h

theorem step_dyn (pre kind post final sfx w) (x : Str) (xs : List Str) :
    step (.dyn pre kind post final sfx w) (x :: xs) =
      (matchDyn pre kind post sfx (if final then joinWith '/' (x :: xs) else x)).map
        fun vsl => ([vsl.1], if sfx && vsl.2 then [[]] else if final then [] else xs) := by
  simp only [step]
  cases matchDyn pre kind post sfx (if final then joinWith '/' (x :: xs) else x) <;> rfl

/-- a match of a dynamic part's pattern: the slash group took the final '/' of a `suffixed` part's target, and the core
pattern matched what is in front of it -/
theorem matchDyn_inv {pre kind post sfx target v sl} (h : matchDyn pre kind post sfx target = some (v, sl)) :
    sl = (sfx && endsWithChar target '/') ∧
    matchCore pre kind post (if sl then target.dropLast else target) = some v := by
  unfold matchDyn at h
  simp only [] at h
  by_cases hc : (sfx && endsWithChar (if (sfx && endsWithChar target '/') = true then target.dropLast else target) '/') = true
  · rw [if_pos hc] at h; cases h
  · rw [if_neg hc] at h
    simp only [Option.map_eq_some_iff, Prod.mk.injEq] at h
    obtain ⟨v', hv, rfl, rfl⟩ := h
    exact ⟨rfl, hv⟩

theorem matchDyn_of_core {pre kind post sfx t v} (h : matchCore pre kind post t = some v)
    (hs : (sfx && endsWithChar t '/') = false) : matchDyn pre kind post sfx t = some (v, false) := by
  simp [matchDyn, hs, h]

theorem matchDyn_slash {pre kind post t v} (h : matchCore pre kind post t = some v) (he : endsWithChar t '/' = false) :
    matchDyn pre kind post true (t ++ ['/']) = some (v, true) := by
  simp [matchDyn, endsWithChar_append, he, h]

theorem step_accepts {p : Part} {input a rem} (h : step p input = some (a, rem)) :
    AllAccept (dynKinds [p]) a := by
  cases input with
  | nil => rw [step_nil] at h; cases h
  | cons x xs =>
    cases p with
    | static c =>
      simp only [step_static] at h
      split at h
      · cases h; trivial
      · cases h
    | dyn pre kind post final suffixed w =>
      rw [step_dyn, Option.map_eq_some_iff] at h
      obtain ⟨⟨v, sl⟩, hm, h⟩ := h
      cases h
      exact ⟨matchCore_accepts (matchDyn_inv hm).2, trivial⟩

theorem walkVia_accepts {via : Via} : ∀ {ps : List Part} {input vs}, walkVia via ps input = some vs →
    AllAccept (dynKinds ps) vs := by
  intro ps
  induction ps with
  | nil =>
    intro input vs h
    rw [(walkVia_nil_inv h).1]; trivial
  | cons p ps ih =>
    intro input vs h
    rcases walkVia_cons_inv h with ⟨_, hps, hp, _, hw⟩ | ⟨a, rem, vs', hs, hw, rfl⟩
    · subst hps hp hw; trivial
    · have h1 := step_accepts hs
      have h2 := ih hw
      have : dynKinds (p :: ps) = dynKinds [p] ++ dynKinds ps := dynKinds_append [p] ps
      rw [this]
      exact h1.append h2

theorem walkVia_exclusive : ∀ {ps : List Part} {input a b} {v1 v2 : Via},
    walkVia v1 ps input = some a → walkVia v2 ps input = some b → v1 = v2 := by
  intro ps
  induction ps with
  | nil =>
    intro input a b v1 v2 h1 h2
    rcases (walkVia_nil_inv h1).2 with ⟨rfl, rfl⟩ | ⟨rfl, rfl⟩ <;> rcases (walkVia_nil_inv h2).2 with ⟨rfl, hi⟩ | ⟨rfl, hi⟩
    · rfl
    · cases hi
    · cases hi
    · rfl
  | cons p ps ih =>
    intro input a b v1 v2 h1 h2
    rcases walkVia_cons_inv h1 with ⟨hv1, _, _, hin, _⟩ | ⟨a1, rem1, vs1, hs1, hw1, _⟩
    · rcases walkVia_cons_inv h2 with ⟨hv2, _⟩ | ⟨a2, rem2, vs2, hs2, _⟩
      · rw [hv1, hv2]
      · subst hin; rw [step_nil] at hs2; cases hs2
    · rcases walkVia_cons_inv h2 with ⟨_, _, _, hin, _⟩ | ⟨a2, rem2, vs2, hs2, hw2, _⟩
      · subst hin; rw [step_nil] at hs1; cases hs1
      · rw [hs1] at hs2; cases hs2
        exact ih hw1 hw2

theorem admitsGroups_of_walkVia {r : Rule} {input vs via} (hw : walkVia via r.parts input = some vs)
    (ha : viaAllowed r via = true) : admitsGroups r input = some vs := by
  simp only [admitsGroups]
  cases hd : walkVia .direct r.parts input with
  | some vs' =>
    have := walkVia_exclusive hw hd
    subst this; rw [hd] at hw; cases hw; rfl
  | none =>
    cases via with
    | direct => rw [hd] at hw; cases hw
    | trailing =>
      have hs : r.strict = false := by simpa [viaAllowed] using ha
      simp [hs, hw]
    | noslash =>
      have hs : r.strict = false := by simpa [viaAllowed] using ha
      cases ht : walkVia .trailing r.parts input with
      | some vs' => have := walkVia_exclusive hw ht; cases this
      | none => simp [hs, hw]

/-- what `_parse_rule` guarantees about a slash-consuming (`final`) part: it is the last part, or — when
`suffixed` — it is followed by exactly the empty static part -/
def FinalShape : List Part → Prop
  | [] => True
  | .static _ :: t => FinalShape t
  | .dyn _ _ _ final suffixed _ :: t =>
    if final then (if suffixed then t = [.static []] else t = []) else (suffixed = false ∧ FinalShape t)

theorem FinalShape.tail {p : Part} {t : List Part} (hf : p.isFinal = false) (h : FinalShape (p :: t)) : FinalShape t := by
  cases p with
  | static c => exact h
  | dyn pre kind post final suffixed w =>
    obtain rfl : final = false := hf
    exact (by simpa [FinalShape] using h : suffixed = false ∧ FinalShape t).2

theorem FinalShape.of_final {p : Part} {t : List Part} (hf : p.isFinal = true) (h : FinalShape (p :: t)) :
    ∃ pre kind post sfx w, p = .dyn pre kind post true sfx w ∧ t = if sfx then [.static []] else [] := by
  cases p with
  | static c => cases hf
  | dyn pre kind post final suffixed w =>
    obtain rfl : final = true := hf
    refine ⟨pre, kind, post, suffixed, w, rfl, ?_⟩
    cases suffixed <;> simpa [FinalShape] using h

theorem matchDyn_suffixed_extend {pre kind post target v}
    (h : matchDyn pre kind post true target = some (v, false)) :
    matchDyn pre kind post true (target ++ ['/']) = some (v, true) := by
  obtain ⟨he, h'⟩ := matchDyn_inv h
  exact matchDyn_slash h' (by simpa using he.symm)

theorem step_head_only {p : Part} {t : List Part} (hf : p.isFinal = false) (hshape : FinalShape (p :: t))
    (x : Str) (xs : List Str) : step p (x :: xs) = (step p [x]).map fun ar => (ar.1, xs) := by
  cases p with
  | static c => simp only [step_static]; split <;> rfl
  | dyn pre kind post final suffixed w =>
    obtain rfl : final = false := hf
    obtain ⟨rfl, _⟩ : suffixed = false ∧ FinalShape t := by simpa [FinalShape] using hshape
    simp only [step_dyn, Bool.false_eq_true, if_false]
    cases matchDyn pre kind post false x <;> rfl

theorem step_nonfinal {p : Part} {t : List Part} (hf : p.isFinal = false) (hshape : FinalShape (p :: t))
    {x : Str} {xs a rem} (hs : step p (x :: xs) = some (a, rem)) :
    rem = xs ∧ ∀ ys, step p (x :: ys) = some (a, ys) := by
  rw [step_head_only hf hshape, Option.map_eq_some_iff] at hs
  obtain ⟨ar, har, hs⟩ := hs
  cases hs
  exact ⟨rfl, fun ys => by rw [step_head_only hf hshape, har]; rfl⟩

theorem walkVia_peel {via : Via} {p : Part} {ps : List Part} {x : Str} {xs : List Str} {w}
    (hf : p.isFinal = false) (hshape : FinalShape (p :: ps)) (h : walkVia via (p :: ps) (x :: xs) = some w) :
    ∃ w', walkVia via ps xs = some w' := by
  rw [walkVia_cons, step_head_only hf hshape] at h
  cases hs : step p [x] with
  | none => simp [hs] at h
  | some ar =>
    simp only [hs, Option.map_some, Option.bind_some, Option.map_eq_some_iff] at h
    obtain ⟨w', hw', _⟩ := h
    exact ⟨w', hw'⟩

theorem noslash_to_direct : ∀ {ps : List Part} {input vs}, FinalShape ps →
    walkVia .noslash ps input = some vs → walkVia .direct ps (input ++ [[]]) = some vs := by
  intro ps
  induction ps with
  | nil => intro input vs _ h; simp [walkVia] at h
  | cons p t ih =>
    intro input vs hshape h
    rcases walkVia_cons_inv h with ⟨_, ht, hp, hin, hvs⟩ | ⟨a, rem, vs', hs, hw, rfl⟩
    · subst ht hp hin hvs
      exact walkVia_direct_slash
    · cases input with
      | nil => rw [step_nil] at hs; cases hs
      | cons x xs =>
        cases hf : p.isFinal with
        | false =>
          obtain ⟨rfl, hany⟩ := step_nonfinal hf hshape hs
          exact walkVia_cons_of_step (hany _) (ih (hshape.tail hf) hw)
        | true =>
          -- the rule ends `<path>…/`: the slash group of the path part takes the added slash
          obtain ⟨pre, kind, post, sfx, w, rfl, rfl⟩ := hshape.of_final hf
          rw [step_dyn, Option.map_eq_some_iff] at hs
          obtain ⟨⟨v, sl⟩, hm, hs⟩ := hs
          cases hs
          cases sfx with
          | false => simp [walkVia] at hw
          | true =>
            cases sl with
            | true => simp [walkVia, step_static] at hw
            | false =>
              obtain rfl : vs' = [] := by simpa [walkVia] using hw.symm
              refine walkVia_cons_of_step (a := [v]) (rem := [[]]) ?_ walkVia_direct_slash
              rw [List.cons_append, step_dyn]
              simp only [if_true, joinWith_append_nil] at hm ⊢
              rw [matchDyn_suffixed_extend hm]; rfl

/-- a rule whose first literal segment differs from the input's does not admit it in any way
(maps with pairwise distinct literal first segments are non-overlapping). `a`, `b` are the domain part and the empty part
in front of the leading slash: the first literal segment is the third part. -/
theorem walkVia_none_of_first_literal {ps : List Part} {a b : Part} {c' : Str} {rest : List Part}
    (hparts : ps = a :: b :: .static c' :: rest) (hshape : FinalShape ps)
    (hfa : a.isFinal = false) (hfb : b.isFinal = false)
    {x0 x1 c : Str} {xs : List Str} (hne : c' ≠ c) (via : Via) :
    walkVia via ps (x0 :: x1 :: c :: xs) = none := by
  subst hparts
  cases hw : walkVia via (a :: b :: .static c' :: rest) (x0 :: x1 :: c :: xs) with
  | none => rfl
  | some w =>
    exfalso
    obtain ⟨_, hw1⟩ := walkVia_peel hfa hshape hw
    obtain ⟨_, hw2⟩ := walkVia_peel hfb (hshape.tail hfa) hw1
    have : (c' == c) = false := by simpa using hne
    simp [walkVia_cons, step_static, this] at hw2

end Wz.Routing
