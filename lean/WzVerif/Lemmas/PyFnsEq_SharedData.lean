/-
What Props/C14T needs to compare the export loop of `SharedDataMiddleware.__call__` *as regenerated
from the source* (`Gen/PyFns_Paths.lean`: `shared_data_select`) with `Paths.findExport` /
`Paths.sharedData` of `Model/StaticFiles.lean`: the loop read for arbitrary loaders (`hit`,
`tryLoader`, `firstLoader`, `selected`), and werkzeug's own three loaders as one such family (`callOf`),
on which that reading is the model's `tryExport` / `findExport`.
-/
import WzVerif.Gen.PyFns_Paths
import WzVerif.Model.StaticFiles
import WzVerif.Lemmas.PyFns_Prelude
import WzVerif.Lemmas.PathsGlue
namespace Wz.PyFnsEq.Middleware
open Wz Wz.Pre

/-- `if not search_path.endswith("/"): search_path += "/"` -/
theorem withSlash_eq (s : Str) :
    (if !(endswith s ['/']) then s ++ ['/'] else s) = Paths.withSlash s := by
  unfold Paths.withSlash
  rw [endswith_singleton]
  by_cases h : s.getLast? = some '/' <;> simp [h]

section shared
open Gen.PyFns_Paths
variable {Ldr Fld : Type}

/-- the answer `(real_filename, file_loader)` of a loader call, read as the loop reads it:
`some` = `file_loader is not None` (the loop `break`s), `none` = go on -/
def hit (r : Option Str × Option Fld) : Option (Option Str × Fld) :=
  match r.2 with
  | some fl => some (r.1, fl)
  | none => none

/-- one iteration of the export loop for an arbitrary loader: the exact-match call `loader(None)`
when `search_path == path`, else / after it the prefix call `loader(path[len(search_path'):])` with
`search_path' = search_path` + `/` if missing, when `path` starts with `search_path'` -/
def tryLoader (call : Ldr → Option Str → Option Str × Option Fld) (path search : Str) (ldr : Ldr) :
    Option (Option Str × Fld) :=
  match (if search = path then hit (call ldr none) else none) with
  | some r => some r
  | none =>
    if Paths.startsWith path (Paths.withSlash search) then
      hit (call ldr (some (path.drop (Paths.withSlash search).length)))
    else none

/-- the first export, in order, one of whose (at most two) loader calls answers a file loader -/
def firstLoader (call : Ldr → Option Str → Option Str × Option Fld) (path : Str) :
    List (Str × Ldr) → Option (Option Str × Fld)
  | [] => none
  | (search, ldr) :: rest =>
    match tryLoader call path search ldr with
    | some r => some r
    | none => firstLoader call path rest

/-- one turn of the export loop, entered with `file_loader = None`: it `break`s with the answer of this
export's loader (`tryLoader`), or goes on with `file_loader` still `None` (and `real_filename` whatever
the last call left in it) -/
theorem shared_data_loop_cons (pinfo : Str) (call : Ldr → Option Str → Option Str × Option Fld)
    (allowed : Str → Bool) (path search : Str) (ldr : Ldr) (rest : List (Str × Ldr))
    (rf : Option (Option Str)) :
    ∃ rf', shared_data_select.loop1 pinfo call allowed path ((search, ldr) :: rest) rf none =
      match tryLoader call path search ldr with
      | some r => .brk (some r.1, some r.2)
      | none => shared_data_select.loop1 pinfo call allowed path rest rf' none := by
  rw [shared_data_select.loop1]
  unfold tryLoader
  simp only [withSlash_eq, Int.ofNat_eq_natCast, slice_nat_none, startswith, Paths.startsWith, beq_iff_eq]
  by_cases hs : search = path
  · simp only [hs, if_true]
    cases h1 : call ldr none with
    | mk a b =>
      cases b with
      | some fl => exact ⟨rf, by simp [hit]⟩
      | none =>
        by_cases hp : (Paths.withSlash path).isPrefixOf path = true
        · simp only [hp, if_true, hit]
          cases h2 : call ldr (some (path.drop (Paths.withSlash path).length)) with
          | mk a2 b2 => cases b2 <;> exact ⟨some a2, by simp⟩
        · exact ⟨some a, by simp [hp, hit]⟩
  · simp only [hs, if_false]
    by_cases hp : (Paths.withSlash search).isPrefixOf path = true
    · simp only [hp, if_true, hit]
      cases h2 : call ldr (some (path.drop (Paths.withSlash search).length)) with
      | mk a2 b2 => cases b2 <;> exact ⟨some a2, by simp⟩
    · exact ⟨rf, by simp [hp]⟩

/-- what `__call__` does with the loop's answer: `file_loader is None or not
self.is_allowed(real_filename)` sends the request to the wrapped application (`none`) -/
def selected (allowed : Str → Bool) : Option (Option Str × Fld) → Except String (Option (Str × Fld))
  | none => .ok none
  | some (none, _) => .error "TypeError"
  | some (some name, fl) => if allowed name then .ok (some (name, fl)) else .ok none

/-- `loader(path)` for the loader `__init__` chose for an export (`Paths.loaderOf`: directory, single
file or package loader); the file-loader object is represented by the path it opens -/
def callOf (isfile : Str → Bool) : Paths.Export → Option Str → Option Str × Option Str :=
  fun ex p =>
    match Paths.loaderOf isfile ex p with
    | some (name, f) => (some name, some f)
    | none => (none, none)

/-- a model answer as the generic loop sees it: the `real_filename` is never `None` -/
def lift : Str × Str → Option Str × Str := fun r => (some r.1, r.2)

theorem hit_callOf (isfile : Str → Bool) (ex : Paths.Export) (p : Option Str) :
    hit (callOf isfile ex p) = (Paths.loaderOf isfile ex p).map lift := by
  unfold callOf hit
  cases Paths.loaderOf isfile ex p with
  | none => rfl
  | some r => obtain ⟨a, b⟩ := r; rfl

theorem tryLoader_callOf (isfile : Str → Bool) (path search : Str) (ex : Paths.Export) :
    tryLoader (callOf isfile) path search ex = (Paths.tryExport isfile search ex path).map lift := by
  unfold tryLoader Paths.tryExport
  simp only [hit_callOf]
  by_cases hs : search = path
  · simp only [hs, if_true]
    cases Paths.loaderOf isfile ex none with
    | some r => rfl
    | none =>
      simp only [Option.map_none]
      split <;> rfl
  · simp only [hs, if_false]
    split <;> rfl

theorem firstLoader_eq_findSome (call : Ldr → Option Str → Option Str × Option Fld) (path : Str)
    (exports : List (Str × Ldr)) :
    firstLoader call path exports = exports.findSome? fun e => tryLoader call path e.1 e.2 := by
  induction exports with
  | nil => rfl
  | cons e rest ih =>
    rw [List.findSome?_cons, ← ih, firstLoader]
    cases tryLoader call path e.1 e.2 <;> rfl

theorem firstLoader_callOf (isfile : Str → Bool) (path : Str) (exports : List (Str × Paths.Export)) :
    firstLoader (callOf isfile) path exports = (Paths.findExport isfile exports path).map lift := by
  rw [firstLoader_eq_findSome, Paths.findExport_eq_findSome, List.map_findSome?]
  simp only [tryLoader_callOf]; rfl

/-- the `UnboundLocalError` arm of the translation is never taken: `real_filename` is read only when
`file_loader is not None`, and the two are assigned together -/
theorem selected_ne_unbound (allowed : Str → Bool) (o : Option (Option Str × Fld)) :
    selected allowed o ≠ .error "UnboundLocalError" := by
  rcases o with _ | ⟨_ | name, fl⟩
  · simp [selected]
  · simp [selected]
  · cases ha : allowed name <;> simp [selected, ha]

theorem selected_lift (allowed : Str → Bool) (o : Option (Str × Str)) :
    selected allowed (o.map lift) =
      .ok (o.bind fun (name, f) => if allowed name then some (name, f) else none) := by
  rcases o with _ | ⟨name, f⟩
  · rfl
  · cases ha : allowed name <;> simp [selected, lift, ha]

/-- a directory export and a single-file export on a file system with the two files
`/srv/static/a.txt` and `/srv/one.txt`: the directory loader joins safely, the file loader ignores
what follows its key (replayed on CPython: `/one.txt/zzz` serves `one.txt`), `..` falls through -/
example :
    let isfile : Str → Bool := fun p => p == "/srv/static/a.txt".toList || p == "/srv/one.txt".toList
    let exports := [("/static".toList, Paths.Export.dir "/srv/static".toList),
      ("/one.txt".toList, Paths.Export.file "/srv/one.txt".toList)]
    let run := fun (p : String) => (shared_data_select p.toList (callOf isfile) (fun _ => true) exports () ()).toOption
    run "/static/a.txt" = some (some ("a.txt".toList, "/srv/static/a.txt".toList))
    ∧ run "/one.txt/zzz" = some (some ("one.txt".toList, "/srv/one.txt".toList))
    ∧ run "/static/../one.txt" = some none
    ∧ run "/static" = some none := by decide +kernel

end shared

end Wz.PyFnsEq.Middleware
