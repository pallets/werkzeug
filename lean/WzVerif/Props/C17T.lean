/-
C17T — the negotiation methods of `werkzeug.datastructures.accept` *as regenerated from the source*
by `tools/py2lean.py` (`Gen/PyFns_Accept.lean`, rewritten on every check run) are equal, for all
inputs, to the hand-written model functions of `Model/Accept.lean` that the C17 theorems are about;
two of those theorems are restated on the translated loops.
The class-specific parts (`_specificity`, `_value_matches`, the orders, the quality 0) are the
fields of the model's `Neg` structure on both sides; the sentinels `best_quality = -1` and
`best_specificity = (-1,)` are parameters of which only `qm1 ≤ 0` is assumed.
Property theorems only (helper lemmas: the end of Lemmas/Accept.lean, the end of Lemmas/PyFnsEq_Accept.lean,
Lemmas/PyFns_Prelude.lean).
-/
import WzVerif.Gen.PyFns_Accept
import WzVerif.Lemmas.PyFns_Prelude
import WzVerif.Lemmas.PyFnsEq_Accept
import WzVerif.Props.C17
namespace Wz.Props.C17T
open Wz Wz.Accept Wz.PyFnsAccept

variable {σ κ : Type} (N : Neg σ κ)

/-- The translation maps `_locale_delim_re.split(x, 1)[0]` to the model's `primaryTag` (text before
the first `_` or `-`); this pins the pattern source and flags of the live regex object. -/
theorem locale_delim_re_pinned : Gen.PyFns_Accept.localeDelimRe = ("[_-]", 32) := rfl

/-- the `for client_item, quality in self` loop of `_best_single_match` is `find?` -/
theorem best_single_match_loop_eq (self : List (List Char × κ)) (offer : List Char) (l : List (List Char × κ)) :
    Gen.PyFns_Accept.best_single_match.loop1 N self offer l =
      match l.find? (fun it => N.matches offer it.1) with
      | some it => .ret (some it)
      | none => .fall () := by
  rw [Pre.forLoop_first (Gen.PyFns_Accept.best_single_match.loop1 N self offer)
    (fun it : List Char × κ => N.matches offer it.1) some rfl (fun _ _ => rfl) l]
  cases l.find? _ <;> rfl

/-- `Accept._best_single_match(match)`, as translated from the current source, is the model's
`bestSingle` (first item of `self` that `_value_matches`), for every class and every list. -/
theorem best_single_match_eq (self : List (List Char × κ)) (offer : List Char) :
    Gen.PyFns_Accept.best_single_match N self offer = bestSingle N self offer := by
  exact PyFnsEq.Accept.best_single_match_eq N self offer

/-- the loop of `Accept.quality` -/
theorem quality_loop_eq (self : List (List Char × κ)) (key : List Char) (l : List (List Char × κ)) :
    Gen.PyFns_Accept.quality.loop1 N self key l =
      match l.find? (fun it => N.matches key it.1) with
      | some it => .ret it.2
      | none => .fall () := by
  rw [Pre.forLoop_first (Gen.PyFns_Accept.quality.loop1 N self key)
    (fun it : List Char × κ => N.matches key it.1) (·.2) rfl (fun _ _ => rfl) l]
  cases l.find? _ <;> rfl

/-- `Accept.quality(key)`, as translated: the quality of the first matching item, else `0`. -/
theorem quality_eq (self : List (List Char × κ)) (key : List Char) :
    Gen.PyFns_Accept.quality N self key = (Accept.quality N self key).getD N.zero := by
  unfold Gen.PyFns_Accept.quality Accept.quality bestSingle
  rw [quality_loop_eq]
  cases List.find? (fun it => N.matches key it.1) self <;> rfl

/-- the loop of `Accept.__contains__` -/
theorem contains_loop_eq (self : List (List Char × κ)) (key : List Char) (l : List (List Char × κ)) :
    Gen.PyFns_Accept.contains.loop1 N self key l =
      if l.any (fun it => N.matches key it.1) then .ret true else .fall () := by
  rw [Pre.forLoop_first (Gen.PyFns_Accept.contains.loop1 N self key)
    (fun it : List Char × κ => N.matches key it.1) (fun _ => true) rfl (fun _ _ => rfl) l, ← List.isSome_find?]
  cases l.find? (fun it => N.matches key it.1) <;> rfl

/-- `key in accept`, as translated, is the model's `contains`. -/
theorem contains_eq (self : List (List Char × κ)) (key : List Char) :
    Gen.PyFns_Accept.contains N self key = Accept.contains N self key := by
  unfold Gen.PyFns_Accept.contains Accept.contains
  rw [contains_loop_eq]
  cases List.any self (fun it => N.matches key it.1) <;> rfl

/-- the `enumerate` loop of `Accept.index` -/
theorem index_loop_eq (self : List (List Char × κ)) (key : List Char) (l : List (List Char × κ)) (i : Nat) :
    Gen.PyFns_Accept.index.loop1 N self key (Pre.enumerateFrom (i : Int) l) =
      match l.findIdx? (fun it => N.matches key it.1) with
      | some j => .ret (.ok ((i + j : Nat) : Int))
      | none => .fall () := by
  induction l generalizing i with
  | nil => rfl
  | cons x t ih =>
    unfold Pre.enumerateFrom Gen.PyFns_Accept.index.loop1
    by_cases h : N.matches key x.1 = true
    · simp [h, List.findIdx?_cons]
    · have h' : N.matches key x.1 = false := by simpa using h
      have e : ((i : Int) + 1) = ((i + 1 : Nat) : Int) := by omega
      simp only [h', Bool.false_eq_true, if_false, e, ih, List.findIdx?_cons]
      cases List.findIdx? (fun it => N.matches key it.1) t with
      | none => rfl
      | some j => simp; omega

/-- `Accept.find(key)` for a string key, as translated (`index` with its `enumerate` loop and
`ValueError`, caught by `find`): the position of the first matching item, else -1. -/
theorem find_eq (self : List (List Char × κ)) (key : List Char) :
    Gen.PyFns_Accept.find N self key =
      match Accept.find N self key with
      | some i => (i : Int)
      | none => -1 := by
  unfold Gen.PyFns_Accept.find Gen.PyFns_Accept.index Accept.find Pre.enumerate
  have := index_loop_eq N self key self 0
  simp only [Int.natCast_zero, Nat.zero_add] at this
  rw [this]
  cases List.findIdx? (fun it => N.matches key it.1) self <;> rfl

/-- **The selection loop of `Accept.best_match`**, as translated from the current source (the
`_best_single_match` lookup, `quality <= 0 or quality < best_quality: continue`, the
better-quality-or-more-specific update of `result` / `best_quality` / `best_specificity`), keeps
its three variables in the relation `Rel` with the model's fold state, for every class whose
quality order is a total preorder, every list of offers and every related start state. -/
theorem best_match_loop (hq : TotalPre N.qle) (qm1 : κ) (sm1 : σ) (self : List (List Char × κ))
    (dflt : Option (List Char)) (offers : List (List Char)) :
    ∀ (st : BestState σ κ) (r : Option (List Char)) (bq : κ) (bs : σ), Rel N dflt st r bq bs →
      ∃ r' bq' bs', Gen.PyFns_Accept.best_match.loop1 N qm1 sm1 self offers r bq bs = .fall (r', bq', bs') ∧
        Rel N dflt (offers.foldl (bestStep N self) st) r' bq' bs' := by
  induction offers with
  | nil => intro st r bq bs h; exact ⟨r, bq, bs, rfl, h⟩
  | cons o t ih =>
    intro st r bq bs h
    obtain ⟨r1, bq1, bs1, hstep, h1⟩ := PyFnsEq.Accept.best_match_turn N hq qm1 sm1 self dflt o t h
    rw [hstep]
    exact ih _ r1 bq1 bs1 h1

/-- **`Accept.best_match(matches, default)`**, as translated, returns the model's `bestMatch` (or the
default when that is `None`), for every class with a total preorder on qualities and every sentinel
`qm1 ≤ 0` (the code uses -1). -/
theorem best_match_eq (hq : TotalPre N.qle) (qm1 : κ) (sm1 : σ) (hm : N.qle qm1 N.zero = true)
    (self : List (List Char × κ)) (offers : List (List Char)) (dflt : Option (List Char)) :
    Gen.PyFns_Accept.best_match N qm1 sm1 self offers dflt =
      match bestMatch N self offers with
      | some r => some r
      | none => dflt := by
  unfold Gen.PyFns_Accept.best_match bestMatch
  obtain ⟨r', bq', bs', h1, h2⟩ := best_match_loop N hq qm1 sm1 self dflt offers none dflt qm1 sm1 ⟨rfl, hm⟩
  simp only [h1]
  cases hf : List.foldl (bestStep N self) none offers with
  | none => rw [hf] at h2; simpa [Rel] using h2.1
  | some s3 => obtain ⟨o, q, s⟩ := s3; rw [hf] at h2; simpa [Rel] using h2.1

/-- **`LanguageAccept.best_match`**, as translated from the current source (the exact stage, the
filter of explicitly refused offers (0816efc) with its assignment expression, the `fallback` Accept
of primary tags, the stage on the offers' primary tags and the `next(...)` lookup of the original
offer), never raises `StopIteration` and returns the model's `langBestMatch` (or the default), for
every list of `(tag, q)` pairs, every list of offers and every sentinel `qm1 ≤ 0`. -/
theorem lang_best_match_eq (qm1 : Q) (sm1 : List Bool) (hm : Q.le qm1 Q.zero = true)
    (self : List (List Char × Q)) (offers : List (List Char)) (dflt : Option (List Char)) :
    Gen.PyFns_Accept.lang_best_match langNeg acceptNeg qm1 sm1 self offers dflt =
      .ok (match langBestMatch self offers with
        | some r => some r
        | none => dflt) := by
  have bmL := fun (s : List (List Char × Q)) (o : List (List Char)) =>
    best_match_eq langNeg qle_totalPre qm1 sm1 hm s o none
  have bmA := fun (s : List (List Char × Q)) (o : List (List Char)) =>
    best_match_eq acceptNeg qle_totalPre qm1 sm1 hm s o none
  unfold Gen.PyFns_Accept.lang_best_match
  rw [langBestMatch_eq]
  simp only [bmL, bmA]
  cases h1 : bestMatch langNeg self offers with
  | some r => rfl
  | none =>
    simp only []
    rw [lang_filter_eq self offers _ (fun o => by
      rw [best_single_match_eq]
      cases bestSingle langNeg self o with
      | none => rfl
      | some m => obtain ⟨c, q⟩ := m; rfl)]
    have hfs : mk acceptNeg (List.map (fun item => (primaryTag item.1, item.2)) self) = langFallbackSelf self := rfl
    rw [hfs]
    cases h2 : bestMatch acceptNeg (langFallbackSelf self) (langNotRefused self offers) with
    | some r => rfl
    | none =>
      simp only []
      have hpm : List.map (fun item => primaryTag item) (langNotRefused self offers) = (langNotRefused self offers).map primaryTag := rfl
      rw [hpm]
      cases h3 : bestMatch langNeg self ((langNotRefused self offers).map primaryTag) with
      | none => rfl
      | some p =>
        -- `next(...)` is the model's `find?` over the offers, which `stage3_find` shows to succeed
        obtain ⟨r, _, _, hf, _⟩ := stage3_find h3
        have hz := find?_zip_map primaryTag (· == p) (langNotRefused self offers)
        rw [hf] at hz
        simp only [Option.none_or, Option.bind_some, hf]
        rw [Pre.nextOf_filter_map]
        cases hx : ((langNotRefused self offers).zip ((langNotRefused self offers).map primaryTag)).find? (fun x => x.2 == p) with
        | none => rw [hx] at hz; cases hz
        | some x => rw [hx] at hz; cases hz; rfl

/-- C17 `bestMatch_optimal` on the translated loop: what the regenerated `best_match` returns (with
`default=None`) is an offer of positive, maximal quality, most specific among those, earliest on ties. -/
theorem best_match_optimal_translated (hs : TotalPre N.sle) (hq : TotalPre N.qle) (qm1 : κ) (sm1 : σ)
    (hm : N.qle qm1 N.zero = true) (self : List (List Char × κ)) (offers : List (List Char))
    (r : List Char) (h : Gen.PyFns_Accept.best_match N qm1 sm1 self offers none = some r) :
    ∃ pre post ci q, offers = pre ++ r :: post ∧ bestSingle N self r = some (ci, q) ∧
      N.qle q N.zero = false ∧
      (∀ o ∈ offers, ∀ ci' q', bestSingle N self o = some (ci', q') →
          N.qle q' q = true ∧ (N.qle q q' = true → N.sle (N.spec ci') (N.spec ci) = true)) ∧
      (∀ o ∈ pre, ∀ ci' q', bestSingle N self o = some (ci', q') →
          N.qle q q' = true → N.sle (N.spec ci) (N.spec ci') = false) := by
  rw [best_match_eq N hq qm1 sm1 hm] at h
  have h' : bestMatch N self offers = some r := by
    cases hb : bestMatch N self offers with
    | none => rw [hb] at h; cases h
    | some x => rw [hb] at h; exact h
  exact Wz.Props.C17.bestMatch_optimal N hs hq self offers r h'

/-- C17 `lang_zero_never_chosen` on the translated function: an offer the regenerated
`LanguageAccept.best_match` returns (with `default=None`) is never one whose best exact match has q=0. -/
theorem lang_zero_never_chosen_translated (qm1 : Q) (sm1 : List Bool) (hm : Q.le qm1 Q.zero = true)
    (self : List (List Char × Q)) (offers : List (List Char)) (r : List Char)
    (h : Gen.PyFns_Accept.lang_best_match langNeg acceptNeg qm1 sm1 self offers none = .ok (some r)) :
    ∀ ci q, bestSingle langNeg self r = some (ci, q) → Q.le q Q.zero = false := by
  rw [lang_best_match_eq qm1 sm1 hm] at h
  have h' : langBestMatch self offers = some r := by
    cases hb : langBestMatch self offers with
    | none => rw [hb] at h; simp at h
    | some x => rw [hb] at h; simpa using h
  exact Wz.Props.C17.lang_zero_never_chosen self offers r h'

example : Gen.PyFns_Accept.best_match acceptNeg Q.zero [] (mk acceptNeg [("b".toList, ⟨5, 1⟩), ("a".toList, Q.one)])
    ["b".toList, "a".toList] none = some "a".toList := by
  -- a literal's `toList` is rewritten to the list of its characters: evaluating it decodes the bytes
  repeat rewrite [String.toList_ofList]
  decide +kernel
example : (Gen.PyFns_Accept.lang_best_match langNeg acceptNeg Q.zero [] (mk langNeg [("en-US".toList, ⟨5, 1⟩)])
    ["en".toList] none).toOption = some (some "en".toList) := by
  repeat rewrite [String.toList_ofList]
  decide +kernel

end Wz.Props.C17T
