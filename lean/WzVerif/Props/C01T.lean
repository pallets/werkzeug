/-
C01T — `MultipartDecoder.last_newline` *as regenerated from the source* by `tools/py2lean.py`
(`Gen/PyFns_Multipart.lean`, rewritten on every check run) is equal, for every buffer, to the
hand-written recursive model `lastNewline` of `Model/Multipart.lean` on which the hold-back and
chunk-independence theorems of C01 rest (the function repaired by 566b885).
Property theorems only (helper lemmas live in Lemmas/PyFns_Multipart.lean).
-/
import WzVerif.Gen.PyFns_Multipart
import WzVerif.Lemmas.PyFns_Multipart
namespace Wz.Props.C01T
open Wz Wz.Pre Wz.Multipart Wz.PyFnsMultipart

/-- `last_newline(data)`, as translated from the current source (`max` of the two `rfind`s, the
`-1` case returning `len(data)`, the look-back slice `data[last - 1 : last + 1] == b"\r\n"`),
returns exactly the model's `lastNewline data` - the start of the last line break with CRLF counted
as one, or the length when there is none - for every byte string. -/
theorem last_newline_eq (data : Bytes) :
    Gen.PyFns_Multipart.last_newline data = (lastNewline data : Int) := by
  rw [← lastNewlineOf_eq data]
  rfl

/-- hence the regenerated function always answers with a position inside the buffer -/
theorem last_newline_range (data : Bytes) :
    0 ≤ Gen.PyFns_Multipart.last_newline data ∧
      Gen.PyFns_Multipart.last_newline data ≤ (data.length : Int) := by
  rw [last_newline_eq]
  exact ⟨Int.natCast_nonneg _, Int.ofNat_le.mpr (lastNewline_le data)⟩

example : Gen.PyFns_Multipart.last_newline [97, 13, 10, 98, 13] = 4 := by decide
example : Gen.PyFns_Multipart.last_newline [97, 13, 10] = 1 := by decide

end Wz.Props.C01T
