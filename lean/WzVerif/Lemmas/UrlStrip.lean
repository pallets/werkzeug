/-
`rstrip("/")` and `lstrip("/")` on URL text (C15): what they leave, when they do nothing, and that
`rstrip("/")` commutes with `quote` whenever `/` is in the safe set - `quote` writes a `/` only by copying one; `Request.path`
is `lstrip("/")` of the decoded PATH_INFO behind one `/` (`requestPath_encodingDance`).
-/
import WzVerif.Lemmas.UrlSpells
import WzVerif.Model.UrlEnviron
namespace Wz.Url
open Wz

theorem rstripSlash_prefix (s : Str) : rstripSlash s <+: s := by
  unfold rstripSlash
  have := List.dropWhile_suffix (fun c => c == '/') (l := s.reverse)
  rw [← List.reverse_prefix] at this
  simpa using this

theorem rstripSlash_noop {s : Str} (h : ∀ c, s.getLast? = some c → c ≠ '/') : rstripSlash s = s :=
  rstripBy_noop (p := (· == '/')) fun c hc => beq_eq_false_iff_ne.mpr (h c hc)

theorem rstripSlash_noslash {a : Str} (h : '/' ∉ a) : rstripSlash a = a :=
  rstripSlash_noop fun _ hc e => h (e ▸ List.mem_of_getLast? hc)

theorem rstripSlash_idem (s : Str) : rstripSlash (rstripSlash s) = rstripSlash s := by
  refine rstripSlash_noop fun c hc => ?_
  have := List.head?_dropWhile_not (fun c => c == '/') s.reverse
  rw [rstripSlash, List.getLast?_reverse] at hc
  rw [hc] at this
  simpa using this

theorem rstripSlash_append (a b : Str) :
    rstripSlash (a ++ b) = if rstripSlash b = [] then rstripSlash a else a ++ rstripSlash b := by
  unfold rstripSlash
  rw [List.reverse_append, List.dropWhile_append]
  by_cases h : (List.dropWhile (fun x => x == '/') b.reverse).isEmpty = true
  · have : List.dropWhile (fun x => x == '/') b.reverse = [] := List.isEmpty_iff.mp h
    simp [this]
  · have hne : List.dropWhile (fun x => x == '/') b.reverse ≠ [] := fun e => h (by simp [e])
    simp [h, hne]

theorem rstripSlash_slash (s : Str) : rstripSlash (rstripSlash s ++ ['/']) = rstripSlash s := by
  rw [rstripSlash_append, if_pos (show rstripSlash ['/'] = [] by decide), rstripSlash_idem]

theorem rstripSlash_form {root : Str} (h : root = [] ∨ root.head? = some '/') :
    rstripSlash root = [] ∨ (rstripSlash root).head? = some '/' := by
  cases hr : rstripSlash root with
  | nil => exact Or.inl rfl
  | cons x xs =>
    right
    obtain ⟨w, hw⟩ := hr ▸ rstripSlash_prefix root
    rcases h with h | h
    · rw [h] at hw; cases hw
    · rw [← hw] at h; simpa using h

theorem lstripSlash_of_head {q : Str} (h : q.head? ≠ some '/') : lstripSlash q = q :=
  dropWhile_head_false fun _ hc => beq_eq_false_iff_ne.mpr fun e => h (e ▸ hc)

theorem lstripSlash_cons (p : Str) : lstripSlash ('/' :: lstripSlash p) = lstripSlash p := by
  show lstripSlash (lstripSlash p) = lstripSlash p
  refine lstripSlash_of_head fun h => ?_
  have := List.head?_dropWhile_not (fun c => c == '/') p
  rw [show List.dropWhile (fun c => c == '/') p = lstripSlash p from rfl, h] at this
  simp at this

theorem requestPath_encodingDance (p : Str) : requestPath (encodingDance p) = some ('/' :: lstripSlash p) := by
  rw [requestPath, dance_roundtrip']; rfl

theorem mem_quote_plain {safe s : Str} {d : Char} (hp : d ≠ '%') (hh : hexVal? d = none) (h : d ∈ quote safe s) :
    d ∈ s := by
  obtain ⟨b, hb, hq⟩ := List.mem_flatMap.mp h
  obtain ⟨c, hc, hbc⟩ := List.mem_flatMap.mp hb
  unfold quoteByte at hq
  split at hq
  · rename_i hs
    simp only [List.mem_singleton] at hq
    rwa [hq, (Utf8Facts.mem_utf8EncodeChar_ascii c b (isSafe_lt hs)).mp hbc]
  · rcases mem_pct_hex hq with e | ⟨v, e⟩
    · exact absurd e hp
    · rw [hh] at e; cases e

theorem rstripSlash_quote {safe : Str} (hs : Fixed safe '/') : ∀ (s : Str),
    rstripSlash (quote safe s) = quote safe (rstripSlash s)
  | [] => rfl
  | c :: t => by
    have ih := rstripSlash_quote hs t
    have e1 : quote safe (c :: t) = quote safe [c] ++ quote safe t := by rw [← quote_append]; rfl
    have e2 : rstripSlash (c :: t) = if rstripSlash t = [] then rstripSlash [c] else [c] ++ rstripSlash t :=
      rstripSlash_append [c] t
    rw [e1, rstripSlash_append, ih, e2]
    by_cases ht : rstripSlash t = []
    · rw [if_pos ht, if_pos (by rw [ht]; rfl)]
      by_cases hc : c = '/'
      · subst hc
        rw [quote_of_fixed ['/'] (by intro x hx; simp at hx; subst hx; exact hs)]
        rfl
      · rw [rstripSlash_noslash fun hm => hc (List.mem_singleton.mp (mem_quote_plain (by decide) (by decide) hm)).symm,
          rstripSlash_noslash (by simpa using fun e => hc e.symm)]
    · rw [if_neg ht, if_neg (fun e => quote_ne ht e), quote_append]

end Wz.Url
