/-
The body-parsing attributes of `Request` (C07: `form`, `files`, `values`, `data`, `get_data()`, `json`, `get_json(silent=True)`,
`stream`): the first access returns a value or raises an HTTP exception. The argument follows the glue of
`Model/RequestBody.lean` with `RaisesOnly`: the urlencoded reader raises only 413; boundary encoding and strict body decoding
raise `ValueError`s, which the `except ValueError` of `FormDataParser.parse` (`tryExcept`) swallows together with those of the
multipart parser; `get_json` turns `ValueError` into 400. The subclass facts (`isValueError`, `isHttpExc`) are read off the live
exception table by one evaluation. `mpModel_raises` discharges the hypothesis on the multipart parser for C01/C02/C10's model,
whose exception set is `Multipart.Raisable` (Lemmas/MultipartSafe.lean).
-/
import WzVerif.Model.RequestBody
import WzVerif.Lemmas.RequestAttrs
import WzVerif.Lemmas.MultipartSafe
namespace Wz.Req
open Wz Wz.Http

/-- the exception is one of werkzeug's HTTP exceptions (live subclass table) -/
abbrev Http (e : String) : Prop := isHttpExc e = true

theorem parseCaught_eq : Gen.RequestGlue.parseCaught = ["ValueError"] := rfl
theorem jsonCaught_eq : Gen.RequestGlue.jsonCaught = ["ValueError"] := rfl

/-- the subclass facts the argument (and `C07.exception_vocabulary`) rests on: one evaluation of the live table -/
theorem excTable :
    ["ValueError", "UnicodeDecodeError", "UnicodeEncodeError", "json.JSONDecodeError", "binascii.Error"].all isValueError = true ∧
    ["LookupError", "RecursionError", "KeyError", "IndexError", "TypeError", "AttributeError"].all (!isValueError ·) = true ∧
    ["RequestEntityTooLarge", "ClientDisconnected", "BadRequest", "UnsupportedMediaType", "SecurityError"].all isHttpExc = true ∧
    ["ValueError", "LookupError"].all (!isHttpExc ·) = true := by
  decide +kernel

theorem http_retl : Http "RequestEntityTooLarge" := List.all_eq_true.mp excTable.2.2.1 _ (by simp)
theorem http_disc : Http "ClientDisconnected" := List.all_eq_true.mp excTable.2.2.1 _ (by simp)
theorem http_badRequest : Http "BadRequest" := List.all_eq_true.mp excTable.2.2.1 _ (by simp)
theorem http_unsupported : Http "UnsupportedMediaType" := List.all_eq_true.mp excTable.2.2.1 _ (by simp)
theorem valueError_unicodeDecode : isValueError "UnicodeDecodeError" = true := List.all_eq_true.mp excTable.1 _ (by simp)
theorem valueError_unicodeEncode : isValueError "UnicodeEncodeError" = true := List.all_eq_true.mp excTable.1 _ (by simp)
theorem valueError_self : isValueError "ValueError" = true := List.all_eq_true.mp excTable.1 _ (by simp)

theorem caught_of_valueError (e : String) (h : isValueError e = true) : caughtBy ["ValueError"] e = true := by
  simp [caughtBy, h]

theorem tryExcept_raisesOnly {α : Type} {P : String → Prop} (cls : List String) (body : Except String α) (dflt : α)
    (h : RaisesOnly (fun e => caughtBy cls e = true ∨ P e) body) : RaisesOnly P (tryExcept cls body dflt) := by
  cases body with
  | ok a => exact raisesOnly_ok a
  | error e =>
    unfold tryExcept
    by_cases hc : caughtBy cls e = true
    · simp only [hc, if_true]; exact raisesOnly_ok _
    · simp only [hc]; exact raisesOnly_error ((h e rfl).resolve_left hc)

theorem tryExcept_safe {α : Type} (cls : List String) (body : Except String α) (dflt : α)
    (h : RaisesOnly (caughtBy cls · = true) body) : Safe (tryExcept cls body dflt) := by
  cases body with
  | ok a => exact ⟨a, rfl⟩
  | error e => exact ⟨dflt, by simp [tryExcept, h e rfl]⟩

theorem tryExcept_valueError {α : Type} {P : String → Prop} (body : Except String α) (dflt : α)
    (h : RaisesOnly (fun e => isValueError e = true ∨ P e) body) : RaisesOnly P (tryExcept ["ValueError"] body dflt) :=
  tryExcept_raisesOnly _ _ _ (raisesOnly_mono h fun e he => he.imp (caught_of_valueError e) id)

theorem boundedLoop_error (fuel remaining : Nat) (sched : List Nat) (body held : Bytes) (e : String)
    (h : (Wz.Urlencode.boundedLoop fuel remaining sched body held).1 = .error e) : e = "RequestEntityTooLarge" := by
  induction fuel generalizing remaining sched body held with
  | zero => simp [Wz.Urlencode.boundedLoop] at h; exact h.symm
  | succ n ih =>
    unfold Wz.Urlencode.boundedLoop at h
    split at h
    · simp at h; exact h.symm
    · simp only at h
      split at h
      · simp at h
      · exact ih _ _ _ _ h

theorem urlencodedRead_error (m cl : Option Nat) (sched : List Nat) (body : Bytes) (e : String)
    (h : (Wz.Urlencode.urlencodedRead m cl sched body).1 = .error e) : e = "RequestEntityTooLarge" := by
  unfold Wz.Urlencode.urlencodedRead at h
  cases m with
  | none => simp at h
  | some m =>
    simp only at h
    split at h
    · simp at h; exact h.symm
    · exact boundedLoop_error _ _ _ _ _ e h

/-- the hypothesis on the multipart parser (C01/C02/C10): nothing but ValueError (and subclasses)
or an HTTP exception (413, client disconnect) leaves `MultiPartParser.parse` -/
def MultipartRaisesOnly (bx : BodyExt) : Prop :=
  ∀ b cfg w, RaisesOnly (fun e => isValueError e = true ∨ Http e) (bx.mp b cfg w)

/-- the same with a larger set `P ⊇ Http` of exceptions that may pass (used to carry a model-only
error value of the multipart model through the glue) -/
def MultipartRaisesOnlyP (P : String → Prop) (bx : BodyExt) : Prop :=
  ∀ b cfg w, RaisesOnly (fun e => isValueError e = true ∨ P e) (bx.mp b cfg w)

/-- the hypothesis on `json.loads`: ValueError (JSONDecodeError, UnicodeDecodeError) only -/
def JsonRaisesOnly (bx : BodyExt) : Prop := ∀ bs, RaisesOnly (fun e => isValueError e = true) (bx.jl bs)

theorem parseUrlencodedBody_raises (cfg : BodyCfg) (cl : Option Nat) (w : Wire) :
    RaisesOnly (fun e => isValueError e = true ∨ Http e) (parseUrlencodedBody cfg cl w) := by
  intro e h
  unfold parseUrlencodedBody at h
  split at h
  · next e' he =>
    cases h
    right
    rw [urlencodedRead_error _ _ _ _ _ he]; exact http_retl
  · split at h
    · cases h; right; exact http_disc
    · split at h
      · cases h; left; exact valueError_unicodeDecode
      · cases h

theorem asciiEnc_raises (s : Str) : RaisesOnly (fun e => isValueError e = true) (asciiEnc s) := by
  intro e h
  unfold asciiEnc at h
  split at h
  · cases h
  · cases h; exact valueError_unicodeEncode

theorem parseMultipart_raises (P : String → Prop) (bx : BodyExt) (hmp : MultipartRaisesOnlyP P bx) (cfg : BodyCfg)
    (options : Dict Str) (w : Wire) :
    RaisesOnly (fun e => isValueError e = true ∨ P e) (parseMultipart bx cfg options w) := by
  unfold parseMultipart
  refine raisesOnly_bind (raisesOnly_mono (asciiEnc_raises _) fun _ => Or.inl) (fun b => ?_)
  split
  · exact raisesOnly_error (Or.inl valueError_self)
  · exact hmp b cfg w

theorem formDataParse_raises (P : String → Prop) (hP : ∀ e, Http e → P e) (bx : BodyExt) (hmp : MultipartRaisesOnlyP P bx)
    (cfg : BodyCfg) (mt : Str) (cl : Option Nat) (options : Dict Str) (w : Wire) :
    RaisesOnly P (formDataParse bx cfg mt cl options w) := by
  unfold formDataParse
  rw [parseCaught_eq]
  split
  · exact tryExcept_valueError _ _ (parseMultipart_raises P bx hmp cfg options w)
  · split
    · exact tryExcept_valueError _ _ (raisesOnly_mono (parseUrlencodedBody_raises cfg cl w) fun e he => he.imp id (hP e))
    · exact raisesOnly_ok _

theorem streamOutcome_raises (cfg : BodyCfg) (e : Env) : RaisesOnly Http (streamOutcome cfg e) := by
  unfold streamOutcome
  refine raisesOnly_bind (raisesOnly_of_safe (getContentLength_safe _ _)) (fun cl => ?_)
  split
  · split
    · exact raisesOnly_error http_retl
    · exact raisesOnly_ok _
  · exact raisesOnly_ok _

theorem loadFormData_raises (P : String → Prop) (hP : ∀ e, Http e → P e) (bx : BodyExt) (hmp : MultipartRaisesOnlyP P bx)
    (cfg : BodyCfg) (e : Env) (w : Wire) : RaisesOnly P (loadFormData bx cfg e w) := by
  unfold loadFormData
  refine raisesOnly_bind (raisesOnly_mono (streamOutcome_raises cfg e) hP) (fun _ => ?_)
  split
  · refine raisesOnly_bind (raisesOnly_of_safe (mimetype_safe e)) (fun mt => ?_)
    refine raisesOnly_bind (raisesOnly_of_safe (getContentLength_safe _ _)) (fun cl => ?_)
    refine raisesOnly_bind (raisesOnly_of_safe (mimetypeParams_safe e)) (fun ps => ?_)
    exact formDataParse_raises P hP bx hmp cfg mt _ ps w
  · exact raisesOnly_ok _

theorem readAll_raises (w : Wire) : RaisesOnly Http (readAll w) := by
  unfold readAll
  split
  · exact raisesOnly_error http_disc
  · exact raisesOnly_ok _

theorem getData_raises (cfg : BodyCfg) (e : Env) (w : Wire) : RaisesOnly Http (getData cfg e w) := by
  unfold getData
  exact raisesOnly_bind (streamOutcome_raises cfg e) (fun _ => readAll_raises w)

theorem bodyOutcome_raisesP (P : String → Prop) (hP : ∀ e, Http e → P e) (bx : BodyExt) (hmp : MultipartRaisesOnlyP P bx) (hjl : JsonRaisesOnly bx) (cfg : BodyCfg)
    (e : Env) (method : Str) (w : Wire) (a : BodyAttr) (hq : Latin1 e.queryString = true) :
    RaisesOnly P (bodyOutcome bx cfg e method w a) := by
  cases a with
  | form => exact raisesOnly_map _ (loadFormData_raises P hP bx hmp cfg e w)
  | files => exact raisesOnly_map _ (loadFormData_raises P hP bx hmp cfg e w)
  | values =>
    simp only [bodyOutcome]
    refine raisesOnly_bind (raisesOnly_of_safe (args_safe e hq)) (fun _ => ?_)
    split
    · refine raisesOnly_bind (loadFormData_raises P hP bx hmp cfg e w) (fun _ => ?_)
      exact raisesOnly_ok _
    · exact raisesOnly_ok _
  | data =>
    simp only [bodyOutcome]
    refine raisesOnly_bind (loadFormData_raises P hP bx hmp cfg e w) (fun _ => ?_)
    split
    · exact raisesOnly_error (hP _ http_disc)
    · exact raisesOnly_ok _
  | getData => exact raisesOnly_map _ (raisesOnly_mono (getData_raises cfg e w) hP)
  | json =>
    simp only [bodyOutcome]
    refine raisesOnly_bind (raisesOnly_of_safe (isJson_safe e)) (fun j => ?_)
    cases j with
    | false => exact raisesOnly_error (hP _ http_unsupported)
    | true =>
      simp only [Bool.not_true, Bool.false_eq_true, if_false]
      refine raisesOnly_bind (raisesOnly_mono (getData_raises cfg e w) hP) (fun data => ?_)
      rw [jsonCaught_eq]
      cases hj : bx.jl data with
      | ok u => exact raisesOnly_ok _
      | error x =>
        have hv := hjl data x hj
        simp only [caught_of_valueError x hv, if_true]
        exact raisesOnly_error (hP _ http_badRequest)
  | getJsonSilent =>
    simp only [bodyOutcome]
    refine raisesOnly_bind (raisesOnly_of_safe (isJson_safe e)) (fun j => ?_)
    cases j with
    | false => exact raisesOnly_ok _
    | true =>
      simp only [Bool.not_true, Bool.false_eq_true, if_false]
      refine raisesOnly_bind (raisesOnly_mono (getData_raises cfg e w) hP) (fun data => ?_)
      rw [jsonCaught_eq]
      exact tryExcept_valueError _ _ (raisesOnly_mono (hjl data) (fun e h => Or.inl h))
  | stream => exact raisesOnly_mono (streamOutcome_raises cfg e) hP
  | wantFormDataParsed => exact raisesOnly_ok _

theorem bodyOutcome_raises (bx : BodyExt) (hmp : MultipartRaisesOnly bx) (hjl : JsonRaisesOnly bx) (cfg : BodyCfg)
    (e : Env) (method : Str) (w : Wire) (a : BodyAttr) (hq : Latin1 e.queryString = true) :
    RaisesOnly Http (bodyOutcome bx cfg e method w a) :=
  bodyOutcome_raisesP Http (fun _ h => h) bx hmp hjl cfg e method w a hq

/-- an HTTP exception, or the model-only value `UNMODELLED` (the multipart model met an RFC 2231 `name*=` part
parameter, which its option-header model does not interpret) -/
def HttpOrUnmodelled (e : String) : Prop := Http e ∨ e = "UNMODELLED"

/-- what the multipart model can raise (`Multipart.Raisable`: ValueError, UnicodeDecodeError, 413, `UNMODELLED`) is a
ValueError, an HTTP exception or the model-only value -/
theorem raisable_ok {e : String} (h : Wz.Multipart.Raisable e) : isValueError e = true ∨ HttpOrUnmodelled e := by
  rcases h with rfl | rfl | rfl | rfl
  · exact Or.inl valueError_self
  · exact Or.inl valueError_unicodeDecode
  · exact Or.inr (Or.inl http_retl)
  · exact Or.inr (Or.inr rfl)

/-- the hypothesis on the multipart parser holds of C01/C02/C10's model (`formParse_raises`, `formLoop_raises` from a
fresh decoder) up to its model-only value -/
theorem mpModel_raises (jl : Bytes → Except String Unit) : MultipartRaisesOnlyP HttpOrUnmodelled ⟨mpModel, jl⟩ := by
  intro b cfg w e he
  simp only at he
  unfold mpModel at he
  simp only at he
  split at he
  · split at he
    · next e' hl =>
      cases he
      exact raisable_ok (Wz.Multipart.formLoop_raises _ _ _ _ (Wz.Multipart.ds_mkDecoder _ _ _)
        (by intro ho; simp [Wz.Multipart.openS, Wz.Multipart.mkDecoder] at ho) hl)
    · cases he; right; left; exact http_disc
  · split at he
    · next e' hl =>
      cases he
      exact raisable_ok (Wz.Multipart.formParse_raises hl)
    · cases he

end Wz.Req
