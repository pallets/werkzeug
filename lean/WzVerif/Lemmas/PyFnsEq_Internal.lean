/-
The translated `werkzeug._internal._plain_int` (Gen/PyFns_Internal.lean: `strip`, `_plain_int_re.fullmatch`, `int`) is the
prelude's `plainInt`: `int()` is only ever reached with a text of the form `-?[0-9]+`. The translated `parse_range_header`,
`parse_content_range_header` and `get_content_length` call `_plain_int`, so Props/C11T, Props/C06T and Props/C09T each cite
this one equality. What `plainInt` returns on a given text is in Lemmas/PyFns_Prelude.lean (`plainInt_neg`, `plainInt_pos`,
`plainInt_error`).
-/
import WzVerif.Gen.PyFns_Internal
namespace Wz.Pre

theorem plain_int_eq (v : Str) : Gen.PyFns_Internal.plain_int v = plainInt v := by
  unfold Gen.PyFns_Internal.plain_int plainInt plainIntReFullmatch pyIntPlain strip
  cases h : isPlainIntText (Py.strip v) <;> simp [h]

end Wz.Pre
