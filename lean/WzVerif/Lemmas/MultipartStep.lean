/-
`MultipartDecoder.receive_data` and `next_event` state by state (C01, C02, C10): the equations that compute
one call in a given state, and their converse — `Step`, the transition table of `next_event`, one row per
state and outcome, with `step_spec : Step d (step d)`. Whoever knows how a call ended (`Step.of_ok`,
`Step.of_error`) gets the row it came from by `cases`; whoever knows the state computes the call by the
equation of that state. The lemma files above reason about `step`, `stepData` and `nextEvent` through these
(only the comparison with the translated methods unfolds the model itself: Props/C01T2 with its PREAMBLE case in
Lemmas/PyFnsEq_Decoder.lean for `next_event`, Props/C10T for `receive_data`). First the
header block: `parseHeaders` as a fold of `hdrStep` and its one exception.
-/
import WzVerif.Lemmas.Multipart
/- The fold is stated in the namespace of the comparison with the translated `_parse_headers` (Props/C01T2), whose
statements are written with `hdrStep`; nothing here is translated code. -/
namespace Wz.PyFnsEq.Decoder
open Wz Wz.Multipart

/-- the per-line step of the model's `parseHeaders` fold (`acc` = the outcome for the lines after
this one) -/
def hdrStep (ln : Bytes) (acc : Except String Headers) : Except String Headers :=
  match utf8Dec? ln, acc with
  | none, _ => .error "UnicodeDecodeError"
  | _, .error e => .error e
  | some s, .ok hs =>
    let (n, v) := partitionColon s
    .ok ((Py.strip n, Py.strip v) :: hs)

theorem parseHeaders_unfold (data : Bytes) :
    parseHeaders data =
      (((splitLines (foldContinuations data)).map stripBytes).filter (!·.isEmpty)).foldr hdrStep (.ok []) :=
  rfl

theorem hdrStep_none {ln : Bytes} (acc : Except String Headers) (h : utf8Dec? ln = none) :
    hdrStep ln acc = .error "UnicodeDecodeError" := by
  unfold hdrStep; rw [h]

theorem hdrStep_error {ln : Bytes} {s : Str} (e : String) (h : utf8Dec? ln = some s) :
    hdrStep ln (.error e) = .error e := by
  unfold hdrStep; rw [h]

theorem hdrStep_ok {ln : Bytes} {s : Str} (hs : Headers) (h : utf8Dec? ln = some s) :
    hdrStep ln (.ok hs) =
      .ok ((Py.strip (partitionColon s).1, Py.strip (partitionColon s).2) :: hs) := by
  unfold hdrStep; rw [h]

/-- the only error of the model's header fold is `UnicodeDecodeError`: it does not matter which of
several undecodable lines is blamed (the Python loop stops at the first, the right fold reports the
last one it meets) -/
theorem hdrFold_error (L : List Bytes) (e : String) (h : L.foldr hdrStep (.ok []) = .error e) :
    e = "UnicodeDecodeError" := by
  induction L with
  | nil => simp at h
  | cons ln t ih =>
    simp only [List.foldr_cons] at h
    cases hd : utf8Dec? ln with
    | none => rw [hdrStep_none _ hd] at h; cases h; rfl
    | some s =>
      cases ht : t.foldr hdrStep (.ok []) with
      | error e' => rw [ht, hdrStep_error _ hd] at h; cases h; exact ih ht
      | ok hs => rw [ht, hdrStep_ok _ hd] at h; cases h

end Wz.PyFnsEq.Decoder

namespace Wz.Multipart
open Wz

theorem parseHeaders_error {data : Bytes} {e : String} (h : parseHeaders data = .error e) :
    e = "UnicodeDecodeError" := by
  rw [PyFnsEq.Decoder.parseHeaders_unfold] at h
  exact PyFnsEq.Decoder.hdrFold_error _ e h

/-- the exception of the three limits (HTTP 413), where a statement compares a run under limits with one without -/
def R413 : String := "RequestEntityTooLarge"

def isPart : Event → Bool
  | .field _ _ => true
  | .file _ _ _ => true
  | _ => false

/-- fields of the decoder that no operation changes -/
structure SameConfig (d d' : Decoder) : Prop where
  boundary : d'.boundary = d.boundary
  maxMem : d'.maxMem = d.maxMem
  maxParts : d'.maxParts = d.maxParts

theorem SameConfig.trans {a b c : Decoder} (h : SameConfig a b) (h' : SameConfig b c) : SameConfig a c :=
  ⟨h'.boundary.trans h.boundary, h'.maxMem.trans h.maxMem, h'.maxParts.trans h.maxParts⟩

/-- what a `receive_data` that returned has changed: the buffer and `complete`, nothing else (`frame`) -/
structure ReceiveOk (d : Decoder) (c : Option Bytes) (d' : Decoder) : Prop where
  config : SameConfig d d'
  state : d'.state = d.state
  partsDecoded : d'.partsDecoded = d.partsDecoded
  buffer : d'.buffer = d.buffer ++ c.getD []
  buffer_le : ∀ m x, d.maxMem = some m → c = some x → d'.buffer.length ≤ m
  frame : d' = { d with complete := d'.complete, buffer := d'.buffer }

theorem receive_ok {d d' : Decoder} {c : Option Bytes} (h : receive d c = .ok d') : ReceiveOk d c d' := by
  rcases d with ⟨bnd, buf, st, cpl, sp, pd, mm, mp⟩
  cases c with
  | none =>
    cases h
    exact ⟨⟨rfl, rfl, rfl⟩, rfl, rfl, (List.append_nil _).symm, fun _ _ _ hx => (by cases hx), rfl⟩
  | some c =>
    cases mm with
    | none => cases h; exact ⟨⟨rfl, rfl, rfl⟩, rfl, rfl, rfl, fun _ _ hm _ => (by cases hm), rfl⟩
    | some m =>
      simp only [receive] at h
      split at h
      · cases h
      · rename_i hle
        cases h
        exact ⟨⟨rfl, rfl, rfl⟩, rfl, rfl, rfl,
          fun _ _ hm _ => (by cases hm; rw [List.length_append]; exact Nat.not_lt.1 hle), rfl⟩

theorem receive_error {d : Decoder} {c : Option Bytes} {e : String} (h : receive d c = .error e) : e = R413 := by
  cases c with
  | none => cases h
  | some c =>
    simp only [receive] at h
    split at h
    · split at h
      · cases h; rfl
      · cases h
    · cases h

theorem receive_none (d : Decoder) : receive d none = .ok { d with complete := true } := rfl

theorem receive_some_of_fits {d : Decoder} {c : Bytes}
    (h : ∀ m, d.maxMem = some m → d.buffer.length + c.length ≤ m) :
    receive d (some c) = .ok { d with buffer := d.buffer ++ c } := by
  simp only [receive]
  split
  · exact if_neg (Nat.not_lt.2 (h _ ‹_›))
  · rfl

theorem receive_some_too_large {d : Decoder} {c : Bytes} {m : Nat} (hm : d.maxMem = some m)
    (h : m < d.buffer.length + c.length) : receive d (some c) = .error R413 := by
  simp only [receive]
  rw [hm]
  exact if_pos h

/-- the PART branch of `next_event` once BLANK_LINE_RE has matched: from the header block to the
Field / File event (or the exception) -/
def headEvent (H : Bytes) : Except String Event :=
  match parseHeaders H with
  | .error err => .error err
  | .ok headers =>
    match headerGet "content-disposition".toList headers with
    | none => .error "ValueError"
    | some cd =>
      match FormOptions.parseOptionsHeader cd with
      | .error err => .error err
      | .ok (_, extra) =>
        .ok (match FormOptions.lookup "filename".toList extra with
             | some fn => .file (FormOptions.lookup "name".toList extra) fn headers
             | none => .field (FormOptions.lookup "name".toList extra) headers)

/-- how the PART branch ends on the header block `H`, one row per outcome -/
inductive HeadEvent (H : Bytes) : Except String Event → Prop
  | hdrBad {err} (h : parseHeaders H = .error err) : HeadEvent H (.error err)
  | noDisposition {hs} (h : parseHeaders H = .ok hs)
      (hcd : headerGet "content-disposition".toList hs = none) : HeadEvent H (.error "ValueError")
  | optBad {hs cd err} (h : parseHeaders H = .ok hs)
      (hcd : headerGet "content-disposition".toList hs = some cd)
      (ho : FormOptions.parseOptionsHeader cd = .error err) : HeadEvent H (.error err)
  | ok {hs cd v extra} (h : parseHeaders H = .ok hs)
      (hcd : headerGet "content-disposition".toList hs = some cd)
      (ho : FormOptions.parseOptionsHeader cd = .ok (v, extra)) :
      HeadEvent H (.ok (match FormOptions.lookup "filename".toList extra with
        | some fn => .file (FormOptions.lookup "name".toList extra) fn hs
        | none => .field (FormOptions.lookup "name".toList extra) hs))

theorem headEvent_spec (H : Bytes) : HeadEvent H (headEvent H) := by
  unfold headEvent
  split
  · exact .hdrBad ‹_›
  · split
    · exact .noDisposition ‹_› ‹_›
    · split
      · exact .optBad ‹_› ‹_› ‹_›
      · exact .ok ‹_› ‹_› ‹_›

theorem headEvent_of_parse {H : Bytes} {hs : Headers} {cd v : Str} {extra : List (Str × Str)}
    (h : parseHeaders H = .ok hs) (hcd : headerGet "content-disposition".toList hs = some cd)
    (ho : FormOptions.parseOptionsHeader cd = .ok (v, extra)) :
    headEvent H = .ok (match FormOptions.lookup "filename".toList extra with
      | some fn => .file (FormOptions.lookup "name".toList extra) fn hs
      | none => .field (FormOptions.lookup "name".toList extra) hs) := by
  simp only [headEvent, h, hcd, ho]

theorem headEvent_congr {H H' : Bytes} (h : parseHeaders H = parseHeaders H') : headEvent H = headEvent H' := by
  unfold headEvent; rw [h]

theorem headEvent_isPart {hd : Bytes} {ev : Event} (h : headEvent hd = .ok ev) : isPart ev = true := by
  have hs := headEvent_spec hd
  rw [h] at hs
  cases hs
  split <;> rfl

theorem nextEvent_of_error {d : Decoder} {e : String} (h : step d = .error e) : nextEvent d = .error e := by
  unfold nextEvent; rw [h]

/-- the final check of `next_event`: NEED_DATA after `receive_data(None)` is a ValueError -/
theorem nextEvent_of_ok {d d' : Decoder} {ev : Event} (h : step d = .ok (ev, d')) :
    nextEvent d = if (d.complete && ev == .needData) = true then .error "ValueError" else .ok (ev, d') := by
  unfold nextEvent; rw [h]

/-- the same two equations as one `bind` -/
theorem nextEvent_bind (d : Decoder) : nextEvent d = (step d).bind fun p =>
    if (d.complete && p.1 == .needData) = true then .error "ValueError" else .ok p := by
  cases h : step d with
  | error e => exact nextEvent_of_error h
  | ok p => exact nextEvent_of_ok h

theorem nextEvent_eq_step {d : Decoder} (hc : d.complete = false) : nextEvent d = step d := by
  cases h : step d with
  | error e => exact nextEvent_of_error h
  | ok v => rw [nextEvent_of_ok h, hc]; rfl

theorem nextEvent_of_step {d d' : Decoder} {ev : Event} (hc : d.complete = false)
    (h : step d = .ok (ev, d')) : nextEvent d = .ok (ev, d') :=
  (nextEvent_eq_step hc).trans h

theorem nextEvent_ok {d d' : Decoder} {ev : Event} (h : nextEvent d = .ok (ev, d')) :
    step d = .ok (ev, d') := by
  cases hs : step d with
  | error e => rw [nextEvent_of_error hs] at h; cases h
  | ok v =>
    rw [nextEvent_of_ok hs] at h
    split at h <;> cases h
    rfl

theorem nextEvent_error {d : Decoder} {e : String} (h : nextEvent d = .error e) :
    step d = .error e ∨ e = "ValueError" := by
  cases hs : step d with
  | error e' => rw [nextEvent_of_error hs] at h; exact Or.inl h
  | ok v =>
    rw [nextEvent_of_ok hs] at h
    split at h <;> cases h
    exact Or.inr rfl

theorem step_of_preamble {d : Decoder} (hst : d.state = .preamble) :
    step d =
      match searchDelimFrom d.boundary true d.searchPos d.buffer with
      | some (s, e, f) =>
        .ok (.preamble (d.buffer.take s),
          { d with buffer := d.buffer.drop e, state := afterDelim f, searchPos := 0 })
      | none => .ok (.needData, { d with searchPos := nextSearchPos d.boundary d.buffer d.searchPos }) := by
  cases d; simp only at hst; subst hst; rfl

theorem step_part_eq {d : Decoder} (hst : d.state = .part) : step d =
    match searchBlankFrom d.searchPos d.buffer with
    | none => .ok (.needData, { d with searchPos := d.buffer.length - searchExtra })
    | some (s, e) =>
      match headEvent (d.buffer.take s) with
      | .error err => .error err
      | .ok ev =>
        match d.maxParts with
        | some m =>
          if d.partsDecoded + 1 > m then .error R413
          else .ok (ev, { d with buffer := d.buffer.drop ((s + e) / 2), state := .dataStart, searchPos := 0,
                                 partsDecoded := d.partsDecoded + 1 })
        | none => .ok (ev, { d with buffer := d.buffer.drop ((s + e) / 2), state := .dataStart, searchPos := 0,
                                    partsDecoded := d.partsDecoded + 1 }) := by
  rcases d with ⟨bnd, buf, st, cpl, sp, pd, mm, mp⟩
  cases hst
  simp only [step, headEvent]
  cases searchBlankFrom sp buf with
  | none => rfl
  | some r =>
    simp only
    cases parseHeaders (buf.take r.1) with
    | error er => rfl
    | ok headers =>
      simp only
      cases headerGet "content-disposition".toList headers with
      | none => rfl
      | some cd =>
        simp only
        cases FormOptions.parseOptionsHeader cd with
        | error er => rfl
        | ok r => cases mp <;> rfl

theorem step_part_of_headEvent {d : Decoder} {s e : Nat} {ev : Event} (hst : d.state = .part)
    (hmp : d.maxParts = none) (hsb : searchBlankFrom d.searchPos d.buffer = some (s, e))
    (hev : headEvent (d.buffer.take s) = .ok ev) :
    step d = .ok (ev, { d with buffer := d.buffer.drop ((s + e) / 2), state := .dataStart, searchPos := 0,
                               partsDecoded := d.partsDecoded + 1 }) := by
  rw [step_part_eq hst, hsb]
  simp only [hev, hmp]

theorem step_of_data {d : Decoder} {start : Bool} (hst : d.state = if start then .dataStart else .data) :
    step d = stepData d start := by
  cases start <;> simp [step, hst]

theorem step_of_epilogue {d : Decoder} (hst : d.state = .epilogue) :
    step d = if d.complete then .ok (.epilogue d.buffer, { d with buffer := [], state := .complete })
      else .ok (.needData, d) := by
  simp only [step, hst]

theorem step_of_complete {d : Decoder} (hst : d.state = .complete) : step d = .ok (.needData, d) := by
  simp only [step, hst]

theorem stepData_of_error {d : Decoder} {start : Bool} {e : String}
    (h : dataStep d.boundary start d.buffer = .error e) : stepData d start = .error e := by
  simp only [stepData, h]

/-- `next_event` in DATA_START / DATA, from the outcome of its `_parse_data` call (`generalizing := false`: the match
would otherwise abstract `h`, which mentions `nx`, and differ from the model's term) -/
theorem stepData_of {d : Decoder} {start start' : Bool} {p buf' : Bytes} {nx : Option Bool}
    (h : dataStep d.boundary start d.buffer = .ok (p, buf', start', nx)) :
    stepData d start =
      .ok (if start' = true then .needData
           else if (start || !p.isEmpty || nx.isSome) = true then .data p nx.isNone else .needData,
        { d with buffer := buf', state := match (generalizing := false) nx with
                                           | some f => afterDelim f
                                           | none => if start' then .dataStart else .data }) := by
  simp only [stepData, h]
  split
  · rfl
  · split <;> rfl

/-- `next_event` in DATA_START / DATA when the buffer holds a delimiter -/
theorem stepData_decided {d : Decoder} {s e : Nat} {f : Bool} (start : Bool)
    (hl : start = true → 0 < lbLen d.buffer) (h : searchDelim d.boundary false d.buffer = some (s, e, f)) :
    stepData d start = .ok (.data ((d.buffer.take s).drop (skipLb start d.buffer)) false,
      { d with buffer := d.buffer.drop e, state := afterDelim f }) := by
  rw [stepData_of (dataStep_decided start hl h)]
  simp

/-- `next_event` in DATA_START / DATA when `_parse_data` holds back from `k` on: DATA_START waits
while `k = 0`; otherwise the first `k` bytes are released (DATA says NEED_DATA when that is nothing) -/
theorem stepData_held {d : Decoder} {k : Nat} (start : Bool) (hl : start = true → 0 < lbLen d.buffer)
    (hk : dataCut d.boundary d.buffer = (k, k, none)) :
    stepData d start =
      if start = true ∧ k = 0 then .ok (.needData, { d with state := .dataStart })
      else if start = true ∨ (d.buffer.take k).isEmpty = false then
        .ok (.data ((d.buffer.take k).drop (skipLb start d.buffer)) true,
          { d with buffer := d.buffer.drop k, state := .data })
      else .ok (.needData, { d with buffer := d.buffer.drop k, state := .data }) := by
  have hds := dataStep_held start hl hk
  by_cases h0 : start = true ∧ k = 0
  · rw [if_pos h0] at hds
    rw [stepData_of hds, if_pos h0]; rfl
  · rw [if_neg h0] at hds
    rw [stepData_of hds, if_neg h0]
    cases start with
    | true => simp
    | false => simp; split <;> rfl

/-- the transition table of `MultipartDecoder.next_event` (before its final `complete` check): one
constructor per state and outcome; `start` distinguishes DATA_START from DATA -/
inductive Step (d : Decoder) : Except String (Event × Decoder) → Prop
  | preWait : d.state = .preamble → searchDelimFrom d.boundary true d.searchPos d.buffer = none →
      Step d (.ok (.needData, { d with searchPos := nextSearchPos d.boundary d.buffer d.searchPos }))
  | preFound {s e : Nat} {f : Bool} : d.state = .preamble →
      searchDelimFrom d.boundary true d.searchPos d.buffer = some (s, e, f) →
      Step d (.ok (.preamble (d.buffer.take s),
        { d with buffer := d.buffer.drop e, state := afterDelim f, searchPos := 0 }))
  | partWait : d.state = .part → searchBlankFrom d.searchPos d.buffer = none →
      Step d (.ok (.needData, { d with searchPos := d.buffer.length - searchExtra }))
  | partBad {s e : Nat} {err : String} : d.state = .part → searchBlankFrom d.searchPos d.buffer = some (s, e) →
      headEvent (d.buffer.take s) = .error err → Step d (.error err)
  | partFull {s e m : Nat} {ev : Event} : d.state = .part → searchBlankFrom d.searchPos d.buffer = some (s, e) →
      headEvent (d.buffer.take s) = .ok ev → d.maxParts = some m → m < d.partsDecoded + 1 → Step d (.error R413)
  | partHead {s e : Nat} {ev : Event} : d.state = .part → searchBlankFrom d.searchPos d.buffer = some (s, e) →
      headEvent (d.buffer.take s) = .ok ev → (∀ m, d.maxParts = some m → d.partsDecoded + 1 ≤ m) →
      Step d (.ok (ev, { d with buffer := d.buffer.drop ((s + e) / 2), state := .dataStart, searchPos := 0,
                                partsDecoded := d.partsDecoded + 1 }))
  | dataBad : d.state = .dataStart → lbLen d.buffer = 0 → Step d (.error "AttributeError")
  /-- nothing to release: in either state the decoder stays as it is -/
  | dataWait {start : Bool} {k : Nat} : d.state = (if start then .dataStart else .data) →
      (start = true → 0 < lbLen d.buffer) → dataCut d.boundary d.buffer = (k, k, none) → d.buffer.take k = [] →
      Step d (.ok (.needData, d))
  | dataMore {start : Bool} {k : Nat} : d.state = (if start then .dataStart else .data) →
      (start = true → 0 < lbLen d.buffer) → dataCut d.boundary d.buffer = (k, k, none) → d.buffer.take k ≠ [] →
      Step d (.ok (.data ((d.buffer.take k).drop (skipLb start d.buffer)) true,
        { d with buffer := d.buffer.drop k, state := .data }))
  | dataLast {start : Bool} {s e : Nat} {f : Bool} : d.state = (if start then .dataStart else .data) →
      (start = true → 0 < lbLen d.buffer) → searchDelim d.boundary false d.buffer = some (s, e, f) →
      Step d (.ok (.data ((d.buffer.take s).drop (skipLb start d.buffer)) false,
        { d with buffer := d.buffer.drop e, state := afterDelim f }))
  | epiWait : d.state = .epilogue → d.complete = false → Step d (.ok (.needData, d))
  | epiDone : d.state = .epilogue → d.complete = true →
      Step d (.ok (.epilogue d.buffer, { d with buffer := [], state := .complete }))
  | done : d.state = .complete → Step d (.ok (.needData, d))

theorem Decoder.with_self {d : Decoder} {b : Bytes} {st : State} (hb : b = d.buffer) (hs : d.state = st) :
    ({ d with buffer := b, state := st } : Decoder) = d := by subst hb hs; rfl

theorem stepData_spec {d : Decoder} {start : Bool} (hst : d.state = if start then .dataStart else .data) :
    Step d (stepData d start) := by
  by_cases hl : start = true → 0 < lbLen d.buffer
  · cases hs : searchDelim d.boundary false d.buffer with
    | some v =>
      obtain ⟨s, e, f⟩ := v
      rw [stepData_decided start hl hs]
      exact .dataLast hst hl hs
    | none =>
      obtain ⟨k, hk, _, _⟩ := dataCut_none hs
      rw [stepData_held start hl hk]
      by_cases ht : d.buffer.take k = []
      · -- an empty release drops nothing
        have hd : d.buffer.drop k = d.buffer := by
          have := List.take_append_drop k d.buffer
          rwa [ht, List.nil_append] at this
        cases start with
        | true =>
          have hk0 : k = 0 := by
            rcases List.take_eq_nil_iff.1 ht with h0 | h0
            · exact h0
            · have := hl rfl; rw [h0] at this; simp [lbLen] at this
          rw [if_pos ⟨rfl, hk0⟩, Decoder.with_self rfl (show d.state = .dataStart from hst)]
          exact .dataWait hst hl hk ht
        | false =>
          rw [if_neg (by simp), if_neg (by simp [ht]), Decoder.with_self hd (show d.state = .data from hst)]
          exact .dataWait hst hl hk ht
      · have hk0 : k ≠ 0 := fun h => ht (by rw [h]; rfl)
        rw [if_neg (fun h => hk0 h.2), if_pos (by cases start <;> simp [ht])]
        exact .dataMore hst hl hk ht
  · have hs : start = true := by cases start <;> simp_all
    subst hs
    have h0 : lbLen d.buffer = 0 := by simpa using hl
    rw [stepData_of_error (e := "AttributeError") (by simp [dataStep, parseData, h0])]
    exact .dataBad hst h0

theorem step_spec (d : Decoder) : Step d (step d) := by
  cases hst : d.state with
  | preamble =>
    rw [step_of_preamble hst]
    cases hq : searchDelimFrom d.boundary true d.searchPos d.buffer with
    | none => exact .preWait hst hq
    | some v => obtain ⟨s, e, f⟩ := v; exact .preFound hst hq
  | part =>
    obtain ⟨bnd, buf, st, cpl, sp, pd, mm, mp⟩ := d
    rw [step_part_eq hst]
    simp only
    cases hq : searchBlankFrom sp buf with
    | none => exact .partWait hst hq
    | some v =>
      obtain ⟨s, e⟩ := v
      simp only
      cases hev : headEvent (buf.take s) with
      | error err => exact .partBad hst hq hev
      | ok ev =>
        cases mp with
        | none => exact .partHead hst hq hev (fun m h => by cases h)
        | some m =>
          simp only
          split
          · rename_i h; exact .partFull hst hq hev rfl h
          · rename_i h; exact .partHead hst hq hev (fun m' h' => by cases h'; exact Nat.not_lt.1 h)
  | dataStart => rw [step_of_data (start := true) hst]; exact stepData_spec hst
  | data => rw [step_of_data (start := false) hst]; exact stepData_spec hst
  | epilogue =>
    rw [step_of_epilogue hst]
    by_cases hc : d.complete = true
    · rw [if_pos hc]; exact .epiDone hst hc
    · rw [if_neg hc]; exact .epiWait hst (Bool.not_eq_true _ ▸ hc)
  | complete => rw [step_of_complete hst]; exact .done hst

theorem Step.of_ok {d d' : Decoder} {ev : Event} (h : step d = .ok (ev, d')) : Step d (.ok (ev, d')) :=
  h ▸ step_spec d

theorem Step.of_error {d : Decoder} {e : String} (h : step d = .error e) : Step d (.error e) :=
  h ▸ step_spec d

/-- what a call that returned has changed -/
structure StepOk (d : Decoder) (ev : Event) (d' : Decoder) : Prop where
  config : SameConfig d d'
  buffer_le : d'.buffer.length ≤ d.buffer.length
  parts : d'.partsDecoded = d.partsDecoded + (if isPart ev then 1 else 0)
  /-- a Field / File event is delivered only within `max_parts` -/
  parts_le : ∀ m, d.maxParts = some m → isPart ev = true → d'.partsDecoded ≤ m
  complete : d'.complete = d.complete
  part_state : isPart ev = true → d.state = .part

theorem step_ok {d d' : Decoder} {ev : Event} (h : step d = .ok (ev, d')) : StepOk d ev d' := by
  cases Step.of_ok h with
  | partHead hst _ hev hm =>
    have hp := headEvent_isPart hev
    exact ⟨⟨rfl, rfl, rfl⟩, by simp, by simp [hp], fun m hm' _ => hm m hm', rfl, fun _ => hst⟩
  | _ => exact ⟨⟨rfl, rfl, rfl⟩, by simp, rfl, fun _ _ h => (by cases h), rfl, fun h => (by cases h)⟩

/-- every event other than NEED_DATA / Epilogue consumes at least one buffered byte -/
theorem nextEvent_consumes {d d' : Decoder} {ev : Event} (h : nextEvent d = .ok (ev, d'))
    (hne : ev ≠ .needData) (hep : ∀ x, ev ≠ .epilogue x) : d'.buffer.length < d.buffer.length := by
  have take_pos : ∀ {k : Nat}, d.buffer.take k ≠ [] → 0 < k ∧ 0 < d.buffer.length := fun {k} ht =>
    ⟨Nat.pos_of_ne_zero fun h0 => ht (by rw [h0]; rfl),
      List.length_pos_iff.2 fun h0 => ht (by rw [h0]; simp)⟩
  cases Step.of_ok (nextEvent_ok h) with
  | preWait | partWait | dataWait | epiWait | done => exact absurd rfl hne
  | epiDone => exact absurd rfl (hep _)
  | preFound _ hq =>
    rw [searchDelimFrom_eq_shift] at hq
    obtain ⟨s2, e2, hq2, rfl, rfl⟩ := shift_eq_some hq
    have := searchDelim_bounds hq2
    simp only [List.length_drop] at this ⊢; omega
  | partHead _ hq => have := searchBlankFrom_bounds hq; simp only [List.length_drop]; omega
  | dataMore _ _ _ ht => have := take_pos ht; simp only [List.length_drop]; omega
  | dataLast _ _ hs => have := searchDelim_bounds hs; simp only [List.length_drop]; omega

theorem feed_of_error {d : Decoder} {c : Option Bytes} {e : String} (h : receive d c = .error e) :
    feed d c = { err := some e, dec := d } := by
  unfold feed; rw [h]

theorem feed_of_ok {d d' : Decoder} {c : Option Bytes} (h : receive d c = .ok d') :
    feed d c = drain (drainFuel d') d' [] := by
  unfold feed; rw [h]

theorem drain_succ (fuel : Nat) (d : Decoder) (acc : List Event) :
    drain (fuel + 1) d acc =
      match nextEvent d with
      | .error e => { events := acc.reverse, err := some e, dec := d }
      | .ok (.needData, d') => { events := acc.reverse, dec := d' }
      | .ok (.epilogue x, d') => { events := (Event.epilogue x :: acc).reverse, dec := d' }
      | .ok (ev, d') => drain fuel d' (ev :: acc) := by
  rfl

theorem drain_step {d d' : Decoder} {ev : Event} (fuel : Nat) (acc : List Event)
    (h : nextEvent d = .ok (ev, d')) (hne : ev ≠ .needData) (hep : ∀ x, ev ≠ .epilogue x) :
    drain (fuel + 1) d acc = drain fuel d' (ev :: acc) := by
  rw [drain_succ, h]
  cases ev with
  | needData => exact absurd rfl hne
  | epilogue x => exact absurd rfl (hep x)
  | _ => rfl

end Wz.Multipart
