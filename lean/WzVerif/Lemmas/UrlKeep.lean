/-
The four keep-quoted tables of `uri_to_iri` (`Gen.UrlTables.keepPath` / `keepQuery` / `keepFragment` /
`keepUser`, evaluated from the live compiled patterns) are each characterised once, by one pass over the
table (`KeepsExactly`): the bytes kept are `_always_unsafe` plus the component's own delimiters. From
the characterisation alone: what the fixpoint argument needs of a table (`KeepOK`), that every byte
of `_always_unsafe` is kept, and which characters stay quoted (`KeptChar`): TAB / CR / LF and the delimiters.
-/
import WzVerif.Lemmas.UrlSpells
import WzVerif.Lemmas.TableSweep
import WzVerif.Model.UrlSplit
namespace Wz.Url
open Wz Gen.UrlTables

theorem mem_alwaysUnsafe (n : Nat) : n ∈ alwaysUnsafe ↔ n ≤ 0x20 ∨ n = 0x25 ∨ n = 0x7f := by
  have : alwaysUnsafe = List.range 33 ++ [0x25, 0x7f] := rfl
  rw [this, List.mem_append, List.mem_range]
  simp only [List.mem_cons, List.not_mem_nil, or_false]
  omega

theorem contains_alwaysUnsafe (n : Nat) :
    alwaysUnsafe.contains n = (decide (n ≤ 0x20) || n == 0x25 || n == 0x7f) := by
  rw [Bool.eq_iff_iff, List.contains_iff_mem, mem_alwaysUnsafe]
  simp [or_assoc]

/-- `t` is the table `_make_unquote_part(name, _always_unsafe + extra)` compiles to: byte `n` stays quoted
exactly when it is in `_always_unsafe` or is one of the ASCII characters `extra` -/
def KeepsExactly (t : List Bool) (extra : List Char) : Prop :=
  ∀ n, n < 256 → tbl t n = (alwaysUnsafe.contains n || (n < 128 && extra.contains (Char.ofNat n)))

/-- The pass tests `_always_unsafe` by its closed form (`contains_alwaysUnsafe`): `List.contains` over the
35 literals, in every row, would be most of the work. -/
theorem keepsExactly_of_sweep {t : List Bool} {extra : List Char}
    (h : (t.length == 256 && t.zipIdx.all fun r => r.1 == (decide (r.2 ≤ 0x20) || r.2 == 0x25 || r.2 == 0x7f ||
      (decide (r.2 < 128) && extra.contains (Char.ofNat r.2)))) = true) :
    KeepsExactly t extra := by
  intro n hn
  rw [contains_alwaysUnsafe]
  exact getD_eq_of_sweep (p := fun n => decide (n ≤ 0x20) || n == 0x25 || n == 0x7f ||
    (decide (n < 128) && extra.contains (Char.ofNat n))) h hn

theorem KeepsExactly.unsafe_kept {t : List Bool} {extra : List Char} (h : KeepsExactly t extra) {n : Nat}
    (hn : n ∈ alwaysUnsafe) : tbl t n = true := by
  rw [h n (by have := (mem_alwaysUnsafe n).mp hn; omega), List.contains_iff_mem.mpr hn, Bool.true_or]

/-- `%` is in `_always_unsafe`, and nothing at or above 0x80 is either there or an ASCII delimiter -/
theorem KeepsExactly.keepOK {t : List Bool} {extra : List Char} (h : KeepsExactly t extra) : KeepOK t := by
  refine ⟨h.unsafe_kept ((mem_alwaysUnsafe _).mpr (Or.inr (Or.inl rfl))), fun n hl hn => ?_⟩
  have hc : alwaysUnsafe.contains n = false :=
    Bool.eq_false_iff.mpr fun hm => by have := (mem_alwaysUnsafe n).mp (List.contains_iff_mem.mp hm); omega
  rw [h n hn, hc, decide_eq_false (by omega)]
  rfl

theorem KeepsExactly.kept_tab {t : List Bool} {extra : List Char} (h : KeepsExactly t extra) {c : Char}
    (hc : isTabCrLf c = true) : KeptChar t c := by
  simp only [isTabCrLf, Bool.or_eq_true, beq_iff_eq] at hc
  rcases hc with (rfl | rfl) | rfl <;> exact ⟨by decide, h.unsafe_kept ((mem_alwaysUnsafe _).mpr (Or.inl (by decide))), by decide, by decide⟩

theorem KeepsExactly.keptChar {t : List Bool} {extra : List Char} (h : KeepsExactly t extra) {c : Char}
    (hc : c ∈ extra) (hl : c.toNat < 128 ∧ hexVal? c = none ∧ c ≠ '%') : KeptChar t c :=
  ⟨hl.1, by rw [h _ (by omega)]; simp [hl.1, hc], hl.2.1, hl.2.2⟩

theorem KeepsExactly.kept_of_not {t : List Bool} {extra : List Char} (h : KeepsExactly t extra)
    (hl : ∀ c ∈ extra, c.toNat < 128 ∧ hexVal? c = none ∧ c ≠ '%') {P : Char → Prop}
    (hP : ∀ c, ¬ P c → isTabCrLf c = true ∨ c ∈ extra) (c : Char) (hc : ¬ P c) : KeptChar t c :=
  (hP c hc).elim h.kept_tab fun hm => h.keptChar hm (hl c hm)

theorem keepFragment_exactly : KeepsExactly keepFragment [] :=
  keepsExactly_of_sweep (by decide +kernel)

theorem keepQuery_exactly : KeepsExactly keepQuery "&=+#".toList := by
  rw [String.toList_ofList]
  exact keepsExactly_of_sweep (by decide +kernel)

theorem keepPath_exactly : KeepsExactly keepPath "/?#".toList := by
  rw [String.toList_ofList]
  exact keepsExactly_of_sweep (by decide +kernel)

theorem keepUser_exactly : KeepsExactly keepUser ":@/?#[]".toList := by
  rw [String.toList_ofList]
  exact keepsExactly_of_sweep (by decide +kernel)

end Wz.Url
