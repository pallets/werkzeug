/-
Routing lemmas (C04, C12): what `quote` emits byte by byte, `unquote ∘ quote = id` (as `Closed`: a quoted
piece decodes to its text whatever follows it).
-/
import WzVerif.Model.RoutingRoundtrip
import WzVerif.Util.Py
import WzVerif.Lemmas.Utf8Facts
import WzVerif.Lemmas.RoutingText
namespace Wz.Routing

/-- characters `quote(_, safe=pathSafe)` can emit -/
def pathChar (c : Char) : Bool :=
  c.toNat < 128 && 32 < c.toNat && c != '?' && c != '#' && c != '\\' && c != '"' && c != '<' && c != '>'

theorem quoteByte_cases (safe : List Nat) (b : UInt8) :
    (b.toNat ∈ Gen.Routing.alwaysSafe ++ safe ∧ quoteByte safe b = [Char.ofNat b.toNat]) ∨
    quoteByte safe b = ['%', hexUpper (b.toNat / 16), hexUpper (b.toNat % 16)] := by
  unfold quoteByte
  split
  · rename_i h
    simp only [Bool.or_eq_true, Bool.and_eq_true, List.contains_eq_mem, decide_eq_true_eq] at h
    exact .inl ⟨List.mem_append.2 (h.imp id And.right), rfl⟩
  · exact .inr rfl

theorem kept_pathSafe {n : Nat} (h : n ∈ Gen.Routing.alwaysSafe ++ pathSafe.toList.map Char.toNat) :
    pathChar (Char.ofNat n) = true ∧ utf8Enc [Char.ofNat n] = [UInt8.ofNat n] ∧ n ≠ 37 := by
  have : (Gen.Routing.alwaysSafe ++ pathSafe.toList.map Char.toNat).all (fun n =>
      pathChar (Char.ofNat n) && utf8Enc [Char.ofNat n] == [UInt8.ofNat n] && n != 37) = true := by
    decide +kernel
  simpa [and_assoc] using List.all_eq_true.1 this n h

theorem hexUpper_nibble {n : Nat} (h : n < 16) :
    pathChar (hexUpper n) = true ∧ ∃ x, utf8Enc [hexUpper n] = [x] ∧ hexNibble? (Char.ofNat x.toNat) = some n := by
  have : (List.range 16).all (fun n => pathChar (hexUpper n) &&
      (utf8Enc [hexUpper n]).map (fun x => hexNibble? (Char.ofNat x.toNat)) == [some n]) = true := by
    decide +kernel
  have := List.all_eq_true.1 this n (List.mem_range.2 h)
  simp only [Bool.and_eq_true, beq_iff_eq, List.map_eq_cons_iff, List.map_eq_nil_iff] at this
  obtain ⟨h1, x, _, hx, hn, rfl⟩ := this
  exact ⟨h1, x, hx, hn⟩

theorem quote_pathSafe_chars (s : Str) : ∀ c ∈ quote pathSafe s, pathChar c = true := by
  intro c hc
  simp only [quote, List.mem_flatMap] at hc
  obtain ⟨b, _, hb⟩ := hc
  rcases quoteByte_cases _ b with ⟨hk, hq⟩ | hq <;> rw [hq] at hb
  · rw [List.mem_singleton.1 hb]; exact (kept_pathSafe hk).1
  · simp only [List.mem_cons, List.not_mem_nil, or_false] at hb
    rcases hb with rfl | rfl | rfl
    · decide
    · exact (hexUpper_nibble (Nat.div_lt_of_lt_mul b.toNat_lt)).1
    · exact (hexUpper_nibble (Nat.mod_lt _ (by decide))).1

theorem noCut_quote (s : Str) : noCut (quote pathSafe s) := by
  intro c hc
  have := quote_pathSafe_chars s c hc
  simp only [pathChar, Bool.and_eq_true, bne_iff_ne, ne_eq, decide_eq_true_eq] at this
  exact ⟨this.1.1.1.1.1.2, this.1.1.1.1.2⟩

theorem unquoteBytes_cons_ne {c : UInt8} (t : List UInt8) (h : c ≠ 37) : unquoteBytes (c :: t) = c :: unquoteBytes t := by
  rw [unquoteBytes.eq_def]
  split
  · rename_i heq
    injection heq with h1 _
    exact absurd h1 h
  · rename_i heq
    injection heq with h1 h2
    subst h1 h2; rfl
  · rename_i heq; cases heq

theorem unquoteBytes_escape {h l : UInt8} {x y : Nat} (t : List UInt8)
    (hx : hexNibble? (Char.ofNat h.toNat) = some x) (hy : hexNibble? (Char.ofNat l.toNat) = some y) :
    unquoteBytes (37 :: h :: l :: t) = UInt8.ofNat (16 * x + y) :: unquoteBytes t := by
  rw [unquoteBytes.eq_1, hx, hy]

theorem unquoteBytes_quoteByte (b : UInt8) (rest : List UInt8) :
    unquoteBytes (utf8Enc (quoteByte (pathSafe.toList.map Char.toNat) b) ++ rest) = b :: unquoteBytes rest := by
  rcases quoteByte_cases _ b with ⟨hk, hq⟩ | hq <;> rw [hq]
  · obtain ⟨_, he, hne⟩ := kept_pathSafe hk
    rw [he, UInt8.ofNat_toNat]
    exact unquoteBytes_cons_ne rest (fun h => hne (by rw [h]; rfl))
  · obtain ⟨_, x, hx, hxn⟩ := hexUpper_nibble (Nat.div_lt_of_lt_mul b.toNat_lt : b.toNat / 16 < 16)
    obtain ⟨_, y, hy, hyn⟩ := hexUpper_nibble (Nat.mod_lt b.toNat (by decide : 0 < 16))
    have e : utf8Enc ['%', hexUpper (b.toNat / 16), hexUpper (b.toNat % 16)] = [37, x, y] := by
      rw [show ['%', hexUpper (b.toNat / 16), hexUpper (b.toNat % 16)] =
        ['%'] ++ ([hexUpper (b.toNat / 16)] ++ [hexUpper (b.toNat % 16)]) from rfl, Utf8Facts.utf8Enc_append, Utf8Facts.utf8Enc_append, hx, hy]
      rfl
    rw [e, List.cons_append, List.cons_append, List.cons_append, List.nil_append, unquoteBytes_escape rest hxn hyn,
      Nat.div_add_mod, UInt8.ofNat_toNat]

/-- `u` decodes to `t` whatever follows it -/
def Closed (u t : Str) : Prop :=
  ∀ rest : List UInt8, unquoteBytes (utf8Enc u ++ rest) = utf8Enc t ++ unquoteBytes rest

theorem Closed.nil : Closed [] [] := by intro rest; simp [utf8Enc]

theorem Closed.append {u1 t1 u2 t2 : Str} (h1 : Closed u1 t1) (h2 : Closed u2 t2) : Closed (u1 ++ u2) (t1 ++ t2) := by
  intro rest
  rw [Utf8Facts.utf8Enc_append, List.append_assoc, h1, h2, Utf8Facts.utf8Enc_append, List.append_assoc]

theorem Closed.unquote {u t : Str} (h : Closed u t) : unquote u = t := by
  have := h []
  simp only [List.append_nil, unquoteBytes] at this
  simp only [Wz.Routing.unquote, this, Py.decodeReplace_utf8Enc]

theorem closed_quote (s : Str) : Closed (quote pathSafe s) s := by
  intro rest
  have := flatMap_decode (dec := unquoteBytes) (f := id) (l := utf8Enc s)
    (fun b _ r => unquoteBytes_quoteByte b r) rest
  simpa [quote, utf8Enc, List.flatMap_assoc] using this

theorem unquoteBytes_no37 (bs rest : List UInt8) (h : (37 : UInt8) ∉ bs) :
    unquoteBytes (bs ++ rest) = bs ++ unquoteBytes rest := by
  have := flatMap_decode (enc := fun b : UInt8 => [b]) (dec := unquoteBytes) (f := id) (l := bs)
    (fun b hb r => unquoteBytes_cons_ne r (fun e => h (e ▸ hb))) rest
  simpa using this

theorem closed_noPercent (s : Str) (h : '%' ∉ s) : Closed s s := by
  intro rest
  exact unquoteBytes_no37 _ _ fun hm => h ((Utf8Facts.mem_utf8Enc_ascii s 37 (by decide)).mp hm)

theorem unquote_quote_pathSafe (s : Str) : unquote (quote pathSafe s) = s := (closed_quote s).unquote

theorem unquote_noPercent (s : Str) (h : '%' ∉ s) : unquote s = s := (closed_noPercent s h).unquote

theorem utf8Enc_cons_slash (t : Str) : utf8Enc ('/' :: t) = 47 :: utf8Enc t := by
  have : utf8Enc ['/'] = [47] := by decide +kernel
  rw [show ('/' :: t) = ['/'] ++ t from rfl, Utf8Facts.utf8Enc_append, this]; rfl

theorem Closed.tail_slash {t text' : Str} (h : Closed ('/' :: t) ('/' :: text')) : Closed t text' := by
  intro rest
  have := h rest
  rw [utf8Enc_cons_slash, utf8Enc_cons_slash, List.cons_append, unquoteBytes_cons_ne _ (by decide), List.cons_append] at this
  injection this

end Wz.Routing
