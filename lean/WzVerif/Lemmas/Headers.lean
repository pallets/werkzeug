/-
What the single-key mutators of `Headers` leave. `headers[k] = v` / `set` is its documented meaning "replace the
first entry of the key, drop the others, append when there is none", as the closed form `specSet` with its two
equations; from there what `set`, `del` and `pop` leave under a header name - `getlist`, `get`, `in` - under the
name's own spelling, any other spelling, and any other name.
-/
import WzVerif.Model.Containers
namespace Wz.C08L
open Wz Hdr HS

theorem keyEq_self (k v : Str) : keyEq k (k, v) = true := by simp [keyEq]

theorem strHeaderValue_ok {v : Str} (h : hasNL v = false) : strHeaderValue v = .ok v := by
  simp [strHeaderValue, h]

/-- the documented meaning of `Headers.set`: "Remove all header tuples for `key` and add a new one.
The newly added key either appears at the end of the list if there was no entry or replaces the
first one." -/
def specSet (l : HList) (k v : Str) : HList :=
  if l.any (keyEq k) then
    l.takeWhile (fun p => !keyEq k p) ++ (k, v) ::
      ((l.dropWhile (fun p => !keyEq k p)).drop 1).filter (fun p => !keyEq k p)
  else l ++ [(k, v)]

theorem specSet_nil (k v : Str) : specSet [] k v = [(k, v)] := rfl

theorem specSet_cons (p : Pair) (t : HList) (k v : Str) :
    specSet (p :: t) k v = if keyEq k p then (k, v) :: t.filter (fun q => !keyEq k q) else p :: specSet t k v := by
  unfold specSet
  cases hp : keyEq k p <;> cases ht : t.any (keyEq k) <;>
    simp [hp, ht]

theorem specSet_absent {l : HList} {k : Str} (v : Str) (h : l.any (keyEq k) = false) : specSet l k v = l ++ [(k, v)] :=
  if_neg (by rw [h]; exact Bool.false_ne_true)

theorem setLoop_eq (k v : Str) (l : HList) :
    setLoop k v l = if l.any (keyEq k) then some (specSet l k v) else none := by
  induction l with
  | nil => rfl
  | cons p t ih =>
    rw [setLoop, ih, specSet_cons, List.any_cons]
    cases keyEq k p with
    | true => rfl
    | false => cases t.any (keyEq k) <;> rfl

theorem set_eq_spec (l : HList) (k v : Str) (hv : hasNL v = false) :
    Hdr.set l k v = (specSet l k v, .ok ()) := by
  unfold Hdr.set
  rw [strHeaderValue_ok hv]
  cases l with
  | nil => rfl
  | cons p t =>
    simp only [List.isEmpty_cons, Bool.false_eq_true, if_false, setLoop_eq]
    cases ha : (p :: t).any (keyEq k) with
    | true => rfl
    | false => rw [specSet_absent v ha]; rfl

theorem specSet_filter_self (l : HList) (k v : Str) : (specSet l k v).filter (keyEq k) = [(k, v)] := by
  induction l with
  | nil => simp [specSet_nil, keyEq_self]
  | cons p t ih =>
    rw [specSet_cons]
    cases hp : keyEq k p
    · simp [hp, ih]
    · simp [keyEq_self, List.filter_filter]

theorem specSet_filter_other (l : HList) (k v : Str) :
    (specSet l k v).filter (fun p => !keyEq k p) = l.filter (fun p => !keyEq k p) := by
  induction l with
  | nil => simp [specSet_nil, keyEq_self]
  | cons p t ih =>
    rw [specSet_cons]
    cases hp : keyEq k p
    · simp [hp, ih]
    · simp [keyEq_self, hp, List.filter_filter]

/-- the pair sits where the key first occurred, or at the end (`findIdx` of an absent key is the length) -/
theorem specSet_findIdx (l : HList) (k v : Str) :
    (specSet l k v).findIdx (keyEq k) = l.findIdx (keyEq k) ∧ (specSet l k v)[l.findIdx (keyEq k)]? = some (k, v) := by
  induction l with
  | nil => simp [specSet_nil, keyEq_self]
  | cons p t ih =>
    rw [specSet_cons]
    cases hp : keyEq k p
    · simp [List.findIdx_cons, hp, ih.1, ih.2]
    · simp [List.findIdx_cons, hp, keyEq_self]

theorem filter_notKey_all (k : Str) (l : HList) (h : ∀ p ∈ l, keyEq k p = false) :
    l.filter (fun p => !keyEq k p) = l := by
  rw [List.filter_eq_self]; intro p hp; simp [h p hp]

end Wz.C08L

namespace Wz.Hdr
open Wz Wz.C08L

theorem set_getlist (l : HList) (k v : Str) (hv : hasNL v = false) : getlist (Hdr.set l k v).1 k = [v] := by
  rw [set_eq_spec l k v hv, getlist, specSet_filter_self]; rfl

theorem set_filter_other (l : HList) (k v : Str) :
    (Hdr.set l k v).1.filter (fun p => !keyEq k p) = l.filter (fun p => !keyEq k p) := by
  cases hv : hasNL v with
  | true => simp [Hdr.set, strHeaderValue, hv]
  | false => rw [set_eq_spec l k v hv]; exact specSet_filter_other l k v

theorem filter_other_key (k k' : Str) (hne : lower k' ≠ lower k) (x : HList) :
    x.filter (keyEq k') = (x.filter (fun p => !keyEq k p)).filter (keyEq k') := by
  rw [List.filter_filter]
  apply List.filter_congr
  intro a _
  cases h1 : keyEq k' a with
  | false => simp
  | true =>
    have : keyEq k a = false := by
      simp only [keyEq, beq_iff_eq] at h1
      simp only [keyEq, beq_eq_false_iff_ne]
      intro e; exact hne (h1.symm.trans e)
    simp [this]

theorem set_getlist_ne (l : HList) (k k' v : Str) (hne : lower k' ≠ lower k) :
    getlist (Hdr.set l k v).1 k' = getlist l k' := by
  unfold getlist
  rw [filter_other_key k k' hne, set_filter_other, ← filter_other_key k k' hne]

theorem keyEq_congr {k k' : Str} (h : lower k = lower k') : keyEq k = keyEq k' := by
  funext p; simp [keyEq, h]

theorem getlist_congr (l : HList) {k k' : Str} (h : lower k = lower k') : getlist l k = getlist l k' := by
  simp [getlist, keyEq_congr h]

theorem set_getlist' (l : HList) (k k' v : Str) (hk : lower k = lower k') (hv : hasNL v = false) :
    getlist (Hdr.set l k' v).1 k = [v] := by
  rw [getlist_congr _ hk]; exact set_getlist l k' v hv

theorem delKey_getlist (l : HList) (k : Str) : getlist (delKey l k) k = [] := by
  simp only [getlist, delKey, List.filter_filter]
  simp

theorem delKey_getlist' (l : HList) (k k' : Str) (hk : lower k = lower k') : getlist (delKey l k') k = [] := by
  rw [getlist_congr _ hk]; exact delKey_getlist l k'

theorem contains_eq_any (l : HList) (k : Str) : Hdr.contains l k = l.any (keyEq k) := by
  rw [Hdr.contains, Bool.eq_iff_iff, List.find?_isSome, List.any_eq_true]

/-- `if name in headers: del headers[name]` (what a view writes back when it became empty) is `del`: removing an
absent name changes nothing -/
theorem ite_contains_delKey (l : HList) (k : Str) : (if Hdr.contains l k then delKey l k else l) = delKey l k := by
  split
  · rfl
  · rename_i h
    rw [contains_eq_any, Bool.not_eq_true, List.any_eq_false] at h
    exact (List.filter_eq_self.2 fun p hp => by rw [Bool.eq_false_iff.2 (h p hp)]; rfl).symm

theorem not_contains_getlist (l : HList) (k : Str) (h : Hdr.contains l k = false) : getlist l k = [] := by
  rw [contains_eq_any, List.any_eq_false] at h
  rw [getlist, List.filter_eq_nil_iff.2 h]; rfl

theorem ite_contains_delKey_getlist (l : HList) (k : Str) :
    getlist (if Hdr.contains l k then delKey l k else l) k = [] := by
  rw [ite_contains_delKey]; exact delKey_getlist l k

theorem getKey_eq_head (l : HList) (k : Str) :
    getKey l k = match (getlist l k).head? with
      | some v => .ok v
      | none => .error "BadRequestKeyError" := by
  simp only [getKey, getlist, List.head?_map, List.head?_filter]
  cases l.find? (keyEq k) <;> rfl

theorem set_getKey (l : HList) (k v : Str) (hv : hasNL v = false) : getKey (Hdr.set l k v).1 k = .ok v := by
  rw [getKey_eq_head, Hdr.set_getlist l k v hv]; rfl

theorem ite_contains_delKey_getKey (l : HList) (k : Str) :
    getKey (if Hdr.contains l k then delKey l k else l) k = .error "BadRequestKeyError" := by
  rw [getKey_eq_head, ite_contains_delKey_getlist]; rfl

theorem delKey_getKey (l : HList) (k : Str) : getKey (delKey l k) k = .error "BadRequestKeyError" := by
  rw [getKey_eq_head, delKey_getlist]; rfl

theorem contains_eq_getKey (l : HList) (k : Str) :
    Hdr.contains l k = match getKey l k with | .ok _ => true | .error _ => false := by
  simp only [Hdr.contains, getKey]
  cases l.find? (keyEq k) <;> rfl

theorem popKey_fst (l : HList) (k d : Str) : (popKey l k (some d)).1 = delKey l k := by
  rw [← ite_contains_delKey, contains_eq_getKey, popKey]
  cases getKey l k <;> rfl

theorem popKey_getlist (l : HList) (k k' d : Str) (hk : lower k = lower k') :
    getlist (popKey l k' (some d)).1 k = [] := by
  rw [popKey_fst]; exact delKey_getlist' l k k' hk

theorem popKey_getKey (l : HList) (k d : Str) : getKey (popKey l k (some d)).1 k = .error "BadRequestKeyError" := by
  rw [popKey_fst]; exact delKey_getKey l k

theorem getKey_congr (l : HList) {k k' : Str} (h : lower k = lower k') : getKey l k = getKey l k' := by
  simp [getKey, keyEq_congr h]

theorem set_getKey' (l : HList) (k k' v : Str) (hk : lower k = lower k') (hv : hasNL v = false) :
    getKey (Hdr.set l k' v).1 k = .ok v := by
  rw [getKey_congr _ hk]; exact set_getKey l k' v hv

theorem filter_getlist (l : HList) (p : Pair → Bool) (k : Str) (h : ∀ q ∈ l, keyEq k q = true → p q = true) :
    getlist (l.filter p) k = getlist l k := by
  unfold getlist
  rw [List.filter_filter]
  congr 1
  apply List.filter_congr
  intro q hq
  cases hk : keyEq k q with
  | false => simp
  | true => simp [h q hq hk]

theorem delKey_getlist_ne (l : HList) (k k' : Str) (hne : lower k' ≠ lower k) :
    getlist (delKey l k) k' = getlist l k' := by
  apply filter_getlist
  intro q _ hq
  simp only [keyEq, beq_iff_eq] at hq
  simp only [keyEq, Bool.not_eq_true', beq_eq_false_iff_ne]
  intro e; exact hne (e ▸ hq.symm ▸ rfl)

theorem getlist_ite_set_ne (c : Prop) [Decidable c] (h : HList) (k k' v : Str) (hne : lower k' ≠ lower k) :
    getlist (if c then h else (Hdr.set h k v).1) k' = getlist h k' := by
  split
  · rfl
  · exact set_getlist_ne _ _ _ _ hne

/-- "replace the entries of `k` by `v` when there are any": what is under `k` afterwards -/
theorem getlist_ite_set_self (h : HList) (k k' v : Str) (hk : lower k' = lower k) (hv : hasNL v = false) :
    getlist (if (getlist h k').isEmpty then h else (Hdr.set h k v).1) k' = if (getlist h k').isEmpty then [] else [v] := by
  cases he : (getlist h k').isEmpty with
  | true => exact List.isEmpty_iff.1 he
  | false => exact set_getlist' _ _ _ _ hk hv

end Wz.Hdr
