/-
C07 — no client-controlled header text can crash request parsing.
Property theorems only (vocabulary: Lemmas/HttpSafe.lean; each parser's `_returns` / `_safe` lemma stands in the lemma
file of its header).

The model (Model/Http.lean) is exception-aware: every Python operation that can raise (`s[0]`,
`s[-1]`, `int()`, `_plain_int`, `b64decode`, `.decode()`, tuple unpacking of `split`, the `Range`
constructor) is a primitive returning `Except String` and every `try/except` is a `catching` on the
listed classes. `Safe x` says that `x` returns a value: no exception of any class escapes — for
**every** input text (`∀ s : List Char`, no length bound). None of the modelled parsers raises an
HTTP exception either, so `Safe` is the whole claim. Termination is Lean's acceptance of the
definitions (structural recursion; the two `while` loops carry fuel, shown never to run out).

The second half is about `Request` (Model/RequestAttrs.lean, Model/RequestBody.lean): reading a lazily parsed attribute returns a
value (`host` with `trusted_hosts` may answer `SecurityError`); the first access to a body attribute returns a value or raises an
HTTP exception, under the hypotheses `MultipartRaisesOnly` / `JsonRaisesOnly` on the two parsers that are parameters - there `Safe`
is not the claim, `RaisesOnly` is. Then what ties the model to the live code: the glue rows, the exception table, the public
surface of `Request` and of the HTTP utility layer (every name covered or excluded by name), the cookie escape table, and the
regexes examined for backtracking. What stays open is at the end of the file.
-/
import WzVerif.Lemmas.HttpSafeAccept
import WzVerif.Lemmas.HttpEtagNF
import WzVerif.Lemmas.RequestAttrs
import WzVerif.Lemmas.RequestBody
import WzVerif.Gen.RequestSurface
import WzVerif.Gen.Regexes
import WzVerif.Gen.DateExc
import WzVerif.Lemmas.TableSweep
namespace Wz.Props.C07
open Wz Wz.Http

/-- no exception escapes -/
abbrev Safe {α : Type} (x : Except String α) : Prop := Wz.Http.Safe x

/-- `parse_dict_header(s)` returns a dict for every text `s`: `key[-1]` is evaluated only after the
`if not key: continue` guard, and (after the F07e repair) the key left by stripping a trailing `*`
is checked again before use. -/
theorem parseDict_total_safe (s : Str) : Safe (parseDictHeader s) := parseDictHeader_safe s

/-- regression F07e: the item `*=x` is skipped, not stored under an empty key -/
theorem parseDict_star_only_key : parseDictHeader ['*', '=', 'x'] = .ok [] := by decide

/-- `parse_cache_control_header(s)` returns a directive dict for every `s` ... -/
theorem parseCacheControl_total_safe (s : Str) : Safe (parseCacheControl s) := parseCacheControl_safe s

/-- ... and every typed accessor returns a value on every dict: the `int()` conversion is the only
partial operation and its ValueError is caught. -/
theorem cacheControl_get_total_safe (d : Dict (Option Str)) (key : Str) (empty : CCVal) (ty : CCType) :
    Safe (getCacheValue d key empty ty) := getCacheValue_safe d key empty ty

/-- `parse_options_header(s)` returns `(value, options)` for every text `s`. The content is the
invariant that makes the unguarded `pk[-1]`, `pv[0]`, `pv[-1]` safe: every part collected by the
scanner has a non-empty key and a non-empty value (a token of ≥ 1 character or a quoted string of
≥ 2), RFC 2231 percent-decoding never produces the empty string from a non-empty one, and a key that
is only `*` is dropped before its value is looked at (F07e repair). -/
theorem parseOptions_total_safe (s : Str) : Safe (parseOptionsHeader s) := parseOptionsHeader_safe s

/-- regression F07e: a parameter named only `*` is dropped -/
theorem parseOptions_star_only_key :
    parseOptionsHeader "text/html;*=x".toList = .ok ("text/html".toList, []) := by
  -- a literal's `toList` by the lemma, not by the kernel decoding the literal's bytes
  repeat rw [String.toList_ofList]
  decide +kernel

/-- the `while True` scanner terminates: each iteration that continues has consumed at least the `;`
it searched for, so `len(rest) + 1` iterations always suffice (more fuel changes nothing). -/
theorem parseOptions_scanner_terminates (f1 f2 : Nat) (rest : Str) (acc : List (Str × Str))
    (h1 : rest.length < f1) (h2 : rest.length < f2) : optScan f1 rest acc = optScan f2 rest acc :=
  optScan_fuel_irrelevant f1 f2 rest acc h1 h2

/-- the fuel hypothesis is satisfiable -/
example : "a=1; b=\"x;y\"; ;c".toList.length < 40 := by rw [String.toList_ofList]; decide

/-- regression F07g: a parameter named only by a continuation marker (`*0`) is dropped, as one named
only `*` is (F07e) -/
theorem parseOptions_continuation_only_key :
    parseOptionsHeader "text/html;*0=x".toList = .ok ("text/html".toList, [])
    ∧ parseAcceptHeader "text/html;*0=x".toList = .ok [("text/html".toList, "1".toList)] := by
  repeat rw [String.toList_ofList]
  decide +kernel

/-- consequently every parameter name `parse_options_header` returns is non-empty ... -/
theorem parseOptions_keys_nonempty (s v : Str) (opts : Dict Str) (h : parseOptionsHeader s = .ok (v, opts)) :
    ∀ x ∈ opts, x.1 ≠ [] := parseOptionsHeader_keys s v opts h

/-- ... and `parse_accept_header(s)` returns its list for **every** text `s`: the `q` value is
converted with `float` only after the regex matched, and `dump_options_header`'s `key[-1]` only
ever sees the non-empty names above. -/
theorem parseAccept_total_safe (s : Str) : Safe (parseAcceptHeader s) := parseAcceptHeader_safe s

/-- what reverting either repair exposes: the dumper does raise on an empty name -/
theorem dumpOptions_needs_nonempty_key :
    dumpOptionsHeader (some ['a']) [([], some ['x'])] = .error "IndexError" := by decide

example : parseAcceptHeader "text/html;level=1;q=0.5, */*;q=0.1, x;q=2".toList
    = .ok [("text/html; level=1".toList, "0.5".toList), ("*/*".toList, "0.1".toList)] := by
  repeat rw [String.toList_ofList]
  decide +kernel

/-- `parse_etags` is a total function of its text by construction; its `while pos < end` loop
terminates on every header text (no LF): each regex match ends strictly to the right of where it
started, so `len(value) + 1` iterations always suffice. -/
theorem parseEtags_terminates (f1 f2 : Nat) (s : Str) (st wk : List (Option Str))
    (hlf : '\n' ∉ s) (h1 : s.length < f1) (h2 : s.length < f2) :
    parseEtagsGo f1 s st wk = parseEtagsGo f2 s st wk :=
  parseEtagsGo_fuel_irrelevant f1 f2 s st wk hlf h1 h2

/-- the hypothesis is satisfiable: a header text without line feed -/
example : '\n' ∉ "W/\"a\", \"b\" ,,*".toList := by rw [String.toList_ofList]; decide

/-- `parse_range_header(s)` returns a `Range` or `None` for every `s`: every `_plain_int` sits in a
`try`, and the `Range` constructor's ValueError is unreachable because `0 <= last_end <= begin` and
`begin < end` were checked. -/
theorem parseRange_total_safe (s : Str) : Safe (parseRangeHeader s) := parseRangeHeader_safe s

/-- what the self-test mutates: without the `try` around `_plain_int` the ValueError escapes -/
theorem parseRange_needs_try : plainInt "x".toList = .error "ValueError" := by rw [String.toList_ofList]; decide

/-- `parse_content_range_header(s)`: the two-field unpacking and all three `_plain_int` calls are
inside `try ... except ValueError`. -/
theorem parseContentRange_total_safe (s : Str) : Safe (parseContentRangeHeader s) :=
  parseContentRangeHeader_safe s

/-- `parse_age(s)`: ValueError of `int()` and OverflowError of `timedelta` are caught. -/
theorem parseAge_total_safe (s : Str) : Safe (parseAge s) := parseAge_safe s

/-- `Authorization.from_header(s)` returns an object or `None` for every `s`: `b64decode` raises
`binascii.Error` (bad padding / length) or plain `ValueError` (non-ASCII text, caught since the F07a
repair) and `.decode()` raises `UnicodeDecodeError` — all in the `except` clause. -/
theorem authorization_total_safe (s : Str) : Safe (authorizationFromHeader s) :=
  (authorizationFromHeader_returns s).safe

/-- regression F07a: non-ASCII Basic credentials give `None` -/
theorem authorization_non_ascii_basic :
    authorizationFromHeader ("Basic ".toList ++ [Char.ofNat 0xff, Char.ofNat 0xfe]) = .ok none := by
  rw [String.toList_ofList]
  decide +kernel

/-- the primitive really raises plain ValueError there (what reverting the repair exposes) -/
theorem b64decode_non_ascii : b64Decode [Char.ofNat 0xff] = .error "ValueError" := by decide

theorem wwwAuthenticate_total_safe (s : Str) : Safe (wwwFromHeader s) := (wwwFromHeader_returns s).safe

/-- `_DictAccessorProperty.__get__` (behind `header_property` / `environ_property`) returns the
default or the loaded value whenever `load_func` raises nothing but ValueError / TypeError. -/
theorem headerProperty_total_safe {α : Type} (load : Str → Except String α) (dflt : α) (hdr : Option Str)
    (h : ∀ v, OnlyRaises ["ValueError", "TypeError"] (load v)) : Safe (headerProperty load dflt hdr) :=
  headerProperty_safe load dflt hdr h

/-- the hypothesis holds of the loader of `max_forwards` (`int`) -/
example : ∀ v, OnlyRaises ["ValueError", "TypeError"] ((pyInt v).map some) := fun v =>
  onlyRaises_mono (onlyRaises_map _ (pyInt_onlyRaises v)) (by intro e he; simp at he; subst he; simp)

/-- the hypothesis is needed: a loader that raises another class lets it through — which is exactly
how `Request.date` (loader `parse_date`, OverflowError, finding F07f) escapes the descriptor -/
theorem headerProperty_needs_caught_class :
    headerProperty (fun _ => (.error "OverflowError" : Except String Nat)) 0 (some []) = .error "OverflowError" := by
  decide

/-- a `header_property` / `environ_property` *without* load function (`content_type`, `referrer`,
`origin`, `content_md5`, `content_encoding`, `access_control_request_method`, `remote_user`, ...)
returns the raw text or the default: the kind `…:raw` of the generated surface table -/
theorem request_raw_property_total_safe (dflt : Str) (hdr : Option Str) :
    Safe (headerProperty (fun v => (.ok v : Except String Str)) dflt hdr) :=
  headerProperty_safe _ _ _ (fun v e he => by simp at he)

/-- `Request.max_forwards`, `Request.content_length` (`get_content_length`: `max(0, _plain_int(...))`
inside `try`), `Request.access_control_request_headers` return a value for every header text. -/
theorem request_scalar_attrs_total_safe (a b : Option Str) :
    Safe (requestMaxForwards a) ∧ Safe (getContentLength a b) ∧ Safe (requestAccessControlRequestHeaders a) :=
  ⟨requestMaxForwards_safe a, getContentLength_safe a b, requestAcrh_safe a⟩

/-- every character is a latin-1 code point (PEP 3333: what every environ string is) -/
abbrev Latin1 := Wz.Req.Latin1

/-- **`request_attr_total_safe`** — for every environ `e` (every header value an arbitrary text, the
query string latin-1 as WSGI guarantees), every configuration (`trusted_hosts`, server name/port,
scheme) and each of the 24 modelled attributes
`args, cookies, accept_mimetypes, accept_charsets, accept_encodings, accept_languages,
cache_control, if_match, if_none_match, if_modified_since, if_unmodified_since, if_range, date,
range, authorization, mimetype, mimetype_params, is_json, content_length, max_forwards,
access_control_request_headers, pragma, access_route, host`:
reading the attribute returns a value — or, for `host` with `trusted_hosts` set, raises
`SecurityError` (a `BadRequest`, i.e. an HTTPException). Nothing else can escape.
`parse_date`, the idna codec and `codecs.lookup` are parameters (any total functions). -/
theorem request_attr_total_safe (x : Wz.Req.Ext) (e : Wz.Req.Env) (a : Wz.Req.Attr)
    (h : Latin1 e.queryString = true) :
    Wz.Req.outcome x e a = .ok () ∨
      (a = .host ∧ e.trustedHosts.isSome = true ∧ Wz.Req.outcome x e a = .error "SecurityError") :=
  Wz.Req.outcome_spec x e a h

/-- the hypothesis is satisfiable: U+00FF and percent-escapes are latin-1 -/
example : Latin1 "a=\u00ff&b=%ff".toList = true := by rw [String.toList_ofList]; decide

/-- without `trusted_hosts` (the default) no modelled attribute raises at all -/
theorem request_attr_total_safe_default (x : Wz.Req.Ext) (e : Wz.Req.Env) (a : Wz.Req.Attr)
    (h : Latin1 e.queryString = true) (ht : e.trustedHosts = none) : Wz.Req.outcome x e a = .ok () := by
  rcases Wz.Req.outcome_spec x e a h with h1 | ⟨_, h2, _⟩
  · exact h1
  · rw [ht] at h2; simp at h2

/-- the `SecurityError` branch is real: an untrusted Host is refused with an HTTP exception -/
theorem request_host_untrusted :
    Wz.Req.host Wz.Dbg.asciiIdna { host := some "evil.example".toList, trustedHosts := some ["localhost".toList] }
      = .error "SecurityError" := by
  repeat rw [String.toList_ofList]
  decide +kernel

/-- the latin-1 hypothesis is what rules out `UnicodeEncodeError` from
`environ["QUERY_STRING"].encode("latin1")` (not client-reachable: servers hand over latin-1) -/
theorem request_args_needs_latin1 : Wz.Req.args { queryString := [Char.ofNat 0x100] } = .error "UnicodeEncodeError" := by
  decide

/-- what the application then does with an Accept object — membership, `quality`, `best_match` — is a
total function of the parsed list and the offers (Model/Accept.lean, C17); the only exception in that
layer, `MIMEAccept`'s ValueError for a malformed *offer*, is application-side and does not occur for
well-formed offers, whatever the client sent -/
theorem accept_use_never_raises_on_wellformed_offers (self : List (Wz.Accept.Str × Wz.Accept.Q)) (offer : Wz.Accept.Str)
    (h : Wz.Accept.mimeOfferInvalid offer = false) : Wz.Accept.mimeRaises self offer = false := by
  simp [Wz.Accept.mimeRaises, h]

/-- the hypothesis is satisfiable: a well-formed offer -/
example : Wz.Accept.mimeOfferInvalid "text/html".toList = false := by rw [String.toList_ofList]; decide

/-- The glue the body attributes run through is the one the model was written for (collected from the
AST of formparser.py / wrappers/request.py on every run): `FormDataParser.parse` dispatches on exactly
these two mimetypes and catches exactly `ValueError`; the only codec names that reach
`bytes.decode` / `str.encode` are literals, the defaults, or `get_part_charset`'s result; `parse_qsl`
gets no `encoding=`; `get_part_charset` returns `"utf-8"` or a member of its four-element safe list;
`get_json` catches exactly `ValueError`. A client-chosen codec name reaching `decode` — what makes
`LookupError` possible — changes one of these rows. -/
theorem request_glue_pinned :
    Gen.RequestGlue.parseMimetypes = ["multipart/form-data", "application/x-www-form-urlencoded"] ∧
    Gen.RequestGlue.parseCaught = ["ValueError"] ∧
    Gen.RequestGlue.codecSites =
      [("formparser:FormDataParser._parse_multipart", "encode", "'ascii'"),
       ("formparser:FormDataParser._parse_urlencoded", "decode", ""),
       ("formparser:MultiPartParser.parse", "decode", "self.get_part_charset(current_part.headers), 'replace'"),
       ("wrappers.request:Request.__init__", "encode", "'latin1'"),
       ("wrappers.request:Request.get_data", "decode", "errors='replace'")] ∧
    Gen.RequestGlue.parseQslArgs =
      [("<positional>", "data.decode()"), ("keep_blank_values", "True"), ("errors", "'werkzeug.url_quote'")] ∧
    Gen.RequestGlue.partCharsets = [["ascii", "iso-8859-1", "us-ascii", "utf-8"]] ∧
    Gen.RequestGlue.partCharsetReturns = ["'utf-8'", "ct_charset"] ∧
    Gen.RequestGlue.jsonCaught = ["ValueError"] :=
  ⟨rfl, rfl, rfl, rfl, rfl, rfl, rfl⟩

/-- the subclass facts the argument rests on, from the live classes: the codec errors of strict
decoding / ASCII encoding *are* ValueErrors (so the silent fallback swallows them), an unknown codec
name (`LookupError`) and a too deeply nested document (`RecursionError`) are *not*; the four exceptions
the glue raises itself are HTTP exceptions -/
theorem exception_vocabulary :
    Wz.Req.isValueError "UnicodeDecodeError" = true ∧ Wz.Req.isValueError "UnicodeEncodeError" = true ∧
    Wz.Req.isValueError "json.JSONDecodeError" = true ∧ Wz.Req.isValueError "binascii.Error" = true ∧
    Wz.Req.isValueError "LookupError" = false ∧ Wz.Req.isValueError "RecursionError" = false ∧
    Wz.Req.isValueError "KeyError" = false ∧ Wz.Req.isValueError "IndexError" = false ∧
    Wz.Req.isValueError "TypeError" = false ∧ Wz.Req.isValueError "AttributeError" = false ∧
    Wz.Req.isHttpExc "RequestEntityTooLarge" = true ∧ Wz.Req.isHttpExc "ClientDisconnected" = true ∧
    Wz.Req.isHttpExc "BadRequest" = true ∧ Wz.Req.isHttpExc "UnsupportedMediaType" = true ∧
    Wz.Req.isHttpExc "SecurityError" = true ∧ Wz.Req.isHttpExc "ValueError" = false ∧
    Wz.Req.isHttpExc "LookupError" = false := by
  have h := Wz.Req.excTable
  simp only [List.all_cons, List.all_nil, Bool.and_true, Bool.and_eq_true, Bool.not_eq_true'] at h
  obtain ⟨⟨_, v1, v2, v3, v4⟩, ⟨n1, n2, n3, n4, n5, n6⟩, ⟨h1, h2, h3, h4, h5⟩, ⟨m1, m2⟩⟩ := h
  exact ⟨v1, v2, v3, v4, n1, n2, n3, n4, n5, n6, h1, h2, h3, h4, h5, m1, m2⟩

/-- the exception is one of werkzeug's HTTP exceptions -/
abbrev Http := Wz.Req.Http
/-- hypothesis on the multipart parser (C01/C02/C10's): it raises ValueError (subclasses) or an HTTP
exception (413, client disconnect) only -/
abbrev MultipartRaisesOnly := Wz.Req.MultipartRaisesOnly
/-- hypothesis on `json.loads`: ValueError (JSONDecodeError, UnicodeDecodeError) only -/
abbrev JsonRaisesOnly := Wz.Req.JsonRaisesOnly

/-- **`request_body_attr_total_safe`** — for every environ (Content-Type, Content-Length,
Transfer-Encoding arbitrary text; query string latin-1), every request method, every limit
configuration, every body the input stream delivers (complete or cut short) and each of
`form, files, values, data, get_data(), json, get_json(silent=True), stream, want_form_data_parsed`:
the first access returns a value or raises an HTTP exception (413 `RequestEntityTooLarge`, 400
`ClientDisconnected` / `BadRequest`, 415 `UnsupportedMediaType`). Content: the `except ValueError`
fallback of `FormDataParser.parse` swallows every error of the boundary encoding, of strict body
decoding and of the multipart parser; `parse_options_header` / `get_content_length` are total (above);
the urlencoded reader raises only 413; `get_json` turns ValueError into 400. -/
theorem request_body_attr_total_safe (bx : Wz.Req.BodyExt) (hmp : MultipartRaisesOnly bx) (hjl : JsonRaisesOnly bx)
    (cfg : Wz.Req.BodyCfg) (e : Wz.Req.Env) (method : Str) (w : Wz.Req.Wire) (a : Wz.Req.BodyAttr)
    (h : Latin1 e.queryString = true) :
    Wz.Req.bodyOutcome bx cfg e method w a = .ok () ∨
      ∃ x, Wz.Req.bodyOutcome bx cfg e method w a = .error x ∧ Http x :=
  (Wz.Req.bodyOutcome_raises bx hmp hjl cfg e method w a h).ok_or

/-- the body attributes **with C01/C02/C10's multipart model in the multipart branch** (what the
driver runs against the real code), *without* a hypothesis on the multipart parser: a value, an HTTP
exception, or the model-only value `UNMODELLED` (the multipart model met an RFC 2231 `name*=` part
parameter, which its option-header model does not interpret). The exception set of that model —
`ValueError`, `UnicodeDecodeError`, `RequestEntityTooLarge`, `UNMODELLED`; `AttributeError`,
`UnboundLocalError` and fuel exhaustion unreachable from a fresh decoder — is proved in
Lemmas/MultipartSafe.lean (`formParse_raises` / `formLoop_raises`); the first two are
ValueErrors and end in the silent fallback of `FormDataParser.parse`. Only `json.loads` stays a
parameter. -/
theorem request_body_attr_total_safe_model (jl : Bytes → Except String Unit)
    (hjl : JsonRaisesOnly ⟨Wz.Req.mpModel, jl⟩) (cfg : Wz.Req.BodyCfg) (e : Wz.Req.Env) (method : Str)
    (w : Wz.Req.Wire) (a : Wz.Req.BodyAttr) (h : Latin1 e.queryString = true) :
    Wz.Req.bodyOutcome ⟨Wz.Req.mpModel, jl⟩ cfg e method w a = .ok () ∨
      ∃ x, Wz.Req.bodyOutcome ⟨Wz.Req.mpModel, jl⟩ cfg e method w a = .error x ∧ (Http x ∨ x = "UNMODELLED") :=
  (Wz.Req.bodyOutcome_raisesP Wz.Req.HttpOrUnmodelled (fun _ h => Or.inl h) _ (Wz.Req.mpModel_raises jl) hjl cfg e method w a h).ok_or

/-- the form attributes do not involve `json.loads` at all: `form`, `files`, `values`, `data`,
`get_data`, `stream` with the multipart model — no hypothesis left -/
theorem request_form_attrs_total_safe_model (jl : Bytes → Except String Unit) (cfg : Wz.Req.BodyCfg) (e : Wz.Req.Env)
    (w : Wz.Req.Wire) :
    ∀ x, Wz.Req.formValue ⟨Wz.Req.mpModel, jl⟩ cfg e w = .error x → (Http x ∨ x = "UNMODELLED") :=
  Wz.Req.loadFormData_raises Wz.Req.HttpOrUnmodelled (fun _ h => Or.inl h) _
    (Wz.Req.mpModel_raises jl) cfg e w

/-- the model-only value is real in the model (and only there: the real parser reads the parameter) -/
theorem request_form_unmodelled_witness :
    Wz.Req.formValue ⟨Wz.Req.mpModel, fun _ => .ok ()⟩ {}
      { contentType := some "multipart/form-data; boundary=x".toList, contentLength := some "60".toList }
      { body := "--x\r\nContent-Disposition: form-data; name*=utf-8''a\r\n\r\nv\r\n--x--".toList.map (fun c => UInt8.ofNat c.toNat) }
      = .error "UNMODELLED" := by
  repeat rw [String.toList_ofList]
  decide +kernel

/-- the hypotheses are satisfiable (a multipart parser that refuses everything with ValueError, a JSON
parser that accepts everything) -/
example : MultipartRaisesOnly ⟨fun _ _ _ => .error "ValueError", fun _ => .ok ()⟩ ∧
    JsonRaisesOnly ⟨fun _ _ _ => .error "ValueError", fun _ => .ok ()⟩ :=
  ⟨fun _ _ _ e h => by cases h; left; decide, fun _ e h => by cases h⟩

/-- the hypothesis on the parsers is needed, and is exactly what a client-chosen codec name violates:
a body parser that lets `LookupError` out makes `Request.form` raise it (it is not a ValueError, so
the silent fallback does not apply) -/
theorem request_form_needs_value_errors_only :
    Wz.Req.bodyOutcome ⟨fun _ _ _ => .error "LookupError", fun _ => .ok ()⟩ {}
      { contentType := some "multipart/form-data; boundary=x".toList, contentLength := some "0".toList }
      "POST".toList {} .form = .error "LookupError" := by
  repeat rw [String.toList_ofList]
  decide +kernel

/-- while every ValueError — here the strict decoding of a urlencoded body that is not UTF-8 — ends
in an empty form -/
theorem request_form_invalid_utf8_is_empty :
    Wz.Req.formValue ⟨fun _ _ _ => .error "ValueError", fun _ => .ok ()⟩ {}
      { contentType := some "application/x-www-form-urlencoded; charset=bogus".toList, contentLength := some "3".toList }
      { body := [0x61, 0x3d, 0xff] } = .ok {} := by
  repeat rw [String.toList_ofList]
  decide +kernel

/-- the same for `json`: ValueError becomes 400, anything else `json.loads` raises escapes — as
CPython's does for a body of a few thousand `[` (RecursionError; the body is outside this property's
quantifier, recorded as an observation in the harness) -/
theorem request_json_needs_value_errors_only :
    Wz.Req.bodyOutcome ⟨fun _ _ _ => .error "ValueError", fun _ => .error "RecursionError"⟩ {}
      { contentType := some "application/json".toList, contentLength := some "1".toList }
      "POST".toList { body := [0x5b] } .json = .error "RecursionError"
    ∧ Wz.Req.bodyOutcome ⟨fun _ _ _ => .error "ValueError", fun _ => .error "json.JSONDecodeError"⟩ {}
      { contentType := some "application/json".toList, contentLength := some "1".toList }
      "POST".toList { body := [0x5b] } .json = .error "BadRequest" := by
  repeat rw [String.toList_ofList]
  decide +kernel

/-- `parse_date(value)` around a raw date parser: `except (TypeError, ValueError, OverflowError): return None`
(the caught classes are read from the source) -/
def parseDateWith (raw : Str → Except String (Option Nat)) (v : Str) : Except String (Option Nat) :=
  Wz.Req.tryExcept Gen.DateExc.parseDateCaught (raw v) none

/-- every exception class `email.utils.parsedate_to_datetime` raised over the generated boundary
family (≈ 41 000 date-shaped texts: every day × month × year × time × zone at and beyond the ends of
their ranges, re-evaluated on every run) is caught by `parse_date` ... -/
theorem parseDate_catches_observed :
    Gen.DateExc.raised.all (fun r => Wz.Req.caughtBy Gen.DateExc.parseDateCaught r.1) = true ∧
    Gen.DateExc.parseDateCaught = ["TypeError", "ValueError", "OverflowError"] := ⟨by decide +kernel, rfl⟩

/-- ... hence `parse_date` returns a value for every text, for any raw parser that raises only the
observed classes (or any other subclass of ValueError). What reverting repair c7e3c04 (F07f) exposes:
without `OverflowError` in the list the obligation above fails on its recorded witness. -/
theorem parseDate_total_safe (raw : Str → Except String (Option Nat))
    (h : ∀ v e, raw v = .error e → e = "TypeError" ∨ e = "OverflowError" ∨ Wz.Req.isValueError e = true) (v : Str) :
    Safe (parseDateWith raw v) :=
  Wz.Req.tryExcept_safe _ _ _ fun e hr => by
    rw [parseDate_catches_observed.2]
    rcases h v e hr with rfl | rfl | hv <;> simp [Wz.Req.caughtBy, *]

/-- the hypothesis is satisfiable: a raw parser that raises `OverflowError` on every text -/
example : ∀ (v : Str) (e : String), (fun _ => (.error "OverflowError" : Except String (Option Nat))) v = .error e →
    e = "TypeError" ∨ e = "OverflowError" ∨ Wz.Req.isValueError e = true := by
  intro v e h; cases h; right; left; rfl

/-- why a public name of `Request` is outside the two theorems above -/
def excludedAttrs : List (String × String) :=
  [ -- known finding F07d (Host → urlsplit ValueError)
    ("url", "F07d"), ("base_url", "F07d"), ("host_url", "F07d"), ("root_url", "F07d"), ("url_root", "F07d"),
    -- set by `__init__` from server-controlled or already decoded CGI variables (decoding: C15), no lazy parsing
    ("environ", "init"), ("headers", "init"), ("method", "init"), ("scheme", "init"), ("server", "init"),
    ("root_path", "init"), ("path", "init"), ("query_string", "init"), ("remote_addr", "init"), ("shallow", "init"),
    -- total string formatting of those (`full_path` decodes the query string with the same total decoder as `args`)
    ("is_secure", "format"), ("script_root", "format"), ("full_path", "format"),
    -- stores the raw header text in an object
    ("user_agent", "raw-object"),
    -- configuration, class attributes, methods that parse nothing by themselves
    ("application", "config"), ("close", "config"), ("dict_storage_class", "config"), ("form_data_parser_class", "config"),
    ("from_values", "config"), ("json_module", "config"), ("list_storage_class", "config"), ("make_form_data_parser", "config"),
    ("max_content_length", "config"), ("max_form_memory_size", "config"), ("max_form_parts", "config"),
    ("on_json_loading_failed", "config"), ("parameter_storage_class", "config"), ("trusted_hosts", "config"),
    ("user_agent_class", "config") ]

/-- a public name of a live `Request` is covered: by `request_attr_total_safe` (its `Attr`), by
`request_body_attr_total_safe` (its `BodyAttr`), by `headerProperty_total_safe` with the identity
loader (a `header_property` / `environ_property` without load function), or listed in `excludedAttrs` -/
def attrCovered (row : String × String) : Bool :=
  (Wz.Req.Attr.all.map Wz.Req.Attr.name).contains row.1 ||
  (Wz.Req.BodyAttr.all.map Wz.Req.BodyAttr.name).contains row.1 ||
  row.2.endsWith ":raw" ||
  excludedAttrs.any (·.1 == row.1)

/-- **every public attribute of `Request` is in a covered list or in the explicit exclusion list** —
a property / cached_property added to `sansio.Request` or `wrappers.Request` shows up as an uncovered
row and breaks this obligation (the hostile stream enumerates the same live list). -/
theorem request_surface_covered : Gen.RequestSurface.requestAttrs.all attrCovered = true := by decide +kernel

/-- the enumerations used above are complete -/
theorem request_attr_enumerations (a : Wz.Req.Attr) (b : Wz.Req.BodyAttr) :
    a ∈ Wz.Req.Attr.all ∧ b ∈ Wz.Req.BodyAttr.all := by
  constructor
  · cases a <;> decide
  · cases b <;> decide

/-- public functions of werkzeug.http / sansio.http / sansio.utils with a totality theorem in this file -/
def modelledFunctions : List String :=
  ["parse_options_header", "parse_dict_header", "parse_cache_control_header", "parse_accept_header", "parse_etags",
   "parse_range_header", "parse_content_range_header", "parse_age", "parse_list_header", "parse_set_header",
   "parse_csp_header", "unquote_etag", "unquote_header_value", "get_content_length", "get_host", "host_is_trusted",
   "parse_if_range_header", "is_byte_range_valid"]
/-- parsers modelled by another property and composed here, or Python's (stream `hostile` + oracle) -/
def streamFunctions : List String :=
  ["parse_cookie", "parse_date", "is_resource_modified", "get_current_url"]
/-- serialisers and table predicates (application-side input, not parsers of client text) -/
def serialiserFunctions : List String :=
  ["dump_age", "dump_cookie", "dump_csp_header", "dump_header", "dump_options_header", "generate_etag", "http_date",
   "quote_etag", "quote_header_value", "is_entity_header", "is_hop_by_hop_header", "remove_entity_headers",
   "remove_hop_by_hop_headers"]

/-- every public function of the HTTP utility layer is classified; every `from_header` class, Accept
class and cache-control class is one the hostile stream instantiates -/
theorem http_functions_covered :
    Gen.RequestSurface.httpFunctions.all
      (fun f => modelledFunctions.contains f.2 || streamFunctions.contains f.2 || serialiserFunctions.contains f.2) = true ∧
    Gen.RequestSurface.fromHeaderClasses = ["Authorization", "WWWAuthenticate"] ∧
    Gen.RequestSurface.acceptClasses = ["Accept", "CharsetAccept", "LanguageAccept", "MIMEAccept"] ∧
    Gen.RequestSurface.cacheControlClasses = ["RequestCacheControl", "ResponseCacheControl"] :=
  ⟨by decide +kernel, rfl, rfl, rfl⟩

/-- `_cookie_unslash_replace` turns a three-digit octal escape into `int(v, 8).to_bytes(1, "big")`,
which raises OverflowError above 255: the character classes of the live `_cookie_unslash_re`
(regenerated per byte: first digit, later digits) admit `0..3` and `0..7` only, so every escape the
regex recognises is at most `\377`; the pattern source is the one the cookie model was written for.
Widening the first digit to `0..7` (`\400` … `\777` from a client's `Cookie:` header) breaks this. -/
theorem cookie_octal_escape_fits_byte :
    (∀ n, n < 256 → Wz.Http.tbl Gen.Cookie.unslashOct1 n = true → 48 ≤ n ∧ n ≤ 51) ∧
    (∀ n, n < 256 → Wz.Http.tbl Gen.Cookie.unslashOct23 n = true → 48 ≤ n ∧ n ≤ 55) ∧
    (Gen.Regexes.table.find? (fun r => r.1 == "werkzeug.sansio.http" && r.2.1 == "_cookie_unslash_re")).map (·.2.2.1)
      = some "\\\\([0-3][0-7]{2}|.)" := by
  -- one pass over each table; `!b || …` is the implication row by row
  have sweep {T : List Bool} {hi : Nat} (hlen : T.length = 256)
      (h : T.zipIdx.all (fun r => !r.1 || (decide (48 ≤ r.2) && decide (r.2 ≤ hi))) = true) :
      ∀ n, n < 256 → Wz.Http.tbl T n = true → 48 ≤ n ∧ n ≤ hi := fun n hn ht => by
    have := getD_sweep (d := false) (q := fun b n => !b || (decide (48 ≤ n) && decide (n ≤ hi))) h (hlen ▸ hn)
    rw [show T.getD n false = true from ht] at this
    simpa using this
  exact ⟨sweep (by decide +kernel) (by decide +kernel), sweep (by decide +kernel) (by decide +kernel),
    by decide +kernel⟩

/-- regexes with an alternation or an unbounded repeat *inside* an unbounded repeat — the shapes
super-linear backtracking needs — that have been examined: `_cookie_re`'s quoted-string branch
`"(?:[^\\"]|\\.)*"` has disjoint alternatives (C13 models it; the repetition family of stream
`hostile` times it on every run) -/
def examinedRegexes : List (String × String) := [("werkzeug.sansio.http", "_cookie_re")]

/-- every module-level compiled regex of the request-parsing modules (live objects) is free of nested
unbounded quantifiers and of alternations under an unbounded quantifier,
or is in the examined list; no function builds further patterns per call except the two multipart
boundary patterns and `urls._make_unquote_part`. A new regex of either shape breaks this obligation;
the stream times every listed regex on its own repetition family. -/
theorem regexes_examined :
    Gen.Regexes.table.all (fun r => (!r.2.2.2.1 && !r.2.2.2.2) || examinedRegexes.contains (r.1, r.2.1)) = true ∧
    Gen.Regexes.localUses =
      [("werkzeug.sansio.multipart:MultipartDecoder.__init__", "re.compile"),
       ("werkzeug.sansio.multipart:MultipartDecoder.__init__", "re.compile"),
       ("werkzeug.urls:_make_unquote_part", "re.compile")] := ⟨by decide +kernel, rfl⟩

/-
-- OPEN (known finding F07d): `Request.url/base_url/host_url/root_url/url_root` pass the Host header
--   through `urllib.parse.urlsplit(...).port/.hostname`, which raise ValueError for a non-numeric or
--   out-of-range port and for unbalanced / invalid `[...]`. `urlsplit` is Python's and is not
--   modelled; these five attributes are the explicit exclusion of `request_attr_total_safe`
--   (`excludedAttrs`); the failing family is replayed on the real code by the harness on every run.
-- OPEN: `email.utils.parsedate_to_datetime` itself is Python's: `parseDate_total_safe` is relative to
--   the exception classes observed over the regenerated boundary family (`parseDate_catches_observed`);
--   that no other class occurs on other texts is watched by the oracle of stream `hostile`.
-- OPEN: `JsonRaisesOnly` is a hypothesis of `request_body_attr_total_safe(_model)`: `json.loads` is
--   Python's (it does raise RecursionError on deep nesting — a body, outside this property's quantifier).
--   `MultipartRaisesOnly` is discharged for C01/C02/C10's model up to its model-only value `UNMODELLED`
--   (RFC 2231 part parameters, `request_form_unmodelled_witness`); both are exercised on the real code
--   by stream `hostile` (Content-Type x body family).
-/

end Wz.Props.C07
