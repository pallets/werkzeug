/-
C13T — `dump_cookie`, `parse_cookie` (`http.py`) and `parse_cookie` (`sansio/http.py`) *as regenerated
from the source* by `tools/py2lean.py` (`Gen/PyFns_Cookie.lean`, rewritten on every check run) are
equal, for all inputs, to C13's hand model `Model/Cookie.lean` (`dumpCookie`, `parseCookie`,
`parseCookieEnviron`) that the cookie round-trip and attribute theorems are about. The four regexes
(`_cookie_no_quote_re`, `_cookie_slash_re` with its map, `_cookie_re`, `_cookie_unslash_re`) enter as
the model's functions over the tables regenerated from the live patterns; urllib's `quote` (Path) as
C15's model with the `safe=` literal of the source; the IDNA codec and `http_date(now + max_age)` are
parameters; the size warning has no effect on the result.
-/
import WzVerif.Gen.PyFns_Cookie
import WzVerif.Lemmas.PyFnsEq_Cookie
namespace Wz.Props.C13T
open Wz Wz.Pre Wz.Gen.PyFns_Cookie Wz.PyFnsEq.Cookie

/-- The `for ck, cv in _cookie_re.findall(cookie)` loop of `sansio.http.parse_cookie`, as translated
from the current source (`ck.strip()`, `cv.strip()`, the `continue` for an empty name, the test
`len(cv) >= 2 and cv[0] == cv[-1] == '"'`, the `_cookie_unslash_re.sub` on `cv[1:-1]`, the append):
it never leaves the function - `cv[0]` / `cv[-1]` are only reached for a value of at least two
characters, so no `IndexError` - and appends exactly the model's `postProcess` of the pairs, for
every list of regex matches and every accumulator. -/
theorem sansio_parse_cookie_loop_eq (ps : List (Str × Str)) : ∀ out : List (Str × Str),
    sansio_parse_cookie.loop1 ps out = .fall (out ++ Cookie.postProcess ps) := by
  induction ps with
  | nil => intro out; simp [sansio_parse_cookie.loop1, Cookie.postProcess]
  | cons p t ih => intro out; rw [sansio_parse_cookie_loop_cons, ih, Cookie.postProcess_cons, List.append_assoc]

/-- `werkzeug.sansio.http.parse_cookie(cookie)` for a `str`, as translated from the current source
(the empty-text shortcut, the appended `;`, `_cookie_re.findall`, the loop above, `cls(out)`; the
translation returns the pair list handed to the `MultiDict` constructor, in order, duplicates
included), never raises and returns exactly the model's `parseCookie` - the function C13's
parse / round-trip theorems are about -, for every text. -/
theorem sansio_parse_cookie_eq (c : List Char) :
    sansio_parse_cookie (some c) () = .ok (Cookie.parseCookie c) := by
  unfold sansio_parse_cookie Cookie.parseCookie
  by_cases h : c.isEmpty = true
  · simp [h]
  · simp [h, sansio_parse_cookie_loop_eq, cookieReFindall]

/-- `werkzeug.sansio.http.parse_cookie(None)` is the empty dict. -/
theorem sansio_parse_cookie_none : sansio_parse_cookie none () = .ok [] := rfl

/-- `werkzeug.http.parse_cookie(header)` for a `str` header, as translated from the current source
(for a non-empty text the WSGI dance `cookie.encode("latin1").decode(errors="replace")`, then the
sansio function - itself translated, `sansio_parse_cookie_eq`), equals the model's
`parseCookieEnviron`, for every text: the same pairs, and `UnicodeEncodeError` exactly when the
model answers `none` (a character above U+00FF, which cannot come from a WSGI environ). -/
theorem http_parse_cookie_eq (c : List Char) :
    http_parse_cookie (some c) () =
      match Cookie.parseCookieEnviron c with
      | some r => .ok r
      | none => .error "UnicodeEncodeError" := by
  unfold http_parse_cookie Cookie.parseCookieEnviron
  by_cases h : c.isEmpty = true
  · have : c = [] := by simpa using h
    subst this
    simp [sansio_parse_cookie_eq, Cookie.parseCookie]
  · simp only [h, Bool.false_eq_true, if_false, Bool.not_false, if_true, Pre.encodeLatin1,
      Pre.decodeUtf8Replace, sansio_parse_cookie_eq]
    cases Py.latin1Enc c <;> rfl

/-- `werkzeug.http.parse_cookie(None)` is the empty dict. -/
theorem http_parse_cookie_none : http_parse_cookie none () = .ok [] := rfl

/-- the prelude's ASCII `str.title()` is the model's `titleAscii` -/
theorem title_eq (s : Str) : Pre.title s = Cookie.titleAscii s :=
  PyFnsEq.Cookie.title_eq ..

/-- `dump_cookie(key, value, max_age, expires, path, domain, secure, httponly, sync_expires=…,
max_size=…, samesite, partitioned)`, as translated from the current source (parameters of the
translation: the IDNA codec `idna` and `expires_in max_age` = `http_date(now + max_age)`, both
opaque; `max_age : int | None`, `expires : str | None`), equals - for all arguments - the model's
`Cookie.dumpCookie key value attrs` (the function C13's `Set-Cookie` theorems are about) on the
attribute record the source computes before it assembles the header:

* `path` is `quote(path, safe="%!$&'()*+,/:=@")` (the `safe=` literal is pinned here: changing it in
  the source breaks this theorem), `None` stays `None`;
* `domain` is `domainStep`: `None` for `None`, `""` for `""` (printed as `Domain=`), otherwise the
  IDNA text of `domain.partition(":")[0].lstrip(".")`;
* `expires` is `expiresStep`: the given text, else `http_date(now + max_age)` when `max_age` is given
  and `sync_expires`, else nothing;
* `max_age`, `secure`, `httponly`, `samesite`, `partitioned` as given (`samesite.title()` with the
  `ValueError`, `Partitioned` ⇒ `Secure`, the value quoting with its `KeyError` /
  `UnicodeDecodeError` are inside `dumpCookie`, in the source's order).

Order of effects: a raising IDNA codec makes the function raise that error *before* the SameSite
check and the value escaping are reached (`Except.bind`); then `ValueError` for a bad SameSite; then
the escaping errors - exactly the order of the source. `max_size` does not occur on the right-hand
side: the size warning does not change the result. -/
theorem dump_cookie_eq (idna : Str → Except String Str) (expires_in : Int → Str) (key value : Str)
    (max_age : Option Int) (expires path domain : Option Str) (secure httponly sync_expires : Bool)
    (max_size : Int) (samesite : Option Str) (partitioned : Bool) :
    dump_cookie idna expires_in key value max_age expires path domain secure httponly sync_expires
        max_size samesite partitioned =
      (domainStep idna domain).bind fun d =>
        Cookie.dumpCookie key value {
          domain := d
          expires := expiresStep expires_in max_age expires sync_expires
          maxAge := max_age
          secure := secure
          httponly := httponly
          path := path.map (Url.quote "%!$&'()*+,/:=@".toList)
          samesite := samesite
          partitioned := partitioned } :=
  PyFnsEq.Cookie.dump_cookie_eq ..

/-- A raising IDNA codec (`domain` non-empty) makes `dump_cookie` raise that very error, whatever
the other arguments are - in particular before a bad `samesite` (`ValueError`) or an unescapable
value is looked at. -/
theorem dump_cookie_idna_raises (idna : Str → Except String Str) (expires_in : Int → Str) (key value : Str)
    (max_age : Option Int) (expires path : Option Str) (dom : Str) (secure httponly sync_expires : Bool)
    (max_size : Int) (samesite : Option Str) (partitioned : Bool) (x : String)
    (hne : dom ≠ []) (hx : idna (domainText dom) = .error x) :
    dump_cookie idna expires_in key value max_age expires path (some dom) secure httponly sync_expires
        max_size samesite partitioned = .error x := by
  rw [dump_cookie_eq, domainStep_of_ne_nil idna hne, hx]
  rfl

/-- `domain=""`: the IDNA codec is not consulted either, and the header carries an empty `Domain=`
attribute (as the real function does). -/
theorem dump_cookie_empty_domain (idna : Str → Except String Str) (expires_in : Int → Str) (key value : Str)
    (max_age : Option Int) (expires path : Option Str) (secure httponly sync_expires : Bool)
    (max_size : Int) (samesite : Option Str) (partitioned : Bool) :
    dump_cookie idna expires_in key value max_age expires path (some []) secure httponly sync_expires
        max_size samesite partitioned =
      Cookie.dumpCookie key value {
        domain := some []
        expires := expiresStep expires_in max_age expires sync_expires
        maxAge := max_age
        secure := secure
        httponly := httponly
        path := path.map (Url.quote "%!$&'()*+,/:=@".toList)
        samesite := samesite
        partitioned := partitioned } := by
  rw [dump_cookie_eq]; rfl

/-- `max_size` only drives a warning: the returned header (or error) does not depend on it. -/
theorem dump_cookie_max_size (idna : Str → Except String Str) (expires_in : Int → Str) (key value : Str)
    (max_age : Option Int) (expires path domain : Option Str) (secure httponly sync_expires : Bool)
    (max_size max_size' : Int) (samesite : Option Str) (partitioned : Bool) :
    dump_cookie idna expires_in key value max_age expires path domain secure httponly sync_expires
        max_size samesite partitioned =
    dump_cookie idna expires_in key value max_age expires path domain secure httponly sync_expires
        max_size' samesite partitioned := by
  rw [dump_cookie_eq, dump_cookie_eq]

/-- `werkzeug.http.parse_cookie(environ)` for a WSGI environ (a dict), as translated from the current
source (`header.get("HTTP_COOKIE")`, then the same latin-1 / UTF-8 dance): exactly the `str | None`
form applied to the value stored under the key `HTTP_COOKIE` (`None` when absent). The key text is part
of the translated definition. -/
theorem http_parse_cookie_environ_eq (environ : List (Str × Str)) :
    http_parse_cookie_environ environ () = http_parse_cookie (Pre.dictGet? environ "HTTP_COOKIE".toList) () := by
  have hk : "HTTP_COOKIE".toList = ['H', 'T', 'T', 'P', '_', 'C', 'O', 'O', 'K', 'I', 'E'] :=
    String.toList_ofList
  rw [hk]
  rfl

end Wz.Props.C13T
