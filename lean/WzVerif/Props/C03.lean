/-
C03 — URL matching agrees with the declarative meaning of the rules.

Model: `Model/Routing*.lean` (rule compilation, the state machine matcher with exactly the code's
control flow, `MapAdapter.match`). Reference: `Model/RoutingSpec.lean` — `walkVia` / `admits`, a
recogniser for one rule at a time, independent of every other rule, and the specificity order.
All theorems are about arbitrary rule lists, paths, methods: no bound anywhere.
Helper lemmas: `Lemmas/Routing*.lean`.
-/
import WzVerif.Lemmas.RoutingMatch
import WzVerif.Gen.RoutingSamples
import WzVerif.Gen.RoutingParts
import WzVerif.Gen.RoutingGlue
import WzVerif.Model.RoutingParts
namespace Wz.Props.C03
open Wz Wz.Routing

/-- class-level `weight` / `part_isolating` of the model, by registered name -/
def classWeight : String → Nat
  | "path" => 200
  | "int" => 50
  | "float" => 50
  | _ => 100

def classIsolating : String → Bool
  | "path" => false
  | _ => true

/-- The live `DEFAULT_CONVERTERS` table (name, class regex, weight, part_isolating; regenerated on
every run) is the table the model uses. -/
theorem conv_table_matches_model :
    Gen.Routing.convTable.all (fun (n, re, w, pi) => classRegex n == re && classWeight n == w && classIsolating n == pi) = true ∧
    Gen.Routing.convTable.map (·.1) = ["default", "string", "any", "path", "int", "float", "uuid"] := by
  decide +kernel

/-- ... and the model's per-instance weight / part_isolating are the class-level ones. -/
theorem conv_weight_by_class (c : Conv) :
    c.weight = classWeight c.className ∧ c.partIsolating = classIsolating c.className := by
  cases c <;> exact ⟨rfl, rfl⟩

/-- Instantiated live converters (string with length options, int/float with signed, fixed_digits,
min/max, any with special characters, uuid, path): the regex text, weight and part_isolating the
model computes are the live ones. -/
theorem conv_samples_match_model :
    Gen.RoutingSamples.samples.all (fun (c, re, w, pi) => c.regexText == re && c.weight == w && c.partIsolating == pi) = true := by
  decide +kernel

/-- **part_anchor_matches_model.** The live compiled part regexes of `Rule('/<conv:v>' + post)` (from
`_parse_rule`, for every sample converter, with and without a literal suffix) are anchored at the very
end exactly as the model's `matchDyn` is: on a valid value they match; with LF / CR / VT appended,
LF inserted or LF in front they match exactly when the model says so — in particular a trailing
newline is never swallowed by the anchor (`\Z`, not `$`). -/
theorem part_anchor_matches_model :
    Gen.RoutingSamples.anchorProbes.all (fun (c, post, target, live) =>
      (matchDyn [] c.kind post.toList false target.toList).isSome == live) = true := by
  decide +kernel

/-- the regex text of a part depends on the converter through its `RKind` only -/
theorem kind_regex_text (c : Conv) : c.kind.regexText = c.regexText := by
  cases c with
  | string mn mx ln => cases ln <;> rfl
  | _ => rfl

/-- **part_table_matches_model.** `Rule._parse_rule` / `compile` of the current source, run on sample rules
covering the property's grammar (literal and decorated variable segments, every converter class, path
converter final / with tail / branch, doubled slashes with merge_slashes on), yields exactly the parts
the model's `parseRule` computes: same number of parts, same `content` regex text (escaping, group
name, `(?<!/)(/?)` suffix, `\Z` anchor), same `final` / `static` / `suffixed` flags and the same `Weighting`
(number and list of static weights, number and list of argument weights). -/
theorem part_table_matches_model :
    Gen.RoutingParts.parts.all (fun (mg, toks, rows) =>
      (parseRule (if mg then mergeSlashToks toks else toks)).map (fun r => r.1.map Part.row) == some rows) = true := by
  decide +kernel

/-- **merge_regex_matches_model.** Every slash-merging `re.sub` of the routing sources uses the literal
`/{2,}?` (lazy: pairs of slashes, left to right), and on the sample paths the live `re.sub` gives what
the model's `mergeSlashes` computes. -/
theorem merge_regex_matches_model :
    Gen.RoutingParts.merges.all (fun (lit, s, out) =>
      lit == "/{2,}?" && String.ofList (mergeSlashes s.toList) == out) = true ∧
    Gen.RoutingParts.merges.length = 12 := by
  decide +kernel

/-- **match_skeleton_pinned.** The control skeleton of the inner `_match` of `StateMachineMatcher.match` in the
current source — every branching condition, loop header, `raise` and `return`, in order — is the one the
model's `dfs` / `scanRules` / `slashCheck` transcribe: the exact-match loop tests the method set, then the
websocket flag; the "would match with an additional slash" probe requires the websocket flag AND the
method set (`ruleOK`) before `strict_slashes` decides between `SlashRequired` and a match; static
transitions before dynamic ones; the `parts == [""]` fallback skips strict rules. -/
theorem match_skeleton_pinned :
    Gen.RoutingGlue.matchSkeleton =
      ["if parts == []",
       "for rule in state.rules",
       "if rule.methods is not None and method not in rule.methods",
       "if rule.websocket != websocket",
       "return (rule, values)",
       "if '' in state.static",
       "for rule in state.static[''].rules",
       "if websocket == rule.websocket and (rule.methods is None or method in rule.methods)",
       "if rule.strict_slashes",
       "raise SlashRequired()",
       "return (rule, values)",
       "return None",
       "if part in state.static",
       "if rv is not None",
       "return rv",
       "for (test_part, new_state) in state.dynamic",
       "if test_part.final",
       "if match is not None",
       "if test_part.suffixed",
       "if suffix == '/'",
       "if rv is not None",
       "return rv",
       "if parts == ['']",
       "for rule in state.rules",
       "if rule.strict_slashes",
       "if rule.methods is not None and method not in rule.methods",
       "if rule.websocket != websocket",
       "return (rule, values)",
       "return None"] :=
  rfl

/-- `.` (the path converter's `.*?`) rejects exactly LF in the live `re`. -/
theorem dot_rejects_lf : Gen.Routing.dotRejects = [10] := by decide

/-- For string, any, uuid, path, float without min/max and int without fixed_digits/min/max,
`to_python` succeeds on every text (in particular on every text the regex accepts). -/
theorem toPython_total (c : Conv) (h : c.total = true) (s : Str) (_ : regexAccepts c s = true) :
    (toPython c s).isSome = true :=
  Conv.total_ok h s

example : (Conv.int 0 true none none).total = true ∧ regexAccepts (.int 0 true none none) "-12".toList = true := by
  decide +kernel

/-- The complement is real: `int(fixed_digits=3)` and `int(max=5)` reject text their regex accepts. -/
theorem toPython_partial_witness :
    regexAccepts (.int 3 false none none) "12".toList = true ∧ toPython (.int 3 false none none) "12".toList = none ∧
    regexAccepts (.int 0 false none (some 5)) "12".toList = true ∧ toPython (.int 0 false none (some 5)) "12".toList = none := by
  decide +kernel

/-- **match_sound.** Whatever `MapAdapter.match` returns — a rule with converted values — that rule
is one of the map's (non-`build_only`) rules and, taken alone, admits the request path for the
request method with exactly those values. -/
theorem match_sound {cfg : MapCfg} {specs : List RuleSpec} {m : RMap} (hm : mkMap cfg specs = some m)
    (a : Adapter) (pathInfo : Str) (method : Option Str) (qa : QueryArgs) (ws : Option Bool)
    {r : Rule} {vals : List (Str × Value)}
    (h : matchAdapter m a pathInfo method qa ws = .matched r vals) :
    r ∈ m.rules ∧ r.spec.buildOnly = false ∧
      admits r (reqOf a method ws) (domainPartOf m.cfg a) (pathPart pathInfo) = some vals := by
  obtain ⟨vs, hfound, res, hres, hvals⟩ := matchSM_ok_inv (matchAdapter_matched_inv h)
  rw [(mkMap_built hm).root_eq] at hfound
  obtain ⟨hmem, hbo, hok, via, hw, ha⟩ := root_found hfound
  exact ⟨hmem, hbo, by rw [admits_of_walkVia hok hw ha, hres, hvals]; rfl⟩

/-- the adapter of the examples: `map.bind("example.org")` -/
def adapter0 : Adapter :=
  { serverName := "example.org".toList, scriptName := "/".toList, subdomain := some [], urlScheme := "http".toList,
    defaultMethod := "GET".toList, queryArgs := .none }

/-- outcome of `Map(specs, **cfg).bind("example.org").match(path, method)` -/
def run (cfg : MapCfg) (specs : List RuleSpec) (path : String) (method : String) : Outcome :=
  match mkMap cfg specs with
  | some m => matchAdapter m adapter0 path.toList (some method.toList) .none none
  | none => .error "unsupported"

def specsF03 : List RuleSpec :=
  [ { toks := [.slash, .var (.int 3 false none none) "x".toList], endpoint := "a".toList },
    { toks := [.slash, .var (.string 1 none none) "y".toList], endpoint := "b".toList } ]

-- non-vacuity: `/123` is matched on the F03 map
example : (run {} specsF03 "/123" "GET").isMatched = true := by decide +kernel

/-- **match_notfound_only_if_partial.** When `MapAdapter.match` raises `NotFound`, no rule of the map
admits the path — directly or through an extra final slash — for ANY method or protocol; no rule
admits it in any way for the request method; and no strict branch rule fit for the request would admit
it with a final slash added (no redirect was due).
Hypotheses: `ConvOK` — every converter's `to_python` accepts what its regex accepts (proved for all
converters without fixed_digits/min/max, `convOK_of_total`; the complement is finding F03) — and
method sets are non-empty when given. -/
theorem match_notfound_only_if_partial {cfg : MapCfg} {specs : List RuleSpec} {m : RMap}
    (hm : mkMap cfg specs = some m) (hconv : ConvOK m.rules) (hmeth : ∀ r ∈ m.rules, r.methodsOK = true)
    (a : Adapter) (pathInfo : Str) (method : Option Str) (qa : QueryArgs) (ws : Option Bool)
    (h : matchAdapter m a pathInfo method qa ws = .notFound) :
    ∀ r ∈ m.rules, r.spec.buildOnly = false →
      NotAdmitted r (reqOf a method ws) (domainPartOf m.cfg a) (pathPart pathInfo) := by
  have hb := mkMap_built hm
  have fn := first_search_none hb hconv (matchAdapter_notFound_inv h)
  exact notAdmitted_of_none hb hmeth fn.res (List.eq_nil_iff_forall_not_mem.2 fun x hx => by cases fn.ms_sub x hx)
    (Bool.eq_false_iff.2 fun h' => by cases fn.wsm_sub h')

def specsPlain : List RuleSpec :=
  [ { toks := [.slash, .var (.int 0 false none none) "x".toList], endpoint := "a".toList },
    { toks := [.slash, .lit "a".toList, .slash], endpoint := "b".toList, methods := some ["POST".toList] } ]

-- non-vacuity: a map with total converters and non-empty method sets, and a path that is NotFound
example : (run {} specsPlain "/zz/y" "GET").isNotFound = true ∧
    (match mkMap {} specsPlain with
     | some m => m.rules.all (fun r => r.convTotal && r.methodsOK)
     | none => false) = true := by decide +kernel

/-- **F03 (negation witness).** Without the conversion hypothesis the statement is false on the
unchanged code: `Map([Rule('/<int(fixed_digits=3):x>'), Rule('/<string:y>')])`, `/12` raises
`NotFound` although the string rule admits the path (the int rule is selected first, its `to_python`
rejects `12`, and the search does not backtrack). -/
theorem match_notfound_only_if_full_false :
    ¬ (∀ (cfg : MapCfg) (specs : List RuleSpec) (m : RMap) (a : Adapter) (p : Str),
        mkMap cfg specs = some m → (∀ r ∈ m.rules, r.methodsOK = true) →
        matchAdapter m a p none .none none = .notFound →
        ∀ r ∈ m.rules, admitsPath r (domainPartOf m.cfg a) (pathPart p) = false) := by
  intro H
  have hw : (mkMap {} specsF03).any (fun m => (matchAdapter m adapter0 "/12".toList none .none none).isNotFound &&
          m.rules.all (fun r => r.methodsOK) &&
          m.rules.any (fun r => admitsPath r (domainPartOf m.cfg adapter0) (pathPart "/12".toList))) = true := by decide +kernel
  obtain ⟨m, hmk, hw⟩ := (Option.any_eq_true _ _).1 hw
  simp only [Bool.and_eq_true, List.all_eq_true, List.any_eq_true] at hw
  obtain ⟨⟨h1, h2⟩, r, hr, h3⟩ := hw
  have := H {} specsF03 m adapter0 "/12".toList hmk h2 (Outcome.eq_notFound h1) r hr
  rw [this] at h3; cases h3

def specsF03b : List RuleSpec :=
  [ { toks := [.slash, .lit "a".toList, .slash], endpoint := "a".toList, methods := some ["POST".toList] } ]

/-- **F03b (negation witness).** `NotFound` does not exclude that a rule admits the path for another
method in the `noslash` way: `Map([Rule('/a/', methods=['POST'])], strict_slashes=False)`: `POST /a`
is matched by the rule, `GET /a` raises `NotFound` (not `MethodNotAllowed`). Hence the theorem above
speaks of direct / extra-slash admission for any method and of every admission for the request method. -/
theorem match_notfound_any_method_full_false :
    ¬ (∀ (cfg : MapCfg) (specs : List RuleSpec) (m : RMap) (a : Adapter) (p : Str) (q' : Req),
        mkMap cfg specs = some m → ConvOK m.rules → (∀ r ∈ m.rules, r.methodsOK = true) →
        matchAdapter m a p none .none none = .notFound →
        ∀ r ∈ m.rules, admits r q' (domainPartOf m.cfg a) (pathPart p) = none) := by
  intro H
  have hw : (mkMap { strictSlashes := false } specsF03b).any (fun m => (matchAdapter m adapter0 "/a".toList none .none none).isNotFound &&
          m.rules.all (fun r => r.methodsOK && r.convTotal) &&
          m.rules.any (fun r => (admits r ⟨"POST".toList, false⟩ (domainPartOf m.cfg adapter0) (pathPart "/a".toList)).isSome)) = true := by decide +kernel
  obtain ⟨m, hmk, hw⟩ := (Option.any_eq_true _ _).1 hw
  simp only [Bool.and_eq_true, List.all_eq_true, List.any_eq_true] at hw
  obtain ⟨⟨h1, h2⟩, r, hr, h3⟩ := hw
  have := H _ specsF03b m adapter0 "/a".toList ⟨"POST".toList, false⟩ hmk
    (convOK_of_total (fun r hr => (h2 r hr).2)) (fun r hr => (h2 r hr).1) (Outcome.eq_notFound h1) r hr
  rw [this] at h3; cases h3

/-- **match_405_iff_partial.** `MapAdapter.match` raises `MethodNotAllowed` exactly when no rule admits
the path for the request (in any way, and no slash redirect is due) while some rule admits it
— directly or through an extra final slash — for another method.
Hypotheses: `ConvOK` (F03), non-empty method sets, and the path is not subject to slash merging
(`NoMerge`: with merging the second pass adds the methods of rules admitting the merged path).
The `noslash` admissions of non-strict branch rules are not counted by the code: finding F03b,
`match_405_full_false` below. -/
theorem match_405_iff_partial {cfg : MapCfg} {specs : List RuleSpec} {m : RMap}
    (hm : mkMap cfg specs = some m) (hconv : ConvOK m.rules) (hmeth : ∀ r ∈ m.rules, r.methodsOK = true)
    (a : Adapter) (pathInfo : Str) (method : Option Str) (qa : QueryArgs) (ws : Option Bool)
    (hnm : NoMerge m (pathPart pathInfo)) :
    (∃ ms, matchAdapter m a pathInfo method qa ws = .methodNotAllowed ms) ↔
      ((∀ r ∈ m.rules, r.spec.buildOnly = false →
          admits r (reqOf a method ws) (domainPartOf m.cfg a) (pathPart pathInfo) = none ∧
          (ruleOK (reqOf a method ws) r = true → wantsSlash r (domainPartOf m.cfg a) (pathPart pathInfo) = false)) ∧
       ∃ r ∈ m.rules, r.spec.buildOnly = false ∧
          AdmitsOtherMethod r (reqOf a method ws) (domainPartOf m.cfg a) (pathPart pathInfo)) := by
  have hb := mkMap_built hm
  constructor
  · rintro ⟨ms, h⟩
    obtain ⟨ms0, wsm, hsm, hne, _⟩ := matchAdapter_405_inv h
    have fn : FirstNone m _ (dfs _ (buildRoot m.rules) _ []) _ _ := hb.root_eq ▸ first_search_none hb hconv hsm
    -- some method was recorded by the first search
    obtain ⟨x, hx⟩ := List.exists_mem_of_ne_nil _ hne
    obtain ⟨r, hmem, hbo, hadm, _⟩ := (root_ms_iff fn.res x).1 (fn.ms_all hnm x hx)
    exact ⟨fun r hr hbo => admits_none_of_walks fun hok via hvia => root_none fn.res hr hbo hok hvia, r, hmem, hbo, hadm⟩
  · rintro ⟨hnone, r, hr, hbo, hadm⟩
    -- the first search returns None: anything else would be justified by an admitting rule
    have hres : (dfs (reqOf a method ws) m.root (segments (domainPartOf m.cfg a) (pathPart pathInfo)) []).res = .none := by
      rw [hb.root_eq]
      exact root_none_iff.2 fun r' hmem hbo' hok =>
        walks_none_of_admits_none hb hconv hmem hok (hnone r' hmem hbo').1 ((hnone r' hmem hbo').2 hok)
    obtain ⟨ms0, wsm, hsm, hmem0⟩ := matchSM_of_first_none (q := reqOf a method ws) (dom := domainPartOf m.cfg a) hnm hres
    rw [hb.root_eq] at hres hmem0
    obtain ⟨x, hx⟩ := exists_method (hmeth r hr) hadm.2
    exact ⟨_, matchAdapter_of_noMatch hsm (List.ne_nil_of_mem ((hmem0 x).2 ((root_ms_iff hres x).2 ⟨r, hr, hbo, hadm, hx⟩)))⟩

/-- **match_405_methods_partial.** The methods listed by `MethodNotAllowed` are exactly the union of the
method sets of the rules that admit the path for another method. -/
theorem match_405_methods_partial {cfg : MapCfg} {specs : List RuleSpec} {m : RMap}
    (hm : mkMap cfg specs = some m) (hconv : ConvOK m.rules)
    (a : Adapter) (pathInfo : Str) (method : Option Str) (qa : QueryArgs) (ws : Option Bool)
    (hnm : NoMerge m (pathPart pathInfo)) {ms : List Str}
    (h : matchAdapter m a pathInfo method qa ws = .methodNotAllowed ms) :
    ∀ x, x ∈ ms ↔ ∃ r ∈ m.rules, r.spec.buildOnly = false ∧
      AdmitsOtherMethod r (reqOf a method ws) (domainPartOf m.cfg a) (pathPart pathInfo) ∧ x ∈ r.methods.getD [] := by
  have hb := mkMap_built hm
  obtain ⟨ms0, wsm, hsm, hne, rfl⟩ := matchAdapter_405_inv h
  have fn : FirstNone m _ (dfs _ (buildRoot m.rules) _ []) _ _ := hb.root_eq ▸ first_search_none hb hconv hsm
  intro x
  rw [List.mem_eraseDups, ← root_ms_iff fn.res]
  exact ⟨fn.ms_all hnm x, fn.ms_sub x⟩

def specsMerge405 : List RuleSpec :=
  [ { toks := [.slash, .lit "a".toList, .slash, .lit "b".toList], endpoint := "b".toList, methods := some ["POST".toList] } ]

/-- **`NoMerge` is necessary (negation witness).** With merge_slashes on, the second pass runs on the
merged path and adds the methods of the rules that admit THAT path: `Map([Rule('/a/b', methods=['POST'])])`,
`GET /a//b` raises `MethodNotAllowed(['POST'])` although no rule admits `/a//b` itself, for any method
(`POST /a//b` is redirected to `/a/b`). So "405 exactly when rules admit the path but none for the
method" holds for the path as requested only when it is not subject to slash merging. -/
theorem match_405_iff_nomerge_needed :
    ¬ (∀ (cfg : MapCfg) (specs : List RuleSpec) (m : RMap) (a : Adapter) (p : Str) (meth : Str),
        mkMap cfg specs = some m → ConvOK m.rules → (∀ r ∈ m.rules, r.methodsOK = true) →
        (matchAdapter m a p (some meth) .none none).is405 = true →
        ∃ r ∈ m.rules, admitsPath r (domainPartOf m.cfg a) (pathPart p) = true) := by
  intro H
  have hw : (mkMap {} specsMerge405).any (fun m => (matchAdapter m adapter0 "/a//b".toList (some "GET".toList) .none none).is405 &&
          m.rules.all (fun r => r.methodsOK && r.convTotal &&
            !admitsPath r (domainPartOf m.cfg adapter0) (pathPart "/a//b".toList)) &&
          (matchAdapter m adapter0 "/a//b".toList (some "POST".toList) .none none).isRedirect) = true := by decide +kernel
  obtain ⟨m, hmk, hw⟩ := (Option.any_eq_true _ _).1 hw
  simp only [Bool.and_eq_true, List.all_eq_true, Bool.not_eq_true'] at hw
  obtain ⟨⟨h1, h2⟩, _⟩ := hw
  obtain ⟨r, hr, hadm⟩ := H {} specsMerge405 m adapter0 "/a//b".toList "GET".toList hmk
    (convOK_of_total (fun r hr => (h2 r hr).1.2)) (fun r hr => (h2 r hr).1.1) h1
  rw [(h2 r hr).2] at hadm; cases hadm

-- non-vacuity: `PUT /a/` on a map with `Rule('/a/', methods=['POST'])` is a 405, no merging involved
example : (run {} specsPlain "/a/" "PUT").is405 = true ∧ mergeSlashes (pathPart "/a/".toList) = pathPart "/a/".toList := by
  decide +kernel

/-- **F03b (negation witness).** Counting every admission — also the `noslash` one of a non-strict
branch rule — the "exactly when" fails on the unchanged code:
`Map([Rule('/a/', methods=['POST'])], strict_slashes=False)`: the rule admits `/a` for POST (it is
matched), no rule admits it for GET, yet `GET /a` is `NotFound`, not `MethodNotAllowed`. -/
theorem match_405_full_false :
    ¬ (∀ (cfg : MapCfg) (specs : List RuleSpec) (m : RMap) (a : Adapter) (p : Str) (meth : Str) (q' : Req),
        mkMap cfg specs = some m → ConvOK m.rules → (∀ r ∈ m.rules, r.methodsOK = true) → NoMerge m (pathPart p) →
        (∀ r ∈ m.rules, admits r (reqOf a (some meth) none) (domainPartOf m.cfg a) (pathPart p) = none ∧
            wantsSlash r (domainPartOf m.cfg a) (pathPart p) = false) →
        (∃ r ∈ m.rules, (admits r q' (domainPartOf m.cfg a) (pathPart p)).isSome = true) →
        (matchAdapter m a p (some meth) .none none).is405 = true) := by
  intro H
  have hw : (mkMap { strictSlashes := false } specsF03b).any (fun m => !(matchAdapter m adapter0 "/a".toList (some "GET".toList) .none none).is405 &&
          m.rules.all (fun r => r.methodsOK && r.convTotal &&
            (admits r (reqOf adapter0 (some "GET".toList) none) (domainPartOf m.cfg adapter0) (pathPart "/a".toList)).isNone &&
            !wantsSlash r (domainPartOf m.cfg adapter0) (pathPart "/a".toList)) &&
          m.rules.any (fun r => (admits r ⟨"POST".toList, false⟩ (domainPartOf m.cfg adapter0) (pathPart "/a".toList)).isSome) &&
          decide (mergeSlashes (pathPart "/a".toList) = pathPart "/a".toList)) = true := by decide +kernel
  obtain ⟨m, hmk, hw⟩ := (Option.any_eq_true _ _).1 hw
  simp only [Bool.and_eq_true, List.all_eq_true, List.any_eq_true, Bool.not_eq_true', decide_eq_true_eq,
    Option.isNone_iff_eq_none] at hw
  obtain ⟨⟨⟨h1, h2⟩, r, hr, h3⟩, h4⟩ := hw
  have := H _ specsF03b m adapter0 "/a".toList "GET".toList ⟨"POST".toList, false⟩ hmk
    (convOK_of_total (fun r hr => (h2 r hr).1.1.2)) (fun r hr => (h2 r hr).1.1.1) (.inr h4)
    (fun r hr => ⟨(h2 r hr).1.2, (h2 r hr).2⟩) ⟨r, hr, h3⟩
  rw [h1] at this; cases this

/-- **slash_redirect_sound.** The matcher asks for the trailing-slash redirect only when some strict
branch rule of the map, fit for the request method and protocol, admits the path but for its final
slash (and `MapAdapter.match` then redirects to exactly path + '/', C12.slash_redirect_on_bound_host). -/
theorem slash_redirect_sound {cfg : MapCfg} {specs : List RuleSpec} {m : RMap} (hm : mkMap cfg specs = some m)
    (q : Req) (dom path : Str) (h : (dfs q m.root (segments dom path) []).res.isSlash = true) :
    ∃ r ∈ m.rules, r.spec.buildOnly = false ∧ ruleOK q r = true ∧ wantsSlash r dom path = true := by
  rw [(mkMap_built hm).root_eq, Res.isSlash_iff] at h
  obtain ⟨r, hmem, hbo, hok, hst, vs, hw⟩ := root_slash h
  exact ⟨r, hmem, hbo, hok, wantsSlash_iff.2 ⟨hst, vs, hw⟩⟩

def specsF03c : List RuleSpec :=
  [ { toks := [.slash, .var (.int 2 false none none) "x".toList, .slash], endpoint := "a".toList } ]

-- non-vacuity, and **F03c**: `Map([Rule('/<int(fixed_digits=2):x>/')])`, `/123` asks for the slash although
-- the redirect target `/123/` is `NotFound` — the rule's pattern admits it, its `to_python` does not
-- (the redirect is decided before conversion)
example : (match mkMap {} specsF03c with
    | some m => (dfs ⟨"GET".toList, false⟩ m.root (segments [] "/123".toList) []).res.isSlash &&
                (matchAdapter m adapter0 "/123/".toList none .none none).isNotFound
    | none => false) = true := by decide +kernel

/-- rule `r` admits the request directly: its pattern matches the path as it stands, for the
request method and protocol -/
def admitsDirect (r : Rule) (q : Req) (dom path : Str) : Bool :=
  ruleOK q r && (walkVia .direct r.parts (segments dom path)).isSome

/-- **match_priority.** The rule `MapAdapter.match` returns is minimal in the specificity order among
the rules that admit the request directly: no such rule is strictly more specific (`specLt`: at the
first part where the two rules differ, a literal part beats a variable one, and of two variable parts
the lighter `Weighting` wins). No hypothesis on the map: this holds for arbitrary rule lists and
whatever the insertion order was. -/
theorem match_priority {cfg : MapCfg} {specs : List RuleSpec} {m : RMap} (hm : mkMap cfg specs = some m)
    (a : Adapter) (pathInfo : Str) (method : Option Str) (qa : QueryArgs) (ws : Option Bool)
    {r : Rule} {vals : List (Str × Value)}
    (h : matchAdapter m a pathInfo method qa ws = .matched r vals) :
    ∀ r' ∈ m.rules, r'.spec.buildOnly = false →
      admitsDirect r' (reqOf a method ws) (domainPartOf m.cfg a) (pathPart pathInfo) = true →
      specLt r'.parts r.parts = false := by
  obtain ⟨vs, hfound, _⟩ := matchSM_ok_inv (matchAdapter_matched_inv h)
  rw [(mkMap_built hm).root_eq] at hfound
  intro r' hr' hbo' hadm
  simp only [admitsDirect, Bool.and_eq_true] at hadm
  obtain ⟨w, hw⟩ := Option.isSome_iff_exists.1 hadm.2
  exact root_priority hfound hr' hbo' hadm.1 (by nofun) hw

def specsPrio : List RuleSpec :=
  [ { toks := [.slash, .var (.string 1 none none) "s".toList], endpoint := "s".toList },
    { toks := [.slash, .var .path "p".toList], endpoint := "p".toList },
    { toks := [.slash, .var (.int 0 false none none) "i".toList], endpoint := "i".toList },
    { toks := [.slash, .lit "12".toList], endpoint := "l".toList } ]

-- non-vacuity: on `/12` all four rules admit the path directly; the literal rule (index 3) is returned
example : (match mkMap {} specsPrio with
    | some m =>
      (match matchAdapter m adapter0 "/12".toList none .none none with
       | .matched r _ => r.idx == 3
       | _ => false) &&
      m.rules.all (fun r' => admitsDirect r' (reqOf adapter0 none none) (domainPartOf m.cfg adapter0) (pathPart "/12".toList))
    | none => false) = true := by decide +kernel

/-- **literal_beats_variable.** If two rules share their first parts and then one has a literal part
where the other has a variable part, the one with the literal is strictly more specific; hence
(by `match_priority`) when both admit the request directly, the variable rule is never the one returned. -/
theorem literal_beats_variable (pre : List Part) (c : Str) (p : Part) (hp : p.isDyn = true) (t1 t2 : List Part) :
    specLt (pre ++ .static c :: t1) (pre ++ p :: t2) = true := by
  cases p with
  | static _ => cases hp
  | dyn a k b f sf w => rw [specLt_append_left, specLt_cons_ne (by nofun)]; rfl

theorem literal_beats_variable_match {cfg : MapCfg} {specs : List RuleSpec} {m : RMap} (hm : mkMap cfg specs = some m)
    (a : Adapter) (pathInfo : Str) (method : Option Str) (qa : QueryArgs) (ws : Option Bool)
    {r : Rule} {vals : List (Str × Value)}
    (h : matchAdapter m a pathInfo method qa ws = .matched r vals)
    {r1 : Rule} (hr1 : r1 ∈ m.rules) (hbo : r1.spec.buildOnly = false)
    (hadm : admitsDirect r1 (reqOf a method ws) (domainPartOf m.cfg a) (pathPart pathInfo) = true)
    (pre : List Part) (c : Str) (p : Part) (hp : p.isDyn = true) (t1 t2 : List Part)
    (h1 : r1.parts = pre ++ .static c :: t1) : r.parts ≠ pre ++ p :: t2 := by
  intro h2
  have := match_priority hm a pathInfo method qa ws h r1 hr1 hbo hadm
  rw [h1, h2, literal_beats_variable pre c p hp t1 t2] at this
  cases this

/-- **narrow_beats_broad.** With the live converter weights (int = float = 50 < string = any = uuid = 100
< path = 200; `conv_table_matches_model`), of two variable parts with the same literal decoration the
one with the narrower converter is strictly more specific: int/float before string before path. -/
theorem narrow_beats_broad (pre : List Part) (c1 c2 : Conv) (hw : c1.weight < c2.weight)
    (a1 b1 a2 b2 : Str) (f1 s1 f2 s2 : Bool) (n : Int) (st : List (Int × Int)) (t1 t2 : List Part) :
    specLt (pre ++ .dyn a1 c1.kind b1 f1 s1 ⟨n, st, -1, [(c1.weight : Int)]⟩ :: t1)
           (pre ++ .dyn a2 c2.kind b2 f2 s2 ⟨n, st, -1, [(c2.weight : Int)]⟩ :: t2) = true := by
  -- the two parts differ (in their weights), so they decide, by the argument weights alone
  have hne : Part.dyn a1 c1.kind b1 f1 s1 ⟨n, st, -1, [(c1.weight : Int)]⟩ ≠
             Part.dyn a2 c2.kind b2 f2 s2 ⟨n, st, -1, [(c2.weight : Int)]⟩ := by
    intro h; injection h with _ _ _ _ _ hw'; injection hw' with _ _ _ hl; injection hl with hh; omega
  rw [specLt_append_left, specLt_cons_ne hne, partLt, weighting_lt_same_statics]
  simp [listLt, intLt]
  omega

def specsF03d : List RuleSpec :=
  [ { toks := [.slash, .var .path "p".toList, .slash, .lit "edit".toList], endpoint := "p".toList },
    { toks := [.slash, .var (.string 1 none none) "s".toList, .slash, .lit "edit".toList], endpoint := "s".toList },
    { toks := [.slash, .var (.int 0 false none none) "i".toList, .slash, .lit "edit".toList], endpoint := "i".toList } ]

/-- **F03d (witness).** `narrow_beats_broad` needs "the same literal decoration": literal text after a
path converter belongs to the same slash-consuming part and counts as a static weight, so on the
unchanged code `Rule('/<path:p>/edit')` is returned for `/12/edit` although `Rule('/<string:s>/edit')`
and `Rule('/<int:i>/edit')` admit it directly — against the documented "int/float before string
before path". `match_priority` is about the Weighting order the code implements, under which the path
part (one static weight) is the lightest. -/
theorem path_with_literal_tail_beats_narrower :
    (match mkMap {} specsF03d with
     | some m =>
       (match matchAdapter m adapter0 "/12/edit".toList none .none none with
        | .matched r vals => r.idx == 0 && vals == [("p".toList, Value.str "12".toList)]
        | _ => false) &&
       m.rules.all (fun r' => admitsDirect r' (reqOf adapter0 none none) (domainPartOf m.cfg adapter0) (pathPart "/12/edit".toList)) &&
       (match m.rules with
        | [rp, rs, ri] => specLt rp.parts rs.parts && specLt rp.parts ri.parts
        | _ => false)
     | none => false) = true := by decide +kernel

/-- the class order used by `narrow_beats_broad`, from the model's table (tied to the live one above) -/
theorem conv_weight_order (fx : Nat) (sg sg' : Bool) (mn mx : Option Int) (fmn fmx : Option Dec)
    (smin : Nat) (smax slen : Option Nat) :
    (Conv.int fx sg mn mx).weight < (Conv.string smin smax slen).weight ∧
    (Conv.float sg' fmn fmx).weight < (Conv.string smin smax slen).weight ∧
    (Conv.string smin smax slen).weight < Conv.path.weight := by
  simp [Conv.weight]

/-- does rule `r` admit the input directly for the request? -/
def directly (q : Req) (input : List Str) (r : Rule) : Prop :=
  r.spec.buildOnly = false ∧ ruleOK q r = true ∧ (walkVia .direct r.parts input).isSome = true

instance (q : Req) (input : List Str) (r : Rule) : Decidable (directly q input r) := by
  unfold directly; infer_instance

/-- **search_none_insertion_order_irrelevant.** Whether the search finds nothing at all (the source of
`NotFound` / `MethodNotAllowed`) does not depend on the order in which the rules were added to the
matcher: for any two insertion orders of the same rules, one search is `None` iff the other is. -/
theorem search_none_insertion_order_irrelevant {rules rules' : List Rule} (hperm : rules.Perm rules')
    (q : Req) (input : List Str) :
    (dfs q (buildRoot rules) input []).res = .none ↔ (dfs q (buildRoot rules') input []).res = .none := by
  -- `None` is equivalent to a statement about membership only
  rw [root_none_iff, root_none_iff]
  exact ⟨fun h r hr => h r (hperm.mem_iff.2 hr), fun h r hr => h r (hperm.mem_iff.1 hr)⟩

/-- **insertion_order_irrelevant_partial.** For two insertion orders of the same strict rules: if the
specificity order decides between any two different rules that admit the input directly (no ties),
both searches return the same rule with the same groups. -/
theorem insertion_order_irrelevant_partial {rules rules' : List Rule} (hperm : rules.Perm rules')
    (hstrict : ∀ r ∈ rules, r.strict = true) (q : Req) (input : List Str)
    (hdecisive : ∀ r1 ∈ rules, ∀ r2 ∈ rules, r1 ≠ r2 → directly q input r1 → directly q input r2 →
      specLt r1.parts r2.parts = true ∨ specLt r2.parts r1.parts = true)
    {r r' : Rule} {vs vs' : List Str}
    (h1 : (dfs q (buildRoot rules) input []).res = .found r vs)
    (h2 : (dfs q (buildRoot rules') input []).res = .found r' vs') : r = r' ∧ vs = vs' := by
  -- both results are direct admissions by rules of the same set
  obtain ⟨hm1, hbo1, hok1, hw1⟩ := root_found_strict hstrict h1
  obtain ⟨hm2, hbo2, hok2, hw2⟩ := root_found_strict (fun x hx => hstrict x (hperm.mem_iff.2 hx)) h2
  have hd1 : directly q input r := ⟨hbo1, hok1, by rw [hw1]; rfl⟩
  have hd2 : directly q input r' := ⟨hbo2, hok2, by rw [hw2]; rfl⟩
  by_cases hrr : r = r'
  · subst hrr
    rw [hw1] at hw2
    exact ⟨rfl, by injection hw2⟩
  · exfalso
    -- neither result is beaten by the other, against the tie hypothesis
    rcases hdecisive r hm1 r' (hperm.mem_iff.2 hm2) hrr hd1 hd2 with h | h
    · have := root_priority h2 (hperm.mem_iff.1 hm1) hbo1 hok1 (by nofun) hw1
      rw [h] at this; cases this
    · have := root_priority h1 (hperm.mem_iff.2 hm2) hbo2 hok2 (by nofun) hw2
      rw [h] at this; cases this

-- non-vacuity: the four rules of `specsPrio` (string, path, int, literal `12`) are strict and, on `/12`,
-- all admit the input directly; the specificity order decides every pair
example : (let rules := (bindRules {} specsPrio).getD []
    let q : Req := ⟨"GET".toList, false⟩
    let input := segments [] "/12".toList
    rules.length = 4 ∧ (∀ r ∈ rules, r.strict = true ∧ directly q input r) ∧
    (∀ r1 ∈ rules, ∀ r2 ∈ rules, r1 ≠ r2 → directly q input r1 → directly q input r2 →
      specLt r1.parts r2.parts = true ∨ specLt r2.parts r1.parts = true)) := by
  decide +kernel

def specsTie : List RuleSpec :=
  [ { toks := [.slash, .var (.string 1 none none) "s".toList], endpoint := "s".toList },
    { toks := [.slash, .var .uuid "u".toList], endpoint := "u".toList } ]

/-- **the tie hypothesis is necessary (negation witness).** Without `hdecisive` the statement is false on
the unchanged code: `/<string:s>` and `/<uuid:u>` have the same weight (100) and the same literal
decoration, so neither is more specific; both admit `/12345678-1234-5678-1234-567812345678`, and the
matcher returns whichever was added first. (Same for two rules with the same pattern, or `<int>` next
to `<float>` where both could match.) -/
theorem insertion_order_irrelevant_full_false :
    ¬ (∀ (rules rules' : List Rule) (q : Req) (input : List Str) (r r' : Rule) (vs vs' : List Str),
        rules.Perm rules' → (∀ x ∈ rules, x.strict = true) →
        (dfs q (buildRoot rules) input []).res = .found r vs →
        (dfs q (buildRoot rules') input []).res = .found r' vs' → r = r') := by
  intro H
  let rules := (bindRules {} specsTie).getD []
  let q : Req := ⟨"GET".toList, false⟩
  let input := segments [] "/12345678-1234-5678-1234-567812345678".toList
  have hw : (match (dfs q (buildRoot rules) input []).res, (dfs q (buildRoot rules.reverse) input []).res with
      | .found r _, .found r' _ => r.idx == 0 && r'.idx == 1 && rules.all (·.strict)
      | _, _ => false) = true := by decide +kernel
  cases h1 : (dfs q (buildRoot rules) input []).res with
  | none => simp [h1] at hw
  | slash => simp [h1] at hw
  | found r vs =>
    cases h2 : (dfs q (buildRoot rules.reverse) input []).res with
    | none => simp [h1, h2] at hw
    | slash => simp [h1, h2] at hw
    | found r' vs' =>
      simp only [h1, h2, Bool.and_eq_true, beq_iff_eq, List.all_eq_true] at hw
      have := H rules rules.reverse q input r r' vs vs' (List.reverse_perm rules).symm (fun x hx => hw.2 x hx) h1 h2
      rw [this] at hw
      omega

-- OPEN: insertion_order_irrelevant at full strength — "for rule lists that are permutations of each
-- other and have pairwise distinct part keys where they overlap, `matchSM` is equal". As stated it is FALSE
-- (`insertion_order_irrelevant_full_false`: two different parts of equal weight are a genuine tie that insertion
-- order breaks). Proved above, for arbitrary permutations of the insertion order: the search is `None` for one
-- order iff for the other (hence NotFound / 405 by the characterisations, which mention membership only), and a
-- found rule and its groups are the same whenever the specificity order decides between the directly admitting
-- rules (strict rules). Still missing: that one order cannot answer `SlashRequired` where the other finds a rule, and
-- the non-strict admission forms. Where the slash probe and the extra-slash admissions stand among the attempts of
-- `_match` is known (`cands_sorted`; at the root of a rule list `root_first` for every attempt, the probe included, and
-- `root_priority` for a found rule, `Lemmas/RoutingSearch`): what is missing is the tie hypothesis stated for all
-- three kinds of attempt and the theorem drawn from it; and the bookkeeping that `mkMap` numbers rules by position.
-- The orthogonal half of "independent of insertion order" is in `Props/C03L.lean`: the weight sort itself is in force
-- whenever a thread reads the matcher (all interleavings of `Map.update` / `Map.add`).

end Wz.Props.C03
