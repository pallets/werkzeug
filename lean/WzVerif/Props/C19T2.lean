/-
C19T2 — the translated code against the model, second part (C19T: `DechunkedInput`; here: the request side of the
handler): `werkzeug.serving.WSGIRequestHandler.make_environ` (up to the TLS
client-certificate lookup) *as regenerated from the source* by `tools/py2lean.py`
(`Gen/PyFns_MakeEnviron.lean`, rewritten on every check run) equals the hand-written model the C19
theorems are about (`Model/DevServer.lean` `makeEnviron`, `Model/Chunked.lean` `foldHeaders`), with no
hypothesis on the inputs: the request target split (the `//host/path` repair, `unquote`, the WSGI
encoding dance), the twelve text-valued base entries, the header loop (names with `_` dropped,
`upper().replace("-", "_")`, CRLF removed, `HTTP_` prefix, comma-joining of repeated names,
CONTENT_TYPE / CONTENT_LENGTH without prefix), the `Transfer-Encoding: chunked` test that sets
`wsgi.input_terminated`, and `HTTP_HOST` from an absolute request target. `urlsplit` / `unquote`
(urllib), the TLS flag and the addresses are parameters; non-text entries of the environ are left out.
Two C19 theorems are restated on the translated function.
-/
import WzVerif.Lemmas.PyFnsEq_MakeEnviron
import WzVerif.Props.C19
namespace Wz.Props.C19T2
open Wz Wz.Pre Wz.Chunked Wz.DevServer Wz.Gen.PyFns_MakeEnviron Wz.PyFnsEq.MakeEnviron

/-- `key.upper().replace("-", "_")` as computed by the prelude (`upper` = ASCII upper-casing, `replace` =
the general substring replacement) is the model's `envName`, for every header name -/
theorem replace_upper_eq_envName (k : List Char) :
    Pre.replace (Pre.upper k) ['-'] ['_'] = envName k :=
  PyFnsEq.MakeEnviron.replace_upper_eq_envName k

/-- `value.replace("\r\n", "")` as computed by the prelude's general left-to-right, non-overlapping
substring replacement is the model's `dropCrlf`, for every header value -/
theorem replace_crlf_eq_dropCrlf (v : List Char) :
    Pre.replace v ['\r', '\n'] [] = dropCrlf v :=
  PyFnsEq.MakeEnviron.replace_crlf_eq_dropCrlf v

/-- **one iteration**: on an environ that consists of a header-free block `base` (no key starts with
`HTTP_`, none is `CONTENT_TYPE` / `CONTENT_LENGTH`; its keys need not even be distinct) followed by header
entries `e` with distinct keys, one iteration of the loop of the Python code leaves `base` untouched and
does to `e` exactly what the model's `foldHeader` does - skip on `_`, `CONTENT_*` overwritten, `HTTP_*`
comma-joined onto the previous value -/
theorem stepT_append (base e : Dict) (h : List Char × List Char) (hb : HeaderFree base) (hn : (keys e).Nodup) :
    stepT (base ++ e) h = base ++ foldHeader e h :=
  PyFnsEq.MakeEnviron.stepT_append base e h hb hn

/-- none of the twelve base keys can be written by the header loop -/
theorem baseOf_headerFree (tls : Bool) (ra sn sp sv : List Char) (E : Environ) :
    HeaderFree (baseOf tls ra sn sp sv E) :=
  baseEntries_headerFree tls ra sn sp sv _ _ _ _ _

/-- **the header loop** `for key, value in self.headers.items():` of `make_environ`, as translated from
the current source, never returns from inside the loop and never raises - in particular the `KeyError`
arm of `environ[key]` is unreachable, the read being guarded by `key in environ` - and ends with the
environ folded by `stepT`; for every header list and every starting environ, whatever the other
parameters are -/
theorem loop1_eq_foldl urlsplit unquote tls ra sn sp sv headers (hs : List (List Char × List Char)) (environ : Dict) :
    make_environ.loop1 urlsplit unquote tls ra sn sp sv headers hs environ = .fall (hs.foldl stepT environ) :=
  PyFnsEq.MakeEnviron.loop1_eq_foldl urlsplit unquote tls ra sn sp sv headers hs environ

/-- **the header loop against the model's**: started on any dict `base` none of whose keys starts with
`HTTP_` or is `CONTENT_TYPE` / `CONTENT_LENGTH` (as the twelve base entries: `baseEntries_headerFree`), the
translated loop ends, without returning or raising, with `base` unchanged followed by exactly the entries
the model's `foldHeaders` computes from the empty env, in the same order -/
theorem loop1_from_base urlsplit unquote tls ra sn sp sv headers (hs : List (List Char × List Char)) (base : Dict)
    (hb : HeaderFree base) :
    make_environ.loop1 urlsplit unquote tls ra sn sp sv headers hs base = .fall (base ++ foldHeaders hs) := by
  rw [loop1_eq_foldl, foldl_stepT_base hb]

/-- **`make_environ`, as translated from the current source, is the model's `makeEnviron`.** With
`urlsplit` / `unquote` instantiated by the model's (`urlsplitOf`, `unquoteOf`), for every TLS flag, peer
address, server name / port / version, header list, request target, method and protocol version:
when the model answers `none` (urlsplit refuses the target) the translated function raises `ValueError`
from its first statement; otherwise it does not raise and answers the dict that consists of the twelve
base entries - written with the model's `method`, `pathInfo`, `query`, `rawUri`, `protocol` - followed by
exactly the model's header env `E.headers` in the same order (`HTTP_HOST` overridden by the authority of
an absolute-form target), together with the model's `terminated` flag. No hypothesis on the inputs. -/
theorem make_environ_eq (tls : Bool) (ra sn sp sv : List Char) (headers : List (List Char × List Char))
    (path command version : List Char) :
    make_environ urlsplitOf unquoteOf tls ra sn sp sv headers path command version =
      match makeEnviron command path version headers with
      | none => .error "ValueError"
      | some E => .ok (baseOf tls ra sn sp sv E ++ E.headers, E.terminated) :=
  PyFnsEq.MakeEnviron.make_environ_eq tls ra sn sp sv headers path command version

/-- **the only exception of the translated part of `make_environ` is the one `urlsplit` raises**, for
arbitrary `urlsplit` / `unquote` collaborators and all other inputs: the function raises `e` exactly when
`urlsplit(self.path)` raises `e`; neither `environ[key]` in the header loop nor anything else can raise -/
theorem make_environ_error_iff
    (us : List Char → Except String (List Char × List Char × List Char × List Char)) (uq : List Char → List Char)
    (tls : Bool) (ra sn sp sv : List Char) (headers : List (List Char × List Char))
    (path command version : List Char) (e : String) :
    make_environ us uq tls ra sn sp sv headers path command version = .error e ↔ us path = .error e := by
  rw [make_environ_spec]
  cases us path <;> simp [Except.map]

/-- **what an application reads from the translated environ is what the model says**: when the model
answers `E`, the translated function answers a dict `d` (and the flag `E.terminated`) in which
`d.get("REQUEST_METHOD")`, `PATH_INFO`, `QUERY_STRING`, `SERVER_PROTOCOL`, `REQUEST_URI`, `RAW_URI` are the
model's `method`, `pathInfo`, `query`, `protocol`, `rawUri`, `rawUri`, and for every key that starts with
`HTTP_` or is `CONTENT_TYPE` / `CONTENT_LENGTH`, `d.get(key)` is the lookup in the model's header env -/
theorem make_environ_reads (tls : Bool) (ra sn sp sv : List Char) (headers : List (List Char × List Char))
    (path command version : List Char) (E : Environ)
    (h : makeEnviron command path version headers = some E) :
    ∃ d, make_environ urlsplitOf unquoteOf tls ra sn sp sv headers path command version = .ok (d, E.terminated) ∧
      Pre.dictGet? d "REQUEST_METHOD".toList = some E.method ∧
      Pre.dictGet? d "PATH_INFO".toList = some E.pathInfo ∧
      Pre.dictGet? d "QUERY_STRING".toList = some E.query ∧
      Pre.dictGet? d "SERVER_PROTOCOL".toList = some E.protocol ∧
      Pre.dictGet? d "REQUEST_URI".toList = some E.rawUri ∧
      Pre.dictGet? d "RAW_URI".toList = some E.rawUri ∧
      (∀ k, isHeaderKey k = true → Pre.dictGet? d k = Env.get E.headers k) := by
  have hk : ∀ k, isHeaderKey k = true →
      Pre.dictGet? (baseOf tls ra sn sp sv E ++ E.headers) k = Env.get E.headers k := fun k hk => by
    rw [dictGet?_eq_get, get_append _ _ _ ((baseOf_headerFree tls ra sn sp sv E).not_mem hk)]
  refine ⟨baseOf tls ra sn sp sv E ++ E.headers, by rw [make_environ_eq, h], ?_⟩
  revert hk
  unfold baseOf baseEntries
  repeat rw [String.toList_ofList]
  exact fun hk => ⟨rfl, rfl, rfl, rfl, rfl, rfl, hk⟩

/-- C19 **chunked_sets_terminated** on the translated function: whenever the regenerated
`make_environ` returns, `wsgi.input_terminated` is set exactly when the folded `Transfer-Encoding` value,
stripped and lower-cased, is `chunked`; a single dash-named `Transfer-Encoding: chunked` header (any
letter case) sets it, no such header leaves it unset -/
theorem chunked_sets_terminated_translated (tls : Bool) (ra sn sp sv : List Char)
    (headers : List (List Char × List Char)) (path command version : List Char) (d : Dict) (t : Bool)
    (h : make_environ urlsplitOf unquoteOf tls ra sn sp sv headers path command version = .ok (d, t)) :
    (t = isChunkedRequest (foldHeaders headers)) ∧
    (∀ v, valuesFor "TRANSFER_ENCODING".toList headers = [v] → lowerStr (Py.strip v) = "chunked".toList →
      t = true) ∧
    (valuesFor "TRANSFER_ENCODING".toList headers = [] → t = false) := by
  obtain ⟨E, hm, -, rfl⟩ := make_environ_ok h
  exact Props.C19.chunked_sets_terminated command path version headers E hm

/-- C19 **header_folding** on the translated function: whenever the regenerated `make_environ` returns
the dict `d`, then for every environ name `k` other than `CONTENT_TYPE` / `CONTENT_LENGTH` / `HOST`
(`HTTP_HOST` may be overridden by an absolute-form target), `d.get("HTTP_" + k)` is absent when no
dash-named header maps to `k`, and otherwise the first such value followed by `"," + value` for each
later one (values with `\r\n` removed) -/
theorem header_folding_translated (tls : Bool) (ra sn sp sv : List Char)
    (headers : List (List Char × List Char)) (path command version : List Char) (d : Dict) (t : Bool)
    (h : make_environ urlsplitOf unquoteOf tls ra sn sp sv headers path command version = .ok (d, t))
    (k : List Char) (hk : isContentKey k = false) (hh : k ≠ "HOST".toList) :
    Pre.dictGet? d ("HTTP_".toList ++ k) =
      match valuesFor k headers with
      | [] => none
      | v :: vs => some (v ++ vs.flatMap (fun x => ',' :: x)) := by
  obtain ⟨E, hm, rfl, -⟩ := make_environ_ok h
  rw [dictGet?_eq_get, get_append _ _ _ ((baseOf_headerFree tls ra sn sp sv E).not_mem (isHeaderKey_http k)),
    makeEnviron_headers_get hm fun e => hh (List.append_cancel_left e)]
  exact Props.C19.header_folding headers k hk


end Wz.Props.C19T2
