/-
C11 — conditional and range responses are sound.
Property theorems, proved from the lemma files: the decision table of `make_conditional` that the status and response theorems cite
(`makeConditionalStatus_eq`, `isResourceModified_ignore` / `_ifRange`, `processRangeRequest_eq`, `respond_*`) and the
range wrapper on byte lists in Lemmas/Conditional.lean, entity-tag lists as header text in Lemmas/EtagText.lean.
-/
import WzVerif.Lemmas.Conditional
import WzVerif.Lemmas.EtagText
import WzVerif.Gen.RangeTbl
import WzVerif.Gen.EtagTbl
import WzVerif.Gen.CondConsts
namespace Wz.Props.C11
open Wz Wz.Cond

def cube : List (Option Int × Option Int × Option Int) :=
  Gen.RangeTbl.vals.flatMap fun a => Gen.RangeTbl.vals.flatMap fun b => Gen.RangeTbl.vals.map fun c => (a, b, c)

/-- The live `is_byte_range_valid` and the model agree on the whole cube
`{None, -1, …, 6}³` (729 rows; `decide` over the regenerated table — a flipped inequality or sign
in the function changes a row). -/
theorem byte_range_valid_table_agrees :
    (cube.map fun (a, b, c) => isByteRangeValid a b c) = Gen.RangeTbl.byteRangeValid := by
  decide +kernel

/-- The live `Range.range_for_length` and the model agree for every `(begin, end)` pair with
components in `-1..6` / `None` that the `Range` constructor accepts and every length `None, 0..6`. -/
theorem range_for_length_table_agrees :
    Gen.RangeTbl.rangeForLength.all
      (fun (row : (Int × Option Int) × Option Int × Option (Int × Int)) =>
        rangeForLength ⟨bytesUnit, [row.1]⟩ row.2.1 == row.2.2) = true := by
  decide +kernel

/-- "not modified by date": both dates present and `last_modified`, floored to whole seconds, is not
later than the client's date -/
def dateNotModified (since : Option Int) (lm : Option (Int × Nat)) : Prop :=
  ∃ ms l, since = some ms ∧ lm = some l ∧ l.1 ≤ ms

/-- the documented condition for "not modified" (no `If-Range` evaluation): when the response
carries an entity tag `e`, `If-Match` (strong comparison, honouring `*`) decides if present, else
`If-None-Match` (weak comparison) decides if present — taking precedence over the date; otherwise
`If-Modified-Since` at one-second resolution. -/
def NotModifiedSpec (r : CondReq) (etag : Option Str) (lm : Option (Int × Nat)) : Prop :=
  match etag.bind unquoteEtag with
  | some (e, _) =>
    if (parseEtags r.im).truthy then ¬ (parseEtags r.im).contains e = true
    else if (parseEtags r.inm).truthy then (parseEtags r.inm).containsWeak e = true
    else dateNotModified r.ims lm
  | none => dateNotModified r.ims lm

theorem dateNotModified_iff (since : Option Int) (lm : Option (Int × Nat)) :
    dateUnmodified since (lm.map (·.1)) = true ↔ dateNotModified since lm := by
  unfold dateNotModified dateUnmodified
  cases since <;> cases lm <;> simp

/-- `not_modified_sound` and `not_modified_complete` in one statement: `is_resource_modified`
(with `ignore_if_range=True`, as `make_conditional` calls it for the 304/412 decision) answers
"not modified" exactly under the documented condition. -/
theorem not_modified_iff (r : CondReq) (etag : Option Str) (lm : Option (Int × Nat)) :
    isResourceModified r etag lm true = false ↔ NotModifiedSpec r etag lm := by
  have hd := dateNotModified_iff r.ims lm
  rw [isResourceModified_ignore _ _ _ _ (.inl rfl)]
  unfold validatorsMatch NotModifiedSpec
  cases hu : etag.bind unquoteEtag with
  | none => simpa using hd
  | some p =>
    obtain ⟨e, w⟩ := p
    cases him : (parseEtags r.im).truthy <;> cases hinm : (parseEtags r.inm).truthy <;> simp [hd]

example : NotModifiedSpec { inm := some "W/\"abc\"".toList } (some "\"abc\"".toList) none :=
  (not_modified_iff _ _ _).mp (by decide +kernel)

/-- One-second resolution: the sub-second part of `last_modified` never influences the answer. -/
theorem microseconds_irrelevant (r : CondReq) (etag : Option Str) (s : Int) (m1 m2 : Nat)
    (ign : Bool) :
    isResourceModified r etag (some (s, m1)) ign = isResourceModified r etag (some (s, m2)) ign := by
  have key : ∀ r : CondReq, isResourceModified r etag (some (s, m1)) true = isResourceModified r etag (some (s, m2)) true :=
    fun r => by rw [isResourceModified_ignore _ _ _ _ (.inl rfl), isResourceModified_ignore _ _ _ _ (.inl rfl)]; rfl
  cases ign with
  | true => exact key r
  | false =>
    cases hr : r.range with
    | none => rw [isResourceModified_ignore _ _ _ _ (.inr hr), isResourceModified_ignore _ _ _ _ (.inr hr)]; rfl
    | some v =>
      rw [isResourceModified_ifRange _ _ _ (by rw [hr]; rfl), isResourceModified_ifRange _ _ _ (by rw [hr]; rfl)]
      cases parseIfRangeHeader r.ifRange r.ifRangeDate with
      | etag ie => rfl
      | _ => exact key _

/-- `If-None-Match` takes precedence over `If-Modified-Since` when the response has an ETag: with a
non-empty `If-None-Match` (and no `If-Match`) the dates do not matter. -/
theorem if_none_match_precedence (r : CondReq) (et e : Str) (w : Bool)
    (hu : unquoteEtag et = some (e, w)) (hinm : (parseEtags r.inm).truthy = true)
    (him : (parseEtags r.im).truthy = false) (lm : Option (Int × Nat)) :
    isResourceModified r (some et) lm true = !(parseEtags r.inm).containsWeak e := by
  rw [isResourceModified_tagged r hu, validatorsMatch_inm e _ him hinm]

example : unquoteEtag "\"abc\"".toList = some ("abc".toList, false) ∧
    (parseEtags (some "\"x\", W/\"abc\"".toList)).truthy = true ∧
    (parseEtags (some "\"x\", W/\"abc\"".toList)).containsWeak "abc".toList = true := by
  -- a literal's `toList` is rewritten to the list of its characters: evaluating it decodes the bytes
  repeat rewrite [String.toList_ofList]
  decide +kernel

/-- Without an ETag on the response the date alone decides, at one-second resolution and with `≤`. -/
theorem date_only (r : CondReq) (ms s : Int) (m : Nat) (h : r.ims = some ms) :
    isResourceModified r none (some (s, m)) true = false ↔ s ≤ ms := by
  rw [isResourceModified_date r none _ (.inl rfl), h]
  simp [dateUnmodified]

/-- `If-Match: *` accepts every current entity tag (repaired F11b): no 412. -/
theorem if_match_star_admits (r : CondReq) (et e : Str) (w : Bool)
    (hu : unquoteEtag et = some (e, w)) (him : r.im = some ['*']) (lm : Option (Int × Nat)) :
    isResourceModified r (some et) lm true = true := by
  have hs : parseEtags r.im = ⟨[], [], true⟩ := by rw [him, parseEtags_star]
  rw [isResourceModified_tagged r hu, validatorsMatch_im e _ (by rw [hs]; rfl), hs]
  rfl

/-- "A 304 always when the validators match", on header text: `If-None-Match: "tag"` against a
response with `ETag: "tag"` is not modified — for every tag free of `"` and line feeds, the empty
tag `""` included (F11e, repaired by a63ec67) — whatever the dates say. -/
theorem inm_self_match (tag : Str) (hc : CleanTag tag) (ims : Option Int) (lm : Option (Int × Nat)) :
    isResourceModified { inm := some (quoteTag tag), ims := ims } (some (quoteTag tag)) lm true = false := by
  rw [if_none_match_precedence _ (quoteTag tag) tag false (unquoteEtag_quoted tag)]
  · simp [parseEtags_quoted tag hc, ETags.containsWeak, ETags.contains]
  · simp [parseEtags_quoted tag hc, ETags.truthy]
  · exact parseEtags_none_truthy

/-- regression input of F11e: the empty entity tag matches itself -/
theorem inm_self_match_empty_tag :
    isResourceModified { inm := some "\"\"".toList } (some "\"\"".toList) none true = false := by
  repeat rewrite [String.toList_ofList]
  decide +kernel

example : CleanTag "abc".toList := by
  intro c hc
  have : c = 'a' ∨ c = 'b' ∨ c = 'c' := by simpa using hc
  rcases this with rfl | rfl | rfl <;> decide +kernel

/-- `If-Range` with an entity tag (and a `Range` header, `ignore_if_range=False`): the range request
is processable exactly when the tag — weakness dropped — *is* the response's tag (plain equality of
the unquoted texts since 9be10e4, repaired F11g); dates and the other validators are not consulted. -/
theorem if_range_etag (r : CondReq) (et e ie v : Str) (w w' : Bool)
    (hr : r.range.isSome = true) (hv : r.ifRange = some v) (hvne : v ≠ [])
    (hd : looksLikeEtag v = true ∨ r.ifRangeDate = none) (hiv : unquoteEtag v = some (ie, w'))
    (hu : unquoteEtag et = some (e, w)) (lm : Option (Int × Nat)) :
    isResourceModified r (some et) lm false = !(ie == e) := by
  rw [isResourceModified_ifRange _ _ _ hr, hv, parseIfRangeHeader_tag v hvne _ hd, hiv]
  simp [hu]

/-- A quoted (or `W/`-prefixed quoted) `If-Range` value is an entity tag even when it spells a date
that `parse_date` would accept (31f8ea0):
the date parser's answer is not consulted. -/
theorem if_range_quoted_is_etag (value : Str) (d1 d2 : Option Int) (h : looksLikeEtag value = true) :
    parseIfRangeHeader (some value) d1 = parseIfRangeHeader (some value) d2 := by
  simp [parseIfRangeHeader, h]

/-- the reported input: `If-Range: "Wed, 21 Oct 2015 07:28:00 GMT"` (with the quotes) against
`ETag: "abc"` does not validate although the quoted text is the resource's date -/
def quotedDateRequest : CondReq :=
  { range := some "bytes=0-1".toList, ifRange := some "\"Wed, 21 Oct 2015 07:28:00 GMT\"".toList, ifRangeDate := some 1445412480 }

theorem if_range_quoted_date_regression :
    looksLikeEtag "\"Wed, 21 Oct 2015 07:28:00 GMT\"".toList = true ∧
    isResourceModified quotedDateRequest (some "\"abc\"".toList) (some (1445412480, 0)) false = true := by
  repeat rewrite [String.toList_ofList]
  decide +kernel

example : unquoteEtag "W/\"abc\"".toList = some ("abc".toList, true) ∧
    unquoteEtag "\"abc\"".toList = some ("abc".toList, false) := by
  repeat rewrite [String.toList_ofList]
  decide +kernel

/-- `If-Range` with a date: the date replaces `If-Modified-Since` (same `≤`, same one-second
resolution) when the response has no ETag. -/
theorem if_range_date (r : CondReq) (v : Str) (d s : Int) (m : Nat)
    (hr : r.range.isSome = true) (hv : r.ifRange = some v) (hvne : v ≠ [])
    (hnq : looksLikeEtag v = false) (hd : r.ifRangeDate = some d) :
    isResourceModified r none (some (s, m)) false = false ↔ s ≤ d := by
  rw [isResourceModified_ifRange _ _ _ hr, hv, hd, parseIfRangeHeader_date v hvne d hnq]
  exact date_only _ d s m rfl

def exampleIfRangeDate : CondReq :=
  { range := some "bytes=0-1".toList, ifRange := some "x".toList, ifRangeDate := some 100 }

example : looksLikeEtag "x".toList = false ∧
    isResourceModified exampleIfRangeDate none (some (100, 999999)) false = false ∧
    isResourceModified exampleIfRangeDate none (some (101, 0)) false = true := by
  repeat rewrite [String.toList_ofList]
  decide +kernel

/-- An `If-Range` header without a `Range` header is ignored. -/
theorem if_range_without_range_ignored (r : CondReq) (etag : Option Str) (lm : Option (Int × Nat))
    (hr : r.range = none) :
    isResourceModified r etag lm false = isResourceModified r etag lm true := by
  rw [isResourceModified_ignore _ _ _ _ (.inr hr), isResourceModified_ignore _ _ _ _ (.inl rfl)]

/-- shape of the status decision (64fcb6a: preconditions first): for GET/HEAD a not-modified
resource gives 412 / 304 before the `Range` header is looked at -/
theorem status_not_modified (method : Str) (q : CondReq) (r : RespIn) (cl : Option Int) (ar : Bool)
    (hm : method = "GET".toList ∨ method = "HEAD".toList)
    (hnm : isResourceModified q r.etag (lmOf r) true = false) :
    makeConditionalStatus method q r cl ar =
      some (if (parseEtags q.im).truthy then 412 else 304, .notRange) := by
  rw [makeConditionalStatus_eq, (isGetHead_iff method).mpr hm, hnm]; rfl

/-- ... and a modified one is handed to the range logic -/
theorem status_modified (method : Str) (q : CondReq) (r : RespIn) (cl : Option Int) (ar : Bool)
    (hm : method = "GET".toList ∨ method = "HEAD".toList)
    (hmod : isResourceModified q r.etag (lmOf r) true = true) :
    makeConditionalStatus method q r cl ar =
      match processRangeRequest q r cl ar with
      | .unsatisfiable => none
      | .partialContent a b => some (206, .partialContent a b)
      | .notRange => some (200, .notRange) := by
  rw [makeConditionalStatus_eq, (isGetHead_iff method).mpr hm, hmod]
  cases processRangeRequest q r cl ar <;> rfl

/-- a request without validators (no If-None-Match / If-Match / If-Modified-Since) always counts as
modified -/
theorem no_validators_modified (range : Option Str) (etag : Option Str) (lm : Option (Int × Nat)) :
    isResourceModified { range := range } etag lm true = true := by
  rw [isResourceModified_no_tags _ rfl rfl]
  rfl

theorem status_cases (method : Str) (q : CondReq) (r : RespIn) (cl : Option Int) (ar : Bool)
    (st : Nat) (o : RangeOutcome) (h : makeConditionalStatus method q r cl ar = some (st, o)) :
    (st = 200 ∧ o = .notRange) ∨ (∃ a b, st = 206 ∧ o = .partialContent a b ∧
        processRangeRequest q r cl ar = .partialContent a b) ∨
    ((method = "GET".toList ∨ method = "HEAD".toList) ∧
      isResourceModified q r.etag (lmOf r) true = false ∧ o = .notRange ∧
      st = if (parseEtags q.im).truthy then 412 else 304) := by
  rw [makeConditionalStatus_eq] at h
  cases hm : PyFnsEq.MakeConditional.isGetHead method <;> rw [hm] at h
  · cases h; exact Or.inl ⟨rfl, rfl⟩
  · cases hnm : isResourceModified q r.etag (lmOf r) true <;> rw [hnm] at h
    · cases h; exact Or.inr (Or.inr ⟨(isGetHead_iff method).mp hm, rfl, rfl, rfl⟩)
    · cases hp : processRangeRequest q r cl ar <;> rw [hp] at h <;> cases h
      · exact Or.inl ⟨rfl, rfl⟩
      · exact Or.inr (Or.inl ⟨_, _, rfl, rfl, rfl⟩)

/-- A 412 is produced only for GET/HEAD, only when an `If-Match` header with at least one tag was
sent, and — when the response carries an ETag — only when `If-Match` does not accept it (strong
comparison, `*` accepts everything). -/
theorem status_412_only_if (method : Str) (q : CondReq) (r : RespIn) (cl : Option Int) (ar : Bool)
    (o : RangeOutcome) (h : makeConditionalStatus method q r cl ar = some (412, o)) :
    (parseEtags q.im).truthy = true ∧
    ∀ e w, r.etag.bind unquoteEtag = some (e, w) → (parseEtags q.im).contains e = false := by
  obtain ⟨_, hnm, him, _⟩ := status_412_iff.mp h
  refine ⟨him, fun e w he => ?_⟩
  have := (not_modified_iff q r.etag (lmOf r)).mp hnm
  unfold NotModifiedSpec at this
  rw [he] at this
  simp only [him, ↓reduceIte] at this
  simpa using this

example : makeConditionalStatus "GET".toList { im := some "\"b\"".toList } { etag := some "\"a\"".toList }
    none false = some (412, .notRange) := by
  repeat rewrite [String.toList_ofList]
  decide +kernel

/-- A 304 is produced only for GET/HEAD, only without `If-Match` tags, and only under the documented
not-modified condition. -/
theorem status_304_sound (method : Str) (q : CondReq) (r : RespIn) (cl : Option Int) (ar : Bool)
    (o : RangeOutcome) (h : makeConditionalStatus method q r cl ar = some (304, o)) :
    (method = "GET".toList ∨ method = "HEAD".toList) ∧ (parseEtags q.im).truthy = false ∧
    NotModifiedSpec q r.etag (lmOf r) := by
  obtain ⟨hm, hnm, him, _⟩ := status_304_iff.mp h
  exact ⟨(isGetHead_iff method).mp hm, him, (not_modified_iff q r.etag (lmOf r)).mp hnm⟩

example : makeConditionalStatus "HEAD".toList { inm := some "W/\"a\"".toList }
    { etag := some "\"a\"".toList } none false = some (304, .notRange) := by
  repeat rewrite [String.toList_ofList]
  decide +kernel

/-- "A 304 always when the validators match, for GET/HEAD" — at full strength since 64fcb6a
(F11c): whatever `Range` / `If-Range` headers the request carries, whether or not ranges are
accepted and whatever the length, a GET/HEAD whose validators match (documented condition, no
`If-Match` tags) is answered 304. -/
theorem status_304_complete (method : Str) (q : CondReq) (r : RespIn) (cl : Option Int) (ar : Bool)
    (hm : method = "GET".toList ∨ method = "HEAD".toList)
    (him : (parseEtags q.im).truthy = false) (hnm : NotModifiedSpec q r.etag (lmOf r)) :
    makeConditionalStatus method q r cl ar = some (304, .notRange) :=
  status_304_iff.mpr ⟨(isGetHead_iff method).mpr hm, (not_modified_iff q r.etag (lmOf r)).mpr hnm, him, rfl⟩

/-- regression input of F11c: matching If-None-Match together with a Range header -/
theorem status_304_with_range :
    makeConditionalStatus "GET".toList
      { range := some "bytes=0-1".toList, inm := some "\"abc\"".toList }
      { etag := some "\"abc\"".toList } (some 10) true = some (304, .notRange) ∧
    makeConditionalStatus "GET".toList
      { range := some "bogus".toList, inm := some "\"abc\"".toList }
      { etag := some "\"abc\"".toList } (some 10) true = some (304, .notRange) := by
  repeat rewrite [String.toList_ofList]
  decide +kernel

/-- A failing `If-Match` (the response's tag is not accepted) is answered 412 for GET/HEAD, also
when a `Range` header is present. -/
theorem status_412_complete (method : Str) (q : CondReq) (r : RespIn) (cl : Option Int) (ar : Bool)
    (hm : method = "GET".toList ∨ method = "HEAD".toList)
    (him : (parseEtags q.im).truthy = true) (hnm : NotModifiedSpec q r.etag (lmOf r)) :
    makeConditionalStatus method q r cl ar = some (412, .notRange) :=
  status_412_iff.mpr ⟨(isGetHead_iff method).mpr hm, (not_modified_iff q r.etag (lmOf r)).mpr hnm, him, rfl⟩

example : NotModifiedSpec { range := some "bytes=0-1".toList, im := some "\"b\"".toList }
    (some "\"a\"".toList) none := (not_modified_iff _ _ _).mp (by decide +kernel)

/-- Other methods are never made conditional. -/
theorem other_methods_untouched (method : Str) (q : CondReq) (r : RespIn) (cl : Option Int)
    (ar : Bool) (h1 : method ≠ "GET".toList) (h2 : method ≠ "HEAD".toList) :
    makeConditionalStatus method q r cl ar = some (200, .notRange) :=
  makeConditionalStatus_other method q r cl ar
    (Bool.eq_false_iff.mpr fun h => ((isGetHead_iff method).mp h).elim h1 h2)

/-- `range_for_length` is sound: a result `(a, b)` is a non-empty interval inside the resource, and
inside the single requested range: `a = begin`, `b = min(end, length)` for `begin-end`;
`[begin, length)` for an open range; the last `-begin` bytes for a suffix range. -/
theorem rangeForLength_sound (r : Range) (l a b : Int) (h : rangeForLength r (some l) = some (a, b)) :
    0 ≤ a ∧ a < b ∧ b ≤ l ∧ r.units = bytesUnit ∧
    ∃ s e, r.ranges = [(s, e)] ∧
      (∀ e', e = some e' → a = s ∧ b = min e' l) ∧
      (e = none → 0 ≤ s → a = s ∧ b = l) ∧
      (e = none → s < 0 → a = l + s ∧ b = l) := by
  obtain ⟨hu, s, e, hr, he⟩ := (rangeForLength_eq_some_iff r l a b).mp h
  cases e with
  | some e' =>
    obtain ⟨h0, h1, h2, rfl, rfl⟩ := he
    exact ⟨h0, by omega, by omega, hu, _, _, hr, fun _ he' => (by cases he'; exact ⟨rfl, rfl⟩), nofun, nofun⟩
  | none =>
    simp only at he
    refine ⟨?_, ?_, ?_, hu, s, none, hr, nofun, fun _ hs => ?_, fun _ hs => ?_⟩ <;> split at he <;> omega

example : rangeForLength ⟨bytesUnit, [(-3, none)]⟩ (some 10) = some (7, 10) ∧
    rangeForLength ⟨bytesUnit, [(2, some 100)]⟩ (some 10) = some (2, 10) := by decide +kernel

/-- multi-range and foreign-unit headers select nothing: they satisfy the hypothesis `hbad` of `range_416_partial` -/
theorem multi_or_foreign_unit_unsatisfiable (pr : Range) (l : Option Int)
    (h : pr.ranges.length ≠ 1 ∨ pr.units ≠ bytesUnit) : rangeForLength pr l = none := by
  cases l with
  | none => exact rangeForLength_none pr
  | some l =>
    cases hr : rangeForLength pr (some l) with
    | none => rfl
    | some p =>
      obtain ⟨hu, s, e, hs, _⟩ := (rangeForLength_eq_some_iff pr l p.1 p.2).mp hr
      rcases h with h | h
      · rw [hs] at h; exact absurd rfl h
      · exact absurd hu h

/-- `bytes=<first>-<last>` (decimal digit strings, first ≤ last) parses to the half-open range
`[first, last+1)`. -/
theorem parse_range_first_last (d1 d2 : Str) (h1 : IsDigits d1) (h2 : IsDigits d2)
    (hle : digitsVal d1 ≤ digitsVal d2) :
    parseRangeHeader (some (bytesEq ++ (d1 ++ '-' :: d2))) =
      some ⟨bytesUnit, [((digitsVal d1 : Int), some ((digitsVal d2 : Int) + 1))]⟩ := by
  rw [parseRangeHeader_single _ (dash_no_comma h1.2 h2.2), item_first_last d1 d2 h1 h2 hle 0 (by omega) (by omega)]
  rfl

/-- `bytes=<first>-` parses to the open range starting at `first`. -/
theorem parse_range_open (d1 : Str) (h1 : IsDigits d1) :
    parseRangeHeader (some (bytesEq ++ (d1 ++ ['-']))) =
      some ⟨bytesUnit, [((digitsVal d1 : Int), none)]⟩ := by
  rw [parseRangeHeader_single _ (dash_no_comma (b := []) h1.2 (fun _ hc => nomatch hc)),
    item_open d1 h1 0 (by omega) (by omega)]
  rfl

/-- `bytes=-<n>` with `n > 0` parses to the suffix range of length `n` (stored as begin `-n`). -/
theorem parse_range_suffix (d : Str) (h : IsDigits d) (hpos : 0 < digitsVal d) :
    parseRangeHeader (some (bytesEq ++ ('-' :: d))) =
      some ⟨bytesUnit, [(-(digitsVal d : Int), none)]⟩ := by
  have hnc : ∀ c ∈ '-' :: d, c ≠ ',' := dash_no_comma (a := []) (fun _ hc => nomatch hc) h.2
  rw [parseRangeHeader_single _ hnc, item_suffix_eq d h, if_neg (by omega)]
  rfl

/-- Two well-formed ascending specs `a-b,c-d` parse to two ranges — and therefore (multi-range)
are answered with 416 by `range_416_partial`. -/
theorem parse_range_two (d1 d2 d3 d4 : Str) (h1 : IsDigits d1) (h2 : IsDigits d2) (h3 : IsDigits d3)
    (h4 : IsDigits d4) (h12 : digitsVal d1 ≤ digitsVal d2) (h23 : digitsVal d2 < digitsVal d3)
    (h34 : digitsVal d3 ≤ digitsVal d4) (l : Option Int) :
    (parseRangeHeader (some (bytesEq ++ ((d1 ++ '-' :: d2) ++ ',' :: (d3 ++ '-' :: d4))))).bind
      (fun pr => rangeForLength pr l) = none := by
  have hnc1 := dash_no_comma h1.2 h2.2
  have hnc2 := dash_no_comma h3.2 h4.2
  rw [parseRangeHeader_bytes, splitOnChar_cons _ _ _ _ hnc1, splitOnChar_none _ _ _ hnc2]
  simp only [List.reverse_nil, List.nil_append]
  rw [item_first_last d1 d2 h1 h2 h12 0 (by omega) (by omega),
    item_first_last d3 d4 h3 h4 h34 _ (by omega) (by omega)]
  simp only [parseRangeItems, List.reverse_cons, List.reverse_nil, List.nil_append, List.cons_append,
    Option.map_some, Option.bind_some]
  exact multi_or_foreign_unit_unsatisfiable _ l (Or.inl (by simp))

/-- A 206 lies inside what the header text asked for: for `bytes=<first>-<last>` and a resource of
length `l` the selected range is `[first, min(last+1, l))`; for `bytes=<first>-` it is
`[first, l)`; for `bytes=-<n>` with `n > 0` it is the last `n` bytes. -/
theorem range_text_sound (d1 d2 : Str) (h1 : IsDigits d1) (h2 : IsDigits d2) (l a b : Int) :
    (digitsVal d1 ≤ digitsVal d2 →
      (parseRangeHeader (some (bytesEq ++ (d1 ++ '-' :: d2)))).bind (fun pr => rangeForLength pr (some l))
        = some (a, b) → a = digitsVal d1 ∧ b = min ((digitsVal d2 : Int) + 1) l ∧ b ≤ l) ∧
    ((parseRangeHeader (some (bytesEq ++ (d1 ++ ['-'])))).bind (fun pr => rangeForLength pr (some l))
        = some (a, b) → a = digitsVal d1 ∧ b = l) ∧
    (0 < digitsVal d1 →
      (parseRangeHeader (some (bytesEq ++ ('-' :: d1)))).bind (fun pr => rangeForLength pr (some l))
        = some (a, b) → a = l - digitsVal d1 ∧ b = l ∧ 0 ≤ a) := by
  refine ⟨fun hle => ?_, ?_, fun hpos => ?_⟩
  · rw [parse_range_first_last d1 d2 h1 h2 hle, Option.bind_some, rangeForLength_single_iff]
    rintro ⟨_, _, _, rfl, rfl⟩; exact ⟨rfl, rfl, by omega⟩
  · rw [parse_range_open d1 h1, Option.bind_some, rangeForLength_single_iff, if_neg (by omega)]
    rintro ⟨_, rfl, rfl⟩; exact ⟨rfl, rfl⟩
  · rw [parse_range_suffix d1 h1 hpos, Option.bind_some, rangeForLength_single_iff, if_pos (by omega)]
    rintro ⟨h0, rfl, rfl⟩; exact ⟨by omega, rfl, h0⟩

example : IsDigits "12".toList ∧ digitsVal "12".toList = 12 := by
  refine ⟨⟨by decide, ?_⟩, by decide⟩
  intro c hc
  have : c = '1' ∨ c = '2' := by simpa using hc
  rcases this with rfl | rfl <;> decide +kernel

/-- `bytes=-0` (any spelling of a zero suffix length: `-0`, `-00`, …) selects nothing: the header
is rejected (F11d, repaired by 84dd3fe), which `range_416_partial` turns into 416. -/
theorem suffix_zero_unsatisfiable (d : Str) (h : IsDigits d) (hz : digitsVal d = 0) (l : Option Int) :
    (parseRangeHeader (some (bytesEq ++ ('-' :: d)))).bind (fun r => rangeForLength r l) = none := by
  have hnc : ∀ c ∈ '-' :: d, c ≠ ',' := dash_no_comma (a := []) (fun _ hc => nomatch hc) h.2
  rw [parseRangeHeader_single _ hnc, item_suffix_eq d h, if_pos (Or.inr hz)]
  rfl

example : IsDigits "0".toList ∧ digitsVal "0".toList = 0 ∧
    parseRangeHeader (some "bytes=-0".toList) = none := by
  refine ⟨⟨by decide, ?_⟩, by decide, by decide⟩
  intro c hc
  have : c = '0' := by simpa using hc
  subst this; decide +kernel

/-- KEY THEOREM (`rangeWrapper_exact`, iterator path). For every chunking of the body — any number
of chunks of any sizes, empty chunks included — and every `start`, `len`, the chunks emitted by
`_RangeWrapper` concatenate to exactly `body[start : start + len]`, and none of them is empty. -/
theorem rangeWrapper_exact_iter (chunks : List Bytes) (start len : Nat) :
    (rangeWrapIter chunks start len).flatten = (chunks.flatten.drop start).take len ∧
    AllNonEmpty (rangeWrapIter chunks start len) :=
  rangeWrapIter_exact chunks start len

example : rangeWrapIter [[1, 2, 3], [], [4, 5, 6]] 0 6 = [[1, 2, 3], [4, 5, 6]] ∧
    rangeWrapIter [[], [1], [], [2, 3, 4], [5]] 1 3 = [[2, 3, 4]] := by decide +kernel

/-- KEY THEOREM (`rangeWrapper_exact`, seekable path). For a seekable file of content `data` read
through a `FileWrapper` with any block size `b ≥ 1`, the emitted chunks concatenate to exactly
`data[start : start + len]` and none is empty. -/
theorem rangeWrapper_exact_seek (data : Bytes) (b : Nat) (hb : 0 < b) (start len : Nat) :
    (rangeWrapSeek data b start len).flatten = (data.drop start).take len ∧
    AllNonEmpty (rangeWrapSeek data b start len) :=
  rangeWrapSeek_exact data b hb start len

example : rangeWrapSeek [1, 2, 3, 4, 5, 6, 7] 2 1 4 = [[2, 3], [4, 5]] := by decide +kernel

/-- Both paths deliver the same bytes. -/
theorem rangeWrapper_paths_agree (chunks : List Bytes) (b : Nat) (hb : 0 < b) (start len : Nat) :
    (rangeWrapIter chunks start len).flatten = (rangeWrapSeek chunks.flatten b start len).flatten := by
  rw [(rangeWrapper_exact_iter chunks start len).1, (rangeWrapper_exact_seek chunks.flatten b hb start len).1]

/-- `FileWrapper` loses nothing on short reads: for every short-read schedule of the underlying
file object (read(n) returning 1..n bytes although more follows), the items `FileWrapper` yields
are non-empty and concatenate to exactly the file's remaining bytes — a short block is *not* the
last one, only an empty read is (seeded change C11-f1). -/
theorem file_wrapper_yields_all (b : Nat) (hb : 0 < b) (fuel : Nat) (sched : List Nat) (d : Bytes)
    (h : d.length < fuel) :
    (fileWrapperItems b fuel sched d).flatten = d ∧ AllNonEmpty (fileWrapperItems b fuel sched d) :=
  fileWrapperItems_exact b hb fuel sched d h

/-- … so a range over a short-reading, non-seekable file is still exact: `_RangeWrapper` over the
items of `FileWrapper` delivers `data[start : start+len]` for every read schedule. -/
theorem range_over_short_reads_exact (b : Nat) (hb : 0 < b) (sched : List Nat) (data : Bytes)
    (start len : Nat) :
    (rangeWrapIter (fileWrapperItems b (data.length + 1) sched data) start len).flatten
      = (data.drop start).take len := by
  rw [(rangeWrapper_exact_iter _ start len).1, (file_wrapper_yields_all b hb _ sched data (by omega)).1]

example : fileWrapperItems 4 11 [2, 3] [1, 2, 3, 4, 5, 6, 7, 8, 9, 10] = [[1, 2], [3, 4, 5], [6, 7, 8, 9], [10]] ∧
    rangeWrapIter (fileWrapperItems 4 11 [2, 3] [1, 2, 3, 4, 5, 6, 7, 8, 9, 10]) 3 5 = [[4, 5], [6, 7, 8]] := by
  decide +kernel

/-- `range_response`, the 206 case: a 206 comes with `Content-Range: bytes a-(b-1)/length`,
`Content-Length: b-a`, `0 ≤ a < b ≤ length`, and (for GET, whatever the chunking and whether or
not the body is a seekable file) a body that is exactly bytes `[a, b)` of the full body. -/
theorem range_response_206 (method : Str) (q : CondReq) (r : RespIn) (l : Int) (ar : Bool)
    (chunks : List Bytes) (seek : Option Nat) (kind : Nat) (o : WsgiOut)
    (hseek : ∀ bs, seek = some bs → 0 < bs)
    (h : respond method q r (some l) ar chunks seek kind = some o) (hs : o.status = 206) :
    ∃ a b : Int, 0 ≤ a ∧ a < b ∧ b ≤ l ∧
      o.contentRange = some (a, b - 1, l) ∧ o.contentLength = some (b - a) ∧
      (method ≠ "HEAD".toList →
        o.body.flatten = (chunks.flatten.drop a.toNat).take (b - a).toNat) ∧
      (method = "HEAD".toList → o.body = []) := by
  rcases respond_inv h with ⟨a, b, hmc, rfl⟩ | ⟨_, rfl⟩ | ⟨st, hst, _, rfl⟩
  · -- a 206 stands for a range that `range_for_length` selected
    obtain ⟨_, hb⟩ := processRangeRequest_partial_iff.mp (status_partial_iff.mp hmc).2.2.2
    cases hpr : parseRangeHeader q.range with
    | none => rw [hpr] at hb; cases hb
    | some pr =>
      rw [hpr] at hb
      obtain ⟨h0, hab, hbl, _⟩ := rangeForLength_sound pr l a b hb
      refine ⟨a, b, h0, hab, hbl, rfl, rfl, fun hm => ?_, fun hm => ite_head_of_eq hm _ _⟩
      rw [ite_head_of_ne hm]
      exact rangeBody_flatten chunks seek hseek _ _
  · cases hs
  · rcases hst with rfl | rfl <;> cases hs

example : (respond "GET".toList { range := some "bytes=2-4".toList } {} (some 6) true
    [[65, 66, 67], [], [68, 69, 70]] none 0).map (·.body) = some [[67], [68, 69]] := by
  repeat rewrite [String.toList_ofList]
  decide +kernel

/-! ## satisfiable ranges are always served (every spelling, every body) -/

/-- "A 206 always when the range is satisfiable": for a GET whose resource counts as modified, whose
range request is processable and whose `Range` header parses to a range that `range_for_length`
accepts as `[a, b)` for the (non-zero) length `n`, the answer *is* the 206 with
`Content-Range: bytes a-(b-1)/n`, `Content-Length: b-a` and exactly the bytes `[a, b)` of the body —
for every chunking, for generator / list / file bodies, seekable or not. Together with
`range_416_partial` (no such range ⇒ 416) and `ignored_range_full_body` this decides every GET. -/
theorem range_206_complete (q : CondReq) (r : RespIn) (n : Nat) (hn : n ≠ 0) (pr : Range) (a b : Int)
    (hp : parseRangeHeader q.range = some pr) (hrf : rangeForLength pr (some (n : Int)) = some (a, b))
    (hmod : isResourceModified q r.etag (lmOf r) true = true) (hproc : rangeProcessable q r = true)
    (chunks : List Bytes) (seek : Option Nat) (hseek : ∀ bs, seek = some bs → 0 < bs) (kind : Nat) :
    ∃ o, respond "GET".toList q r (some (n : Int)) true chunks seek kind = some o ∧
      o.status = 206 ∧ o.contentRange = some (a, b - 1, (n : Int)) ∧ o.contentLength = some (b - a) ∧
      0 ≤ a ∧ a < b ∧ b ≤ n ∧
      o.body.flatten = (chunks.flatten.drop a.toNat).take (b - a).toNat := by
  obtain ⟨h0, hab, hbl⟩ := rangeForLength_bounds hrf
  obtain ⟨o, ho, hst, hcr, hcl, hb⟩ := respond_range_206 q r n pr a b hp hrf hmod hproc chunks seek hseek kind
  exact ⟨o, ho, hst, hcr, hcl, h0, hab, hbl, hb⟩

/-- End to end for the commonest request: `GET` with `Range: bytes=<first>-<last>` (first ≤ last,
first inside a resource of length `n > 0`, no `If-Range`) is answered 206 with
`Content-Range: bytes first-(b-1)/n`, `Content-Length: b - first` where `b = min(last+1, n)`, and
a body that is exactly `body[first:b]` — for every chunking of the body. -/
theorem satisfiable_range_206 (d1 d2 : Str) (h1 : IsDigits d1) (h2 : IsDigits d2)
    (hle : digitsVal d1 ≤ digitsVal d2) (chunks : List Bytes) (r : RespIn) (n : Nat)
    (ha : digitsVal d1 < n) (kind : Nat) :
    let a : Nat := digitsVal d1
    let b : Nat := min (digitsVal d2 + 1) n
    ∃ o, respond "GET".toList { range := some (bytesEq ++ (d1 ++ '-' :: d2)) } r
        (some (n : Int)) true chunks none kind = some o ∧
      o.status = 206 ∧ o.contentRange = some ((a : Int), (b : Int) - 1, (n : Int)) ∧
      o.contentLength = some ((b : Int) - a) ∧
      o.body.flatten = (chunks.flatten.drop a).take (b - a) :=
  respond_range_206_nat { range := some (bytesEq ++ (d1 ++ '-' :: d2)) } r n _ _ _
    (parse_range_first_last d1 d2 h1 h2 hle) (rangeForLength_first_last _ _ n hle ha)
    (no_validators_modified _ _ _) rfl chunks none (fun _ h => nomatch h) kind

example : (respond "GET".toList { range := some (bytesEq ++ "1-3".toList) } {} (some 6) true
    [[65], [], [66, 67, 68, 69], [70]] none 0).map (fun o => (o.status, o.body)) =
    some (206, [[66, 67, 68]]) := by
  repeat rewrite [String.toList_ofList]
  decide +kernel

/-- the full-strength reading of "unparsable, unsatisfiable and multi-range requests yield 416"
(for GET with ranges accepted and a known length) -/
def Range416Full : Prop :=
  ∀ (q : CondReq) (r : RespIn) (l : Int), 0 ≤ l → q.ifRange = none → q.range.isSome = true →
    isResourceModified q r.etag (lmOf r) true = true →
    (parseRangeHeader q.range).bind (fun pr => rangeForLength pr (some l)) = none →
    makeConditionalStatus "GET".toList q r (some l) true = none

/-- Known finding F11f: false for the empty resource — range handling is skipped when the length
is 0 and the request is answered with the (empty) complete body. -/
theorem range_416_full_false : ¬ Range416Full := by
  intro h
  have := h { range := some "bytes=0-1".toList } {} 0 (by decide) rfl rfl (by decide) (by decide)
  revert this
  decide +kernel

/-- `range_response`, the 416 case: for GET/HEAD, ranges accepted, a known non-zero
length, a resource that counts as modified (otherwise the answer is 304 / 412) and a processable
range request (no `If-Range`, or one that validates), a `Range` header that
cannot be parsed, names another unit, lists several ranges or is not satisfiable for the length
yields 416. Excluded: length 0 (F11f). -/
theorem range_416_partial (method : Str) (q : CondReq) (r : RespIn) (l : Int) (hl : l ≠ 0)
    (hm : method = "GET".toList ∨ method = "HEAD".toList)
    (hmod : isResourceModified q r.etag (lmOf r) true = true)
    (hproc : rangeProcessable q r = true)
    (hbad : (parseRangeHeader q.range).bind (fun pr => rangeForLength pr (some l)) = none) :
    makeConditionalStatus method q r (some l) true = none :=
  status_416_iff.mpr ⟨(isGetHead_iff method).mpr hm, hmod, processRangeRequest_unsatisfiable_iff.mpr
    ⟨by simpa [rangeActive_some, hproc] using hl, hbad⟩⟩

example : isResourceModified { range := some "bytes=0-0,2-3".toList } none none true = true ∧
    rangeProcessable { range := some "bytes=0-0,2-3".toList } {} = true ∧
    (parseRangeHeader (some "bytes=0-0,2-3".toList)).bind (fun pr => rangeForLength pr (some 6)) = none := by
  repeat rewrite [String.toList_ofList]
  decide +kernel

/-- `range_response`, the ignored case: when the request is not treated as a range request (other
method; no `Range`; ranges not accepted; failed `If-Range`) and the resource counts as modified,
the answer is the complete body with status 200. -/
theorem ignored_range_full_body (method : Str) (q : CondReq) (r : RespIn) (cl : Option Int)
    (ar : Bool) (chunks : List Bytes) (seek : Option Nat) (kind : Nat)
    (h : makeConditionalStatus method q r cl ar = some (200, .notRange)) :
    ∃ o, respond method q r cl ar chunks seek kind = some o ∧ o.status = 200 ∧
      o.contentRange = none ∧
      (method ≠ "HEAD".toList → o.body.flatten = chunks.flatten) := by
  refine ⟨_, respond_full h (by decide) chunks seek kind, rfl, rfl, fun hm => ?_⟩
  rw [ite_head_of_ne hm]
  exact filter_nonEmpty_flatten chunks

example : makeConditionalStatus "POST".toList { range := some "bytes=0-1".toList } {} (some 6) true
    = some (200, .notRange) := by
  repeat rewrite [String.toList_ofList]
  decide +kernel

/-- a failed `If-Range` (the validator does not match: the resource counts as modified) switches
range handling off -/
theorem failed_if_range_not_range (q : CondReq) (r : RespIn) (cl : Option Int) (ar : Bool)
    (hir : q.ifRange.isSome = true) (hmod : isResourceModified q r.etag (lmOf r) false = true) :
    processRangeRequest q r cl ar = .notRange := by
  refine processRangeRequest_notRange q r cl ar (Or.inr (Or.inr ?_))
  by_cases hr : q.range.isSome = true
  · rw [rangeProcessable_ifRange r hir hr, hmod]; rfl
  · simp [rangeProcessable, hr]

example : isResourceModified { range := some "bytes=0-1".toList, ifRange := some "\"old\"".toList }
    (some "\"abc\"".toList) none false = true := by
  repeat rewrite [String.toList_ofList]
  decide +kernel

/-! ## dates as header text (IMF-fixdate, C06's date model): nothing opaque -/

/-- End to end on header text, one-second resolution: a request carrying
`If-Modified-Since: <http_date(t')>` (no entity-tag validators) against a resource last modified at
instant `s` seconds + `m` microseconds is "not modified" exactly when `s ≤ t'` — the sub-second
part `m` plays no role, whatever ETag the response has and whatever `Range` / `If-Range` it carries.
The date text is parsed by C06's model (`date_roundtrip`), nothing is opaque. -/
theorem ims_text_iff (t' : Nat) (ht : InDateRange t') (etag : Option Str) (s : Int) (m : Nat)
    (range ifRange : Option Str) :
    isResourceModified (mkReqText range ifRange (some (Date.httpDate t')) none none) etag (some (s, m)) true
      = false ↔ s ≤ t' :=
  isResourceModified_ims_text t' ht etag s m range ifRange

example : InDateRange 63902822400 ∧
    Date.httpDate 63902822400 = "Thu, 01 Jan 2026 00:00:00 GMT".toList := by
  rewrite [String.toList_ofList]
  exact ⟨⟨by decide, by decide⟩, by decide +kernel⟩

/-- The status on header text: with `Last-Modified: <http_date(s)>` on the response (what werkzeug
writes for any instant in second `s`) and `If-Modified-Since: <http_date(t')>` on a GET/HEAD
request, the answer is 304 exactly when `s ≤ t'` — also when a `Range` header is present. -/
theorem status_304_text_iff (method : Str) (hm : method = "GET".toList ∨ method = "HEAD".toList)
    (s t' : Nat) (hs : InDateRange s) (ht : InDateRange t') (etag range ifRange : Option Str)
    (cl : Option Int) (ar : Bool) :
    makeConditionalStatus method (mkReqText range ifRange (some (Date.httpDate t')) none none)
        (mkRespText etag (some (Date.httpDate s))) cl ar = some (304, .notRange) ↔ s ≤ t' := by
  have hlm : (mkRespText etag (some (Date.httpDate s))).lastModified = some (s : Int) := by
    simp [mkRespText, dateOfText_httpDate s hs]
  rw [status_304_ims_text_iff ((isGetHead_iff method).mpr hm) t' ht range ifRange hlm]
  exact Int.ofNat_le

/-- `If-Range: <http_date(d)>` with a `Range` header: the range request is processable exactly when
the resource's Last-Modified second `s` is not later than `d` (whatever `If-Modified-Since` says,
whatever ETag the response has). -/
theorem if_range_date_text (rng : Str) (s d : Nat) (hs : InDateRange s) (hd : InDateRange d)
    (etag ims : Option Str) :
    rangeProcessable (mkReqText (some rng) (some (Date.httpDate d)) ims none none)
      (mkRespText etag (some (Date.httpDate s))) = decide (s ≤ d) := by
  have hlm : lmOf (mkRespText etag (some (Date.httpDate s))) = some ((s : Int), 0) := by
    simp [lmOf, mkRespText, dateOfText_httpDate s hs]
  have hir : parseIfRangeHeader (some (Date.httpDate d)) (dateOfText (some (Date.httpDate d))) = .date d := by
    rw [dateOfText_httpDate d hd]
    exact parseIfRangeHeader_date _ (Http.httpDate_ne_nil d) d (httpDate_not_etag_like d)
  rw [rangeProcessable_ifRange _ rfl rfl, isResourceModified_ifRange _ _ _ rfl]
  simp only [mkReqText, hir]
  rw [isResourceModified_no_tags _ rfl rfl, hlm]
  simp [dateUnmodified]

/-- every answer of the response model has one of three shapes -/
theorem respond_cases (method : Str) (q : CondReq) (r : RespIn) (cl : Option Int) (ar : Bool)
    (chunks : List Bytes) (seek : Option Nat) (kind : Nat) (o : WsgiOut)
    (h : respond method q r cl ar chunks seek kind = some o) :
    (∃ a b, makeConditionalStatus method q r cl ar = some (206, .partialContent a b) ∧
      o.status = 206 ∧ o.acceptRanges = true ∧ o.contentLength = some (b - a)) ∨
    (makeConditionalStatus method q r cl ar = some (304, .notRange) ∧
      o = ⟨304, none, none, [], false⟩) ∨
    (∃ st, (st = 200 ∨ st = 412) ∧ makeConditionalStatus method q r cl ar = some (st, .notRange) ∧
      o.status = st ∧ o.contentRange = none ∧ o.acceptRanges = false ∧
      o.body = (if method == ['H', 'E', 'A', 'D'] then [] else chunks.filter (!·.isEmpty)) ∧
      o.contentLength = (if kind == 0 || (kind == 1 && (method == ['G', 'E', 'T'] || method == ['H', 'E', 'A', 'D']))
        then some ((chunks.flatten.length : Nat) : Int) else none)) := by
  rcases respond_inv h with ⟨a, b, hs, rfl⟩ | ⟨hs, rfl⟩ | ⟨st, hst, hs, rfl⟩
  · exact Or.inl ⟨a, b, hs, rfl, rfl, rfl⟩
  · exact Or.inr (Or.inl ⟨hs, rfl⟩)
  · exact Or.inr (Or.inr ⟨st, hst, hs, rfl, rfl, rfl, rfl, rfl⟩)

/-- Content-Length equals the number of body bytes actually produced: for a GET on a response
built from a list (sequence) of chunks whose total length is the declared `complete_length`, every
200, 206 and 412 answer carries `Content-Length = |body|` — whatever the chunking. -/
theorem content_length_matches_body (q : CondReq) (r : RespIn) (ar : Bool) (chunks : List Bytes)
    (o : WsgiOut)
    (h : respond "GET".toList q r (some ((chunks.flatten.length : Nat) : Int)) ar chunks none 0 = some o)
    (hst : o.status ≠ 304) :
    o.contentLength = some ((o.body.flatten.length : Nat) : Int) := by
  rcases respond_cases _ _ _ _ _ _ _ _ o h with ⟨a, b, _, h206, _, _⟩ | ⟨_, ho⟩ | ⟨st, _, _, _, _, _, hbody, hcl⟩
  · obtain ⟨a', b', h0, hab, hbl, _, hcl, hbody, _⟩ :=
      range_response_206 "GET".toList q r _ ar chunks none 0 o (by intro bs hb; cases hb) h h206
    have hb := hbody (by decide)
    rw [hcl, hb]
    simp only [List.length_take, List.length_drop, Option.some.injEq]
    omega
  · rw [ho] at hst; exact absurd rfl hst
  · rw [hcl, hbody]
    simp [filter_nonEmpty_flatten]

example : (respond "GET".toList { range := some "bytes=1-3".toList } {} (some 6) true
    [[65], [], [66, 67, 68, 69], [70]] none 0).map (fun o => (o.status, o.contentLength, o.body.flatten.length))
    = some (206, some 3, 3) := by
  repeat rewrite [String.toList_ofList]
  decide +kernel

/-- A 304 carries no body, no Content-Length, no Content-Range and no Accept-Ranges. -/
theorem not_modified_no_body (method : Str) (q : CondReq) (r : RespIn) (cl : Option Int) (ar : Bool)
    (chunks : List Bytes) (seek : Option Nat) (kind : Nat) (o : WsgiOut)
    (h : respond method q r cl ar chunks seek kind = some o) (hs : o.status = 304) :
    o.body = [] ∧ o.contentLength = none ∧ o.contentRange = none ∧ o.acceptRanges = false := by
  rcases respond_cases _ _ _ _ _ _ _ _ o h with ⟨a, b, _, h206, _, _⟩ | ⟨_, ho⟩ | ⟨st, hst, _, hs', _⟩
  · rw [h206] at hs; cases hs
  · rw [ho]; exact ⟨rfl, rfl, rfl, rfl⟩
  · rw [hs] at hs'; rcases hst with rfl | rfl <;> cases hs'

/-- `Accept-Ranges: bytes` is sent exactly with a 206 (`_process_range_request` sets it only on
success). -/
theorem accept_ranges_iff_206 (method : Str) (q : CondReq) (r : RespIn) (cl : Option Int) (ar : Bool)
    (chunks : List Bytes) (seek : Option Nat) (kind : Nat) (o : WsgiOut)
    (h : respond method q r cl ar chunks seek kind = some o) :
    o.acceptRanges = true ↔ o.status = 206 := by
  rcases respond_cases _ _ _ _ _ _ _ _ o h with ⟨a, b, _, h206, har, _⟩ | ⟨_, ho⟩ | ⟨st, hst, _, hs', _, har, _⟩
  · simp [h206, har]
  · rw [ho]; simp
  · rw [har, hs']; rcases hst with rfl | rfl <;> simp

/-- A 412 (as werkzeug produces it) keeps the complete body and a matching Content-Length; only the
status changes. HEAD answers never carry a body. -/
theorem precondition_failed_keeps_body (method : Str) (q : CondReq) (r : RespIn) (cl : Option Int)
    (ar : Bool) (chunks : List Bytes) (seek : Option Nat) (kind : Nat) (o : WsgiOut)
    (h : respond method q r cl ar chunks seek kind = some o) (hs : o.status = 412) :
    o.contentRange = none ∧
    (method ≠ "HEAD".toList → o.body.flatten = chunks.flatten) ∧
    (method = "HEAD".toList → o.body = []) := by
  rcases respond_inv h with ⟨a, b, _, rfl⟩ | ⟨_, rfl⟩ | ⟨st, _, _, rfl⟩
  · cases hs
  · cases hs
  · exact ⟨rfl, fun hm => by rw [ite_head_of_ne hm]; exact filter_nonEmpty_flatten chunks,
      fun hm => ite_head_of_eq hm _ _⟩

theorem no_validators_modified_general (q : CondReq) (h1 : q.ims = none) (h2 : q.inm = none) (h3 : q.im = none)
    (etag : Option Str) (lm : Option (Int × Nat)) : isResourceModified q etag lm true = true := by
  rw [isResourceModified_no_tags q h2 h3, h1]
  rfl

/-- `satisfiable_range_206_general` for every kind of body: a list / generator of chunks *or* a
seekable file read in blocks of any size. -/
theorem satisfiable_range_206_any_body (d1 d2 : Str) (h1 : IsDigits d1) (h2 : IsDigits d2)
    (hle : digitsVal d1 ≤ digitsVal d2) (chunks : List Bytes) (q : CondReq) (r : RespIn) (n : Nat)
    (ha : digitsVal d1 < n) (kind : Nat) (seek : Option Nat) (hseek : ∀ bs, seek = some bs → 0 < bs)
    (hq : q.range = some (bytesEq ++ (d1 ++ '-' :: d2)))
    (hmod : isResourceModified q r.etag (lmOf r) true = true) (hproc : rangeProcessable q r = true) :
    let a : Nat := digitsVal d1
    let b : Nat := min (digitsVal d2 + 1) n
    ∃ o, respond "GET".toList q r (some (n : Int)) true chunks seek kind = some o ∧
      o.status = 206 ∧ o.contentRange = some ((a : Int), (b : Int) - 1, (n : Int)) ∧
      o.contentLength = some ((b : Int) - a) ∧
      o.body.flatten = (chunks.flatten.drop a).take (b - a) :=
  respond_range_206_nat q r n _ _ _ (by rw [hq]; exact parse_range_first_last d1 d2 h1 h2 hle)
    (rangeForLength_first_last _ _ n hle ha) hmod hproc chunks seek hseek kind

/-- General form of `satisfiable_range_206`: any GET whose resource counts as modified, whose range
request is processable (no `If-Range`, or one that validates) and whose `Range` header is
`bytes=<first>-<last>` with `first ≤ last`, `first < n`, is answered 206 with exactly
`body[first : min(last+1, n)]`, for every chunking. -/
theorem satisfiable_range_206_general (d1 d2 : Str) (h1 : IsDigits d1) (h2 : IsDigits d2)
    (hle : digitsVal d1 ≤ digitsVal d2) (chunks : List Bytes) (q : CondReq) (r : RespIn) (n : Nat)
    (ha : digitsVal d1 < n) (kind : Nat)
    (hq : q.range = some (bytesEq ++ (d1 ++ '-' :: d2)))
    (hmod : isResourceModified q r.etag (lmOf r) true = true) (hproc : rangeProcessable q r = true) :
    let a : Nat := digitsVal d1
    let b : Nat := min (digitsVal d2 + 1) n
    ∃ o, respond "GET".toList q r (some (n : Int)) true chunks none kind = some o ∧
      o.status = 206 ∧ o.contentRange = some ((a : Int), (b : Int) - 1, (n : Int)) ∧
      o.contentLength = some ((b : Int) - a) ∧
      o.body.flatten = (chunks.flatten.drop a).take (b - a) := by
  exact satisfiable_range_206_any_body d1 d2 h1 h2 hle chunks q r n ha kind none (fun _ h => nomatch h)
    hq hmod hproc

/-- End to end on header text: `Range: bytes=<first>-<last>` with `If-Range: <http_date(d)>` against
a response whose `Last-Modified` header is `http_date(s)`: when `s ≤ d` the answer is the 206 with
exactly the requested bytes … -/
theorem if_range_date_pass_206 (d1 d2 : Str) (h1 : IsDigits d1) (h2 : IsDigits d2)
    (hle : digitsVal d1 ≤ digitsVal d2) (chunks : List Bytes) (n : Nat) (ha : digitsVal d1 < n)
    (kind : Nat) (s d : Nat) (hs : InDateRange s) (hd : InDateRange d) (etag : Option Str)
    (hsd : s ≤ d) :
    ∃ o, respond "GET".toList
        (mkReqText (some (bytesEq ++ (d1 ++ '-' :: d2))) (some (Date.httpDate d)) none none none)
        (mkRespText etag (some (Date.httpDate s))) (some (n : Int)) true chunks none kind = some o ∧
      o.status = 206 ∧
      o.body.flatten = (chunks.flatten.drop (digitsVal d1)).take (min (digitsVal d2 + 1) n - digitsVal d1) := by
  obtain ⟨o, ho, hst, _, _, hb⟩ := satisfiable_range_206_general d1 d2 h1 h2 hle chunks
    (mkReqText (some (bytesEq ++ (d1 ++ '-' :: d2))) (some (Date.httpDate d)) none none none)
    (mkRespText etag (some (Date.httpDate s))) n ha kind rfl
    (no_validators_modified_general _ rfl rfl rfl _ _)
    (by rw [if_range_date_text _ s d hs hd]; simpa using hsd)
  exact ⟨o, ho, hst, hb⟩

/-- … and when the resource is newer (`d < s`, the `If-Range` fails) the `Range` header is ignored:
status 200 with the complete body. -/
theorem if_range_date_fail_full_body (rng : Str) (chunks : List Bytes) (cl : Option Int) (kind : Nat)
    (s d : Nat) (hs : InDateRange s) (hd : InDateRange d) (etag : Option Str) (hsd : d < s) :
    ∃ o, respond "GET".toList (mkReqText (some rng) (some (Date.httpDate d)) none none none)
        (mkRespText etag (some (Date.httpDate s))) cl true chunks none kind = some o ∧
      o.status = 200 ∧ o.contentRange = none ∧ o.body.flatten = chunks.flatten := by
  have hproc : rangeProcessable (mkReqText (some rng) (some (Date.httpDate d)) none none none)
      (mkRespText etag (some (Date.httpDate s))) = false := by
    rw [if_range_date_text _ s d hs hd]; simp; omega
  have hnr : processRangeRequest (mkReqText (some rng) (some (Date.httpDate d)) none none none)
      (mkRespText etag (some (Date.httpDate s))) cl true = .notRange :=
    processRangeRequest_notRange _ _ cl true (Or.inr (Or.inr hproc))
  have hmc : makeConditionalStatus "GET".toList (mkReqText (some rng) (some (Date.httpDate d)) none none none)
      (mkRespText etag (some (Date.httpDate s))) cl true = some (200, .notRange) := by
    rw [status_modified _ _ _ _ _ (Or.inl rfl) (no_validators_modified_general _ rfl rfl rfl _ _), hnr]
  obtain ⟨o, ho, hst, hcr, hb⟩ := ignored_range_full_body "GET".toList _ _ cl true chunks none kind hmc
  exact ⟨o, ho, hst, hcr, hb (by decide)⟩

/-- What the model hard-codes about the glue, read from the current source on every run (AST /
live objects): `http.is_resource_modified` feeds each argument of the sans-io function from the
environ key of the same name (a swapped pair — e.g. `If-Match` read as `If-None-Match` — changes the
table); `make_conditional` acts for exactly `GET` and `HEAD`, sets 412 / 304, calls
`is_resource_modified(environ, ETag header, None, Last-Modified header)` (If-Range ignored) while
`_is_range_request_processable` calls it with `ignore_if_range=False`; `_process_range_request`
sets 206; `send_file` calls `make_conditional(environ, accept_ranges=True, complete_length=size)`
and generates the tag `{mtime}-{size}-{check}`; `wrap_file` / `FileWrapper` read blocks of
`fileBufferSize` bytes. -/
theorem cond_constants_pinned :
    Gen.CondConsts.envKeys =
      [("http_range".toList, "HTTP_RANGE".toList), ("http_if_range".toList, "HTTP_IF_RANGE".toList),
       ("http_if_modified_since".toList, "HTTP_IF_MODIFIED_SINCE".toList),
       ("http_if_none_match".toList, "HTTP_IF_NONE_MATCH".toList),
       ("http_if_match".toList, "HTTP_IF_MATCH".toList)] ∧
    Gen.CondConsts.condMethods = ["GET".toList, "HEAD".toList] ∧
    Gen.CondConsts.condStatuses = [412, 304] ∧ Gen.CondConsts.rangeStatuses = [206] ∧
    Gen.CondConsts.condCallArgs =
      ["environ".toList, "self.headers.get('etag')".toList, "None".toList,
       "self.headers.get('last-modified')".toList] ∧
    Gen.CondConsts.ifRangeCallArgs =
      ["environ".toList, "self.headers.get('etag')".toList, "None".toList,
       "self.headers.get('last-modified')".toList, "ignore_if_range=False".toList] ∧
    Gen.CondConsts.sendFileCallArgs =
      ["environ".toList, "accept_ranges=True".toList, "complete_length=size".toList] ∧
    Gen.CondConsts.sendFileEtagFormat =
      ["{mtime}".toList, "-".toList, "{size}".toList, "-".toList, "{check}".toList] ∧
    Gen.CondConsts.bufferDefaults = (fileBufferSize, fileBufferSize) := by
  repeat rewrite [String.toList_ofList]
  decide +kernel

/-! ## entity tags as header text: quoted tags whose text looks like syntax -/

/-- The model of `_etag_re` is written for exactly this pattern and these flags (`re.UNICODE` only):
`([Ww]/)?(?:"(.*?)"|(.*?))(?:\s*,\s*|$)`. -/
theorem etag_re_pinned :
    Gen.EtagTbl.etagRe = ("([Ww]/)?(?:\"(.*?)\"|(.*?))(?:\\s*,\\s*|$)".toList, 32) := by
  rewrite [String.toList_ofList]
  rfl

/-- set equality of a model tag list with the sorted tag list of a table row -/
def sameTagSet (a : List (Option Str)) (b : List Str) : Bool :=
  a.all (fun x => (b.map some).contains x) && b.all (fun x => a.contains (some x))

/-- one row of `Gen.EtagTbl`: the model's `parse_etags` has the same strong set, weak set and
`star_tag` as the live function returned -/
def etagRowAgrees (r : Gen.EtagTbl.Row) : Bool :=
  let e := parseEtags (some r.1)
  e.star == r.2.2.2 && sameTagSet e.strong r.2.1 && sameTagSet e.weak r.2.2.1

/-- The live `parse_etags` and the model agree on every header text of length ≤ 3 over the alphabet
`"*W/, a`, on a pool of 22 entity tags / garbage tokens whose text looks like syntax (`*`, `"*"`,
`W/"*"`, `W/*`, `""`, `"W/"`, `","`, `"a,b"`, `"*`, `*"` …), on every ordered pair of them with the
separators `,` / `, ` / ` , ` and on every triple of the first six (≈ 2 100 rows, `decide` over the
regenerated table). In particular the wildcard is recognised only *unquoted*: a change that reads
the entity tag `"*"` as `*` (seeded change C11-c1) changes rows of the table. -/
theorem etag_table_agrees : Gen.EtagTbl.blocks.all (fun b => b.all etagRowAgrees) = true := by
  decide +kernel

/-- `parse_etags` on header text, for every list of quoted entity tags (strong or `W/`-prefixed,
any `\s*,\s*` separator, any tag text free of `"` and line feeds — `*`, `W/`, `,`, the empty text
included): the parsed object holds exactly the listed tags and is **not** the wildcard. -/
theorem parse_etags_text (sep : Str) (hs : IsSep sep) (ts : List (Str × Bool)) (hne : ts ≠ [])
    (hc : ∀ t ∈ ts, CleanTag t.1) :
    parseEtags (some (renderTags sep ts)) = ⟨strongOf ts, weakOf ts, false⟩ :=
  parseEtags_render sep hs ts hne hc

example : IsSep ", ".toList ∧ IsSep " ,".toList ∧ IsSep ",".toList :=
  ⟨⟨[], [' '], rfl, by simp, by intro c hc; simp at hc; subst hc; decide⟩,
   ⟨[' '], [], rfl, by intro c hc; simp at hc; subst hc; decide, by simp⟩,
   ⟨[], [], rfl, by simp, by simp⟩⟩

example : renderTags ", ".toList [("*".toList, false), ("W/".toList, true), (",".toList, false)] =
      "\"*\", W/\"W/\", \",\"".toList ∧
    parseEtags (some "\"*\", W/\"W/\", \",\"".toList) =
      ⟨[some "*".toList, some ",".toList], [some "W/".toList], false⟩ ∧
    parseEtags (some "*".toList) = ⟨[], [], true⟩ := by
  repeat rewrite [String.toList_ofList]
  decide +kernel

/-- "A 304 only when the validators really match / always when they do", on header TEXT through the
tokenisation of `_etag_re`: `If-None-Match: <list of quoted tags>` against `ETag: "e"` or
`ETag: W/"e"` is "not modified" exactly when `e` is one of the listed tag texts (weak comparison:
the `W/` marks on either side are ignored) — whatever the dates say, and also when a listed tag's
text is `*`: the quoted `"*"` is an ordinary entity tag, only the bare `*` is the wildcard. -/
theorem inm_list_text_iff (sep : Str) (hs : IsSep sep) (ts : List (Str × Bool)) (hne : ts ≠ [])
    (hc : ∀ t ∈ ts, CleanTag t.1) (e : Str) (w : Bool) (range ifRange : Option Str)
    (ims : Option Int) (lm : Option (Int × Nat)) :
    isResourceModified { range := range, ifRange := ifRange, ims := ims, inm := some (renderTags sep ts) }
        (some (renderTag (e, w))) lm true = false ↔ ∃ t ∈ ts, t.1 = e := by
  rw [if_none_match_precedence _ (renderTag (e, w)) e w (unquoteEtag_render (e, w))]
  · rw [parse_etags_text sep hs ts hne hc, Bool.not_eq_eq_eq_not, Bool.not_false, containsWeak_render]
  · rw [parse_etags_text sep hs ts hne hc]; exact truthy_render ts hne
  · exact parseEtags_none_truthy

example : isResourceModified { inm := some "\"*\"".toList } (some "\"v2\"".toList) none true = true ∧
    isResourceModified { inm := some "\"v1\", \"*\"".toList } (some "\"v2\"".toList) none true = true ∧
    isResourceModified { inm := some "\"*\"".toList } (some "\"*\"".toList) none true = false ∧
    isResourceModified { inm := some "*".toList } (some "\"v2\"".toList) none true = false := by
  repeat rewrite [String.toList_ofList]
  decide +kernel

/-- … and the status: GET/HEAD with `If-None-Match: <quoted tag list>` against a response carrying
`ETag: "e"` / `W/"e"` is answered 304 exactly when `e` is listed — with any `Range`, `If-Range`,
`If-Modified-Since`, `Last-Modified`, whether or not ranges are accepted. -/
theorem status_304_inm_text_iff (method : Str) (hm : method = "GET".toList ∨ method = "HEAD".toList)
    (sep : Str) (hs : IsSep sep) (ts : List (Str × Bool)) (hne : ts ≠ [])
    (hc : ∀ t ∈ ts, CleanTag t.1) (e : Str) (w : Bool) (range ifRange : Option Str)
    (ims lm : Option Int) (cl : Option Int) (ar : Bool) :
    makeConditionalStatus method
        { range := range, ifRange := ifRange, ims := ims, inm := some (renderTags sep ts) }
        { etag := some (renderTag (e, w)), lastModified := lm } cl ar = some (304, .notRange)
      ↔ ∃ t ∈ ts, t.1 = e := by
  have key := inm_list_text_iff sep hs ts hne hc e w range ifRange ims
    (lmOf { etag := some (renderTag (e, w)), lastModified := lm })
  rw [status_304_iff]
  exact ⟨fun h => key.mp h.2.1, fun h => ⟨(isGetHead_iff method).mpr hm, key.mpr h, parseEtags_none_truthy, rfl⟩⟩

/-- "A 412 only when If-Match does not accept the current ETag", on header text: GET/HEAD with
`If-Match: <quoted tag list>` against `ETag: "e"` / `W/"e"` is answered 412 exactly when `e` is not
among the *strong* listed tags (strong comparison: a `W/` entry never accepts) — a quoted `"*"`
accepts only the tag whose text is `*`. -/
theorem status_412_im_text_iff (method : Str) (hm : method = "GET".toList ∨ method = "HEAD".toList)
    (sep : Str) (hs : IsSep sep) (ts : List (Str × Bool)) (hne : ts ≠ [])
    (hc : ∀ t ∈ ts, CleanTag t.1) (e : Str) (w : Bool) (range ifRange inm : Option Str)
    (ims lm : Option Int) (cl : Option Int) (ar : Bool) :
    makeConditionalStatus method
        { range := range, ifRange := ifRange, ims := ims, inm := inm, im := some (renderTags sep ts) }
        { etag := some (renderTag (e, w)), lastModified := lm } cl ar = some (412, .notRange)
      ↔ (e, false) ∉ ts := by
  have hp := parse_etags_text sep hs ts hne hc
  have htr := truthy_render ts hne
  have hnm : isResourceModified
      { range := range, ifRange := ifRange, ims := ims, inm := inm, im := some (renderTags sep ts) }
      (some (renderTag (e, w))) (lmOf { etag := some (renderTag (e, w)), lastModified := lm }) true = false
      ↔ (e, false) ∉ ts := by
    rw [isResourceModified_tagged _ (unquoteEtag_render (e, w)), validatorsMatch_im e _ (by rw [hp]; exact htr), hp,
      ← contains_render]
    simp
  rw [status_412_iff]
  exact ⟨fun h => hnm.mp h.2.1, fun h => ⟨(isGetHead_iff method).mpr hm, hnm.mpr h, by rw [hp]; exact htr, rfl⟩⟩

example : makeConditionalStatus "GET".toList { im := some "\"*\"".toList }
      { etag := some "\"v2\"".toList } none false = some (412, .notRange) ∧
    makeConditionalStatus "GET".toList { im := some "*".toList }
      { etag := some "\"v2\"".toList } none false = some (200, .notRange) := by
  repeat rewrite [String.toList_ofList]
  decide +kernel

/-- The bare wildcard: `If-None-Match: *` against any response that carries an ETag is 304 for
GET/HEAD. (`If-Match: *` never gives 412: `if_match_star_admits`.) -/
theorem inm_star_text (method : Str) (hm : method = "GET".toList ∨ method = "HEAD".toList)
    (t : Str × Bool) (range ifRange : Option Str) (ims lm : Option Int) (cl : Option Int) (ar : Bool) :
    makeConditionalStatus method { range := range, ifRange := ifRange, ims := ims, inm := some ['*'] }
        { etag := some (renderTag t), lastModified := lm } cl ar = some (304, .notRange) := by
  have hnm : isResourceModified { range := range, ifRange := ifRange, ims := ims, inm := some ['*'] }
      (some (renderTag t)) (lmOf { etag := some (renderTag t), lastModified := lm }) true = false := by
    rw [if_none_match_precedence _ _ t.1 t.2 (unquoteEtag_render t) (by rw [parseEtags_star]; rfl) parseEtags_none_truthy,
      parseEtags_star]
    rfl
  exact status_304_iff.mpr ⟨(isGetHead_iff method).mpr hm, hnm, parseEtags_none_truthy, rfl⟩

/-! ## If-Range with an entity tag, on header text (F11g, repaired by 9be10e4) -/

/-- the full-strength reading of "a failed If-Range … yields the complete 200 body" for entity
tags: `If-Range: "ie"` validates against `ETag: "e"` exactly when `ie = e` -/
def IfRangeEtagFull : Prop :=
  ∀ (ie e : Str), CleanTag ie → CleanTag e → ie ≠ [] →
    (rangeProcessable { range := some "bytes=0-1".toList, ifRange := some (quoteTag ie) }
        { etag := some (quoteTag e) } = true ↔ ie = e)

/-- Full strength, on header text, for **every** tag text (no hypothesis: `*`, `a, b`, `W/x`, the
empty tag included): `If-Range: "ie"` (or `W/"ie"`) with a `Range` header validates against
`ETag: "e"` / `W/"e"` exactly when `ie = e`; otherwise the range request is not processable
(complete 200 body, `failed_if_range_not_range`) — whatever `If-Modified-Since` / `If-None-Match` /
`If-Match` / `Last-Modified` say. (Before 9be10e4 the unquoted tag was handed to `parse_etags`,
which re-read `*` as the wildcard and `a, b` as a list: former known finding F11g.) -/
theorem if_range_etag_text_iff (q : CondReq) (ie : Str) (wi : Bool) (e : Str) (w : Bool)
    (hr : q.range.isSome = true) (hv : q.ifRange = some (renderTag (ie, wi))) (lm : Option Int) :
    rangeProcessable q { etag := some (renderTag (e, w)), lastModified := lm } = true ↔ ie = e := by
  have hl : looksLikeEtag (renderTag (ie, wi)) = true := by
    cases wi <;> simp [renderTag, quoteTag, looksLikeEtag, Py.isSpace]
  have hne : renderTag (ie, wi) ≠ [] := by
    cases wi <;> simp [renderTag, quoteTag]
  rw [rangeProcessable_ifRange _ (by rw [hv]; rfl) hr,
    if_range_etag q _ e ie _ w wi hr hv hne (Or.inl hl) (unquoteEtag_render _) (unquoteEtag_render _)]
  simp

/-- … in particular the full-strength statement, the one finding F11g refuted before 9be10e4. -/
theorem if_range_etag_full : IfRangeEtagFull := by
  intro ie e _ _ _
  exact if_range_etag_text_iff { range := some "bytes=0-1".toList, ifRange := some (quoteTag ie) }
    ie false e false rfl rfl none

/-- regression inputs of F11g: `If-Range: "*"` does not validate against `ETag: "v2"`,
`If-Range: "a, b"` not against `ETag: "a"`, `If-Range: "W/*"` not against `ETag: "abc"` — and
each still validates against the tag with that very text. -/
theorem if_range_star_regression :
    rangeProcessable { range := some "bytes=0-1".toList, ifRange := some "\"*\"".toList }
      { etag := some "\"v2\"".toList } = false ∧
    rangeProcessable { range := some "bytes=0-1".toList, ifRange := some "\"a, b\"".toList }
      { etag := some "\"a\"".toList } = false ∧
    rangeProcessable { range := some "bytes=0-1".toList, ifRange := some "\"W/*\"".toList }
      { etag := some "\"abc\"".toList } = false ∧
    rangeProcessable { range := some "bytes=0-1".toList, ifRange := some "\"*\"".toList }
      { etag := some "\"*\"".toList } = true ∧
    rangeProcessable { range := some "bytes=0-1".toList, ifRange := some "\"a, b\"".toList }
      { etag := some "\"a, b\"".toList } = true := by
  repeat rewrite [String.toList_ofList]
  decide +kernel

/-- the regression on the whole response: `Range: bytes=0-1` with `If-Range: "*"` against
`ETag: "abc"` is answered with the complete 200 body -/
theorem if_range_star_full_body :
    (respond "GET".toList { range := some "bytes=0-1".toList, ifRange := some "\"*\"".toList }
        { etag := some "\"abc\"".toList } (some 6) true [[65, 66, 67], [68, 69, 70]] none 0).map
      (fun o => (o.status, o.contentRange, o.body)) = some (200, none, [[65, 66, 67], [68, 69, 70]]) := by
  repeat rewrite [String.toList_ofList]
  decide +kernel

/-- Without a known `complete_length` the `Range` header is ignored: never 206, never 416. -/
theorem unknown_length_ignores_range (method : Str) (q : CondReq) (r : RespIn) (ar : Bool) :
    ∃ st, makeConditionalStatus method q r none ar = some (st, .notRange) ∧
      (st = 200 ∨ st = 304 ∨ st = 412) :=
  makeConditionalStatus_notRange method q r none ar (processRangeRequest_notRange q r none ar (Or.inl rfl))

/-- `accept_ranges=False` (or the empty string): the `Range` header is ignored — never 206, never
416, no `Accept-Ranges` header. -/
theorem accept_ranges_falsy_ignores_range (method : Str) (q : CondReq) (r : RespIn) (cl : Option Int)
    (acc : AcceptArg) (hacc : acc.truthy = false) (chunks : List Bytes) (seek : Option Nat) (kind : Nat) :
    ∃ o, makeConditionalFull method q r cl acc chunks seek kind = some (o, none) ∧ o.status ≠ 206 := by
  obtain ⟨st, hmc, hs⟩ := makeConditionalStatus_notRange method q r cl false
    (processRangeRequest_notRange q r cl false (Or.inr (Or.inl rfl)))
  obtain ⟨o, ho, hst, _, har⟩ := respond_notRange hmc chunks seek kind
  exact ⟨o, makeConditionalFull_eq_some_iff.mpr ⟨by rw [hacc]; exact ho, by rw [har]; rfl⟩,
    by rw [hst]; rcases hs with rfl | rfl | rfl <;> decide⟩

example : (AcceptArg.no).truthy = false ∧ (AcceptArg.unit []).truthy = false ∧
    (AcceptArg.unit "none".toList).truthy = true := by
  repeat rewrite [String.toList_ofList]
  decide +kernel

/-- The `Accept-Ranges` header is written exactly on a 206 and carries the argument's unit
(`True` ⇒ `bytes`, a string ⇒ that string). -/
theorem accept_ranges_header_value (method : Str) (q : CondReq) (r : RespIn) (cl : Option Int)
    (acc : AcceptArg) (chunks : List Bytes) (seek : Option Nat) (kind : Nat) (o : WsgiOut) (h : Option Str)
    (hres : makeConditionalFull method q r cl acc chunks seek kind = some (o, h)) :
    (o.status = 206 → h = some acc.header) ∧ (o.status ≠ 206 → h = none) := by
  obtain ⟨hr, rfl⟩ := makeConditionalFull_eq_some_iff.mp hres
  have := accept_ranges_iff_206 method q r cl acc.truthy chunks seek kind o hr
  constructor
  · intro h206; rw [this.mpr h206]; rfl
  · intro hne
    cases hb : o.acceptRanges with
    | false => rfl
    | true => exact absurd (this.mp hb) hne

/-- The unit named by a string argument is only advertised: `accept_ranges='none'` still serves
byte ranges (`Accept-Ranges: none` on a 206 for `Range: bytes=0-1`). Recorded as behaviour of the
code, not as a requirement of the property. -/
theorem accept_unit_string_serves_bytes :
    (makeConditionalFull "GET".toList { range := some "bytes=0-1".toList } {} (some 6)
        (.unit "none".toList) [[65, 66, 67], [68, 69, 70]] none 0).map
      (fun p => (p.1.status, p.1.body, p.2)) = some (206, [[65, 66]], some "none".toList) := by
  repeat rewrite [String.toList_ofList]
  decide +kernel

/-- `Range: bytes=<first>-` (open ended, `first` inside the resource): 206 with exactly
`body[first:]`, `Content-Range: bytes first-(n-1)/n`. -/
theorem satisfiable_open_206 (d1 : Str) (h1 : IsDigits d1) (q : CondReq) (r : RespIn) (n : Nat)
    (ha : digitsVal d1 < n) (hq : q.range = some (bytesEq ++ (d1 ++ ['-'])))
    (hmod : isResourceModified q r.etag (lmOf r) true = true) (hproc : rangeProcessable q r = true)
    (chunks : List Bytes) (seek : Option Nat) (hseek : ∀ bs, seek = some bs → 0 < bs) (kind : Nat) :
    ∃ o, respond "GET".toList q r (some (n : Int)) true chunks seek kind = some o ∧
      o.status = 206 ∧ o.contentRange = some ((digitsVal d1 : Int), (n : Int) - 1, (n : Int)) ∧
      o.contentLength = some ((n : Int) - digitsVal d1) ∧
      o.body.flatten = (chunks.flatten.drop (digitsVal d1)).take (n - digitsVal d1) :=
  respond_range_206_nat q r n _ _ _ (by rw [hq]; exact parse_range_open d1 h1)
    (rangeForLength_open _ n ha) hmod hproc chunks seek hseek kind

/-- `Range: bytes=-<k>` (the last `k` bytes, `0 < k ≤ n`): 206 with exactly `body[n-k:]`. -/
theorem satisfiable_suffix_206 (d : Str) (h : IsDigits d) (hpos : 0 < digitsVal d) (q : CondReq)
    (r : RespIn) (n : Nat) (hk : digitsVal d ≤ n) (hq : q.range = some (bytesEq ++ ('-' :: d)))
    (hmod : isResourceModified q r.etag (lmOf r) true = true) (hproc : rangeProcessable q r = true)
    (chunks : List Bytes) (seek : Option Nat) (hseek : ∀ bs, seek = some bs → 0 < bs) (kind : Nat) :
    ∃ o, respond "GET".toList q r (some (n : Int)) true chunks seek kind = some o ∧
      o.status = 206 ∧ o.contentRange = some ((n : Int) - digitsVal d, (n : Int) - 1, (n : Int)) ∧
      o.contentLength = some (digitsVal d : Int) ∧
      o.body.flatten = (chunks.flatten.drop (n - digitsVal d)).take (digitsVal d) := by
  obtain ⟨o, ho, hst, hcr, hcl, hb⟩ := respond_range_206_nat q r n _ (n - digitsVal d) n
    (by rw [hq]; exact parse_range_suffix d h hpos)
    (by rw [rangeForLength_suffix _ n hpos hk, Int.ofNat_sub hk]) hmod hproc chunks seek hseek kind
  refine ⟨o, ho, hst, by rw [hcr, Int.ofNat_sub hk], by rw [hcl]; congr 1; omega, ?_⟩
  rw [hb, show n - (n - digitsVal d) = digitsVal d by omega]

example : (respond "GET".toList { range := some "bytes=-2".toList } {} (some 6) true
    [[65, 66, 67], [], [68, 69, 70]] (some 4) 2).map (fun o => (o.status, o.contentRange, o.body)) =
    some (206, some (4, 5, 6), [[69, 70]]) := by
  repeat rewrite [String.toList_ofList]
  decide +kernel

/-- Unparsable spellings, as text: a header without `=`, and `bytes=<first>-<last>` with
`first > last`, do not parse — `range_416_partial` answers them with 416. -/
theorem unparsable_range_text (d1 d2 : Str) (h1 : IsDigits d1) (h2 : IsDigits d2)
    (hgt : digitsVal d2 < digitsVal d1) (v : Str) (hv : v.contains '=' = false) :
    parseRangeHeader (some v) = none ∧ parseRangeHeader (some (bytesEq ++ (d1 ++ '-' :: d2))) = none := by
  constructor
  · have hv' : ¬ ('=' ∈ v) := by simpa using hv
    simp [parseRangeHeader, hv']
  · rw [parseRangeHeader_single _ (dash_no_comma h1.2 h2.2)]
    -- the single item: begin parses, end parses, begin >= end + 1 -> None
    have he2 : d2.isEmpty = false := by
      cases d2 with
      | nil => exact absurd rfl h2.1
      | cons _ _ => rfl
    have c3 : (digitsVal d1 : Int) ≥ (digitsVal d2 : Int) + 1 := by omega
    rw [item_begin d1 d2 h1 h2.2]
    simp [he2, plainInt_digits d2 h2, c3]

example : parseRangeHeader (some "bytes".toList) = none ∧ parseRangeHeader (some "bytes=5-2".toList) = none := by
  repeat rewrite [String.toList_ofList]
  decide +kernel

/-- the blocks a `FileWrapper` yields concatenate to the file's content -/
theorem file_blocks_flatten (data : Bytes) :
    (blocks fileBufferSize (data.length + 1) data).flatten = data :=
  blocks_flatten fileBufferSize (by decide) _ _ (by omega)

/-- `send_file` *is* `make_conditional(environ, accept_ranges=True, complete_length=size)` on a
`direct_passthrough` response over a `FileWrapper` whose validators are the generated (or given)
ETag and the file's Last-Modified — so every theorem above about `respond` applies to file
responses. -/
theorem send_file_is_make_conditional (a : SendFile) (hc : a.conditional = true) (et : Option Str)
    (het : a.etagHeader = .ok et) (method : Str) (q : CondReq) (data : Bytes) (seekable : Bool) :
    sendFile a method q data seekable =
      .ok ((respond method q { etag := et, lastModified := a.lastMod } a.clen true
          (blocks fileBufferSize (data.length + 1) data)
          (if seekable then some fileBufferSize else none) 2).map
        fun o => if o.status == 200 || o.status == 412
          then { o with contentLength := a.clen } else o) :=
  sendFile_conditional a hc et het method q data seekable

/-- Revalidation: a GET/HEAD that sends back, as `If-None-Match`, the entity tag `send_file`
generated for the file as it is now (same mtime text, size and path checksum) is answered 304 —
whatever else the request carries (`Range`, `If-Range`, dates). -/
theorem send_file_revalidate_304 (a : SendFile) (hc : a.conditional = true) (hp : a.isPath = true)
    (he : a.etag = .auto) (hclean : CleanTag a.autoTag)
    (method : Str) (hm : method = "GET".toList ∨ method = "HEAD".toList)
    (range ifRange : Option Str) (ims : Option Int) (data : Bytes) (seekable : Bool) :
    sendFile a method { range := range, ifRange := ifRange, ims := ims, inm := some (quoteTag a.autoTag) }
        data seekable = .ok (some ⟨304, none, none, [], false⟩) :=
  sendFile_eq_304 hc (SendFile.etagHeader_auto hp he) data seekable
    ((status_304_inm_text_iff method hm [','] ⟨[], [], rfl, by simp, by simp⟩ [(a.autoTag, false)] (by simp)
      (by simpa using hclean) a.autoTag false range ifRange ims a.lastMod a.clen true).mpr ⟨(a.autoTag, false), by simp, rfl⟩)

/-- Staleness: after the file changed so that the generated tag text differs (another mtime text or
another size), the old tag in `If-None-Match` no longer gives 304. -/
theorem send_file_changed_not_304 (a : SendFile) (hc : a.conditional = true) (hp : a.isPath = true)
    (he : a.etag = .auto) (old : Str) (hold : CleanTag old)
    (hne : old ≠ a.autoTag) (method : Str) (range ifRange : Option Str) (ims : Option Int)
    (data : Bytes) (seekable : Bool) (o : WsgiOut)
    (h : sendFile a method { range := range, ifRange := ifRange, ims := ims, inm := some (quoteTag old) }
        data seekable = .ok (some o)) : o.status ≠ 304 := by
  intro h304
  have hmc := sendFile_status_304 hc (SendFile.etagHeader_auto hp he) h h304
  obtain ⟨t, ht, hte⟩ := (status_304_inm_text_iff method ((isGetHead_iff method).mp (status_304_iff.mp hmc).1) [',']
    ⟨[], [], rfl, by simp, by simp⟩ [(old, false)] (by simp) (by simpa using hold) a.autoTag false range ifRange ims
    a.lastMod a.clen true).mp hmc
  cases List.mem_singleton.mp ht
  exact hne hte

/-- Revalidation by date: `send_file` with a Last-Modified instant `t` (from the file's mtime or the
`last_modified` argument; no ETag on the response, e.g. `etag=False`) answers a GET/HEAD carrying
`If-Modified-Since: <http_date(t')>` with 304 exactly when `t ≤ t'` — one-second resolution, the
sub-second part of the mtime plays no role. -/
theorem send_file_ims_text_iff (a : SendFile) (hc : a.conditional = true) (he : a.etagHeader = .ok none)
    (t t' : Nat) (hlm : a.lastMod = some (t : Int)) (ht' : InDateRange t')
    (method : Str) (hm : method = "GET".toList ∨ method = "HEAD".toList)
    (range ifRange : Option Str) (data : Bytes) (seekable : Bool) :
    sendFile a method (mkReqText range ifRange (some (Date.httpDate t')) none none) data seekable
      = .ok (some ⟨304, none, none, [], false⟩) ↔ t ≤ t' := by
  have key := status_304_ims_text_iff (cl := a.clen) (ar := true) ((isGetHead_iff method).mpr hm) t' ht' range ifRange
    (show ({ etag := none, lastModified := a.lastMod } : RespIn).lastModified = some (t : Int) from hlm)
  exact ⟨fun h => Int.ofNat_le.mp (key.mp (sendFile_status_304 hc he h rfl)),
    fun h => sendFile_eq_304 hc he data seekable (key.mpr (Int.ofNat_le.mpr h))⟩

/-- Ranges over files: `send_file` of a path (or `BytesIO`) holding `data`, answered to a GET with
`Range: bytes=<first>-<last>` (first ≤ last, first inside the file, no validators): 206 with
`Content-Range: bytes first-(b-1)/n`, `Content-Length: b - first`, `b = min(last+1, n)`, and a body
that is exactly `data[first:b]` — whether the file object is seekable (seek + block reads of 8192
bytes) or not (blocks skipped up to the start). -/
theorem send_file_range_exact (a : SendFile) (hc : a.conditional = true) (data : Bytes)
    (hs : a.size = some data.length) (et : Option Str) (het : a.etagHeader = .ok et)
    (d1 d2 : Str) (h1 : IsDigits d1) (h2 : IsDigits d2) (hle : digitsVal d1 ≤ digitsVal d2)
    (hlt : digitsVal d1 < data.length) (seekable : Bool) :
    let lo : Nat := digitsVal d1
    let hi : Nat := min (digitsVal d2 + 1) data.length
    ∃ o, sendFile a "GET".toList { range := some (bytesEq ++ (d1 ++ '-' :: d2)) } data seekable = .ok (some o) ∧
      o.status = 206 ∧ o.contentRange = some ((lo : Int), (hi : Int) - 1, (data.length : Int)) ∧
      o.contentLength = some ((hi : Int) - lo) ∧ o.body.flatten = (data.drop lo).take (hi - lo) := by
  intro lo hi
  rw [send_file_is_make_conditional a hc et het]
  obtain ⟨o, ho, hst, hcr, hcl, hb⟩ := satisfiable_range_206_any_body d1 d2 h1 h2 hle
    (blocks fileBufferSize (data.length + 1) data) { range := some (bytesEq ++ (d1 ++ '-' :: d2)) }
    { etag := et, lastModified := a.lastMod } data.length hlt 2
    (if seekable then some fileBufferSize else none)
    (by intro bs hbs; cases seekable <;> simp at hbs; subst hbs; decide) rfl
    (no_validators_modified_general _ rfl rfl rfl _ _) (rangeProcessable_noIfRange _ rfl)
  refine ⟨o, ?_, hst, hcr, hcl, ?_⟩
  · have e : a.clen = some (data.length : Int) := by simp [SendFile.clen, hs]
    rw [e, ho]
    simp [hst]
  · rw [hb, file_blocks_flatten]

/-- A file object of unknown size (neither a path nor a `BytesIO`): `complete_length` is `None`, the
`Range` header is ignored — the answer is never 206 and never 416. -/
theorem send_file_unknown_size_no_range (a : SendFile) (hs : a.size = none) (method : Str) (q : CondReq)
    (data : Bytes) (seekable : Bool) (et : Option Str) (het : a.etagHeader = .ok et) :
    ∃ o, sendFile a method q data seekable = .ok (some o) ∧ o.status ≠ 206 := by
  cases hc : a.conditional
  · exact ⟨_, sendFile_unconditional a hc et het method q data seekable, by simp⟩
  · obtain ⟨st, hmc, hst⟩ := unknown_length_ignores_range method q { etag := et, lastModified := a.lastMod } true
    obtain ⟨o, ho, hs', _⟩ := respond_notRange hmc (blocks fileBufferSize (data.length + 1) data)
      (if seekable then some fileBufferSize else none) 2
    rw [sendFile_conditional a hc et het, show a.clen = none by simp [SendFile.clen, hs], ho]
    refine ⟨_, rfl, ?_⟩
    have : o.status ≠ 206 := by rw [hs']; rcases hst with rfl | rfl | rfl <;> decide
    simp only
    split <;> exact this

/-- `conditional=False`: always the complete 200 response, whatever the request says. -/
theorem send_file_unconditional (a : SendFile) (hc : a.conditional = false) (et : Option Str)
    (het : a.etagHeader = .ok et) (q : CondReq) (data : Bytes) (seekable : Bool) :
    ∃ o, sendFile a "GET".toList q data seekable = .ok (some o) ∧ o.status = 200 ∧
      o.contentRange = none ∧ o.body.flatten = data := by
  refine ⟨_, sendFile_unconditional a hc et het _ q data seekable, rfl, rfl, ?_⟩
  rewrite [String.toList_ofList]
  exact file_blocks_flatten data

/-- The cache headers `send_file` sets next to the validators: without `max_age` the response is
`no-cache` and has no `Expires` (every reuse must revalidate — which the theorems above decide);
a positive `max_age` gives `public, max-age=n` and `Expires = now + n`; zero or negative values keep
`no-cache`. -/
theorem send_file_cache_headers (n : Int) (now : Int) :
    sendFileCacheControl none = "no-cache".toList ∧ sendFileExpires none now = none ∧
    (0 < n → sendFileCacheControl (some n) = "public, max-age=".toList ++ (toString n).toList) ∧
    (n ≤ 0 → sendFileCacheControl (some n) = "no-cache, max-age=".toList ++ (toString n).toList) ∧
    sendFileExpires (some n) now = some (now + n) := by
  refine ⟨rfl, rfl, ?_, ?_, rfl⟩
  · intro h
    show (if n > 0 then _ else _) = _
    rw [if_pos h]
  · intro h
    have : ¬ (n > 0) := by omega
    show (if n > 0 then _ else _) = _
    rw [if_neg this]

/-- a given entity tag containing `"` is refused (`quote_etag` raises ValueError) -/
theorem send_file_bad_given_etag (a : SendFile) (s : Str) (he : a.etag = .given s) (hq : '"' ∈ s)
    (method : Str) (q : CondReq) (data : Bytes) (seekable : Bool) :
    sendFile a method q data seekable = .error "ValueError" := by
  simp [sendFile, SendFile.etagHeader, he, hq]

/-- a path of 10 bytes, mtime 1767225600.25, checksum 7 -/
def exampleFile : SendFile := ⟨true, some 10, some (1767225600, 250000), "1767225600.25".toList, 7, .auto, none, true⟩

example : exampleFile.autoTag = "1767225600.25-10-7".toList ∧
    (match sendFile exampleFile "GET".toList { inm := some "\"1767225600.25-10-7\"".toList }
        [1, 2, 3, 4, 5, 6, 7, 8, 9, 10] true with
      | .ok (some o) => o.status
      | _ => 0) = 304 ∧
    (match sendFile exampleFile "GET".toList { inm := some "\"1767225599.25-10-7\"".toList }
        [1, 2, 3, 4, 5, 6, 7, 8, 9, 10] true with
      | .ok (some o) => o.status
      | _ => 0) = 200 ∧
    (match sendFile exampleFile "GET".toList { range := some "bytes=2-4".toList }
        [1, 2, 3, 4, 5, 6, 7, 8, 9, 10] true with
      | .ok (some o) => (o.status, o.body)
      | _ => (0, [])) = (206, [[3, 4, 5]]) := by
  repeat rewrite [String.toList_ofList]
  decide +kernel

example : (⟨true, some 10, some (1767225600, 250000), "1767225600.25".toList, 7, .auto, none, true⟩ : SendFile).autoTag
    = "1767225600.25-10-7".toList := by
  repeat rewrite [String.toList_ofList]
  decide +kernel

end Wz.Props.C11
