/-
What the encoder writes (C02): header lines that survive `_parse_headers`, the Content-Disposition
header, valid parts, `send_event` row by row, and the body `encBody` that every accepted event sequence
encodes to. (The decoder's run over that body, for every chunking, is Lemmas/MultipartRaw.lean and
Lemmas/MultipartChunks.lean.)
-/
import WzVerif.Lemmas.HeaderBlock
import WzVerif.Lemmas.Utf8Facts
import WzVerif.Lemmas.FormOptions
namespace Wz.Multipart
open Wz Wz.Utf8Facts

def NoNlChars (s : Str) : Prop := '\r' ∉ s ∧ '\n' ∉ s

/-- first and last character are not white space (what `strip()` would remove); not empty -/
def edgeOk (s : Str) : Bool :=
  match s.head?, s.getLast? with
  | some a, some b => !Py.isSpace a && !Py.isSpace b
  | _, _ => false

/-- a header (name, value) the encoder can write and the decoder reads back unchanged -/
def HeaderOk (kv : Str × Str) : Prop :=
  edgeOk kv.1 = true ∧ edgeOk kv.2 = true ∧ NoNlChars kv.1 ∧ NoNlChars kv.2 ∧ ':' ∉ kv.1

instance (s : Str) : Decidable (NoNlChars s) := by unfold NoNlChars; infer_instance
instance (kv : Str × Str) : Decidable (HeaderOk kv) := by unfold HeaderOk; infer_instance

/-- the bytes of one header line (without the CRLF) -/
def lineOf (kv : Str × Str) : Bytes := utf8Enc (kv.1 ++ ':' :: ' ' :: kv.2)

theorem edgeOk_split {s : Str} (h : edgeOk s = true) :
    ∃ a t, s = a :: t ∧ Py.isSpace a = false ∧ ∃ i b, s = i ++ [b] ∧ Py.isSpace b = false := by
  unfold edgeOk at h
  cases s with
  | nil => simp at h
  | cons a t =>
    have hl : (a :: t).getLast? = some ((a :: t).getLast (by simp)) := List.getLast?_eq_some_getLast (by simp)
    rw [hl] at h
    simp at h
    refine ⟨a, t, rfl, h.1, (a :: t).dropLast, (a :: t).getLast (by simp), ?_, h.2⟩
    exact (List.dropLast_concat_getLast (by simp)).symm

/-- `bytes.strip()` keeps the first (last) byte of the encoding of a character that `str.strip()`
keeps: below 128 the byte is the character and bytes white space is `str` white space, above it no
byte is white space -/
theorem edge_byte_not_space {a : Char} {b : UInt8} (h : Py.isSpace a = false)
    (hc : if a.toNat < 128 then b = UInt8.ofNat a.toNat else 128 ≤ b.toNat) : isBytesSpace b = false := by
  have hb : isBytesSpace b = true ↔ b.toNat = 32 ∨ (9 ≤ b.toNat ∧ b.toNat ≤ 13) := by
    simp [isBytesSpace, UInt8.le_iff_toNat_le, ← UInt8.toNat_inj]
  rw [← Bool.not_eq_true, hb]
  split at hc
  · rename_i hlt
    subst hc
    rw [UInt8.toNat_ofNat_of_lt' (Nat.lt_trans hlt (by decide))]
    simp [Py.isSpace] at h
    omega
  · omega

theorem hasNl_utf8Enc {s : Str} (h : NoNlChars s) : hasNl (utf8Enc s) = false := by
  unfold hasNl
  rw [List.any_eq_false]
  intro b hb hn
  rcases isNl_iff.1 hn with h1 | h1 <;> subst h1
  · exact h.2 (by simpa using (mem_utf8Enc_ascii s 10 (by decide)).1 hb)
  · exact h.1 (by simpa using (mem_utf8Enc_ascii s 13 (by decide)).1 hb)

theorem noNl_append {a b : Str} : NoNlChars (a ++ b) ↔ NoNlChars a ∧ NoNlChars b := by
  simp only [NoNlChars, List.mem_append, not_or]
  exact ⟨fun ⟨⟨h1, h2⟩, h3, h4⟩ => ⟨⟨h1, h3⟩, h2, h4⟩, fun ⟨⟨h1, h3⟩, h2, h4⟩ => ⟨⟨h1, h2⟩, h3, h4⟩⟩

theorem noNl_cons {c : Char} {s : Str} : NoNlChars (c :: s) ↔ (c ≠ '\r' ∧ c ≠ '\n') ∧ NoNlChars s := by
  simp only [NoNlChars, List.mem_cons, not_or]
  exact ⟨fun ⟨⟨h1, h2⟩, h3, h4⟩ => ⟨⟨Ne.symm h1, Ne.symm h3⟩, h2, h4⟩,
    fun ⟨⟨h1, h3⟩, h2, h4⟩ => ⟨⟨Ne.symm h1, h2⟩, Ne.symm h3, h4⟩⟩

theorem lineOk_of_headerOk {kv : Str × Str} (h : HeaderOk kv) : LineOk (lineOf kv) := by
  rcases kv with ⟨k, v⟩
  rcases h with ⟨hk, hv, hnk, hnv, _⟩
  rcases edgeOk_split hk with ⟨a, t, rfl, ha, _⟩
  rcases edgeOk_split hv with ⟨_, _, _, _, i, b, rfl, hbsp⟩
  have hnl : NoNlChars ((a :: t) ++ ':' :: ' ' :: (i ++ [b])) :=
    noNl_append.2 ⟨hnk, noNl_cons.2 ⟨by decide, noNl_cons.2 ⟨by decide, hnv⟩⟩⟩
  rcases utf8Enc_head a (t ++ ':' :: ' ' :: (i ++ [b])) with ⟨b0, r0, he0, hc0⟩
  have hs0 := edge_byte_not_space ha hc0
  have hlast : (a :: t) ++ ':' :: ' ' :: (i ++ [b]) = ((a :: t) ++ ':' :: ' ' :: i) ++ [b] := by simp
  rcases utf8Enc_last ((a :: t) ++ ':' :: ' ' :: i) b with ⟨r1, b1, he1, hc1⟩
  have hs1 := edge_byte_not_space hbsp hc1
  unfold lineOf
  refine ⟨?_, hasNl_utf8Enc hnl, ?_, ?_⟩
  · simp only [List.cons_append] at he0 ⊢; rw [he0]; simp
  · simp only [List.cons_append] at he0 ⊢; rw [he0]; simpa using hs0
  · simp only at hlast ⊢
    rw [hlast, he1]; simpa using hs1

theorem linesOk_of_headersOk {hs : Headers} (hok : ∀ kv ∈ hs, HeaderOk kv) : ∀ l ∈ hs.map lineOf, LineOk l := by
  intro l hl
  rcases List.mem_map.1 hl with ⟨kv, hkv, rfl⟩
  exact lineOk_of_headerOk (hok kv hkv)

theorem edgeOk_ends {s : Str} (h : edgeOk s = true) :
    (∀ c, s.head? = some c → Py.isSpace c = false) ∧ (∀ c, s.getLast? = some c → Py.isSpace c = false) := by
  unfold edgeOk at h
  cases hh : s.head? <;> cases hl : s.getLast? <;> simp_all

theorem strip_edgeOk {s : Str} (h : edgeOk s = true) : Py.strip s = s :=
  strip_of_ends (edgeOk_ends h).1 (edgeOk_ends h).2

theorem strip_space_edgeOk {s : Str} (h : edgeOk s = true) : Py.strip (' ' :: s) = s :=
  strip_space_of_ends (edgeOk_ends h).1 (edgeOk_ends h).2

theorem partitionColon_line {k v : Str} (h : ':' ∉ k) :
    partitionColon (k ++ ':' :: ' ' :: v) = (k, ' ' :: v) := by
  rcases takeWhile_ne_append (' ' :: v) h with ⟨h1, h2⟩
  rw [partitionColon, h1, h2]; rfl

theorem parseHeaders_block (nl : Nl) (hs : Headers) (hok : ∀ kv ∈ hs, HeaderOk kv) :
    parseHeaders (joinNl nl (hs.map lineOf)) = .ok hs := by
  unfold parseHeaders
  rw [lines_block nl _ (linesOk_of_headersOk hok)]
  simp only
  induction hs with
  | nil => rfl
  | cons kv t ih =>
    rcases kv with ⟨k, v⟩
    have hkv := hok (k, v) (by simp)
    have ih' := ih (fun x hx => hok x (by simp [hx]))
    simp only [List.map_cons, List.foldr_cons]
    rw [ih']
    simp only [lineOf, utf8Dec_utf8Enc, partitionColon_line hkv.2.2.2.2, strip_edgeOk hkv.1,
      strip_space_edgeOk hkv.2.1]

def kCD : Str := "Content-Disposition".toList

def cdHeader (n : Str) (f : Option Str) : Str × Str := (kCD, FormOptions.dispositionValue n f)

/-- a part the encoder can write and the decoder reads back (decidable): a name, names free of
`"`, `\`, `%22`, CR, LF; `isFile` iff there is a filename; extra headers that survive a header
line and are not Content-Disposition; a payload none of whose lines starts with `--boundary` and which is free of the other newline kind
(`nl` is the line break the body uses: CRLF as the encoder writes it, or bare LF / bare CR) -/
def ValidPart (nl : Nl) (bnd : Bytes) (p : Part) : Prop :=
  match p.name with
  | none => False
  | some n =>
    FormOptions.NameOk n ∧ NoNlChars n ∧
    (match p.filename with
     | none => True
     | some f => FormOptions.NameOk f ∧ NoNlChars f) ∧
    p.isFile = p.filename.isSome ∧
    (∀ kv ∈ p.headers, HeaderOk kv ∧ lowerAscii kv.1 ≠ "content-disposition".toList) ∧
    PayloadOkNl nl bnd p.payload

instance (nl : Nl) (bnd : Bytes) (p : Part) : Decidable (ValidPart nl bnd p) := by
  unfold ValidPart
  cases p.name with
  | none => exact isFalse (fun h => h)
  | some n =>
    cases p.filename with
    | none => simp only; infer_instance
    | some f => simp only; infer_instance

/-- the header block of a part as bytes (lines joined by the line break) -/
def hdrBlock (nl : Nl) (n : Str) (p : Part) : Bytes :=
  joinNl nl ((cdHeader n p.filename :: p.headers).map lineOf)

/-- the body line break and the payload (nothing at all for an empty payload) -/
def framedNl (nl : Nl) (payload : Bytes) : Bytes := if payload.isEmpty then [] else nl.bytes ++ payload

/-- one part on the wire (`nl = .crlf`: what the encoder writes) -/
def encPart (nl : Nl) (bnd : Bytes) (n : Str) (p : Part) : Bytes :=
  nl.bytes ++ (delim bnd ++ (nl.bytes ++ (hdrBlock nl n p ++ (nl.bytes ++ framedNl nl p.payload))))

theorem joinCrlf_flatten (l0 : Bytes) (ls : List Bytes) :
    l0 ++ crlf ++ (ls.map fun l => l ++ crlf).flatten = joinNl .crlf (l0 :: ls) ++ crlf := by
  induction ls generalizing l0 with
  | nil => simp [joinNl]
  | cons l t ih =>
    simp only [List.map_cons, List.flatten_cons, joinNl_cons_cons]
    rw [ih l]
    simp [crlf, Nl.bytes]

theorem str_cd_name : str "Content-Disposition: form-data; name=\"" =
    utf8Enc (kCD ++ ':' :: ' ' :: (FormOptions.kFormData ++ ';' :: ' ' :: (FormOptions.kName ++ ['=', '"']))) := by
  unfold kCD
  rw [str_ofList, String.toList_ofList]
  rfl

theorem str_filename : str "; filename=\"" = utf8Enc (';' :: ' ' :: (FormOptions.kFilename ++ ['=', '"'])) :=
  str_ofList _

theorem utf8Enc_quote : utf8Enc ['"'] = [34] := by decide +kernel

theorem cd_line (n : Str) (f : Option Str) :
    (match f with
     | some f => str "Content-Disposition: form-data; name=\"" ++ utf8Enc n ++ [34] ++ str "; filename=\"" ++ utf8Enc f ++ [34]
     | none => str "Content-Disposition: form-data; name=\"" ++ utf8Enc n ++ [34]) =
    lineOf (cdHeader n f) := by
  -- the two literals as variables: `simp` would evaluate them at every unification
  have key : ∀ a b : Bytes, a = utf8Enc (kCD ++ ':' :: ' ' :: (FormOptions.kFormData ++ ';' :: ' ' ::
        (FormOptions.kName ++ ['=', '"']))) → b = utf8Enc (';' :: ' ' :: (FormOptions.kFilename ++ ['=', '"'])) →
      (match f with
       | some f => a ++ utf8Enc n ++ [34] ++ b ++ utf8Enc f ++ [34]
       | none => a ++ utf8Enc n ++ [34]) = lineOf (cdHeader n f) := by
    rintro a b rfl rfl
    rw [← utf8Enc_quote]
    cases f <;> simp [lineOf, cdHeader, FormOptions.dispositionValue, ← utf8Enc_append]
  exact key _ _ str_cd_name str_filename

theorem lineOf_cd (n : Str) (f : Option Str) :
    lineOf (cdHeader n f) = str "Content-Disposition: " ++ utf8Enc (FormOptions.dispositionValue n f) := by
  have hk : str "Content-Disposition: " = utf8Enc (kCD ++ [':', ' ']) := by
    unfold kCD; rw [str_ofList, String.toList_ofList]; rfl
  rw [hk, ← utf8Enc_append]; simp [lineOf, cdHeader]

theorem filter_headers_valid {hs : Headers}
    (h : ∀ kv ∈ hs, HeaderOk kv ∧ lowerAscii kv.1 ≠ "content-disposition".toList) :
    hs.filter (fun (k, _) => lowerAscii k != "content-disposition".toList) = hs := by
  rw [List.filter_eq_self]
  intro kv hkv
  rcases kv with ⟨k, v⟩
  have := (h (k, v) hkv).2
  simpa using this

theorem sendEvent_preamble (bnd d : Bytes) : sendEvent bnd .preamble (.preamble d) = .ok (d, .part) := rfl

theorem sendEvent_head (bnd : Bytes) {st : State} (n : Str) (f : Option Str) (hs : Headers)
    (hst : (st == .preamble || st == .part || st == .data) = true) :
    sendEvent bnd st (match f with | some f => .file (some n) f hs | none => .field (some n) hs) =
      .ok (crlf ++ 45 :: 45 :: bnd ++ crlf ++ lineOf (cdHeader n f) ++ crlf ++
        ((hs.filter fun (k, _) => lowerAscii k != "content-disposition".toList).map
          fun kv => lineOf kv ++ crlf).flatten, .dataStart) := by
  rw [← cd_line]
  cases f <;> simp only [sendEvent, hst, if_true] <;> simp [lineOf, List.append_assoc]

theorem sendEvent_data_start_nil (bnd : Bytes) (more : Bool) :
    sendEvent bnd .dataStart (.data [] more) = .ok ([], if more then .dataStart else .data) := rfl

theorem sendEvent_data_start_cons (bnd : Bytes) (a : UInt8) (x : Bytes) (more : Bool) :
    sendEvent bnd .dataStart (.data (a :: x) more) = .ok (crlf ++ a :: x, .data) := by
  simp [sendEvent]

theorem sendEvent_data_data (bnd d : Bytes) (more : Bool) : sendEvent bnd .data (.data d more) = .ok (d, .data) := rfl

theorem sendEvent_epilogue (bnd : Bytes) (st : State) (d : Bytes) :
    sendEvent bnd st (.epilogue d) = .ok (crlf ++ 45 :: 45 :: bnd ++ [45, 45] ++ crlf ++ d, .complete) := rfl

theorem sendEvent_part {bnd : Bytes} {p : Part} {n : Str} {st : State} (hst : st = .part ∨ st = .data)
    (hn : p.name = some n)
    (hh : ∀ kv ∈ p.headers, HeaderOk kv ∧ lowerAscii kv.1 ≠ "content-disposition".toList) :
    sendEvent bnd st (partHeadEvent p) =
      .ok (13 :: 10 :: (delim bnd ++ 13 :: 10 :: (hdrBlock .crlf n p ++ [13, 10])), .dataStart) := by
  have hstb : (st == .preamble || st == .part || st == .data) = true := by
    rcases hst with h | h <;> subst h <;> rfl
  have hsend := sendEvent_head bnd n p.filename p.headers hstb
  rw [filter_headers_valid hh, show (match p.filename with
      | some f => Event.file (some n) f p.headers | none => .field (some n) p.headers) = partHeadEvent p by
    unfold partHeadEvent; rw [hn]; cases p.filename <;> rfl] at hsend
  have hjoin := joinCrlf_flatten (lineOf (cdHeader n p.filename)) (p.headers.map lineOf)
  rw [List.map_map] at hjoin
  rw [hsend]
  simp only [hdrBlock, List.map_cons]
  simp [crlf, delim]
  simpa [crlf, Function.comp_def] using hjoin

def nameOf (p : Part) : Str := p.name.getD []

/-- the closing delimiter followed by whatever comes after `--boundary--` (`ep`; the encoder writes
CRLF, a client may add an epilogue or omit the line break) -/
def closing (nl : Nl) (bnd ep : Bytes) : Bytes := nl.bytes ++ (delim bnd ++ 45 :: 45 :: ep)

/-- what is left of `ep` once the closing delimiter (with its padding and line break) is consumed -/
def epiOf (ep : Bytes) : Bytes := ep.drop ((ep.takeWhile isHws).length + lbLen (ep.dropWhile isHws))

/-- what the encoder writes after `--boundary--` -/
def stdEp : Bytes := [13, 10]

/-- the body `encodeAll` produces -/
def encBody (nl : Nl) (bnd ep : Bytes) : List Part → Bytes
  | [] => closing nl bnd ep
  | p :: ps => encPart nl bnd (nameOf p) p ++ encBody nl bnd ep ps

variable {nl : Nl} {ep : Bytes}

theorem validPart_name {bnd : Bytes} {p : Part} (h : ValidPart nl bnd p) : p.name = some (nameOf p) := by
  unfold ValidPart at h
  cases hn : p.name with
  | none => rw [hn] at h; exact absurd h (by simp)
  | some n => simp [nameOf, hn]

/-- what `ValidPart` says, with the name the part carries written `nameOf p` -/
structure ValidPartFacts (nl : Nl) (bnd : Bytes) (p : Part) : Prop where
  name : FormOptions.NameOk (nameOf p) ∧ NoNlChars (nameOf p)
  filename : ∀ f, p.filename = some f → FormOptions.NameOk f ∧ NoNlChars f
  isFile : p.isFile = p.filename.isSome
  headers : ∀ kv ∈ p.headers, HeaderOk kv ∧ lowerAscii kv.1 ≠ "content-disposition".toList
  payload : PayloadOkNl nl bnd p.payload

theorem validPart_facts {bnd : Bytes} {p : Part} (h : ValidPart nl bnd p) : ValidPartFacts nl bnd p := by
  have hn := validPart_name h
  unfold ValidPart at h
  rw [hn] at h
  obtain ⟨h1, h2, h3, h4, h5, h6⟩ := h
  exact ⟨⟨h1, h2⟩, fun f hf => by rw [hf] at h3; exact h3, h4, h5, h6⟩

/-- the Data events of a part whose payload arrives in pieces: `more_data` on all but the last -/
def dataEvents (pieces : List Bytes) (last : Bytes) : List Event :=
  pieces.map (fun x => Event.data x true) ++ [.data last false]

theorem encodeEvents_data_tail {bnd : Bytes} (pieces : List Bytes) (last : Bytes) (rest : List Event)
    {out : Bytes} (hrest : encodeEvents bnd .data rest = .ok out) :
    encodeEvents bnd .data (dataEvents pieces last ++ rest) = .ok (pieces.flatten ++ last ++ out) := by
  induction pieces with
  | nil => simp [dataEvents, encodeEvents, sendEvent_data_data, hrest]
  | cons x t ih =>
    simp only [dataEvents, List.map_cons, List.cons_append] at ih ⊢
    simp only [encodeEvents, sendEvent_data_data]
    rw [ih]
    simp

/-- at the start of the body: nothing is written for empty chunks, the line break comes with the
first non-empty one (as repaired by d57c0c6) -/
theorem encodeEvents_data_start {bnd : Bytes} (pieces : List Bytes) (last : Bytes) (rest : List Event)
    {out : Bytes} (hrest : encodeEvents bnd .data rest = .ok out) :
    encodeEvents bnd .dataStart (dataEvents pieces last ++ rest) =
      .ok (framedNl .crlf (pieces.flatten ++ last) ++ out) := by
  induction pieces with
  | nil =>
    cases last with
    | nil => simp [dataEvents, encodeEvents, sendEvent_data_start_nil, hrest, framedNl]
    | cons a t => simp [dataEvents, encodeEvents, sendEvent_data_start_cons, hrest, framedNl, crlf, Nl.bytes]
  | cons x t ih =>
    cases x with
    | nil =>
      simp only [dataEvents, List.map_cons, List.cons_append] at ih ⊢
      simp only [encodeEvents, sendEvent_data_start_nil, if_true]
      rw [ih]
      simp
    | cons a x' =>
      have htail := encodeEvents_data_tail (bnd := bnd) t last rest hrest
      simp only [dataEvents, List.map_cons, List.cons_append] at htail ⊢
      simp only [encodeEvents, sendEvent_data_start_cons]
      rw [htail]
      simp [framedNl, crlf, Nl.bytes]

theorem encodeEvents_part_chunked {bnd : Bytes} {p : Part} {st : State} (hst : st = .part ∨ st = .data)
    (hv : ValidPart .crlf bnd p) (pieces : List Bytes) (last : Bytes) (hp : pieces.flatten ++ last = p.payload)
    (rest : List Event) {out : Bytes} (hrest : encodeEvents bnd .data rest = .ok out) :
    encodeEvents bnd st (partHeadEvent p :: (dataEvents pieces last ++ rest)) =
      .ok (encPart .crlf bnd (nameOf p) p ++ out) := by
  have hs := sendEvent_part (bnd := bnd) hst (validPart_name hv) (validPart_facts hv).headers
  simp only [encodeEvents, hs]
  rw [encodeEvents_data_start pieces last rest hrest, hp]
  simp only
  congr 1
  simp [encPart, Nl.bytes]

/-- a part together with a chunking of its payload into Data events -/
abbrev ChunkedPart := Part × List Bytes × Bytes

def chunkedEvents (c : ChunkedPart) : List Event := partHeadEvent c.1 :: dataEvents c.2.1 c.2.2

theorem encodeEvents_chunked_parts {bnd : Bytes} (cs : List ChunkedPart)
    (hv : ∀ c ∈ cs, ValidPart .crlf bnd c.1 ∧ c.2.1.flatten ++ c.2.2 = c.1.payload) :
    ∀ st, st = .part ∨ st = .data →
    encodeEvents bnd st (cs.flatMap chunkedEvents ++ [.epilogue []]) = .ok (encBody .crlf bnd stdEp (cs.map (·.1))) := by
  induction cs with
  | nil =>
    intro st hst
    simp [encodeEvents, sendEvent_epilogue, encBody, closing, crlf, delim, stdEp, Nl.bytes]
  | cons c cs ih =>
    intro st hst
    have := ih (fun q hq => hv q (by simp [hq])) .data (Or.inr rfl)
    have hc := hv c (by simp)
    simp only [List.flatMap_cons, chunkedEvents, List.cons_append, List.append_assoc, List.map_cons]
    rw [encodeEvents_part_chunked hst hc.1 c.2.1 c.2.2 hc.2 _ this]
    rfl

/-- **every event sequence of the shape the encoder is meant for** — `Preamble(b"")`, per part a
Field/File event and any number of Data events (`more_data` on all but the last, empty chunks
anywhere), `Epilogue(b"")` — encodes to the same bytes as one Data event per part -/
theorem encodeEvents_chunked {bnd : Bytes} (cs : List ChunkedPart)
    (hv : ∀ c ∈ cs, ValidPart .crlf bnd c.1 ∧ c.2.1.flatten ++ c.2.2 = c.1.payload) :
    encodeEvents bnd .preamble (.preamble [] :: (cs.flatMap chunkedEvents ++ [.epilogue []])) =
      .ok (encBody .crlf bnd stdEp (cs.map (·.1))) := by
  simp only [encodeEvents, sendEvent_preamble]
  rw [encodeEvents_chunked_parts cs hv .part (Or.inl rfl)]
  simp

/-- **what `encodeAll` writes**: one Data event per part is a chunking like any other -/
theorem encodeAll_eq {bnd : Bytes} (ps : List Part) (hv : ∀ p ∈ ps, ValidPart .crlf bnd p) :
    encodeAll bnd ps = .ok (encBody .crlf bnd stdEp ps) := by
  have h := encodeEvents_chunked (bnd := bnd) (ps.map fun p => (p, [], p.payload)) (by
    intro c hc
    rcases List.mem_map.1 hc with ⟨p, hp, rfl⟩
    exact ⟨hv p hp, rfl⟩)
  have he : (ps.map fun p => ((p, [], p.payload) : ChunkedPart)).flatMap chunkedEvents = ps.flatMap partEvents := by
    rw [List.flatMap_map]; rfl
  rw [he, List.map_map, show ((fun c : ChunkedPart => c.1) ∘ fun p => (p, [], p.payload)) = id from rfl,
    List.map_id] at h
  exact h

/-- a decoder without limits that has not seen the end of the input -/
def mkD (bnd buf : Bytes) (st : State) (k : Nat) : Decoder :=
  { boundary := bnd, buffer := buf, state := st, complete := false, searchPos := 0, partsDecoded := k,
    maxMem := none, maxParts := none }

theorem lineOf_cd_head (n : Str) (f : Option Str) : ∃ r, lineOf (cdHeader n f) = 67 :: r := by
  have hk : kCD = 'C' :: kCD.tail := by unfold kCD; rw [String.toList_ofList]; rfl
  unfold lineOf cdHeader
  rw [hk, List.cons_append, utf8Enc_cons, utf8EncodeChar_ascii 'C' (by decide)]
  exact ⟨utf8Enc (kCD.tail ++ ':' :: ' ' :: FormOptions.dispositionValue n f), rfl⟩

theorem hdrBlock_head (nl : Nl) (n : Str) (p : Part) : ∃ r, hdrBlock nl n p = 67 :: r := by
  rcases lineOf_cd_head n p.filename with ⟨r, hr⟩
  unfold hdrBlock
  simp only [List.map_cons]
  cases p.headers.map lineOf with
  | nil => exact ⟨r, by simp [joinNl, hr]⟩
  | cons l t => exact ⟨r ++ (nl.bytes ++ joinNl nl (l :: t)), by simp [joinNl_cons_cons, hr]⟩

theorem headerGet_cd (n : Str) (f : Option Str) (hs : Headers) :
    headerGet "content-disposition".toList (cdHeader n f :: hs) = some (FormOptions.dispositionValue n f) := by
  have : lowerAscii kCD = "content-disposition".toList := by
    unfold kCD; rw [String.toList_ofList, String.toList_ofList]; decide
  simp [headerGet, cdHeader, this]

theorem headerOk_cd {n : Str} {f : Option Str} (hn : NoNlChars n)
    (hf : ∀ x, f = some x → NoNlChars x) : HeaderOk (cdHeader n f) := by
  have hk : edgeOk kCD = true ∧ NoNlChars kCD ∧ ':' ∉ kCD := by
    unfold kCD; rw [String.toList_ofList]; decide
  refine ⟨hk.1, ?_, hk.2.1, ?_, hk.2.2⟩
  · -- starts with 'f', ends with '"'
    obtain ⟨xs, hxs⟩ := FormOptions.dispositionRest_last n f
    have hhead : (FormOptions.dispositionValue n f).head? = some 'f' := rfl
    simp only [cdHeader, edgeOk, hhead]
    rw [FormOptions.dispositionValue_eq, hxs, show FormOptions.kFormData ++ ';' :: ' ' :: (xs ++ ['"']) =
      (FormOptions.kFormData ++ ';' :: ' ' :: xs) ++ ['"'] by simp, List.getLast?_concat]
    decide
  · have hk : NoNlChars FormOptions.kFormData ∧ NoNlChars FormOptions.kName ∧ NoNlChars FormOptions.kFilename ∧
        NoNlChars [] := by decide
    cases f with
    | none => simp [cdHeader, FormOptions.dispositionValue, noNl_append, noNl_cons, hn, hk]
    | some x => simp [cdHeader, FormOptions.dispositionValue, noNl_append, noNl_cons, hn, hf x rfl, hk]

/-- the part as the decoder reports it: the Content-Disposition header comes first -/
def decodedPart (p : Part) : Part :=
  { p with headers := cdHeader (nameOf p) p.filename :: p.headers }

theorem allHeadersOk {bnd : Bytes} {p : Part} (hv : ValidPart nl bnd p) :
    ∀ kv ∈ cdHeader (nameOf p) p.filename :: p.headers, HeaderOk kv := by
  have hf := validPart_facts hv
  intro kv hkv
  simp only [List.mem_cons] at hkv
  rcases hkv with rfl | h
  · exact headerOk_cd hf.name.2 (fun x hx => (hf.filename x hx).2)
  · exact (hf.headers kv h).1

theorem lookup_name (n : Str) (rest : List (Str × Str)) :
    FormOptions.lookup "name".toList ((FormOptions.kName, n) :: rest) = some n := by
  simp [FormOptions.lookup, FormOptions.kName]

theorem lookup_filename (n : Str) (f : Option Str) :
    FormOptions.lookup "filename".toList ((FormOptions.kName, n) :: FormOptions.filenameOpt f) = f := by
  cases f with
  | none => simp [FormOptions.lookup, FormOptions.kName, FormOptions.filenameOpt]
  | some x => simp [FormOptions.lookup, FormOptions.kName, FormOptions.kFilename, FormOptions.filenameOpt]

end Wz.Multipart
