/-
Histories of one Response object (C05). The "quiet" events - registering a callback, `get_data`,
`make_sequence`, `freeze`, the server pulling chunks - neither close anything nor lose a close action: `Keeps s s' evs` says what
a run of them keeps (log, status, passthrough flag, a `ClosingIterator` in the server's hands) and that the close actions due
grow by exactly the registrations among them; it is reflexive and transitive, and `quiet_run` is the fold of `quiet_step`.
-/
import WzVerif.Model.Response
namespace Wz.C05L
open Wz Hdr Resp

/-- events that neither close anything nor replace the body (`freeze()` buffers it and, as
repaired, keeps its close) -/
def quiet : REv → Bool
  | .callOnClose _ => true
  | .getData => true
  | .makeSequence => true
  | .take _ => true
  | .freeze _ => true
  | _ => false

/-- how often callback / close action `e` is registered by the events -/
def regs : List REv → CloseEv → Nat
  | [], _ => 0
  | .callOnClose n :: t, e => (if e = .cb n then 1 else 0) + regs t e
  | _ :: t, e => regs t e

theorem regs_append (a b : List REv) (e : CloseEv) : regs (a ++ b) e = regs a e + regs b e := by
  induction a with
  | nil => simp [regs]
  | cons x t ih =>
    cases x <;> simp only [List.cons_append, regs, ih] <;> omega

/-- the iterable the server holds is a `ClosingIterator` around `Response.close` -/
def isClosing : Held → Bool
  | .seqIter _ => true
  | .streamIter => true
  | .ownStream _ => true
  | .emptyIter => true
  | _ => false

theorem iterClose_log (s : St) (hc : isClosing s.held = true) :
    (nextEv s .iterClose).1.log = s.log ++ respClose s.r := by
  simp only [nextEv]
  cases hh : s.held <;> simp_all [isClosing]

theorem isClosing_detach (h : Held) (rest : List Item) (hc : isClosing h = true) : isClosing (detach h rest) = true := by
  cases h <;> simp_all [isClosing, detach]

theorem expected_makeSequence (r : R) (e : CloseEv) :
    (expectedClose (makeSequence r)).count e = (expectedClose r).count e := by
  unfold expectedClose makeSequence
  cases hk : r.body.kind with
  | seq => simp [hk]
  | stream c =>
    cases c with
    | true => simp only [if_true, List.count_append, List.count_cons, List.count_nil]; omega
    | false => simp

theorem expected_callOnClose (r : R) (n : Nat) (e : CloseEv) :
    (expectedClose (callOnClose r n)).count e = (expectedClose r).count e + (if e = .cb n then 1 else 0) := by
  unfold expectedClose callOnClose
  rw [← List.append_assoc, List.count_append, List.count_singleton]
  by_cases he : e = .cb n
  · subst he; simp
  · have h1 : (CloseEv.cb n == e) = false := by rw [beq_eq_false_iff_ne]; exact fun h => he h.symm
    simp [h1, he]

theorem makeSequence_fields (r : R) :
    (makeSequence r).status = r.status ∧ (makeSequence r).directPassthrough = r.directPassthrough := by
  unfold makeSequence; split <;> exact ⟨rfl, rfl⟩

/-! `_ensure_sequence()` by its three cases -/

theorem ensureSequence_seq {s : St} (hk : s.r.body.kind = .seq) : ensureSequence s = .ok s := by
  simp only [ensureSequence, hk]

theorem ensureSequence_refused {s : St} {c : Bool} (hk : s.r.body.kind = .stream c)
    (h : s.r.directPassthrough = true ∨ s.cfg.implicitConv = false) : ensureSequence s = .error "RuntimeError" := by
  simp only [ensureSequence, hk]
  rcases h with h | h
  · rw [if_pos h]
  · rw [h]; split <;> rfl

theorem ensureSequence_converts {s : St} {c : Bool} (hk : s.r.body.kind = .stream c)
    (hd : s.r.directPassthrough = false) (hi : s.cfg.implicitConv = true) :
    ensureSequence s = .ok { s with r := makeSequence s.r, held := detach s.held [] } := by
  simp only [ensureSequence, hk, hd, hi, Bool.false_eq_true, if_false, Bool.not_true]

theorem allBytes_makeSequence (r : R) : allBytes (makeSequence r).body.items = allBytes r.body.items := by
  unfold makeSequence
  split
  · rfl
  · simp only [allBytes, List.map_map]; rfl

/-- what quiet events `evs` leading from `s` to `s'` keep: the log, the status and the passthrough flag, a
`ClosingIterator` in the hands of the server; the close actions due grow by the registrations among `evs` -/
structure Keeps (s s' : St) (evs : List REv) : Prop where
  log : s'.log = s.log
  status : s'.r.status = s.r.status
  passthrough : s'.r.directPassthrough = s.r.directPassthrough
  closing : isClosing s.held = true → isClosing s'.held = true
  due : ∀ e, (expectedClose s'.r).count e = (expectedClose s.r).count e + regs evs e

theorem Keeps.refl (s : St) : Keeps s s [] := ⟨rfl, rfl, rfl, id, fun _ => rfl⟩

theorem Keeps.trans {s s1 s2 : St} {a b : List REv} (k1 : Keeps s s1 a) (k2 : Keeps s1 s2 b) : Keeps s s2 (a ++ b) :=
  ⟨k2.log.trans k1.log, k2.status.trans k1.status, k2.passthrough.trans k1.passthrough, fun h => k2.closing (k1.closing h),
    fun e => by rw [k2.due e, k1.due e, regs_append, Nat.add_assoc]⟩

theorem quiet_step (s : St) (ev : REv) (hq : quiet ev = true) : Keeps s (nextEv s ev).1 [ev] := by
  -- `get_data()` / `make_sequence()` leave the state alone or turn the body into a sequence
  have seqd : ∀ s' : St, (s' = s ∨ s' = { s with r := makeSequence s.r, held := detach s.held [] }) →
      (∀ e, regs [ev] e = 0) → Keeps s s' [ev] := by
    rintro s' (rfl | rfl) h0
    · exact ⟨rfl, rfl, rfl, id, fun e => by rw [h0]; rfl⟩
    · exact ⟨rfl, (makeSequence_fields s.r).1, (makeSequence_fields s.r).2, isClosing_detach _ _,
        fun e => by rw [h0]; exact expected_makeSequence s.r e⟩
  cases ev with
  | callOnClose n =>
    exact ⟨rfl, rfl, rfl, id, fun e => by simpa [nextEv, regs] using expected_callOnClose s.r n e⟩
  | getData =>
    refine seqd _ ?_ (fun _ => rfl)
    cases hk : s.r.body.kind with
    | seq => left; simp only [nextEv, ensureSequence_seq hk]
    | stream c =>
      cases hd : s.r.directPassthrough with
      | true => left; simp only [nextEv, ensureSequence_refused hk (Or.inl hd)]
      | false =>
        cases hi : s.cfg.implicitConv with
        | true => right; simp only [nextEv, ensureSequence_converts hk hd hi]
        | false => left; simp only [nextEv, ensureSequence_refused hk (Or.inr hi)]
  | makeSequence =>
    refine seqd _ ?_ (fun _ => rfl)
    cases hk : s.r.body.kind with
    | seq => left; simp [nextEv, hk]
    | stream c => right; simp [nextEv, hk]
  | take n =>
    obtain ⟨r, cfg, held, sent, log, wsgi⟩ := s
    refine ⟨?_, ?_, ?_, ?_, ?_⟩ <;> cases held with
    | rawStream c sh rest => cases sh <;> simp [nextEv, isClosing, expectedClose, regs]
    | _ => simp [nextEv, isClosing, expectedClose, regs]
  | freeze etag =>
    obtain ⟨r, cfg, held, sent, log, wsgi⟩ := s
    refine ⟨rfl, rfl, rfl, fun h => ?_, fun e => ?_⟩
    · simp only [nextEv]
      cases r.body.kind with
      | seq => exact h
      | stream c => exact isClosing_detach _ _ h
    · simp only [nextEv, regs, Nat.add_zero, expectedClose]
      cases hk : r.body.kind with
      | seq => simp
      | stream c =>
        cases c with
        | true => simp only [List.count_append, List.count_cons, List.count_nil]; omega
        | false => simp
  | setData _ => cases hq
  | streamWrite _ => cases hq
  | close => cases hq
  | getWsgi _ _ _ => cases hq
  | iterClose => cases hq

theorem quiet_run (evs : List REv) (s : St) (hq : evs.all quiet = true) : Keeps s (runEvs s evs) evs := by
  induction evs generalizing s with
  | nil => exact Keeps.refl s
  | cons ev t ih =>
    simp only [List.all_cons, Bool.and_eq_true] at hq
    exact (quiet_step s ev hq.1).trans (ih _ hq.2)

/-- unless the response is in direct passthrough with a body to send (F05), `get_wsgi_response` hands the
server a `ClosingIterator` -/
theorem getWsgi_closing (s : St) (m lo co : Str)
    (h : ¬ (s.r.directPassthrough = true ∧ bodyless s.r.status m = false)) :
    isClosing (nextEv s (.getWsgi m lo co)).1.held = true := by
  simp only [nextEv]
  by_cases hb : bodyless s.r.status m = true
  · rw [if_pos hb]; rfl
  · rw [if_neg hb]
    cases hd : s.r.directPassthrough with
    | true => exact absurd ⟨hd, by simpa using hb⟩ h
    | false => cases s.r.body.kind <;> rfl

/-- the wrapped iterable's own `close` is no callback: no event registers it -/
theorem regs_wrapped (evs : List REv) : regs evs .wrapped = 0 := by
  induction evs with
  | nil => rfl
  | cons x t ih => cases x <;> simp [regs, ih]

theorem runEvs_append (s : St) (a b : List REv) : runEvs s (a ++ b) = runEvs (runEvs s a) b := by
  induction a generalizing s with
  | nil => rfl
  | cons x t ih => simp only [List.cons_append, runEvs, ih]

end Wz.C05L
