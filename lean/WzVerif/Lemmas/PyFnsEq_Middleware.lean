/-
What Props/C15T rests on when it compares the translated `DispatcherMiddleware.__call__`
(`Gen/PyFns_Url.lean`: `dispatcher_call` with its `while "/" in script: … else: …` loop) with `Url.dispatch`
of `Model/Url.lean`: the definitions the statements there use (`finish`, `appOf`) and the two step lemmas
(`dispatcher_call_finish`: what follows the loop; `dispatcher_loop_step`: one turn of it).
(The other middleware, `SharedDataMiddleware.__call__`, is in PyFnsEq_SharedData.lean.)
-/
import WzVerif.Gen.PyFns_Url
import WzVerif.Model.Url
import WzVerif.Lemmas.PyFns_Prelude
import WzVerif.Lemmas.PyDict
namespace Wz.PyFnsEq.Middleware
open Wz Wz.Pre

section dispatcher
open Gen.PyFns_Url
variable {α : Type}

/-- what `__call__` does with the outcome of its `while … else` loop: the `else` clause looks the
rest of the script up with `self.mounts.get(script, self.app)`, both paths then store
`SCRIPT_NAME` / `PATH_INFO` and call the app -/
def finish (sin : Str) (mounts : List (Str × α)) (app : α) :
    LoopB ((Str × Str) × Except String α) (Str × Str) (Str × Str × α) → (Str × Str) × Except String α
  | .ret r => r
  | .fall (script, pi) => ((sin ++ script, pi), .ok (dictGetD mounts script app))
  | .brk (script, pi, a) => ((sin ++ script, pi), .ok a)

theorem dispatcher_call_finish (fuel : Nat) (pin sin : Str) (mounts : List (Str × α)) (app : α)
    (o1 o2 : Str) :
    dispatcher_call fuel pin sin mounts app o1 o2 () ()
      = finish sin mounts app (dispatcher_call.loop1 pin sin mounts o1 o2 fuel pin []) := by
  unfold dispatcher_call
  dsimp only
  cases dispatcher_call.loop1 pin sin mounts o1 o2 fuel pin [] with
  | ret r => rfl
  | fall st => obtain ⟨a, b⟩ := st; rfl
  | brk st => obtain ⟨a, b, c⟩ := st; rfl

/-- One turn of the translated `while "/" in script` loop, on `script = reversed(r)`: `break` with the mounted
app (`self.mounts[script]` is guarded by `script in self.mounts`, so it is `get` with any default), or go on
with the last segment moved to `path_info` (the two-way unpacking of `rsplit` is guarded by `"/" in script`),
or fall out of the loop; in the terms of one unfolding of the model's `dispatchLoop` -/
theorem dispatcher_loop_step (pin sin : Str) (mounts : List (Str × α)) (app : α) (o1 o2 : Str) (f : Nat) (r pi : Str) :
    dispatcher_call.loop1 pin sin mounts o1 o2 (f + 1) r.reverse pi =
      if r.contains '/' then
        if dictHas mounts r.reverse then .brk (r.reverse, pi, dictGetD mounts r.reverse app)
        else dispatcher_call.loop1 pin sin mounts o1 o2 f ((r.dropWhile (· != '/')).drop 1).reverse
          ('/' :: (r.takeWhile (· != '/')).reverse ++ pi)
      else .fall (r.reverse, pi) := by
  rw [dispatcher_call.loop1]
  simp only [contains_singleton, List.contains_reverse]
  by_cases hc : r.contains '/' = true
  · by_cases hm : dictHas mounts r.reverse = true
    · simp only [hc, hm, if_true, dictGetItem_of_has mounts r.reverse app hm]
    · simp only [hc, hm, if_true, Bool.false_eq_true, if_false,
        rsplitOnce_singleton '/' r.reverse (by simpa using hc), List.reverse_reverse]
      rfl
  · simp only [hc, Bool.false_eq_true, if_false]

/-- the app the model's answer stands for: the one stored under the selected mount key
(`self.mounts.get(key, self.app)`: the first item with that key), the default app for `none` -/
def appOf (mounts : List (Str × α)) (app : α) (d : Url.Dispatch) : α :=
  match d.mount with
  | some k => dictGetD mounts k app
  | none => app

/-- the fuel the examples below hand to `dispatcher_call` is `len(PATH_INFO) + 1`, what `C15T.dispatcher_call_eq` asks for -/
example : "/api/v1/users".toList.length + 1 ≤ 14 := by
  rw [String.toList_ofList]
  decide

/-- a concrete mount table (apps are numbers): the longest mounted prefix wins, the rest moves to
`PATH_INFO`; an unmounted path goes to the default app with `SCRIPT_NAME` unchanged -/
example :
    let r := dispatcher_call 14 "/api/v1/users".toList "/root".toList
      [("/api".toList, 1), ("/api/v1".toList, 2), ("/static".toList, 3)] (0 : Nat) [] [] () ()
    r.1 = ("/root/api/v1".toList, "/users".toList) ∧ r.2.toOption = some 2 := by
  repeat rw [String.toList_ofList]
  decide +kernel

example :
    let r := dispatcher_call 14 "/other/x".toList "/root".toList
      [("/api".toList, 1), ("/api/v1".toList, 2), ("/static".toList, 3)] (0 : Nat) [] [] () ()
    r.1 = ("/root".toList, "/other/x".toList) ∧ r.2.toOption = some 0 := by
  repeat rw [String.toList_ofList]
  decide +kernel

/-- a `PATH_INFO` without leading slash: the part before the first `/` ends up in `SCRIPT_NAME`
(replayed on CPython: `('/rootapi', '/v1')`, default app) -/
example :
    let r := dispatcher_call 7 "api/v1".toList "/root".toList
      [("/api".toList, 1), ("/api/v1".toList, 2), ("/static".toList, 3)] (0 : Nat) [] [] () ()
    r.1 = ("/rootapi".toList, "/v1".toList) ∧ r.2.toOption = some 0 := by
  repeat rw [String.toList_ofList]
  decide +kernel

end dispatcher

end Wz.PyFnsEq.Middleware
