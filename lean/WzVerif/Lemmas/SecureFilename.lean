/-
`secure_filename` (Model/Paths.lean): the strip regex as the class `[A-Za-z0-9_.-]`, and for the
platform-parametric model (`secureAsciiWith seps nt`) charset, no leading dot, idempotence for every
separator list that avoids that class and both values of `os.name == "nt"`, the device-file branch;
the model of the generating platform is its instance.
-/
import WzVerif.Model.Paths
import WzVerif.Lemmas.TableSweep
import WzVerif.Lemmas.Basics
namespace Wz.Paths

/-- `[A-Za-z0-9_.-]` by code point -/
def allowedNat (n : Nat) : Bool :=
  (48 ≤ n && n ≤ 57) || (65 ≤ n && n ≤ 90) || (97 ≤ n && n ≤ 122) || n == 95 || n == 46 || n == 45

def allowed (c : Char) : Bool := allowedNat c.toNat

/-- below 0x80 the regenerated `_filename_ascii_strip_re` table keeps exactly `[A-Za-z0-9_.-]` -/
theorem strip_table : ∀ n, n < 128 → (!tbl Gen.Paths.stripRe n) = allowedNat n :=
  fun _ hn => beq_iff_eq.mp (getD_sweep (t := Gen.Paths.stripRe) (q := fun r n => (!r) == allowedNat n)
    (by decide +kernel) hn)

/-- `_filename_ascii_strip_re` removes every code point above 0x7f -/
theorem strip_high : Gen.Paths.stripReHigh = true := by decide

theorem allowedNat_lt {n : Nat} (h : allowedNat n = true) : n < 128 := by
  simp [allowedNat] at h; omega

theorem not_stripped_iff (c : Char) : stripped c = false ↔ allowed c = true := by
  unfold stripped allowed
  by_cases h : c.toNat < 128
  · have := strip_table c.toNat h
    rw [if_pos h, ← this]; simp
  · rw [if_neg h, strip_high]
    constructor
    · intro h'; cases h'
    · intro h'; exact absurd (allowedNat_lt h') h

theorem spaces_not_allowed : ∀ n ∈ Gen.Paths.pySpaces, allowedNat n = false := by decide +kernel

theorem seps_not_allowed : ∀ c ∈ Gen.Paths.osSeps, allowed c = false := by decide

theorem allowed_not_space {c : Char} (h : allowed c = true) : isSpace c = false := by
  unfold isSpace
  cases hc : Gen.Paths.pySpaces.contains c.toNat with
  | false => rfl
  | true =>
    have hm : c.toNat ∈ Gen.Paths.pySpaces := by simpa using hc
    have := spaces_not_allowed _ hm
    unfold allowed at h
    rw [h] at this; cases this

theorem allowed_spec {c : Char} (h : allowed c = true) :
    c ≠ '/' ∧ c ≠ '\\' ∧ isSpace c = false ∧ c.toNat < 128 :=
  ⟨by rintro rfl; exact absurd h (by decide), by rintro rfl; exact absurd h (by decide),
    allowed_not_space h, allowedNat_lt h⟩

theorem mem_stripOf {chars s : Str} {c : Char} (h : c ∈ stripOf chars s) : c ∈ s := by
  unfold stripOf at h
  have h1 := List.mem_reverse.mp h
  have h2 := (List.dropWhile_suffix _).subset h1
  have h3 := List.mem_reverse.mp h2
  exact (List.dropWhile_suffix _).subset h3

theorem head_stripOf {chars s : Str} {c : Char} (h : (stripOf chars s).head? = some c) :
    chars.contains c = false := by
  unfold stripOf at h
  generalize hy : s.dropWhile (chars.contains ·) = y at h
  have hsuf : y.reverse.dropWhile (chars.contains ·) <:+ y.reverse := List.dropWhile_suffix _
  have hpre : (y.reverse.dropWhile (chars.contains ·)).reverse <+: y := by
    rw [← List.reverse_suffix]; simpa using hsuf
  obtain ⟨w, hw⟩ := hpre
  have hh : y.head? = some c := by
    rw [← hw]
    cases hz : (y.reverse.dropWhile (chars.contains ·)).reverse with
    | nil => rw [hz] at h; cases h
    | cons a t => rw [hz] at h; simpa using h
  have := List.head?_dropWhile_not (chars.contains ·) s
  rw [hy, hh] at this
  simpa using this

theorem last_stripOf {chars s : Str} {c : Char} (h : (stripOf chars s).getLast? = some c) :
    chars.contains c = false := by
  unfold stripOf at h
  rw [List.getLast?_reverse] at h
  have := List.head?_dropWhile_not (chars.contains ·) (s.dropWhile (chars.contains ·)).reverse
  rw [h] at this
  simpa using this

theorem stripOf_id {chars s : Str} (hh : ∀ c, s.head? = some c → chars.contains c = false)
    (hl : ∀ c, s.getLast? = some c → chars.contains c = false) : stripOf chars s = s := by
  unfold stripOf
  rw [Wz.dropWhile_head_false hh, Wz.dropWhile_head_false (l := s.reverse) (by simpa using hl)]
  simp

theorem stripOf_idem (chars s : Str) : stripOf chars (stripOf chars s) = stripOf chars s :=
  stripOf_id (fun _ h => head_stripOf h) (fun _ h => last_stripOf h)

theorem wordsAux_nospace (r : Str) (h : ∀ c ∈ r, isSpace c = false) (cur : Str) :
    wordsAux r cur = if cur.reverse ++ r = [] then [] else [cur.reverse ++ r] := by
  induction r generalizing cur with
  | nil => simp [wordsAux]
  | cons x t ih =>
    have hx := h x (by simp)
    simp only [wordsAux, hx, Bool.false_eq_true, if_false]
    rw [ih (fun c hc => h c (List.mem_cons_of_mem _ hc))]
    simp

theorem pyWords_nospace (r : Str) (h : ∀ c ∈ r, isSpace c = false) :
    pyWords r = if r = [] then [] else [r] := by
  have := wordsAux_nospace r h []
  simp only [List.reverse_nil, List.nil_append] at this
  exact this

theorem secureBase_allowed (seps : List Char) (s : Str) : ∀ c ∈ secureBase seps s, allowed c = true := by
  intro c hc
  unfold secureBase at hc
  have := mem_stripOf hc
  have := (List.mem_filter.mp this).2
  exact (not_stripped_iff c).mp (by simpa using this)

/-- on a name made of allowed characters only, everything before the final strip is the identity -/
theorem secureBase_of_allowed {seps : List Char} (hs : ∀ c ∈ seps, allowed c = false) {r : Str}
    (ha : ∀ c ∈ r, allowed c = true) : secureBase seps r = stripOf Gen.Paths.stripChars r := by
  have h1 : replaceSepsWith seps r = r := by
    unfold replaceSepsWith
    conv => rhs; rw [← List.map_id r]
    apply List.map_congr_left
    intro c hc
    have : seps.contains c = false := by
      cases hcc : seps.contains c with
      | false => rfl
      | true =>
        have := hs c (by simpa using hcc)
        rw [ha c hc] at this; cases this
    simp only [this, Bool.false_eq_true, if_false, id]
  have h2 : joinWith Gen.Paths.joinChars (pyWords r) = r := by
    rw [pyWords_nospace r (fun c hc => allowed_not_space (ha c hc))]
    by_cases hr : r = []
    · simp [hr, joinWith]
    · simp [hr, joinWith]
  have h3 : r.filter (fun c => !stripped c) = r := by
    apply List.filter_eq_self.mpr
    intro c hc
    simp [(not_stripped_iff c).mpr (ha c hc)]
  unfold secureBase
  rw [h1, h2, h3]

theorem secureBase_idem {seps : List Char} (hs : ∀ c ∈ seps, allowed c = false) (s : Str) :
    secureBase seps (secureBase seps s) = secureBase seps s := by
  rw [secureBase_of_allowed hs (secureBase_allowed seps s)]
  exact stripOf_idem _ _

/-- a sanitised name neither starts nor ends with one of the stripped characters `.` `_` -/
theorem secureBase_ends (seps : List Char) (s : Str) :
    (∀ c, (secureBase seps s).head? = some c → Gen.Paths.stripChars.contains c = false) ∧
    (∀ c, (secureBase seps s).getLast? = some c → Gen.Paths.stripChars.contains c = false) :=
  ⟨fun _ h => head_stripOf h, fun _ h => last_stripOf h⟩

theorem secureAscii_allowed (s : Str) : ∀ c ∈ secureAscii s, allowed c = true :=
  secureBase_allowed _ s

/-- on the generating platform (`os.sep/altsep` as generated, not Windows) the parametric model is
the model the correspondence stream and Props/C14T use -/
theorem secureAsciiWith_here (s : Str) : secureAsciiWith Gen.Paths.osSeps false s = secureAscii s := by
  simp [secureAsciiWith, show secureAscii s = secureBase Gen.Paths.osSeps s from rfl]

theorem secureFilenameWith_here (nfkd : Str → Str) (s : Str) :
    secureFilenameWith Gen.Paths.osSeps false nfkd s = secureFilename nfkd s :=
  secureAsciiWith_here _

theorem stripOf_cons_of_mem {chars : Str} {x : Char} (hx : chars.contains x = true) (r : Str) :
    stripOf chars (x :: r) = stripOf chars r := by
  unfold stripOf
  rw [List.dropWhile_cons_of_pos (by simpa using hx)]

/-- the name the device branch produces sanitises back to the name it was built from -/
theorem secureBase_underscore {seps : List Char} (hs : ∀ c ∈ seps, allowed c = false) (s : Str) :
    secureBase seps ('_' :: secureBase seps s) = secureBase seps s := by
  have ha : ∀ c ∈ '_' :: secureBase seps s, allowed c = true := by
    intro c hc
    rcases List.mem_cons.mp hc with rfl | hc
    · decide
    · exact secureBase_allowed seps s c hc
  rw [secureBase_of_allowed hs ha, stripOf_cons_of_mem (by decide)]
  exact stripOf_idem _ _

/-- `secure_filename` after the fold is the sanitised name, with `_` in front when the Windows
device-file branch fires -/
theorem secureAsciiWith_cases (seps : List Char) (nt : Bool) (s : Str) :
    (¬ (nt = true ∧ secureBase seps s ≠ [] ∧ isDevice (secureBase seps s) = true) ∧
        secureAsciiWith seps nt s = secureBase seps s) ∨
      (nt = true ∧ secureBase seps s ≠ [] ∧ isDevice (secureBase seps s) = true ∧
        secureAsciiWith seps nt s = '_' :: secureBase seps s) := by
  unfold secureAsciiWith
  simp only
  split
  · rename_i h; simp at h; exact .inr ⟨h.1.1, h.1.2, h.2, rfl⟩
  · rename_i h; exact .inl ⟨fun ⟨h1, h2, h3⟩ => h (by simp [h1, h2, h3]), rfl⟩

theorem secureAsciiWith_allowed (seps : List Char) (nt : Bool) (s : Str) :
    ∀ c ∈ secureAsciiWith seps nt s, allowed c = true := by
  intro c hc
  rcases secureAsciiWith_cases seps nt s with ⟨_, h⟩ | ⟨_, _, _, h⟩ <;> rw [h] at hc
  · exact secureBase_allowed seps s c hc
  · rcases List.mem_cons.mp hc with rfl | hc
    · decide
    · exact secureBase_allowed seps s c hc

theorem secureAsciiWith_head (seps : List Char) (nt : Bool) (s : Str) :
    (secureAsciiWith seps nt s).head? ≠ some '.' := by
  rcases secureAsciiWith_cases seps nt s with ⟨_, h⟩ | ⟨_, _, _, h⟩ <;> rw [h]
  · intro h; exact absurd ((secureBase_ends seps s).1 _ h) (by decide)
  · simp

theorem secureAsciiWith_idem {seps : List Char} (hs : ∀ c ∈ seps, allowed c = false) (nt : Bool)
    (s : Str) : secureAsciiWith seps nt (secureAsciiWith seps nt s) = secureAsciiWith seps nt s := by
  unfold secureAsciiWith
  simp only
  have hidem := secureBase_idem hs s
  have hund := secureBase_underscore hs s
  generalize secureBase seps s = r at hidem hund
  by_cases hc : (nt && !r.isEmpty && isDevice r) = true
  · rw [if_pos hc, hund, if_pos hc]
  · rw [if_neg hc, hidem, if_neg hc]

/-- the whole of `secure_filename` is idempotent when the separators avoid `[A-Za-z0-9_.-]` and the
opaque NFKD normalisation leaves ASCII text alone: its result is ASCII, so the Unicode fold does
nothing the second time -/
theorem secureFilenameWith_idem {seps : List Char} (hs : ∀ c ∈ seps, allowed c = false) (nt : Bool)
    (nfkd : Str → Str) (hn : ∀ t : Str, (∀ c ∈ t, c.toNat < 128) → nfkd t = t) (s : Str) :
    secureFilenameWith seps nt nfkd (secureFilenameWith seps nt nfkd s) = secureFilenameWith seps nt nfkd s := by
  have hascii : ∀ c ∈ secureFilenameWith seps nt nfkd s, c.toNat < 128 :=
    fun c hc => allowedNat_lt (secureAsciiWith_allowed seps nt _ c hc)
  have h2 : asciiIgnore (secureFilenameWith seps nt nfkd s) = secureFilenameWith seps nt nfkd s :=
    List.filter_eq_self.mpr fun c hc => by simpa using hascii c hc
  show secureAsciiWith seps nt (asciiIgnore (nfkd (secureFilenameWith seps nt nfkd s))) = _
  rw [hn _ hascii, h2]
  exact secureAsciiWith_idem hs nt _

theorem device_no_underscore : ∀ d ∈ Gen.Paths.windowsDeviceFiles, d.toList.head? ≠ some '_' := by
  decide

theorem isDevice_underscore (r : Str) : isDevice ('_' :: r) = false := by
  unfold isDevice
  rw [List.any_eq_false]
  intro d hd hbeq
  have hne := device_no_underscore d hd
  have heq : d.toList = (beforeDot ('_' :: r)).map upperChar := by simpa using hbeq
  have hb : beforeDot ('_' :: r) = '_' :: beforeDot r := by
    simp [beforeDot, List.takeWhile]
  rw [hb] at heq
  apply hne
  rw [heq]
  simp [upperChar]

theorem secureAsciiWith_nt_not_device (seps : List Char) (s : Str) :
    isDevice (secureAsciiWith seps true s) = false ∨ secureAsciiWith seps true s = [] := by
  rcases secureAsciiWith_cases seps true s with ⟨hn, h⟩ | ⟨_, _, _, h⟩ <;> rw [h]
  · by_cases he : secureBase seps s = []
    · exact .inr he
    · cases hd : isDevice (secureBase seps s) with
      | false => exact .inl rfl
      | true => exact absurd ⟨rfl, he, hd⟩ hn
  · exact .inl (isDevice_underscore _)

end Wz.Paths
