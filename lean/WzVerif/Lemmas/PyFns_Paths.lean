/-
Helper lemmas for Props/C14T (translated `werkzeug.security.safe_join` and `secure_filename` against
the hand-written model of `Model/Paths.lean`): the atoms of the refusal test in the model's form, one
turn of the translated `safe_join` loop, and the prelude's `str.isspace` / `split()` / `join` /
`strip(chars)` as the model's.
-/
import WzVerif.Gen.PyFns_Paths
import WzVerif.Lemmas.PyFns_Prelude
namespace Wz.PyFnsPaths
open Wz Wz.Pre

/-- `if filename != "": filename = normpath(filename)` as written in the code and in the model -/
theorem norm1_eq (f : Str) :
    (if !(f == []) then Paths.normpath f else f) = (if f = [] then f else Paths.normpath f) := by
  by_cases h : f = [] <;> simp [h]

theorem startswith_dds (f : Str) :
    startswith f ['.', '.', '/'] = (['.', '.', '/'] : Str).isPrefixOf f := rfl

/-- one turn of the `for filename in pathnames` loop of `safe_join` (conditional `normpath`, the
five-way refusal test, `parts.append`): the component is refused, or handed on as the model's
`checkComp` hands it on -/
theorem safe_join_loop_cons (alts : List Char) (f : Str) (rest parts : List Str) :
    Gen.PyFns_Paths.safe_join.loop1 (alts.map fun c => [c]) (f :: rest) parts =
      match Paths.checkComp alts f with
      | none => .ret (.ok none)
      | some g => Gen.PyFns_Paths.safe_join.loop1 (alts.map fun c => [c]) rest (parts ++ [g]) := by
  have hsep : ∀ g : Str, startswith g ['/'] = decide (g.head? = some Paths.sep) := fun g =>
    (startswith_singleton_head g '/').trans (Bool.beq_eq_decide_eq _ _)
  have hdd : ∀ g : Str, (g == ['.', '.']) = decide (g = Paths.dotdot) := fun g => Bool.beq_eq_decide_eq g _
  rw [Gen.PyFns_Paths.safe_join.loop1]
  unfold Paths.checkComp
  -- once every atom has the model's form the two tests are the same expression
  simp only [norm1_eq, hsep, startswith_dds, hdd, List.any_map, Function.comp_def,
    contains_singleton, Paths.hasChar]
  generalize (if f = [] then f else Paths.normpath f) = g
  split <;> simp only [*, if_true, Bool.false_eq_true, if_false]

/-- the model's `str.isspace` (a regenerated table) is the prelude's (a closed formula) -/
theorem isSpace_eq (c : Char) : Paths.isSpace c = Py.isSpace c := by
  -- the table lists the runs of the formula in the formula's order: once membership is spelt run by
  -- run, the two sides are the same disjunction (which is slow for `omega` to find out)
  have e : Gen.Paths.pySpaces = List.range' 9 5 ++ List.range' 28 5 ++ [133, 160, 5760] ++
      List.range' 8192 11 ++ [8232, 8233, 8239, 8287, 12288] := by decide
  have r : ∀ a len b n : Nat, a + len = b + 1 → (n ∈ List.range' a len ↔ a ≤ n ∧ n ≤ b) := by
    intro a len b n h; rw [List.mem_range'_1]; omega
  unfold Paths.isSpace Py.isSpace
  generalize c.toNat = n
  rw [Bool.eq_iff_iff, List.contains_iff_mem, e]
  simp only [List.mem_append, r 9 5 13 n rfl, r 28 5 32 n rfl, r 8192 11 8202 n rfl, List.mem_cons,
    List.not_mem_nil, Bool.or_eq_true, Bool.and_eq_true, decide_eq_true_eq, beq_iff_eq, or_false, or_assoc]

theorem splitWsAux_eq (s cur : Str) : Pre.splitWsAux s cur = Paths.wordsAux s cur := by
  induction s generalizing cur with
  | nil => simp [Pre.splitWsAux, Paths.wordsAux]
  | cons c t ih =>
    simp only [Pre.splitWsAux, Paths.wordsAux, isSpace_eq, ih, List.isEmpty_iff]

theorem splitWs_eq (s : Str) : Pre.splitWs s = Paths.pyWords s := splitWsAux_eq s []

theorem join_eq (j : Str) (ws : List Str) : Pre.join j ws = Paths.joinWith j ws := by
  induction ws with
  | nil => rfl
  | cons w t ih =>
    cases t with
    | nil => rfl
    | cons w2 t2 => simp only [Pre.join, Paths.joinWith, ih]

theorem stripChars_eq (s chars : Str) : Pre.stripChars s chars = Paths.stripOf chars s := rfl

end Wz.PyFnsPaths
