/-
Facts about lists, characters and `Util/Py`'s `strip` that the lemma files of several properties need, none of them about
werkzeug. Where a scan stops: core says what `takeWhile` / `dropWhile` do on the prefix that satisfies the predicate
(`List.takeWhile_append_of_pos`, `List.dropWhile_append_of_pos`), `takeWhile_append_stop` adds the point where the scan
stops (`takeWhile_ne_append`, `takeWhile_ne_not_mem`: a scan for `c`), and `split_at_first` / `split_at_last` are its reading
for "up to the first / after the last occurrence of `c`", which is how `str.find`, `partition`, `split(c, 1)` and their
`r`-variants are modelled. Folds, `filterMap`s and `mapM`s whose step is known only on the items at hand (the models' parsers
fold over what a dumper wrote; `flatMap_decode` is the same for a decoder that eats an encoder's tokens one by one).
`Py.strip` looks at the two ends of a text only (`strip_of_ends`, `strip_ends`); the three facts cited as `Py.strip_…` stand
with them. Code points, ASCII digits, `str(int)`, `String.ofList` and latin-1 as the models read them.
-/
import WzVerif.Util.Py
namespace Wz

theorem dropWhile_head_false {α : Type} {p : α → Bool} {l : List α}
    (h : ∀ c, l.head? = some c → p c = false) : l.dropWhile p = l := by
  cases l with
  | nil => rfl
  | cons c t => simp [h c rfl]

theorem takeWhile_head_false {α : Type} {p : α → Bool} {l : List α}
    (h : ∀ c, l.head? = some c → p c = false) : l.takeWhile p = [] := by
  cases l with
  | nil => rfl
  | cons c t => simp [h c rfl]

/-- `a` satisfies `p` throughout and `b` does not start with a `p`: the scan stops exactly between them -/
theorem takeWhile_append_stop {α : Type} {p : α → Bool} {a b : List α} (ha : ∀ c ∈ a, p c = true)
    (hb : ∀ c, b.head? = some c → p c = false) :
    (a ++ b).takeWhile p = a ∧ (a ++ b).dropWhile p = b := by
  rw [List.takeWhile_append_of_pos ha, List.dropWhile_append_of_pos ha, takeWhile_head_false hb,
    dropWhile_head_false hb, List.append_nil]
  exact ⟨rfl, rfl⟩

theorem takeWhile_ne_append {α : Type} [BEq α] [LawfulBEq α] {c : α} {body : List α} (rest : List α)
    (h : c ∉ body) :
    (body ++ c :: rest).takeWhile (· != c) = body ∧ (body ++ c :: rest).dropWhile (· != c) = c :: rest :=
  takeWhile_append_stop (fun x hx => by simpa using fun e : x = c => h (e ▸ hx)) (by simp)

/-- a scan for `c` over a text without `c` runs to the end -/
theorem takeWhile_ne_not_mem {α : Type} [BEq α] [LawfulBEq α] {c : α} {body : List α} (h : c ∉ body) :
    body.takeWhile (· != c) = body ∧ body.dropWhile (· != c) = [] := by
  simpa using takeWhile_append_stop (p := (· != c)) (a := body) (b := [])
    (fun x hx => by simpa using fun e : x = c => h (e ▸ hx)) (by simp)

theorem dropWhile_eq_nil_iff {α : Type} {p : α → Bool} {l : List α} :
    l.dropWhile p = [] ↔ ∀ x ∈ l, p x = true := by
  induction l with
  | nil => simp
  | cons a t ih => by_cases h : p a = true <;> simp [h, ih]

theorem mem_takeWhile {p : α → Bool} {l : List α} {x : α} (h : x ∈ l.takeWhile p) : p x = true :=
  List.all_eq_true.mp List.all_takeWhile x h

theorem all_not_mem {α : Type} {p : α → Bool} {l : List α} {a : α} (h : l.all p = true) (ha : p a = false) : a ∉ l :=
  fun hm => by simp [List.all_eq_true.1 h a hm] at ha

theorem ne_of_class {α : Type} {p : α → Bool} {c d : α} (h : p c = true) (hd : p d = false) : c ≠ d :=
  fun e => by rw [e, hd] at h; cases h

/-- an `if` that lets through exactly the non-empty lists over a class, unchanged -/
theorem ite_all_eq_some {α : Type} {P : α → Bool} {h r : List α} :
    (if !h.isEmpty && h.all P then some h else none) = some r ↔ r = h ∧ h ≠ [] ∧ ∀ c ∈ h, P c = true := by
  rw [Option.ite_none_right_eq_some, and_comm (b := some h = some r)]; simp [eq_comm (a := r)]

section split
variable [BEq α] [LawfulBEq α]

/-- `s` has no `c`, or splits at its first `c` - with what `takeWhile (· != c)` / `dropWhile (· != c)` return in either case -/
theorem split_at_first (c : α) (s : List α) :
    (c ∉ s ∧ s.takeWhile (· != c) = s ∧ s.dropWhile (· != c) = []) ∨
    ∃ pre post, s = pre ++ c :: post ∧ c ∉ pre ∧ s.takeWhile (· != c) = pre ∧
      s.dropWhile (· != c) = c :: post := by
  have hs := List.takeWhile_append_dropWhile (p := (· != c)) (l := s)
  have hpre : c ∉ s.takeWhile (· != c) := fun h => by simpa using mem_takeWhile h
  cases hd : s.dropWhile (· != c) with
  | nil =>
    rw [hd, List.append_nil] at hs
    exact Or.inl ⟨hs ▸ hpre, hs, rfl⟩
  | cons x post =>
    have hx : x = c := by
      have := List.head?_dropWhile_not (· != c) s
      rw [hd] at this
      simpa using this
    subst hx
    exact Or.inr ⟨_, post, by rw [← hd]; exact hs.symm, hpre, rfl, rfl⟩

theorem split_at_last (c : α) (s : List α) (h : c ∈ s) : ∃ a b, s = a ++ c :: b ∧ c ∉ b := by
  rcases split_at_first c s.reverse with ⟨h1, _, _⟩ | ⟨pre, post, h1, h2, _, _⟩
  · exact absurd (by simpa using h) h1
  · refine ⟨post.reverse, pre.reverse, ?_, by simpa using h2⟩
    have := congrArg List.reverse h1
    simpa using this

end split

/-- a decoder that undoes an encoder token by token, whatever follows the token, undoes it on a whole text -/
theorem flatMap_decode {α β γ : Type} {enc : α → List β} {dec : List β → List γ} {f : α → γ} {l : List α}
    (h : ∀ a ∈ l, ∀ rest, dec (enc a ++ rest) = f a :: dec rest) (rest : List β) :
    dec (l.flatMap enc ++ rest) = l.map f ++ dec rest := by
  induction l with
  | nil => rfl
  | cons a t ih =>
    rw [List.flatMap_cons, List.append_assoc, h a (List.mem_cons_self ..),
      ih fun b hb => h b (List.mem_cons_of_mem _ hb)]
    rfl

theorem foldl_map_eq {α β σ : Type} (f : σ → β → σ) (g : α → β) (h : σ → α → σ) (l : List α)
    (hf : ∀ s, ∀ x ∈ l, f s (g x) = h s x) (s : σ) : (l.map g).foldl f s = l.foldl h s := by
  induction l generalizing s with
  | nil => rfl
  | cons x t ih =>
    rw [List.map_cons, List.foldl_cons, List.foldl_cons, hf s x (by simp)]
    exact ih (fun s y hy => hf s y (by simp [hy])) _

theorem foldl_inv {σ α : Type} {P : σ → Prop} {ok : α → Prop} {f : σ → α → σ}
    (hf : ∀ s a, P s → ok a → P (f s a)) (l : List α) (s : σ) (hs : P s) (hl : ∀ a ∈ l, ok a) :
    P (l.foldl f s) := by
  induction l generalizing s with
  | nil => exact hs
  | cons a t ih =>
    exact ih _ (hf s a hs (hl a List.mem_cons_self)) (fun b hb => hl b (List.mem_cons_of_mem _ hb))

theorem filterMap_id_map {β γ : Type} (g : β → γ) (l : List (Option β)) :
    l.filterMap (Option.map g) = (l.filterMap id).map g := by
  induction l with
  | nil => rfl
  | cons a t ih => cases a <;> simp [ih]

theorem filterMap_id_eq_flatMap {β : Type} (l : List (Option β)) : l.filterMap id = l.flatMap Option.toList := by
  induction l with
  | nil => rfl
  | cons a t ih => cases a <;> simp [ih]

theorem filterMap_congr_mem {α β : Type} {f g : α → Option β} {l : List α} (h : ∀ x ∈ l, f x = g x) :
    l.filterMap f = l.filterMap g := by
  induction l with
  | nil => rfl
  | cons a t ih =>
    rw [List.filterMap_cons, List.filterMap_cons, h a (by simp), ih fun x hx => h x (by simp [hx])]

theorem mapM_some {α β : Type} (f : α → Option β) (g : α → β) (l : List α)
    (h : ∀ x ∈ l, f x = some (g x)) : l.mapM f = some (l.map g) := by
  induction l with
  | nil => rfl
  | cons a t ih =>
    rw [List.mapM_cons, h a (by simp), ih (fun x hx => h x (by simp [hx]))]
    rfl

theorem mapM_eq_none_iff {α β : Type} (f : α → Option β) (l : List α) :
    l.mapM f = none ↔ ∃ a ∈ l, f a = none := by
  induction l with
  | nil => simp
  | cons x t ih =>
    rw [List.mapM_cons]
    cases hx : f x with
    | none => simp [hx]
    | some b =>
      cases ht : t.mapM f with
      | none => simpa [hx, ht] using ih.mp ht
      | some bs =>
        have hn : ¬ ∃ a ∈ t, f a = none := fun h => by simpa [ht] using ih.mpr h
        simpa [hx, ht] using hn

theorem find?_zip_map {α β : Type} (f : α → β) (p : β → Bool) (l : List α) :
    ((l.zip (l.map f)).find? (fun x => p x.2)).map (·.1) = l.find? (fun a => p (f a)) := by
  induction l with
  | nil => rfl
  | cons a t ih =>
    simp only [List.map_cons, List.zip_cons_cons, List.find?_cons]
    cases p (f a) <;> simp [ih]

theorem rstripBy_noop {p : Char → Bool} {x : List Char} (h : ∀ c, x.getLast? = some c → p c = false) :
    Py.rstripBy p x = x := by
  rw [Py.rstripBy, dropWhile_head_false (by simpa using h), List.reverse_reverse]

theorem strip_of_ends {x : List Char} (h1 : ∀ c, x.head? = some c → Py.isSpace c = false)
    (h2 : ∀ c, x.getLast? = some c → Py.isSpace c = false) : Py.strip x = x := by
  rw [Py.strip, dropWhile_head_false h1, rstripBy_noop h2]

theorem strip_noSpace {s : List Char} (h : ∀ c ∈ s, Py.isSpace c = false) : Py.strip s = s :=
  strip_of_ends (fun c hc => h c (List.mem_of_mem_head? hc)) (fun c hc => h c (List.mem_of_getLast? hc))

theorem strip_space_of_ends {x : List Char} (h1 : ∀ c, x.head? = some c → Py.isSpace c = false)
    (h2 : ∀ c, x.getLast? = some c → Py.isSpace c = false) : Py.strip (' ' :: x) = x := by
  rw [Py.strip, List.dropWhile_cons, if_pos (by decide), dropWhile_head_false h1, rstripBy_noop h2]

theorem strip_first_last {a b : Char} (m : List Char) (ha : Py.isSpace a = false) (hb : Py.isSpace b = false) :
    Py.strip (a :: (m ++ [b])) = a :: (m ++ [b]) :=
  strip_of_ends (fun c hc => by cases hc; exact ha)
    (fun c hc => by rw [← List.cons_append, List.getLast?_concat] at hc; cases hc; exact hb)

theorem strip_ends (s : List Char) :
    (∀ c, (Py.strip s).head? = some c → Py.isSpace c = false) ∧
      (∀ c, (Py.strip s).getLast? = some c → Py.isSpace c = false) := by
  unfold Py.strip Py.rstripBy
  generalize hd : s.dropWhile Py.isSpace = d
  refine ⟨fun c hc => ?_, fun c hc => ?_⟩
  · -- the result is a prefix of `d`, whose first character is not white space
    have hp : (d.reverse.dropWhile Py.isSpace).reverse <+: d := by
      have := List.reverse_prefix.2 (List.dropWhile_suffix (l := d.reverse) Py.isSpace)
      rwa [List.reverse_reverse] at this
    obtain ⟨t, ht⟩ := hp
    cases hr : (d.reverse.dropWhile Py.isSpace).reverse with
    | nil => rw [hr] at hc; cases hc
    | cons x r =>
      rw [hr] at hc ht
      cases hc
      have := List.head?_dropWhile_not Py.isSpace s
      rw [hd, ← ht] at this
      exact this
  · rw [List.getLast?_reverse] at hc
    have := List.head?_dropWhile_not Py.isSpace d.reverse
    rwa [hc] at this

namespace Py

theorem strip_sublist (s : List Char) : (strip s).Sublist s := by
  unfold strip rstripBy
  exact (List.reverse_sublist.mpr (List.dropWhile_sublist _)).trans
    (by rw [List.reverse_reverse]; exact List.dropWhile_sublist _)

theorem strip_length_le (s : List Char) : (strip s).length ≤ s.length := (strip_sublist s).length_le

theorem strip_strip (s : List Char) : strip (strip s) = strip s :=
  strip_of_ends (strip_ends s).1 (strip_ends s).2

end Py

theorem toNat_ofNat_valid {n : Nat} (h : n.isValidChar) : (Char.ofNat n).toNat = n := by
  simp [Char.ofNat, h, Char.ofNatAux, Char.toNat]

theorem toNat_ofNat_lt {n : Nat} (h : n < 256) : (Char.ofNat n).toNat = n :=
  toNat_ofNat_valid (Or.inl (by omega))

theorem char_beq_toNat (c d : Char) : (c == d) = (c.toNat == d.toNat) := by
  rw [Bool.eq_iff_iff]
  simp only [beq_iff_eq, Char.ext_iff, ← UInt32.toNat_inj, Char.toNat]

theorem isDigit_nat (c : Char) : c.isDigit = (decide (48 ≤ c.toNat) && decide (c.toNat ≤ 57)) := by
  simp only [Char.isDigit, ge_iff_le, UInt32.le_iff_toNat_le]
  rfl

theorem isDigit_lt128 {c : Char} (h : c.isDigit = true) : c.toNat < 128 := by
  simp only [isDigit_nat, Bool.and_eq_true, decide_eq_true_eq] at h
  omega

theorem isDigit_not_space {c : Char} (h : c.isDigit = true) : Py.isSpace c = false := by
  simp only [isDigit_nat, Bool.and_eq_true, decide_eq_true_eq] at h
  simp [Py.isSpace]
  omega

theorem toDigits_isDigit (n : Nat) : ∀ c ∈ Nat.toDigits 10 n, c.isDigit = true :=
  fun _ hc => Nat.isDigit_of_mem_toDigits (by decide) (by decide) hc

/-- `str(n)` for a natural number -/
theorem toString_ofNat_toList (n : Nat) : (toString (Int.ofNat n)).toList = Nat.toDigits 10 n := by
  show (toString n).toList = _
  exact Nat.toList_repr

/-- `str(i)` for a negative integer -/
theorem toString_negSucc_toList (n : Nat) : (toString (Int.negSucc n)).toList = '-' :: Nat.toDigits 10 (n + 1) := by
  show ("-" ++ toString (n + 1)).toList = _
  simp

theorem ofList_beq (n : List Char) (s : String) : (String.ofList n == s) = (n == s.toList) := by
  by_cases h : n = s.toList
  · subst h; simp
  · have : String.ofList n ≠ s := by
      intro e; apply h; rw [← e]; simp
    rw [beq_eq_false_iff_ne.mpr this, beq_eq_false_iff_ne.mpr h]

theorem latin1Enc_latin1Dec : ∀ bs : Bytes, Py.latin1Enc (Py.latin1Dec bs) = some bs
  | [] => rfl
  | b :: t => by
    have hb := b.toNat_lt
    have ih := latin1Enc_latin1Dec t
    simp only [Py.latin1Dec, List.map_cons] at ih ⊢
    simp only [Py.latin1Enc, toNat_ofNat_lt hb, hb, if_true, ih, Option.map_some, UInt8.ofNat_toNat]

end Wz
