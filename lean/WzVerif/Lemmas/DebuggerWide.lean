/-
The widened dispatch table of C20 (`Gen/DebuggerWide.lean`: more spellings of the secret, the cookie, the
frame id and the Host than the narrow table has) is read like the narrow one (Lemmas/DebuggerTable.lean),
through the same `Decoded` / `Gates` / `code_gates` with this table's own decoding `reqOfPoint`. Here the Host
verdict of a point is the *model's* `hostIsTrusted` on the Host text and the cookie class is what the raw
`check_pin_trust` makes of the cookie text; both enter as literals that `wide_table_complete` proves equal
to the computed values.
-/
import WzVerif.Lemmas.DebuggerTable
import WzVerif.Lemmas.TableSweep
import WzVerif.Gen.DebuggerWide
namespace Wz.DbgW
open Wz Wz.Dbg Wz.Gen.DebuggerWide

/-- one point of the widened product -/
structure Point where
  cmd : Nat
  sec : Nat
  host : Nat
  cookie : Nat
  frame : Nat
  evalex : Bool
  pinOn : Bool

/-- the point stored as hex digit `j` of packed row `idx` -/
def pointAt (idx j : Nat) : Point :=
  { cmd := idx / (nSec * nHost), sec := (idx / nHost) % nSec, host := idx % nHost,
    cookie := j / (nFrame * 4), frame := (j / 4) % nFrame, evalex := (j / 2) % 2 == 0, pinOn := j % 2 == 0 }

def outcomeAt (idx j : Nat) : Nat := (rows.getD idx 15 / 16 ^ j) % 16

def hostClass (p : Point) : Nat := hostClasses.getD p.host 1

abbrev PointPred := Nat → Nat → Nat → Bool

def checkInner (Q : Nat → Nat → Bool) (n : Nat) : Nat → Bool
  | 0 => true
  | k + 1 => Q k ((n / 16 ^ k) % 16) && checkInner Q n k

def checkRows (P : PointPred) (total : Nat) : List Nat → Nat → Bool
  | [], _ => true
  | _ :: _, 0 => false
  | n :: rest, k + 1 => checkInner (P (total - (k + 1))) n rowLen && checkRows P total rest k

/-- `P` holds at every point of the live wide table -/
def checkTable (P : PointPred) : Bool := checkRows P nRows rows nRows

/-- the abstract cookie class of the point's cookie text, by the raw check with the rig's clock -/
def cookieOf (k : Nat) : Cookie :=
  classifyCookie decimalInt pinTime ['R'] (cookieTexts.getD k none) clockFloor

/-- what the raw cookie check makes of the eight cookie texts under the rig's clock, and what the
model's `hostIsTrusted` makes of the six Host texts with the default list — as literals, so that
`reqOfPoint` looks them up instead of running the check at every point; `wide_table_complete` proves
them equal to the computed values -/
def cookieLit : List Cookie := [.valid, .valid, .expired, .wrongHash, .malformed, .malformed, .malformed, .absent]
def hostLit : List Bool := [true, false, false, false, false, false]

/-- the request a wide table point stands for: commands as in `Dbg.reqOf`; every secret other than the
right one (wrong, case-swapped, truncated, empty) is `wrong`, the absent one `absent`; every frame id
other than the registered one (unknown, missing, not an integer) is unknown; the Host verdict is the
*model's* `hostIsTrusted` on the Host text, the cookie class the *raw* check's (`hostLit`, `cookieLit`) -/
def reqOfPoint (p : Point) : Req :=
  { debugger := p.cmd != 1,
    cmd := match p.cmd with
      | 0 => .other | 2 => .pinauth | 3 => .pinauth | 4 => .printpin | 5 => .resource | _ => .none,
    hasArg := p.cmd == 5,
    secret := match p.sec with | 0 => .right | 2 => .absent | _ => .wrong,
    frameKnown := p.frame == 0,
    hostTrusted := hostLit.getD p.host false,
    cookie := cookieLit.getD p.cookie .absent,
    pinRight := p.cmd == 2,
    atConsole := p.cmd == 1 }

def modelOutcome (p : Point) : Nat :=
  outcomeCode (dispatch { evalex := p.evalex, pinOn := p.pinOn } 0 (reqOfPoint p)).1

/-- the model's prediction for a row of the trusted_hosts × method table -/
def trustModel (r : Nat × Nat × Nat × Nat × Bool × Nat) : Nat :=
  let host := tHosts.getD r.2.1 none
  let trusted := tTrusted.getD r.2.2.1 []
  let req : Req :=
    { debugger := r.1 != 1,
      cmd := match r.1 with
        | 0 => .other | 2 => .pinauth | 3 => .pinauth | 4 => .printpin | 5 => .resource | _ => .none,
      hasArg := r.1 == 5, secret := .right, frameKnown := true,
      hostTrusted := hostIsTrusted asciiIdna host trusted,
      cookie := .valid, pinRight := r.1 == 2, atConsole := r.1 == 1 }
  outcomeCode (dispatch { evalex := true, pinOn := r.2.2.2.2.1 } 0 req).1

/-! The widened table against the model, as for the narrow table (`Dbg.outcomeAt_of_rows`); the six
secret spellings fall into three classes, so the row index contributes the class, taken from the
literal list `secrets`, and the kernel evaluates one model row per class. -/

/-- the class of each secret spelling of the widened table (`reqOfPoint`) -/
def secrets : List Secret := [.right, .wrong, .absent, .wrong, .wrong, .wrong]

/-- the model's outcome code at digit `j` of the row of command `c`, secret class `sec`, Host verdict `t` -/
def outcomeOf (c : Nat) (sec : Secret) (t : Bool) (j : Nat) : Nat :=
  outcomeCode (respond { evalex := (j / 2) % 2 == 0, pinOn := j % 2 == 0 } 0
    { reqOfPoint ⟨c, 0, 0, j / (nFrame * 4), (j / 4) % nFrame, true, true⟩ with
      secret := sec, hostTrusted := t })

def modelRow (c : Nat) (sec : Secret) (t : Bool) : Nat :=
  pack ((List.range rowLen).map (outcomeOf c sec t))

def modelRows : List Nat :=
  (List.range nCmd).flatMap fun c => secrets.flatMap fun sec => hostLit.map (modelRow c sec)

theorem modelOutcome_pointAt (idx j : Nat) : modelOutcome (pointAt idx j) =
    outcomeOf (idx / (nSec * nHost)) (reqOfPoint (pointAt idx j)).secret (hostLit.getD (idx % nHost) false) j :=
  rfl

theorem secrets_get (p : Point) (h : p.sec < nSec) : secrets[p.sec]? = some (reqOfPoint p).secret := by
  have : ∀ s < nSec, secrets[s]? = some (match s with | 0 => .right | 2 => .absent | _ => .wrong) := by decide
  exact this _ h

theorem modelRows_get (idx j : Nat) (hi : idx < nRows) :
    modelRows[idx]? = some (modelRow (idx / (nSec * nHost)) (reqOfPoint (pointAt idx j)).secret
      (hostLit.getD (idx % nHost) false)) := by
  have h1 : idx / (nSec * nHost) < nCmd := Nat.div_lt_of_lt_mul (Nat.mul_comm .. ▸ hi)
  have h2 := secrets_get (pointAt idx j) (Nat.mod_lt _ (by decide))
  have h3 : idx % nHost < hostLit.length := Nat.mod_lt _ (by decide)
  rw [modelRows, getElem?_product _ _ _ modelRow (by decide) (by decide)]
  simp only [show secrets.length = nSec from rfl, show hostLit.length = nHost from rfl, List.getElem?_range h1,
    Option.bind_some, List.getElem?_eq_getElem h3, Option.map_some,
    List.getD_eq_getElem?_getD, Option.getD_some]
  rw [show idx / nHost % nSec = (pointAt idx j).sec from rfl, h2]; rfl

theorem outcomeAt_of_rows (h : rows = modelRows) (idx j : Nat) (hi : idx < nRows) (hj : j < rowLen) :
    outcomeAt idx j = modelOutcome (pointAt idx j) := by
  rw [outcomeAt, List.getD_eq_getElem?_getD, h, modelRows_get idx j hi, modelOutcome_pointAt]
  exact pack_range_digit _ (fun _ => outcomeCode_lt _) hj

theorem checkTable_of_forall {P : PointPred} (hlen : rows.length = nRows)
    (h : ∀ idx j, idx < nRows → j < rowLen → P idx j (outcomeAt idx j) = true) : checkTable P = true :=
  check_of_forall (fun _ _ => rfl) (fun _ _ _ => rfl) (fun _ _ _ => rfl) (fun _ _ _ _ _ => rfl) hlen
    (Nat.le_refl _) fun i j hi hj => by simpa [outcomeAt] using h i j hi hj

/-- a Host the model's `hostIsTrusted` accepts is not of the never-accept class, given that this
holds of every row of the generated class table (`hs`, one pass over the zipped columns in the shape
`getD_sweep₂` of Lemmas/TableSweep.lean reads: the index `zipIdx` adds is not looked at) -/
theorem class_of_trusted
    (hs : ((hostLit.zip hostClasses).zipIdx.all fun x => !x.1.1 || x.1.2 != 1) = true)
    {p : Point} (h : (reqOfPoint p).hostTrusted = true) : hostClass p ≠ 1 := by
  change hostLit.getD p.host false = true at h
  unfold hostClass
  by_cases hh : p.host < hostLit.length
  · have := getD_sweep₂ (c := false) (d := 1) (q := fun v c _ => !v || c != 1) hs hh hh
    rw [h] at this
    simpa using this
  · rw [List.getD_eq_getElem?_getD, List.getElem?_eq_none (Nat.le_of_not_lt hh)] at h
    cases h

theorem reqOfPoint_decoded (p : Point) :
    Decoded (reqOfPoint p) p.cmd (p.sec = 0) (p.cookie = 0 ∨ p.cookie = 1) (p.frame = 0)
      ((reqOfPoint p).hostTrusted = true) := by
  refine ⟨?_, ?_, ?_, ?_, rfl, rfl, ?_, ?_, beq_iff_eq.mp, id⟩ <;> dsimp only [reqOfPoint]
  iterate 5 split <;> simp_all
  rcases p.cookie with _ | _ | _ | _ | _ | _ | _ | _ | k <;> simp [cookieLit]

/-- the gates at a point of the widened table where the table shows the model's outcome; `hs` as for
`class_of_trusted` -/
theorem gates_at (hs : ((hostLit.zip hostClasses).zipIdx.all fun x => !x.1.1 || x.1.2 != 1) = true)
    {idx j : Nat} (hm : outcomeAt idx j = modelOutcome (pointAt idx j)) :
    Gates { evalex := (pointAt idx j).evalex, pinOn := (pointAt idx j).pinOn } (pointAt idx j).cmd
      (outcomeAt idx j) ((pointAt idx j).sec = 0) ((pointAt idx j).cookie = 0 ∨ (pointAt idx j).cookie = 1)
      ((pointAt idx j).frame = 0) (hostClass (pointAt idx j) ≠ 1) :=
  code_gates ((reqOfPoint_decoded _).imp_host (class_of_trusted hs)) hm.symm

end Wz.DbgW
