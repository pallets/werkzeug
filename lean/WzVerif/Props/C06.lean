/-
C06 — every HTTP header serialiser is inverted by its parser.
Property theorems only (helper lemmas live in Lemmas/Http*.lean, Lemmas/Date*.lean, Lemmas/IfRange.lean).

Conventions: text is `List Char`; `parse (dump v) = .ok v` where the dumper / parser can raise.
Where the property's quantifier excludes CR/LF but the codec does not need that, the theorem is
stated for *all* text (stronger). Every remaining hypothesis is a decidable predicate, shown
satisfiable by an `example` and necessary by a `_needs_` witness.
-/
import WzVerif.Lemmas.Http
import WzVerif.Lemmas.HttpOptions
import WzVerif.Lemmas.HttpEtag
import WzVerif.Lemmas.HttpEtagNF
import WzVerif.Lemmas.HttpRange
import WzVerif.Lemmas.HttpCRange
import WzVerif.Lemmas.HttpAuth
import WzVerif.Lemmas.HttpCsp
import WzVerif.Lemmas.DateText
import WzVerif.Lemmas.IfRange
import WzVerif.Lemmas.HttpSet
import WzVerif.Lemmas.HttpSetHist
import WzVerif.Lemmas.HttpHist
import WzVerif.Lemmas.HttpAuthNF
namespace Wz.Props.C06
open Wz Wz.Http

/-- The regexes whose *shape* (not only character classes) is modelled by hand still have the source
text the model was written for. A change of any of them breaks this obligation. -/
theorem regex_sources_pinned :
    Gen.Http.parameterKeyRe = "([\\w!#$%&'*+\\-.^`|~]+)=" ∧
    Gen.Http.parameterTokenValueRe = "[\\w!#$%&'*+\\-.^`|~]+" ∧
    Gen.Http.charsetValueRe = "([\\w!#$%&*+\\-.^`|~]*)'[\\w!#$%&*+\\-.^`|~]*'([\\w!#$%&'*+\\-.^`|~]+)" ∧
    Gen.Http.continuationRe = "\\*(\\d+)$" ∧
    Gen.Http.plainIntRe = "-?\\d+" ∧
    Gen.Http.qValueRe = "-?\\d+(\\.\\d+)?" ∧
    Gen.Http.etagRe = "([Ww]/)?(?:\"(.*?)\"|(.*?))(?:\\s*,\\s*|$)" ∧
    Gen.Http.etagReFlags = 32 :=
  ⟨rfl, rfl, rfl, rfl, rfl, rfl, rfl, rfl⟩

/-- The literal sets the parsers consult are the ones the model assumes: the RFC 2231 charset
allow-list (identical in `parse_options_header` and `parse_dict_header`), the two escapes skipped
inside a quoted parameter value, and the digest keys that are always quoted. -/
theorem literal_sets_pinned :
    Gen.Http.safeEncodingsOptions = [["ascii", "iso-8859-1", "us-ascii", "utf-8"]] ∧
    Gen.Http.safeEncodingsDict = Gen.Http.safeEncodingsOptions ∧
    Gen.Http.optionEscapes = [["\\\"", "\\\\"]] ∧
    Gen.Http.digestQuoted = [["domain", "nonce", "opaque", "qop", "realm"]] :=
  ⟨rfl, rfl, rfl, rfl⟩

/-- `_token_chars` is exactly the RFC 9110 `tchar` set, the parameter-key / token-value regex
classes coincide with it, and nothing above U+00FF is in any of them (so a token never contains
`"`, `\`, `,`, `;`, `=`, or white space). `decide` over the complete regenerated tables. -/
theorem token_classes :
    Gen.Http.tokenHigh = false ∧ Gen.Http.tokenMulti = false ∧
    Gen.Http.paramKeyHigh = false ∧ Gen.Http.paramTokHigh = false ∧
    Gen.Http.paramKeyCls = Gen.Http.tokenTbl ∧ Gen.Http.paramTokCls = Gen.Http.tokenTbl ∧
    (∀ n, n < 256 → (tbl Gen.Http.tokenTbl n = true ↔
      ((48 ≤ n ∧ n ≤ 57) ∨ (65 ≤ n ∧ n ≤ 90) ∨ (97 ≤ n ∧ n ≤ 122) ∨
        n ∈ [33, 35, 36, 37, 38, 39, 42, 43, 45, 46, 94, 95, 96, 124, 126]))) := by
  refine ⟨rfl, rfl, rfl, rfl, paramKeyCls_eq, paramTokCls_eq, fun n hn => ?_⟩
  rw [tokenTbl_eq, tbl_tabulate, decide_eq_true hn, Bool.true_and]
  exact isTokenNat_iff n

/-- `unquote_header_value(quote_header_value(v, allow_token)) == v` for every string `v`
(all of Unicode, CR/LF included) and both settings of `allow_token`. -/
theorem unquote_quote (v : Str) (allowToken : Bool) :
    unquoteHeaderValue (quoteHeaderValue v allowToken) = v :=
  unquote_quote_any v allowToken

example : unquoteHeaderValue (quoteHeaderValue ['\\', '"', ' ', 'a'] true) = ['\\', '"', ' ', 'a'] := by decide

/-- The backslash must be escaped *before* the quote: a dumper that only escaped `"` would break
the pairing on `\"` (what the detection self-test mutates). -/
theorem unquote_quote_needs_backslash_escape :
    unquoteHeaderValue ('"' :: replace1 '"' ['\\', '"'] ['a', '\\', '\\', 'b'] ++ ['"']) ≠ ['a', '\\', '\\', 'b'] := by decide

/-- `parse_list_header(dump_header(items)) == items` for every list of strings (any Unicode,
empty strings, empty list). -/
theorem parseList_dump (items : List Str) : parseListHeader (dumpHeaderList items) = items :=
  parseList_dump_any items

example : parseListHeader (dumpHeaderList [[], ['a'], ['b', ',', '"', '\\', ' ']]) = [[], ['a'], ['b', ',', '"', '\\', ' ']] := by decide

/-- the members of `HeaderSet(items)`: since repair 1a2e0e6 (finding F08c) the constructor runs
the loop of `update()`, so a header given in two spellings is kept once, in its first spelling -/
abbrev headerSetMembers := Wz.Http.headerSetMembers
/-- `list(parse_set_header(text))` -/
abbrev parseSetMembers := Wz.Http.parseSetMembers

/-- `parse_set_header(HeaderSet(items).to_header())` has the members of `HeaderSet(items)`, in order,
for **every** list of strings — case-duplicates included. -/
theorem parseSet_dump (items : List Str) :
    parseSetMembers (headerSetToHeader (headerSetMembers items)) = headerSetMembers items := by
  unfold parseSetMembers Wz.Http.parseSetMembers
  rw [parseSet_list_dump_any]
  exact headerSetMembers_idem items

example : headerSetMembers [['f', 'o', 'o'], ['B', 'a', 'r', ' ', 'x'], ['F', 'O', 'o']] = [['f', 'o', 'o'], ['B', 'a', 'r', ' ', 'x']]
    ∧ parseSetMembers (headerSetToHeader [['f', 'o', 'o'], ['B', 'a', 'r', ' ', 'x']]) = [['f', 'o', 'o'], ['B', 'a', 'r', ' ', 'x']] := by decide +kernel

/-- list level (what C16's views use): the text `to_header` writes for a member list parses back to
exactly that list -/
theorem parseSet_list_dump (items : List Str) : parseSetHeader (headerSetToHeader items) = items :=
  parseSet_list_dump_any items

/-- a list without case-duplicates is kept as is by the constructor, and the members of every
constructed set are distinct ignoring case -/
theorem headerSetMembers_spec (items : List Str) :
    ((headerSetMembers items).map pyLower).Nodup ∧
    ((items.map pyLower).Nodup → headerSetMembers items = items) :=
  ⟨headerSetMembers_nodup items, headerSetMembers_of_nodup items⟩

/-- regression F08c: `parse_set_header('Cookie, cookie')` keeps the first spelling only -/
theorem parseSet_keeps_first_spelling :
    parseSetMembers "Cookie, cookie, X, COOKIE".toList = ["Cookie".toList, "X".toList] := by
  repeat rw [String.toList_ofList]
  decide +kernel

/-- normal form for list headers: re-serialising what the parser returned and parsing again is the
identity on parser images — here for *arbitrary* header text `h`. -/
theorem parseList_normal_form (h : Str) :
    parseListHeader (dumpHeaderList (parseListHeader h)) = parseListHeader h :=
  parseList_dump_any _

/-- ... and for set headers, on arbitrary (duplicate-bearing) text -/
theorem parseSet_normal_form (h : Str) :
    parseSetMembers (headerSetToHeader (parseSetMembers h)) = parseSetMembers h :=
  parseSet_dump (parseSetHeader h)

/-- two `HeaderSet` values are equal: same members in the same order (iteration, indexing,
`to_header`, `as_set(True)`) and the same case-folded index (`len`, `in`, `bool`, `as_set()`) -/
abbrev HsEquiv := Wz.Http.HsEquiv
/-- the object `parse_set_header(text)` builds -/
abbrev parseSetObj := Wz.Http.parseSetObj
/-- `HeaderSet(headers)` as repaired: the loop of `update()` from the empty set (C08's model of the loop) -/
abbrev hsCtor := Wz.Http.hsCtor
/-- a history run through the mutators **as regenerated from `structures.py`**
(`Gen/PyFns_HeaderSet.lean`: `update`, `add`, `remove`, `discard`, `__setitem__`; `clear` and
`__delitem__` from C08's hand model) -/
abbrev hsRun := Wz.Http.runT

/-- `parse_set_header(hs.to_header())` has exactly the members of `hs`, in order, whenever the members
of `hs` are distinct ignoring case (`to_header` reads `_headers` only; the constructor drops a second
spelling) — whatever the state of the index `_set` -/
theorem headerSet_members_roundtrip (c : HS.St) (ops : List HS.Op)
    (h : ((hsRun c ops).headers.map Hdr.lower).Nodup) :
    (parseSetObj (HS.toHeader (hsRun c ops))).headers = (hsRun c ops).headers := by
  rw [parseSetObj, Wz.Http.parseSetObj_toHeader]
  exact Wz.Http.hsCtor_headers_of_nodup _ h

/-- the repaired constructor establishes C08's invariant for every input list -/
theorem headerSet_ctor_consistent (l : List Str) : HS.Inv (hsCtor l) := Wz.Http.hsCtor_inv l

/-- **`parse_set_header(hs.to_header()) == hs` for every reachable header set**: start from
`HeaderSet(l)` for **any** list `l` (since repair 1a2e0e6 the constructor itself removes
case-duplicates, so nothing is asked of `l`), apply any
history of `add`, `update`, `remove`, `discard`, `clear`, `del hs[i]`, `hs[i] = v` (an item assignment
may re-spell the entry it replaces in another case, but not duplicate *another* member — known
finding F08b), serialise, parse: same members in the same order **and** the same `len` / `in` /
`as_set()`. The mutators are the definitions regenerated from the source on every run; the invariant
is C08's, for every history. -/
theorem headerSet_history_roundtrip (l : List Str) (ops : List HS.Op)
    (hok : C08L.hsOkHist (hsCtor l) ops = true) :
    HsEquiv (parseSetObj (HS.toHeader (hsRun (hsCtor l) ops))) (hsRun (hsCtor l) ops) := by
  rw [hsRun, Wz.Http.runT_eq]
  exact Wz.Http.parseSet_toHeader_of_inv _ (C08L.hs_run_refines _ (Wz.Http.hsCtor_inv l) ops hok).1

example : C08L.hsOkHist (hsCtor [['G', 'E', 'T'], ['p', 'o', 's', 't'], ['g', 'e', 't']])
      [.setitem 0 ['g', 'e', 't'], .add ['P', 'O', 'S', 'T'], .remove ['G', 'e', 't'], .update [['x'], ['X']],
        .setitem (-1) ['y'], .discard ['q'], .delitem 0] = true := by decide +kernel

/-- the case the seeded re-ordering of `__setitem__` breaks: re-spelling an entry in another case
keeps it a member (`HeaderSet(["GET"]); hs[0] = "get"` has length 1 before and after the round trip) -/
theorem headerSet_setitem_case_variant :
    hsRun (hsCtor [['G', 'E', 'T']]) [.setitem 0 ['g', 'e', 't']] = ⟨[['g', 'e', 't']], [['g', 'e', 't']]⟩ ∧
    HsEquiv (parseSetObj (HS.toHeader (hsRun (hsCtor [['G', 'E', 'T']]) [.setitem 0 ['g', 'e', 't']])))
      (hsRun (hsCtor [['G', 'E', 'T']]) [.setitem 0 ['g', 'e', 't']]) := by decide +kernel

/-- regression F08c (repaired by 1a2e0e6): `HeaderSet(['a','A'])` keeps `a` only, so
`HeaderSet(['a','A']).remove('a')` is the empty set and round-trips — with the old constructor the
member `A` stayed behind, unknown to the index, and the parsed set had length 1, not 0 -/
theorem headerSet_history_needs_distinct_init :
    hsCtor [['a'], ['A']] = ⟨[['a']], [['a']]⟩ ∧
    HsEquiv (parseSetObj (HS.toHeader (hsRun (hsCtor [['a'], ['A']]) [.remove ['a']])))
      (hsRun (hsCtor [['a'], ['A']]) [.remove ['a']]) := by decide +kernel

/-- what repair 1a2e0e6 removed: an object whose member list has case-duplicates (as the old constructor
built from `['a','A']`) does not survive `remove` + round trip -/
theorem headerSet_inconsistent_state_fails :
    ¬ HsEquiv (parseSetObj (HS.toHeader (hsRun ⟨[['a'], ['A']], [['a']]⟩ [.remove ['a']])))
      (hsRun ⟨[['a'], ['A']], [['a']]⟩ [.remove ['a']]) := by decide

/-- an item assignment must not duplicate another member (F08b): `HeaderSet(['a','b']); hs[0] = 'B';
hs.remove('b')` -/
theorem headerSet_history_needs_setitem_ok :
    ¬ HsEquiv (parseSetObj (HS.toHeader (hsRun (hsCtor [['a'], ['b']]) [.setitem 0 ['B'], .remove ['b']])))
      (hsRun (hsCtor [['a'], ['b']]) [.setitem 0 ['B'], .remove ['b']]) := by decide +kernel

/-- domain of dict keys: non-empty token without `*` -/
abbrev KeyOk := Wz.Http.KeyOk

/-- `parse_dict_header(dump_header(d)) == d` (same keys, same order, same values) for every dict
with distinct non-empty token keys free of `*`; values are `None` or arbitrary strings. -/
theorem parseDict_dump (d : Dict (Option Str))
    (hk : ∀ x ∈ d, KeyOk x.1 = true) (hnd : (d.map (·.1)).Nodup) :
    (dumpHeaderDict d >>= parseDictHeader) = .ok d :=
  parseDict_dump_any d hk hnd

example : (∀ x ∈ [(['a'], some ['b', ' ', '"']), (['c', '-', 'd'], none), (['e'], some [])], KeyOk x.1 = true)
    ∧ ([(['a'], some ['b', ' ', '"']), (['c', '-', 'd'], (none : Option Str)), (['e'], some [])].map (·.1)).Nodup := by decide +kernel

/-- the key must be non-empty: `dump_header` indexes `key[-1]` -/
theorem parseDict_dump_needs_nonempty_key :
    dumpHeaderDict [([], some ['x'])] = .error "IndexError" := by decide

/-- the key must be a token: a comma in the key splits the item -/
theorem parseDict_dump_needs_token_key :
    (dumpHeaderDict [(['a', ',', 'b'], some ['x'])] >>= parseDictHeader) ≠ .ok [(['a', ',', 'b'], some ['x'])] := by decide

/-- the key must not end in `*`: the value is then written unquoted and read as an RFC 2231 value -/
theorem parseDict_dump_needs_no_star :
    (dumpHeaderDict [(['a', '*'], some ['x', ' ', 'y'])] >>= parseDictHeader) ≠ .ok [(['a', '*'], some ['x', ' ', 'y'])] := by decide

/-- keys must be distinct (a Python dict guarantees it; the association-list model must ask) -/
theorem parseDict_dump_needs_distinct :
    (dumpHeaderDict [(['a'], some ['1']), (['a'], some ['2'])] >>= parseDictHeader)
      ≠ .ok [(['a'], some ['1']), (['a'], some ['2'])] := by decide

/-- primary value: non-empty, no `;`, no surrounding white space -/
abbrev HdrOk := Wz.Http.HdrOk
/-- parameter name: non-empty lower-case token without `*` -/
abbrev OptKeyOk := Wz.Http.OptKeyOk
/-- the text contains the literal `%22` -/
abbrev hasPct22 := Wz.Http.hasPct22

/-- `parse_options_header(dump_options_header(h, opts)) == (h, opts)` for every primary value `h`
(non-empty, no `;`, stripped) and every dict of parameters with distinct lower-case token names free
of `*` and arbitrary Unicode values that do not contain the literal `%22`. -/
theorem parseOptions_dump (h : Str) (opts : List (Str × Str)) (hh : HdrOk h = true)
    (hk : ∀ x ∈ opts, OptKeyOk x.1 = true) (hv : ∀ x ∈ opts, hasPct22 x.2 = false)
    (hnd : (opts.map (·.1)).Nodup) :
    (dumpOptionsHeader (some h) (opts.map fun kv => (kv.1, some kv.2)) >>= parseOptionsHeader) = .ok (h, opts) :=
  parseOptions_dump_any h opts hh hk hv hnd

example : HdrOk "form-data".toList = true ∧
    (∀ x ∈ [("name".toList, ['a', '"', 'b', '\\', ';', ' ']), ("filename".toList, ([] : Str)), ("x".toList, "%2".toList)],
      OptKeyOk x.1 = true ∧ hasPct22 x.2 = false) ∧
    ([("name".toList, ['a', '"', 'b', '\\', ';', ' ']), ("filename".toList, ([] : Str)), ("x".toList, "%2".toList)].map (·.1)).Nodup := by
  repeat rw [String.toList_ofList]
  decide +kernel

/-- the primary value must be non-empty: `parse_options_header` returns no options otherwise -/
theorem parseOptions_dump_needs_header :
    (dumpOptionsHeader (some []) [(['k'], some ['v'])] >>= parseOptionsHeader) ≠ .ok ([], [(['k'], ['v'])]) := by decide

/-- ... free of `;` -/
theorem parseOptions_dump_needs_no_semicolon :
    (dumpOptionsHeader (some ['a', ';', 'b']) [(['k'], some ['v'])] >>= parseOptionsHeader)
      ≠ .ok (['a', ';', 'b'], [(['k'], ['v'])]) := by decide

/-- ... and stripped -/
theorem parseOptions_dump_needs_stripped :
    (dumpOptionsHeader (some [' ', 'a']) [] >>= parseOptionsHeader) ≠ .ok ([' ', 'a'], []) := by decide

/-- parameter names are lower-cased by the parser -/
theorem parseOptions_dump_needs_lowercase :
    (dumpOptionsHeader (some ['a']) [(['K'], some ['v'])] >>= parseOptionsHeader) ≠ .ok (['a'], [(['K'], ['v'])]) := by decide

/-- a `*` in the name is RFC 2231 syntax (`k*0` is a continuation of `k`) -/
theorem parseOptions_dump_needs_no_star :
    (dumpOptionsHeader (some ['a']) [(['k', '*', '0'], some ['v'])] >>= parseOptionsHeader)
      ≠ .ok (['a'], [(['k', '*', '0'], ['v'])]) := by decide

/-- the literal `%22` inside a quoted value decodes to `"` (documented) -/
theorem parseOptions_dump_needs_no_pct22 :
    (dumpOptionsHeader (some ['a']) [(['k'], some ['x', ' ', '%', '2', '2'])] >>= parseOptionsHeader)
      ≠ .ok (['a'], [(['k'], ['x', ' ', '%', '2', '2'])]) := by decide

/-- names must be distinct -/
theorem parseOptions_dump_needs_distinct :
    (dumpOptionsHeader (some ['a']) [(['k'], some ['1']), (['k'], some ['2'])] >>= parseOptionsHeader)
      ≠ .ok (['a'], [(['k'], ['1']), (['k'], ['2'])]) := by decide

/-- an entity tag of the domain: no `"`, no LF (`.` of `_etag_re` does not match LF) -/
abbrev TagOk := Wz.Http.TagOk

/-- `unquote_etag(quote_etag(e, weak)) == (e, weak)` for every tag without `"` (the empty tag
included). -/
theorem etag_roundtrip (e : Str) (weak : Bool) (hq : e.contains '"' = false) :
    (quoteEtag e weak).map unquoteEtag = .ok (some (e, weak)) :=
  unquote_quoteEtag e weak hq

example : (quoteEtag ['W', '/', ' ', 'x'] true).map unquoteEtag = .ok (some (['W', '/', ' ', 'x'], true)) := by decide

/-- `quote_etag` refuses a tag containing `"` (documented ValueError) -/
theorem etag_roundtrip_needs_no_quote : quoteEtag ['a', '"'] = .error "ValueError" := by decide

/-- `parse_etags(ETags(strong, weak).to_header())` has the same strong and weak members, for every
collection of tags without `"` and LF (empty tags included) and for every iteration order of the two frozensets
(the lists are arbitrary orderings; equal lists give equal sets). -/
theorem etags_roundtrip (strong weak : List Str)
    (hs : ∀ x ∈ strong, TagOk x = true) (hw : ∀ x ∈ weak, TagOk x = true) :
    parseEtags (etagsToHeader ⟨strong.map some, weak.map some, false⟩)
      = ⟨strong.map some, weak.map some, false⟩ :=
  etags_roundtrip_closed strong weak (fun x hx => closed_of_tagOk (hs x hx)) (fun x hx => closed_of_tagOk (hw x hx))

example : (∀ x ∈ [['a', ',', ' ', 'b'], ['*'], ['W', '/']], TagOk x = true) ∧ (∀ x ∈ [[' ', 'é']], TagOk x = true) := by decide

/-- the star tag round-trips too -/
theorem etags_star_roundtrip : parseEtags (etagsToHeader ⟨[], [], true⟩) = ⟨[], [], true⟩ := by decide

/-- since the repair that keeps the empty entity tag (a63ec67, finding F11e), `""` round-trips as well (the theorem above
does not ask for non-empty tags, a superset of the property's domain) -/
theorem etags_empty_tag_roundtrip :
    parseEtags (etagsToHeader ⟨[some []], [some []], false⟩) = ⟨[some []], [some []], false⟩ := by decide

/-- a `"` inside a tag ends it early -/
theorem etags_roundtrip_needs_no_quote :
    parseEtags (etagsToHeader ⟨[some ['a', '"', ',', 'b']], [], false⟩) ≠ ⟨[some ['a', '"', ',', 'b']], [], false⟩ := by decide

/-- `.` does not match LF: a tag containing one is not recognised -/
theorem etags_roundtrip_needs_no_lf :
    parseEtags (etagsToHeader ⟨[some ['a', '\n', 'b']], [], false⟩) ≠ ⟨[some ['a', '\n', 'b']], [], false⟩ := by decide

/-- range units: no `=`, already stripped and lower-case (the parser strips and lower-cases them) -/
abbrev UnitsOk := Wz.Http.UnitsOk
/-- ranges as `parse_range_header` demands: ascending, non-overlapping `0 ≤ start < stop`;
an open-ended (`start-`) or suffix (`-n`, n ≥ 1) range only in last position -/
abbrev rangesOk := Wz.Http.rangesOk

/-- `parse_range_header(Range(units, ranges).to_header())` returns the same units and ranges, for
single and multiple ranges with `0 ≤ start < stop`, suffix ranges and open-ended ranges, over
unbounded integers. -/
theorem range_roundtrip (u : Str) (rs : List (Int × Option Int)) (hu : UnitsOk u = true)
    (hne : rs ≠ []) (hr : rangesOk 0 rs = true) :
    parseRangeHeader (rangeToHeader ⟨u, rs⟩) = .ok (some ⟨u, rs⟩) :=
  range_roundtrip_any u rs hu hne hr

example : UnitsOk "bytes".toList = true ∧ rangesOk 0 [(0, some 500), (500, some 501), (700, none)] = true
    ∧ rangesOk 0 [(-500, none)] = true ∧ rangesOk 0 [(0, some 1), (-1, none)] = true := by
  repeat rw [String.toList_ofList]
  decide +kernel

/-- the parser refuses `start ≥ stop` (the constructor of `Range` refuses it too) -/
theorem range_roundtrip_needs_start_lt_stop : rangeCtor "bytes".toList [(5, some 5)] = .error "ValueError" := by
  repeat rw [String.toList_ofList]
  decide +kernel

/-- ... overlapping or descending ranges -/
theorem range_roundtrip_needs_ascending :
    parseRangeHeader (rangeToHeader ⟨"bytes".toList, [(0, some 10), (5, some 20)]⟩)
      ≠ .ok (some ⟨"bytes".toList, [(0, some 10), (5, some 20)]⟩) := by
  repeat rw [String.toList_ofList]
  decide +kernel

/-- ... anything after an open-ended or suffix range -/
theorem range_roundtrip_needs_open_last :
    parseRangeHeader (rangeToHeader ⟨"bytes".toList, [(3, none), (5, some 6)]⟩)
      ≠ .ok (some ⟨"bytes".toList, [(3, none), (5, some 6)]⟩) := by
  repeat rw [String.toList_ofList]
  decide +kernel

/-- ... an empty range list -/
theorem range_roundtrip_needs_nonempty :
    parseRangeHeader (rangeToHeader ⟨"bytes".toList, []⟩) ≠ .ok (some ⟨"bytes".toList, []⟩) := by
  repeat rw [String.toList_ofList]
  decide +kernel

/-- regression (repair 84dd3fe): a zero suffix length `-0` is refused; the value `(0, None)` is
written `0-` and is unaffected -/
theorem range_zero_suffix : parseRangeHeader "bytes=-0".toList = .ok none
    ∧ parseRangeHeader (rangeToHeader ⟨"bytes".toList, [(0, none)]⟩) = .ok (some ⟨"bytes".toList, [(0, none)]⟩) := by
  repeat rw [String.toList_ofList]
  decide +kernel

/-- units are lower-cased by the parser -/
theorem range_roundtrip_needs_lower_units :
    parseRangeHeader (rangeToHeader ⟨"Bytes".toList, [(0, some 1)]⟩) ≠ .ok (some ⟨"Bytes".toList, [(0, some 1)]⟩) := by
  repeat rw [String.toList_ofList]
  decide +kernel

/-- a content range valid for its length (`is_byte_range_valid`) with units free of white space -/
abbrev CRangeOk := Wz.Http.CRangeOk

/-- `parse_content_range_header(ContentRange(units, start, stop, length).to_header())` returns the
same four fields, for every range `is_byte_range_valid` accepts (unknown length `*`, unsatisfied
range `*/length` included). -/
theorem contentRange_roundtrip (c : ContentRangeV) (h : CRangeOk c = true) :
    parseContentRangeHeader (contentRangeToHeader c) = .ok (some c) :=
  contentRange_roundtrip_any c h

example : CRangeOk ⟨some "bytes".toList, some 0, some 500, some 1000⟩ = true
    ∧ CRangeOk ⟨some "bytes".toList, none, none, some 0⟩ = true
    ∧ CRangeOk ⟨some "items".toList, some 7, some 8, none⟩ = true := by
  repeat rw [String.toList_ofList]
  decide +kernel

/-- units containing white space are split at it -/
theorem contentRange_roundtrip_needs_units :
    parseContentRangeHeader (contentRangeToHeader ⟨some "by tes".toList, some 0, some 1, some 2⟩)
      ≠ .ok (some ⟨some "by tes".toList, some 0, some 1, some 2⟩) := by
  repeat rw [String.toList_ofList]
  decide +kernel

/-- a range outside its length is refused by the parser (`ContentRange` asserts the same) -/
theorem contentRange_roundtrip_needs_valid :
    parseContentRangeHeader (contentRangeToHeader ⟨some "bytes".toList, some 5, some 10, some 3⟩) = .ok none := by
  repeat rw [String.toList_ofList]
  decide +kernel

/-- `parse_age(dump_age(n)) == timedelta(seconds=n)` for every non-negative number of seconds a
`timedelta` can hold. -/
theorem age_roundtrip (n : Nat) (h : n ≤ Gen.Http.timedeltaMaxSeconds) : parseAge (dumpAge n) = .ok (some n) :=
  age_roundtrip_any n h

example : (86399999999999 : Nat) ≤ Gen.Http.timedeltaMaxSeconds := by decide

/-- beyond `timedelta.max` the parser answers `None` (the OverflowError is caught) -/
theorem age_roundtrip_needs_timedelta_range : parseAge (dumpAge 86400000000000) = .ok none := by decide

/-- a directive dict: distinct non-empty token keys without `*` -/
abbrev DictOk := Wz.Http.DictOk
abbrev CCValFor := Wz.Http.CCValFor
abbrev ccExpected := Wz.Http.ccExpected

/-- decoding of a generated table row `(attribute, key, empty, type)` -/
def ccRow (r : String × String × String × String) : Option (Str × CCVal × CCType) :=
  let ty := if r.2.2.2 == "bool" then some CCType.bool else if r.2.2.2 == "int" then some CCType.int
    else if r.2.2.2 == "none" then some CCType.str else none
  let em := if r.2.2.1 == "none" then some CCVal.none else if r.2.2.1 == "true" then some CCVal.true_ else none
  match ty, em with
  | some ty, some em => some (r.2.1.toList, em, ty)
  | _, _ => none

/-- every typed property of `RequestCacheControl` / `ResponseCacheControl` (read from the live
classes) has a directive key in the domain of `parseDict_dump`, one of the three modelled types and
one of the two modelled "present without value" results. -/
theorem cacheControl_table_wellformed :
    (Gen.Http.requestCacheControl ++ Gen.Http.responseCacheControl).all
      (fun r => match ccRow r with | some (k, _, _) => KeyOk k | none => false) = true := by decide +kernel

/-- For every typed cache-control property (key, empty, type) and every directive dict `d`:
setting the property to `v`, serialising with `to_header`, and parsing with
`parse_cache_control_header` gives back the same directive dict, and the typed getter returns the
value that was set (`True`/`False` for bool; the int / string; `empty` when set to `True`;
`None` when unset). -/
theorem cacheControl_roundtrip (d : Dict (Option Str)) (key : Str) (empty v : CCVal) (ty : CCType)
    (hd : DictOk d) (hk : KeyOk key = true) (hv : CCValFor ty v = true) :
    (dumpHeaderDict (setCacheValue d key v ty) >>= parseCacheControl) = .ok (setCacheValue d key v ty)
    ∧ getCacheValue (setCacheValue d key v ty) key empty ty = .ok (ccExpected ty empty v) :=
  ⟨cacheControl_dump_of_ok (dictOk_setCache d key v ty hd hk), getCache_setCache d key empty v ty hv⟩

example : DictOk [("no-store".toList, none), ("max-age".toList, some "5".toList)] ∧ KeyOk "max-stale".toList = true
    ∧ CCValFor .int (.int (-3)) = true := by
  repeat rw [String.toList_ofList]
  exact ⟨⟨by decide +kernel, by decide +kernel⟩, by decide +kernel, by decide +kernel⟩

/-- the same, instantiated on every row of the generated property tables -/
theorem cacheControl_roundtrip_typed (r : String × String × String × String)
    (hr : r ∈ Gen.Http.requestCacheControl ++ Gen.Http.responseCacheControl)
    (key : Str) (empty : CCVal) (ty : CCType) (hrow : ccRow r = some (key, empty, ty))
    (d : Dict (Option Str)) (v : CCVal) (hd : DictOk d) (hv : CCValFor ty v = true) :
    (dumpHeaderDict (setCacheValue d key v ty) >>= parseCacheControl >>= fun p => getCacheValue p key empty ty)
      = .ok (ccExpected ty empty v) := by
  have hk := List.all_eq_true.1 cacheControl_table_wellformed r hr
  rw [hrow] at hk
  exact cc_set_get d key empty v ty hd hk hv

/-- an int property holding text that is not an integer reads as `None` (not the text) -/
theorem cacheControl_int_needs_int_text :
    getCacheValue [("max-age".toList, some "soon".toList)] "max-age".toList .none .int = .ok .none := by
  repeat rw [String.toList_ofList]
  decide +kernel

/-- one step of building a cache-control object: a typed property assignment / deletion, a dict
item assignment / `pop`, `clear` -/
abbrev CCOp := Wz.Http.CCOp
abbrev ccRun := Wz.Http.ccRun
abbrev CCOpOk := Wz.Http.CCOpOk

/-- the round trip for every cache-control object **reachable by an assignment history** (typed
property sets with values of the property's type, `del`, `cc[k] = v`, `pop`, `clear`) from a valid
directive dict: `parse_cache_control_header(cc.to_header())` is the same directive dict ... -/
theorem cacheControl_history_roundtrip (d : Dict (Option Str)) (ops : List CCOp) (hd : DictOk d)
    (hops : ∀ op ∈ ops, CCOpOk op = true) :
    (dumpHeaderDict (ccRun d ops) >>= parseCacheControl) = .ok (ccRun d ops) :=
  cacheControl_dump_of_ok (dictOk_ccRun d ops hd hops)

/-- ... and a typed getter reads back the value last assigned through its property. -/
theorem cacheControl_history_get (d : Dict (Option Str)) (ops : List CCOp) (key : Str) (empty v : CCVal)
    (ty : CCType) (hd : DictOk d) (hops : ∀ op ∈ ops, CCOpOk op = true) (hk : KeyOk key = true)
    (hv : CCValFor ty v = true) :
    (dumpHeaderDict (ccRun d (ops ++ [.setTyped key ty v])) >>= parseCacheControl
        >>= fun p => getCacheValue p key empty ty) = .ok (ccExpected ty empty v) := by
  rw [ccRun, Wz.Http.ccRun_snoc]
  exact cc_set_get _ key empty v ty (dictOk_ccRun d ops hd hops) hk hv

example : ∀ op ∈ [CCOp.setTyped "max-age".toList .int (.int 5), .setTyped "no-store".toList .bool .true_,
    .delTyped "max-age".toList, .setItem "x-ext".toList (some "a b".toList), .popItem "q".toList, .clear,
    .setTyped "private".toList .str (.str "a, b".toList)], CCOpOk op = true := by
  repeat rw [String.toList_ofList]
  decide +kernel

/-- the key of a dict-style assignment must be a token: `cc["a,b"] = "x"` does not survive -/
theorem cacheControl_history_needs_token_key :
    (dumpHeaderDict (ccRun [] [.setItem "a,b".toList (some "x".toList)]) >>= parseCacheControl)
      ≠ .ok (ccRun [] [.setItem "a,b".toList (some "x".toList)]) := by
  repeat rw [String.toList_ofList]
  decide +kernel

/-- directive: stripped, non-empty, no space, no `;` — value: stripped, non-empty, no `;` -/
abbrev CspItemOk := Wz.Http.CspItemOk

/-- `parse_csp_header(ContentSecurityPolicy(d).to_header()) == d` (same directives, same order). -/
theorem csp_roundtrip (d : Dict Str) (hok : ∀ x ∈ d, CspItemOk x = true) (hnd : (d.map (·.1)).Nodup) :
    parseCsp (dumpCsp d) = d :=
  csp_roundtrip_any d hok hnd

example : (∀ x ∈ [("default-src".toList, "'self'".toList), ("img-src".toList, "data: https://x.example".toList)],
    CspItemOk x = true) := by
  repeat rw [String.toList_ofList]
  decide +kernel

theorem csp_roundtrip_needs_no_semicolon :
    parseCsp (dumpCsp [("a".toList, "b;c".toList)]) ≠ [("a".toList, "b;c".toList)] := by decide
theorem csp_roundtrip_needs_no_space_in_directive :
    parseCsp (dumpCsp [("a b".toList, "c".toList)]) ≠ [("a b".toList, "c".toList)] := by decide
theorem csp_roundtrip_needs_stripped_value :
    parseCsp (dumpCsp [("a".toList, " b".toList)]) ≠ [("a".toList, " b".toList)] := by decide
theorem csp_roundtrip_needs_nonempty_value :
    parseCsp (dumpCsp [("a".toList, [])]) ≠ [("a".toList, [])] := by
  repeat rw [String.toList_ofList]
  decide +kernel

/-- one step of building a CSP object: `csp.<property> = value / None`, `csp[k] = v`, `del`, `clear` -/
abbrev CspOp := Wz.Http.CspOp
abbrev cspRun := Wz.Http.cspRun
abbrev CspOpOk := Wz.Http.CspOpOk
abbrev CspDictOk := Wz.Http.CspDictOk

/-- the round trip for every `ContentSecurityPolicy` **reachable by an assignment history** -/
theorem csp_history_roundtrip (d : Dict Str) (ops : List CspOp) (hd : CspDictOk d)
    (hops : ∀ op ∈ ops, CspOpOk op = true) : parseCsp (dumpCsp (cspRun d ops)) = cspRun d ops := by
  exact csp_roundtrip_of_ok (cspDictOk_cspRun d ops hd hops)

example : CspDictOk [] ∧ ∀ op ∈ [CspOp.set "default-src".toList (some "'self'".toList), .set "img-src".toList (some "data: *".toList),
    .set "default-src".toList none, .del "x".toList, .clear, .set "report-uri".toList (some "/r".toList)], CspOpOk op = true := by
  repeat rw [String.toList_ofList]
  exact ⟨⟨by simp, by simp⟩, by decide +kernel⟩

/-- every typed CSP property of the live class has a directive key the domain accepts (stripped,
non-empty, no space, no `;`) — `decide` over the regenerated key list -/
theorem csp_property_keys_wellformed :
    Gen.Http.cspKeys.all (fun k => CspItemOk (k.toList, ['x'])) = true := by
  -- the keys are string literals: spelled out as character lists by a lemma before the evaluation
  unfold Gen.Http.cspKeys
  simp only [List.all_cons, List.all_nil, Bool.and_true]
  repeat rw [String.toList_ofList]
  decide +kernel

abbrev SchemeOk := Wz.Http.SchemeOk
abbrev AuthTokenOk := Wz.Http.AuthTokenOk

/-- base64: `b64decode(b64encode(bs)) == bs` for every byte string (hand-modelled CPython
`binascii` state machine, alphabet table by `decide`, bit arithmetic by `omega`). -/
theorem base64_roundtrip (bs : Bytes) : b64Decode (b64Encode bs) = .ok bs := b64_roundtrip bs

/-- `Authorization.from_header(Authorization("basic", {"username": u, "password": p}).to_header())`
returns the same credentials for every Unicode user name without `:` and every Unicode password. -/
theorem basic_roundtrip (u p : Str) (hu : ':' ∉ u) :
    (authorizationToHeader ⟨"basic".toList, basicParams u p, none⟩ >>= authorizationFromHeader)
      = .ok (some ⟨"basic".toList, basicParams u p, none⟩) :=
  basic_roundtrip_any u p hu

example : ':' ∉ "üser name".toList := by
  repeat rw [String.toList_ofList]
  decide +kernel

/-- a `:` in the user name moves the rest of it into the password -/
theorem basic_roundtrip_needs_no_colon :
    (authorizationToHeader ⟨"basic".toList, basicParams "a:b".toList "c".toList, none⟩ >>= authorizationFromHeader)
      ≠ .ok (some ⟨"basic".toList, basicParams "a:b".toList "c".toList, none⟩) := by
  repeat rw [String.toList_ofList]
  decide +kernel

/-- token schemes (`Bearer <token>`): scheme survives `.title()`/`.lower()`, token is stripped and
has `=` only as trailing padding -/
theorem token_auth_roundtrip (t tok : Str) (ht : SchemeOk t = true) (htok : AuthTokenOk tok = true) :
    (authorizationToHeader ⟨t, [], some tok⟩ >>= authorizationFromHeader) = .ok (some ⟨t, [], some tok⟩)
    ∧ (wwwToHeader ⟨t, [], some tok⟩ >>= wwwFromHeader) = .ok (some ⟨t, [], some tok⟩) :=
  ⟨token_auth_roundtrip_any t tok ht htok, www_token_roundtrip_w t tok (schemeOkW_of_schemeOk ht) htok⟩

example : SchemeOk "bearer".toList = true ∧ AuthTokenOk "abc.def-_~+/==".toList = true := by
  repeat rw [String.toList_ofList]
  decide +kernel

/-- a `=` that is not trailing makes the parser read parameters instead of a token -/
theorem token_auth_roundtrip_needs_token :
    (authorizationToHeader ⟨"bearer".toList, [], some "a=b".toList⟩ >>= authorizationFromHeader)
      ≠ .ok (some ⟨"bearer".toList, [], some "a=b".toList⟩) := by
  repeat rw [String.toList_ofList]
  decide +kernel

/-- a scheme name in upper case is lower-cased by the parser -/
theorem token_auth_roundtrip_needs_lower_scheme :
    (authorizationToHeader ⟨"Bearer".toList, [], some "t".toList⟩ >>= authorizationFromHeader)
      ≠ .ok (some ⟨"Bearer".toList, [], some "t".toList⟩) := by
  repeat rw [String.toList_ofList]
  decide +kernel

/-- parameter schemes (`Digest k=v, ...`) for `Authorization`: non-empty dict of distinct token keys
without `*`, the first value present -/
theorem param_auth_roundtrip (t : Str) (x : Str × Option Str) (d : Dict (Option Str))
    (ht : SchemeOk t = true) (hk : ∀ y ∈ x :: d, KeyOk y.1 = true)
    (hnd : ((x :: d).map (·.1)).Nodup) (hv : x.2.isSome = true) :
    (authorizationToHeader ⟨t, x :: d, none⟩ >>= authorizationFromHeader) = .ok (some ⟨t, x :: d, none⟩) :=
  param_auth_roundtrip_any t x d ht hk hnd hv

example : SchemeOk "digest".toList = true
    ∧ (∀ y ∈ [("realm".toList, some "a b".toList), ("qop".toList, some "auth".toList)], KeyOk y.1 = true) := by
  repeat rw [String.toList_ofList]
  decide +kernel

/-- the same for `WWW-Authenticate` with a scheme other than `digest` (whose quoting differs) -/
theorem www_param_roundtrip (t : Str) (x : Str × Option Str) (d : Dict (Option Str))
    (ht : SchemeOk t = true) (hnd' : (t == "digest".toList) = false)
    (hk : ∀ y ∈ x :: d, KeyOk y.1 = true)
    (hnd : ((x :: d).map (·.1)).Nodup) (hv : x.2.isSome = true) :
    (wwwToHeader ⟨t, x :: d, none⟩ >>= wwwFromHeader) = .ok (some ⟨t, x :: d, none⟩) :=
  www_param_roundtrip_w t x d (schemeOkW_of_schemeOk ht) hnd' hk hnd hv

example : SchemeOk "basic1".toList = true ∧ ("basic1".toList == "digest".toList) = false := by
  repeat rw [String.toList_ofList]
  decide +kernel

/-- `WWW-Authenticate: Digest ...`: `to_header` always quotes `realm`, `domain`, `nonce`, `opaque`,
`qop` (generated literal set) and quotes the other values on demand; `from_header` returns the same
parameters for every non-empty dict of distinct token keys without `*` and string values -/
theorem www_digest_roundtrip (x : Str × Str) (d : List (Str × Str))
    (hk : ∀ y ∈ x :: d, KeyOk y.1 = true) (hnd : ((x :: d).map (·.1)).Nodup) :
    (wwwToHeader ⟨"digest".toList, (x :: d).map (fun kv => (kv.1, some kv.2)), none⟩ >>= wwwFromHeader)
      = .ok (some ⟨"digest".toList, (x :: d).map (fun kv => (kv.1, some kv.2)), none⟩) :=
  www_digest_roundtrip_any x d hk hnd

example : (wwwToHeader ⟨"digest".toList, [("realm".toList, some "a".toList), ("algorithm".toList, some "MD5".toList),
      ("nonce".toList, some "x y\"".toList)], none⟩)
    = .ok "Digest realm=\"a\", algorithm=MD5, nonce=\"x y\\\"\"".toList := by
  repeat rw [String.toList_ofList]
  decide +kernel

/-- the digest dumper writes a `None` value as the text `None` -/
theorem www_digest_roundtrip_needs_values :
    (wwwToHeader ⟨"digest".toList, [("realm".toList, none)], none⟩ >>= wwwFromHeader)
      ≠ .ok (some ⟨"digest".toList, [("realm".toList, none)], none⟩) := by
  repeat rw [String.toList_ofList]
  decide +kernel

/-- an empty parameter dict serialises to a bare scheme, which reads back as an empty token -/
theorem param_auth_roundtrip_needs_nonempty :
    (authorizationToHeader ⟨"digest".toList, [], none⟩ >>= authorizationFromHeader)
      ≠ .ok (some ⟨"digest".toList, [], none⟩) := by
  repeat rw [String.toList_ofList]
  decide +kernel

open Wz.Date in
/-- The English day and month names the live `http_date` writes (observed through the public
function on every run) are three letters each, the month names are pairwise distinct (each is found
at its own index), and the model formats the probe instant exactly as the live function did. -/
theorem date_tables :
    (∀ w, w < 7 → dayOk w = true) ∧ (∀ m, m < 12 → monthOk m = true) ∧
    httpDate (secondsOfCivil ⟨2024, 2, 3, 4, 5, 6⟩) = Gen.Http.dateSample.toList := by
  refine ⟨day_table, month_table, ?_⟩
  decide +kernel

open Wz.Date in
/-- `parse_date(http_date(t)) == t` for **every second** from 0100-01-01T00:00:00 to
9999-12-31T23:59:59 UTC (a superset of the property's years 1000..9999): proleptic-Gregorian
day-number arithmetic (400/100/4/1-year cycles) proved with `omega`, IMF-fixdate text by digit
arithmetic, names by `decide` over the generated tables. -/
theorem date_roundtrip (t : Nat) (h1 : tMin ≤ t) (h2 : t ≤ tMax) : parseDate (httpDate t) = some t :=
  date_roundtrip_any t h1 h2

open Wz.Date in
example : tMin ≤ 63839700306 ∧ 63839700306 ≤ tMax := by decide

open Wz.Date in
/-- an aware datetime (civil fields `c`, UTC offset `off` seconds) is normalised to UTC by
`http_date`; parsing returns the same instant -/
theorem date_roundtrip_aware (c : Civil) (off : Int) (w : List Char)
    (h1 : (tMin : Int) ≤ (secondsOfCivil c : Int) - off) (h2 : (secondsOfCivil c : Int) - off ≤ (tMax : Int))
    (hw : httpDateAware c off = some w) :
    parseDate w = some ((secondsOfCivil c : Int) - off).toNat := by
  have h := httpDateAware_some hw
  rw [h.2]
  exact date_roundtrip_any _ ((Int.le_toNat h.1).mpr h1) (Int.toNat_le.mpr h2)

open Wz.Date in
example : httpDateAware ⟨2024, 3, 1, 0, 30, 0⟩ 3600 = some "Thu, 29 Feb 2024 23:30:00 GMT".toList := by
  repeat rw [String.toList_ofList]
  decide +kernel

open Wz.Date in
/-- below year 100 `email.utils` reads the four-digit year as a two-digit one (0099 → 1999) -/
theorem date_roundtrip_needs_year_100 : parseDate (httpDate (tMin - 1)) ≠ some (tMin - 1) := by decide +kernel

open Wz.Date in
/-- a date in an `If-Range` header round-trips (with the model's own date parser) -/
theorem ifRange_date_roundtrip (t : Nat) (h1 : tMin ≤ t) (h2 : t ≤ tMax) :
    (ifRangeToHeader (.date t)).map (parseIfRange parseDate) = .ok (.date t) := by
  rw [ifRangeToHeader, Except.map,
    parseIfRange_date parseDate (httpDate_ne_nil t) (looksLikeEtag_httpDate t) (date_roundtrip_any t h1 h2)]

/-- an entity tag in an `If-Range` header round-trips for **every** tag without `"` and for whatever
date parser `pd` is in use (`email.utils` in the real code): since repair 31f8ea0 a value that
starts with `"` is never offered to the date parser (finding F06a). -/
theorem ifRange_etag_roundtrip (pd : Str → Option Nat) (e : Str) (hq : e.contains '"' = false) :
    (ifRangeToHeader (.etag e)).map (parseIfRange pd) = .ok (.etag e) := by
  rw [ifRangeToHeader, quoteEtag_of_noQuote e false hq, Except.map,
    parseIfRange_etag pd (w := etagItemText (false, e)) (by simp [etagItemText]) (.inl (looksLikeEtag_quoted _))
      (unquoteEtag_itemText e false)]

example : ("Thu, 01 Jan 2026 00:00:00 GMT".toList).contains '"' = false := by
  repeat rw [String.toList_ofList]
  decide +kernel

/-- regression F06a: even a date parser that would accept the quoted text cannot turn the tag into a
date -/
theorem ifRange_etag_date_lookalike (t : Nat) :
    (ifRangeToHeader (.etag "Thu, 01 Jan 2026 00:00:00 GMT".toList)).map (parseIfRange fun _ => some t)
      = .ok (.etag "Thu, 01 Jan 2026 00:00:00 GMT".toList) :=
  ifRange_etag_roundtrip _ _ (by rw [String.toList_ofList]; decide +kernel)

/-- `quote_etag` refuses a tag containing `"` -/
theorem ifRange_etag_roundtrip_needs_no_quote : ifRangeToHeader (.etag ['a', '"']) = .error "ValueError" := by decide

/-! ### parsing is a normal form (on the image of the dumpers; for list and set headers see above
for arbitrary text) -/

theorem parseDict_normal_form (d : Dict (Option Str))
    (hk : ∀ x ∈ d, KeyOk x.1 = true) (hnd : (d.map (·.1)).Nodup) :
    (dumpHeaderDict d >>= parseDictHeader >>= dumpHeaderDict >>= parseDictHeader)
      = (dumpHeaderDict d >>= parseDictHeader) := by
  rw [bind_assoc]
  exact bind_eq_self_of_ok (parseDict_dump_any d hk hnd) rfl

theorem parseOptions_normal_form (h : Str) (opts : List (Str × Str)) (hh : HdrOk h = true)
    (hk : ∀ x ∈ opts, OptKeyOk x.1 = true) (hv : ∀ x ∈ opts, hasPct22 x.2 = false)
    (hnd : (opts.map (·.1)).Nodup) :
    (dumpOptionsHeader (some h) (opts.map fun kv => (kv.1, some kv.2)) >>= parseOptionsHeader
        >>= fun r => dumpOptionsHeader (some r.1) (r.2.map fun kv => (kv.1, some kv.2)) >>= parseOptionsHeader)
      = (dumpOptionsHeader (some h) (opts.map fun kv => (kv.1, some kv.2)) >>= parseOptionsHeader) :=
  bind_eq_self_of_ok (parseOptions_dump_any h opts hh hk hv hnd) rfl

/-- for *arbitrary* header text `parse_options_header` is **not** a normal form: a parameter name
that still ends in `*` after the RFC 2231 marker was removed (`a**`) is re-read as a marker ... -/
theorem parseOptions_normal_form_arbitrary_false_star :
    (parseOptionsHeader "x; a**=b".toList >>= fun r =>
        dumpOptionsHeader (some r.1) (r.2.map fun kv => (kv.1, some kv.2)) >>= parseOptionsHeader)
      ≠ parseOptionsHeader "x; a**=b".toList := by
  repeat rw [String.toList_ofList]
  decide +kernel

/-- ... and a percent-decoded value may contain the literal `%22`, which the quoted form turns
into `"` (both outside the domain of `parseOptions_dump`, by its `_needs_` witnesses) -/
theorem parseOptions_normal_form_arbitrary_false_pct22 :
    (parseOptionsHeader "x; k*=utf-8''a%20%2522".toList >>= fun r =>
        dumpOptionsHeader (some r.1) (r.2.map fun kv => (kv.1, some kv.2)) >>= parseOptionsHeader)
      ≠ parseOptionsHeader "x; k*=utf-8''a%20%2522".toList := by
  repeat rw [String.toList_ofList]
  decide +kernel

theorem etags_normal_form (strong weak : List Str)
    (hs : ∀ x ∈ strong, TagOk x = true) (hw : ∀ x ∈ weak, TagOk x = true) :
    parseEtags (etagsToHeader (parseEtags (etagsToHeader ⟨strong.map some, weak.map some, false⟩)))
      = parseEtags (etagsToHeader ⟨strong.map some, weak.map some, false⟩) := by
  rw [etags_roundtrip strong weak hs hw]
  exact etags_roundtrip strong weak hs hw

/-- **normal form on arbitrary text**: for *every* header text `h` (not only the dumper's image),
`parse_etags(parse_etags(h).to_header()) == parse_etags(h)`. Content: whatever the regex captures
as one tag — a quoted tag may contain `"`, a raw tag may contain anything but a comma after white
space — is *closed*: inside `"tag"` no inner quote is followed by (white space and) a comma, so the
lazy `"(.*?)"` stops at the final quote again. -/
theorem etags_normal_form_arbitrary (h : Str) :
    parseEtags (etagsToHeader (parseEtags h)) = parseEtags h := by
  rcases parseEtags_image h with e | ⟨ss, ws, e, hs, hw⟩ <;> rw [e]
  · decide
  · exact etags_roundtrip_closed ss ws hs hw

example : parseEtags "a\"b , W/\"x\" y\", \"q\" ,, *x".toList
    = ⟨[some "a\"b".toList, some "q".toList, some [], some "*x".toList], [some "x\" y".toList], false⟩ := by
  repeat rw [String.toList_ofList]
  decide +kernel

/-- the empty quoted tag is stored as the empty string (not `None`) and is a fixed point of parse ∘ dump -/
theorem etags_normal_form_empty_tag :
    parseEtags (etagsToHeader (parseEtags ['"', '"'])) = parseEtags ['"', '"'] := by decide

theorem range_normal_form (u : Str) (rs : List (Int × Option Int)) (hu : UnitsOk u = true)
    (hne : rs ≠ []) (hr : rangesOk 0 rs = true) :
    (parseRangeHeader (rangeToHeader ⟨u, rs⟩) >>= fun r =>
        match r with | some r => parseRangeHeader (rangeToHeader r) | none => pure none)
      = parseRangeHeader (rangeToHeader ⟨u, rs⟩) :=
  bind_eq_self_of_ok (range_roundtrip_any u rs hu hne hr) rfl

theorem contentRange_normal_form (c : ContentRangeV) (h : CRangeOk c = true) :
    (parseContentRangeHeader (contentRangeToHeader c) >>= fun r =>
        match r with | some r => parseContentRangeHeader (contentRangeToHeader r) | none => pure none)
      = parseContentRangeHeader (contentRangeToHeader c) :=
  bind_eq_self_of_ok (contentRange_roundtrip_any c h) rfl

theorem csp_normal_form (d : Dict Str) (hok : ∀ x ∈ d, CspItemOk x = true) (hnd : (d.map (·.1)).Nodup) :
    parseCsp (dumpCsp (parseCsp (dumpCsp d))) = parseCsp (dumpCsp d) := by
  rw [csp_roundtrip_any d hok hnd]
  exact csp_roundtrip_any d hok hnd

/-! ### normal form on *arbitrary header text* (not only on the dumpers' images) -/

/-- quoted strings: `unquote(quote(unquote(h))) == unquote(h)` for every text `h` -/
theorem unquote_normal_form_arbitrary (h : Str) (allowToken : Bool) :
    unquoteHeaderValue (quoteHeaderValue (unquoteHeaderValue h) allowToken) = unquoteHeaderValue h :=
  unquote_quote_any _ allowToken

/-- **Range**: for *every* header text `h`, if `parse_range_header(h)` returns a `Range` then
`parse_range_header(range.to_header())` returns the same `Range`. Content: whatever the item loop
accepts is ascending and non-overlapping with an open / suffix range only last (the loop invariant),
a `-n` item is negative, at least one range is present, and the units (`strip().lower()` of text
without `=`) are a fixed point of `strip().lower()` — `str.lower()` facts by `decide` over the
regenerated table. -/
theorem range_normal_form_arbitrary (h : Str) (r : RangeV) (hp : parseRangeHeader h = .ok (some r)) :
    parseRangeHeader (rangeToHeader r) = .ok (some r) := by
  obtain ⟨h1, h2, h3⟩ := (parseRangeHeader_returns h).of_eq hp r rfl
  exact range_roundtrip_any r.units r.ranges h1 h2 h3

example : parseRangeHeader " Bytes = 0 - 4 , 7-, ".toList = .ok none
    ∧ parseRangeHeader " BYTES= 0 - 4 ,7- ".toList = .ok (some ⟨"bytes".toList, [(0, some 5), (7, none)]⟩) := by
  repeat rw [String.toList_ofList]
  decide +kernel

/-- every `Range` the parser returns lies in the domain of `range_roundtrip` -/
theorem range_parser_image (h : Str) (r : RangeV) (hp : parseRangeHeader h = .ok (some r)) :
    UnitsOk r.units = true ∧ r.ranges ≠ [] ∧ rangesOk 0 r.ranges = true :=
  (parseRangeHeader_returns h).of_eq hp r rfl

/-- **Content-Range**: for every header text `h`, a parsed `ContentRange` re-serialises to text that
parses to the same object (units without white space, range valid for its length — what the parser
checked) -/
theorem contentRange_normal_form_arbitrary (h : Str) (c : ContentRangeV) (hp : parseContentRangeHeader h = .ok (some c)) :
    parseContentRangeHeader (contentRangeToHeader c) = .ok (some c) :=
  contentRange_roundtrip_any c ((parseContentRangeHeader_returns h).of_eq hp c rfl)

example : parseContentRangeHeader "  items\t 3-7/* ".toList = .ok (some ⟨some "items".toList, some 3, some 8, none⟩) := by
  repeat rw [String.toList_ofList]
  decide +kernel

/-- **Content-Security-Policy**: `parse_csp_header(parse_csp_header(h).to_header()) == parse_csp_header(h)`
for every text `h`: every stored directive is non-empty, stripped and free of spaces and `;`, every
value non-empty, stripped and free of `;`, and directives are distinct -/
theorem csp_normal_form_arbitrary (h : Str) : parseCsp (dumpCsp (parseCsp h)) = parseCsp h :=
  csp_roundtrip_of_ok (parseCsp_image_ok h)

example : parseCsp " a  b ;; c\td e;x; a z ".toList = [("a".toList, "z".toList), ("c\td".toList, "e".toList)] := by
  repeat rw [String.toList_ofList]
  decide +kernel

/-- **Age**: a parsed age re-serialises to text that parses to the same age, for every text `h` -/
theorem age_normal_form_arbitrary (h : Str) (n : Nat) (hp : parseAge h = .ok (some n)) :
    parseAge (dumpAge n) = .ok (some n) :=
  age_roundtrip_any n ((parseAge_returns h).of_eq hp n rfl)

example : parseAge " +1_0 ".toList = .ok (some 10) := by
  repeat rw [String.toList_ofList]
  decide +kernel

open Wz.Date in
/-- **HTTP dates**: for every text `w` in the IMF-fixdate layout that the parser accepts — any
three-letter day name, two-digit years written `00YY` re-centuried as `email.utils` does, every valid
civil date of years 100..9999 — re-serialising the parsed instant and parsing again returns the same
instant: every accepted civil date lies in the range of `date_roundtrip` (day-number bounds by `omega`).
The other layouts `email.utils` reads (RFC 850, asctime, numeric zones) are tied by the stream only. -/
theorem date_normal_form_arbitrary (w : Wz.Date.Str) (t : Nat) (hp : parseDate w = some t) :
    parseDate (httpDate t) = some t :=
  date_roundtrip_any t (parseDate_image_range w t hp).1 (parseDate_image_range w t hp).2

open Wz.Date in
example : parseDate "Xyz, 29 Feb 0004 23:59:59 GMT".toList = some 63213695999
    ∧ httpDate 63213695999 = "Sun, 29 Feb 2004 23:59:59 GMT".toList := by
  repeat rw [String.toList_ofList]
  decide +kernel

/-- **If-Range** is *not* a normal form on arbitrary text: `parse_if_range_header('a"b')` returns the
entity tag `a"b`, which `IfRange.to_header()` refuses to serialise (`quote_etag` raises ValueError) —
outside the domain of `ifRange_etag_roundtrip` by its `_needs_no_quote` witness; on the dumper's
image the normal form is the round trip itself -/
theorem ifRange_normal_form_arbitrary_false (pd : Str → Option Nat) (h : pd "a\"b".toList = none) :
    parseIfRange pd "a\"b".toList = .etag "a\"b".toList ∧
    ifRangeToHeader (parseIfRange pd "a\"b".toList) = .error "ValueError" := by
  have : parseIfRange pd "a\"b".toList = .etag "a\"b".toList :=
    parseIfRange_etag pd (weak := false) (by decide) (.inr h) (by decide)
  exact ⟨this, by rw [this]; decide⟩

/-- **Authorization** on header text: everything `from_header` returns is one of three shapes — Basic
credentials whose user name has no `:`, a stripped token with `=` only as trailing padding, or a
parameter dict with distinct names — ... -/
theorem authorization_parser_image (h : Str) (a : Auth) (hp : authorizationFromHeader h = .ok (some a)) :
    (∃ u p, ':' ∉ u ∧ a = ⟨"basic".toList, basicParams u p, none⟩) ∨
    (a.type ≠ "basic".toList ∧ ∃ tok, a = ⟨a.type, [], some tok⟩ ∧ AuthTokenOk tok = true) ∨
    (a.type ≠ "basic".toList ∧ a = ⟨a.type, a.params, none⟩ ∧ (a.params.map (·.1)).Nodup) :=
  (authorizationFromHeader_returns h).of_eq hp a rfl

/-- ... and `from_header(to_header(from_header(h))) == from_header(h)`: always for Basic credentials
(whatever bytes the client base64-encoded, as long as they were UTF-8), and for the other two shapes
when the scheme survives `title()` / `lower()` and the parameter names are tokens without `*` with a
first value present -/
theorem authorization_normal_form_text (h : Str) (a : Auth) (hp : authorizationFromHeader h = .ok (some a))
    (hs : a.type = "basic".toList ∨ SchemeOk a.type = true)
    (hps : a.token = none → a.type ≠ "basic".toList →
      ∃ x d, a.params = x :: d ∧ (∀ y ∈ x :: d, KeyOk y.1 = true) ∧ x.2.isSome = true) :
    (authorizationToHeader a >>= authorizationFromHeader) = .ok (some a) := by
  rcases authorization_parser_image h a hp with ⟨u, p, hu, ha⟩ | ⟨hnb, tok, ha, htok⟩ | ⟨hnb, ha, hnd⟩
  · rw [ha]; exact basic_roundtrip_any u p hu
  · rw [ha]; exact token_auth_roundtrip_any a.type tok (hs.resolve_left hnb) htok
  · obtain ⟨x, d, hxd, hk, hv⟩ := hps (by rw [ha]) hnb
    rw [ha, hxd]
    rw [hxd] at hnd
    exact param_auth_roundtrip_any a.type x d (hs.resolve_left hnb) hk hnd hv

example : authorizationFromHeader "BASIC  dTpwOnE=  ".toList
    = .ok (some ⟨"basic".toList, basicParams "u".toList "p:q".toList, none⟩) := by
  repeat rw [String.toList_ofList]
  decide +kernel

/-- the scheme hypothesis is needed: `ß`.title() is `Ss`, so the scheme `ß` comes back as `ss` -/
theorem authorization_normal_form_arbitrary_false_scheme :
    (authorizationFromHeader "ß x".toList >>= fun a => match a with
      | some a => authorizationToHeader a >>= authorizationFromHeader | none => pure none)
      ≠ authorizationFromHeader "ß x".toList := by
  repeat rw [String.toList_ofList]
  decide +kernel

/-- scheme of a `WWW-Authenticate` value: survives `title()` / `lower()`, title without space (`basic`
is an ordinary parameter scheme here) -/
abbrev SchemeOkW := Wz.Http.SchemeOkW

/-- **WWW-Authenticate** on header text, schemes other than `digest`: the same normal form; in
particular `Basic realm="x"` — outside `www_param_roundtrip`, whose `SchemeOk` excludes `basic` — ... -/
theorem www_normal_form_text (h : Str) (a : Auth) (hp : wwwFromHeader h = .ok (some a))
    (hs : SchemeOkW a.type = true) (hnd' : (a.type == "digest".toList) = false)
    (hps : a.token = none → ∃ x d, a.params = x :: d ∧ (∀ y ∈ x :: d, KeyOk y.1 = true) ∧ x.2.isSome = true) :
    (wwwToHeader a >>= wwwFromHeader) = .ok (some a) := by
  rcases (wwwFromHeader_returns h).of_eq hp a rfl with ⟨tok, ha, htok⟩ | ⟨ha, hnd⟩
  · rw [ha]; exact www_token_roundtrip_w a.type tok hs htok
  · obtain ⟨x, d, hxd, hk, hv⟩ := hps (by rw [ha])
    rw [ha, hxd]
    rw [hxd] at hnd
    exact www_param_roundtrip_w a.type x d hs hnd' hk hnd hv

/-- ... which also round-trips as a value: `WWWAuthenticate("basic", {"realm": r, ...})` -/
theorem www_basic_roundtrip (x : Str × Option Str) (d : Dict (Option Str))
    (hk : ∀ y ∈ x :: d, KeyOk y.1 = true) (hnd : ((x :: d).map (·.1)).Nodup) (hv : x.2.isSome = true) :
    (wwwToHeader ⟨"basic".toList, x :: d, none⟩ >>= wwwFromHeader) = .ok (some ⟨"basic".toList, x :: d, none⟩) :=
  www_param_roundtrip_w "basic".toList x d (by rw [String.toList_ofList]; decide +kernel)
    (by repeat rw [String.toList_ofList]
        decide +kernel) hk hnd hv

example : wwwToHeader ⟨"basic".toList, [("realm".toList, some "a b".toList), ("charset".toList, some "UTF-8".toList)], none⟩
    = .ok "Basic realm=\"a b\", charset=UTF-8".toList := by
  repeat rw [String.toList_ofList]
  decide +kernel

/-- **key=value dicts and Cache-Control** on header text: whenever the keys the parser returned are
tokens without `*`, `parse_dict_header(dump_header(parse_dict_header(h))) == parse_dict_header(h)`
(values are arbitrary; keys are distinct because the result is a dict) ... -/
theorem parseDict_normal_form_text (h : Str) (d : Dict (Option Str)) (hp : parseDictHeader h = .ok d)
    (hk : ∀ x ∈ d, KeyOk x.1 = true) : (dumpHeaderDict d >>= parseDictHeader) = .ok d :=
  parseDict_dump_any d hk ((parseDictHeader_returns h).of_eq hp)

theorem cacheControl_normal_form_text (h : Str) (d : Dict (Option Str)) (hp : parseCacheControl h = .ok d)
    (hk : ∀ x ∈ d, KeyOk x.1 = true) : (dumpHeaderDict d >>= parseCacheControl) = .ok d :=
  cacheControl_dump_of_ok ⟨hk, (parseDictHeader_returns h).of_eq (parseCacheControl_eq h ▸ hp)⟩

example : parseDictHeader "max-age=5, private=\"a, b\", no-store, x = \" y\"".toList
    = .ok [("max-age".toList, some "5".toList), ("private".toList, some "a, b".toList), ("no-store".toList, none),
        ("x".toList, some " y".toList)] := by
  repeat rw [String.toList_ofList]
  decide +kernel

/-- ... and the hypothesis on the keys is needed: on arbitrary text parsing is **not** a normal form
for dict headers — a key that keeps a `*` after the RFC 2231 marker was removed is re-read as a
marker, and a key containing `"` changes where the list scanner splits -/
theorem parseDict_normal_form_arbitrary_false_star :
    (parseDictHeader "a**=b".toList >>= dumpHeaderDict >>= parseDictHeader) ≠ parseDictHeader "a**=b".toList := by
  repeat rw [String.toList_ofList]
  decide +kernel

theorem parseDict_normal_form_arbitrary_false_quote :
    (parseDictHeader "a\"b=c, d\"".toList >>= dumpHeaderDict >>= parseDictHeader)
      ≠ parseDictHeader "a\"b=c, d\"".toList := by
  repeat rw [String.toList_ofList]
  decide +kernel

end Wz.Props.C06
