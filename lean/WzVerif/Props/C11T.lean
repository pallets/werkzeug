/-
C11T — the range functions of C11 *as regenerated from werkzeug's source* by `tools/py2lean.py`
(`Gen/PyFns_Range.lean`, rewritten on every check run) are equal, for all inputs, to the
hand-written model functions of `Model/Conditional.lean` that the C11 theorems are about.
A change of the Python source changes the generated definition and breaks these obligations.
Property theorems only (helper lemmas live in Lemmas/PyFns_Range.lean, Lemmas/PyFns_Prelude.lean).
-/
import WzVerif.Gen.PyFns_Range
import WzVerif.Lemmas.PyFnsEq_Internal
import WzVerif.Model.Conditional
import WzVerif.Lemmas.PyFns_Range
namespace Wz.Props.C11T
open Wz Wz.Pre Wz.PyFnsRange

/-- `werkzeug.http.is_byte_range_valid`, as translated from the current source, computes exactly the
model's `isByteRangeValid` for every `start`, `stop`, `length` (each an unbounded int or `None`).
In particular no argument combination reaches a comparison with `None` (the translation would not
type-check otherwise). -/
theorem is_byte_range_valid_eq (start stop length : Option Int) :
    Gen.PyFns_Range.is_byte_range_valid start stop length
      = Cond.isByteRangeValid start stop length := by
  cases start <;> cases stop <;> cases length <;>
    simp only [Gen.PyFns_Range.is_byte_range_valid, Cond.isByteRangeValid] <;> grind

/-- `Range.range_for_length`, as translated from the current source of
`werkzeug/datastructures/range.py` (the unit / `None` / single-range guard, `self.ranges[0]`, the
open-ended and suffix adjustments, the call of `is_byte_range_valid`, `min(end, length)`), never
raises (`self.ranges[0]` is only reached for a one-element list) and returns exactly the model's
`rangeForLength`, for every unit text, every list of `(begin, end)` pairs and every length. -/
theorem range_for_length_eq (units : List Char) (ranges : List (Int × Option Int))
    (length : Option Int) :
    Gen.PyFns_Range.range_for_length units ranges length
      = .ok (Cond.rangeForLength ⟨units, ranges⟩ length) := by
  unfold Gen.PyFns_Range.range_for_length Cond.rangeForLength
  cases length with
  | none => rfl
  | some l =>
    simp only [is_byte_range_valid_eq]
    match ranges with
    | [] => simp
    | [(s, e)] => cases e <;> simp [Pre.getItem_zero_cons, Cond.bytesUnit] <;> grind
    | _ :: _ :: _ => simp <;> grind

example : (Gen.PyFns_Range.range_for_length "bytes".toList [(-3, none)] (some 10)).toOption
    = some (some (7, 10)) := by
  -- a literal's `toList` is rewritten to the list of its characters: evaluating it decodes the bytes
  repeat rewrite [String.toList_ofList]
  decide +kernel

/-- The translation maps `_plain_int_re.fullmatch` to the prelude's hand-written matcher for
`-?\d+` under `re.ASCII`; this pins the pattern source and flags of the live regex object. -/
theorem plain_int_re_pinned : Gen.PyFns_Internal.plainIntRe = ("-?\\d+", 256) := rfl

/-- `_plain_int`, as translated from the current source, equals the prelude's `plainInt` for every
text (see Props/C09T): the only exception is `ValueError`, and `int()` is only reached with a text of
the form `-?[0-9]+`. -/
theorem plain_int_eq (v : List Char) : Gen.PyFns_Internal.plain_int v = Pre.plainInt v :=
  Pre.plain_int_eq v

/-- The validation loop of `Range.__init__`, as translated from the current source, runs to its end
exactly when every pair is open-ended or satisfies `0 ≤ begin < end` (`validB`), and raises
`ValueError` otherwise. -/
theorem range_init_loop_eq (rs : List (Int × Option Int)) :
    Gen.PyFns_Range.range_init.loop1 rs
      = if rs.all validB then .fall () else .ret (.error "ValueError") := by
  induction rs with
  | nil => rfl
  | cons p t ih =>
    unfold Gen.PyFns_Range.range_init.loop1
    obtain ⟨b, e⟩ := p
    cases e with
    | none => simp only [ih, List.all_cons, validB, Bool.true_and]
    | some e =>
      by_cases h : (b < 0 ∨ b ≥ e)
      · have h2 : ¬ (0 ≤ b ∧ b < e) := by omega
        simp [h, validB, h2]
      · have h2 : (0 ≤ b ∧ b < e) := by omega
        have h3 : (decide (b < 0) || decide (b ≥ e)) = false := by
          simp only [Bool.or_eq_false_iff, decide_eq_false_iff_not]; omega
        have h4 : (decide (0 ≤ b) && decide (b < e)) = true := by
          simp only [Bool.and_eq_true, decide_eq_true_eq]; exact h2
        simp only [h3, h4, ih, List.all_cons, validB, Bool.true_and, Bool.false_eq_true, if_false]

/-- `Range(units, ranges)`, as translated from the current source (`Range.__init__`: the two
attribute stores and the validation loop), returns the object - the pair of its attributes - for a
valid list and raises `ValueError` for any other. -/
theorem range_init_eq (u : List Char) (rs : List (Int × Option Int)) :
    Gen.PyFns_Range.range_init u rs = if rs.all validB then .ok (u, rs) else .error "ValueError" := by
  unfold Gen.PyFns_Range.range_init
  rw [range_init_loop_eq]
  cases rs.all validB <;> simp

/-- in particular every valid list is accepted -/
theorem range_init_ok (u : List Char) (rs : List (Int × Option Int)) (h : AllValid rs) :
    Gen.PyFns_Range.range_init u rs = .ok (u, rs) := by
  rw [range_init_eq, (all_validB_iff rs).mpr h]; rfl

example : AllValid [(0, some 2), (5, none), (-3, none)] := by
  intro p hp
  simp only [List.mem_cons, List.not_mem_nil, or_false] at hp
  rcases hp with rfl | rfl | rfl <;> simp [ValidPair]

/-- The `for item in rng.split(",")` loop of `parse_range_header`, as translated from the current
source (strip, the `-` tests, the suffix / `first-last` / `first-` forms with their `_plain_int`
calls and `try … except ValueError: return None`, the ordering checks against `last_end`, the append),
does what the model's `parseRangeItems` does, for every list of items and every loop state:
`summ` reads off "returned None" / "fell through with these ranges" (an exception or any other
return value has no summary). -/
theorem parse_range_header_loop_eq (items : List (List Char)) : ∀ (le : Int) (ranges : R),
    summ (Gen.PyFns_Range.parse_range_header.loop1 items le ranges)
      = some (Cond.parseRangeItems items le ranges.reverse) := by
  induction items with
  | nil => intro le ranges; simp [Gen.PyFns_Range.parse_range_header.loop1, Cond.parseRangeItems, summ]
  | cons item rest ih =>
    intro le ranges
    unfold Gen.PyFns_Range.parse_range_header.loop1 Cond.parseRangeItems
    simp only [Pre.strip, contains_singleton, startswith_singleton_head, plain_int_eq, cond_plainInt_eq]
    generalize Py.strip item = it
    by_cases hm : '-' ∈ it
    · have hc : it.contains '-' = true := by simpa using hm
      simp only [hc, Bool.not_true, Bool.false_eq_true, if_false, splitOnce_singleton_mem it '-' hm]
      by_cases hh : it.head? = some '-'
      · simp only [hh, beq_self_eq_true, if_true]
        by_cases hl : le < 0
        · simp [hl, summ]
        · simp only [hl, decide_false, Bool.false_eq_true, if_false]
          cases plainInt it with
          | error e => simp [summ, Except.toOption]
          | ok b =>
            by_cases hb : b = 0
            · simp [hb, summ, Except.toOption]
            · simp [hb, ih, Except.toOption]
      · have hh' : (it.head? == some '-') = false := by simpa using hh
        simp only [hh', Bool.false_eq_true, if_false]
        cases plainInt (Py.strip (List.takeWhile (fun x => x != '-') it)) with
        | error e => simp [summ, Except.toOption]
        | ok b =>
          by_cases hl : (b < le ∨ le < 0)
          · simp [hl, summ, Except.toOption]
          · by_cases he : Py.strip (List.dropWhile (fun x => x != '-') it).tail = []
            · simp [hl, he, ih, Except.toOption]
            · cases hp : plainInt (Py.strip (List.dropWhile (fun x => x != '-') it).tail) with
              | error e => simp [hl, he, hp, summ, Except.toOption]
              | ok e =>
                by_cases hbe : e + 1 ≤ b
                · simp [hl, he, hp, hbe, summ, Except.toOption]
                · simp [hl, he, hp, hbe, ih, Except.toOption]
    · simp [hm, summ]

/-- `parse_range_header(value)`, as translated from the current source, never raises (the
two-way unpacking of `value.split("=", 1)` happens only when `=` occurs; every range list the loop
builds passes the validation of `Range.__init__`) and returns exactly the model's
`parseRangeHeader` (`None`, or the units and the list of half-open ranges), for every header value
including `None`. -/
theorem parse_range_header_eq (value : Option (List Char)) (mi : Bool) :
    Gen.PyFns_Range.parse_range_header value mi
      = .ok ((Cond.parseRangeHeader value).map fun r => (r.units, r.ranges)) := by
  unfold Gen.PyFns_Range.parse_range_header Cond.parseRangeHeader
  cases value with
  | none => rfl
  | some v =>
    simp only [contains_singleton]
    by_cases hm : '=' ∈ v
    · have hc : v.contains '=' = true := by simpa using hm
      by_cases he : v.isEmpty = true
      · simp [he]
      · simp only [he, hc, Bool.not_true, Bool.or_false, Bool.false_eq_true, if_false,
          splitOnce_singleton_mem v '=' hm, splitOn_singleton]
        generalize Cond.splitOnChar ',' (List.drop 1 (List.dropWhile (fun x => x != '=') v)) [] = items
        have hl := parse_range_header_loop_eq items 0 []
        simp only [List.reverse_nil] at hl
        cases hp : Cond.parseRangeItems items 0 [] with
        | none =>
          rw [hp, summ_none_iff] at hl
          simp [hl]
        | some rs =>
          rw [hp, summ_some_iff] at hl
          obtain ⟨le, hL⟩ := hl
          have hv : AllValid rs := parseRangeItems_valid _ _ _ _ hp (by intro p hp; simp at hp)
          simp [hL, range_init_ok _ _ hv, Pre.lower, Pre.strip, Cond.lowerA]
    · simp [hm]

/-- `unquote_etag(etag)`, as translated from the current source (falsy input, `strip`, the
`W/` / `w/` prefix through `startswith` with a tuple, the slices `etag[:1] == etag[-1:] == '"'` and
`etag[1:-1]`), returns exactly what the model's `unquoteEtag` returns - `(None, None)` for the
model's `none` - for every text and for `None`. -/
theorem unquote_etag_eq (etag : Option (List Char)) :
    Gen.PyFns_Range.unquote_etag etag =
      match etag with
      | none => (none, none)
      | some s =>
        match Cond.unquoteEtag s with
        | none => (none, none)
        | some (e, w) => (some e, some w) := by
  cases etag with
  | none => rfl
  | some s =>
    show Gen.PyFns_Range.unquote_etag (some s) = match Cond.unquoteEtag s with
      | none => (none, none)
      | some (e, w) => (some e, some w)
    rw [unquoteEtag_spec]
    unfold Gen.PyFns_Range.unquote_etag
    by_cases he : s.isEmpty = true
    · simp [he]
    · have h2 : ∀ l : List Char, slice l (some 2) none = l.drop 2 := fun l => slice_nat_none l 2
      have h1 : ∀ l : List Char, slice l none (some 1) = l.take 1 := fun l => slice_none_nat l 1
      simp only [he, Bool.false_eq_true, if_false, Pre.strip, h2, h1, slice_neg_one_none,
        slice_one_neg_one, quoted_test]
      by_cases hw : (startswith (Py.strip s) ['W', '/'] || startswith (Py.strip s) ['w', '/']) = true
      · simp [hw]
      · simp [hw]

/-- `parse_if_range_header(value)`, as translated from the current source (`IfRange.__init__` is
translated too; `parse_date` stays an opaque function), builds the `IfRange` the model's
`parseIfRange` builds **when the model is given no date for a value spelled like an entity tag**
(`quotedLike`: after `lstrip`, a leading `"`, `W/"` or `w/"` - the test added by 31f8ea0), for every
`parse_date` and every value including `None`. -/
theorem parse_if_range_header_eq (pd : List Char → Option Int) (value : Option (List Char)) :
    Gen.PyFns_Range.parse_if_range_header pd value
      = ifRangeOf (Cond.parseIfRange value
          (value.bind fun v => if quotedLike v then none else pd v)) := by
  unfold Gen.PyFns_Range.parse_if_range_header Cond.parseIfRange
  cases value with
  | none => rfl
  | some v =>
    by_cases he : v.isEmpty = true
    · simp [he, ifRangeOf, Gen.PyFns_Range.if_range_init]
    · have hu := unquote_etag_eq (some v)
      simp only at hu
      simp only [he, Bool.false_eq_true, if_false, Option.bind_some, Gen.PyFns_Range.if_range_init, hu]
      by_cases hq : quotedLike v = true
      · have hq' := hq
        unfold quotedLike at hq'
        simp only [hq', Bool.not_true, Bool.false_eq_true, if_false, hq, if_true]
        cases Cond.unquoteEtag v with
        | none => rfl
        | some p => obtain ⟨e, w⟩ := p; rfl
      · have hq0 : quotedLike v = false := by simpa using hq
        have hq' := hq0
        unfold quotedLike at hq'
        simp only [hq', Bool.not_false, if_true, hq0, Bool.false_eq_true, if_false]
        cases pd v with
        | some d => rfl
        | none =>
          cases Cond.unquoteEtag v with
          | none => rfl
          | some p => obtain ⟨e, w⟩ := p; rfl

/-- `parse_if_range_header(value)`, as translated from the current source, builds exactly the `IfRange`
of the model's `parseIfRangeHeader` (the entry point `isResourceModified` uses; it consults
`parse_date(value)` only for a value that is not spelled like an entity tag), for every `parse_date`
and every value including `None`. -/
theorem parse_if_range_header_eq_model (pd : List Char → Option Int) (value : Option (List Char)) :
    Gen.PyFns_Range.parse_if_range_header pd value
      = ifRangeOf (Cond.parseIfRangeHeader value (value.bind pd)) := by
  rw [parse_if_range_header_eq]
  unfold Cond.parseIfRangeHeader
  cases value with
  | none => rfl
  | some v =>
    simp only [Option.map_some, Option.getD_some, Option.bind_some, looksLikeEtag_eq]

/-- The restriction above is needed: handing the model the raw `parse_date(value)` (as the harness
does for its `cond` / `resp` commands) disagrees with the code as soon as `parse_date` accepts a
quoted text - CPython's does, e.g. `"Wed, 21 Oct 2015 07:28:00 GMT"` with the quotes. Witness with an
abstract date parser that accepts everything: the code reads `"x"` as the entity tag `x`, the model
as a date. (`isResourceModified` goes through `parseIfRangeHeader`, which consults the date only for an
unquoted value: `parse_if_range_header_eq_model`.) -/
theorem parse_if_range_model_needs_unquoted_date :
    Gen.PyFns_Range.parse_if_range_header (fun _ => some 0) (some ['"', 'x', '"'])
      ≠ ifRangeOf (Cond.parseIfRange (some ['"', 'x', '"']) (some 0)) := by decide +kernel

example : (Gen.PyFns_Range.parse_range_header (some "Bytes = 0-1, 5-".toList) true).toOption
    = some (some ("bytes ".toList.dropLast, [(0, some 2), (5, none)])) := by
  repeat rewrite [String.toList_ofList]
  decide +kernel

end Wz.Props.C11T
