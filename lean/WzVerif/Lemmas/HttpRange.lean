/-
`parse_range_header(Range(units, ranges).to_header())` (C06): the item loop `rangeItems` reads each written item back
(`rangeItems_start`, `_suffix`) when the ranges are ascending and non-overlapping with an open or suffix range only last
(`rangesOk`); and on arbitrary text whatever the parser returns lies in that domain (`parseRangeHeader_returns`), so the
constructor's check cannot fail (C07) and parsing is a normal form.
-/
import WzVerif.Lemmas.HttpInt
namespace Wz.Http
open Wz

/-- units that are read back unchanged: the parser cuts at the first `=`, strips and lower-cases -/
def UnitsOk (u : Str) : Bool := !u.contains '=' && (pyLower (strip u) == u)

/-- the ranges a `Range` header can carry, as `parse_range_header` demands them: ascending and
non-overlapping `0 ≤ start < stop`; an open-ended (`start-`) or suffix (`-n`) range only last -/
def rangesOk : Int → List (Int × Option Int) → Bool
  | _, [] => true
  | lastEnd, (b, none) :: more => lastEnd ≥ 0 && (b < 0 || lastEnd ≤ b) && rangesOk (-1) more
  | lastEnd, (b, some e) :: more => lastEnd ≥ 0 && lastEnd ≤ b && b < e && rangesOk e more

def rangeItemText (r : Int × Option Int) : Str :=
  match r.2 with
  | none => if r.1 ≥ 0 then intText r.1 ++ ['-'] else intText r.1
  | some e => intText r.1 ++ '-' :: intText (e - 1)

/-- an item `<digits>-<rest>` of a Range header: the start is read back and the loop goes on with `<rest>` -/
theorem rangeItems_start (n : Nat) (es : Str) (more : List Str) (lastEnd : Int) (acc : List (Int × Option Int))
    (ht : ∀ c, (['-'] ++ es).getLast? = some c → Py.isSpace c = false) (hse : strip es = es)
    (h0 : 0 ≤ lastEnd) (h1 : lastEnd ≤ n) :
    rangeItems ((natText n ++ '-' :: es) :: more) lastEnd acc =
      if es.isEmpty then rangeItems more (-1) (((n : Int), none) :: acc)
      else (do
        match ← catching ["ValueError"] ((plainInt es).map some) none with
        | none => return none
        | some e1 =>
          let e := e1 + 1
          if (n : Int) ≥ e then return none
          rangeItems more e (((n : Int), some e) :: acc)) := by
  have hd := natText_all_digit n
  obtain ⟨c, t, hct, hcd⟩ := natText_head n
  have hc : c ≠ '-' := ne_of_class hcd dash_not_digit
  have htight : Tight (natText n ++ '-' :: es) :=
    tight_append (natText_ne_nil _) (by simp) (digits_tight hd).1 ht
  rw [rangeItems, strip_tight htight]
  have hcont : (natText n ++ '-' :: es).contains '-' = true := by simp
  simp only [hcont, Bool.not_true, Bool.false_eq_true, if_false]
  rw [hct]
  simp only [List.cons_append]
  split
  · next heq => simp at heq; exact absurd heq.1 hc
  · rw [← List.cons_append, ← hct, partition_found (all_not_mem hd dash_not_digit)]
    have n1 : ¬ ((n : Int) < lastEnd) := by omega
    have n2 : ¬ (lastEnd < 0) := by omega
    simp only [strip_tight (digits_tight hd), hse, plainInt_natText, Except.map, catching_ok, ok_bind, n1, n2, decide_false, Bool.or_self,
      Bool.false_eq_true, if_false]
    cases es <;> rfl

theorem rangeItems_some (b e : Int) (more : List Str) (lastEnd : Int) (acc : List (Int × Option Int))
    (h0 : 0 ≤ lastEnd) (h1 : lastEnd ≤ b) (h2 : b < e) :
    rangeItems (rangeItemText (b, some e) :: more) lastEnd acc = rangeItems more e ((b, some e) :: acc) := by
  have hb : 0 ≤ b := by omega
  have he : 0 ≤ e - 1 := by omega
  have e1 : ((b.toNat : Nat) : Int) = b := Int.toNat_of_nonneg hb
  have e2 : (((e - 1).toNat : Nat) : Int) = e - 1 := Int.toNat_of_nonneg he
  have hitem : rangeItemText (b, some e) = natText b.toNat ++ '-' :: natText (e - 1).toNat := by
    simp [rangeItemText, intText_nonneg hb, intText_nonneg he]
  rw [hitem, rangeItems_start _ _ _ _ _ (last_natText_not_space ['-'] _)
    (strip_tight (digits_tight (natText_all_digit _))) h0 (by omega)]
  have n3 : ¬ (b ≥ e) := by omega
  simp only [natText_isEmpty, Bool.false_eq_true, if_false, plainInt_natText, Except.map, catching_ok, ok_bind,
    e1, e2, Int.sub_add_cancel, n3, if_false]

theorem rangeItems_open (b : Int) (more : List Str) (lastEnd : Int) (acc : List (Int × Option Int))
    (hb : 0 ≤ b) (h0 : 0 ≤ lastEnd) (h1 : lastEnd ≤ b) :
    rangeItems (rangeItemText (b, none) :: more) lastEnd acc = rangeItems more (-1) ((b, none) :: acc) := by
  have e1 : ((b.toNat : Nat) : Int) = b := Int.toNat_of_nonneg hb
  have hitem : rangeItemText (b, none) = natText b.toNat ++ ['-'] := by
    simp [rangeItemText, hb, intText_nonneg hb]
  rw [hitem, rangeItems_start _ [] _ _ _ (by intro c hc; simp at hc; subst hc; decide) (by decide) h0 (by omega), e1]
  rfl

theorem rangeItems_suffix (b : Int) (more : List Str) (lastEnd : Int) (acc : List (Int × Option Int))
    (hb : b < 0) (h0 : 0 ≤ lastEnd) :
    rangeItems (rangeItemText (b, none) :: more) lastEnd acc = rangeItems more (-1) ((b, none) :: acc) := by
  cases b with
  | ofNat n => exact absurd hb (Int.not_lt.mpr (Int.natCast_nonneg n))
  | negSucc n =>
    have hitem : rangeItemText (Int.negSucc n, none) = '-' :: natText (n + 1) := by
      simp [rangeItemText, intText]
    have htight := neg_natText_tight (n + 1)
    have hp : plainInt ('-' :: natText (n + 1)) = .ok (Int.negSucc n) := by
      have := plainInt_intText (Int.negSucc n)
      simpa [intText] using this
    rw [rangeItems, hitem, strip_tight htight]
    have n2 : ¬ (lastEnd < 0) := by omega
    simp [hp, Except.map, catching_ok, n2]

theorem rangeItems_ok (rs : List (Int × Option Int)) (lastEnd : Int) (acc : List (Int × Option Int))
    (h : rangesOk lastEnd rs = true) :
    rangeItems (rs.map rangeItemText) lastEnd acc = .ok (some (acc.reverse ++ rs)) := by
  induction rs generalizing lastEnd acc with
  | nil => simp [rangeItems]
  | cons r more ih =>
    obtain ⟨b, e⟩ := r
    cases e with
    | none =>
      simp only [rangesOk, Bool.and_eq_true, Bool.or_eq_true, decide_eq_true_eq] at h
      obtain ⟨⟨h0, h1⟩, h2⟩ := h
      rw [List.map_cons]
      by_cases hb : b < 0
      · rw [rangeItems_suffix b _ lastEnd acc hb h0, ih _ _ h2]; simp
      · have h1' : lastEnd ≤ b := by rcases h1 with h | h <;> omega
        rw [rangeItems_open b _ lastEnd acc (by omega) h0 h1', ih _ _ h2]; simp
    | some e =>
      simp only [rangesOk, Bool.and_eq_true, decide_eq_true_eq] at h
      obtain ⟨⟨⟨h0, h1⟩, h2⟩, h3⟩ := h
      rw [List.map_cons, rangeItems_some b e _ lastEnd acc h0 h1 h2, ih _ _ h3]; simp

theorem rangeItemText_no_comma (r : Int × Option Int) : ',' ∉ rangeItemText r := by
  have hd : ∀ i : Int, ',' ∉ intText i := by
    intro i
    cases i with
    | ofNat n => exact all_not_mem (natText_all_digit n) (by decide)
    | negSucc n =>
      simp only [intText, List.mem_cons, not_or]
      exact ⟨by decide, all_not_mem (natText_all_digit _) (by decide)⟩
  obtain ⟨b, e⟩ := r
  cases e with
  | none =>
    by_cases hb : b ≥ 0
    · simp only [rangeItemText, hb, if_true, List.mem_append, List.mem_singleton, not_or]
      exact ⟨hd b, by decide⟩
    · simp only [rangeItemText, hb, if_false]
      exact hd b
  | some e =>
    simp only [rangeItemText, List.mem_append, List.mem_cons, not_or]
    exact ⟨hd b, by decide, hd _⟩

/-- the constructor check of `Range` (`start < 0 or start >= end` refused) passes on what `parse_range_header` accepts -/
theorem rangesOk_not_bad (le : Int) (l : List (Int × Option Int)) (hle : 0 ≤ le) (h : rangesOk le l = true) :
    l.any badRange = false := by
  induction l generalizing le with
  | nil => simp
  | cons x t ih =>
    obtain ⟨b, e⟩ := x
    cases e with
    | none =>
      simp only [rangesOk, Bool.and_eq_true] at h
      cases t with
      | nil => simp [badRange]
      | cons y ys =>
        obtain ⟨b', e'⟩ := y
        cases e' <;> simp [rangesOk] at h <;> omega
    | some e =>
      simp only [rangesOk, Bool.and_eq_true, decide_eq_true_eq] at h
      obtain ⟨⟨⟨h0, h1⟩, h2⟩, h3⟩ := h
      have := ih e (by omega) h3
      simp only [List.any_cons, this, Bool.or_false, badRange]
      simp; omega

theorem range_roundtrip_any (u : Str) (rs : List (Int × Option Int)) (hu : UnitsOk u = true)
    (hne : rs ≠ []) (hr : rangesOk 0 rs = true) :
    parseRangeHeader (rangeToHeader ⟨u, rs⟩) = .ok (some ⟨u, rs⟩) := by
  simp only [UnitsOk, Bool.and_eq_true, Bool.not_eq_true', beq_iff_eq] at hu
  have hueq : '=' ∉ u := by simpa using hu.1
  have hhdr : rangeToHeader ⟨u, rs⟩ = u ++ '=' :: List.intercalate [','] (rs.map rangeItemText) := by
    simp only [rangeToHeader, join]
    congr 2
  cases rs with
  | nil => exact absurd rfl hne
  | cons r more =>
    rw [hhdr]
    unfold parseRangeHeader
    have hc : (u ++ '=' :: List.intercalate [','] ((r :: more).map rangeItemText)).contains '=' = true := by simp
    have hemp : (u ++ '=' :: List.intercalate [','] ((r :: more).map rangeItemText)).isEmpty = false := by
      cases u <;> rfl
    simp only [hc, hemp, Bool.not_true, Bool.or_self, Bool.false_eq_true, if_false]
    rw [partition_found hueq]
    simp only [hu.2]
    rw [List.map_cons, splitOnChar_join ',' _ _ (by
      intro x hx
      have : x ∈ (r :: more).map rangeItemText := by simpa using hx
      simp only [List.mem_map] at this
      obtain ⟨y, _, rfl⟩ := this
      exact rangeItemText_no_comma y)]
    have := rangeItems_ok (r :: more) 0 [] hr
    simp only [List.map_cons] at this
    simp only [this, ok_bind, List.reverse_nil, List.nil_append]
    simp [rangeCtor, rangesOk_not_bad 0 (r :: more) (Int.le_refl 0) hr]

theorem plainInt_dash_nonpos (t : Str) (b : Int) (hst : strip ('-' :: t) = '-' :: t)
    (h : plainInt ('-' :: t) = .ok b) : b ≤ 0 := by
  unfold plainInt at h
  rw [hst] at h
  simp only [signSplit] at h
  split at h
  · simp only [Except.ok.injEq, if_true] at h
    omega
  · cases h

/-- invariant of the item loop of `parse_range_header`: it never raises; what has been collected (`acc`, reversed)
followed by anything acceptable after `lastEnd` is an acceptable range list; every item adds one range -/
theorem rangeItems_returns (items : List Str) (lastEnd : Int) (acc : List (Int × Option Int))
    (hacc : ∀ tail, rangesOk lastEnd tail = true → rangesOk 0 (acc.reverse ++ tail) = true) :
    Returns (fun res => ∀ rs, res = some rs → rangesOk 0 rs = true ∧ rs.length = acc.length + items.length)
      (rangeItems items lastEnd acc) := by
  induction items generalizing lastEnd acc with
  | nil =>
    rw [rangeItems]
    refine .ok ?_
    rintro rs ⟨rfl⟩
    exact ⟨by simpa using hacc [] (by simp [rangesOk]), by simp⟩
  | cons item0 more ih =>
    -- the loop goes on with one more range `x`, acceptable after `lastEnd` and ending at `le`
    have step : ∀ (le : Int) (x : Int × Option Int),
        (∀ tail, rangesOk le tail = true → rangesOk lastEnd (x :: tail) = true) →
        Returns (fun res => ∀ rs, res = some rs → rangesOk 0 rs = true ∧ rs.length = acc.length + (item0 :: more).length)
          (rangeItems more le (x :: acc)) := fun le x hx =>
      (ih le (x :: acc) fun tail htail => by simpa using hacc _ (hx tail htail)).mono fun res hP rs hrs =>
        ⟨(hP rs hrs).1, by rw [(hP rs hrs).2]; simp; omega⟩
    rw [rangeItems]
    simp only
    split
    · exact .ok (by simp)
    · split
      · -- suffix form `-n`
        next t heq =>
        split
        · exact .ok (by simp)
        · refine (catching_plainInt_safe (strip item0)).returns.bind fun ob hob => ?_
          cases ob with
          | none => exact .ok (by simp)
          | some b =>
            simp only
            split
            · exact .ok (by simp)
            · next hb0 =>
              have hble : b ≤ 0 := by
                have hpi := catching_map_some_eq _ _ hob
                rw [heq] at hpi
                exact plainInt_dash_nonpos t b (by rw [← heq]; exact strip_strip item0) hpi
              have hbne : b ≠ 0 := by simpa using hb0
              refine step (-1) (b, none) fun tail htail => ?_
              simp only [rangesOk, Bool.and_eq_true, decide_eq_true_eq, Bool.or_eq_true]
              exact ⟨⟨by omega, Or.inl (by omega)⟩, htail⟩
      · generalize partition '-' (strip item0) = p
        obtain ⟨bs, f, es⟩ := p
        refine (catching_plainInt_safe (strip bs)).returns.bind fun ob _ => ?_
        cases ob with
        | none => exact .ok (by simp)
        | some b =>
          simp only
          split
          · exact .ok (by simp)
          · next hlt =>
            have hle : lastEnd ≤ b ∧ 0 ≤ lastEnd := by
              simpa only [Bool.or_eq_true, decide_eq_true_eq, not_or, Int.not_lt] using hlt
            split
            · refine (catching_plainInt_safe (strip es)).returns.bind fun oe _ => ?_
              cases oe with
              | none => exact .ok (by simp)
              | some e1 =>
                simp only
                split
                · exact .ok (by simp)
                · next hge =>
                  refine step (e1 + 1) (b, some (e1 + 1)) fun tail htail => ?_
                  simp only [ge_iff_le, Int.not_le] at hge
                  simp only [rangesOk, Bool.and_eq_true, decide_eq_true_eq]
                  exact ⟨⟨⟨by omega, hle.1⟩, by omega⟩, htail⟩
            · refine step (-1) (b, none) fun tail htail => ?_
              simp only [rangesOk, Bool.and_eq_true, decide_eq_true_eq, Bool.or_eq_true]
              exact ⟨⟨by omega, Or.inr hle.1⟩, htail⟩

theorem unitsOk_image (u : Str) (hu : '=' ∉ u) : UnitsOk (pyLower (strip u)) = true := by
  unfold UnitsOk
  simp only [Bool.and_eq_true, Bool.not_eq_true', beq_iff_eq]
  constructor
  · cases hc : (pyLower (strip u)).contains '=' with
    | false => rfl
    | true =>
      exfalso
      have hm : '=' ∈ pyLower (strip u) := by simpa using hc
      unfold pyLower at hm
      obtain ⟨c, hcm, hce⟩ := List.mem_map.1 hm
      have := eq_of_lowerChar_eq (d := '=') (by decide) hce
      subst this
      exact hu (strip_subset u _ hcm)
  · rw [strip_pyLower, strip_strip, pyLower_idem]

theorem parseRangeHeader_returns (s : Str) :
    Returns (fun res => ∀ r, res = some r → UnitsOk r.units = true ∧ r.ranges ≠ [] ∧ rangesOk 0 r.ranges = true)
      (parseRangeHeader s) := by
  unfold parseRangeHeader
  split
  · exact .ok (by simp)
  · generalize hp : partition '=' s = p
    obtain ⟨u, f, rng⟩ := p
    have hnu : '=' ∉ u := by simpa [hp] using partition_fst_noSep '=' s
    refine Returns.bind (rangeItems_returns (splitOnChar ',' rng) 0 [] (by simp)) fun res hres => ?_
    cases res with
    | none => exact .ok (by simp)
    | some rs =>
      obtain ⟨hok, hlen⟩ := hres rs rfl
      simp only [rangeCtor, rangesOk_not_bad 0 rs (Int.le_refl 0) hok]
      refine .ok ?_
      rintro r ⟨rfl⟩
      refine ⟨unitsOk_image u hnu, fun e => splitOnChar_go_ne_nil ',' rng [] ?_, hok⟩
      -- no range for at least one item
      simp only at e
      rw [e] at hlen
      exact List.length_eq_zero_iff.mp (show (splitOnChar ',' rng).length = 0 by simpa using hlen.symm)

theorem parseRangeHeader_safe (s : Str) : Safe (parseRangeHeader s) := (parseRangeHeader_returns s).safe

end Wz.Http
