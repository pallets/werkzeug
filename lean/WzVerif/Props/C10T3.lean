/-
C10T3 — C10T continued: a small piece of request-side glue *as regenerated from the source* by
`tools/py2lean.py` (`Gen/PyFns_FormGlue.lean`, rewritten on every check run):
`MultiPartParser.get_part_charset` (`formparser.py`) equals the hand-written `Multipart.partCharset`
(with `Headers.get` / `parse_options_header` instantiated by the model's `headerGet` /
`FormOptions.parseOptionsHeader`). (`Request.want_form_data_parsed`: Props/C07T2.lean.)
-/
import WzVerif.Gen.PyFns_FormGlue
import WzVerif.Model.Multipart
import WzVerif.Lemmas.PyFnsEq_Decoder
namespace Wz.Props.C10T3
open Wz Wz.Gen.PyFns_FormGlue

/-- the prelude's `d.get(k, "")` on a list of pairs is the model's `lookup` -/
theorem dictGetD_eq_lookup (l : List (List Char × List Char)) (k : List Char) :
    Pre.dictGetD l k [] = (FormOptions.lookup k l).getD [] := by
  rw [← PyFnsEq.Decoder.lookup_eq_dictGet?]; rfl

/-- `get_part_charset(headers)`, as translated from the current source (`headers.get("content-type")`,
`parse_options_header(...)[1].get("charset", "").lower()`, the four allowed names, `"utf-8"`
otherwise), is the model's `partCharset` for every header list. -/
theorem get_part_charset_eq (headers : Multipart.Headers) :
    get_part_charset FormOptions.parseOptionsHeader (fun h k => Multipart.headerGet k h) headers
      = Multipart.partCharset headers := by
  have k1 : "content-type".toList = ['c', 'o', 'n', 't', 'e', 'n', 't', '-', 't', 'y', 'p', 'e'] := String.toList_ofList
  have k2 : "charset".toList = ['c', 'h', 'a', 'r', 's', 'e', 't'] := String.toList_ofList
  have k3 : "utf-8".toList = ['u', 't', 'f', '-', '8'] := String.toList_ofList
  have k4 : "ascii".toList = ['a', 's', 'c', 'i', 'i'] := String.toList_ofList
  have k5 : "us-ascii".toList = ['u', 's', '-', 'a', 's', 'c', 'i', 'i'] := String.toList_ofList
  have k6 : "iso-8859-1".toList = ['i', 's', 'o', '-', '8', '8', '5', '9', '-', '1'] := String.toList_ofList
  unfold get_part_charset Multipart.partCharset
  rw [k1, k2, k3, k4, k5, k6]
  simp only []
  cases Multipart.headerGet ['c', 'o', 'n', 't', 'e', 'n', 't', '-', 't', 'y', 'p', 'e'] headers with
  | none => simp
  | some ct =>
    simp only
    by_cases he : ct.isEmpty = true
    · simp [he]
    · simp only [he, Bool.not_false, if_true, Bool.false_eq_true, if_false]
      cases FormOptions.parseOptionsHeader ct with
      | error e => simp
      | ok r =>
        simp only [dictGetD_eq_lookup]
        rfl

end Wz.Props.C10T3
