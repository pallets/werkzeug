/-
The typed (non-view) properties of C16 that store a computed text: the text of an HTTP date has no CR / LF and is no
integer literal (`retry_after` tells the two apart by `int()`); `mimetype` read after it was assigned; the text of a stored
entity tag has a CR / LF only if the tag has; `age` reads the decimal text of a count back.
-/
import WzVerif.Lemmas.ViewsCodec
import WzVerif.Lemmas.Date
import WzVerif.Lemmas.DateText
import WzVerif.Lemmas.HttpEtag
namespace Wz.C16L
open Wz Hdr Views

theorem hasNL_toDigits (n : Nat) : hasNL (Nat.toDigits 10 n) = false := natText_noNL n

theorem hasNL_pad2 (n : Nat) : hasNL (Date.pad2 n) = false := by
  unfold Date.pad2
  split
  · rw [hasNL_cons, hasNL_toDigits]; rfl
  · exact hasNL_toDigits n

theorem hasNL_replicate0 (k : Nat) : hasNL (List.replicate k '0') = false := by
  induction k with
  | zero => rfl
  | succ k ih => rw [List.replicate_succ, hasNL_cons, ih]; rfl

theorem hasNL_pad4 (n : Nat) : hasNL (Date.pad4 n) = false := by
  unfold Date.pad4
  simp only [hasNL_append, hasNL_replicate0, hasNL_toDigits, Bool.or_self]

theorem hasNL_getD (l : List Str) (hl : l.all (fun s => !hasNL s) = true) (i : Nat) : hasNL (l.getD i []) = false := by
  rw [List.getD_eq_getElem?_getD]
  cases h : l[i]? with
  | none => rfl
  | some s =>
    have := List.all_eq_true.1 hl s (List.mem_of_getElem? h)
    simpa using this

/-- the IMF-fixdate text `http_date` produces never contains CR or LF (so `Headers` stores it) -/
theorem httpDate_noNL (t : Nat) : hasNL (Date.httpDate t) = false := by
  unfold Date.httpDate Date.formatCivil
  simp only [hasNL_append, hasNL_cons, hasNL_pad2, hasNL_pad4,
    hasNL_getD Date.dayNames (by decide), hasNL_getD Date.monthNames (by decide)]
  decide

theorem splitGo_head (c : Char) (a : Str) (hc : ∀ x ∈ a, (x == c) = false) (rest cur : Str) :
    (splitCh.go c (a ++ c :: rest) cur).head? = some (cur.reverse ++ a) ∧
    (splitCh.go c a cur).head? = some (cur.reverse ++ a) := by
  induction a generalizing cur with
  | nil => simp [splitCh.go]
  | cons x t ih =>
    have hx : (x == c) = false := hc x List.mem_cons_self
    have ht : ∀ y ∈ t, (y == c) = false := fun y hy => hc y (List.mem_cons_of_mem _ hy)
    simp only [List.cons_append, splitCh.go, hx, Bool.false_eq_true, if_false]
    have := ih ht (x :: cur)
    simpa using this

theorem splitCh_head (c : Char) (a : Str) (hc : ∀ x ∈ a, (x == c) = false) (rest : Str) :
    (splitCh c (a ++ c :: rest)).head! = a ∧ (splitCh c a).head! = a := by
  have := splitGo_head c a hc rest []
  unfold splitCh
  constructor
  · cases h : splitCh.go c (a ++ c :: rest) [] with
    | nil => rw [h] at this; simp at this
    | cons y r => rw [h] at this; show y = a; simpa using this.1
  · cases h : splitCh.go c a [] with
    | nil => rw [h] at this; simp at this
    | cons y r => rw [h] at this; show y = a; simpa using this.2

theorem getContentType_cases (m : Str) :
    Scalar.getContentType m = m ∨ Scalar.getContentType m = m ++ ';' :: " charset=utf-8".toList := by
  unfold Scalar.getContentType
  split
  · right; rfl
  · left; rfl

theorem mimetype_get_set (h : HList) (m : Str) (hne : m ≠ []) (hsc : ∀ x ∈ m, (x == ';') = false)
    (hstrip : Views.strip m = m) (hnl : hasNL m = false) :
    MP.mimetype (Scalar.mimetypeSet h m).1 = some m := by
  have hnl' : hasNL (Scalar.getContentType m) = false := by
    rcases getContentType_cases m with e | e <;> rw [e]
    · exact hnl
    · rw [hasNL_append, hnl]; decide
  unfold MP.mimetype Scalar.mimetypeSet
  rw [set_getKey' _ "content-type".toList "Content-Type".toList _ (by decide) hnl']
  have hne' : (Scalar.getContentType m).isEmpty = false := by
    rcases getContentType_cases m with e | e <;> rw [e] <;> cases m <;> simp_all
  simp only [hne', Bool.false_eq_true, if_false]
  rcases getContentType_cases m with e | e <;> rw [e]
  · rw [(splitCh_head ';' m hsc []).2, hstrip]
  · rw [(splitCh_head ';' m hsc _).1, hstrip]

def dayHeadOk (i : Nat) : Bool :=
  match Date.dayNames.getD i [] with
  | c :: _ => c != '-' && c != '+' && !c.isDigit
  | [] => false

theorem dayHeadOk_all : ∀ i, i < 7 → dayHeadOk i = true := by decide

/-- an IMF-fixdate text is not an integer literal (its first character is a letter of a day name) -/
theorem httpDate_not_int (t : Nat) : CC.pyInt (Date.httpDate t) = none := by
  unfold Date.httpDate Date.formatCivil
  generalize Date.civilOfSeconds t = c
  have hw : Date.weekday (Date.ymd2ord c.y c.mo c.d) < 7 := by unfold Date.weekday; omega
  have := dayHeadOk_all _ hw
  unfold dayHeadOk at this
  cases hd : Date.dayNames.getD (Date.weekday (Date.ymd2ord c.y c.mo c.d)) [] with
  | nil => rw [hd] at this; cases this
  | cons x r =>
    rw [hd] at this
    simp only [Bool.and_eq_true, bne_iff_ne, ne_eq, Bool.not_eq_true'] at this
    simp only [List.cons_append]
    exact pyInt_none_of_head x _ this.1.1 this.1.2 this.2

theorem hasNL_etagItemText (e : Str) (weak : Bool) : hasNL (Http.etagItemText (weak, e)) = hasNL e := by
  cases weak <;> simp only [Http.etagItemText, hasNL_append, hasNL_cons] <;> simp [isNL, hasNL]

theorem parseAge_natText (n : Nat) : Scalar.parseAge (CC.natText n) = some (n : Int) := by
  obtain ⟨c, t, he, _⟩ := natText_head_digit n
  have hne : (CC.natText n).isEmpty = false := by rw [he]; rfl
  have hnn : ¬ ((n : Int) < 0) := by omega
  simp only [Scalar.parseAge, hne, pyInt_natText, hnn, Bool.false_eq_true, if_false]

end Wz.C16L
