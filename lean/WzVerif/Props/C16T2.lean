/-
C16T2 — the accessors behind the `cache_control_property` descriptors,
`_CacheControl._get_cache_value / _set_cache_value / _del_cache_value`
(`datastructures/cache_control.py`), *as regenerated from the source* by `tools/py2lean.py`
(`Gen/PyFns_CacheControl.lean`, rewritten on every check run; one translation per property type: `bool`,
`int`, `None` = a str property) equal the hand-written `Http.getCacheValue` / `Http.setCacheValue` of
`Model/Http.lean` (the model of C06's cache-control theorems) for every dict, key and value of the property's
type. The object is its dict of `str | None` values. C16's `view_coherent_cc` and the live decision table
`CacheSetTable` (`cache_set_table_matches_model`) speak about a second hand model of the same accessors,
`Views.CC.setValue` / `getValue`; no theorem relates the two models.
-/
import WzVerif.Gen.PyFns_CacheControl
import WzVerif.Model.Http
import WzVerif.Lemmas.PyFns_Http
import WzVerif.Lemmas.PyDict
import WzVerif.Lemmas.PyFns_HttpList
import WzVerif.Lemmas.PyFns_HttpDict
namespace Wz.Props.C16T2
open Wz Wz.Http Wz.Gen.PyFns_CacheControl

/-- an `int` property value (or None) as the model's `CCVal` -/
def ccOfInt : Option Int → CCVal
  | none => .none
  | some i => .int i

/-- a str property value (or None) as the model's `CCVal` -/
def ccOfStr : Option Str → CCVal
  | none => .none
  | some s => .str s

/-- a bool property value as the model's `CCVal` -/
def ccOfBool (b : Bool) : CCVal := if b then .true_ else .false_

/-- after a successful `key in d`, `d[key]` is what `d.get(key)` finds: no KeyError -/
theorem getItem_of_has {ν : Type} (d : List (Str × ν)) (k : Str) (h : Pre.dictHas d k = true) :
    ∃ v, Pre.dictGet? d k = some v ∧ Pre.dictGetItem d k = .ok v := by
  obtain ⟨v, hv⟩ := Pre.dictGet?_of_has d k h
  exact ⟨v, hv, by rw [Pre.dictGetItem, hv]⟩

theorem get_none_of_not_has {ν : Type} (d : List (Str × ν)) (k : Str) (h : Pre.dictHas d k = false) :
    Pre.dictGet? d k = none := by
  rw [Pre.dictHas_eq_isSome] at h
  simpa using h

/-- `_get_cache_value(key, empty, bool)`, as translated from the current source: `key in self`. -/
theorem cc_get_bool_eq (d : Dict (Option Str)) (key : Str) (empty : CCVal) :
    (cc_get_bool d key () ()).map ccOfBool = getCacheValue d key empty .bool := by
  unfold cc_get_bool getCacheValue
  rw [PyFnsHttp.dictHas_eq]
  cases Http.dictHas d key <;> rfl

/-- `_get_cache_value(key, empty, int)`, as translated from the current source (absent: None; present
without a value: `empty`; else `int(value)`, None when that raises ValueError), is the model's
`getCacheValue … .int`; the KeyError arm of `self[key]` is unreachable. -/
theorem cc_get_int_eq (d : Dict (Option Str)) (key : Str) (empty : Option Int) :
    (cc_get_int d key empty ()).map ccOfInt = getCacheValue d key (ccOfInt empty) .int := by
  unfold cc_get_int getCacheValue
  cases hh : Pre.dictHas d key with
  | false =>
    have := get_none_of_not_has d key hh
    rw [PyFnsHttp.dictGet?_eq] at this
    simp [this, Except.map, ccOfInt]
  | true =>
    obtain ⟨v, hg, hi⟩ := getItem_of_has d key hh
    rw [PyFnsHttp.dictGet?_eq] at hg
    simp only [hg, hi, Bool.not_true, Bool.false_eq_true, if_false]
    cases v with
    | none => simp [Except.map]
    | some s =>
      cases hp : Http.pyInt s with
      | ok i => simp [hp, catching, Except.map, ccOfInt]
      | error e =>
        have he : e = "ValueError" := PyFnsHttp.pyInt_error s e hp
        subst he
        simp [hp, catching, Except.map, ccOfInt]

/-- `_get_cache_value(key, empty, None)` (a str property), as translated from the current source, is the
model's `getCacheValue … .str`. -/
theorem cc_get_str_eq (d : Dict (Option Str)) (key : Str) (empty : Option Str) :
    (cc_get_str d key empty ()).map ccOfStr = getCacheValue d key (ccOfStr empty) .str := by
  unfold cc_get_str getCacheValue
  cases hh : Pre.dictHas d key with
  | false =>
    have := get_none_of_not_has d key hh
    rw [PyFnsHttp.dictGet?_eq] at this
    simp [this, Except.map, ccOfStr]
  | true =>
    obtain ⟨v, hg, hi⟩ := getItem_of_has d key hh
    rw [PyFnsHttp.dictGet?_eq] at hg
    simp only [hg, hi, Bool.not_true, Bool.false_eq_true, if_false]
    cases v <;> simp [Except.map, ccOfStr]

/-- `_set_cache_value(key, value, bool)`: a true value stores the bare directive, a false one removes it. -/
theorem cc_set_bool_eq (d : Dict (Option Str)) (key : Str) (b : Bool) :
    cc_set_bool d key b () = setCacheValue d key (ccOfBool b) .bool := by
  cases b <;> rfl

/-- `_set_cache_value(key, value, int)` for an int value or None: None removes the directive, a number
is stored as its decimal text (`str(int(value))`). -/
theorem cc_set_int_eq (d : Dict (Option Str)) (key : Str) (v : Option Int) :
    cc_set_int d key v () = setCacheValue d key (ccOfInt v) .int := by
  cases v with
  | none => rfl
  | some i =>
    simp only [cc_set_int, setCacheValue, ccOfInt, PyFnsHttp.strOfInt_eq, id_eq]
    exact PyFnsHttp.dictSet_eq d key _

/-- `_set_cache_value(key, value, None)` for a str value or None. -/
theorem cc_set_str_eq (d : Dict (Option Str)) (key : Str) (v : Option Str) :
    cc_set_str d key v () = setCacheValue d key (ccOfStr v) .str := by
  cases v <;> rfl

/-- `_del_cache_value(key)` (`if key in self: del self[key]`) is the model's `dictPop` (what
`self.pop(key, None)` does): removing an absent key changes nothing. -/
theorem cc_del_eq (d : Dict (Option Str)) (key : Str) : cc_del d key = Http.dictPop d key := by
  unfold cc_del
  cases hh : Pre.dictHas d key with
  | true => rfl
  | false =>
    simp only [Bool.false_eq_true, if_false]
    exact (Pre.dictDel_of_not_has d key hh).symm

end Wz.Props.C16T2
