/-
Model of `posixpath.normpath / join / isabs` (CPython 3.12, str paths), of
`werkzeug.security.safe_join` and of the ASCII stage of `werkzeug.utils.secure_filename`.

Generated (`Gen.Paths`): `_os_alt_seps`, `os.sep/altsep`, the `_filename_ascii_strip_re` class
evaluated on every code point, the `.strip("._")` / `"_".join` literals, `str.isspace`.
Hand-modelled and validated by the streams `normpath-kernel`, `safe-join`, `secure-filename`:
the control flow of normpath / join / safe_join / secure_filename.
Opaque: `unicodedata.normalize("NFKD", ·)` (a parameter of `secureFilename`).
Core Lean only.
-/
import WzVerif.Gen.Paths
namespace Wz.Paths

abbrev Str := List Char

def sep : Char := '/'
def dot : Str := ['.']
def dotdot : Str := ['.', '.']

/-! ### `str.split("/")` -/

/-- (first component, remaining components) of `s.split("/")` -/
def splitAux : Str → Str × List Str
  | [] => ([], [])
  | c :: t =>
    let r := splitAux t
    if c = sep then ([], r.1 :: r.2) else (c :: r.1, r.2)

/-- `s.split("/")` (never empty) -/
def splitSep (s : Str) : List Str := (splitAux s).1 :: (splitAux s).2

/-- `"/".join(comps)` -/
def joinSep : List Str → Str
  | [] => []
  | [c] => c
  | c :: t => c ++ sep :: joinSep t

/-! ### `posixpath.normpath` -/

/-- number of leading slashes -/
def lead : Str → Nat
  | [] => 0
  | c :: t => if c = sep then lead t + 1 else 0

/-- normpath's `initial_slashes`: 0, 1, or 2 (exactly two leading slashes; three or more count as one) -/
def initialSlashes (s : Str) : Nat :=
  match lead s with
  | 0 => 0
  | 2 => 2
  | _ => 1

/-- one iteration of normpath's loop; `stk` is `new_comps` reversed (top of stack first) -/
def step (abs : Bool) (stk : List Str) (comp : Str) : List Str :=
  if comp = [] ∨ comp = dot then stk
  else if comp ≠ dotdot ∨ (abs = false ∧ stk = []) ∨ stk.head? = some dotdot then comp :: stk
  else stk.tail

/-- `new_comps` after the loop -/
def normComps (abs : Bool) (comps : List Str) : List Str := (comps.foldl (step abs) []).reverse

/-- the components normpath keeps for `path` (before re-joining) -/
def normSegs (path : Str) : List Str := normComps (initialSlashes path != 0) (splitSep path)

/-- `posixpath.normpath(path)` -/
def normpath (path : Str) : Str :=
  if path = [] then dot
  else
    let p := List.replicate (initialSlashes path) sep ++ joinSep (normSegs path)
    if p = [] then dot else p

/-- `posixpath.isabs` -/
def isabs (s : Str) : Bool := s.head? = some sep

/-- one iteration of `posixpath.join`'s loop -/
def joinStep (path b : Str) : Str :=
  if b.head? = some sep then b
  else if path = [] ∨ path.getLast? = some sep then path ++ b
  else path ++ sep :: b

/-- `posixpath.join(a, *p)` -/
def join (a : Str) (p : List Str) : Str := p.foldl joinStep a

/-! ### `werkzeug.security.safe_join` -/

/-- `sub in s` for a one-character `sub` -/
def hasChar (c : Char) (s : Str) : Bool := s.contains c

/-- the per-component check of `safe_join`: the (normalised) component, or `none` = refuse -/
def checkComp (alts : List Char) (f : Str) : Option Str :=
  let f := if f = [] then f else normpath f
  if alts.any (hasChar · f) || isabs f || f.head? = some sep || f = dotdot
      || (['.', '.', '/'] : Str).isPrefixOf f
  then none else some f

/-- the loop of `safe_join` over the untrusted components: first refusal wins -/
def checkAll (alts : List Char) : List Str → Option (List Str)
  | [] => some []
  | f :: t =>
    match checkComp alts f with
    | none => none
    | some f' => (checkAll alts t).map (f' :: ·)

/-- `safe_join(directory, *pathnames)` with the alternative separators as a parameter -/
def safeJoinWith (alts : List Char) (d : Str) (ps : List Str) : Option Str :=
  let d := if d = [] then dot else d
  (checkAll alts ps).map (join d)

/-- `safe_join` on this platform (`_os_alt_seps` as generated) -/
def safeJoin (d : Str) (ps : List Str) : Option Str := safeJoinWith Gen.Paths.osAltSeps d ps

/-- segments of a path text: the non-empty, non-`.` components of `s.split("/")` -/
def segments (s : Str) : List Str := (splitSep s).filter fun c => !(c == [] || c == dot)

/-! ### `werkzeug.utils.secure_filename` after the Unicode fold -/

def tbl (t : List Bool) (n : Nat) : Bool := t.getD n false

/-- `str.isspace` -/
def isSpace (c : Char) : Bool := Gen.Paths.pySpaces.contains c.toNat

/-- does `_filename_ascii_strip_re` remove `c`? -/
def stripped (c : Char) : Bool :=
  if c.toNat < 128 then tbl Gen.Paths.stripRe c.toNat else Gen.Paths.stripReHigh

/-- `str.split()` (whitespace split without empty words); `cur` is the current word reversed -/
def wordsAux : Str → Str → List Str
  | [], cur => if cur = [] then [] else [cur.reverse]
  | c :: t, cur =>
    if isSpace c then (if cur = [] then wordsAux t [] else cur.reverse :: wordsAux t [])
    else wordsAux t (c :: cur)

def pyWords (s : Str) : List Str := wordsAux s []

/-- `sep.join(words)` for an arbitrary separator text -/
def joinWith (j : Str) : List Str → Str
  | [] => []
  | [w] => w
  | w :: t => w ++ j ++ joinWith j t

/-- `str.strip(chars)` -/
def stripOf (chars : Str) (s : Str) : Str :=
  ((s.dropWhile (chars.contains ·)).reverse.dropWhile (chars.contains ·)).reverse

/-- `for sep in os.sep, os.path.altsep: filename = filename.replace(sep, " ")` -/
def replaceSeps (s : Str) : Str := s.map fun c => if Gen.Paths.osSeps.contains c then ' ' else c

/-- `secure_filename` from the point where the name is ASCII (after NFKD + ascii/ignore);
the `os.name == "nt"` device-file branch is not modelled: `Gen.Paths.osNameNt = false` is a checked
obligation (Props/C14 `windows_branch_dead`). -/
def secureAscii (s : Str) : Str :=
  stripOf Gen.Paths.stripChars
    ((joinWith Gen.Paths.joinChars (pyWords (replaceSeps s))).filter fun c => !stripped c)

/-- `.encode("ascii", "ignore").decode("ascii")` -/
def asciiIgnore (s : Str) : Str := s.filter fun c => c.toNat < 128

/-- `secure_filename` with the NFKD normalisation as an opaque parameter -/
def secureFilename (nfkd : Str → Str) (s : Str) : Str := secureAscii (asciiIgnore (nfkd s))

/-! ### the platform parameters of `secure_filename`: separators and the Windows device-file branch

`secureAsciiWith seps nt` is `secure_filename` after the Unicode fold with `os.sep / os.path.altsep`
(`seps`) and `os.name == "nt"` (`nt`) as parameters; `secureAscii` is its instance for the generating
platform (`secureAsciiWith_here`, Lemmas/SecureFilename.lean). -/

/-- `str.upper()` on one ASCII character (table `Gen.Paths.upperAscii`); other characters unchanged -/
def upperChar (c : Char) : Char :=
  if 'a'.toNat ≤ c.toNat ∧ c.toNat ≤ 'z'.toNat then Char.ofNat (c.toNat - 32) else c

/-- `filename.split(".")[0]` -/
def beforeDot (s : Str) : Str := s.takeWhile (· != '.')

/-- `filename.split(".")[0].upper() in _windows_device_files` -/
def isDevice (s : Str) : Bool :=
  Gen.Paths.windowsDeviceFiles.any fun d => d.toList == (beforeDot s).map upperChar

/-- `for sep in os.sep, os.path.altsep: if sep: filename = filename.replace(sep, " ")` -/
def replaceSepsWith (seps : List Char) (s : Str) : Str :=
  s.map fun c => if seps.contains c then ' ' else c

/-- `secure_filename` up to (not including) the device-file branch -/
def secureBase (seps : List Char) (s : Str) : Str :=
  stripOf Gen.Paths.stripChars
    ((joinWith Gen.Paths.joinChars (pyWords (replaceSepsWith seps s))).filter fun c => !stripped c)

/-- `secure_filename` from the point where the name is ASCII, for any platform: `seps` = the truthy
ones of `os.sep, os.path.altsep`; `nt` = `os.name == "nt"` -/
def secureAsciiWith (seps : List Char) (nt : Bool) (s : Str) : Str :=
  let r := secureBase seps s
  if nt && !r.isEmpty && isDevice r then '_' :: r else r

/-- `secure_filename` for any platform with the NFKD normalisation as an opaque parameter -/
def secureFilenameWith (seps : List Char) (nt : Bool) (nfkd : Str → Str) (s : Str) : Str :=
  secureAsciiWith seps nt (asciiIgnore (nfkd s))

/-- `posixpath.basename` (what follows the last `/`) -/
def basename (p : Str) : Str := (splitSep p).getLastD []

end Wz.Paths

namespace Wz.Paths
/-- alias: the ASCII stage of `secure_filename` under the name used in DESIGN.md -/
abbrev secureFilenameAscii (s : Str) : Str := secureAscii s
end Wz.Paths
