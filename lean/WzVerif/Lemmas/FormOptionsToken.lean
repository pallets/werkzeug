/-
The token class of `parse_options_header` (C02): the live class table probed for the form parser is the one
Lemmas/Http.lean characterises (`Http.tokenTbl_eq`), and the form-options model's `isTokenCh` is the same
class `Http.isTokenNat` of the code point.
-/
import WzVerif.Gen.FormOptions
import WzVerif.Model.FormOptions
import WzVerif.Lemmas.Http
namespace Wz.FormOptions
open Wz

theorem tokenClass_eq : Gen.FormOptions.tokenClass = Gen.Http.tokenTbl := by decide +kernel

theorem isTokenCh_nat (c : Char) : isTokenCh c = Http.isTokenNat c.toNat := by
  simp only [isTokenCh, Http.isTokenNat, Char.isAlphanum, Char.isAlpha, Char.isUpper, Char.isLower, Char.isDigit,
    char_beq_toNat, ge_iff_le, UInt32.le_iff_toNat_le, Bool.decide_and, List.contains_cons, List.contains_nil,
    Bool.or_false]
  change _ = _
  simp only [Char.toNat, Char.reduceVal, UInt32.reduceToNat]
  -- the same three ranges and fifteen code points, listed in another order
  ac_rfl

theorem tokenClass_getD {n : Nat} (hn : n < 256) :
    Gen.FormOptions.tokenClass.getD n false = isTokenCh (Char.ofNat n) := by
  rw [tokenClass_eq, Http.tokenTbl_eq, isTokenCh_nat, toNat_ofNat_lt hn]
  simp [List.getD, hn]

end Wz.FormOptions
