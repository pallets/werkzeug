/-
`String.utf8EncodeChar` / `Wz.utf8Enc` byte by byte: a character below 128 is its own byte, every byte of any other
character is ≥ 128 (`mem_utf8EncodeChar`). Hence which ASCII bytes occur in an encoded text, its first and last byte
(what decides whether `strip` / a delimiter scan touches an encoded value), and that ASCII text and ASCII bytes are
carried over one for one (`utf8Enc_ascii`, `utf8Enc_map_ofNat`).
-/
import WzVerif.Util.Bytes
import WzVerif.Util.Py
import WzVerif.Lemmas.Basics
namespace Wz.Utf8Facts
open Wz

theorem utf8EncodeChar_ascii (c : Char) (h : c.toNat < 128) :
    String.utf8EncodeChar c = [UInt8.ofNat c.toNat] := by
  have h' : c.val.toNat ≤ 127 := by
    simp only [Char.toNat] at h; omega
  simp only [String.utf8EncodeChar, h', if_true, Char.toNat]

theorem utf8EncodeChar_high (c : Char) (h : 128 ≤ c.toNat) :
    ∀ b ∈ String.utf8EncodeChar c, 128 ≤ b.toNat := by
  have h' : ¬ c.val.toNat ≤ 127 := by
    simp only [Char.toNat] at h; omega
  intro b hb
  simp only [String.utf8EncodeChar, h', if_false] at hb
  split at hb
  · simp only [List.mem_cons, List.not_mem_nil, or_false] at hb
    rcases hb with rfl | rfl <;> simp only [UInt8.toNat_ofNat'] <;> omega
  · split at hb
    · simp only [List.mem_cons, List.not_mem_nil, or_false] at hb
      rcases hb with rfl | rfl | rfl <;> simp only [UInt8.toNat_ofNat'] <;> omega
    · simp only [List.mem_cons, List.not_mem_nil, or_false] at hb
      rcases hb with rfl | rfl | rfl | rfl <;> simp only [UInt8.toNat_ofNat'] <;> omega

theorem utf8Enc_nil : utf8Enc [] = [] := rfl

theorem utf8Enc_cons (c : Char) (t : List Char) :
    utf8Enc (c :: t) = String.utf8EncodeChar c ++ utf8Enc t := by
  simp [utf8Enc]

theorem utf8Enc_append (a b : List Char) : utf8Enc (a ++ b) = utf8Enc a ++ utf8Enc b := by
  simp [utf8Enc]

theorem mem_utf8EncodeChar_ascii (c : Char) (b : UInt8) (hb : b.toNat < 128) :
    b ∈ String.utf8EncodeChar c ↔ Char.ofNat b.toNat = c := by
  by_cases hc : c.toNat < 128
  · rw [utf8EncodeChar_ascii c hc, List.mem_singleton]
    constructor
    · intro e
      subst e
      have : (UInt8.ofNat c.toNat).toNat = c.toNat := by
        simp only [UInt8.toNat_ofNat']; omega
      rw [this, Char.ofNat_toNat]
    · intro e
      subst e
      rw [toNat_ofNat_lt (by omega), UInt8.ofNat_toNat]
  · constructor
    · intro hm
      have := utf8EncodeChar_high c (by omega) b hm
      omega
    · intro e
      subst e
      rw [toNat_ofNat_lt (by omega)] at hc
      omega

theorem mem_utf8Enc_ascii (cs : List Char) (b : UInt8) (hb : b.toNat < 128) :
    b ∈ utf8Enc cs ↔ Char.ofNat b.toNat ∈ cs := by
  simp only [utf8Enc, List.mem_flatMap, mem_utf8EncodeChar_ascii _ b hb]
  constructor
  · rintro ⟨c, hc, rfl⟩; exact hc
  · intro h; exact ⟨_, h, rfl⟩

theorem mem_utf8EncodeChar (c : Char) (b : UInt8) (hb : b ∈ String.utf8EncodeChar c) :
    if c.toNat < 128 then b = UInt8.ofNat c.toNat else 128 ≤ b.toNat := by
  split
  · next h => rw [utf8EncodeChar_ascii c h] at hb; simpa using hb
  · next h => exact utf8EncodeChar_high c (by omega) b hb

theorem utf8EncodeChar_head (c : Char) :
    ∃ b r, String.utf8EncodeChar c = b :: r ∧
      (if c.toNat < 128 then b = UInt8.ofNat c.toNat else 128 ≤ b.toNat) := by
  cases hE : String.utf8EncodeChar c with
  | nil => exact absurd hE String.utf8EncodeChar_ne_nil
  | cons b r => exact ⟨b, r, rfl, mem_utf8EncodeChar c b (by simp [hE])⟩

theorem utf8EncodeChar_last (c : Char) :
    ∃ r b, String.utf8EncodeChar c = r ++ [b] ∧
      (if c.toNat < 128 then b = UInt8.ofNat c.toNat else 128 ≤ b.toNat) :=
  have hne := String.utf8EncodeChar_ne_nil (c := c)
  ⟨_, _, (List.dropLast_concat_getLast hne).symm, mem_utf8EncodeChar c _ (List.getLast_mem hne)⟩

theorem utf8Enc_head (c : Char) (t : List Char) :
    ∃ b r, utf8Enc (c :: t) = b :: r ∧
      (if c.toNat < 128 then b = UInt8.ofNat c.toNat else 128 ≤ b.toNat) := by
  obtain ⟨b, r, hE, hP⟩ := utf8EncodeChar_head c
  exact ⟨b, r ++ utf8Enc t, by rw [utf8Enc_cons, hE]; rfl, hP⟩

theorem utf8Enc_last (t : List Char) (c : Char) :
    ∃ r b, utf8Enc (t ++ [c]) = r ++ [b] ∧
      (if c.toNat < 128 then b = UInt8.ofNat c.toNat else 128 ≤ b.toNat) := by
  obtain ⟨r, b, hE, hP⟩ := utf8EncodeChar_last c
  refine ⟨utf8Enc t ++ r, b, ?_, hP⟩
  rw [utf8Enc_append, utf8Enc_cons, utf8Enc_nil, List.append_nil, hE, List.append_assoc]

theorem utf8Enc_ascii {s : List Char} (h : ∀ c ∈ s, c.toNat < 128) : utf8Enc s = s.map fun c => UInt8.ofNat c.toNat := by
  induction s with
  | nil => rfl
  | cons c t ih =>
    rw [utf8Enc_cons, utf8EncodeChar_ascii c (h c (by simp)), ih fun x hx => h x (List.mem_cons_of_mem _ hx)]
    rfl

/-- `s.encode().decode("latin1")` gives an ASCII text back -/
theorem latin1Dec_utf8Enc_ascii {s : List Char} (h : ∀ c ∈ s, c.toNat < 128) : Py.latin1Dec (utf8Enc s) = s := by
  rw [utf8Enc_ascii h, Py.latin1Dec, List.map_map]
  conv => rhs; rw [← List.map_id s]
  refine List.map_congr_left fun c hc => ?_
  have hc : c.toNat < 256 := Nat.lt_trans (h c hc) (by decide)
  simp [UInt8.toNat_ofNat_of_lt' hc]

theorem utf8Enc_map_ofNat {bs : List UInt8} (h : ∀ b ∈ bs, b < 128) :
    utf8Enc (bs.map fun b => Char.ofNat b.toNat) = bs := by
  have hc : ∀ b : UInt8, (Char.ofNat b.toNat).toNat = b.toNat := fun b => toNat_ofNat_lt b.toNat_lt
  rw [utf8Enc_ascii (by
    intro c hc'
    obtain ⟨b, hb, rfl⟩ := List.mem_map.1 hc'
    rw [hc]; exact UInt8.lt_iff_toNat_lt.1 (h b hb)), List.map_map]
  conv => rhs; rw [← List.map_id bs]
  exact List.map_congr_left fun b _ => by simp [hc]

end Wz.Utf8Facts
