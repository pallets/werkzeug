/-
`parse_content_range_header(ContentRange(…).to_header())` (C06): `<units> <start>-<stop>/<length>` with `*` for an
unknown length or an unsatisfied range; units without white space are split off by `split(None, 1)` (`splitWs2_units`),
the length field is read back (`parseLength_lenText`), and `is_byte_range_valid` decides as it did for the value. On
arbitrary text the parser never raises and returns a valid range (`parseContentRangeHeader_returns`).
-/
import WzVerif.Lemmas.HttpInt
namespace Wz.Http
open Wz

/-- units of a Content-Range: non-empty, no white space -/
def CUnitsOk (u : Str) : Bool := !u.isEmpty && u.all (fun c => !Py.isSpace c)

theorem cUnitsOk_iff {u : Str} : CUnitsOk u = true ↔ u ≠ [] ∧ ∀ c ∈ u, Py.isSpace c = false := by
  simp [CUnitsOk]

theorem splitWs2_units (u x : Str) (hu : CUnitsOk u = true) (hne : x ≠ [])
    (hx : ∀ c, x.head? = some c → Py.isSpace c = false) : splitWs2 (u ++ ' ' :: x) = .ok (u, x) := by
  obtain ⟨hune, hall⟩ := cUnitsOk_iff.1 hu
  have h1 : lstrip (u ++ ' ' :: x) = u ++ ' ' :: x := dropWhile_head_false fun c hc => by
    rw [head?_append_of_ne_nil hune] at hc; exact hall c (List.mem_of_head? hc)
  have h2 := takeWhile_append_stop (p := fun ch => !Py.isSpace ch) (a := u) (b := ' ' :: x)
    (fun c hc => by simp [hall c hc]) (by simp; decide)
  have h3 : lstrip (' ' :: x) = x := by
    rw [lstrip, List.dropWhile_cons, if_pos (by decide)]; exact dropWhile_head_false hx
  have hxe : x.isEmpty = false := List.isEmpty_eq_false_iff.2 hne
  have hue : u.isEmpty = false := List.isEmpty_eq_false_iff.2 hune
  simp only [splitWs2, h1, h2.1, h2.2, h3, hxe, hue, Bool.or_self, Bool.false_eq_true, if_false]

theorem splitWs2_units_ok (s units rangedef : Str) (h : splitWs2 s = .ok (units, rangedef)) : CUnitsOk units = true := by
  unfold splitWs2 at h
  simp only at h
  split at h
  · cases h
  · next hne =>
    simp only [Except.ok.injEq, Prod.mk.injEq] at h
    obtain ⟨hu, _⟩ := h
    subst hu
    simp only [Bool.or_eq_true, not_or, Bool.not_eq_true] at hne
    unfold CUnitsOk
    simp only [Bool.and_eq_true, Bool.not_eq_true', hne.1, true_and]
    exact List.all_takeWhile

theorem natText_ne_star (n : Nat) : natText n ≠ ['*'] := by
  intro e
  have := natText_all_digit n
  rw [e] at this
  simp at this

theorem lenText_ne_nil (l : Option Int) : lenText l ≠ [] := by
  cases l with
  | none => simp [lenText]
  | some v => cases v <;> simp [lenText, intText, natText_ne_nil]

theorem lenText_tight (l : Option Int) : Tight (lenText l) := by
  cases l with
  | none => exact tight_of_noSpace (by decide)
  | some v =>
    cases v with
    | ofNat n => exact digits_tight (natText_all_digit n)
    | negSucc n => exact neg_natText_tight _

theorem parseLength_lenText (l : Option Int) (hl : ∀ v, l = some v → 0 ≤ v) :
    parseLength (lenText l) = .ok (some l) := by
  cases l with
  | none => simp [parseLength, lenText]
  | some v =>
    have hv := hl v rfl
    have : (natText v.toNat == ['*']) = false := by simp [natText_ne_star]
    simp [parseLength, lenText, intText_nonneg hv, this, plainInt_natText, Except.map, catching_ok, Int.toNat_of_nonneg hv]

/-- what `parse_content_range_header` checks before it returns: units it can split off, a range `is_byte_range_valid` lets through -/
def CRangeOk (c : ContentRangeV) : Bool :=
  (match c.units with | some u => CUnitsOk u | none => false) && isByteRangeValid c.start c.stop c.length

theorem tight_of_head_last {x : Str} (h1 : ∀ c, x.head? = some c → Py.isSpace c = false)
    (h2 : ∀ c, x.getLast? = some c → Py.isSpace c = false) : Tight x := ⟨h1, h2⟩

theorem isByteRangeValid_length {start stop : Option Int} {v : Int}
    (h : isByteRangeValid start stop (some v) = true) : 0 ≤ v := by
  cases start <;> cases stop <;> simp only [isByteRangeValid] at h
  · simpa using h
  · cases h
  · cases h
  · split at h
    · cases h
    · simp at h; omega

theorem isByteRangeValid_some {s e : Int} {l : Option Int} (h : isByteRangeValid (some s) (some e) l = true) :
    0 ≤ s ∧ s < e := by
  cases l with
  | none => simpa [isByteRangeValid] using h
  | some l =>
    simp only [isByteRangeValid] at h
    split at h
    · simp at h
    · next hge => simp at h; omega

/-- `parse_content_range_header` on `<units> <range>/<length>`: units and length are read back and
the parser goes on with the range text -/
theorem parseContentRange_text (u rng : Str) (length : Option Int) (hu : CUnitsOk u = true)
    (hl : ∀ v, length = some v → 0 ≤ v) (hr : '/' ∉ rng) (hrne : rng ≠ [])
    (hrh : ∀ c, rng.head? = some c → Py.isSpace c = false) :
    parseContentRangeHeader (u ++ ' ' :: (rng ++ '/' :: lenText length)) = (do
      if rng == ['*'] then
        if !isByteRangeValid none none length then return none
        return some ⟨some u, none, none, length⟩
      if !rng.contains '-' then return none
      let (startStr, _, stopStr) := partition '-' rng
      let se ← catching ["ValueError"] (do
        let s ← plainInt startStr
        let e ← plainInt stopStr
        pure (some (s, e + 1))) none
      match se with
      | none => return none
      | some (s, e) =>
        if isByteRangeValid (some s) (some e) length then return some ⟨some u, some s, some e, length⟩
        return none) := by
  obtain ⟨hune, hall⟩ := cUnitsOk_iff.1 hu
  have htight : Tight (u ++ ((' ' :: (rng ++ ['/'])) ++ lenText length)) :=
    tight_around _ hune (lenText_ne_nil length) (tight_of_noSpace hall) (lenText_tight length)
  have hx : ∀ c, (rng ++ '/' :: lenText length).head? = some c → Py.isSpace c = false := fun c hc =>
    hrh c (by rwa [head?_append_of_ne_nil hrne] at hc)
  have e : u ++ ((' ' :: (rng ++ ['/'])) ++ lenText length) = u ++ ' ' :: (rng ++ '/' :: lenText length) := by simp
  rw [e] at htight
  unfold parseContentRangeHeader
  rw [strip_tight htight, splitWs2_units u _ hu (by simp) hx]
  have hcont : (rng ++ '/' :: lenText length).contains '/' = true := by simp
  simp only [Except.map, catching_ok, ok_bind, hcont, Bool.not_true, Bool.false_eq_true, if_false,
    partition_found hr, parseLength_lenText length hl]
  rfl

theorem contentRange_roundtrip_any (c : ContentRangeV) (h : CRangeOk c = true) :
    parseContentRangeHeader (contentRangeToHeader c) = .ok (some c) := by
  obtain ⟨units, start, stop, length⟩ := c
  simp only [CRangeOk, Bool.and_eq_true] at h
  obtain ⟨hu, hv⟩ := h
  cases units with
  | none => simp at hu
  | some u =>
    simp only at hu hv
    have hl : ∀ v, length = some v → 0 ≤ v := fun v e => isByteRangeValid_length (e ▸ hv)
    cases start with
    | none =>
      cases stop with
      | some e => simp [isByteRangeValid] at hv
      | none =>
        have hhdr : contentRangeToHeader ⟨some u, none, none, length⟩ = u ++ ' ' :: (['*'] ++ '/' :: lenText length) := by
          simp [contentRangeToHeader]
        rw [hhdr, parseContentRange_text u ['*'] length hu hl (by decide) (by simp) (by decide)]
        simp [hv]
    | some s =>
      cases stop with
      | none => simp [isByteRangeValid] at hv
      | some e =>
        obtain ⟨hs0, hse⟩ := isByteRangeValid_some hv
        have he0 : 0 ≤ e - 1 := by omega
        have hSd := natText_all_digit s.toNat
        have hEd := natText_all_digit (e - 1).toNat
        have hhdr : contentRangeToHeader ⟨some u, some s, some e, length⟩
            = u ++ ' ' :: ((natText s.toNat ++ '-' :: natText (e - 1).toNat) ++ '/' :: lenText length) := by
          simp [contentRangeToHeader, intText_nonneg hs0, intText_nonneg he0]
        have hrng : '/' ∉ natText s.toNat ++ '-' :: natText (e - 1).toNat := by
          simp only [List.mem_append, List.mem_cons, not_or]
          exact ⟨all_not_mem hSd (by decide), by decide, all_not_mem hEd (by decide)⟩
        have hhead : ∀ c, (natText s.toNat ++ '-' :: natText (e - 1).toNat).head? = some c → c.isDigit = true :=
          fun c hc => List.all_eq_true.1 hSd c (List.mem_of_head? (by
            rwa [head?_append_of_ne_nil (natText_ne_nil _)] at hc))
        rw [hhdr, parseContentRange_text u _ length hu hl hrng (by simp) fun c hc => isDigit_not_space (hhead c hc)]
        have hnstar : (natText s.toNat ++ '-' :: natText (e - 1).toNat == ['*']) = false := by
          rw [beq_eq_false_iff_ne]
          intro e'
          have := hhead '*' (by rw [e']; rfl)
          simp at this
        have hcd : (natText s.toNat ++ '-' :: natText (e - 1).toNat).contains '-' = true := by simp
        simp only [hnstar, Bool.false_eq_true, if_false, hcd, Bool.not_true,
          partition_found (all_not_mem hSd dash_not_digit), plainInt_natText, ok_bind, pure_eq_ok,
          Int.toNat_of_nonneg hs0, Int.toNat_of_nonneg he0]
        have : e - 1 + 1 = e := by omega
        simp [this, hv, catching_ok]

theorem parseLength_safe (s : Str) : Safe (parseLength s) := by
  unfold parseLength
  split
  · exact Safe.ok _
  · exact catching_safe (onlyRaises_map _ (plainInt_onlyRaises s))

theorem startStop_safe (a b : Str) :
    Safe (catching ["ValueError"] (do
        let s ← plainInt a
        let e ← plainInt b
        pure (some (s, e + 1))) none) :=
  catching_safe (onlyRaises_bind (plainInt_onlyRaises a) fun _ =>
    onlyRaises_bind (plainInt_onlyRaises b) fun _ => onlyRaises_ok _)

theorem parseContentRangeHeader_returns (s : Str) :
    Returns (fun r => ∀ c, r = some c → CRangeOk c = true) (parseContentRangeHeader s) := by
  unfold parseContentRangeHeader
  refine Returns.bind (catching_returns (Q := fun r => ∀ u d, r = some (u, d) → CUnitsOk u = true)
    (onlyRaises_map _ (splitWs2_onlyRaises _)) ?_ (by simp)) fun r hr => ?_
  · intro a ha u d e
    subst e
    cases hs : splitWs2 (strip s) with
    | error e => rw [hs] at ha; cases ha
    | ok p => rw [hs] at ha; cases ha; exact splitWs2_units_ok _ _ _ hs
  · cases r with
    | none => exact .ok (by simp)
    | some ur =>
      obtain ⟨units, rangedef⟩ := ur
      have hu := hr units rangedef rfl
      simp only
      split
      · exact .ok (by simp)
      · generalize partition '/' rangedef = p
        obtain ⟨rng, f, lengthStr⟩ := p
        refine (parseLength_safe lengthStr).returns.bind fun ol _ => ?_
        cases ol with
        | none => exact .ok (by simp)
        | some length =>
          simp only
          split
          · split
            · exact .ok (by simp)
            · next hv => exact .ok (by rintro c ⟨rfl⟩; simpa [CRangeOk, hu] using hv)
          · split
            · exact .ok (by simp)
            · generalize partition '-' rng = q
              obtain ⟨a, g, b⟩ := q
              refine (startStop_safe a b).returns.bind fun se _ => ?_
              cases se with
              | none => exact .ok (by simp)
              | some x =>
                obtain ⟨s0, e0⟩ := x
                simp only
                split
                · next hv => exact .ok (by rintro c ⟨rfl⟩; simpa [CRangeOk, hu] using hv)
                · exact .ok (by simp)

theorem parseContentRangeHeader_safe (s : Str) : Safe (parseContentRangeHeader s) :=
  (parseContentRangeHeader_returns s).safe

end Wz.Http
