/-
PyFnsEq_Etag — the entity-tag functions *as regenerated from werkzeug's source* by `tools/py2lean.py`
(`Gen/PyFns_Etag.lean`, rewritten on every check run: the `ETags` class of
`werkzeug/datastructures/etag.py`, `werkzeug.http.parse_etags`, `werkzeug.sansio.http.is_resource_modified`)
are equal, for all inputs, to the hand-written model functions the C06 / C11 theorems are about
(`Model/Http.lean`: `parseEtags`, `etagsToHeader`; `Model/Conditional.lean`: `ETags`, `parseEtags`,
`isResourceModified`). A change of the Python source changes the generated definition and breaks these
obligations.

The parser is compared with C06's regex model (C11's own regex model is C06's on LF-free text: Lemmas/EtagModels.lean); the translated
`is_resource_modified` is a date decision followed by one tail (`etagTail`, which the translator copies into every leaf):
`irm_some_struct`, `etagTail_eq`.
-/
import WzVerif.Gen.PyFns_Etag
import WzVerif.Lemmas.Conditional
import WzVerif.Model.Http
import WzVerif.Lemmas.PyFns_Http
import WzVerif.Lemmas.PyFns_Range
import WzVerif.Lemmas.EtagModels
import WzVerif.Props.C11T
namespace Wz.PyFnsEq.Etag
open Wz Wz.Pre

abbrev Elems := List (Option Pre.Str)
/-- an `ETags` object as the translation represents it: `(_strong, _weak, star_tag)` -/
abbrev Obj := Elems × Elems × Bool

theorem frozenset_nil [BEq α] : Pre.frozenset ([] : List α) = [] := rfl

open Gen.PyFns_Etag

/-- the object the translation builds for a model value -/
def objOf (e : Cond.ETags) : Obj := (e.strong, e.weak, e.star)

theorem etags_is_weak_eq (e : Cond.ETags) (t : Str) :
    etags_is_weak e.weak t = e.weak.contains (some t) := rfl

theorem etags_is_strong_eq (e : Cond.ETags) (t : Str) :
    etags_is_strong e.strong t = e.strong.contains (some t) := rfl

theorem etags_contains_eq (e : Cond.ETags) (t : Str) :
    etags_contains e.strong e.star t = e.contains t := by
  unfold etags_contains etags_is_strong Cond.ETags.contains
  cases e.star <;> simp

theorem etags_contains_weak_eq (e : Cond.ETags) (t : Str) :
    etags_contains_weak e.strong e.weak e.star t = e.containsWeak t := by
  unfold etags_contains_weak Cond.ETags.containsWeak
  rw [etags_contains_eq]; rfl

theorem etags_bool_eq (e : Cond.ETags) :
    etags_bool e.strong e.weak e.star = e.truthy := rfl

theorem etags_init_eq (s w : Option Elems) (star : Bool) :
    etags_init s w star
      = (if star then [] else Pre.frozenset (s.getD []), Pre.frozenset (w.getD []), star) := by
  unfold etags_init
  cases s with
  | none => cases w with
    | none => cases star <;> rfl
    | some w => cases w <;> cases star <;> rfl
  | some s =>
    cases w with
    | none => cases star <;> cases s <;> rfl
    | some w => cases star <;> cases s <;> cases w <;> rfl

/-- the constructor calls that occur in werkzeug's `parse_etags`: `ETags(strong, weak)`, `ETags(star_tag=True)`, `ETags()` -/
theorem etags_init_lists (s w : Elems) :
    etags_init (some s) (some w) false = (Pre.frozenset s, Pre.frozenset w, false) := by
  rw [etags_init_eq]; rfl

theorem etags_init_star : etags_init none none true = ([], [], true) := rfl

theorem etags_init_empty : etags_init none none false = ([], [], false) := rfl

/-- the model value (lists instead of frozensets) of `ETags(s, w, star)` -/
def initModel (s w : Option Elems) (star : Bool) : Cond.ETags :=
  ⟨if star then [] else s.getD [], w.getD [], star⟩

theorem etags_init_methods (s w : Option Elems) (star : Bool) (t : Str) :
    let o := etags_init s w star
    etags_is_strong o.1 t = (initModel s w star).strong.contains (some t)
    ∧ etags_is_weak o.2.1 t = (initModel s w star).weak.contains (some t)
    ∧ etags_contains o.1 o.2.2 t = (initModel s w star).contains t
    ∧ etags_contains_weak o.1 o.2.1 o.2.2 t = (initModel s w star).containsWeak t
    ∧ etags_bool o.1 o.2.1 o.2.2 = (initModel s w star).truthy := by
  simp only [etags_init_eq, initModel, etags_is_strong, etags_is_weak, etags_contains,
    etags_contains_weak, etags_bool, Cond.ETags.contains, Cond.ETags.containsWeak, Cond.ETags.truthy]
  cases star <;> simp [frozenset_mem, frozenset_isEmpty]

/-- `etags_init_methods` for the call `ETags(s, w)` of `parse_etags`: against the model value `⟨s, w, false⟩` -/
theorem etags_init_lists_methods (s w : Elems) (t : Str) :
    let o := etags_init (some s) (some w) false
    etags_contains o.1 o.2.2 t = (⟨s, w, false⟩ : Cond.ETags).contains t
    ∧ etags_contains_weak o.1 o.2.1 o.2.2 t = (⟨s, w, false⟩ : Cond.ETags).containsWeak t
    ∧ etags_bool o.1 o.2.1 o.2.2 = (⟨s, w, false⟩ : Cond.ETags).truthy := by
  have := etags_init_methods (some s) (some w) false t
  exact ⟨this.2.2.1, this.2.2.2.1, this.2.2.2.2⟩

theorem etags_to_header_eq (s w : List Str) (star : Bool) :
    etags_to_header s w star = Http.etagsToHeader ⟨s.map some, w.map some, star⟩ := by
  unfold etags_to_header Http.etagsToHeader
  have e : ([',', ' '] : Str) = ", ".toList := by decide
  cases star with
  | true => rfl
  | false =>
    simp only [Bool.false_eq_true, if_false, e, PyFnsHttp.join_intercalate, List.map_map]
    rfl

example : etags_to_header ["a".toList] ["b".toList, "c".toList] false = "\"a\", W/\"b\", W/\"c\"".toList := by
  -- a literal's `toList` is rewritten to the list of its characters: evaluating it decodes the bytes
  repeat rewrite [String.toList_ofList]
  decide +kernel

/-! ## `parse_etags`

The `while pos < end` loop is translated with explicit fuel (one unit per iteration). The loop state
`pos` is related to the text still to be read: `pos = len(value) - len(s)` for a suffix `s` of `value`
(what `_etag_re.match(value, pos)` looks at); that the text after a match of C06's regex model is a
suffix of the text matched, and strictly shorter on LF-free text, is `Http.etagMatch_out`
(`Lemmas/HttpEtagNF.lean`). -/

/-- what `parse_etags` does with the outcome of its loop -/
def loopOut : Pre.Loop (Except String Obj) (Elems × Elems × Int) → Except String Obj
  | .ret r => r
  | .fall (strong, weak, _) => .ok (etags_init (some strong) (some weak) false)

/-- the `ETags` object for the model's list-based value: `ETags(strong, weak, star_tag=star)` -/
def objOfHttp (e : Http.ETags) : Obj := etags_init (some e.strong) (some e.weak) e.star

theorem drop_of_suffix (value s : Str) (h : s <:+ value) :
    value.drop (((value.length : Int) - (s.length : Int)).toNat) = s := by
  have hl := h.length_le
  have : ((value.length : Int) - (s.length : Int)).toNat = value.length - s.length := by omega
  rw [this]
  exact (List.suffix_iff_eq_drop.mp h).symm

/-- the primitive `_etag_re.match(value, pos)` of the generated file at the position of the suffix `s` -/
theorem etagReMatch_eq (value s : Str) (h : s <:+ value) :
    etagReMatch value ((value.length : Int) - (s.length : Int)) =
      (Http.etagMatch s).map fun m =>
        ((if m.1 then some (s.take 2) else none, m.2.1, m.2.2.1), (value.length : Int) - (m.2.2.2.length : Int)) := by
  unfold etagReMatch
  simp only [drop_of_suffix value s h]

/-- The `while pos < end` loop of `parse_etags`, as translated from the current source (the match at
`pos`, `break` on no match, the three groups, the wildcard test `raw == "*"` with its early
`return ds.ETags(star_tag=True)`, `elif quoted is not None: raw = quoted`, the `is_weak` branch with
its two `append`s, `pos = match.end()`), started at the position of any suffix `s` of `value` that
contains no LF, with accumulators `strong` / `weak` and more fuel than `s` has characters, followed
by the function's closing `return ds.ETags(strong, weak)`: never runs out of fuel and produces the
`ETags` object of what C06's model loop `parseEtagsGo` computes from the same state (the model conses
onto reversed accumulators). Every iteration consumes at least one character, which is why
`len(s) + 1` units of fuel suffice. -/
theorem parse_etags_loop_eq (value : Str) : ∀ (fuel : Nat) (s : Str) (st wk : Elems),
    s <:+ value → '\n' ∉ s → s.length < fuel →
    loopOut (parse_etags.loop1 value (value.length : Int) fuel st.reverse wk.reverse
        ((value.length : Int) - (s.length : Int)))
      = .ok (objOfHttp (Http.parseEtagsGo fuel s st wk)) := by
  intro fuel
  induction fuel with
  | zero => intro s st wk _ _ h; omega
  | succ f ih =>
    intro s st wk hsuf hlf hfuel
    unfold parse_etags.loop1 Http.parseEtagsGo
    by_cases hs : s = []
    · subst hs
      simp [loopOut, objOfHttp]
    · have hpos : ((value.length : Int) - (s.length : Int)) < (value.length : Int) := by
        have := List.length_pos_iff.mpr hs
        omega
      have hse : s.isEmpty = false := by simpa using hs
      simp only [hpos, decide_true, if_true, hse, Bool.false_eq_true, if_false, etagReMatch_eq value s hsuf]
      cases hm : Http.etagMatch s with
      | none => simp [loopOut, objOfHttp]
      | some m =>
        obtain ⟨w, q, r, rest⟩ := m
        have hsuf' : rest <:+ value := (Http.etagMatch_out hm).2.suffix.trans hsuf
        obtain ⟨hsub, hlen⟩ := Http.etagMatch_shrinks s rest w q r hs hlf hm
        have hlf' : '\n' ∉ rest := fun hc => hlf (hsub _ hc)
        have hf' : rest.length < f := by omega
        have ht : (s.take 2).isEmpty = false := by
          cases s with
          | nil => exact absurd rfl hs
          | cons a t => cases t <;> rfl
        simp only [Option.map_some]
        by_cases hstar : r = some ['*']
        · subst hstar
          simp [loopOut, objOfHttp]
          rfl
        · have hstar' : (r == some ['*']) = false := by simpa using hstar
          simp only [hstar', Bool.false_eq_true, if_false]
          have ihS := fun x => ih rest (x :: st) wk hsuf' hlf' hf'
          have ihW := fun x => ih rest st (x :: wk) hsuf' hlf' hf'
          simp only [List.reverse_cons] at ihS ihW
          cases q <;> cases w <;> simp [ht, ihS, ihW]

theorem objOfHttp_eq (e : Http.ETags) :
    objOfHttp e = (if e.star then [] else Pre.frozenset e.strong, Pre.frozenset e.weak, e.star) := by
  unfold objOfHttp; rw [etags_init_eq]; rfl

/-- `parse_etags(None)`, as translated from the current source, is the empty `ETags()` (no fuel is
used); so is `parse_etags("")`, see `parse_etags_eq`. -/
theorem parse_etags_none (fuel : Nat) : parse_etags fuel none = .ok ([], [], false) := rfl

theorem parse_etags_eq (fuel : Nat) (v : Str) (hlf : '\n' ∉ v) (hf : v.length + 1 ≤ fuel) :
    parse_etags fuel (some v) = .ok (objOfHttp (Http.parseEtags v)) := by
  unfold parse_etags Http.parseEtags
  by_cases he : v = []
  · subst he; rfl
  · have he' : v.isEmpty = false := by simpa using he
    have h := parse_etags_loop_eq v fuel v [] [] (List.suffix_refl v) hlf (by omega)
    rw [Http.parseEtagsGo_fuel_irrelevant fuel (v.length + 1) v [] [] hlf (by omega) (by omega)] at h
    simp only [Int.sub_self, List.reverse_nil] at h
    simp only [he', Bool.false_eq_true, if_false, Int.ofNat_eq_natCast]
    rw [← h]
    cases parse_etags.loop1 v (v.length : Int) fuel [] [] 0 with
    | ret r => rfl
    | fall st => obtain ⟨a, b, c⟩ := st; rfl

/-- the hypotheses are satisfiable -/
example : '\n' ∉ "W/\"a\", \"b\" ,,*".toList ∧ ("W/\"a\", \"b\" ,,*".toList).length + 1 ≤ 20 := by
  repeat rewrite [String.toList_ofList]
  decide +kernel

example : parse_etags 20 (some "W/\"a\", \"b\", \"b\", c".toList)
    = .ok ([some "b".toList, some "c".toList], [some "a".toList], false) := by
  repeat rewrite [String.toList_ofList]
  decide +kernel

/-- from position 1 of `"a\n"` the translated loop makes no progress: `_etag_re` matches the empty raw
tag before the final line feed (`$`) and `match.end()` is the position it started from -/
theorem lf_loop : ∀ (fuel : Nat) (weak strong : Elems),
    parse_etags.loop1 ['a', '\n'] 2 fuel weak strong 1 = .ret (.error "py2lean: out of fuel") := by
  intro fuel
  induction fuel with
  | zero => intro _ _; rfl
  | succ f ih =>
    intro weak strong
    unfold parse_etags.loop1
    have : etagReMatch ['a', '\n'] 1 = some ((none, none, some []), 1) := by decide
    simp [this, ih]

theorem parse_etags_lf_spins (fuel : Nat) :
    parse_etags fuel (some ['a', '\n']) = .error "py2lean: out of fuel" := by
  unfold parse_etags
  cases fuel with
  | zero => rfl
  | succ f =>
    have : etagReMatch ['a', '\n'] 0 = some ((none, none, some ['a']), 1) := by decide
    unfold parse_etags.loop1
    simp [this, lf_loop]

theorem initModel_parse (e : Http.ETags) (h : e = ⟨[], [], true⟩ ∨ e.star = false) :
    initModel (some e.strong) (some e.weak) e.star = toCond e := by
  rcases h with h | h
  · subst h; rfl
  · obtain ⟨a, b, c⟩ := e
    simp only at h; subst h; rfl

/-! ## `is_resource_modified`

The generated definition is polymorphic in the type `τ` of instants and takes `parse_date`,
`parse_if_range_header` and `parse_etags` as parameters. It is instantiated the way C11's model reads
dates: an instant is `(epoch seconds, microseconds)`, ordered lexicographically; `replace(microsecond=0)`
zeroes the second component; every date a *header* carries has whole seconds (`atSec`). The `data`
argument is fixed to `None` by the translation (the `generate_etag(data)` path is not modelled). -/

/-- an instant: (epoch seconds, microseconds) -/
abbrev Inst := Int × Nat
def dle (a b : Inst) : Bool := decide (a.1 < b.1 ∨ (a.1 = b.1 ∧ a.2 ≤ b.2))
/-- `_dt_as_utc(d.replace(microsecond=0))` -/
def dropMicro (p : Inst) : Inst := (p.1, 0)
/-- the instant of a parsed header date (whole seconds) -/
def atSec (d : Int) : Inst := (d, 0)
/-- the `IfRange` object `(etag, date)` of C11's model value -/
def ifRangeObj : Cond.IfRange → Option Str × Option Inst
  | .none => (none, none)
  | .date d => (none, some (atSec d))
  | .etag e => (some e, none)

/-- An `ETags` object (as the translation represents it) answers the three questions
`is_resource_modified` asks - `bool(o)`, `o.contains(t)`, `o.contains_weak(t)`, through the translated
methods - like the model value `e`. -/
structure EtagsAgree (o : Obj) (e : Cond.ETags) : Prop where
  bool : etags_bool o.1 o.2.1 o.2.2 = e.truthy
  contains : ∀ t, etags_contains o.1 o.2.2 t = e.contains t
  containsWeak : ∀ t, etags_contains_weak o.1 o.2.1 o.2.2 t = e.containsWeak t

theorem agree_objOf (e : Cond.ETags) : EtagsAgree (objOf e) e where
  bool := etags_bool_eq e
  contains := etags_contains_eq e
  containsWeak := etags_contains_weak_eq e

theorem agree_of_init (s w : Option Elems) (star : Bool) :
    EtagsAgree (etags_init s w star) (initModel s w star) where
  bool := (etags_init_methods s w star []).2.2.2.2
  contains := fun t => (etags_init_methods s w star t).2.2.1
  containsWeak := fun t => (etags_init_methods s w star t).2.2.2.1

theorem parse_etags_agree (fuel : Nat) (v : Str) (hlf : '\n' ∉ v) (hf : v.length + 1 ≤ fuel) :
    ∃ o, parse_etags fuel (some v) = .ok o ∧ EtagsAgree o (Cond.parseEtags (some v)) := by
  refine ⟨_, parse_etags_eq fuel v hlf hf, ?_⟩
  have hs : Http.parseEtags v = ⟨[], [], true⟩ ∨ (Http.parseEtags v).star = false :=
    parseEtagsGo_star (v.length + 1) v [] []
  rw [cond_parseEtags_eq v hlf, ← initModel_parse _ hs]
  exact agree_of_init _ _ _

/-- `last_modified <= modified_since` after the microseconds were dropped, against a header date:
the comparison of the whole seconds -/
theorem dle_sec (l : Inst) (d : Int) : dle (dropMicro l) (atSec d) = decide (l.1 ≤ d) := by
  simp only [dle, dropMicro, atSec, Nat.le_refl, and_true]
  by_cases h : l.1 ≤ d
  · have : l.1 < d ∨ l.1 = d := by omega
    simp [h, this]
  · have : ¬ (l.1 < d ∨ l.1 = d) := by omega
    simp [h, this]

/-- `unquote_etag(etag)` of a non-empty text returns a tag (never `(None, None)`): this is what makes
the `TypeError` arms of the translation (`.contains(None)`) unreachable -/
theorem unquote_some (et : Str) (he : et.isEmpty = false) :
    ∃ e w, Cond.unquoteEtag et = some (e, w) ∧ Gen.PyFns_Range.unquote_etag (some et) = (some e, some w) := by
  have hu := Props.C11T.unquote_etag_eq (some et)
  simp only at hu
  cases hq : Cond.unquoteEtag et with
  | none => simp [Cond.unquoteEtag, he] at hq
  | some p =>
    obtain ⟨e, w⟩ := p
    rw [hq] at hu
    exact ⟨e, w, rfl, hu⟩

/-- the shape the translation gives to `return not unmodified` after a comparison -/
theorem ite_ok_not (p : Prop) [Decidable p] :
    (if p then (.ok false : Except String Bool) else .ok true) = .ok !decide p := by
  by_cases h : p <;> simp [h]

/-- `ignore_if_range=True` is the call without a `Range` header: the translation repeats the code of
that branch, the model tests `!ignoreIfRange && range.isSome` -/
theorem irm_ignore {τ : Type} (dle : τ → τ → Bool) (dm : τ → τ) (pd : Option Str → Option τ)
    (pif : Option Str → Option Str × Option τ) (pe : Option Str → Obj)
    (range ifRange ims inm im etag : Option Str) (lm : Option τ) :
    is_resource_modified dle dm pd pif pe range ifRange ims inm im etag () lm true
      = is_resource_modified dle dm pd pif pe none ifRange ims inm im etag () lm false := by
  unfold is_resource_modified
  cases range <;> rfl

/-- the case `etag is None` (with `ignore_if_range=False`; see `irm_ignore`) -/
theorem irm_none {pdF : Option Str → Option Inst} {pifF : Option Str → Option Str × Option Inst}
    (pe : Option Str → Obj) (r : Cond.CondReq) (ims : Option Str)
    (hpd : pdF ims = r.ims.map atSec)
    (hpif : pifF r.ifRange = ifRangeObj (Cond.parseIfRangeHeader r.ifRange r.ifRangeDate))
    (lm : Option Inst) :
    is_resource_modified dle dropMicro pdF pifF pe r.range r.ifRange ims r.inm r.im none () lm false
      = .ok (Cond.isResourceModified r none lm false) := by
  unfold is_resource_modified Cond.isResourceModified
  simp only [hpd, hpif]
  generalize Cond.parseIfRangeHeader r.ifRange r.ifRangeDate = ir
  generalize r.ims = m
  -- the `If-Range` value is looked at only with a `Range` header
  cases r.range
  · cases lm <;> cases m <;> simp [Cond.dateUnmodified, dle_sec, ite_ok_not]
  · cases lm <;> cases m <;> cases ir <;>
      simp [Cond.dateUnmodified, dle_sec, ite_ok_not, ifRangeObj]

/-- what follows `if etag:` in `is_resource_modified`: the same text at every leaf of the date decision -/
def etagTail (pe : Option Str → Obj) (inm im : Option Str) (et : Str) (ifrTag : Option Str) (u : Bool) :
    Except String Bool :=
  if !et.isEmpty then
    let etag : Option Str := (Gen.PyFns_Range.unquote_etag (some et)).1
    match ifrTag with
    | none =>
      let k (u : Bool) : Except String Bool :=
        if etags_bool (pe im).1 (pe im).2.1 (pe im).2.2 then
          match etag with
          | none => .error "TypeError"
          | some e => .ok (!!(etags_contains (pe im).1 (pe im).2.2 e))
        else .ok (!u)
      if etags_bool (pe inm).1 (pe inm).2.1 (pe inm).2.2 then
        match etag with
        | none => .error "TypeError"
        | some e => k (etags_contains_weak (pe inm).1 (pe inm).2.1 (pe inm).2.2 e)
      else k u
    | some ie => .ok (!(some ie == etag))
  else .ok (!u)

theorem irm_some_struct {τ : Type} (dle : τ → τ → Bool) (dm : τ → τ) (pd : Option Str → Option τ)
    (pif : Option Str → Option Str × Option τ) (pe : Option Str → Obj)
    (range ifRange ims inm im : Option Str) (et : Str) (lm : Option τ) :
    is_resource_modified dle dm pd pif pe range ifRange ims inm im (some et) () lm false =
      let ifr : Option (Option Str × Option τ) := range.map fun _ => pif ifRange
      let since : Option τ := match ifr.bind (·.2) with | some d => some d | none => pd ims
      let u : Bool := match lm, since with | some l, some s => dle (dm l) s | _, _ => false
      etagTail pe inm im et (ifr.bind (·.1)) u := by
  unfold is_resource_modified
  cases lm with
  | none =>
    cases range with
    | none => cases pd ims <;> rfl
    | some rg =>
      simp only [Option.map_some, Option.bind_some]
      cases (pif ifRange).2 with
      | none => cases pd ims <;> simp only [] <;> rfl
      | some d => simp only []; rfl
  | some l =>
    cases range with
    | none =>
      cases pd ims with
      | none => rfl
      | some s =>
        dsimp only
        (show _ = etagTail _ _ _ _ _ (dle (dm l) s))
        cases dle (dm l) s <;> rfl
    | some rg =>
      simp only [Option.map_some, Option.bind_some]
      cases (pif ifRange).2 with
      | none =>
        cases pd ims with
        | none => simp only []; rfl
        | some s =>
          simp only []
          (show _ = etagTail _ _ _ _ _ (dle (dm l) s))
          cases dle (dm l) s <;> rfl
      | some d =>
        simp only []
        (show _ = etagTail _ _ _ _ _ (dle (dm l) d))
        cases dle (dm l) d <;> rfl

/-- the tail answers what the model answers, once, under `EtagsAgree` -/
theorem etagTail_eq (pe : Option Str → Obj) (r : Cond.CondReq)
    (hinm : EtagsAgree (pe r.inm) (Cond.parseEtags r.inm))
    (him : EtagsAgree (pe r.im) (Cond.parseEtags r.im)) (et : Str) (ifrTag : Option Str) (u : Bool) :
    etagTail pe r.inm r.im et ifrTag u = .ok (!(
      match Cond.unquoteEtag et with
      | none => u
      | some (e, _) =>
        match ifrTag with
        | some ie => ie == e
        | none =>
          let u1 := if (Cond.parseEtags r.inm).truthy then (Cond.parseEtags r.inm).containsWeak e else u
          if (Cond.parseEtags r.im).truthy then !(Cond.parseEtags r.im).contains e else u1)) := by
  unfold etagTail
  by_cases he : et.isEmpty = true
  · simp [he, Cond.unquoteEtag]
  · have he' : et.isEmpty = false := by simpa using he
    obtain ⟨e, w, hq, hu⟩ := unquote_some et he'
    simp only [he', Bool.not_false, if_true, hu, hq, hinm.bool, hinm.containsWeak, him.bool, him.contains]
    cases ifrTag with
    | some ie => simp
    | none => cases (Cond.parseEtags r.inm).truthy <;> cases (Cond.parseEtags r.im).truthy <;> simp

/-- the case of an `etag` text (with `ignore_if_range=False`) -/
theorem irm_some {pdF : Option Str → Option Inst} {pifF : Option Str → Option Str × Option Inst}
    (pe : Option Str → Obj) (r : Cond.CondReq) (ims : Option Str)
    (hpd : pdF ims = r.ims.map atSec)
    (hpif : pifF r.ifRange = ifRangeObj (Cond.parseIfRangeHeader r.ifRange r.ifRangeDate))
    (hinm : EtagsAgree (pe r.inm) (Cond.parseEtags r.inm))
    (him : EtagsAgree (pe r.im) (Cond.parseEtags r.im))
    (et : Str) (lm : Option Inst) :
    is_resource_modified dle dropMicro pdF pifF pe r.range r.ifRange ims r.inm r.im (some et) () lm false
      = .ok (Cond.isResourceModified r (some et) lm false) := by
  rw [irm_some_struct, etagTail_eq pe r hinm him, hpd, hpif]
  -- what is left is the date decision, on both sides a function of five case distinctions
  unfold Cond.isResourceModified
  generalize Cond.parseIfRangeHeader r.ifRange r.ifRangeDate = ir
  cases hq : Cond.unquoteEtag et <;> cases r.range <;> cases lm <;> cases r.ims <;> cases ir <;>
    simp [hq, ifRangeObj, Cond.dateUnmodified, dle_sec]

/-- **`is_resource_modified`** as translated, for arbitrary parser functions that answer like the model's on
the headers of this request, never raises and returns the model's `Cond.isResourceModified`. The `If-Range`
entity tag is compared directly (`if_range.etag == etag`), so nothing is asked of `parse_etags` on it. -/
theorem irm_eq {pdF : Option Str → Option Inst} {pifF : Option Str → Option Str × Option Inst}
    (pe : Option Str → Obj) (r : Cond.CondReq) (ims : Option Str)
    (hpd : pdF ims = r.ims.map atSec)
    (hpif : pifF r.ifRange = ifRangeObj (Cond.parseIfRangeHeader r.ifRange r.ifRangeDate))
    (hinm : EtagsAgree (pe r.inm) (Cond.parseEtags r.inm))
    (him : EtagsAgree (pe r.im) (Cond.parseEtags r.im))
    (etag : Option Str) (lm : Option Inst) (ign : Bool) :
    is_resource_modified dle dropMicro pdF pifF pe r.range r.ifRange ims r.inm r.im etag () lm ign
      = .ok (Cond.isResourceModified r etag lm ign) := by
  cases ign
  · cases etag with
    | none => exact irm_none pe r ims hpd hpif lm
    | some et => exact irm_some pe r ims hpd hpif hinm him et lm
  · rw [irm_ignore, Cond.isResourceModified_ignore_eq]
    cases etag with
    | none => exact irm_none pe { r with range := none } ims hpd hpif lm
    | some et => exact irm_some pe { r with range := none } ims hpd hpif hinm him et lm

/-- `parse_date` on header text, from an opaque parser `pd` of non-`None` text to epoch seconds
(`parse_date(None)` is `None`) -/
def parseDateOf (pd : Str → Option Int) (v : Option Str) : Option Inst := (v.bind pd).map atSec

/-- `parse_if_range_header`: the object of C11's model function, `parse_date` being `pd` -/
def parseIfRangeOf (pd : Str → Option Int) (v : Option Str) : Option Str × Option Inst :=
  ifRangeObj (Cond.parseIfRangeHeader v (v.bind pd))

/-- `parse_if_range_header` as translated from the source (`Gen/PyFns_Range.lean`), its date lifted to
an instant -/
def parseIfRangeT (pd : Str → Option Int) (v : Option Str) : Option Str × Option Inst :=
  let p := Gen.PyFns_Range.parse_if_range_header pd v
  (p.1, p.2.map atSec)

/-- `parse_etags` as translated from the source, run with `len(value) + 1` units of fuel; the marker
error (which `parse_etags_eq` excludes for LF-free text) is mapped to the empty object -/
def parseEtagsT (v : Option Str) : Obj :=
  match parse_etags ((v.getD []).length + 1) v with
  | .ok o => o
  | .error _ => ([], [], false)

def NoLF (v : Option Str) : Prop := ∀ s, v = some s → '\n' ∉ s

def reqOf (pd : Str → Option Int) (range ifRange ims inm im : Option Str) : Cond.CondReq :=
  { range := range, ifRange := ifRange, ifRangeDate := ifRange.bind pd, ims := ims.bind pd, inm := inm, im := im }

theorem parseEtagsT_agree (v : Option Str) (h : NoLF v) : EtagsAgree (parseEtagsT v) (Cond.parseEtags v) := by
  cases v with
  | none => exact agree_objOf Cond.ETags.empty
  | some s =>
    obtain ⟨o, ho, ha⟩ := parse_etags_agree (s.length + 1) s (h s rfl) (Nat.le_refl _)
    unfold parseEtagsT
    simp only [Option.getD_some, ho]
    exact ha

theorem parseIfRangeT_eq (pd : Str → Option Int) (v : Option Str) :
    parseIfRangeT pd v = parseIfRangeOf pd v := by
  unfold parseIfRangeT parseIfRangeOf
  rw [Props.C11T.parse_if_range_header_eq_model]
  cases Cond.parseIfRangeHeader v (v.bind pd) <;> rfl

/-- the hypotheses are satisfiable -/
example : NoLF (some "W/\"abc\", \"x\"".toList) ∧ NoLF none := by
  constructor
  · intro s hs; cases hs; decide
  · intro s hs; cases hs

/-- the translated call tree computes: a weak `If-None-Match` match makes the resource "not modified" -/
example : is_resource_modified dle dropMicro (parseDateOf fun _ => none) (parseIfRangeT fun _ => none) parseEtagsT
    none none none (some "W/\"abc\", \"x\"".toList) none (some "\"abc\"".toList) () (some (5, 7)) true
    = .ok false := by
  repeat rewrite [String.toList_ofList]
  decide +kernel

end Wz.PyFnsEq.Etag
