/-
C01 — multipart decoding does not depend on how the body is chunked.
Property theorems only (the lemmas live in Lemmas/Multipart, SearchPos, HeaderBlock, MultipartRaw,
MultipartChunks; `step_of_data`, `receive_some_of_fits` in MultipartStep, the encoder side — `ValidPart`,
`encBody`, `encodeAll_eq` — in MultipartCodec).

Model: Model/Multipart.lean (`MultipartDecoder`, `MultiPartParser.parse`). `step`/`nextEvent` in the
states DATA and DATA_START are, by definition, `dataStep` (one `_parse_data` call); `dataLoop` is the
`next_event` loop while the decoder stays in those states and `dataPhase` runs it over a list of
chunks. `dataSpec` is the reference (single-shot) semantics: payload = what precedes the leftmost
match of `boundary_re` in the whole remaining stream.
-/
import WzVerif.Lemmas.Multipart
import WzVerif.Lemmas.MultipartChunks
namespace Wz.Props.C01
open Wz Wz.Multipart

/-- The five patterns compiled by `werkzeug.sansio.multipart` (for boundary `B`), their flags and
`SEARCH_EXTRA_LENGTH` are exactly the ones the hand-written matchers `searchDelim`, `searchBlank`,
`lbLen`, `foldContinuations` were written for (regenerated from the live module on every run). -/
theorem regex_sources_as_modelled :
    Gen.Multipart.preamblePattern =
      str "(?:\r\n|\n|\r)?--B(--[^\\S\\n\\r]*(?:\r\n|\n|\r)?|[^\\S\\n\\r]*(?:\r\n|\n|\r))" ∧
    Gen.Multipart.boundaryPattern =
      str "(?:\r\n|\n|\r)--B(--[^\\S\\n\\r]*(?:\r\n|\n|\r)?|[^\\S\\n\\r]*(?:\r\n|\n|\r))" ∧
    Gen.Multipart.blankLinePattern = str "(?:\r\n\r\n|\r\r|\n\n)" ∧
    Gen.Multipart.lineBreakPattern = str "(?:\r\n|\n|\r)" ∧
    Gen.Multipart.headerContinuationPattern = str "(?:\r\n|\n|\r)[ \t]" ∧
    Gen.Multipart.escapeVerbatim = true ∧
    Gen.Multipart.patternFlags = [8, 8, 8, 8, 8] ∧
    Gen.Multipart.searchExtraLength = 8 := by
  repeat rw [str_ofList]
  decide +kernel

/-- The horizontal-whitespace class `[^\S\n\r]` of the live compiled regexes is {TAB, VT, FF, SP} in
all four places it occurs; in particular it contains neither CR, LF nor `-` (what every proof below
uses). -/
theorem hws_class :
    Gen.Multipart.hwsConsistent = true ∧
    ∀ n, n < 256 → isHws (UInt8.ofNat n) = (n == 9 || n == 11 || n == 12 || n == 32) := by
  refine ⟨by decide, fun n hn => ?_⟩
  rw [isHws_eq, UInt8.toNat_ofNat', Nat.mod_eq_of_lt hn]

/-- The charsets `MultiPartParser.get_part_charset` admits (the set literal, regenerated by AST) and
its fallback are the ones the model's `partCharset` knows: each admitted charset named in a part's
Content-Type is returned as it is, any other gives `utf-8`. -/
theorem part_charsets_as_modelled :
    Gen.Multipart.partCharsets = ["ascii", "iso-8859-1", "us-ascii", "utf-8"] ∧
    Gen.Multipart.partCharsetDefault = ["utf-8"] ∧
    (∀ cs ∈ Gen.Multipart.partCharsets,
      (partCharset [("Content-Type".toList, "text/plain; charset=".toList ++ cs.toList)]).toOption = some cs.toList) ∧
    (partCharset [("Content-Type".toList, "text/plain; charset=latin1".toList)]).toOption = some "utf-8".toList ∧
    (partCharset [("Content-Type".toList, "text/plain; charset=UTF-16".toList)]).toOption = some "utf-8".toList ∧
    (partCharset []).toOption = some "utf-8".toList := by
  repeat rw [String.toList_ofList]
  refine ⟨rfl, rfl, by decide +kernel, by decide +kernel, by decide +kernel, by decide +kernel⟩

/-- `MultipartDecoder.receive_data` is the statement the model's `receive` was written for (regenerated
from the source on every run): `None`, and only `None`, marks the input complete; every bytes object —
the empty one included — is appended to the buffer after the size check. -/
theorem receive_data_as_modelled :
    Gen.Multipart.receiveDataStmts =
      ["if data is None:\n    self.complete = True\nelif self.max_form_memory_size is not None and len(self.buffer) + len(data) > self.max_form_memory_size:\n    raise RequestEntityTooLarge()\nelse:\n    self.buffer.extend(data)"] := by
  rfl

/-- **A zero-length piece is a split like any other.** `receive_data(b"")` changes nothing (it neither
ends the input nor touches the buffer), and every chunk-list theorem below quantifies over *all* lists
of chunks whose concatenation is the body — empty chunks at the front, at the end or in the middle
included: removing the empty chunks of a schedule leaves the concatenation, hence the hypotheses,
unchanged. -/
theorem empty_chunk_is_noop (d : Decoder) (hm : ∀ m, d.maxMem = some m → d.buffer.length ≤ m) :
    receive d (some []) = .ok d ∧
    ∀ chunks : List Bytes, (chunks.filter (fun c => !c.isEmpty)).flatten = chunks.flatten :=
  ⟨by rw [receive_some_of_fits (by simpa using hm), List.append_nil], fun _ => List.flatten_filter_not_isEmpty⟩

/-- non-vacuity: the F01a body with empty chunks in front, in the middle (between the CR and the LF
that precede the delimiter) and at the end decodes to the same parts as in one piece -/
example :
    let body := str "--bound\r\nContent-Disposition: form-data; name=\"a\"; filename=\"f\"\r\n\r\nx\nyyy\r\n--bound--\r\n"
    partsOf (decodeChunks (str "bound") none none [[], body.take 77, [], [], body.drop 77, []]).events =
      partsOf (decodeChunks (str "bound") none none [body]).events ∧
    (decodeChunks (str "bound") none none [[], body.take 77, [], [], body.drop 77, []]).err = none ∧
    (partsOf (decodeChunks (str "bound") none none [body]).events).length = 1 := by
  repeat rw [str_ofList]
  decide +kernel

/-- In the states DATA and DATA_START the model of `next_event` is one `_parse_data` call
(`dataStep`, wrapped into an event by `stepData`): the kernel theorems below are about the very
function the decoder model executes. -/
theorem step_data_is_dataStep (d : Decoder) :
    (d.state = .data → step d = stepData d false) ∧
    (d.state = .dataStart → step d = stepData d true) :=
  ⟨fun h => step_of_data (start := false) h, fun h => step_of_data (start := true) h⟩

/-- **Hold-back safety** (`_parse_data`, no delimiter recognised). Whatever `_parse_data` releases is
final: for every buffer `b` and every continuation `c`, the leftmost delimiter of `b ++ c` is the
leftmost delimiter of (what was kept ++ c), moved by the released length. Covers both the
`last_newline` hold-back and the "far from a partial boundary" shortcut. -/
theorem parseData_hold_safe {bnd : Bytes} (hb : BoundaryOk bnd) (b : Bytes) {de di : Nat}
    (h : dataCut bnd b = (de, di, none)) (c : Bytes) :
    de = di ∧ di ≤ b.length ∧
      searchDelim bnd false (b ++ c) = shift di (searchDelim bnd false (b.drop di ++ c)) := by
  obtain ⟨h1, hle, hsafe⟩ := dataCut_undecided hb h
  exact ⟨h1, hle, hsafe.shift hle c⟩

example : BoundaryOk (str "bound") ∧ dataCut (str "bound") (str "ab\r\n--bou") = (2, 2, none) := by
  repeat rw [str_ofList]
  decide +kernel

/-- **Decision stability.** A delimiter recognised in the buffer is the delimiter of every
extension of the buffer: same payload end, same kind (part / closing); only the LF completing a
trailing CR may still arrive. -/
theorem parseData_decision_stable {bnd : Bytes} (hb : BoundaryOk bnd) (b : Bytes) {de di : Nat} {f : Bool}
    (h : dataCut bnd b = (de, di, some f)) (c : Bytes) :
    ∃ di', dataCut bnd (b ++ c) = (de, di', some f) ∧
      (f = false → di' = di ∨ (di' = di + 1 ∧ b.length = di ∧ ∃ c', c = 10 :: c')) := by
  obtain ⟨e', he', hrel⟩ := searchDelim_append_stable (dataCut_some_iff.1 h) c
  exact ⟨e', dataCut_some_iff.2 he', hrel⟩

example : dataCut (str "bound") (str "ab\r\n--bound\r") = (2, 12, some false) := by decide +kernel

/-- **parseData_split (every chunk list).** Start with buffer `buf` in state DATA (`start = false`)
or DATA_START (`start = true`, the buffer then begins with the line break that ended the headers)
and let the rest of the stream arrive as any list of chunks. If the single-shot semantics of the
whole stream `buf ++ chunks.flatten` finds payload `P`, delimiter kind `f` and residual `R`, the
chunked loop (`receive_data` / `next_event` until NEED_DATA, chunk after chunk) produces Data events
whose concatenation is exactly `P`, decides `f`, and leaves `R` — or `LF :: R` when a chunk ended
between the CR and LF that close a non-final delimiter line (the LF is then still to be consumed as
an empty header line). -/
theorem parseData_split {bnd : Bytes} (hb : BoundaryOk bnd) (start : Bool) (buf : Bytes)
    (chunks : List Bytes) (hstart : start = true → 0 < lbLen buf) {P : Bytes} {f : Bool} {R : Bytes}
    (h : dataSpec bnd start (buf ++ chunks.flatten) = some (P, f, R)) :
    ∃ R', dataPhase bnd start buf [] chunks = .ok (P, some (f, R')) ∧
      (f = false → R' = R ∨ R' = 10 :: R) := by
  exact dataPhase_decodes hb start buf chunks hstart rfl h

/-- non-vacuity: the F01a body's payload, arriving byte by byte after the header block (the closing
delimiter is recognised before its CRLF arrives: the residual differs, it belongs to the epilogue) -/
example :
    dataSpec (str "bound") true (str "\r\nx\nyyy\r\n--bound--\r\n") = some (str "x\nyyy", true, []) ∧
    (dataPhase (str "bound") true (str "\r") [] ((str "\nx\nyyy\r\n--bound--\r\n").map fun b => [b])).toOption =
      some (str "x\nyyy", some (true, str "\r\n")) := by
  repeat rw [str_ofList]
  decide +kernel

/-- **No false delimiter.** If the whole stream contains no delimiter, no chunking makes the loop
report one (it answers NEED_DATA at the end), and what it released is a prefix of the stream. -/
theorem parseData_split_none {bnd : Bytes} (hb : BoundaryOk bnd) (start : Bool) (buf : Bytes)
    (chunks : List Bytes) (hstart : start = true → 0 < lbLen buf)
    (h : dataSpec bnd start (buf ++ chunks.flatten) = none) :
    ∃ p, dataPhase bnd start buf [] chunks = .ok (p, none) := by
  obtain ⟨p, res, hrun, hag⟩ := dataPhase_spec hb chunks start buf [] hstart
  rw [h] at hag
  have hres : res = none := dataAgree_none.1 hag
  exact ⟨p, by simpa [hres] using hrun⟩

/-- single shot: the loop over the whole stream is the reference semantics -/
theorem parseData_single {bnd : Bytes} (start : Bool) (S : Bytes)
    (hstart : start = true → 0 < lbLen S) {P : Bytes} {f : Bool} {R : Bytes}
    (h : dataSpec bnd start S = some (P, f, R)) :
    dataPhase bnd start S [] [] = .ok (P, some (f, R)) := by
  obtain ⟨s, e, hx, rfl, rfl⟩ := dataSpec_some h
  simpa using dataPhase_of_some [] (dataLoop_decides start S.length [] hstart hx)

/-- **parseData_split, 2-way form of the property text.** For every buffer `b` and continuation `c`:
feeding `b`, draining, feeding `c`, draining gives the same concatenated payload and the same
delimiter decision as feeding `b ++ c` at once, and the same residual up to the split-CRLF LF. -/
theorem parseData_split_two {bnd : Bytes} (hb : BoundaryOk bnd) (start : Bool) (b c : Bytes)
    (hstart : start = true → 0 < lbLen b) {P : Bytes} {f : Bool} {R : Bytes}
    (h : dataPhase bnd start (b ++ c) [] [] = .ok (P, some (f, R))) :
    ∃ R', dataPhase bnd start b [] [c] = .ok (P, some (f, R')) ∧ (f = false → R' = R ∨ R' = 10 :: R) := by
  have hstart' : start = true → 0 < lbLen (b ++ c) := fun hs =>
    Nat.lt_of_lt_of_le (hstart hs) (lbLen_append_ge b c)
  cases hspec : dataSpec bnd start (b ++ c) with
  | none =>
    rcases parseData_split_none hb start (b ++ c) [] hstart' (by simpa using hspec) with ⟨p, hp⟩
    rw [hp] at h; simp at h
  | some v =>
    rcases v with ⟨P', f', R0⟩
    rw [parseData_single start (b ++ c) hstart' hspec] at h
    simp only [Except.ok.injEq, Prod.mk.injEq, Option.some.injEq] at h
    rcases h with ⟨rfl, rfl, rfl⟩
    exact parseData_split hb start b [c] hstart (by simpa using hspec)

example :
    (dataPhase (str "bound") false (str "abc\r" ++ str "\n--bound\r\nrest") [] []).toOption =
      some (str "abc", some (false, str "rest")) ∧
    (dataPhase (str "bound") false (str "abc\r") [] [str "\n--bound\r\nrest"]).toOption =
      some (str "abc", some (false, str "rest")) := by
  repeat rw [str_ofList]
  decide +kernel

/-- **searchPos_irrelevant (PREAMBLE).** When `preamble_re` fails on buffer `b`
searched from `sp`, the decoder (as repaired for F01c, f636614) keeps
`_search_position = nextSearchPos`: `max(0, len(b) - len(boundary) - SEARCH_EXTRA_LENGTH)`, lowered to
two bytes before the last `--boundary` found by `b.rfind(b"--" + boundary, sp)`. If no continuation
of the buffer can have a match that starts before the old position (`NoEarly`, true of position 0),
then no continuation can have one that starts before the new position, and for **every** continuation
`c` — any amount of transport padding on the first delimiter included — searching `b ++ c` from the
new position finds the same first delimiter as searching from 0. -/
theorem searchPos_irrelevant {bnd b : Bytes} {sp : Nat} (hsp : NoEarly bnd sp b)
    (hnone : searchDelimFrom bnd true sp b = none) (c : Bytes) :
    NoEarly bnd (nextSearchPos bnd b sp) b ∧
    searchDelimFrom bnd true (nextSearchPos bnd b sp) (b ++ c) = searchDelimFrom bnd true 0 (b ++ c) := by
  have hn : searchDelim bnd true b = none := by rw [← hsp.search]; exact hnone
  have h1 := noEarly_next hsp hn
  exact ⟨h1, h1.search_append c⟩

/-- the same over a whole run: however the bytes searched so far arrived (`chunks`, `preamble_re`
failing after each of them), the position the decoder has kept (`spAfter`) hides nothing: for every
continuation the search from it finds what a search from 0 finds -/
theorem searchPos_irrelevant_run {bnd : Bytes} (chunks : List Bytes) (c : Bytes)
    (hnone : searchDelim bnd true chunks.flatten = none) :
    searchDelimFrom bnd true (spAfter bnd chunks [] 0) (chunks.flatten ++ c) =
      searchDelimFrom bnd true 0 (chunks.flatten ++ c) := by
  have h := spAfter_noEarly chunks [] 0 (NoEarly.zero bnd []) (by simpa using hnone)
  simp only [List.nil_append] at h
  exact h.search_append c

/-- non-vacuity and the F01c input: `--bound` + 20 SP + CRLF, first chunk ending inside the padding.
The old rule would resume at 20 - 5 - 8 = 7 and miss the delimiter; the repaired rule keeps position 0
(two bytes before the pending `--bound`, cut off at 0), the delimiter is found, and the two-chunk decode
of the finding's body yields the field like the single-shot decode -/
example :
    searchDelim (str "bound") true (str "--bound             ") = none ∧
    nextSearchPos (str "bound") (str "--bound             ") 0 = 0 ∧
    nextSearchPos (str "bound") (str "xxxxxxxxxxxxxxxxxxxxxxxxxxxxxx") 0 = 17 ∧
    nextSearchPos (str "bound") (str "xxxxxxxxxx\r\n--bound         ") 0 = 10 ∧
    spAfter (str "bound") [str "xxxxxxxxxx\r", str "\n--bound   ", str "      "] [] 0 = 10 ∧
    searchDelimFrom (str "bound") true 0 (str "--bound             " ++ str "       \r\n") = some (0, 29, false) ∧
    partsOf (decodeChunks (str "bound") none none
      [str "--bound             ",
       str "       \r\nContent-Disposition: form-data; name=\"a\"\r\n\r\nv\r\n--bound--\r\n"]).events =
    partsOf (decodeChunks (str "bound") none none
      [str "--bound                    \r\nContent-Disposition: form-data; name=\"a\"\r\n\r\nv\r\n--bound--\r\n"]).events ∧
    (partsOf (decodeChunks (str "bound") none none
      [str "--bound             ",
       str "       \r\nContent-Disposition: form-data; name=\"a\"\r\n\r\nv\r\n--bound--\r\n"]).events).length = 1 := by
  repeat rw [str_ofList]
  decide +kernel

/-- **searchPos_irrelevant (PART).** The blank-line search resumed at
`max(0, len(b) - SEARCH_EXTRA_LENGTH)` finds the same first blank line as a search from 0, for every
buffer and continuation, unconditionally. -/
theorem searchPos_irrelevant_blank {b c : Bytes} (hnone : searchBlank b = none) :
    searchBlankFrom (b.length - searchExtra) (b ++ c) = searchBlankFrom 0 (b ++ c) := by
  exact (noEarlyBlank_next hnone).search_append c

example : searchBlank (str "Content-Disposition: form-data; name=\"a\"\r\n\r") = none := by
  repeat rw [str_ofList]
  decide +kernel

/-- **decode_chunk_independent, for all three delimiter conventions.** `nl` is the line break the
body uses for its delimiter and header lines: CRLF, bare LF or bare CR. For every boundary without
CR / LF and every body of the form

  preamble · NL `--boundary` NL headers NL NL payload … NL `--boundary--` · ep

(`bodyOf nl bnd ep pr lead parts`): an arbitrary preamble `pr` inside which `preamble_re` matches
nowhere (`PreFree`, decidable: the first delimiter the decoder can find is the intended one — the
preamble may contain line breaks, dashes and even `--boundary` as long as that occurrence is not a
delimiter line; implied by `PreOk`, "does not contain `--boundary`", see `preOk_preFree`; with
`lead = false` the body starts directly with `--boundary`, as browsers send it); any list of parts
satisfying the decidable predicate `ValidPart nl` (fields and files in any order, repeated names,
empty / body-less / non-empty payloads made of line-break runs, dashes, boundary prefixes and
look-alikes, long lines, binary — `PayloadOkNl`: no *line* of the payload starts with `--boundary`,
and the property's side condition as an explicit decidable hypothesis `NoOther`: with bare-LF
delimiters the payload contains no CR, with bare-CR delimiters no LF, no condition for CRLF; Unicode
names; extra headers); arbitrary bytes `ep` after the closing `--boundary--` (a line break, an
epilogue, transport padding, nothing) — and **every** list of chunks whose concatenation is that body:
decoding chunk by chunk raises nothing and yields exactly the same parts — kind, name, filename,
headers, byte-exact payload — as decoding the body in one piece, namely the given parts. The retained
`_search_position` in PREAMBLE and PART, the hold-back in `_parse_data`, DATA_START waiting, a chunk
ending between the CR and LF of a delimiter line, several parts in one chunk … are all covered. -/
theorem decode_chunk_independent_nl {nl : Nl} {bnd : Bytes} (hb : BoundaryOk bnd) (ep pr : Bytes)
    (lead : Bool) (parts : List Part) (hpre : PreFree nl bnd ep pr lead parts)
    (hv : ∀ p ∈ parts, ValidPart nl bnd p)
    (chunks : List Bytes) (hjoin : chunks.flatten = bodyOf nl bnd ep pr lead parts) :
    (decodeChunks bnd none none chunks).err = none ∧
    partsOf (decodeChunks bnd none none chunks).events =
      partsOf (decodeChunks bnd none none [bodyOf nl bnd ep pr lead parts]).events ∧
    partsOf (decodeChunks bnd none none chunks).events = parts.map decodedPart := by
  have h1 := decode_chunks_full_lemma (nl := nl) (ep := ep) hb parts hpre hv chunks hjoin
  have h2 := decode_chunks_full_lemma (nl := nl) (ep := ep) hb parts hpre hv [bodyOf nl bnd ep pr lead parts] (by simp)
  exact ⟨h1.1, by rw [h1.2, h2.2], h1.2⟩

/-- a preamble that does not contain `--boundary` at all (and, for bare-LF bodies, does not end in
CR, which would merge with the delimiter's LF) is admissible, whatever follows -/
theorem preOk_preFree {nl : Nl} {bnd : Bytes} (hb : BoundaryOk bnd) (ep pr : Bytes) (lead : Bool)
    (parts : List Part) (hpre : PreOk nl bnd pr lead) : PreFree nl bnd ep pr lead parts :=
  preFree_of_preOk hb parts hpre

/-- **decode_chunk_independent (CRLF-delimited bodies)**: the case `nl = CRLF`, where the payload is
unrestricted apart from `--boundary` at a line start (`payloadOkNl_crlf`) -/
theorem decode_chunk_independent_partial {bnd : Bytes} (hb : BoundaryOk bnd) (ep pr : Bytes) (lead : Bool)
    (hpre : PreOk .crlf bnd pr lead) (parts : List Part) (hv : ∀ p ∈ parts, ValidPart .crlf bnd p)
    (chunks : List Bytes) (hjoin : chunks.flatten = bodyOf .crlf bnd ep pr lead parts) :
    (decodeChunks bnd none none chunks).err = none ∧
    partsOf (decodeChunks bnd none none chunks).events =
      partsOf (decodeChunks bnd none none [bodyOf .crlf bnd ep pr lead parts]).events ∧
    partsOf (decodeChunks bnd none none chunks).events = parts.map decodedPart :=
  decode_chunk_independent_nl hb ep pr lead parts (preFree_of_preOk hb parts hpre) hv chunks hjoin

/-- the CRLF side conditions in plain terms: any payload without `--boundary` at a line start, any
preamble without `--boundary` -/
theorem crlf_side_conditions (bnd pr payload : Bytes) :
    (PayloadOkNl .crlf bnd payload ↔ PayloadOk bnd payload) ∧
    (PreOk .crlf bnd pr true ↔ containsSub (delim bnd) pr = false) := by
  refine ⟨payloadOkNl_crlf, ?_⟩
  simp [PreOk]

/-- without preamble and with the leading line break the body is `encBody` -/
theorem bodyOf_encBody (bnd ep : Bytes) (parts : List Part) :
    bodyOf .crlf bnd ep [] true parts = encBody .crlf bnd ep parts := bodyOf_nil_true ..

/-- the CRLF body really is the encoder's output -/
theorem encBody_is_encoder_output {bnd : Bytes} (parts : List Part) (hv : ∀ p ∈ parts, ValidPart .crlf bnd p) :
    encodeAll bnd parts = .ok (encBody .crlf bnd stdEp parts) :=
  encodeAll_eq parts hv

/-- non-vacuity: the F01a body (payload `x LF y…`) and a body-less field are valid parts, a preamble
with line breaks and dashes is admissible, and a byte-at-a-time chunking is a chunking -/
example :
    BoundaryOk (str "bound") ∧
    ValidPart .crlf (str "bound") ⟨true, some ['a'], some ['f'], [], str "x\nyyyyyyyyyyyyyyyyyyyyyyyyyyy"⟩ ∧
    ValidPart .crlf (str "bound") ⟨false, some ['b'], none, [], []⟩ ∧
    PreOk .crlf (str "bound") (str "pre\r\namble --boun\r\n--") true ∧ PreOk .crlf (str "bound") [] false ∧
    ¬ PreOk .crlf (str "bound") (str "x --bound y") true ∧
    ((bodyOf .crlf (str "bound") (str "\r\nepilogue") (str "pre") true [⟨false, some ['b'], none, [], []⟩]).map
        fun b => [b]).flatten =
      bodyOf .crlf (str "bound") (str "\r\nepilogue") (str "pre") true [⟨false, some ['b'], none, [], []⟩] := by
  repeat rw [str_ofList]
  decide +kernel

/-- non-vacuity for bare LF / bare CR: payloads with the own newline kind are valid, with the other
kind they are not (the side condition is needed: such bodies decode differently); a bare-LF
preamble may contain CR but not end in it; and the bodies look as expected -/
example :
    ValidPart .lf (str "bound") ⟨false, some ['a'], none, [], str "x\n\n--boun\ny"⟩ ∧
    ¬ ValidPart .lf (str "bound") ⟨false, some ['a'], none, [], str "x\r\ny"⟩ ∧
    ValidPart .cr (str "bound") ⟨true, some ['a'], some ['f'], [], str "\rx\r\r--\r"⟩ ∧
    ¬ ValidPart .cr (str "bound") ⟨false, some ['a'], none, [], str "x\ny"⟩ ∧
    ¬ ValidPart .cr (str "bound") ⟨false, some ['a'], none, [], str "x\r--bound"⟩ ∧
    PreOk .lf (str "bound") (str "pre\r\namble\n") true ∧ ¬ PreOk .lf (str "bound") (str "pre\r") true ∧
    PreOk .cr (str "bound") (str "pre\r") true ∧
    bodyOf .lf (str "b") (str "\n") (str "p") true [⟨false, some ['a'], none, [], str "v"⟩] =
      str "p\n--b\nContent-Disposition: form-data; name=\"a\"\n\nv\n--b--\n" ∧
    bodyOf .cr (str "b") [] [] false [⟨false, some ['a'], none, [], []⟩] =
      str "--b\rContent-Disposition: form-data; name=\"a\"\r\r--b--" := by
  repeat rw [str_ofList]
  decide +kernel

/-- non-vacuity for `PreFree`: preambles that contain `--bound` without it being a delimiter line are
admissible (they are not `PreOk`); one with a real delimiter line (`--bound` + white space + line break,
or `--bound--`) is not -/
example :
    PreFree .crlf (str "bound") stdEp (str "x --boundX\r\n--bound y\r\n--bound-") true
      [⟨false, some ['a'], none, [], str "v"⟩] ∧
    ¬ PreOk .crlf (str "bound") (str "x --boundX\r\n--bound y\r\n--bound-") true ∧
    PreFree .lf (str "bound") [] (str "--bound\tz\n--bounds") true [] ∧
    ¬ PreFree .crlf (str "bound") stdEp (str "x --bound \t\r\nfoo") true [] ∧
    ¬ PreFree .crlf (str "bound") stdEp (str "x--bound--") true [] ∧
    ¬ PreFree .crlf (str "bound") stdEp (str "x--bound \t") true [] := by
  repeat rw [str_ofList]
  decide +kernel

/-- **formParse_read_independent (one level up), for all three delimiter conventions.** For every
such body, `MultiPartParser(buffer_size=k).parse` over a stream that delivers short reads returns the
same form fields and files for **every** `buffer_size` and **every** read schedule: the fields (name,
value decoded with the part's charset) and files (name, filename, headers, byte-exact content) of the
parts, in order (`formOfParts`); a part whose charset cannot be determined fails the same way for
every schedule. -/
theorem formParse_read_independent_nl {nl : Nl} {bnd : Bytes} (hb : BoundaryOk bnd) (ep pr : Bytes)
    (lead : Bool) (parts : List Part) (hpre : PreFree nl bnd ep pr lead parts)
    (hv : ∀ p ∈ parts, ValidPart nl bnd p) (bufSize : Nat) (sched : List Nat) :
    formParse bnd none none bufSize sched (bodyOf nl bnd ep pr lead parts) =
      formOfParts ([], []) (parts.map decodedPart) :=
  formParse_lemma (nl := nl) (ep := ep) hb parts hpre hv bufSize sched

/-- in particular any two buffer sizes / schedules agree, e.g. byte-at-a-time and one full read -/
theorem formParse_bufsize_irrelevant_nl {nl : Nl} {bnd : Bytes} (hb : BoundaryOk bnd) (ep pr : Bytes)
    (lead : Bool) (parts : List Part) (hpre : PreFree nl bnd ep pr lead parts)
    (hv : ∀ p ∈ parts, ValidPart nl bnd p) (b1 b2 : Nat) (s1 s2 : List Nat) :
    formParse bnd none none b1 s1 (bodyOf nl bnd ep pr lead parts) =
      formParse bnd none none b2 s2 (bodyOf nl bnd ep pr lead parts) := by
  rw [formParse_read_independent_nl hb ep pr lead parts hpre hv,
    formParse_read_independent_nl hb ep pr lead parts hpre hv]

/-- **formParse_read_independent (CRLF-delimited bodies)** -/
theorem formParse_read_independent {bnd : Bytes} (hb : BoundaryOk bnd) (ep pr : Bytes) (lead : Bool)
    (hpre : PreOk .crlf bnd pr lead) (parts : List Part) (hv : ∀ p ∈ parts, ValidPart .crlf bnd p)
    (bufSize : Nat) (sched : List Nat) :
    formParse bnd none none bufSize sched (bodyOf .crlf bnd ep pr lead parts) =
      formOfParts ([], []) (parts.map decodedPart) :=
  formParse_read_independent_nl hb ep pr lead parts (preFree_of_preOk hb parts hpre) hv bufSize sched

/-- **formParse_bufsize_irrelevant (CRLF-delimited bodies)** -/
theorem formParse_bufsize_irrelevant {bnd : Bytes} (hb : BoundaryOk bnd) (ep pr : Bytes) (lead : Bool)
    (hpre : PreOk .crlf bnd pr lead) (parts : List Part) (hv : ∀ p ∈ parts, ValidPart .crlf bnd p)
    (b1 b2 : Nat) (s1 s2 : List Nat) :
    formParse bnd none none b1 s1 (bodyOf .crlf bnd ep pr lead parts) =
      formParse bnd none none b2 s2 (bodyOf .crlf bnd ep pr lead parts) :=
  formParse_bufsize_irrelevant_nl hb ep pr lead parts (preFree_of_preOk hb parts hpre) hv b1 b2 s1 s2

/-- non-vacuity / sanity: a field and a file, read one byte at a time -/
example :
    (formParse (str "b") none none 1 []
      (bodyOf .crlf (str "b") stdEp [] false [⟨false, some ['a'], none, [], str "v\r\n-"⟩,
                          ⟨true, some ['f'], some ['x'], [], [0, 255]⟩])).toOption =
    some ([(some ['a'], "v\r\n-".toList)],
          [⟨some ['f'], ['x'], [("Content-Disposition".toList, "form-data; name=\"f\"; filename=\"x\"".toList)],
            [0, 255]⟩]) := by
  repeat rw [str_ofList]
  repeat rw [String.toList_ofList]
  rw [formParse_read_independent (by decide +kernel) _ _ _ (by decide +kernel) _ (by decide +kernel)]
  decide +kernel

/-- the same through bare-LF and bare-CR bodies, read three bytes at a time -/
example :
    (formParse (str "b") none none 3 []
      (bodyOf .lf (str "b") (str "\n") (str "pre") true [⟨false, some ['a'], none, [], str "v\n-"⟩])).toOption =
      some ([(some ['a'], "v\n-".toList)], []) := by
  repeat rw [str_ofList]
  repeat rw [String.toList_ofList]
  rw [formParse_read_independent_nl (by decide +kernel) _ _ _ _ (by decide +kernel) (by decide +kernel)]
  decide +kernel

example :
    (formParse (str "b") none none 3 []
      (bodyOf .cr (str "b") [] [] false [⟨false, some ['a'], none, [], str "v\r-"⟩])).toOption =
      some ([(some ['a'], "v\r-".toList)], []) := by
  repeat rw [str_ofList]
  repeat rw [String.toList_ofList]
  rw [formParse_read_independent_nl (by decide +kernel) _ _ _ _ (by decide +kernel) (by decide +kernel)]
  decide +kernel

/-- **decode_chunk_independent, arbitrary header blocks.** The most general form: a part is given by
the raw bytes of its header block and its payload (`RawPart`), and must satisfy the decidable
predicate `RawOk nl bnd`:

* the header block is not empty and does not start with a line break (CR / LF) — it may start with
  white space (SP, TAB, VT, FF: `_parse_headers` strips it; when a chunk ends between the CR and LF of
  the delimiter line, the stray LF in front of SP / TAB is folded away as a continuation, in front of
  anything else it is an empty line);
* its first blank line is the `NL NL` that ends it (no earlier blank line — inside the block any mix
  of CRLF / LF / CR line breaks, folded continuation lines, white space around names, colons and
  values, lines without a colon, any header order and letter case are allowed);
* the decoder makes a Field / File event of it (`headEvent`, i.e. `_parse_headers` succeeds, a
  Content-Disposition header is present and `parse_options_header` accepts it — the name may even be
  missing);
* the transport padding (`pad`) that follows `--boundary` on the delimiter line in front of the part
  is horizontal white space — **any amount**, on the first delimiter line (the F01c input class,
  repaired by f636614) as on the later ones;
* the payload has no line starting with `--boundary` and is free of the other newline kind.

For every boundary without CR / LF, every admissible preamble (`PreFreeR`), every list of such parts,
every `ep`, every line-break convention `nl` of the delimiter lines and **every** chunking of the
body: decoding chunk by chunk raises nothing and yields the same parts as decoding in one piece,
namely `RawPart.out` of each part (the part `next_event` reports for the header block, with the
payload). The theorems for `Name: value` header lines above are the instance `rawOf` of this one. -/
theorem decode_chunk_independent_raw {nl : Nl} {bnd : Bytes} (hb : BoundaryOk bnd) (ep pr : Bytes)
    (lead : Bool) (parts : List RawPart) (hpre : PreFreeR nl bnd ep pr lead parts)
    (hv : ∀ p ∈ parts, RawOk nl bnd p)
    (chunks : List Bytes) (hjoin : chunks.flatten = bodyOfR nl bnd ep pr lead parts) :
    (decodeChunks bnd none none chunks).err = none ∧
    partsOf (decodeChunks bnd none none chunks).events =
      partsOf (decodeChunks bnd none none [bodyOfR nl bnd ep pr lead parts]).events ∧
    partsOf (decodeChunks bnd none none chunks).events = parts.map RawPart.out := by
  have h1 := decode_chunks_full_raw (nl := nl) (ep := ep) hb parts hpre hv chunks hjoin
  have h2 := decode_chunks_full_raw (nl := nl) (ep := ep) hb parts hpre hv [bodyOfR nl bnd ep pr lead parts] (by simp)
  exact ⟨h1.1, by rw [h1.2, h2.2], h1.2⟩

/-- **formParse_read_independent, arbitrary header blocks** -/
theorem formParse_read_independent_raw {nl : Nl} {bnd : Bytes} (hb : BoundaryOk bnd) (ep pr : Bytes)
    (lead : Bool) (parts : List RawPart) (hpre : PreFreeR nl bnd ep pr lead parts)
    (hv : ∀ p ∈ parts, RawOk nl bnd p) (bufSize : Nat) (sched : List Nat) :
    formParse bnd none none bufSize sched (bodyOfR nl bnd ep pr lead parts) =
      formOfParts ([], []) (parts.map RawPart.out) :=
  formParse_raw (nl := nl) (ep := ep) hb parts hpre hv bufSize sched

/-- any two buffer sizes / read schedules agree -/
theorem formParse_bufsize_irrelevant_raw {nl : Nl} {bnd : Bytes} (hb : BoundaryOk bnd) (ep pr : Bytes)
    (lead : Bool) (parts : List RawPart) (hpre : PreFreeR nl bnd ep pr lead parts)
    (hv : ∀ p ∈ parts, RawOk nl bnd p) (b1 b2 : Nat) (s1 s2 : List Nat) :
    formParse bnd none none b1 s1 (bodyOfR nl bnd ep pr lead parts) =
      formParse bnd none none b2 s2 (bodyOfR nl bnd ep pr lead parts) := by
  rw [formParse_read_independent_raw hb ep pr lead parts hpre hv,
    formParse_read_independent_raw hb ep pr lead parts hpre hv]

/-- the parts with `Name: value` header lines are raw parts: same body, same side conditions, same
result -/
theorem validPart_is_raw {nl : Nl} {bnd : Bytes} (ep pr : Bytes) (lead : Bool) (parts : List Part)
    (hv : ∀ p ∈ parts, ValidPart nl bnd p) :
    (∀ q ∈ parts.map (rawOf nl), RawOk nl bnd q) ∧
    (parts.map (rawOf nl)).map RawPart.out = parts.map decodedPart ∧
    bodyOfR nl bnd ep pr lead (parts.map (rawOf nl)) = bodyOf nl bnd ep pr lead parts ∧
    (PreFree nl bnd ep pr lead parts → PreFreeR nl bnd ep pr lead (parts.map (rawOf nl))) :=
  ⟨rawOk_map hv, map_rawOf_out parts hv, bodyOf_raw bnd parts, preFree_raw⟩

/-- a preamble that does not contain `--boundary` is admissible in front of raw parts too -/
theorem preOk_preFreeR {nl : Nl} {bnd : Bytes} (hb : BoundaryOk bnd) (ep pr : Bytes) (lead : Bool)
    (parts : List RawPart) (hpre : PreOk nl bnd pr lead) : PreFreeR nl bnd ep pr lead parts :=
  preFreeR_of_preOk hb parts hpre

/-- non-vacuity: a header block with a lower-case name, no space after the colon, a folded
continuation line, white space around a name and a value, LF / CR / CRLF line breaks mixed inside the
block and Content-Type after Content-Disposition is admissible under all three conventions, and the
decoder reports the expected part, and so is a block that starts with white space (SP, TAB or VT);
blocks that start with a line break, contain a blank line, lack
Content-Disposition or end in CR (which would merge with a CRLF / CR blank line) are not; 40 bytes of
transport padding on the delimiter line are admissible, padding that is not white space is not -/
example :
    let r : RawPart := ⟨str "content-disposition:form-data;\r\n\tname=a\nX-Foo :  bar \rContent-Type: text/plain", str "v", str " \t \x0b                                   "⟩
    RawOk .crlf (str "b") r ∧ RawOk .lf (str "b") r ∧ RawOk .cr (str "b") r ∧
    r.out = ⟨false, some ['a'], none,
      [("content-disposition".toList, "form-data; name=a".toList), ("X-Foo".toList, "bar".toList),
       ("Content-Type".toList, "text/plain".toList)], str "v"⟩ ∧
    RawOk .crlf (str "b") ⟨str "Content-Disposition: form-data", [], []⟩ ∧
    RawOk .crlf (str "b") ⟨str " Content-Disposition: form-data; name=a", [], []⟩ ∧
    RawOk .crlf (str "b") ⟨str "\t Content-Disposition: form-data; name=a", [], []⟩ ∧
    RawOk .lf (str "b") ⟨str "\x0bContent-Disposition: form-data; name=a", [], []⟩ ∧
    ¬ RawOk .crlf (str "b") ⟨str "\nContent-Disposition: form-data; name=a", [], []⟩ ∧
    ¬ RawOk .crlf (str "b") ⟨[], [], []⟩ ∧
    ¬ RawOk .crlf (str "b") ⟨str "Content-Disposition: form-data; name=a\r\n\r\nX: y", [], []⟩ ∧
    ¬ RawOk .crlf (str "b") ⟨str "Content-Type: text/plain", [], []⟩ ∧
    ¬ RawOk .cr (str "b") ⟨str "Content-Disposition: form-data; name=a\r", [], []⟩ ∧
    ¬ RawOk .crlf (str "b") ⟨str "Content-Disposition: form-data; name=a", [], str " x"⟩ := by
  repeat rw [str_ofList]
  repeat rw [String.toList_ofList]
  decide +kernel

/-- sanity: such a body through the form parser, two bytes at a time, with a preamble that contains a
near-delimiter and the F01c amount of transport padding (20 SP) on the first delimiter line, some on
the second -/
example :
    (formParse (str "b") none none 2 []
      (bodyOfR .crlf (str "b") (str "\r\n") (str "x --bz") true
        [⟨str "content-disposition:form-data;\r\n\tname=a\nX-Foo :  bar \rContent-Type: text/plain", str "v", str "                    "⟩,
         ⟨str "Content-Disposition: form-data; name=f; filename=\"q\"", [0, 255], str " \t"⟩])).toOption =
    some ([(some ['a'], ['v'])],
          [⟨some ['f'], ['q'], [("Content-Disposition".toList, "form-data; name=f; filename=\"q\"".toList)],
            [0, 255]⟩]) := by
  repeat rw [str_ofList]
  repeat rw [String.toList_ofList]
  decide +kernel

/-
OPEN — not proved:

-- OPEN: decode_chunk_independent for the rest of the property's grammar: bodies that mix line-break
-- conventions between delimiter lines (stream-covered).

-- OPEN: drain_split — for every decoder configuration reachable from `mkDecoder` and bytes c₁ c₂,
--   feed c₁ ; drain ; feed c₂ ; drain  ≈  feed (c₁ ++ c₂) ; drain
-- as an equivalence on configurations (the theorem above is stated on whole runs instead).
-/

end Wz.Props.C01
