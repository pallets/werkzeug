/-
C12T2 — the rule side of the redirects (C12T holds the URL side): `Rule.suitable_for`, `Rule.build_compare_key` and `Rule.provides_defaults_for`
(`werkzeug/routing/rules.py`) *as regenerated from the source* by `tools/py2lean.py`
(`Gen/PyFns_RoutingRule.lean`, rewritten on every check run) equal the hand-written
`Rule.suitableFor`, `Rule.buildCompareKey` (`Model/RoutingBuild.lean`) and `providesDefaultsFor`
(`Model/RoutingAdapter.lean`) for every rule, values dict and method; `self.defaults` may be `None`, `{}`
or a dict. Values of URL variables are a type parameter whose `==` is a parameter (the model's
`Value.pyEq` in the theorems); `Rule.__eq__`, the endpoint comparison and the set comparison of the
argument sets are parameters of `provides_defaults_for`. `MapAdapter.get_default_redirect`
(`routing/map.py`) equals `getDefaultRedirect` (`Model/RoutingAdapter.lean`) with the rule objects'
methods as parameters.
Helper lemmas: `Lemmas/PyFnsEq_RoutingRule.lean`.
-/
import WzVerif.Lemmas.PyFnsEq_RoutingRule
import WzVerif.Model.RoutingAdapter
import WzVerif.Lemmas.RoutingDict
namespace Wz.Props.C12T2
open Wz Wz.Routing Wz.Gen.PyFns_RoutingRule
open Wz.PyFnsEq.RoutingRule

/-- `values[key]` and the model's `lookupVal` read the same entry, also when a key is repeated in the
association list (both take the first); `KeyError` exactly when `lookupVal` finds nothing -/
theorem dictGetItem_eq_lookupVal (values : List (Str × Value)) (k : Str) :
    Pre.dictGetItem values k =
      (match lookupVal k values with | some v => .ok v | none => .error "KeyError") :=
  PyFnsEq.RoutingRule.dictGetItem_eq_lookupVal values k

/-- `Rule.suitable_for(values, method)` as translated from the source returns, without raising, what the
model's `Rule.suitableFor` returns; `d` is `self.defaults` (`None`, `{}` or a dict) and the model's
`r.defaults` its list reading; `==` is `Value.pyEq` with the default as the left operand on both sides -/
theorem rule_suitable_for_eq (r : Routing.Rule) (d : Option (List (Str × Value)))
    (hd : d.getD [] = r.defaults) (values : List (Str × Value)) (method : Option Str) :
    rule_suitable_for (fun a b => a.pyEq b) r.methods d r.arguments values method
      = .ok (r.suitableFor values method) := by
  rw [rule_suitable_for_unfold, hd, suitableBody_eq, suitableFor_split]
  cases method <;> cases hm : r.methods <;> simp [methodOk, hm]
  split <;> simp_all

/-- `Rule.build_compare_key()` as translated from the source is the model's `Rule.buildCompareKey`
(`self.alias` is the model's `r.alias = r.spec.alias`); `d` is `self.defaults` as above -/
theorem rule_build_compare_key_eq (r : Routing.Rule) (d : Option (List (Str × Value)))
    (hd : d.getD [] = r.defaults) :
    rule_build_compare_key r.alias r.arguments d = r.buildCompareKey :=
  PyFnsEq.RoutingRule.rule_build_compare_key_eq r d hd

/-- `Rule.provides_defaults_for(rule)` as translated from the source is the model's
`providesDefaultsFor`, the three comparisons of the source being read as: `self.endpoint == rule.endpoint`
= equality of the endpoints, `self != rule` = the traces differ (`Rule.__eq__` compares `_trace`),
`self.arguments == rule.arguments` = equality of the argument sets (`sameSet`) -/
theorem rule_provides_defaults_for_eq (cfg : MapCfg) (r rule : Routing.Rule)
    (d : Option (List (Str × Value))) (hd : d.getD [] = r.defaults) :
    rule_provides_defaults_for (r.endpoint == rule.endpoint) (r.trace cfg != rule.trace cfg)
      (sameSet r.arguments rule.arguments) r.spec.buildOnly d () = providesDefaultsFor cfg r rule := by
  unfold rule_provides_defaults_for providesDefaultsFor
  cases d with
  | none =>
    simp only [Option.getD_none] at hd
    rw [← hd]; simp
  | some l =>
    simp only [Option.getD_some] at hd
    subst hd
    rfl

/-- `Rule.suitable_for` as translated never raises (the `KeyError` of `values[key]` is unreachable),
whatever the type of the values and whatever `==` does -/
theorem rule_suitable_for_ok {V : Type} (veq : V → V → Bool) (ms : Option (List Str))
    (d : Option (List (Str × V))) (args : List Str) (values : List (Str × V)) (method : Option Str) :
    ∃ b, rule_suitable_for veq ms d args values method = .ok b := by
  rw [rule_suitable_for_unfold]
  -- the method test answers `False`, or the two loops do, which do not raise
  have both : ∀ (c : Prop) [Decidable c] (A B : Except String Bool), (∃ b, A = .ok b) → (∃ b, B = .ok b) →
      ∃ b, (if c then A else B) = .ok b := by
    intro c _ A B hA hB; split <;> assumption
  exact both _ _ _ ⟨false, rfl⟩ (suitableBody_ok veq args values _)

/-- the prelude's `d[k] = v` is the routing model's -/
theorem dictSet_eq (d : List (Str × Value)) (k : Str) (v : Value) : Pre.dictSet d k v = Routing.dictSet d k v :=
  (Routing.dictSet_eq d k v).symm

/-- what `get_default_redirect` does with the outcome of its loop (`break` and the end of the list both
lead to `return None`) -/
def loopOutR {σ β : Type} : Pre.LoopB (Except String (Option Str)) σ β → Except String (Option Str)
  | .ret r => r
  | .fall _ => .ok none
  | .brk _ => .ok none

/-- the prelude's `d.update(pairs)` is the routing model's -/
theorem dictUpdate_eq (u d : List (Str × Value)) : Pre.dictUpdate d u = Routing.dictUpdate d u :=
  (Routing.dictUpdate_eq d u).symm

/-- `MapAdapter.get_default_redirect(rule, method, values, query_args)`, as translated from the current
source (the `assert`, the walk over the rules of the endpoint up to the matched rule itself - `break` -,
the first rule that provides defaults and is suitable: `values.update(r.defaults)`, `r.build(values)`,
`make_redirect_url(path, query_args, domain_part=…)`; `None` otherwise), is the model's
`getDefaultRedirect` for every map, adapter, matched rule, method, values and candidate list, once what
it asks of the rule objects is the model's (`idx` for identity, `providesDefaultsFor`, `suitableFor`,
`defaults`, `build`, `makeRedirectUrl`). -/
theorem get_default_redirect_eq (m : RMap) (a : Adapter) (rule : Rule) (method : Str)
    (values : List (Str × Value)) (qa : QueryArgs) (cands : List Rule) :
    get_default_redirect cands (fun r => r.idx == rule.idx) (fun r => providesDefaultsFor m.cfg r rule)
        (fun r v me => r.suitableFor v (some me)) (fun r => r.defaults) (fun r v => r.build m.cfg v true)
        (fun path dom => makeRedirectUrl m.cfg.hostMatching a path qa (some dom)) true rule method values ()
      = getDefaultRedirect m a rule method values qa cands := by
  have h : ∀ (l : List Rule),
      loopOutR (get_default_redirect.loop1 cands (fun r => r.idx == rule.idx) (fun r => providesDefaultsFor m.cfg r rule)
          (fun r v me => r.suitableFor v (some me)) (fun r => r.defaults) (fun r v => r.build m.cfg v true)
          (fun path dom => makeRedirectUrl m.cfg.hostMatching a path qa (some dom)) rule method l values)
        = getDefaultRedirect m a rule method values qa l := by
    intro l
    induction l with
    | nil => rfl
    | cons r t ih =>
      unfold get_default_redirect.loop1 getDefaultRedirect
      by_cases hs : (r.idx == rule.idx) = true
      · simp [hs, loopOutR]
      · simp only [hs, Bool.false_eq_true, if_false]
        by_cases hp : (providesDefaultsFor m.cfg r rule && r.suitableFor values (some method)) = true
        · simp only [hp, if_true, dictUpdate_eq]
          cases r.build m.cfg (Routing.dictUpdate values r.defaults) true with
          | error e => rfl
          | ok p => rfl
        · simp only [hp, Bool.false_eq_true, if_false]
          exact ih
  unfold get_default_redirect
  simp only [Bool.not_true, Bool.false_eq_true, if_false]
  have hc := h cands
  cases hx : get_default_redirect.loop1 cands (fun r => r.idx == rule.idx) (fun r => providesDefaultsFor m.cfg r rule)
      (fun r v me => r.suitableFor v (some me)) (fun r => r.defaults) (fun r v => r.build m.cfg v true)
      (fun path dom => makeRedirectUrl m.cfg.hostMatching a path qa (some dom)) rule method cands values with
  | ret r => rw [hx] at hc; exact hc
  | fall s => rw [hx] at hc; exact hc
  | brk b => rw [hx] at hc; exact hc

/-- without `redirect_defaults` the method's `assert` fails (it is only called under that flag) -/
theorem get_default_redirect_assert {R V : Type} (cands : List R) (sr pr : R → Bool) (su : R → List (Str × V) → Str → Bool)
    (df : R → List (Str × V)) (bd : R → List (Str × V) → Except String (Str × Str)) (ru : Str → Str → Str)
    (rule : R) (method : Str) (values : List (Str × V)) :
    get_default_redirect cands sr pr su df bd ru false rule method values () = .error "AssertionError" := rfl

end Wz.Props.C12T2
