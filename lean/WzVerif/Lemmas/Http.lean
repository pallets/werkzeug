/-
`quote_header_value` / `unquote_header_value`, `dump_header` / `parse_list_header` and `parse_dict_header` (C06).
urllib's `parse_http_list` is a four-state scanner; `Scans w im` says what it makes of a written piece `w` (it un-escapes
while it scans: `quoteImage`), and `parseHttpList_join` splits comma-joined pieces that scan to non-empty tight images
into those images. Lists, `key=value` dicts (general in the per-key `allow_token` rule: `paramText`, which is also the
segment of an options header and the Digest parameter), cache-control and the auth parameters are its instances.
The charset names an RFC 2231 value may carry (`encOfNameDict_spec`, `encOfName_eq_dict`) stand here for the dict
item and the options segment alike.
-/
import WzVerif.Lemmas.HttpClass
namespace Wz.Http
open Wz

def escUnit (c : Char) : Str :=
  if c = '\\' then ['\\', '\\'] else if c = '"' then ['\\', '"'] else [c]

/-- the two `replace` calls of `quote_header_value` as one pass: `\` and `"` get a backslash in front -/
theorem escapeDq_eq (v : Str) : escapeDq v = v.flatMap escUnit := by
  rw [escapeDq, replace1, replace1, List.flatMap_assoc]
  congr 1
  funext c
  by_cases h1 : c = '\\'
  · subst h1; simp [escUnit]
  · by_cases h2 : c = '"'
    · subst h2; simp [escUnit]
    · simp [escUnit, h1, h2]

theorem escapeDq_nil : escapeDq [] = [] := by rw [escapeDq_eq]; rfl

theorem escapeDq_cons (c : Char) (t : Str) : escapeDq (c :: t) = escUnit c ++ escapeDq t := by
  rw [escapeDq_eq, escapeDq_eq, List.flatMap_cons]

theorem escapeDq_rec {motive : Str → Str → Prop} (nil : motive [] [])
    (backslash : ∀ t e, motive t e → motive ('\\' :: t) ('\\' :: '\\' :: e))
    (quote : ∀ t e, motive t e → motive ('"' :: t) ('\\' :: '"' :: e))
    (other : ∀ c t e, c ≠ '\\' → c ≠ '"' → motive t e → motive (c :: t) (c :: e)) :
    ∀ v, motive v (escapeDq v) := by
  intro v
  induction v with
  | nil => rw [escapeDq_nil]; exact nil
  | cons c t ih =>
    rw [escapeDq_cons, escUnit]
    by_cases h1 : c = '\\'
    · subst h1; exact backslash t _ ih
    · by_cases h2 : c = '"'
      · subst h2; exact quote t _ ih
      · rw [if_neg h1, if_neg h2]; exact other c t _ h1 h2 ih

theorem replace2_cons_ne {a b x : Char} {r t : Str} (h : x ≠ a) :
    replace2 a b r (x :: t) = x :: replace2 a b r t := by
  cases t with
  | nil => simp [replace2]
  | cons y t' => simp [replace2, h]

theorem replace2_cons_ne2 {a b x y : Char} {r t : Str} (h : y ≠ b) :
    replace2 a b r (x :: y :: t) = x :: replace2 a b r (y :: t) := by
  simp [replace2, h]

/-- after the first pass (`\\` → `\`) the escaped text has one `\` per `\` and `\"` per `"` -/
def midUnit (c : Char) : Str := if c = '"' then ['\\', '"'] else [c]

theorem unescape_backslashes (v : Str) : replace2 '\\' '\\' ['\\'] (escapeDq v) = v.flatMap midUnit :=
  escapeDq_rec (motive := fun v e => replace2 '\\' '\\' ['\\'] e = v.flatMap midUnit)
    (by simp [replace2])
    (fun t e ih => by simp [replace2, midUnit, ih])
    (fun t e ih => by
      rw [replace2_cons_ne2 (by decide), replace2_cons_ne (by decide), ih]
      simp [midUnit])
    (fun c t e h1 h2 ih => by rw [replace2_cons_ne h1, ih]; simp [midUnit, h2]) v

theorem midUnit_head_ne_dq (t : Str) : ∀ x r, t.flatMap midUnit = x :: r → x ≠ '"' := by
  intro x r h
  cases t with
  | nil => simp at h
  | cons c t' =>
    simp only [List.flatMap_cons, midUnit] at h
    by_cases h2 : c = '"'
    · subst h2; simp at h; rw [← h.1]; decide
    · simp [h2] at h; rw [← h.1]; exact h2

theorem unescape_quotes (v : Str) : replace2 '\\' '"' ['"'] (v.flatMap midUnit) = v := by
  induction v with
  | nil => simp [replace2]
  | cons c t ih =>
    simp only [List.flatMap_cons]
    by_cases h2 : c = '"'
    · subst h2
      simp [midUnit, replace2, ih]
    · simp only [midUnit, h2, if_false, List.cons_append, List.nil_append]
      by_cases h1 : c = '\\'
      · subst h1
        cases hm : t.flatMap midUnit with
        | nil => rw [hm] at ih; simp [replace2] at ih ⊢; exact ih
        | cons y r =>
          have hy := midUnit_head_ne_dq t y r hm
          rw [replace2_cons_ne2 hy, ← hm, ih]
      · rw [replace2_cons_ne h1, ih]

theorem unescape_escape (v : Str) : unescapeDq (escapeDq v) = v := by
  rw [unescapeDq, unescape_backslashes, unescape_quotes]

theorem stripDq_wrap (s : Str) : stripDq? ('"' :: (s ++ ['"'])) = some s := by
  simp [stripDq?]

theorem stripDq_none_of_head {c : Char} {t : Str} (h : c ≠ '"') : stripDq? (c :: t) = none := by
  unfold stripDq?
  split
  · next rest heq => simp at heq; exact absurd heq.1 h
  · rfl

theorem stripDq_nil : stripDq? [] = none := by simp [stripDq?]

/-- scanning `w` outside quotes appends `im` to the current part and ends outside quotes -/
def Scans (w im : Str) : Prop :=
  ∀ rest p, httpListGo false false (w ++ rest) p = httpListGo false false rest (im.reverse ++ p)

theorem Scans.append {w1 im1 w2 im2 : Str} (h1 : Scans w1 im1) (h2 : Scans w2 im2) :
    Scans (w1 ++ w2) (im1 ++ im2) := by
  intro rest p
  rw [List.append_assoc, h1, h2]
  simp

theorem scans_token {v : Str} (hv : v.all isToken = true) : Scans v v := by
  intro rest p
  induction v generalizing p with
  | nil => simp
  | cons c t ih =>
    simp only [List.all_cons, Bool.and_eq_true] at hv
    simp [httpListGo, isToken_ne_comma hv.1, isToken_ne_dq hv.1, ih hv.2]

theorem scans_eq : Scans ['='] ['='] := by
  intro rest p; simp [httpListGo]

theorem httpListGo_quoted (v rest p : Str) :
    httpListGo false true (escapeDq v ++ rest) p = httpListGo false true rest (v.reverse ++ p) :=
  escapeDq_rec (motive := fun v e => ∀ p, httpListGo false true (e ++ rest) p = httpListGo false true rest (v.reverse ++ p))
    (fun p => by simp)
    (fun t e ih p => by simp [httpListGo, ih])
    (fun t e ih p => by simp [httpListGo, ih])
    (fun c t e h1 h2 ih p => by simp [httpListGo, h1, h2, ih]) v p

theorem scans_quoted (v : Str) : Scans ('"' :: (escapeDq v ++ ['"'])) ('"' :: (v ++ ['"'])) := by
  intro rest p
  simp [httpListGo, httpListGo_quoted]

theorem httpListGo_join (w im : Str) (ws : List (Str × Str)) (p : Str)
    (h : Scans w im) (hne : im ≠ [])
    (hs : ∀ x ∈ ws, Scans x.1 x.2 ∧ x.2 ≠ []) :
    httpListGo false false (join ", " (w :: ws.map (·.1))) p
      = (p.reverse ++ im) :: ws.map (fun x => ' ' :: x.2) := by
  induction ws generalizing w im p with
  | nil =>
    have := h [] p
    simp only [List.append_nil] at this
    simp [join, List.intercalate_singleton, this, httpListGo, hne]
  | cons x xs ih =>
    simp only [join, List.map_cons, List.intercalate_cons_cons] at ih ⊢
    rw [List.append_assoc, h]
    rw [commaSpace_toList]
    simp only [List.cons_append, List.nil_append, httpListGo]
    simp
    have hx := hs x (by simp)
    have := ih x.1 x.2 [' '] hx.1 hx.2 (fun y hy => hs y (by simp [hy]))
    simp at this
    exact this

theorem parseHttpList_join {α : Type} (l : List α) (text image : α → Str)
    (hs : ∀ x ∈ l, Scans (text x) (image x) ∧ Tight (image x) ∧ image x ≠ []) :
    parseHttpList (join ", " (l.map text)) = l.map image := by
  cases l with
  | nil => simp [parseHttpList, join, httpListGo]
  | cons x xs =>
    unfold parseHttpList
    have hx := hs x (by simp)
    have := httpListGo_join (text x) (image x) (xs.map fun y => (text y, image y)) [] hx.1 hx.2.2 (by
      simp only [List.mem_map]
      rintro _ ⟨y, hy, rfl⟩
      exact ⟨(hs y (by simp [hy])).1, (hs y (by simp [hy])).2.2⟩)
    simp only [List.map_map, Function.comp_def] at this
    rw [List.map_cons, this]
    simp only [List.reverse_nil, List.nil_append, List.map_cons, List.map_map]
    rw [strip_tight hx.2.1]
    congr 1
    apply List.map_congr_left
    intro y hy
    exact strip_space_tight (hs y (by simp [hy])).2.1

/-- the text `parse_http_list` accumulates for `quote_header_value(v, allow_token)` -/
def quoteImage (v : Str) (allow : Bool := true) : Str :=
  if !v.isEmpty && (allow && v.all isToken) then v else '"' :: (v ++ ['"'])

theorem quote_cases_image (v : Str) (allow : Bool) :
    (v ≠ [] ∧ v.all isToken = true ∧ quoteHeaderValue v allow = v ∧ quoteImage v allow = v) ∨
    (quoteHeaderValue v allow = '"' :: (escapeDq v ++ ['"']) ∧ quoteImage v allow = '"' :: (v ++ ['"'])) := by
  unfold quoteHeaderValue quoteImage
  cases v with
  | nil => right; simp [escapeDq_nil]
  | cons c t =>
    have he : (c :: t).isEmpty = false := rfl
    cases h1 : allow && (c :: t).all isToken
    · right
      simp only [he, Bool.not_false, Bool.true_and, Bool.false_eq_true, if_false]
      exact ⟨rfl, trivial⟩
    · left
      simp only [he, Bool.not_false, Bool.true_and, Bool.false_eq_true, if_false, if_true, and_self, and_true]
      exact ⟨by simp, (Bool.and_eq_true_iff.1 h1).2⟩

theorem unquote_quote_any (v : Str) (allow : Bool) :
    unquoteHeaderValue (quoteHeaderValue v allow) = v := by
  rcases quote_cases_image v allow with ⟨h0, h1, hq, _⟩ | ⟨hq, _⟩ <;> rw [hq, unquoteHeaderValue]
  · cases v with
    | nil => exact absurd rfl h0
    | cons c t =>
      simp only [List.all_cons, Bool.and_eq_true] at h1
      rw [stripDq_none_of_head (isToken_ne_dq h1.1)]
  · rw [stripDq_wrap]; exact unescape_escape v

theorem scans_quote (v : Str) (allow : Bool) : Scans (quoteHeaderValue v allow) (quoteImage v allow) := by
  rcases quote_cases_image v allow with ⟨_, h1, hq, hi⟩ | ⟨hq, hi⟩ <;> rw [hq, hi]
  · exact scans_token h1
  · exact scans_quoted v

theorem quote_last (v : Str) (allow : Bool) (c : Char) (h : (quoteHeaderValue v allow).getLast? = some c) :
    c = '"' ∨ isToken c = true := by
  rcases quote_cases_image v allow with ⟨_, h1, hq, _⟩ | ⟨hq, _⟩ <;> rw [hq] at h
  · exact Or.inr (List.all_eq_true.1 h1 c (List.mem_of_getLast? h))
  · rw [← List.cons_append, List.getLast?_concat] at h
    exact Or.inl (by simpa using h.symm)

theorem quoteImage_last (v : Str) (allow : Bool) (c : Char) (h : (quoteImage v allow).getLast? = some c) :
    c = '"' ∨ isToken c = true := by
  rcases quote_cases_image v allow with ⟨_, h1, _, hi⟩ | ⟨_, hi⟩ <;> rw [hi] at h
  · exact Or.inr (List.all_eq_true.1 h1 c (List.mem_of_getLast? h))
  · rw [← List.cons_append, List.getLast?_concat] at h
    exact Or.inl (by simpa using h.symm)

theorem quoteImage_ne_nil (v : Str) (allow : Bool := true) : quoteImage v allow ≠ [] := by
  rcases quote_cases_image v allow with ⟨h0, _, _, hi⟩ | ⟨_, hi⟩ <;> rw [hi]
  · exact h0
  · simp

theorem quoteImage_tight (v : Str) (allow : Bool := true) : Tight (quoteImage v allow) := by
  refine ⟨fun c hc => ?_, fun c hc => not_space_of_dq_or_token (quoteImage_last v allow c hc)⟩
  rcases quote_cases_image v allow with ⟨_, h1, _, hi⟩ | ⟨_, hi⟩ <;> rw [hi] at hc
  · exact isToken_not_space (List.all_eq_true.1 h1 c (List.mem_of_head? hc))
  · simp at hc; subst hc; decide

theorem quote_ne_nil (v : Str) (allow : Bool := true) : quoteHeaderValue v allow ≠ [] := by
  rcases quote_cases_image v allow with ⟨h0, _, hq, _⟩ | ⟨hq, _⟩ <;> rw [hq]
  · exact h0
  · simp

theorem quote_tight (v : Str) (allow : Bool := true) : Tight (quoteHeaderValue v allow) := by
  refine ⟨fun c hc => ?_, fun c hc => not_space_of_dq_or_token (quote_last v allow c hc)⟩
  rcases quote_cases_image v allow with ⟨_, h1, hq, _⟩ | ⟨hq, _⟩ <;> rw [hq] at hc
  · exact isToken_not_space (List.all_eq_true.1 h1 c (List.mem_of_head? hc))
  · simp at hc; subst hc; decide

theorem unwrap_quoteImage (v : Str) (allow : Bool := true) : (stripDq? (quoteImage v allow)).getD (quoteImage v allow) = v := by
  rcases quote_cases_image v allow with ⟨h0, h1, _, hi⟩ | ⟨_, hi⟩ <;> rw [hi]
  · cases v with
    | nil => exact absurd rfl h0
    | cons c t =>
      simp only [List.all_cons, Bool.and_eq_true] at h1
      simp [stripDq_none_of_head (isToken_ne_dq h1.1)]
  · simp [stripDq_wrap]

theorem parseList_dump_any (vs : List Str) : parseListHeader (dumpHeaderList vs) = vs := by
  rw [parseListHeader, dumpHeaderList, parseHttpList_join vs (quoteHeaderValue ·) (quoteImage ·)
    fun v _ => ⟨scans_quote v true, quoteImage_tight v, quoteImage_ne_nil v⟩, List.map_map]
  simp [Function.comp_def, unwrap_quoteImage]

/-- a key that `dump_header` / `parse_dict_header` hand back unchanged: a non-empty token (a `,` or `=` would split the item)
without `*` (a trailing `*` marks an RFC 2231 value, which is written unquoted) -/
def KeyOk (k : Str) : Bool := !k.isEmpty && k.all isToken && !k.contains '*'

/-- one `key[=value]` item as `dump_header` writes it -/
def dictItemText : Str × Option Str → Str
  | (k, none) => k
  | (k, some v) => k ++ '=' :: quoteHeaderValue v

/-- the same with the `allow_token` flag of the value depending on the key (Digest challenges) -/
def paramText (allow : Str → Bool) : Str × Option Str → Str
  | (k, none) => k
  | (k, some v) => k ++ '=' :: quoteHeaderValue v (allow k)

/-- what `parse_http_list` makes of `paramText allow x` -/
def paramImage (allow : Str → Bool) : Str × Option Str → Str
  | (k, none) => k
  | (k, some v) => k ++ '=' :: quoteImage v (allow k)

theorem dictItemText_eq : dictItemText = paramText fun _ => true := by
  funext ⟨k, v⟩; cases v <;> rfl

theorem keyOk_ne_nil {k : Str} (h : KeyOk k = true) : k ≠ [] := by
  intro e; subst e; simp [KeyOk] at h

theorem keyOk_all {k : Str} (h : KeyOk k = true) : k.all isToken = true := by
  simp [KeyOk] at h; simpa using h.1.2

theorem keyOk_no_star {k : Str} (h : KeyOk k = true) : '*' ∉ k := by
  simp [KeyOk] at h; exact h.2

theorem keyOk_no_eq {k : Str} (h : KeyOk k = true) : '=' ∉ k := all_not_mem (keyOk_all h) (by decide)

theorem keyOk_last {k : Str} (h : KeyOk k = true) : ∃ l, k.getLast? = some l ∧ l ≠ '*' ∧ isToken l = true := by
  have hne := keyOk_ne_nil h
  cases hl : k.getLast? with
  | none => simp [List.getLast?_eq_none_iff] at hl; exact absurd hl hne
  | some l =>
    refine ⟨l, rfl, ?_, ?_⟩
    · intro e; subst e; exact keyOk_no_star h (List.mem_of_getLast? hl)
    · exact (List.all_eq_true.mp (keyOk_all h)) l (List.mem_of_getLast? hl)

theorem dumpHeaderDict_ok (d : Dict (Option Str)) (hk : ∀ x ∈ d, KeyOk x.1 = true) :
    dumpHeaderDict d = .ok (join ", " (d.map dictItemText)) := by
  unfold dumpHeaderDict
  rw [mapM_ok _ dictItemText d]
  · rfl
  · intro x hx
    obtain ⟨k, v⟩ := x
    cases v with
    | none => rfl
    | some v =>
      obtain ⟨l, hl, hne, _⟩ := keyOk_last (hk _ hx)
      simp [last!_of_getLast? hl, dictItemText, hne]

theorem encOfNameDict_spec (n : Str) : encOfNameDict n =
    if n == ['u', 't', 'f', '-', '8'] then some .utf8
    else if n == ['i', 's', 'o', '-', '8', '8', '5', '9', '-', '1'] then some .latin1
    else if n == ['a', 's', 'c', 'i', 'i'] || n == ['u', 's', '-', 'a', 's', 'c', 'i', 'i'] then some .ascii
    else none := by
  have h1 : Gen.Http.safeEncodingsOptions = [["ascii", "iso-8859-1", "us-ascii", "utf-8"]] := rfl
  have h2 : Gen.Http.safeEncodingsDict = [["ascii", "iso-8859-1", "us-ascii", "utf-8"]] := rfl
  unfold encOfNameDict encOfName
  simp only [h1, h2, List.any_cons, List.any_nil, Bool.or_false, List.contains_cons, List.contains_nil,
    ofList_beq]
  repeat rw [String.toList_ofList]
  generalize (n == ['u', 't', 'f', '-', '8']) = a
  generalize (n == ['i', 's', 'o', '-', '8', '8', '5', '9', '-', '1']) = b
  generalize (n == ['a', 's', 'c', 'i', 'i']) = c
  generalize (n == ['u', 's', '-', 'a', 's', 'c', 'i', 'i']) = d
  cases a <;> cases b <;> cases c <;> cases d <;> rfl

theorem encOfName_eq_dict (n : Str) : encOfName n = encOfNameDict n := by
  unfold encOfNameDict encOfName
  rw [show Gen.Http.safeEncodingsDict = Gen.Http.safeEncodingsOptions from rfl]
  simp only []
  generalize (!Gen.Http.safeEncodingsOptions.any fun x => x.contains (String.ofList n)) = g
  cases g <;> rfl

theorem dictItem_img (allow : Str → Bool) (k : Str) (v : Option Str) (hk : KeyOk k = true) :
    dictItem (paramImage allow (k, v)) = .ok (some (k, v)) := by
  obtain ⟨l, hl, hne, _⟩ := keyOk_last hk
  have hs : strip k = k := strip_tight (token_tight (keyOk_all hk))
  have hne' : k.isEmpty = false := List.isEmpty_eq_false_iff.2 (keyOk_ne_nil hk)
  cases v with
  | none =>
    simp [dictItem, paramImage, partition_notfound (keyOk_no_eq hk), hs, hne']
  | some v =>
    simp [dictItem, paramImage, partition_found (keyOk_no_eq hk), hs, hne',
      last!_of_getLast? hl, hne, strip_tight (quoteImage_tight v _), unwrap_quoteImage]

theorem param_scans (allow : Str → Bool) (x : Str × Option Str) (hk : KeyOk x.1 = true) :
    Scans (paramText allow x) (paramImage allow x) ∧ Tight (paramImage allow x) ∧ paramImage allow x ≠ [] := by
  obtain ⟨k, v⟩ := x
  have hall := keyOk_all hk
  have hne := keyOk_ne_nil hk
  cases v with
  | none => exact ⟨scans_token hall, token_tight hall, hne⟩
  | some v =>
    exact ⟨(scans_token hall).append (scans_eq.append (scans_quote v _)),
      tight_around ['='] hne (quoteImage_ne_nil v _) (token_tight hall) (quoteImage_tight v _), by simp [paramImage, hne]⟩

theorem paramText_ne_nil (allow : Str → Bool) (x : Str × Option Str) (hk : KeyOk x.1 = true) :
    paramText allow x ≠ [] := by
  obtain ⟨k, v⟩ := x
  have := keyOk_ne_nil hk
  cases v <;> simp [paramText, this]

theorem paramText_tight (allow : Str → Bool) (x : Str × Option Str) (hk : KeyOk x.1 = true) :
    Tight (paramText allow x) := by
  obtain ⟨k, v⟩ := x
  cases v with
  | none => exact token_tight (keyOk_all hk)
  | some v => exact tight_around ['='] (keyOk_ne_nil hk) (quote_ne_nil v _) (token_tight (keyOk_all hk)) (quote_tight v _)

theorem paramText_last (allow : Str → Bool) (x : Str × Option Str) (hk : KeyOk x.1 = true) (c : Char)
    (hc : (paramText allow x).getLast? = some c) : c = '"' ∨ isToken c = true := by
  obtain ⟨k, v⟩ := x
  cases v with
  | none => exact Or.inr ((List.all_eq_true.mp (keyOk_all hk)) c (List.mem_of_getLast? hc))
  | some v =>
    rw [paramText, show k ++ '=' :: quoteHeaderValue v (allow k) = (k ++ ['=']) ++ quoteHeaderValue v (allow k) by simp,
      getLast?_append_of_ne_nil (quote_ne_nil v _)] at hc
    exact quote_last v _ c hc

theorem paramJoin_tight (allow : Str → Bool) (x : Str × Option Str) (d : Dict (Option Str))
    (hk : ∀ y ∈ x :: d, KeyOk y.1 = true) (sep : Str) :
    Tight (List.intercalate sep ((x :: d).map (paramText allow))) :=
  tight_intercalate sep _ _ (by
    simp only [← List.map_cons, List.mem_map]
    rintro _ ⟨y, hy, rfl⟩
    exact ⟨paramText_ne_nil allow y (hk y hy), paramText_tight allow y (hk y hy)⟩)

theorem paramJoin_last (allow : Str → Bool) (x : Str × Option Str) (d : Dict (Option Str))
    (hk : ∀ y ∈ x :: d, KeyOk y.1 = true) (sep : Str) (c : Char)
    (hc : (List.intercalate sep ((x :: d).map (paramText allow))).getLast? = some c) : c = '"' ∨ isToken c = true := by
  obtain ⟨z, hz, hl⟩ := intercalate_last sep (paramText allow x) (d.map (paramText allow)) (by
    simp only [← List.map_cons, List.mem_map]
    rintro _ ⟨y, hy, rfl⟩
    exact paramText_ne_nil allow y (hk y hy))
  simp only [← List.map_cons, List.mem_map] at hz
  obtain ⟨y, hy, rfl⟩ := hz
  exact paramText_last allow y (hk y hy) c (hl ▸ hc)

theorem parseListHeader_params (allow : Str → Bool) (d : Dict (Option Str)) (hk : ∀ x ∈ d, KeyOk x.1 = true) :
    parseListHeader (join ", " (d.map (paramText allow))) = d.map (paramImage allow) := by
  rw [parseListHeader, parseHttpList_join d (paramText allow) (paramImage allow)
    fun x hx => param_scans allow x (hk x hx), List.map_map]
  apply List.map_congr_left
  rintro ⟨k, v⟩ hx
  -- an item starts with a token character, so it is not taken for a quoted string
  cases k with
  | nil => exact absurd rfl (keyOk_ne_nil (hk _ hx))
  | cons c t =>
    have hall := keyOk_all (hk _ hx)
    simp only [List.all_cons, Bool.and_eq_true] at hall
    cases v <;> simp [paramImage, stripDq_none_of_head (isToken_ne_dq hall.1)]

/-- `parse_dict_header` inverts the comma-joined items of a dict with distinct token keys free of `*`,
whichever values were written as tokens -/
theorem parseDict_params (allow : Str → Bool) (d : Dict (Option Str)) (hk : ∀ x ∈ d, KeyOk x.1 = true)
    (hnd : (d.map (·.1)).Nodup) : parseDictHeader (join ", " (d.map (paramText allow))) = .ok d := by
  rw [parseDictHeader, parseListHeader_params allow d hk,
    foldlM_map_ok dictStep (paramImage allow) (fun a x => dictSet a x.1 x.2) d
      (fun s x hx => by simp [dictStep, dictItem_img allow x.1 x.2 (hk x hx)]),
    foldl_dictSet_fresh d [] hnd (fun _ _ => rfl), List.nil_append]

theorem parseDict_dump_any (d : Dict (Option Str)) (hk : ∀ x ∈ d, KeyOk x.1 = true)
    (hnd : (d.map (·.1)).Nodup) :
    (dumpHeaderDict d >>= parseDictHeader) = .ok d := by
  rw [dumpHeaderDict_ok d hk, dictItemText_eq]
  exact parseDict_params _ d hk hnd

end Wz.Http
