/-
The decoder's limits and runs (C10): the invariants every sequence of `receive_data` / `next_event` calls
keeps (`Reach`); that `_chunk_iter`'s reads concatenate to the body (`readChunks_flatten`); `drain_rule`, the one induction over the drain that `feed` starts (an invariant of
`next_event` holds at the end, the run ends normally or with an exception of `next_event`); the parser's
loop over events as equations (`formEvents_cons_bind`, `formParse_eq`) and what a Data event does in
`MultiPartParser.parse` once the field-size guard has passed (`storeData`); and the bounded read of
`_parse_urlencoded` in closed form (`boundedLoop_eq`, `urlencodedRead_eq`).
-/
import WzVerif.Lemmas.MultipartStep
import WzVerif.Model.Urlencode
namespace Wz.Multipart
open Wz

def countParts (evs : List Event) : Nat := (evs.filter isPart).length

/-- the decoder configurations reachable from `d0` by any sequence of the two public operations
`receive_data` / `next_event` (non-raising calls), with the events delivered so far -/
inductive Reach (d0 : Decoder) : Decoder → List Event → Prop
  | init : Reach d0 d0 []
  | recv {d d' : Decoder} {evs : List Event} {c : Option Bytes} :
      Reach d0 d evs → receive d c = .ok d' → Reach d0 d' evs
  | next {d d' : Decoder} {evs : List Event} {ev : Event} :
      Reach d0 d evs → nextEvent d = .ok (ev, d') → Reach d0 d' (evs ++ [ev])

theorem countParts_snoc (l : List Event) (ev : Event) :
    countParts (l ++ [ev]) = countParts l + (if isPart ev then 1 else 0) := by
  simp only [countParts, List.filter_append, List.length_append, List.filter_cons, List.filter_nil]
  cases isPart ev <;> rfl

/-- the bounds C10 claims of every reachable configuration (`reach_invariant`) -/
structure ReachInv (d0 d : Decoder) (evs : List Event) : Prop where
  config : SameConfig d0 d
  buffer_le : ∀ m, d0.maxMem = some m → d0.buffer.length ≤ m → d.buffer.length ≤ m
  parts : d.partsDecoded = d0.partsDecoded + countParts evs
  parts_le : ∀ m, d0.maxParts = some m → d0.partsDecoded ≤ m → d.partsDecoded ≤ m

theorem reach_invariant {d0 d : Decoder} {evs : List Event} (h : Reach d0 d evs) : ReachInv d0 d evs := by
  induction h with
  | init => exact ⟨⟨rfl, rfl, rfl⟩, fun _ _ h => h, rfl, fun _ _ h => h⟩
  | @recv d d' evs c _ hr ih =>
    have r := receive_ok hr
    refine ⟨ih.config.trans r.config, fun m hm0 h0 => ?_, r.partsDecoded.trans ih.parts,
      fun m hm h0 => r.partsDecoded ▸ ih.parts_le m hm h0⟩
    cases c with
    | none => rw [r.buffer]; simpa using ih.buffer_le m hm0 h0
    | some x => exact r.buffer_le m x (ih.config.maxMem.trans hm0) rfl
  | @next dd dd' evs0 ev _ hn ih =>
    have s := step_ok (nextEvent_ok hn)
    refine ⟨ih.config.trans s.config, fun m hm h0 => Nat.le_trans s.buffer_le (ih.buffer_le m hm h0), ?_,
      fun m hm h0 => ?_⟩
    · rw [s.parts, ih.parts, countParts_snoc, Nat.add_assoc]
    · cases hp : isPart ev with
      | true => exact s.parts_le m (ih.config.maxParts.trans hm) hp
      | false => rw [s.parts, hp]; exact ih.parts_le m hm h0

theorem readChunks_flatten (bufSize : Nat) : ∀ (fuel : Nat) (sched : List Nat) (body : Bytes),
    body.length ≤ fuel → (readChunks bufSize fuel sched body).flatten = body := by
  intro fuel
  induction fuel with
  | zero => intro sched body h; have : body = [] := List.eq_nil_of_length_eq_zero (by omega); simp [this, readChunks]
  | succ fuel ih =>
    intro sched body h
    cases body with
    | nil => simp [readChunks]
    | cons a t =>
      simp only [readChunks, List.flatten_cons]
      rw [ih]
      · simp
      · have : 1 ≤ max 1 (min bufSize (sched.headD bufSize)) := Nat.le_max_left _ _
        simp only [List.length_drop, List.length_cons] at h ⊢
        omega

/-- One rule for every fact about a drain with more fuel than buffered bytes (what `feed` starts; every
event consumes a byte, so it never runs out): a relation `I` between the decoder and the events delivered so
far that `next_event` keeps holds at the end, and an exception that ends the run is one `next_event` raised
from a configuration in `I`. `evs` are the events `drain` reports: an answer NEED_DATA ends the drain and is
not among them. -/
theorem drain_rule {I : Decoder → List Event → Prop} {E : List Event → String → Prop}
    (hI : ∀ {d evs ev d'}, I d evs → nextEvent d = .ok (ev, d') →
      I d' (if ev = .needData then evs else evs ++ [ev]))
    (hE : ∀ {d evs e}, I d evs → nextEvent d = .error e → E evs e) :
    ∀ (fuel : Nat) (d : Decoder) (acc : List Event), d.buffer.length < fuel → I d acc.reverse →
      I (drain fuel d acc).dec (drain fuel d acc).events ∧
        ∀ e, (drain fuel d acc).err = some e → E (drain fuel d acc).events e := by
  intro fuel
  induction fuel with
  | zero => intro d acc h; omega
  | succ fuel ih =>
    intro d acc hf h
    cases hn : nextEvent d with
    | error e =>
      rw [drain_succ, hn]
      exact ⟨h, fun e' he => by cases he; exact hE h hn⟩
    | ok v =>
      obtain ⟨ev, d'⟩ := v
      have h' := hI h hn
      by_cases hne : ev = .needData
      · subst hne
        rw [drain_succ, hn]
        exact ⟨h', fun e he => by cases he⟩
      · rw [if_neg hne] at h'
        by_cases hep : ∃ x, ev = .epilogue x
        · obtain ⟨x, rfl⟩ := hep
          rw [drain_succ, hn]
          exact ⟨by simpa using h', fun e he => by cases he⟩
        · have hep' : ∀ x, ev ≠ .epilogue x := fun x hx => hep ⟨x, hx⟩
          rw [drain_step fuel acc hn hne hep']
          have := nextEvent_consumes hn hne hep'
          exact ih d' _ (by omega) (by simpa using h')
theorem reach_drain {d0 d : Decoder} {tr : List Event} {fuel : Nat} (hf : d.buffer.length < fuel)
    (h : Reach d0 d tr) :
    ∃ tr', Reach d0 (drain fuel d []).dec tr' ∧
      countParts tr' = countParts tr + countParts (drain fuel d []).events := by
  refine (drain_rule (I := fun d' evs' => ∃ tr', Reach d0 d' tr' ∧
    countParts tr' = countParts tr + countParts evs') (E := fun _ _ => True) ?_ (fun _ _ => trivial)
    fuel d [] hf ⟨tr, h, rfl⟩).1
  rintro d1 evs ev d2 ⟨tr', hr, hc⟩ hn
  refine ⟨tr' ++ [ev], Reach.next hr hn, ?_⟩
  by_cases he : ev = .needData
  · subst he; rw [if_pos rfl, countParts_snoc]; exact hc
  · rw [if_neg he, countParts_snoc, countParts_snoc]; omega

theorem reach_feed {d0 d : Decoder} {evs : List Event} (c : Option Bytes) (h : Reach d0 d evs) :
    ∃ evs', Reach d0 (feed d c).dec evs' ∧
      countParts evs' = countParts evs + countParts (feed d c).events := by
  cases hr : receive d c with
  | error e => rw [feed_of_error hr]; exact ⟨evs, h, rfl⟩
  | ok d' => rw [feed_of_ok hr]; exact reach_drain (by simp [drainFuel]) (Reach.recv h hr)

theorem reach_feedAll {d0 : Decoder} (chunks : List Bytes) :
    ∀ (d : Decoder) (evs : List Event), Reach d0 d evs →
      ∃ evs', Reach d0 (feedAll d chunks).dec evs' ∧
        countParts evs' = countParts evs + countParts (feedAll d chunks).events := by
  induction chunks with
  | nil => intro d evs h; exact reach_feed none h
  | cons c cs ih =>
    intro d evs h
    simp only [feedAll]
    rcases reach_feed (some c) h with ⟨evs1, h1, hc1⟩
    split
    · exact ⟨evs1, h1, hc1⟩
    · rcases ih _ evs1 h1 with ⟨evs2, h2, hc2⟩
      refine ⟨evs2, h2, ?_⟩
      simp only [countParts, List.filter_append, List.length_append] at hc1 hc2 ⊢
      omega

theorem formEvents_cons (m : Option Nat) (st : FormState) (ev : Event) (rest : List Event) :
    formEvents m st (ev :: rest) =
      match formEvent m st ev with
      | .error e => .error e
      | .ok st' => formEvents m st' rest := rfl

theorem formEvents_cons_bind (m : Option Nat) (st : FormState) (ev : Event) (rest : List Event) :
    formEvents m st (ev :: rest) = (formEvent m st ev).bind fun st' => formEvents m st' rest := by
  rw [formEvents_cons]
  cases formEvent m st ev <;> rfl

theorem formEvents_append (m : Option Nat) (a b : List Event) : ∀ st,
    formEvents m st (a ++ b) = (formEvents m st a).bind fun st' => formEvents m st' b := by
  induction a with
  | nil => exact fun _ => rfl
  | cons ev t ih =>
    intro st
    rw [List.cons_append, formEvents_cons, formEvents_cons]
    cases formEvent m st ev with
    | error e => rfl
    | ok st' => exact ih st'

theorem formEvents_snoc (m : Option Nat) (st : FormState) (evs : List Event) (ev : Event) :
    formEvents m st (evs ++ [ev]) = (formEvents m st evs).bind (formEvent m · ev) := by
  rw [formEvents_append]
  congr 1
  funext st'
  rw [formEvents_cons_bind]
  cases formEvent m st' ev <;> rfl

/-- what a Data event does once the field-size guard has passed: the chunk is already appended to the
current part `p`; with the last chunk the part is stored as a file or as a decoded field -/
def storeData (st : FormState) (fsz : Option Nat) (p : Part) (more : Bool) : Except String FormState :=
  if more then .ok { st with cur := some p, fieldSize := fsz }
  else if p.isFile then
    .ok { st with cur := some p, fieldSize := fsz,
                  files := st.files ++ [⟨p.name, p.filename.getD [], p.headers, p.payload⟩] }
  else
    match partCharset p.headers with
    | .error e => .error e
    | .ok cs =>
      .ok { st with cur := some p, fieldSize := fsz,
                    fields := st.fields ++ [(p.name, decodeCharset cs p.payload)] }

/-- a Data event in `MultiPartParser.parse`: `max_form_memory_size` enters only through
`fieldSizeStep`; what follows does not look at it -/
theorem formEvent_data (m : Option Nat) (st : FormState) (x : Bytes) (more : Bool) :
    formEvent m st (.data x more) =
      match fieldSizeStep m st.fieldSize x.length with
      | .error e => .error e
      | .ok fsz =>
        match st.cur with
        | none => .error "UnboundLocalError"
        | some p => storeData st fsz { p with payload := p.payload ++ x } more := by
  simp only [formEvent, storeData]
  cases fieldSizeStep m st.fieldSize x.length with
  | error e => rfl
  | ok fsz => cases st.cur <;> rfl

theorem fieldSizeStep_error {m fs : Option Nat} {n : Nat} {e : String}
    (h : fieldSizeStep m fs n = .error e) : e = R413 := by
  unfold fieldSizeStep at h
  split at h
  · split at h <;> cases h
    rfl
  · cases h

theorem storeData_ok {st st' : FormState} {fsz : Option Nat} {p : Part} {more : Bool}
    (h : storeData st fsz p more = .ok st') :
    st'.cur = some p ∧ st'.fieldSize = fsz ∧
      st'.fields.length + st'.files.length =
        st.fields.length + st.files.length + (if more then 0 else 1) := by
  unfold storeData at h
  cases more with
  | true => cases h; exact ⟨rfl, rfl, rfl⟩
  | false =>
    simp only [Bool.false_eq_true, if_false] at h ⊢
    split at h
    · cases h; exact ⟨rfl, rfl, by simp; omega⟩
    · split at h
      · cases h
      · cases h; exact ⟨rfl, rfl, by simp; omega⟩

theorem storeData_error {st : FormState} {fsz : Option Nat} {p : Part} {more : Bool} {e : String}
    (h : storeData st fsz p more = .error e) : partCharset p.headers = .error e := by
  unfold storeData at h
  split at h
  · cases h
  · split at h
    · cases h
    · split at h
      · rename_i hpc; cases h; exact hpc
      · cases h

/-- the payload of every completed or current non-file part stays within the limit -/
def FormState.FieldOk (m : Nat) (st : FormState) : Prop :=
  ∀ p, st.cur = some p → p.isFile = false → st.fieldSize = some p.payload.length ∧ p.payload.length ≤ m

theorem formEvent_fieldOk {m : Nat} {st st1 : FormState} {ev : Event}
    (h : formEvent (some m) st ev = .ok st1) (hok : st.FieldOk m) : st1.FieldOk m := by
  cases ev with
  | preamble x => cases h; exact hok
  | epilogue x => cases h; exact hok
  | needData => cases h; exact hok
  | field n hd => cases h; intro p hp _; cases hp; exact ⟨rfl, Nat.zero_le _⟩
  | file n f hd => cases h; intro p hp hf; cases hp; cases hf
  | data x more =>
    rw [formEvent_data] at h
    split at h
    · cases h
    · rename_i fsz hfs
      split at h
      · cases h
      · rename_i p hcur
        rcases storeData_ok h with ⟨hc, hf, _⟩
        intro q hq hqf
        rw [hc] at hq; cases hq
        -- the guard passed on the size the invariant records for the old payload
        rw [hf, (hok p hcur hqf).1] at *
        simp only [fieldSizeStep] at hfs
        split at hfs <;> cases hfs
        rename_i hgt
        exact ⟨by simp, by simpa using Nat.not_lt.1 hgt⟩

theorem formParse_eq (bnd : Bytes) (mm mp : Option Nat) (bufSize : Nat) (sched : List Nat) (body : Bytes) :
    formParse bnd mm mp bufSize sched body =
      (formLoop mm (mkDecoder bnd mm mp) {} ((readChunks bufSize body.length sched body).map some ++ [none])).map
        fun st => (st.fields, st.files) := by
  unfold formParse
  simp only
  cases formLoop mm (mkDecoder bnd mm mp) {} _ <;> rfl

end Wz.Multipart

namespace Wz.Urlencode
open Wz

/-- how many bytes one `read(n)` asks the stream for -/
def readSize (n : Nat) (sched : List Nat) : Nat :=
  match sched with
  | [] => n
  | s :: _ => min n (max 1 s)

theorem streamRead_eq (n : Nat) (sched : List Nat) (body : Bytes) :
    streamRead n sched body = (body.take (readSize n sched), sched.tail, body.drop (readSize n sched)) := by
  cases sched <;> rfl

theorem readSize_le (n : Nat) (sched : List Nat) : readSize n sched ≤ n := by
  cases sched with
  | nil => simp [readSize]
  | cons s t => simp only [readSize]; exact Nat.min_le_left _ _

theorem readSize_pos {n : Nat} (sched : List Nat) (h : 0 < n) : 0 < readSize n sched := by
  cases sched with
  | nil => simpa [readSize] using h
  | cons s t =>
    simp only [readSize]
    have : 1 ≤ max 1 s := Nat.le_max_left _ _
    exact Nat.lt_of_lt_of_le Nat.zero_lt_one (Nat.le_min.2 ⟨h, this⟩)

/-- the bounded read in closed form: the whole body when it is shorter than `rem`, refused otherwise — after
exactly `min rem body.length` more bytes, however short the single reads are -/
theorem boundedLoop_eq (fuel : Nat) : ∀ (rem : Nat) (sched : List Nat) (body held : Bytes), rem < fuel →
    boundedLoop fuel rem sched body held =
      (if body.length < rem then .ok (held ++ body) else .error "RequestEntityTooLarge",
        held.length + min rem body.length) := by
  induction fuel with
  | zero => intro rem sched body held h; omega
  | succ fuel ih =>
    intro rem sched body held hf
    rw [boundedLoop]
    by_cases h0 : rem = 0
    · subst h0; rw [if_pos (by rfl), if_neg (Nat.not_lt_zero _), Nat.zero_min]; rfl
    · rw [if_neg (by simpa using h0), streamRead_eq]
      simp only
      have hk := readSize_le rem sched
      have hkp := readSize_pos sched (Nat.pos_of_ne_zero h0)
      generalize readSize rem sched = k at hk hkp
      have hlt : (body.take k).length = min k body.length := List.length_take
      by_cases hb : body = []
      · subst hb
        rw [List.take_nil, if_pos (by rfl), List.length_nil, if_pos (Nat.pos_of_ne_zero h0), List.append_nil, Nat.min_zero]
        rfl
      · have hpos : 0 < body.length := List.length_pos_iff.2 hb
        -- the read takes `j` bytes, at least one
        obtain ⟨j, hj, hj1, hjr, hjb, hkj⟩ : ∃ j, (body.take k).length = j ∧ 0 < j ∧ j ≤ rem ∧ j ≤ body.length ∧
            body.length - k = body.length - j := by
          rcases Nat.le_total k body.length with hkb | hkb
          · exact ⟨k, by rw [hlt, Nat.min_eq_left hkb], hkp, hk, hkb, rfl⟩
          · exact ⟨_, by rw [hlt, Nat.min_eq_right hkb], hpos, Nat.le_trans hkb hk, Nat.le_refl _,
              by rw [Nat.sub_eq_zero_of_le hkb, Nat.sub_self]⟩
        rw [if_neg (by rw [List.isEmpty_iff, ← List.length_eq_zero_iff, hj]; exact Nat.ne_of_gt hj1),
          ih _ _ _ _ (by rw [hj]; omega), List.append_assoc, List.take_append_drop, List.length_append,
          List.length_drop, hj, hkj]
        by_cases hc : body.length < rem
        · rw [if_pos hc, if_pos (Nat.sub_lt_sub_right hjb hc), Nat.min_eq_right (Nat.le_of_lt hc),
            Nat.min_eq_right (Nat.le_of_lt (Nat.sub_lt_sub_right hjb hc)), Nat.add_assoc, Nat.add_sub_cancel' hjb]
        · have hc' := Nat.not_lt.1 hc
          rw [if_neg hc, if_neg (Nat.not_lt.2 (Nat.sub_le_sub_right hc' j)), Nat.min_eq_left hc',
            Nat.min_eq_left (Nat.sub_le_sub_right hc' j), Nat.add_assoc, Nat.add_sub_cancel' hjr]
/-- `_parse_urlencoded` under `max_form_memory_size = m`, result and bytes taken: refused at once on a
declared length above `m`; otherwise the whole body iff it is at most `m` long, after `min (m + 1) length` bytes -/
theorem urlencodedRead_eq (m : Nat) (cl : Option Nat) (sched : List Nat) (body : Bytes) :
    urlencodedRead (some m) cl sched body =
      if declaredTooLarge m cl = true then (.error "RequestEntityTooLarge", 0)
      else (if body.length < m + 1 then .ok body else .error "RequestEntityTooLarge", min (m + 1) body.length) := by
  simp only [urlencodedRead]
  split
  · rfl
  · rw [boundedLoop_eq (m + 2) (m + 1) sched body [] (by omega)]; simp

theorem urlencodedRead_fst (m : Nat) (cl : Option Nat) (sched : List Nat) (body : Bytes) :
    (urlencodedRead (some m) cl sched body).1 =
      if declaredTooLarge m cl = true ∨ m < body.length then .error "RequestEntityTooLarge" else .ok body := by
  rw [urlencodedRead_eq]
  by_cases h1 : declaredTooLarge m cl = true <;> by_cases h2 : m < body.length <;> simp [h1, h2] <;> omega

theorem declaredTooLarge_iff {m : Nat} {cl : Option Nat} : declaredTooLarge m cl = true ↔ ∃ n, cl = some n ∧ m < n := by
  cases cl <;> simp [declaredTooLarge]

/-- the url-encoded limit as a guard: RequestEntityTooLarge, or the parse without the limit -/
theorem parseUrlencoded_limit (m : Nat) (cl : Option Nat) (sched : List Nat) (body : Bytes) :
    parseUrlencoded (some m) cl sched body =
      if declaredTooLarge m cl = true ∨ m < body.length then .error "RequestEntityTooLarge"
      else parseUrlencoded none cl sched body := by
  unfold parseUrlencoded
  rw [urlencodedRead_fst]
  by_cases h : declaredTooLarge m cl = true ∨ m < body.length
  · rw [if_pos h, if_pos h]
  · rw [if_neg h, if_neg h]; rfl

end Wz.Urlencode
