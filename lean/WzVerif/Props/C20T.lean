/-
C20T — the part of C20's model that mirrors `werkzeug.sansio.utils` (C20T2: `werkzeug.debug`):
`_strip_port`, `host_is_trusted` and `get_host` *as regenerated from the
source* by `tools/py2lean.py` (`Gen/PyFns_Host.lean`, rewritten on every check run) are equal, for
all inputs, to the hand-written model functions of `Model/Debugger.lean` that the C20 theorems are
about. The IDNA codec stays an opaque function parameter on both sides.
-/
import WzVerif.Gen.PyFns_Host
import WzVerif.Lemmas.PyFns_Host
import WzVerif.Lemmas.Debugger
namespace Wz.Props.C20T
open Wz Wz.Pre Wz.PyFnsHost

/-- `_strip_port`, as translated from the current source (`startswith` / `find` / two slices /
`partition`), returns exactly what the model's `stripPort` returns, for every host text. -/
theorem strip_port_eq (host : List Char) :
    Gen.PyFns_Host.strip_port host = Dbg.stripPort host := by
  cases host with
  | nil =>
    simp [Gen.PyFns_Host.strip_port, startswith_singleton_nil, partition_singleton_fst,
      Dbg.stripPort, Dbg.beforeColon]
  | cons x rest =>
    by_cases hx : x = '['
    · subst hx
      rcases split_at_first ']' rest with ⟨h1, -, -⟩ | ⟨pre, post, rfl, h2, -, -⟩
      · -- no closing bracket: `find` answers -1
        have hm : ']' ∉ '[' :: rest := by simp [h1]
        simp [Gen.PyFns_Host.strip_port, startswith_singleton_cons,
          find_singleton_not_mem _ _ hm, Dbg.stripPort_open h1]
      · -- rest = pre ++ ']' :: post: `end` = |'[' :: pre|; `host[end+1:end+2]` is `post.take 1`, `host[:end+1]` ends at `]`
        rw [← List.cons_append, Dbg.stripPort_closed post h2]
        have hne : ¬ ((pre.length : Int) + 1 = -1) := by omega
        simp only [Gen.PyFns_Host.strip_port, find_singleton_append ']' ('[' :: pre) post (by simp [h2]),
          slice_after_append _ _ _ _ rfl, slice_to_append _ _ _ _ rfl]
        rcases post with _ | ⟨y, post'⟩
        · simp [startswith]
        · by_cases hy : y = ':' <;> simp [hy, hne, startswith]
    · have hx' : ('[' == x) = false := by simpa using fun h => hx h.symm
      simp [Gen.PyFns_Host.strip_port, startswith_singleton_cons, hx', partition_singleton_fst,
        Dbg.stripPort_other x rest hx, Dbg.beforeColon]

/-- The `for ref in trusted_list` loop of `host_is_trusted`, as translated from the current source
(dot-prefix handling, `try … except UnicodeError: return False`, the exact / suffix comparison and
the early `return True`), answers what the model's `matchRefs` answers, for every IDNA function,
host name and trusted list (`loopVal`: falling out of the loop means `False`). -/
theorem host_is_trusted_loop_eq (idna : Dbg.Idna) (hn : List Char) (refs : List (List Char)) :
    loopVal (Gen.PyFns_Host.host_is_trusted.loop1 idna hn refs) = Dbg.matchRefs idna hn refs := by
  induction refs with
  | nil => rfl
  | cons ref rest ih =>
    have hslice : slice ref (some 1) none = ref.drop 1 := slice_nat_none ref 1
    unfold Gen.PyFns_Host.host_is_trusted.loop1 Dbg.matchRefs
    cases ref with
    | nil =>
      simp only [startswith_singleton_nil, refParts_nil, strip_port_eq]
      cases idna (Dbg.stripPort []) <;> simp [apply_ite loopVal, ih, endsWith_eq]
    | cons x t =>
      by_cases hx : x = '.'
      · subst hx
        simp only [startswith_singleton_cons, refParts_dot, strip_port_eq, hslice,
          List.drop_succ_cons, List.drop_zero]
        cases idna (Dbg.stripPort t) <;> simp [apply_ite loopVal, ih, endsWith_eq]
      · have hx' : ('.' == x) = false := by simpa using fun h => hx h.symm
        simp only [startswith_singleton_cons, hx', Dbg.refParts_plain (r := x :: t) (by simpa using hx), strip_port_eq]
        cases idna (Dbg.stripPort (x :: t)) <;> simp [apply_ite loopVal, ih, endsWith_eq]

/-- `host_is_trusted`, as translated from the current source (truthiness test, the
`try … except UnicodeError: return False` around the host's IDNA encoding, the loop over the trusted
list), computes exactly the model's `hostIsTrusted`, for every IDNA function, every Host value
(including `None` and `""`) and every trusted list. -/
theorem host_is_trusted_eq (idna : Dbg.Idna) (host : Option (List Char))
    (trusted : List (List Char)) :
    Gen.PyFns_Host.host_is_trusted idna host trusted = Dbg.hostIsTrusted idna host trusted := by
  unfold Gen.PyFns_Host.host_is_trusted Dbg.hostIsTrusted
  cases host with
  | none => rfl
  | some h =>
    cases h with
    | nil => rfl
    | cons x t =>
      simp only [strip_port_eq, List.isEmpty_cons]
      cases idna (Dbg.stripPort (x :: t)) with
      | error e => simp
      | ok hn =>
        have := host_is_trusted_loop_eq idna hn trusted
        simp only [Bool.false_eq_true, ↓reduceIte]
        cases hl : Gen.PyFns_Host.host_is_trusted.loop1 idna hn trusted with
        | ret r => rw [hl] at this; simpa using this
        | fall u => cases u; rw [hl] at this; simpa using this

/-- Soundness of `host_is_trusted` (C20 `host_trusted_sound`) restated on the translated
definition: whatever the regenerated code accepts is a non-empty Host whose port-stripped name
encodes and matches a listed entry exactly or as a true subdomain of a dot-prefixed entry. -/
theorem host_trusted_sound_translated (idna : Dbg.Idna) (host : Option (List Char))
    (trusted : List (List Char))
    (h : Gen.PyFns_Host.host_is_trusted idna host trusted = true) :
    ∃ hst hn, host = some hst ∧ hst ≠ [] ∧
      idna (Gen.PyFns_Host.strip_port hst) = .ok hn ∧ ∃ ref ∈ trusted, Dbg.RefMatches idna hn ref := by
  rw [host_is_trusted_eq] at h
  obtain ⟨hst, hn, he, hne, hi, hm⟩ := Dbg.hostIsTrusted_sound h
  exact ⟨hst, hn, he, hne, by rw [strip_port_eq]; exact hi, hm⟩

/-- `get_host(scheme, host_header, server, trusted_hosts)`, as translated from the current source
(Host header or `server` with IPv6 bracketing and port, default-port stripping for http/ws and
https/wss, the `host_is_trusted` check raising `SecurityError`), returns exactly the model's
`getHost` - in particular `host[0]` never raises - for every IDNA function, scheme, Host header,
server address (port a natural number or `None`) and trusted list (or `None`). -/
theorem get_host_eq (idna : Dbg.Idna) (scheme : List Char) (hostHeader : Option (List Char))
    (server : Option (List Char × Option Nat)) (trusted : Option (List (List Char))) :
    Gen.PyFns_Host.get_host idna scheme hostHeader
        (server.map fun np => (np.1, np.2.map Int.ofNat)) trusted
      = Dbg.getHost idna scheme hostHeader server trusted := by
  unfold Gen.PyFns_Host.get_host
  cases trusted
  -- the translator repeats the end of the function (`return host` / the trust check) in the branches of
  -- the default-port test; folded back over the `if`s it is applied to the model's `stripDefaultPort`
  case' none => rw [Dbg.getHost_none]; simp only [← apply_ite Except.ok, ← stripDefaultPort_eq]
  case' some tl =>
    rw [Dbg.getHost_some]
    simp only [host_is_trusted_eq, ite_not_swap, ← stripDefaultPort_eq,
      ← apply_ite (fun host => if Dbg.hostIsTrusted idna (some host) tl = true then
        (Except.ok host : Except String (List Char)) else Except.error "SecurityError")]
  -- in both cases what is left is that the two sides start from the same host text
  all_goals
    cases hostHeader with
    | some h => rfl
    | none =>
      cases server with
      | none => rfl
      | some np =>
        obtain ⟨name, port⟩ := np
        simp only [Option.map_some, Dbg.hostText, contains_singleton]
        cases name with
        | nil => cases port <;> simp [strOfInt_nat]
        | cons x t =>
          rw [getItemStr_zero_cons]
          by_cases hm : ':' ∈ x :: t <;> by_cases hx : x = '[' <;> cases port <;>
            simp_all [strOfInt_nat]

example : Gen.PyFns_Host.host_is_trusted Dbg.asciiIdna (some "a.example.org:80".toList)
    [".example.org".toList] = true := by
  rw [String.toList_ofList, String.toList_ofList]
  decide +kernel

end Wz.Props.C20T
