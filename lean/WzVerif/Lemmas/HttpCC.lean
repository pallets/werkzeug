/-
Cache-Control (C06): the object is a directive dict; `DictOk` (distinct non-empty token keys without `*`) is the domain
of its round trip (`cacheControl_dump_of_ok`, the dict codec), kept by every dict operation and typed setter
(`DictAll.set/.pop`, `dictOk_setCache`), and a typed getter reads back what its setter stored (`cc_set_get`).
`parse_dict_header` itself never raises and returns distinct keys (`parseDictHeader_returns`): one item of its comma
list contributes `itemOf item` (`dictItem_eq`), the loop is a fold of `dictStepP` (`foldlM_dictStep`) — the closed form the
translated loop is compared with.
-/
import WzVerif.Lemmas.HttpInt
import WzVerif.Lemmas.PyDict
import WzVerif.Lemmas.HttpSafe
namespace Wz.Http
open Wz

theorem parseCacheControl_eq (w : Str) : parseCacheControl w = parseDictHeader w := by
  unfold parseCacheControl
  cases w with
  | nil => rfl
  | cons _ _ => rfl

/-! the prelude's dict facts, for the model's own `dictSet` / `dictPop` / `dictGet?` / `dictHas` (the same functions) -/

theorem dictHas_set_self {ν : Type} (d : Dict ν) (k : Str) (v : ν) : dictHas (dictSet d k v) k = true :=
  (Pre.dictHas_dictSet d k k v).trans (by simp)

theorem dictGet_set_self {ν : Type} (d : Dict ν) (k : Str) (v : ν) : dictGet? (dictSet d k v) k = some v :=
  (Pre.dictGet?_dictSet d k k v).trans (by simp)

theorem dictHas_pop_self {ν : Type} (d : Dict ν) (k : Str) : dictHas (dictPop d k) k = false :=
  Pre.dictHas_dictDel_self d k

theorem dictGet_pop_self {ν : Type} (d : Dict ν) (k : Str) : dictGet? (dictPop d k) k = none :=
  Pre.dictGet?_dictDel_self d k

/-- every item satisfies `P`, and the keys are pairwise distinct (the list is a Python dict): the shape of the domain of
every dict round trip: `DictOk d` and `CspDictOk d` unfold to it, so `DictAll.set` / `.pop` / `.nil` apply to them as they stand -/
def DictAll {ν : Type} (P : Str × ν → Prop) (d : Dict ν) : Prop := (∀ x ∈ d, P x) ∧ (d.map (·.1)).Nodup

theorem DictAll.nil {ν : Type} {P : Str × ν → Prop} : DictAll P [] := ⟨by simp, by simp⟩

theorem DictAll.set {ν : Type} {P : Str × ν → Prop} {d : Dict ν} (hd : DictAll P d) {k : Str} {v : ν} (hk : P (k, v)) :
    DictAll P (dictSet d k v) :=
  ⟨fun x hx => (Pre.mem_dictSet hx).elim (hd.1 x) (· ▸ hk), Pre.nodup_keys_dictSet d k v hd.2⟩

theorem DictAll.pop {ν : Type} {P : Str × ν → Prop} {d : Dict ν} (hd : DictAll P d) (k : Str) : DictAll P (dictPop d k) :=
  ⟨fun x hx => hd.1 x (List.mem_filter.1 hx).1, Pre.nodup_keys_dictDel d k hd.2⟩

/-- validity (distinct, non-empty token keys without `*`) of a directive dict -/
def DictOk (d : Dict (Option Str)) : Prop := (∀ x ∈ d, KeyOk x.1 = true) ∧ (d.map (·.1)).Nodup

/-- the values a typed property may be set to (`bool`: a truth value; `int`: `None`/`False`/`True`/an
int; `str`: `None`/`False`/`True`/a string) -/
def CCValFor : CCType → CCVal → Bool
  | .bool, .true_ | .bool, .false_ => true
  | .int, .none | .int, .false_ | .int, .true_ | .int, .int _ => true
  | .str, .none | .str, .false_ | .str, .true_ | .str, .str _ => true
  | _, _ => false

/-- what the typed getter documents for a value stored through the typed setter -/
def ccExpected (ty : CCType) (empty v : CCVal) : CCVal :=
  match ty, v with
  | .bool, .true_ => .true_
  | .bool, _ => .false_
  | _, .none | _, .false_ => .none
  | _, .true_ => empty
  | _, v => v

theorem setCacheValue_cases (d : Dict (Option Str)) (key : Str) (v : CCVal) (ty : CCType) :
    setCacheValue d key v ty = dictPop d key ∨ ∃ w, setCacheValue d key v ty = dictSet d key w := by
  cases ty with
  | bool =>
    show (if ccTruthy v then dictSet d key none else dictPop d key) = _ ∨ ∃ w, (if ccTruthy v then _ else _) = _
    split
    · exact .inr ⟨_, rfl⟩
    · exact .inl rfl
  | int => cases v <;> first | exact .inl rfl | exact .inr ⟨_, rfl⟩
  | str => cases v <;> first | exact .inl rfl | exact .inr ⟨_, rfl⟩

theorem dictOk_setCache (d : Dict (Option Str)) (key : Str) (v : CCVal) (ty : CCType)
    (hd : DictOk d) (hk : KeyOk key = true) : DictOk (setCacheValue d key v ty) := by
  rcases setCacheValue_cases d key v ty with e | ⟨w, e⟩ <;> rw [e]
  · exact DictAll.pop hd key
  · exact DictAll.set hd hk

theorem getCache_setCache (d : Dict (Option Str)) (key : Str) (empty v : CCVal) (ty : CCType)
    (hv : CCValFor ty v = true) :
    getCacheValue (setCacheValue d key v ty) key empty ty = .ok (ccExpected ty empty v) := by
  cases ty <;> cases v <;> simp [CCValFor] at hv <;>
    simp [getCacheValue, setCacheValue, ccTruthy, ccExpected, dictHas_set_self, dictHas_pop_self,
      dictGet_set_self, dictGet_pop_self, pyInt_intText, Except.map, catching_ok]

theorem cacheControl_dump_of_ok {d : Dict (Option Str)} (hd : DictOk d) :
    (dumpHeaderDict d >>= parseCacheControl) = .ok d := by
  rw [funext parseCacheControl_eq]
  exact parseDict_dump_any d hd.1 hd.2

theorem cc_set_get (d : Dict (Option Str)) (key : Str) (empty v : CCVal) (ty : CCType)
    (hd : DictOk d) (hk : KeyOk key = true) (hv : CCValFor ty v = true) :
    (dumpHeaderDict (setCacheValue d key v ty) >>= parseCacheControl >>= fun p => getCacheValue p key empty ty)
      = .ok (ccExpected ty empty v) := by
  rw [cacheControl_dump_of_ok (dictOk_setCache d key v ty hd hk)]
  exact getCache_setCache d key empty v ty hv

/-- the value after the RFC 2231 step: percent-decoded when the (lower-cased) charset name is one of the four,
untouched otherwise -/
def decVal (enc value : Str) : Str :=
  match encOfNameDict enc with
  | some e => pctUnquote e value
  | none => value

/-- what one item of the comma list contributes to the dict: `none` = skipped (empty key, or a key that is just `*`),
`some (key, none)` = a bare key, `some (key, some value)` otherwise -/
def itemOf (item : Str) : Option (Str × Option Str) :=
  let key := strip (partition '=' item).1
  let value := strip (partition '=' item).2.2
  if key.isEmpty then none
  else if (partition '=' item).2.1 then
    match key.getLast? with
    | none => none
    | some l =>
      if l == '*' then
        if key.dropLast.isEmpty then none
        else
          match charsetValue? value with
          | none => some (key.dropLast, some ((stripDq? value).getD value))
          | some m => some (key.dropLast, some ((stripDq? (decVal (pyLower m.1) m.2)).getD (decVal (pyLower m.1) m.2)))
      else some (key, some ((stripDq? value).getD value))
  else some (key, none)

/-- the loop body of `parse_dict_header` on the dict -/
def dictStepP (d : Dict (Option Str)) (item : Str) : Dict (Option Str) :=
  match itemOf item with
  | none => d
  | some kv => dictSet d kv.1 kv.2

/-- `parse_dict_header` item: `key[-1]` is only evaluated on a non-empty key, so the item never raises -/
theorem dictItem_eq (item : Str) : dictItem item = .ok (itemOf item) := by
  unfold dictItem itemOf
  generalize partition '=' item = p
  obtain ⟨key0, has, value0⟩ := p
  by_cases hk : (strip key0).isEmpty = true
  · simp [hk, pure, Except.pure]
  · cases has with
    | false => simp [hk, pure, Except.pure]
    | true =>
      cases hl : (strip key0).getLast? with
      | none => rw [List.getLast?_eq_none_iff] at hl; rw [hl] at hk; simp at hk
      | some l =>
        have hl' : last! (strip key0) = .ok l := by simp [last!, hl]
        by_cases hs : l = '*'
        · subst hs
          by_cases hd : (strip key0).dropLast.isEmpty = true
          · simp [hk, hl, hl', hd, bind, Except.bind, pure, Except.pure]
          · cases hm : charsetValue? (strip value0) with
            | none => simp [hk, hl, hl', hd, hm, bind, Except.bind, pure, Except.pure]
            | some m =>
              obtain ⟨e, v⟩ := m
              simp [hk, hl, hl', hd, hm, decVal, bind, Except.bind, pure, Except.pure]
              rfl
        · simp [hk, hl, hl', hs, bind, Except.bind, pure, Except.pure]

theorem dictStep_eq (d : Dict (Option Str)) (item : Str) : dictStep d item = .ok (dictStepP d item) := by
  unfold dictStep dictStepP
  rw [dictItem_eq]
  cases itemOf item <;> rfl

theorem foldlM_dictStep (items : List Str) : ∀ d : Dict (Option Str),
    items.foldlM dictStep d = .ok (items.foldl dictStepP d) := by
  induction items with
  | nil => intro d; rfl
  | cons item rest ih =>
    intro d
    simp only [List.foldlM_cons, List.foldl_cons, dictStep_eq, bind, Except.bind, ih]

theorem parseDictHeader_returns (s : Str) : Returns (fun d => (d.map (·.1)).Nodup) (parseDictHeader s) :=
  Returns.foldlM _ _ _ (by simp) fun d hd item _ => by
    rw [dictStep_eq, dictStepP]
    cases itemOf item with
    | none => exact .ok hd
    | some kv => exact .ok (Pre.nodup_keys_dictSet d kv.1 kv.2 hd)

theorem parseDictHeader_safe (s : Str) : Safe (parseDictHeader s) := (parseDictHeader_returns s).safe

theorem parseCacheControl_safe (s : Str) : Safe (parseCacheControl s) :=
  parseCacheControl_eq s ▸ parseDictHeader_safe s

theorem getCacheValue_safe (d : Dict (Option Str)) (key : Str) (empty : CCVal) (ty : CCType) :
    Safe (getCacheValue d key empty ty) := by
  unfold getCacheValue
  cases ty with
  | bool => exact Safe.ok _
  | int =>
    simp only
    split
    · exact Safe.ok _
    · exact Safe.ok _
    · next v _ => exact catching_safe (onlyRaises_map _ (pyInt_onlyRaises v))
  | str =>
    simp only
    split <;> exact Safe.ok _

end Wz.Http
