/-
C18 for every kind of `LocalProxy` source (`Model/LocalProxy.lean`). What `_get_current_object()` returns is a
function of what the accessing context observes through the cells and of the values it holds for bare
`ContextVar`s (`resolveP_congr`); with `lrun_other_ctx` of Lemmas/LocalLife.lean, events of other contexts change
nothing a context reads through a proxy.
-/
import WzVerif.Lemmas.LocalLife
import WzVerif.Model.LocalProxy
namespace Wz.Local
open Wz.Gen.LocalOps

/-- `get_name` yields the object, its attribute, or AttributeError: never "unbound" -/
theorem getName_ne_unbound (attrOf : Nat → Option Nat) (attr : Bool) (x : Nat) : getName attrOf attr x ≠ .unbound := by
  unfold getName
  cases attr <;> simp
  cases attrOf x <;> simp

/-- an optional object passed through `get_name` is unbound only where there was no object -/
theorem getName_bind_unbound (attrOf : Nat → Option Nat) (attr : Bool) (o : Option Nat) :
    (match o with | some x => getName attrOf attr x | none => PRes.unbound) = .unbound ↔ o = none := by
  cases o <;> simp [getName_ne_unbound]

/-- read after write on the one attribute of payload objects -/
theorem fieldOf_cons (fs : Fields) (x f y : Nat) : fieldOf ((x, f) :: fs) y = if y = x then f else fieldOf fs y := by
  by_cases h : y = x
  · subst h; simp [fieldOf]
  · have : (x == y) = false := by simpa using fun e => h e.symm
    simp [fieldOf, this, h]

/-- `_get_current_object()` in context `c` is a function of what `c` observes through the cells and
of the values `c` holds for bare `ContextVar`s -/
theorem resolveP_congr (attrOf : Nat → Option Nat) (falsy : Nat → Bool) {lw lw' : LWorld} {c : Nat}
    (ho : ∀ v, obs lw'.w c v = obs lw.w c v) (hv : ∀ j, lw'.cv c j = lw.cv c j) :
    ∀ p : PSrc, resolveP attrOf falsy lw' c p = resolveP attrOf falsy lw c p
  | .localAttr v name => by
    simp only [resolveP]
    rw [resolveSrc_congr falsy (.attr v name) (ho v)]
  | .stackTop v attr => by
    simp only [resolveP]
    rw [resolveSrc_congr falsy (.top v) (ho v)]
  | .cvar j attr => by simp only [resolveP, hv j]
  | .const x attr => rfl
  | .via inner attr => by
    simp only [resolveP]
    rw [resolveP_congr attrOf falsy ho hv inner]

end Wz.Local
