/-
PyFnsEq_MakeConditional — `Response.make_conditional` *as regenerated from werkzeug's source* by
`tools/py2lean.py` (`Gen/PyFns_Response.lean`, `make_conditional_bool`: the method body of
`werkzeug/wrappers/response.py` for `accept_ranges: bool`, rewritten on every check run) against the
hand-written model of `Model/Conditional.lean` that the C11 theorems are about
(`Cond.makeConditionalStatus`, `Cond.respond`). A change of the Python source changes the generated
definition and breaks these obligations.

What the method reads from the request / the response are parameters of the translation; they are
instantiated from the model here: `modified` = `Cond.isResourceModified q etag last_modified true`
(`ignore_if_range` keeps its default), `if_match_given` = `bool(parse_etags(If-Match))`,
`processable` = `Cond.rangeProcessable q r`, `HTTP_RANGE` = `q.range`. What it writes is the state of six
recorded attributes (`MCState`): Date written, Content-Length, Accept-Ranges, Content-Range, the
assigned `status_code` (`none` = never assigned: the response keeps its status), the
`_wrap_range_response(start, length)` call.

`make_conditional_bool_struct` lays out the control flow of the translated method once;
`make_conditional_bool_eq` is the equality with `mcView` of the model's answer, for any previous state; `mcView` is read
through its four rows (`mcView_other`, `_416`, `_partial`, `_plain`), and the run itself through the rows keyed on the model's
answer alone (`mcRun_416`, `mcRun_partial`, `mcRun_plain`, `mcRun_snd`). What follows from it is in `Props/C11T3.lean`.
-/
import WzVerif.Gen.PyFns_Response
import WzVerif.Lemmas.Conditional
import WzVerif.Lemmas.PyFnsEq_Response
namespace Wz.PyFnsEq.MakeConditional
open Wz Wz.Pre Wz.Gen.PyFns_Response Wz.PyFnsEq.Response

/-- the six recorded attributes of `make_conditional`: `out_date`, then the five of
`_process_range_request` (`out_content_length`, `out_accept_ranges`, `out_content_range`, `out_status`,
`out_wrap`) -/
abbrev MCState := Bool × OutState

/-- `out_date` after the call: set when the method is GET / HEAD and no Date header was present,
unchanged otherwise -/
def dateAfter (method : Str) (hasDate d0 : Bool) : Bool :=
  if isGetHead method && !hasDate then true else d0

/-- Content-Length after the closing block of `make_conditional`, `cl` being what was recorded before
it: `calculate_content_length()` is consulted only under `automatically_set_content_length` with no
Content-Length header present or recorded, and written only when it is not `None` -/
def fillLength (auto hasCL : Bool) (calcLen cl : Option Int) : Option Int :=
  if auto && !hasCL && cl.isNone then (match calcLen with | some n => some n | none => cl) else cl

theorem fillLength_none (auto hasCL : Bool) (calcLen : Option Int) :
    fillLength auto hasCL calcLen none = if auto && !hasCL then calcLen else none := by
  cases auto <;> cases hasCL <;> cases calcLen <;> rfl

theorem fillLength_some (auto hasCL : Bool) (calcLen : Option Int) (n : Int) :
    fillLength auto hasCL calcLen (some n) = some n := by
  cases auto <;> cases hasCL <;> rfl

/-- `out_status` after the call for a model status: 200 means `status_code` is never assigned -/
def statusAfter (code : Nat) (st0 : Option Int) : Option Int :=
  if code = 200 then st0 else some (code : Int)

/-- What `make_conditional` does to the recorded state `s`, and what it returns / raises, for each
answer `m` of the model's `makeConditionalStatus` (`l` is `complete_length`, 0 for `None`):
* any method but GET / HEAD: nothing is written, `self` is returned;
* model `none`: `RequestedRangeNotSatisfiable` is raised after the Date header only;
* model `some (_, .partialContent a b)`: the five writes of `_process_range_request` (Content-Length
  `b - a`, `Accept-Ranges: bytes`, `Content-Range: bytes a-(b-1)/l`, `status_code = 206`,
  `_wrap_range_response(a, b - a)`), Content-Length not touched again;
* model `some (code, _)` otherwise: `status_code = code` unless the code is 200, Content-Length filled
  from `calculate_content_length()` (`fillLength`), nothing else. -/
def mcView (method : Str) (hasDate auto hasCL : Bool) (calcLen : Option Int) (s : MCState) (l : Int)
    (m : Option (Nat × Cond.RangeOutcome)) : MCState × Except String Unit :=
  if isGetHead method then
    let d := dateAfter method hasDate s.1
    match m with
    | none => ((d, s.2), .error "RequestedRangeNotSatisfiable")
    | some (_, .partialContent a b) =>
      ((d, some (b - a), some Cond.bytesUnit, some (crText Cond.bytesUnit a b l), some 206, some (a, b - a)),
        .ok ())
    | some (code, _) =>
      ((d, fillLength auto hasCL calcLen s.2.1, s.2.2.1, s.2.2.2.1, statusAfter code s.2.2.2.2.1, s.2.2.2.2.2),
        .ok ())
  else (s, .ok ())

section rows
variable {method : Str} {hasDate auto hasCL : Bool} {calcLen : Option Int} {s : MCState} {l : Int}

theorem mcView_other (hm : isGetHead method = false) (m : Option (Nat × Cond.RangeOutcome)) :
    mcView method hasDate auto hasCL calcLen s l m = (s, .ok ()) := by
  simp [mcView, hm]

theorem mcView_416 (hm : isGetHead method = true) :
    mcView method hasDate auto hasCL calcLen s l none
      = ((dateAfter method hasDate s.1, s.2), .error "RequestedRangeNotSatisfiable") := by
  simp [mcView, hm]

theorem mcView_partial (hm : isGetHead method = true) (code : Nat) (a b : Int) :
    mcView method hasDate auto hasCL calcLen s l (some (code, .partialContent a b))
      = ((dateAfter method hasDate s.1, (rangeResult s.2 Cond.bytesUnit l (.partialContent a b)).1), .ok ()) := by
  simp [mcView, hm, rangeResult]

theorem mcView_plain (hm : isGetHead method = true) (code : Nat) {o : Cond.RangeOutcome}
    (ho : ∀ a b, o ≠ .partialContent a b) :
    mcView method hasDate auto hasCL calcLen s l (some (code, o))
      = ((dateAfter method hasDate s.1, fillLength auto hasCL calcLen s.2.1, s.2.2.1, s.2.2.2.1,
          statusAfter code s.2.2.2.2.1, s.2.2.2.2.2), .ok ()) := by
  cases o with
  | partialContent a b => exact absurd rfl (ho a b)
  | _ => simp [mcView, hm]

end rows

theorem contains_get_head (method : Str) :
    [['G', 'E', 'T'], ['H', 'E', 'A', 'D']].contains method = isGetHead method := by
  simp only [List.contains_cons, List.contains_nil, Bool.or_false, isGetHead]

/-- the closing block of `make_conditional` (`automatically_set_content_length` …) changes the recorded
Content-Length as `fillLength` says and nothing else; `f` is the rest of the result -/
theorem closing_block_eq {β : Type} (f : Option Int → β) (auto hasCL : Bool) (calcLen cl : Option Int) :
    (if (auto && contentLengthAbsent hasCL cl) = true then
        (match calcLen with
        | none => f cl
        | some n => f (some n))
      else f cl) = f (fillLength auto hasCL calcLen cl) := by
  cases auto
  · rfl
  · cases hasCL
    · cases cl
      · cases calcLen <;> rfl
      · rfl
    · rfl

/-- The translated method with its control flow laid out: the GET / HEAD test, the Date header, then
either the 412 / 304 assignment or `_process_range_request` (left as it is: `res`), whose exception is
passed on, and finally the closing Content-Length block. Every fact below is read off this equation. -/
theorem make_conditional_bool_struct (method : Str) (hasDate modified ifMatch processable : Bool)
    (httpRange : Option Str) (auto hasCL : Bool) (calcLen : Option Int) (s : MCState)
    (acceptRanges : Bool) (completeLength : Option Int) :
    make_conditional_bool method hasDate modified ifMatch processable httpRange auto hasCL calcLen
        s.1 s.2.1 s.2.2.1 s.2.2.2.1 s.2.2.2.2.1 s.2.2.2.2.2 () acceptRanges completeLength
      = if isGetHead method then
          let d := dateAfter method hasDate s.1
          if modified then
            let res := process_range_request_bool processable httpRange s.2.1 s.2.2.1 s.2.2.2.1
              s.2.2.2.2.1 s.2.2.2.2.2 () completeLength acceptRanges
            match res.2 with
            | .error e => ((d, res.1), .error e)
            | .ok _ => ((d, fillLength auto hasCL calcLen res.1.1, res.1.2), .ok ())
          else ((d, fillLength auto hasCL calcLen s.2.1, s.2.2.1, s.2.2.2.1,
            some (if ifMatch then 412 else 304), s.2.2.2.2.2), .ok ())
        else (s, .ok ()) := by
  obtain ⟨d0, cl0, ar0, cr0, st0, w0⟩ := s
  unfold make_conditional_bool dateAfter
  rw [contains_get_head]
  generalize process_range_request_bool processable httpRange cl0 ar0 cr0 st0 w0 () completeLength
    acceptRanges = res
  obtain ⟨⟨cl1, ar1, cr1, st1, w1⟩, e⟩ := res
  cases isGetHead method
  · rfl
  · cases modified
    · cases hasDate <;> cases ifMatch <;>
        exact closing_block_eq (fun c => ((_, c, ar0, cr0, _, w0), Except.ok ())) auto hasCL calcLen cl0
    · cases e
      · cases hasDate <;> rfl
      · cases hasDate <;>
          exact closing_block_eq (fun c => ((_, c, ar1, cr1, st1, w1), Except.ok ())) auto hasCL calcLen cl1

theorem make_conditional_bool_eq (method : Str) (q : Cond.CondReq) (r : Cond.RespIn)
    (hasDate auto hasCL : Bool) (calcLen : Option Int) (s : MCState)
    (completeLength : Option Int) (acceptRanges : Bool) :
    make_conditional_bool method hasDate (Cond.isResourceModified q r.etag (Cond.lmOf r) true)
        (Cond.parseEtags q.im).truthy (Cond.rangeProcessable q r) q.range auto hasCL calcLen
        s.1 s.2.1 s.2.2.1 s.2.2.2.1 s.2.2.2.2.1 s.2.2.2.2.2 () acceptRanges completeLength
      = mcView method hasDate auto hasCL calcLen s (completeLength.getD 0)
          (Cond.makeConditionalStatus method q r completeLength acceptRanges) := by
  rw [make_conditional_bool_struct, process_range_request_bool_eq, Cond.makeConditionalStatus_eq]
  unfold mcView
  cases isGetHead method
  · rfl
  · cases Cond.isResourceModified q r.etag (Cond.lmOf r) true
    · cases (Cond.parseEtags q.im).truthy <;> rfl
    · cases Cond.processRangeRequest q r completeLength acceptRanges
      · rfl
      · simp only [↓reduceIte, rangeResult, fillLength_some]
        rfl
      · rfl

/-- the translated `make_conditional` with its readings of the environ / the response headers taken
from the model (the instantiation of `make_conditional_bool_eq`), run from the recorded state `s` -/
abbrev mcRun (method : Str) (q : Cond.CondReq) (r : Cond.RespIn) (hasDate auto hasCL : Bool)
    (calcLen : Option Int) (s : MCState) (completeLength : Option Int) (acceptRanges : Bool) :
    MCState × Except String Unit :=
  make_conditional_bool method hasDate (Cond.isResourceModified q r.etag (Cond.lmOf r) true)
    (Cond.parseEtags q.im).truthy (Cond.rangeProcessable q r) q.range auto hasCL calcLen
    s.1 s.2.1 s.2.2.1 s.2.2.2.1 s.2.2.2.2.1 s.2.2.2.2.2 () acceptRanges completeLength

/-- the state of a response on which none of the five `_process_range_request` attributes was recorded yet -/
def fresh (d0 : Bool) : MCState := (d0, none, none, none, none, none)

theorem isGetHead_of_status (method : Str) (q : Cond.CondReq) (r : Cond.RespIn)
    (completeLength : Option Int) (acceptRanges : Bool)
    (h : Cond.makeConditionalStatus method q r completeLength acceptRanges ≠ some (200, .notRange)) :
    isGetHead method = true := by
  cases hm : isGetHead method
  · exact absurd (Cond.makeConditionalStatus_other method q r completeLength acceptRanges hm) h
  · rfl

section runRows
variable {method : Str} {q : Cond.CondReq} {r : Cond.RespIn} {hasDate auto hasCL : Bool}
  {calcLen : Option Int} {s : MCState} {completeLength : Option Int} {acceptRanges : Bool}

/-- the rows of `mcView` keyed on the model's answer alone (the answer implies the method test): 416 is raised
after the Date header only -/
theorem mcRun_416 (h : Cond.makeConditionalStatus method q r completeLength acceptRanges = none) :
    mcRun method q r hasDate auto hasCL calcLen s completeLength acceptRanges
      = ((dateAfter method hasDate s.1, s.2), .error "RequestedRangeNotSatisfiable") := by
  rw [mcRun, make_conditional_bool_eq, h, mcView_416 (isGetHead_of_status method q r completeLength acceptRanges (by simp [h]))]

/-- a partial content: the five writes of `_process_range_request` -/
theorem mcRun_partial {code : Nat} {a b : Int}
    (h : Cond.makeConditionalStatus method q r completeLength acceptRanges = some (code, .partialContent a b)) :
    mcRun method q r hasDate auto hasCL calcLen s completeLength acceptRanges
      = ((dateAfter method hasDate s.1,
          (rangeResult s.2 Cond.bytesUnit (completeLength.getD 0) (.partialContent a b)).1), .ok ()) := by
  have hm := isGetHead_of_status method q r completeLength acceptRanges (by simp [h])
  rw [mcRun, make_conditional_bool_eq, h, mcView_partial hm]

/-- an answer that is no partial content: the status (unless 200) and, for GET / HEAD, the closing
Content-Length block -/
theorem mcRun_plain {code : Nat} {o : Cond.RangeOutcome}
    (h : Cond.makeConditionalStatus method q r completeLength acceptRanges = some (code, o))
    (ho : ∀ a b, o ≠ .partialContent a b) :
    mcRun method q r hasDate auto hasCL calcLen s completeLength acceptRanges
      = ((dateAfter method hasDate s.1,
          if isGetHead method then fillLength auto hasCL calcLen s.2.1 else s.2.1,
          s.2.2.1, s.2.2.2.1, statusAfter code s.2.2.2.2.1, s.2.2.2.2.2), .ok ()) := by
  rw [mcRun, make_conditional_bool_eq, h]
  cases hm : isGetHead method
  · rw [Cond.makeConditionalStatus_other method q r completeLength acceptRanges hm] at h
    cases h
    simp [mcView_other hm, dateAfter, hm, statusAfter]
  · rw [mcView_plain hm code ho]; rfl

/-- whether it raises is whether the model answers 416 -/
theorem mcRun_snd :
    (mcRun method q r hasDate auto hasCL calcLen s completeLength acceptRanges).2
      = match Cond.makeConditionalStatus method q r completeLength acceptRanges with
        | none => .error "RequestedRangeNotSatisfiable"
        | some _ => .ok () := by
  cases h : Cond.makeConditionalStatus method q r completeLength acceptRanges with
  | none => rw [mcRun_416 h]
  | some p =>
    obtain ⟨code, o⟩ := p
    cases o with
    | partialContent a b => rw [mcRun_partial h]
    | _ => rw [mcRun_plain h (fun _ _ => nofun)]

end runRows

/-- Whenever the model answers a status, the translated `make_conditional` returns, and `status_code`
is assigned as `statusAfter` says: left alone for 200, set to the model's 412 / 304 / 206. -/
theorem mcRun_status (method : Str) (q : Cond.CondReq) (r : Cond.RespIn) (hasDate auto hasCL : Bool)
    (calcLen : Option Int) (s : MCState) (completeLength : Option Int) (acceptRanges : Bool)
    (code : Nat) (o : Cond.RangeOutcome)
    (h : Cond.makeConditionalStatus method q r completeLength acceptRanges = some (code, o)) :
    (mcRun method q r hasDate auto hasCL calcLen s completeLength acceptRanges).2 = .ok () ∧
    (mcRun method q r hasDate auto hasCL calcLen s completeLength acceptRanges).1.2.2.2.2.1
      = statusAfter code s.2.2.2.2.1 := by
  cases o with
  | partialContent a b =>
    cases (Cond.status_partial_iff.mp h).2.2.1
    rw [mcRun_partial h]
    exact ⟨rfl, rfl⟩
  | _ =>
    rw [mcRun_plain h (fun _ _ => nofun)]
    exact ⟨rfl, rfl⟩

/-- `calculate_content_length()` for the model's body kinds, on a GET / HEAD request: the total of the
chunks for a list (0) and for another iterable (1: `_ensure_sequence` consumes it), `None` under
`direct_passthrough` (2) -/
def kindLength (kind : Nat) (chunks : List Bytes) : Option Int :=
  if kind == 0 || kind == 1 then some ((chunks.flatten.length : Nat) : Int) else none

end Wz.PyFnsEq.MakeConditional
