/-
MultiDict with object identity: the inner lists are heap objects. `Sim h o r m` says that a step on the object `o` leads to `r`,
which has the value `m` the functional model computes, is well formed, and touched only list objects `o` owned or fresh ones
(`Good`). Every mutator and every append through a leaked live list is such a step (`step_spec`, `run_spec`); `frame` is what
follows for an object that shares no list object with `o` (`Sep`): it keeps its value. Copying is a step of the object without
keys (`copyObj_sim`), so the frame rule applies to the original and its copy.
-/
import WzVerif.Model.ContainersHeap
import WzVerif.Lemmas.MultiDict
namespace Wz.HeapMD
open Wz PyDict

-- the lemmas about `cell` and `abs` alone compare no keys and do not use the `[DecidableEq κ]` of the section
set_option linter.unusedSectionVars false
variable {κ ν : Type} [DecidableEq κ]

/-- distinct keys, distinct list objects, all addresses allocated -/
def WF (h : Heap ν) (o : Obj κ) : Prop :=
  NodupKeys o ∧ (addrs o).Nodup ∧ ∀ a ∈ addrs o, a < h.length

theorem WF.nodupKeys {h : Heap ν} {o : Obj κ} (hw : WF h o) : NodupKeys o := hw.1

theorem WF.nodup_addrs {h : Heap ν} {o : Obj κ} (hw : WF h o) : (addrs o).Nodup := hw.2.1

theorem WF.alloc {h : Heap ν} {o : Obj κ} (hw : WF h o) : ∀ a ∈ addrs o, a < h.length := hw.2.2

/-- what a step on object `o` may do to the heap: it grows, list objects that `o` does not own keep
their content, and the object afterwards owns old objects of `o` or fresh ones -/
structure Good (h : Heap ν) (o : Obj κ) (h' : Heap ν) (o' : Obj κ) : Prop where
  grows : h.length ≤ h'.length
  keeps : ∀ a, a < h.length → a ∉ addrs o → cell h' a = cell h a
  owns : ∀ a ∈ addrs o', a ∈ addrs o ∨ h.length ≤ a

/-- the step from `(h, o)` to `r` simulates the functional result `m`, leaves a well-formed object and stays
within the footprint of `o` -/
structure Sim (h : Heap ν) (o : Obj κ) (r : Heap ν × Obj κ) (m : Dict κ (List ν)) : Prop where
  abs_eq : abs r.1 r.2 = m
  wf : WF r.1 r.2
  good : Good h o r.1 r.2

theorem good_refl (h : Heap ν) (o : Obj κ) : Good h o h o :=
  ⟨Nat.le_refl _, fun _ _ _ => rfl, fun _ ha => Or.inl ha⟩

theorem good_trans {h h1 h2 : Heap ν} {o o1 o2 : Obj κ} (g1 : Good h o h1 o1) (g2 : Good h1 o1 h2 o2) :
    Good h o h2 o2 := by
  obtain ⟨l1, c1, a1⟩ := g1
  obtain ⟨l2, c2, a2⟩ := g2
  refine ⟨Nat.le_trans l1 l2, fun a ha hn => ?_, fun a ha => ?_⟩
  · rw [c2 a (Nat.lt_of_lt_of_le ha l1) (fun hm => ?_), c1 a ha hn]
    rcases a1 a hm with h' | h'
    · exact hn h'
    · omega
  · rcases a2 a ha with h' | h'
    · exact a1 a h'
    · exact Or.inr (Nat.le_trans l1 h')

theorem cell_append_lt (h : Heap ν) (x : Heap ν) (a : Nat) (ha : a < h.length) : cell (h ++ x) a = cell h a := by
  simp [cell, List.getD_eq_getElem?_getD, List.getElem?_append_left ha]

theorem cell_append_self (h : Heap ν) (vs : List ν) : cell (h ++ [vs]) h.length = vs := by
  simp [cell, List.getD_eq_getElem?_getD]

theorem cell_set_self (h : Heap ν) (a : Nat) (x : List ν) (ha : a < h.length) : cell (h.set a x) a = x := by
  simp [cell, List.getD_eq_getElem?_getD, ha]

theorem cell_set_ne (h : Heap ν) (a b : Nat) (x : List ν) (hne : b ≠ a) : cell (h.set a x) b = cell h b := by
  simp [cell, List.getD_eq_getElem?_getD, List.getElem?_set_ne hne.symm]

theorem abs_congr (h h' : Heap ν) (o : Obj κ) (hc : ∀ a ∈ addrs o, cell h' a = cell h a) : abs h' o = abs h o := by
  unfold abs
  apply List.map_congr_left
  intro e he
  rw [hc e.2 (List.mem_map_of_mem (f := fun x => x.2) he)]

theorem keys_abs (h : Heap ν) (o : Obj κ) : keys (abs h o) = keys o := by
  simp [abs, keys, Function.comp_def]

theorem lookup_abs (h : Heap ν) (o : Obj κ) (k : κ) : (abs h o).lookup k = (o.lookup k).map (cell h) := by
  induction o with
  | nil => rfl
  | cons e t ih =>
    obtain ⟨ek, ea⟩ := e
    simp only [abs, List.map_cons, List.lookup] at ih ⊢
    cases k == ek <;> simp [ih]

theorem has_abs (h : Heap ν) (o : Obj κ) (k : κ) : has (abs h o) k = has o k := by
  simp [has, lookup_abs]

theorem abs_erase (h : Heap ν) (o : Obj κ) (k : κ) : abs h (erase o k) = erase (abs h o) k := by
  induction o with
  | nil => rfl
  | cons e t ih =>
    obtain ⟨ek, ea⟩ := e
    simp only [abs, List.map_cons, erase] at ih ⊢
    by_cases hk : ek = k
    · simp [hk]
    · simp [hk, ih]

theorem abs_dropLast (h : Heap ν) (o : Obj κ) : abs h o.dropLast = (abs h o).dropLast := by
  simp [abs, List.map_dropLast]

theorem mem_addrs_of_lookup {o : Obj κ} {k : κ} {a : Nat} (hl : o.lookup k = some a) : a ∈ addrs o :=
  List.mem_map_of_mem (f := (·.2)) (mem_of_lookup hl)

theorem abs_putNew (h : Heap ν) (o : Obj κ) (k : κ) (vs : List ν) (hr : ∀ a ∈ addrs o, a < h.length) :
    abs (h ++ [vs]) (PyDict.set o k h.length) = PyDict.set (abs h o) k vs := by
  induction o with
  | nil => simp [abs, PyDict.set, cell_append_self]
  | cons e t ih =>
    obtain ⟨ek, ea⟩ := e
    have hea : ea < h.length := hr ea (by simp [addrs])
    have ht : ∀ a ∈ addrs t, a < h.length := fun a ha => hr a (by simp only [addrs, List.map_cons, List.mem_cons]; right; exact ha)
    by_cases hk : ek = k
    · subst hk
      simp only [PyDict.set, if_true, abs, List.map_cons, cell_append_self]
      congr 1
      exact abs_congr h (h ++ [vs]) t (fun a ha => cell_append_lt h _ a (ht a ha))
    · simp only [PyDict.set, hk, if_false, abs, List.map_cons, cell_append_lt h _ ea hea]
      congr 1
      exact ih ht

theorem abs_write (h : Heap ν) (o : Obj κ) (k : κ) (a : Nat) (x : List ν) (hw : WF h o) (hl : o.lookup k = some a) :
    abs (h.set a x) o = PyDict.set (abs h o) k x := by
  obtain ⟨hnk, hna, hr⟩ := hw
  induction o with
  | nil => cases hl
  | cons e t ih =>
    obtain ⟨ek, ea⟩ := e
    rw [nodupKeys_cons] at hnk
    simp only [addrs, List.map_cons, List.nodup_cons] at hna
    have hea : ea < h.length := hr ea (by simp [addrs])
    have ht : ∀ b ∈ addrs t, b < h.length := fun b hb => hr b (by simp only [addrs, List.map_cons, List.mem_cons]; right; exact hb)
    by_cases hk : ek = k
    · subst hk
      simp only [List.lookup, beq_self_eq_true, Option.some.injEq] at hl
      subst hl
      simp only [abs, List.map_cons, PyDict.set, if_true, cell_set_self h ea x hea]
      congr 1
      exact abs_congr h (h.set ea x) t (fun b hb => cell_set_ne h ea b x (fun e => hna.1 (e ▸ hb)))
    · have hb : (k == ek) = false := by simpa using fun e => hk e.symm
      simp only [List.lookup, hb] at hl
      have hne : ea ≠ a := fun e => hna.1 (e ▸ mem_addrs_of_lookup hl)
      simp only [abs, List.map_cons, PyDict.set, hk, if_false, cell_set_ne h a ea x hne]
      congr 1
      exact ih hl hnk.2 hna.2 ht

theorem wf_putNew (h : Heap ν) (o : Obj κ) (k : κ) (vs : List ν) (hw : WF h o) :
    WF (h ++ [vs]) (PyDict.set o k h.length) ∧ Good h o (h ++ [vs]) (PyDict.set o k h.length) := by
  obtain ⟨hnk, hna, hr⟩ := hw
  have hmem : ∀ a ∈ addrs (PyDict.set o k h.length), a ∈ addrs o ∨ a = h.length := by
    intro a ha
    simp only [addrs, List.mem_map] at ha ⊢
    obtain ⟨e, he, rfl⟩ := ha
    rcases mem_set he with h1 | h1
    · exact Or.inl ⟨e, h1, rfl⟩
    · right; rw [h1]
  have hnod : (addrs (PyDict.set o k h.length)).Nodup := by
    clear hmem
    induction o with
    | nil => simp [addrs, PyDict.set]
    | cons e t ih =>
      obtain ⟨ek, ea⟩ := e
      simp only [addrs, List.map_cons, List.nodup_cons] at hna
      rw [nodupKeys_cons] at hnk
      have ht : ∀ b ∈ addrs t, b < h.length := fun b hb => hr b (by simp only [addrs, List.map_cons, List.mem_cons]; right; exact hb)
      by_cases hk : ek = k
      · simp only [PyDict.set, hk, if_true, addrs, List.map_cons, List.nodup_cons]
        exact ⟨fun hm => absurd (ht _ hm) (Nat.lt_irrefl _), hna.2⟩
      · simp only [PyDict.set, hk, if_false, addrs, List.map_cons, List.nodup_cons]
        refine ⟨fun hm => ?_, ih hnk.2 hna.2 ht⟩
        have hea : ea < h.length := hr ea (by simp [addrs])
        simp only [List.mem_map] at hm
        obtain ⟨e', he', hea'⟩ := hm
        rcases mem_set he' with h1 | h1
        · exact hna.1 (by simp only [List.mem_map]; exact ⟨e', h1, hea'⟩)
        · rw [h1] at hea'; simp only at hea'; omega
  refine ⟨⟨nodupKeys_set o k _ hnk, hnod, fun a ha => ?_⟩, by simp, fun a ha _ => cell_append_lt h _ a ha, fun a ha => ?_⟩
  · rcases hmem a ha with h1 | h1
    · have := hr a h1; simp; omega
    · simp [h1]
  · rcases hmem a ha with h1 | h1
    · exact Or.inl h1
    · exact Or.inr (by omega)

theorem wf_write (h : Heap ν) (o : Obj κ) (a : Nat) (x : List ν) (hw : WF h o) (ha : a ∈ addrs o) :
    WF (h.set a x) o ∧ Good h o (h.set a x) o :=
  ⟨⟨hw.1, hw.2.1, fun b hb => by simpa using hw.2.2 b hb⟩, by simp,
    fun b _ hn => cell_set_ne h a b x (fun e => hn (e ▸ ha)), fun _ hb => Or.inl hb⟩

theorem wf_sub (h : Heap ν) (o o' : Obj κ) (hw : WF h o) (hs : o'.Sublist o) : WF h o' ∧ Good h o h o' := by
  have hsa : (addrs o').Sublist (addrs o) := hs.map _
  refine ⟨⟨?_, hw.2.1.sublist hsa, fun a ha => hw.2.2 a (hsa.subset ha)⟩, Nat.le_refl _, fun _ _ _ => rfl,
    fun a ha => Or.inl (hsa.subset ha)⟩
  exact List.Nodup.sublist (hs.map _) hw.1

theorem erase_sublist (o : Obj κ) (k : κ) : (erase o k).Sublist o := by
  induction o with
  | nil => exact List.Sublist.slnil
  | cons e t ih =>
    obtain ⟨ek, ea⟩ := e
    simp only [erase]
    by_cases hk : ek = k
    · simp only [hk, if_true]; exact List.sublist_cons_self _ _
    · simp only [hk, if_false]; exact ih.cons_cons _

theorem Sim.refl {h : Heap ν} {o : Obj κ} (hw : WF h o) : Sim h o (h, o) (abs h o) := ⟨rfl, hw, good_refl h o⟩

theorem Sim.trans {h : Heap ν} {o : Obj κ} {r r' : Heap ν × Obj κ} {m m' : Dict κ (List ν)}
    (s1 : Sim h o r m) (s2 : Sim r.1 r.2 r' m') : Sim h o r' m' :=
  ⟨s2.abs_eq, s2.wf, good_trans s1.good s2.good⟩

theorem sim_putNew {h : Heap ν} {o : Obj κ} (hw : WF h o) (k : κ) (vs : List ν) :
    Sim h o (putNew h o k vs) (PyDict.set (abs h o) k vs) :=
  ⟨abs_putNew h o k vs hw.alloc, (wf_putNew h o k vs hw).1, (wf_putNew h o k vs hw).2⟩

theorem sim_write {h : Heap ν} {o : Obj κ} (hw : WF h o) {k : κ} {a : Nat} (hl : o.lookup k = some a) (x : List ν) :
    Sim h o (h.set a x, o) (PyDict.set (abs h o) k x) :=
  ⟨abs_write h o k a x hw hl, (wf_write h o a x hw (mem_addrs_of_lookup hl)).1,
    (wf_write h o a x hw (mem_addrs_of_lookup hl)).2⟩

theorem sim_erase {h : Heap ν} {o : Obj κ} (hw : WF h o) (k : κ) : Sim h o (h, erase o k) (erase (abs h o) k) :=
  ⟨abs_erase h o k, (wf_sub h o _ hw (erase_sublist o k)).1, (wf_sub h o _ hw (erase_sublist o k)).2⟩

theorem sim_dropLast {h : Heap ν} {o : Obj κ} (hw : WF h o) : Sim h o (h, o.dropLast) (abs h o).dropLast :=
  ⟨abs_dropLast h o, (wf_sub h o _ hw (List.dropLast_sublist o)).1, (wf_sub h o _ hw (List.dropLast_sublist o)).2⟩

theorem addH_spec (h : Heap ν) (o : Obj κ) (k : κ) (v : ν) (hw : WF h o) :
    Sim h o (addH h o k v) (MD.add (abs h o) k v) := by
  unfold addH MD.add PyDict.get?
  rw [lookup_abs]
  cases hl : o.lookup k with
  | none => exact sim_putNew hw k [v]
  | some a => exact sim_write hw hl _

theorem addAllH_spec (h : Heap ν) (o : Obj κ) (ps : List (κ × ν)) (hw : WF h o) :
    Sim h o (addAllH h o ps) (MD.addAll (abs h o) ps) := by
  induction ps generalizing h o with
  | nil => exact Sim.refl hw
  | cons p t ih =>
    obtain ⟨k, v⟩ := p
    have s1 := addH_spec h o k v hw
    have s2 := ih _ _ s1.wf
    rw [s1.abs_eq] at s2
    exact s1.trans s2

/-- removing an absent key does nothing on the heap side either -/
theorem step_erase (h : Heap ν) (o : Obj κ) (k : κ) : (if has o k then (h, erase o k) else (h, o)) = (h, erase o k) := by
  split
  · rfl
  · rename_i hh; rw [erase_of_not_mem o k (fun hm => hh ((has_iff o k).2 hm))]

theorem step_spec (h : Heap ν) (o : Obj κ) (op : MD.Op κ ν) (hw : WF h o) :
    Sim h o (step h o op) (MD.step (abs h o) op).1 := by
  rw [C08L.step_fst]
  cases op <;> simp only [step, C08L.effect, has_abs, step_erase]
  case setitem k v => exact sim_putNew hw k [v]
  case setlist k vs => exact sim_putNew hw k vs
  case add k v => exact addH_spec h o k v hw
  case update a => exact addAllH_spec h o _ hw
  case ior a => exact addAllH_spec h o _ hw
  case delitem k => exact sim_erase hw k
  case pop k _ => exact sim_erase hw k
  case poplist k => exact sim_erase hw k
  case setdefault k v => cases has o k; exact sim_putNew hw k [v]; exact Sim.refl hw
  case setlistdefault k vs => cases has o k; exact sim_putNew hw k vs; exact Sim.refl hw
  case popitem => exact sim_dropLast hw
  case popitemlist => exact sim_dropLast hw
  case clear => exact ⟨rfl, ⟨List.nodup_nil, List.nodup_nil, fun _ ha => (by cases ha)⟩, Nat.le_refl _, fun _ _ _ => rfl,
    fun _ ha => (by cases ha)⟩

theorem next_spec (h : Heap ν) (o : Obj κ) (e : Ev κ ν) (hw : WF h o) :
    Sim h o (next h o e) (nextAbs (abs h o) e) := by
  cases e with
  | op op => exact step_spec h o op hw
  | via k vs =>
    simp only [next, nextAbs, PyDict.get?, lookup_abs]
    cases hl : o.lookup k with
    | none => exact Sim.refl hw
    | some a => exact sim_write hw hl _

theorem run_spec (h : Heap ν) (o : Obj κ) (evs : List (Ev κ ν)) (hw : WF h o) :
    Sim h o (run h o evs) (runAbs (abs h o) evs) := by
  induction evs generalizing h o with
  | nil => exact Sim.refl hw
  | cons e t ih =>
    have s1 := next_spec h o e hw
    have s2 := ih _ _ s1.wf
    rw [s1.abs_eq] at s2
    exact s1.trans s2

/-- two objects that share no list object -/
structure Sep (h : Heap ν) (o1 o2 : Obj κ) : Prop where
  left : WF h o1
  right : WF h o2
  disjoint : ∀ a ∈ addrs o1, a ∉ addrs o2

theorem Sep.symm {h : Heap ν} {o1 o2 : Obj κ} (hs : Sep h o1 o2) : Sep h o2 o1 :=
  ⟨hs.right, hs.left, fun a ha hm => hs.disjoint a hm ha⟩

theorem Sep.nil {h : Heap ν} {o : Obj κ} (hw : WF h o) : Sep h o ([] : Obj κ) :=
  ⟨hw, ⟨List.nodup_nil, List.nodup_nil, fun _ ha => (by cases ha)⟩, fun _ _ hm => (by cases hm)⟩

/-- the frame rule: whatever happens to `o2`, a separated object `o1` keeps its value, stays
well-formed and separated -/
theorem frame {h : Heap ν} {o1 o2 : Obj κ} {r : Heap ν × Obj κ} {m : Dict κ (List ν)} (hs : Sep h o1 o2)
    (s : Sim h o2 r m) : abs r.1 o1 = abs h o1 ∧ Sep r.1 o1 r.2 := by
  have w1 := hs.left
  refine ⟨abs_congr h r.1 o1 (fun a ha => s.good.keeps a (w1.alloc a ha) (hs.disjoint a ha)),
    ⟨w1.nodupKeys, w1.nodup_addrs, fun a ha => Nat.lt_of_lt_of_le (w1.alloc a ha) s.good.grows⟩, s.wf, fun a ha hm => ?_⟩
  rcases s.good.owns a hm with h1 | h1
  · exact hs.disjoint a ha h1
  · have := w1.alloc a ha; omega

/-- copying is a run of `putNew`s on an object that starts without keys: the heap grows, every old list
object keeps its content, the copy owns new ones only -/
theorem copy_sim (h : Heap ν) (rest : Obj κ) : ∀ (r : Heap ν × Obj κ) (m : Dict κ (List ν)),
    Sim h ([] : Obj κ) r m → NodupKeys (r.2 ++ rest) →
    Sim h ([] : Obj κ) (rest.foldl (fun acc e => (acc.1 ++ [cell h e.2], acc.2 ++ [(e.1, acc.1.length)])) r)
      (m ++ abs h rest) := by
  induction rest with
  | nil => intro r m s _; rw [show abs h ([] : Obj κ) = [] from rfl, List.append_nil]; exact s
  | cons e t ih =>
    obtain ⟨ek, ea⟩ := e
    intro r m s hk
    have hnk : ek ∉ keys r.2 := not_mem_keys_of_nodup_append hk
    have s' := s.trans (sim_putNew s.wf ek (cell h ea))
    rw [putNew, set_of_not_mem _ ek _ hnk, s.abs_eq, set_of_not_mem m ek _ (by rw [← s.abs_eq, keys_abs]; exact hnk)] at s'
    have := ih _ _ s' (by simpa [NodupKeys] using hk)
    simpa [abs] using this

theorem copyObj_sim (h : Heap ν) (o : Obj κ) (hw : WF h o) : Sim h ([] : Obj κ) (copyObj h o) (abs h o) := by
  have := copy_sim h o (h, []) [] (Sim.refl (Sep.nil hw).right) hw.nodupKeys
  rwa [List.nil_append] at this

theorem copyObj_spec (h : Heap ν) (o : Obj κ) (hw : WF h o) :
    abs (copyObj h o).1 (copyObj h o).2 = abs h o ∧ abs (copyObj h o).1 o = abs h o ∧
    Sep (copyObj h o).1 o (copyObj h o).2 :=
  ⟨(copyObj_sim h o hw).abs_eq, frame (Sep.nil hw) (copyObj_sim h o hw)⟩

end Wz.HeapMD
