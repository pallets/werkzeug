/-
The `_search_position` at which PREAMBLE and PART resume after a failed search hides nothing (C01): no
extension of the buffer has a match that starts before it — `NoEarly` for `preamble_re` (the rule as
repaired for F01c, `nextSearchPos`), `NoEarlyBlank` for `BLANK_LINE_RE` — so searching from it is
searching from 0 (`.search`). `noEarly_next` / `noEarlyBlank_next` carry the invariant over one failed
search, `spAfter_noEarly` over a run of them.
-/
import WzVerif.Lemmas.Multipart
namespace Wz.Multipart
open Wz

theorem rfindFrom_spec (sub : Bytes) : ∀ (buf : Bytes) (i start : Nat),
    match rfindFrom sub buf i start with
    | none => ∀ k, k < buf.length → start ≤ i + k → sub.isPrefixOf (buf.drop k) = false
    | some p => ∃ k, p = i + k ∧ k < buf.length ∧ start ≤ p ∧ sub.isPrefixOf (buf.drop k) = true ∧
        ∀ k', k' < buf.length → start ≤ i + k' → sub.isPrefixOf (buf.drop k') = true → k' ≤ k := by
  intro buf
  induction buf with
  | nil => intro i start; simp [rfindFrom]
  | cons a t ih =>
    intro i start
    have := ih (i + 1) start
    simp only [rfindFrom]
    cases hr : rfindFrom sub t (i + 1) start with
    | some p =>
      rw [hr] at this
      simp only at this ⊢
      rcases this with ⟨k, hp, hk, hs, hpre, hmax⟩
      refine ⟨k + 1, by omega, by simp; omega, hs, by simpa using hpre, ?_⟩
      intro k' hk' hs' hp'
      cases k' with
      | zero => omega
      | succ k'' =>
        have := hmax k'' (by simpa using hk') (by omega) (by simpa using hp')
        omega
    | none =>
      rw [hr] at this
      simp only at this ⊢
      by_cases hc : (start ≤ i && sub.isPrefixOf (a :: t)) = true
      · rw [if_pos hc]
        simp only [Bool.and_eq_true, decide_eq_true_eq] at hc
        refine ⟨0, rfl, by simp, hc.1, by simpa using hc.2, ?_⟩
        intro k' hk' hs' hp'
        cases k' with
        | zero => omega
        | succ k'' =>
          have := this k'' (by simpa using hk') (by omega)
          simp only [List.drop_succ_cons] at hp'
          rw [this] at hp'; simp at hp'
      · rw [if_neg hc]
        intro k hk hs
        cases k with
        | zero =>
          simp only [List.drop_zero]
          simp only [Bool.and_eq_true, decide_eq_true_eq, not_and] at hc
          cases hq : sub.isPrefixOf (a :: t) with
          | false => rfl
          | true => exact absurd hq (hc (by omega))
        | succ k'' =>
          simp only [List.drop_succ_cons]
          exact this k'' (by simpa using hk) (by omega)

theorem rfindFrom_none {sub buf : Bytes} {i start : Nat} (h : rfindFrom sub buf i start = none) :
    ∀ k, k < buf.length → start ≤ i + k → sub.isPrefixOf (buf.drop k) = false := by
  have := rfindFrom_spec sub buf i start
  rwa [h] at this

theorem rfindFrom_some {sub buf : Bytes} {i start p : Nat} (h : rfindFrom sub buf i start = some p) :
    ∃ k, p = i + k ∧ k < buf.length ∧ start ≤ p ∧ sub.isPrefixOf (buf.drop k) = true ∧
      ∀ k', k' < buf.length → start ≤ i + k' → sub.isPrefixOf (buf.drop k') = true → k' ≤ k := by
  have := rfindFrom_spec sub buf i start
  rwa [h] at this

/-- no extension of the buffer has a `preamble_re` match that starts before `sp`: `NoMatchBefore bnd true`
written out (`noEarly_iff`), the name the statements about `_search_position` use -/
def NoEarly (bnd : Bytes) (sp : Nat) (buf : Bytes) : Prop :=
  ∀ c j, j < sp → matchDelimAt bnd true ((buf ++ c).drop j) = none

theorem noEarly_iff {bnd buf : Bytes} {sp : Nat} : NoEarly bnd sp buf ↔ NoMatchBefore bnd true sp buf := Iff.rfl

theorem NoEarly.zero (bnd buf : Bytes) : NoEarly bnd 0 buf := noEarly_iff.2 (.zero bnd true buf)

theorem NoEarly.append {bnd buf : Bytes} {sp : Nat} (h : NoEarly bnd sp buf) (c : Bytes) :
    NoEarly bnd sp (buf ++ c) :=
  noEarly_iff.2 ((noEarly_iff.1 h).append c)

theorem NoEarly.search {bnd buf : Bytes} {sp : Nat} (h : NoEarly bnd sp buf) :
    searchDelimFrom bnd true sp buf = searchDelim bnd true buf :=
  (noEarly_iff.1 h).search

/-- in every extension, the search from such a position finds what the search from 0 finds -/
theorem NoEarly.search_append {bnd buf : Bytes} {sp : Nat} (h : NoEarly bnd sp buf) (c : Bytes) :
    searchDelimFrom bnd true sp (buf ++ c) = searchDelimFrom bnd true 0 (buf ++ c) := by
  rw [(h.append c).search, searchDelimFrom_eq_shift]; simp

theorem nextSearchPos_of_none {bnd buf : Bytes} {sp : Nat} (h : rfindFrom (delim bnd) buf 0 sp = none) :
    nextSearchPos bnd buf sp = buf.length - bnd.length - searchExtra := by
  unfold nextSearchPos delim at *; rw [h]

theorem nextSearchPos_of_some {bnd buf : Bytes} {sp p : Nat} (h : rfindFrom (delim bnd) buf 0 sp = some p) :
    nextSearchPos bnd buf sp = min (buf.length - bnd.length - searchExtra) (p - 2) := by
  unfold nextSearchPos delim at *; rw [h]

theorem nextSearchPos_le (bnd buf : Bytes) (sp : Nat) :
    nextSearchPos bnd buf sp ≤ buf.length - bnd.length - searchExtra := by
  cases h : rfindFrom (delim bnd) buf 0 sp with
  | none => exact Nat.le_of_eq (nextSearchPos_of_none h)
  | some p => rw [nextSearchPos_of_some h]; exact Nat.min_le_left _ _

theorem nextSearchPos_le_last {bnd buf : Bytes} {sp q : Nat} (hq : q < buf.length) (hsq : sp ≤ q)
    (hqp : (delim bnd).isPrefixOf (buf.drop q) = true)
    (hlast : ∀ k, q < k → k < buf.length → (delim bnd).isPrefixOf (buf.drop k) = false) :
    nextSearchPos bnd buf sp ≤ q - 2 := by
  cases hr : rfindFrom (delim bnd) buf 0 sp with
  | none =>
    have := rfindFrom_none hr q hq (by omega)
    rw [hqp] at this; cases this
  | some p =>
    obtain ⟨k, hpk, hk, _, hpre, hmax⟩ := rfindFrom_some hr
    have hqk := hmax q hq (by omega) hqp
    have hkq : k = q := by
      apply Nat.le_antisymm _ hqk
      apply Nat.le_of_not_lt
      intro hlt
      rw [hlast k hlt hk] at hpre; cases hpre
    have : p = q := by omega
    rw [nextSearchPos_of_some hr, this]
    exact Nat.min_le_right _ _

theorem noEarly_next {bnd buf : Bytes} {sp : Nat} (h : NoEarly bnd sp buf)
    (hnone : searchDelim bnd true buf = none) : NoEarly bnd (nextSearchPos bnd buf sp) buf := by
  intro c j hj
  cases hm : matchDelimAt bnd true ((buf ++ c).drop j) with
  | none => rfl
  | some v =>
    exfalso
    rcases v with ⟨n, f⟩
    have hle := nextSearchPos_le bnd buf sp
    rw [searchExtra_eq] at hle
    have hjlen : j + bnd.length + 8 < buf.length := by omega
    -- the old position does not hide the match
    have hjsp : sp ≤ j := by
      apply Nat.le_of_not_lt
      intro hlt
      rw [h c j hlt] at hm; simp at hm
    let X := buf.drop j
    have hXlen : X.length = buf.length - j := by simp [X]
    have hdropX : (buf ++ c).drop j = X ++ c := List.drop_append_of_le_length (by omega)
    rw [hdropX] at hm
    have hlb2 := lbLen_le_two (X ++ c)
    -- `--boundary` lies inside the buffer, the rest of the delimiter line is not complete there
    obtain ⟨rb, hp⟩ := pending_delim (X := X) (searchDelim_none_drop hnone j) hm (by omega)
    have hrb := hp.tail
    have hlbX := lbLen_le_two X
    have hrblen : 5 ≤ rb.length := by
      have := congrArg List.length hrb
      rw [List.length_append, delim_length] at this
      simp at this
      omega
    -- the occurrence of `--boundary` at q = j + lb
    let q := j + lbLen X
    have hq : buf.drop q = delim bnd ++ rb := by
      simp only [q]
      rw [← List.drop_drop]
      exact hrb
    have hqlen : q < buf.length := by simp only [q]; omega
    have hqp : (delim bnd).isPrefixOf (buf.drop q) = true := by
      rw [hq, List.isPrefixOf_iff_prefix]; exact List.prefix_append _ _
    -- it is the last one (a later occurrence would overlap it), so the new position is at most q - 2 ≤ j
    have hfinal := nextSearchPos_le_last (sp := sp) hqlen (by simp only [q]; omega) hqp fun k hlt hk => by
      cases hpre : (delim bnd).isPrefixOf (buf.drop k) with
      | false => rfl
      | true =>
        obtain ⟨Z, hZ⟩ := List.isPrefixOf_iff_prefix.1 hpre
        have hov : (delim bnd ++ rb).drop (k - q) = delim bnd ++ Z := by
          rw [← hq, List.drop_drop, show q + (k - q) = k by omega, hZ]
        rw [(hp.last (k := k - q) (by omega) hov).1] at hrblen
        simp at hrblen
    simp only [q] at hfinal
    omega

/-- the `_search_position` after the chunks `cs` have been appended one by one to `buf` (search
position `sp`), `preamble_re` failing each time -/
def spAfter (bnd : Bytes) : List Bytes → Bytes → Nat → Nat
  | [], _, sp => sp
  | c :: cs, buf, sp => spAfter bnd cs (buf ++ c) (nextSearchPos bnd (buf ++ c) sp)

theorem spAfter_noEarly {bnd : Bytes} : ∀ (cs : List Bytes) (buf : Bytes) (sp : Nat), NoEarly bnd sp buf →
    searchDelim bnd true (buf ++ cs.flatten) = none → NoEarly bnd (spAfter bnd cs buf sp) (buf ++ cs.flatten) := by
  intro cs
  induction cs with
  | nil => intro buf sp h _; simpa [spAfter] using h
  | cons c cs ih =>
    intro buf sp h hnone
    simp only [spAfter, List.flatten_cons] at hnone ⊢
    rw [← List.append_assoc] at hnone ⊢
    exact ih (buf ++ c) _ (noEarly_next (h.append c) (searchDelim_none_prefix hnone)) hnone

/-- no extension of the buffer has a blank line that starts before `sp` (`NoEarly` for `BLANK_LINE_RE`) -/
def NoEarlyBlank (sp : Nat) (buf : Bytes) : Prop :=
  ∀ c j, j < sp → blankLen ((buf ++ c).drop j) = 0

theorem NoEarlyBlank.zero (buf : Bytes) : NoEarlyBlank 0 buf := fun _ _ h => absurd h (Nat.not_lt_zero _)

theorem NoEarlyBlank.append {buf : Bytes} {sp : Nat} (h : NoEarlyBlank sp buf) (c : Bytes) :
    NoEarlyBlank sp (buf ++ c) := by
  intro c' j hj
  rw [List.append_assoc]
  exact h (c ++ c') j hj

theorem NoEarlyBlank.search {buf : Bytes} {sp : Nat} (h : NoEarlyBlank sp buf) :
    searchBlankFrom sp buf = searchBlank buf := by
  rw [searchBlankFrom_eq_shift]
  exact (searchBlank_skip buf sp fun j hj => by simpa using h [] j hj).symm

theorem NoEarlyBlank.search_append {buf : Bytes} {sp : Nat} (h : NoEarlyBlank sp buf) (c : Bytes) :
    searchBlankFrom sp (buf ++ c) = searchBlankFrom 0 (buf ++ c) := by
  rw [(h.append c).search, searchBlankFrom_eq_shift]; simp

/-- the position retained after a failed search, `len(buf) - SEARCH_EXTRA_LENGTH`, needs no hypothesis: a
blank line is at most 4 bytes long -/
theorem noEarlyBlank_next {buf : Bytes} (hnone : searchBlank buf = none) :
    NoEarlyBlank (buf.length - searchExtra) buf := by
  intro c j hj
  rw [searchExtra_eq] at hj
  have h4 := blankLen_le (buf.drop j ++ c)
  rw [List.drop_append_of_le_length (by omega),
    ← blankLen_restrict (x := buf.drop j) (c := c) (by simp; omega)]
  exact searchBlank_none_drop hnone j

end Wz.Multipart
