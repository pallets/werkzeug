/-
Laws of the reads of MultiDict that are not refinement of `MDSpec`: what `getlist` finds after each mutator and
after bulk updates, CombinedMultiDict as a merge of its dicts (first occurrence of a key wins its place), copy /
pickle / `==`; and the immutable variants over the generated blocker table: a history of blocked calls
answers TypeError every time and leaves the instance as it was.
-/
import WzVerif.Lemmas.MultiDict
namespace Wz.C08L
open Wz PyDict

section Imm
variable {σ ρ : Type}

theorem call_blocked (cls name : String) (run : σ → σ × Except String ρ) (c : σ)
    (h : (Imm.blocked cls).contains name = true) : Imm.call cls name run c = (c, .error "TypeError") := by
  unfold Imm.call
  rw [if_pos h]

/-- a history of method calls on an immutable instance: (method name, inherited implementation) -/
def immRun (cls : String) (c : σ) : List (String × (σ → σ × Except String ρ)) → σ × List (Except String ρ)
  | [] => (c, [])
  | (name, run) :: t =>
    let r := Imm.call cls name run c
    let rest := immRun cls r.1 t
    (rest.1, r.2 :: rest.2)

theorem immRun_unchanged (cls : String) (c : σ) (calls : List (String × (σ → σ × Except String ρ)))
    (h : ∀ call ∈ calls, (Imm.blocked cls).contains call.1 = true) :
    immRun cls c calls = (c, calls.map fun _ => .error "TypeError") := by
  induction calls with
  | nil => rfl
  | cons x t ih =>
    obtain ⟨name, run⟩ := x
    have hx := h (name, run) List.mem_cons_self
    have ht := ih (fun call hc => h call (List.mem_cons_of_mem _ hc))
    simp only [immRun, call_blocked cls name run c hx, ht, List.map_cons]

theorem immRun_map {ο : Type} (cls : String) (name : ο → String) (f : σ → ο → σ × Except String ρ) (c : σ)
    (ops : List ο) (h : ∀ op, (Imm.blocked cls).contains (name op) = true) :
    immRun cls c (ops.map fun op => (name op, fun c => f c op)) = (c, ops.map fun _ => .error "TypeError") := by
  rw [immRun_unchanged cls c _ (fun call hc => by obtain ⟨op, _, rfl⟩ := List.mem_map.1 hc; exact h op), List.map_map]
  rfl

/-- `Imm.mutators cls` and `Imm.blocked cls` read the same row of the table: when every row blocks all of its
mutators, a mutator name of `cls` is a blocked name of `cls` -/
theorem blocked_of_mutator
    (hall : Gen.Containers.immTable.all (fun (_, _, muts, blocked) => muts.all fun m => blocked.contains m) = true)
    (cls name : String) (hm : (Imm.mutators cls).contains name = true) : (Imm.blocked cls).contains name = true := by
  unfold Imm.mutators at hm
  unfold Imm.blocked
  cases hr : Gen.Containers.immTable.find? (·.1 == cls) with
  | none => rw [hr] at hm; cases hm
  | some r =>
    rw [hr] at hm
    obtain ⟨c0, b0, muts, blocked⟩ := r
    exact List.all_eq_true.1 (List.all_eq_true.1 hall _ (List.mem_of_find?_eq_some hr)) name (by simpa using hm)

end Imm

section Bulk
variable {κ ν : Type} [DecidableEq κ]
open MD

/-- one step of `rv.setdefault(key, []).extend(values)` -/
def mergeStep (rv : Dict κ (List ν)) (e : κ × List ν) : Dict κ (List ν) :=
  match get? rv e.1 with
  | some vs => PyDict.set rv e.1 (vs ++ e.2)
  | none => PyDict.set rv e.1 e.2

theorem mergeStep_eq_set (rv : Dict κ (List ν)) (e : κ × List ν) :
    mergeStep rv e = PyDict.set rv e.1 ((rv.lookup e.1).getD [] ++ e.2) := by
  unfold mergeStep PyDict.get?
  cases rv.lookup e.1 <;> rfl

theorem lookup_mergeStep (rv : Dict κ (List ν)) (e : κ × List ν) (k : κ) :
    (mergeStep rv e).lookup k =
      if k = e.1 then some ((rv.lookup e.1).getD [] ++ e.2) else rv.lookup k := by
  rw [mergeStep_eq_set, lookup_set]

theorem keys_mergeStep (rv : Dict κ (List ν)) (e : κ × List ν) :
    keys (mergeStep rv e) = if e.1 ∈ keys rv then keys rv else keys rv ++ [e.1] := by
  rw [mergeStep_eq_set, keys_set]

theorem nodup_mergeStep (rv : Dict κ (List ν)) (e : κ × List ν) (hn : NodupKeys rv) : NodupKeys (mergeStep rv e) := by
  rw [mergeStep_eq_set]; exact nodupKeys_set _ _ _ hn

theorem add_eq_set (c : MD.St κ ν) (k : κ) (v : ν) : MD.add c k v = PyDict.set c k (MD.getlist c k ++ [v]) :=
  mergeStep_eq_set c (k, [v])

theorem getlist_set (c : MD.St κ ν) (k k' : κ) (vs : List ν) :
    MD.getlist (PyDict.set c k vs) k' = if k' = k then vs else MD.getlist c k' := by
  rw [MD.getlist, get?_set]
  split <;> rfl

theorem getlist_add (c : MD.St κ ν) (k k' : κ) (v : ν) :
    MD.getlist (MD.add c k v) k' = if k' = k then MD.getlist c k ++ [v] else MD.getlist c k' := by
  rw [add_eq_set, getlist_set]

theorem getlist_addAll (c : MD.St κ ν) (ps : List (κ × ν)) (k : κ) :
    MD.getlist (MD.addAll c ps) k = MD.getlist c k ++ (ps.filter (fun p => p.1 == k)).map (·.2) := by
  induction ps generalizing c with
  | nil => simp [MD.addAll]
  | cons p t ih =>
    obtain ⟨pk, pv⟩ := p
    simp only [MD.addAll, ih, getlist_add, List.filter_cons]
    by_cases hk : k = pk
    · subst hk; simp
    · have : (pk == k) = false := by simpa using fun h => hk h.symm
      simp [hk, this]

theorem keys_add (c : MD.St κ ν) (k : κ) (v : ν) :
    keys (MD.add c k v) = if k ∈ keys c then keys c else keys c ++ [k] :=
  keys_mergeStep c (k, [v])

theorem getlist_erase (c : MD.St κ ν) (hn : NodupKeys c) (k k' : κ) :
    MD.getlist (erase c k) k' = if k' = k then [] else MD.getlist c k' := by
  rw [MD.getlist, get?_erase c hn]
  split <;> rfl

end Bulk

section Combined
variable {κ ν : Type} [DecidableEq κ]
open MD MDSpec

/-- keys in order of first appearance -/
def firstOcc (acc : List κ) : List κ → List κ
  | [] => acc
  | k :: t => firstOcc (if k ∈ acc then acc else acc ++ [k]) t

theorem lists_eq_foldl (c : CMD.St κ ν) : CMD.lists c = c.flatten.foldl mergeStep [] := by
  unfold CMD.lists
  rw [List.foldl_flatten]
  rfl

theorem keys_merge (rv : Dict κ (List ν)) (es : List (κ × List ν)) :
    keys (es.foldl mergeStep rv) = firstOcc (keys rv) (es.map (·.1)) := by
  induction es generalizing rv with
  | nil => rfl
  | cons e t ih => simp only [List.foldl_cons, List.map_cons, firstOcc, ih, keys_mergeStep]

theorem nodup_merge (rv : Dict κ (List ν)) (es : List (κ × List ν)) (hn : NodupKeys rv) :
    NodupKeys (es.foldl mergeStep rv) := by
  induction es generalizing rv with
  | nil => exact hn
  | cons e t ih => exact ih _ (nodup_mergeStep rv e hn)

theorem lookup_merge (rv : Dict κ (List ν)) (es : List (κ × List ν)) (k : κ) :
    (es.foldl mergeStep rv).lookup k =
      if k ∈ keys rv ∨ k ∈ es.map (·.1) then
        some ((rv.lookup k).getD [] ++ (es.filter (fun e => e.1 == k)).flatMap (·.2))
      else none := by
  induction es generalizing rv with
  | nil =>
    simp only [List.foldl_nil, List.map_nil, List.not_mem_nil, or_false, List.filter_nil, List.flatMap_nil,
      List.append_nil]
    by_cases h : k ∈ keys rv
    · simp only [h, if_true]
      have := (mem_keys_iff_lookup rv k).1 h
      cases hl : rv.lookup k with
      | none => rw [hl] at this; cases this
      | some v => rfl
    · simp only [h, if_false]
      cases hl : rv.lookup k with
      | none => rfl
      | some v => exact absurd ((mem_keys_iff_lookup rv k).2 (by rw [hl]; rfl)) h
  | cons e t ih =>
    obtain ⟨ek, ev⟩ := e
    simp only [List.foldl_cons, ih, lookup_mergeStep, keys_mergeStep, List.map_cons, List.mem_cons, List.filter_cons]
    by_cases hk : k = ek
    · subst hk
      have hmem : k ∈ (if k ∈ keys rv then keys rv else keys rv ++ [k]) := by
        by_cases h : k ∈ keys rv <;> simp [h]
      simp only [hmem, true_or, or_true, if_true, beq_self_eq_true, List.flatMap_cons, Option.getD_some,
        List.append_assoc]
    · have hb : (ek == k) = false := by simpa using fun h => hk h.symm
      have hmem : k ∈ (if ek ∈ keys rv then keys rv else keys rv ++ [ek]) ↔ k ∈ keys rv := by
        by_cases h : ek ∈ keys rv <;> simp [h, hk]
      simp only [hk, if_false, hb, hmem, false_or, Bool.false_eq_true]

theorem flatMap_filter_flatten (c : CMD.St κ ν) (k : κ) (hn : ∀ d ∈ c, NodupKeys d) :
    (c.flatten.filter (fun e => e.1 == k)).flatMap (·.2) = CMD.getlist c k := by
  unfold CMD.getlist
  induction c with
  | nil => rfl
  | cons d t ih =>
    have hd := hn d List.mem_cons_self
    have ht := ih (fun d' hd' => hn d' (List.mem_cons_of_mem _ hd'))
    simp only [List.flatten_cons, List.filter_append, List.flatMap_append, List.flatMap_cons, ht]
    congr 1
    have := MDLemmas.valuesOf_eq d hd k
    simp only [MDSpec.valuesOf] at this
    rw [this]

theorem contains_iff_flatten (c : CMD.St κ ν) (k : κ) :
    CMD.contains c k = true ↔ k ∈ c.flatten.map (·.1) := by
  simp only [CMD.contains, List.any_eq_true, has_iff, keys, List.mem_map, List.mem_flatten]
  constructor
  · rintro ⟨d, hd, e, he, rfl⟩; exact ⟨e, ⟨d, hd, he⟩, rfl⟩
  · rintro ⟨e, ⟨d, hd, he⟩, rfl⟩; exact ⟨d, hd, e, he, rfl⟩

theorem cmd_lists_spec (c : CMD.St κ ν) (hn : ∀ d ∈ c, NodupKeys d) :
    NodupKeys (CMD.lists c) ∧
    keys (CMD.lists c) = firstOcc [] (c.flatMap keys) ∧
    ∀ k, (CMD.lists c).lookup k = if CMD.contains c k then some (CMD.getlist c k) else none := by
  rw [lists_eq_foldl]
  refine ⟨nodup_merge _ _ nodupKeys_nil, ?_, fun k => ?_⟩
  · rw [keys_merge]
    congr 1
    simp only [List.flatMap_def, List.map_flatten]
    rfl
  · rw [lookup_merge, flatMap_filter_flatten c k hn]
    have := contains_iff_flatten c k
    by_cases hc : CMD.contains c k = true
    · have hm := this.1 hc
      simp only [hc, if_true]
      rw [if_pos (Or.inr hm)]
      simp
    · have hc' : CMD.contains c k = false := by simpa using hc
      have hnm : k ∉ c.flatten.map (·.1) := fun h => hc (this.2 h)
      simp only [hc', Bool.false_eq_true, if_false]
      rw [if_neg]
      simpa [keys] using hnm

theorem cmd_getitem_first (c : CMD.St κ ν) (k : κ) :
    CMD.getitem c k = (match c.find? (has · k) with
      | some d => MD.getitem d k
      | none => .error "BadRequestKeyError") := by
  induction c with
  | nil => rfl
  | cons d t ih =>
    simp only [CMD.getitem, List.find?_cons]
    cases has d k <;> simp [ih]

theorem cmd_get_first (c : CMD.St κ ν) (k : κ) :
    CMD.get c k = (match c.find? (has · k) with
      | some d => (MD.getitem d k).map some
      | none => .ok none) := by
  induction c with
  | nil => rfl
  | cons d t ih =>
    simp only [CMD.get, List.find?_cons]
    cases has d k <;> simp [ih]

theorem cmd_getTyped_first {τ : Type} (conv : ν → Option τ) (c : CMD.St κ ν) (k : κ)
    (hv : ∀ d ∈ c, has d k = true → ∃ v, MD.getitem d k = .ok v) :
    CMD.getTyped conv c k = .ok ((c.filterMap fun d => (MD.getTyped conv d k)).head?) := by
  induction c with
  | nil => rfl
  | cons d t ih =>
    have iht := ih (fun d' hd' => hv d' (List.mem_cons_of_mem _ hd'))
    simp only [CMD.getTyped, List.filterMap_cons]
    cases hh : has d k with
    | false =>
      have : MD.getTyped conv d k = none := by
        unfold MD.getTyped MD.getitem PyDict.get?
        unfold has at hh
        cases hl : d.lookup k with
        | none => rfl
        | some vs => simp [hl] at hh
      simp [this, iht]
    | true =>
      obtain ⟨v, hg⟩ := hv d List.mem_cons_self hh
      have hgt : MD.getTyped conv d k = conv v := by simp [MD.getTyped, hg]
      simp only [if_true, hg, hgt]
      cases hc : conv v with
      | some x => simp
      | none => simp [iht]

/-- keys of `ks` not seen before (`found` grows), in order -/
def newKeys (found : List κ) : List κ → List κ
  | [] => []
  | k :: t => if k ∈ found then newKeys found t else k :: newKeys (found ++ [k]) t

theorem firstOcc_eq_newKeys (acc ks : List κ) : firstOcc acc ks = acc ++ newKeys acc ks := by
  induction ks generalizing acc with
  | nil => simp [firstOcc, newKeys]
  | cons k t ih =>
    simp only [firstOcc, newKeys]
    by_cases h : k ∈ acc
    · simp [h, ih]
    · simp [h, ih]

theorem filter_notMem_snoc (t : List κ) (found : List κ) (k : κ) (hk : k ∉ t) :
    t.filter (fun x => !decide (x ∈ found ++ [k])) = t.filter (fun x => !decide (x ∈ found)) := by
  apply List.filter_congr
  intro x hx
  have : x ≠ k := fun e => hk (e ▸ hx)
  simp [this]

theorem newKeys_append (found ks rest : List κ) (hn : ks.Nodup) :
    newKeys found (ks ++ rest) =
      ks.filter (fun x => !decide (x ∈ found)) ++ newKeys (found ++ ks.filter (fun x => !decide (x ∈ found))) rest := by
  induction ks generalizing found with
  | nil => simp
  | cons k t ih =>
    have hk : k ∉ t := (List.nodup_cons.1 hn).1
    have ht := (List.nodup_cons.1 hn).2
    simp only [List.cons_append, newKeys, List.filter_cons]
    by_cases h : k ∈ found
    · simp only [h, if_true, decide_true, Bool.not_true, Bool.false_eq_true, if_false]
      exact ih found ht
    · simp only [h, if_false, decide_false, Bool.not_false, if_true]
      rw [ih (found ++ [k]) ht, filter_notMem_snoc t found k hk]
      simp

/-- the `(key, first value)` pairs of one dict: what `items()` answers on a state without empty lists (`itemsFirst_wf`) -/
def pairsOf (d : MD.St κ ν) : List (κ × ν) := d.filterMap (fun e => e.2.head?.map (fun v => (e.1, v)))

omit [DecidableEq κ] in
theorem pairsOf_keys (d : MD.St κ ν) (h : ∀ e ∈ d, e.2 ≠ []) : (pairsOf d).map (·.1) = keys d := by
  induction d with
  | nil => rfl
  | cons e t ih =>
    obtain ⟨k, vs⟩ := e
    cases vs with
    | nil => exact absurd rfl (h (k, []) List.mem_cons_self)
    | cons v r =>
      have := ih (fun e he => h e (List.mem_cons_of_mem _ he))
      simp only [pairsOf] at this
      simp [pairsOf, keys, this]

theorem pairsOf_getitem (d : MD.St κ ν) (hn : NodupKeys d) (p : κ × ν) (hp : p ∈ pairsOf d) :
    has d p.1 = true ∧ MD.getitem d p.1 = .ok p.2 := by
  simp only [pairsOf, List.mem_filterMap] at hp
  obtain ⟨e, he, hm⟩ := hp
  obtain ⟨k, vs⟩ := e
  cases vs with
  | nil => simp at hm
  | cons v r =>
    simp only [List.head?_cons, Option.map_some, Option.some.injEq] at hm
    subst hm
    have hl : d.lookup k = some (v :: r) := lookup_of_mem hn he
    simp [has, PyDict.get?, MD.getitem, hl]

theorem cmd_itemsFirst_spec (c : CMD.St κ ν) (hw : ∀ d ∈ c, MDSpec.WF d) (found : List κ) :
    ∃ l, CMD.itemsFirstAux found c = .ok l ∧ l.map (·.1) = newKeys found (c.flatMap keys) ∧
      ∀ p ∈ l, p.1 ∉ found ∧ CMD.getitem c p.1 = .ok p.2 := by
  induction c generalizing found with
  | nil => exact ⟨[], rfl, rfl, fun p hp => by cases hp⟩
  | cons d t ih =>
    have hd := hw d List.mem_cons_self
    have hps : MD.itemsFirst d = .ok (pairsOf d) := itemsFirst_wf d hd.2
    let new := (pairsOf d).filter (fun p => !found.contains p.1)
    obtain ⟨r, hr, hrk, hrp⟩ := ih (fun d' h' => hw d' (List.mem_cons_of_mem _ h')) (found ++ new.map (·.1))
    refine ⟨new ++ r, ?_, ?_, ?_⟩
    · simp only [CMD.itemsFirstAux, hps]
      have hr' : CMD.itemsFirstAux (found ++ List.map (fun x => x.1)
          (List.filter (fun p => !found.contains p.1) (pairsOf d))) t = .ok r := hr
      rw [hr']
    · have hkeys : new.map (·.1) = (keys d).filter (fun x => !decide (x ∈ found)) := by
        rw [← pairsOf_keys d hd.2]
        simp only [new, List.filter_map, Function.comp_def]
        congr 1
        apply List.filter_congr
        intro x _
        simp
      simp only [List.flatMap_cons, List.map_append]
      rw [newKeys_append found (keys d) _ hd.1, hrk, hkeys]
    · intro p hp
      rcases List.mem_append.1 hp with h | h
      · have hm := List.mem_filter.1 h
        have hnf : p.1 ∉ found := by simpa using hm.2
        obtain ⟨hh, hg⟩ := pairsOf_getitem d hd.1 p hm.1
        exact ⟨hnf, by simp [CMD.getitem, hh, hg]⟩
      · obtain ⟨hnf, hg⟩ := hrp p h
        have hnf1 : p.1 ∉ found := fun hm => hnf (List.mem_append_left _ hm)
        have hnd : has d p.1 = false := by
          cases hh : has d p.1 with
          | false => rfl
          | true =>
            exfalso
            have hk : p.1 ∈ keys d := (has_iff d p.1).1 hh
            rw [← pairsOf_keys d hd.2] at hk
            obtain ⟨q, hq, hqe⟩ := List.mem_map.1 hk
            apply hnf
            apply List.mem_append_right
            apply List.mem_map.2
            refine ⟨q, List.mem_filter.2 ⟨hq, ?_⟩, hqe⟩
            simpa [hqe] using hnf1
        exact ⟨hnf1, by simp [CMD.getitem, hnd, hg]⟩

end Combined

section Pickle
variable {κ ν α : Type} [DecidableEq κ]
open MD MDSpec Pickle

theorem addAll_key (acc : MD.St κ ν) (k : κ) (ws vs : List ν) (hk : k ∉ keys acc) :
    MD.addAll (acc ++ [(k, ws)]) (vs.map fun v => (k, v)) = acc ++ [(k, ws ++ vs)] := by
  induction vs generalizing ws with
  | nil => simp [MD.addAll]
  | cons v t ih =>
    simp only [List.map_cons, MD.addAll]
    have hadd : MD.add (acc ++ [(k, ws)]) k v = acc ++ [(k, ws ++ [v])] := by
      unfold MD.add PyDict.get?
      rw [lookup_append_self acc k ws hk]
      exact set_append_self acc k ws (ws ++ [v]) hk
    rw [hadd, ih (ws ++ [v])]
    simp

theorem addAll_append (a : MD.St κ ν) (l1 l2 : List (κ × ν)) :
    MD.addAll a (l1 ++ l2) = MD.addAll (MD.addAll a l1) l2 := by
  induction l1 generalizing a with
  | nil => rfl
  | cons p q ih => obtain ⟨pk, pv⟩ := p; simp only [List.cons_append, MD.addAll]; exact ih _

theorem addAll_itemsMulti (acc c : MD.St κ ν) (hn : NodupKeys (acc ++ c)) (hne : ∀ e ∈ c, e.2 ≠ []) :
    MD.addAll acc (MD.itemsMulti c) = acc ++ c := by
  induction c generalizing acc with
  | nil => simp [MD.itemsMulti, MD.addAll]
  | cons e t ih =>
    obtain ⟨k, vs⟩ := e
    have hk : k ∉ keys acc := not_mem_keys_of_nodup_append hn
    have hvs := hne (k, vs) List.mem_cons_self
    cases vs with
    | nil => exact absurd rfl hvs
    | cons v r =>
      have hsplit : MD.itemsMulti ((k, v :: r) :: t) = (k, v) :: ((r.map fun x => (k, x)) ++ MD.itemsMulti t) := by
        simp [MD.itemsMulti]
      rw [hsplit]
      simp only [MD.addAll]
      have hadd : MD.add acc k v = acc ++ [(k, [v])] := by
        unfold MD.add PyDict.get?
        rw [lookup_eq_none hk]
        exact set_of_not_mem acc k [v] hk
      rw [hadd]
      rw [addAll_append, addAll_key acc k [v] r hk]
      have := ih (acc ++ [(k, [v] ++ r)]) (by simpa using hn) (fun e he => hne e (List.mem_cons_of_mem _ he))
      simpa using this

/-- pigeonhole: a duplicate-free list contained in a list that is not longer contains it -/
theorem subset_of_nodup_subset_length {β : Type} [DecidableEq β] :
    ∀ (a b : List β), a.Nodup → b.Nodup → (∀ x ∈ a, x ∈ b) → b.length ≤ a.length → ∀ x ∈ b, x ∈ a
  | [], b, _, _, _, hl => by
    intro x hx
    have : b = [] := List.eq_nil_of_length_eq_zero (by simpa using hl)
    subst this; cases hx
  | x :: a, b, ha, hb, hs, hl => by
    have hx : x ∈ b := hs x List.mem_cons_self
    have hxa : x ∉ a := (List.nodup_cons.1 ha).1
    have ih := subset_of_nodup_subset_length a (b.erase x) (List.nodup_cons.1 ha).2 (hb.erase x)
      (fun y hy => by
        rw [hb.mem_erase_iff]
        exact ⟨fun e => hxa (e ▸ hy), hs y (List.mem_cons_of_mem _ hy)⟩)
      (by rw [List.length_erase_of_mem hx]; simp only [List.length_cons] at hl; omega)
    intro y hy
    by_cases e : y = x
    · subst e; exact List.mem_cons_self
    · exact List.mem_cons_of_mem _ (ih y ((hb.mem_erase_iff).2 ⟨e, hy⟩))

theorem dictEq_same_entries [DecidableEq α] (a b : Dict κ α) (ha : NodupKeys a) (hb : NodupKeys b)
    (h : dictEq a b = true) : ∀ e, e ∈ a ↔ e ∈ b := by
  simp only [dictEq, Bool.and_eq_true, beq_iff_eq, List.all_eq_true] at h
  have hsub : ∀ e ∈ a, e ∈ b := fun e he => by
    have := h.2 e he
    exact mem_of_lookup (k := e.1) (x := e.2) (by simpa using this)
  have hrev := subset_of_nodup_subset_length a b (nodup_of_nodupKeys a ha) (nodup_of_nodupKeys b hb) hsub (by omega)
  exact fun e => ⟨hsub e, hrev e⟩

theorem construct_mapping_many (c : MD.St κ ν) (hne : ∀ e ∈ c, e.2 ≠ []) :
    MD.construct (some (.mapping (c.map fun e => (e.1, MD.MVal.many e.2)))) = dictOf [] c := by
  simp only [MD.construct, dictOf]
  generalize ([] : MD.St κ ν) = acc
  induction c generalizing acc with
  | nil => rfl
  | cons e t ih =>
    have he := hne e List.mem_cons_self
    have hemp : e.2.isEmpty = false := by cases h : e.2 with
      | nil => exact absurd h he
      | cons _ _ => rfl
    simp only [List.map_cons, List.foldl_cons, hemp, Bool.false_eq_true, if_false]
    exact ih (fun e' he' => hne e' (List.mem_cons_of_mem _ he')) _

end Pickle

end Wz.C08L
