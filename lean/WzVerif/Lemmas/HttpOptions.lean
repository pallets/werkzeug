/-
`parse_options_header(dump_options_header(h, opts)) == (h, opts)` (C06). The dumper writes `h; k=v; …` with the
segments `seg` (= `paramText`, the item text of the dict codec); the parser's `while True` scanner (`optStep`, `optScan`)
reads one dumped segment back as its raw part (`optStep_seg`) and the joined segments as the list of raw parts
(`optScan_join`); the second pass (`optPart`: RFC 2231 charsets, continuations, un-quoting) stores each raw part as written
when the name is a lower-case token without `*` and the value has no literal `%22` (`optPart_raw`); the names being
distinct, the stored dict is the one dumped (`parseOptions_dump_any`).
-/
import WzVerif.Lemmas.Http
namespace Wz.Http
open Wz

def hasPct22 : Str → Bool
  | x :: y :: z :: t => (x == '%' && y == '2' && z == '2') || hasPct22 (y :: z :: t)
  | _ => false

theorem replace3_id (v : Str) (h : hasPct22 v = false) : replace3 '%' '2' '2' ['"'] v = v := by
  fun_induction hasPct22 v with
  | case1 x y z t ih =>
    simp only [Bool.or_eq_false_iff] at h
    rw [replace3]
    simp only [h.1, Bool.false_eq_true, if_false]
    rw [ih h.2]
  | case2 l hl =>
    unfold replace3
    split
    · next x y z t => exact absurd rfl (hl x y z t)
    · rfl

theorem scanQuoted_escaped (v rest acc : Str) :
    scanQuoted (escapeDq v ++ '"' :: rest) acc = some (('"' :: ((escapeDq v).reverse ++ acc)).reverse, rest) :=
  escapeDq_rec (motive := fun _ e => ∀ acc, scanQuoted (e ++ '"' :: rest) acc = some (('"' :: (e.reverse ++ acc)).reverse, rest))
    (fun acc => by simp [scanQuoted])
    (fun t e ih acc => by simp [scanQuoted, ih])
    (fun t e ih acc => by simp [scanQuoted, ih])
    (fun c t e h1 h2 ih acc => by rw [List.cons_append, scanQuoted.eq_def]; simp [h1, ih]) v acc

/-- what may follow a parameter in the dumped header: nothing, or the `;` of the next one -/
def SegEnd (r : Str) : Prop := r = [] ∨ ∃ x, r = ';' :: x

theorem semicolon_not_token : isToken ';' = false := by decide
theorem equals_not_token : isToken '=' = false := by decide
theorem dquote_not_token : isToken '"' = false := by decide

theorem takeWhile_token_segEnd {v r : Str} (hv : v.all isToken = true) (hr : SegEnd r) :
    (v ++ r).takeWhile isToken = v := by
  rcases hr with rfl | ⟨x, rfl⟩
  · simpa using (takeWhile_append_stop (b := []) (List.all_eq_true.1 hv) (by simp)).1
  · exact (takeWhile_append_stop (List.all_eq_true.1 hv) (by simp [semicolon_not_token])).1

theorem afterSemi_append {v r : Str} (hv : ';' ∉ v) : afterSemi? (v ++ r) = afterSemi? r := by
  unfold afterSemi?
  rw [List.dropWhile_append_of_pos fun c hc => by simpa using fun e : c = ';' => hv (e ▸ hc)]

/-- one `key=value` segment as `dump_options_header` writes it for a key that does not end in `*` -/
def seg (kv : Str × Str) : Str := kv.1 ++ '=' :: quoteHeaderValue kv.2

/-- a parameter name that is read back unchanged: `parse_options_header` lower-cases names -/
def OptKeyOk (k : Str) : Bool := KeyOk k && (pyLower k == k)

theorem optKeyOk_keyOk {k : Str} (h : OptKeyOk k = true) : KeyOk k = true := by
  simp [OptKeyOk] at h; exact h.1

theorem optKeyOk_lower {k : Str} (h : OptKeyOk k = true) : pyLower k = k := by
  simp [OptKeyOk] at h; exact h.2

theorem optStep_seg (k v r : Str) (hk : OptKeyOk k = true) (hr : SegEnd r) :
    ∃ r1, optStep (seg (k, v) ++ r) = (r1, some (k, quoteHeaderValue v)) ∧ afterSemi? r1 = afterSemi? r := by
  have hK := optKeyOk_keyOk hk
  have hall := keyOk_all hK
  have hne := keyOk_ne_nil hK
  have hkne : k.isEmpty = false := List.isEmpty_eq_false_iff.2 hne
  unfold optStep seg
  simp only [funext isKeyCh_eq, funext isTokValCh_eq, List.append_assoc, List.cons_append]
  have h1 := takeWhile_append_stop (b := '=' :: (quoteHeaderValue v ++ r)) (List.all_eq_true.1 hall)
    (by simp [equals_not_token])
  rw [h1.1, h1.2]
  simp only [hkne, optKeyOk_lower hk]
  rcases quote_cases_image v true with ⟨hv0, hv1, hq, _⟩ | ⟨hq, _⟩
  · rw [hq, takeWhile_token_segEnd hv1 hr]
    have : v.isEmpty = false := List.isEmpty_eq_false_iff.2 hv0
    simp only [this, Bool.not_false, if_true]
    exact ⟨_, rfl, afterSemi_append (all_not_mem hv1 semicolon_not_token)⟩
  · rw [hq]
    simp only [List.cons_append, List.takeWhile_cons, dquote_not_token, Bool.false_eq_true, if_false,
      List.isEmpty_nil, Bool.not_true]
    rw [List.append_assoc]
    simp only [List.cons_append, List.nil_append]
    rw [scanQuoted_escaped]
    refine ⟨r, ?_, rfl⟩
    simp

/-- what the scanner collects for a dumped segment: the value still as written (quoted or a token) -/
def rawPart (kv : Str × Str) : Str × Str := (kv.1, quoteHeaderValue kv.2)

/-- the joined parameters of a dumped options header are tight (they are `paramText` items) -/
theorem segJoin_tight (s : Str × Str) (ss : List (Str × Str)) (hk : ∀ x ∈ s :: ss, OptKeyOk x.1 = true) :
    Tight (join "; " ((s :: ss).map seg)) := by
  have e : (s :: ss).map seg = (((s :: ss).map fun kv => (kv.1, some kv.2)) : Dict (Option Str)).map
      (paramText fun _ => true) := by
    rw [List.map_map]; rfl
  rw [join, e, List.map_cons]
  refine paramJoin_tight (fun _ => true) (s.1, some s.2) (ss.map fun kv => (kv.1, some kv.2)) ?_ _
  intro y hy
  obtain ⟨z, hz, rfl⟩ := List.mem_map.1 (show y ∈ (s :: ss).map fun kv => (kv.1, some kv.2) from hy)
  exact optKeyOk_keyOk (hk z hz)

theorem optScan_join (s : Str × Str) (ss : List (Str × Str)) (fuel : Nat) (acc : List (Str × Str))
    (hk : ∀ x ∈ s :: ss, OptKeyOk x.1 = true) (hf : ss.length < fuel) :
    optScan fuel (join "; " ((s :: ss).map seg)) acc = acc.reverse ++ (s :: ss).map rawPart := by
  induction ss generalizing s fuel acc with
  | nil =>
    cases fuel with
    | zero => simp at hf
    | succ f =>
      obtain ⟨r1, h1, h2⟩ := optStep_seg s.1 s.2 [] (hk s (by simp)) (Or.inl rfl)
      simp only [List.append_nil] at h1
      have h3 : afterSemi? r1 = none := by rw [h2]; rfl
      simp only [join, List.map_cons, List.map_nil, List.intercalate_singleton, optScan]
      rw [show seg s = seg (s.1, s.2) from rfl, h1]
      simp [h3, rawPart]
  | cons x xs ih =>
    cases fuel with
    | zero => simp at hf
    | succ f =>
      have hj : join "; " ((s :: x :: xs).map seg) = seg s ++ (';' :: ' ' :: join "; " ((x :: xs).map seg)) :=
        join_semi_cons _ _ _
      obtain ⟨r1, h1, h2⟩ := optStep_seg s.1 s.2 (';' :: ' ' :: join "; " ((x :: xs).map seg))
        (hk s (by simp)) (Or.inr ⟨_, rfl⟩)
      rw [hj]
      simp only [optScan]
      rw [show seg s = seg (s.1, s.2) from rfl, h1]
      simp only [h2]
      have ha : afterSemi? (';' :: ' ' :: join "; " ((x :: xs).map seg)) = some (' ' :: join "; " ((x :: xs).map seg)) := by
        simp [afterSemi?]
      rw [ha]
      simp only []
      have hk' : ∀ y ∈ x :: xs, OptKeyOk y.1 = true := fun y hy => hk y (List.mem_cons_of_mem _ hy)
      have hl : lstrip (' ' :: join "; " ((x :: xs).map seg)) = join "; " ((x :: xs).map seg) := by
        rw [lstrip, List.dropWhile_cons, if_pos (by decide)]
        exact dropWhile_head_false (segJoin_tight x xs hk').1
      rw [hl, ih x f _ hk' (by simp at hf; omega)]
      simp [rawPart]

theorem continuation_none {k : Str} (h : '*' ∉ k) : continuation? k = none := by
  unfold continuation?
  simp only []
  split
  · next hds heq =>
    exfalso
    apply h
    have : '*' ∈ k.reverse.dropWhile isContDigit := by rw [heq]; simp
    have := (List.dropWhile_sublist _).subset this
    simpa using this
  · rfl

theorem continuation?_prefix (pk base : Str) (h : continuation? pk = some base) : ∃ suf, pk = base ++ suf := by
  unfold continuation? at h
  simp only [] at h
  have hsplit := List.takeWhile_append_dropWhile (p := isContDigit) (l := pk.reverse)
  split at h
  · rename_i before _ hd
    cases h
    refine ⟨'*' :: (pk.reverse.takeWhile isContDigit).reverse, ?_⟩
    rw [hd] at hsplit
    have := congrArg List.reverse hsplit
    simp only [List.reverse_append, List.reverse_cons, List.reverse_reverse, List.append_assoc,
      List.singleton_append] at this
    exact this.symm
  · cases h

theorem optPart_raw (st : OptState) (k v : Str) (hk : OptKeyOk k = true) (hv : hasPct22 v = false) :
    optPart st k (quoteHeaderValue v) = .ok { st with options := dictSet st.options k v } := by
  have hK := optKeyOk_keyOk hk
  obtain ⟨l, hl, hne, _⟩ := keyOk_last hK
  have hc := continuation_none (keyOk_no_star hK)
  rcases quote_cases_image v true with ⟨hv0, hv1, hq, _⟩ | ⟨hq, _⟩
  · cases v with
    | nil => exact absurd rfl hv0
    | cons c t =>
      simp only [List.all_cons, Bool.and_eq_true] at hv1
      have hcq := isToken_ne_dq hv1.1
      rw [hq]
      simp [optPart, optUnquote, optStore, last!_of_getLast? hl, hne, first!, hc, hcq]
      cases hg : (c :: t).getLast? with
      | none => simp at hg
      | some e => simp [last!, hg]
  · rw [hq]
    have hlast : last! ('"' :: (escapeDq v ++ ['"'])) = .ok '"' := by
      have : ('"' :: (escapeDq v ++ ['"'])).getLast? = some '"' := by
        rw [← List.cons_append, List.getLast?_concat]
      simp [last!, this]
    simp [optPart, optUnquote, optStore, last!_of_getLast? hl, hne, first!, hc, hlast, unescape_escape,
      replace3_id v hv]

/-- a primary value that is read back: `partition(";")` ends it at the first `;`, both sides are stripped, and with an empty one
the parser returns no options -/
def HdrOk (h : Str) : Bool := !h.isEmpty && !h.contains ';' && (strip h == h)

theorem dumpOptions_ok (h : Str) (opts : List (Str × Str)) (hk : ∀ x ∈ opts, OptKeyOk x.1 = true) :
    dumpOptionsHeader (some h) (opts.map fun kv => (kv.1, some kv.2)) = .ok (join "; " (h :: opts.map seg)) := by
  unfold dumpOptionsHeader
  rw [mapM_ok _ (fun kv => some (kv.1 ++ '=' :: quoteHeaderValue (kv.2.getD [])))]
  · simp [List.filterMap_map, Function.comp_def]
    rfl
  · intro x hx
    simp only [List.mem_map] at hx
    obtain ⟨kv, hkv, rfl⟩ := hx
    obtain ⟨l, hl, hne, _⟩ := keyOk_last (optKeyOk_keyOk (hk kv hkv))
    simp [optionSegment, last!_of_getLast? hl, hne]

theorem foldlM_optParts (opts : List (Str × Str)) (st : OptState)
    (hk : ∀ x ∈ opts, OptKeyOk x.1 = true) (hv : ∀ x ∈ opts, hasPct22 x.2 = false)
    (hnd : (opts.map (·.1)).Nodup) (hdis : ∀ x ∈ opts, dictHas st.options x.1 = false) :
    (opts.map rawPart).foldlM optFold st = .ok { st with options := st.options ++ opts } := by
  rw [foldlM_map_ok optFold rawPart (fun st x => { st with options := dictSet st.options x.1 x.2 }) opts
    (fun st x hx => optPart_raw st x.1 x.2 (hk x hx) (hv x hx)), ← foldl_dictSet_fresh opts st.options hnd hdis]
  clear hk hv hnd hdis
  induction opts generalizing st with
  | nil => rfl
  | cons x t ih => rw [List.foldl_cons, ih]; rfl

theorem parseOptions_dump_any (h : Str) (opts : List (Str × Str)) (hh : HdrOk h = true)
    (hk : ∀ x ∈ opts, OptKeyOk x.1 = true) (hv : ∀ x ∈ opts, hasPct22 x.2 = false)
    (hnd : (opts.map (·.1)).Nodup) :
    (dumpOptionsHeader (some h) (opts.map fun kv => (kv.1, some kv.2)) >>= parseOptionsHeader) = .ok (h, opts) := by
  rw [dumpOptions_ok h opts hk]
  simp only [ok_bind]
  simp only [HdrOk, Bool.and_eq_true, Bool.not_eq_true', beq_iff_eq] at hh
  obtain ⟨⟨hne, hsemi⟩, hstrip⟩ := hh
  have hsemi' : ';' ∉ h := by simpa using hsemi
  cases opts with
  | nil =>
    have hs2 : strip ([] : Str) = [] := by decide
    simp [join, parseOptionsHeader, partition_notfound hsemi', hstrip, hs2]
  | cons s ss =>
    have hj : join "; " (h :: (s :: ss).map seg) = h ++ ';' :: (' ' :: join "; " ((s :: ss).map seg)) :=
      join_semi_cons _ _ _
    have ht := segJoin_tight s ss hk
    have hlen : ss.length < (join "; " ((s :: ss).map seg)).length + 1 := by
      have := length_intercalate_ge "; ".toList ((s :: ss).map seg) (by
        simp only [List.mem_map]
        rintro _ ⟨y, _, rfl⟩
        simp [seg])
      rw [List.length_map, List.length_cons] at this
      exact Nat.lt_succ_of_le (Nat.le_of_succ_le this)
    unfold parseOptionsHeader
    rw [hj, partition_found hsemi']
    simp only [hstrip, strip_space_tight ht, hne]
    have hJ : (join "; " ((s :: ss).map seg)).isEmpty = false := List.isEmpty_eq_false_iff.2 (intercalate_ne_nil _ _ _ (by simp [seg]))
    simp only [hJ, Bool.or_self, Bool.false_eq_true, if_false]
    rw [optScan_join s ss _ [] hk hlen]
    simp only [List.reverse_nil, List.nil_append]
    have := foldlM_optParts (s :: ss) {} hk hv hnd (by intro x _; rfl)
    simp only [bind_pure_comp]
    rw [this]
    simp
    rfl

end Wz.Http
