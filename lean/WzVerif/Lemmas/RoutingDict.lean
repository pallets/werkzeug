/-
Routing lemmas: the insertion-ordered dicts of the model (`lookupVal`, `dictSet`, `dictUpdate` on association lists) are
the prelude's (`Pre.dictGet?`, `Pre.dictSet`, `Pre.dictUpdate`); what the C04 / C12 proofs need about reading them — after
`d[k] = v`, after `d.update(u)`, over two lists in a row — are the facts of `Lemmas/PyDict` read through these equations.
-/
import WzVerif.Model.RoutingBuild
import WzVerif.Lemmas.PyDict
namespace Wz.Routing

theorem lookupVal_eq_dictGet? (k : Str) (d : List (Str × Value)) : lookupVal k d = Pre.dictGet? d k := by
  induction d with
  | nil => rfl
  | cons p t ih =>
    obtain ⟨k', v⟩ := p
    rw [Pre.dictGet?_cons, lookupVal, ih]

theorem dictSet_eq (d : List (Str × Value)) (k : Str) (v : Value) : dictSet d k v = Pre.dictSet d k v := by
  unfold Pre.dictSet Pre.dictHas dictSet
  congr 1
  apply List.map_congr_left
  intro p _
  by_cases h : p.1 = k <;> simp [h]

theorem dictUpdate_eq (d u : List (Str × Value)) : dictUpdate d u = Pre.dictUpdate d u := by
  unfold Pre.dictUpdate dictUpdate
  simp only [dictSet_eq]

theorem lookupVal_append (k : Str) (a b : List (Str × Value)) :
    lookupVal k (a ++ b) = (lookupVal k a).orElse (fun _ => lookupVal k b) := by
  simp only [lookupVal_eq_dictGet?, Pre.dictGet?_append]

theorem lookupVal_dictSet (d : List (Str × Value)) (k n : Str) (v : Value) :
    lookupVal n (dictSet d k v) = if k = n then some v else lookupVal n d := by
  rw [lookupVal_eq_dictGet?, lookupVal_eq_dictGet?, dictSet_eq, Pre.dictGet?_dictSet]
  by_cases h : k = n
  · subst h; simp
  · have : (n == k) = false := by simpa using fun e => h e.symm
    simp [h, this]

theorem lookupVal_dictUpdate_notin (n : Str) (u d : List (Str × Value)) (h : lookupVal n u = none) :
    lookupVal n (dictUpdate d u) = lookupVal n d := by
  rw [lookupVal_eq_dictGet?] at h
  rw [lookupVal_eq_dictGet?, lookupVal_eq_dictGet?, dictUpdate_eq,
    Pre.dictGet?_dictUpdate_of_not_has _ _ _ (by rw [Pre.dictHas_eq_isSome, h]; rfl)]

/-- after `d.update(u)` every entry of `u` (distinct keys: a Python dict) is in the result -/
theorem lookupVal_dictUpdate_mem (u d : List (Str × Value)) (hnd : (u.map (·.1)).Nodup) (k : Str) (v : Value)
    (h : (k, v) ∈ u) : lookupVal k (dictUpdate d u) = some v := by
  rw [lookupVal_eq_dictGet?, dictUpdate_eq, Pre.dictGet?_dictUpdate_of_mem d u hnd h]

theorem mem_of_lookupVal {k : Str} {v : Value} {l : List (Str × Value)} (h : lookupVal k l = some v) : (k, v) ∈ l :=
  Pre.mem_of_dictGet? (lookupVal_eq_dictGet? k l ▸ h)

end Wz.Routing
