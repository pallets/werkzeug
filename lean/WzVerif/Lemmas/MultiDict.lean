/-
MultiDict (`datastructures/structures.py`) against the multimap it is documented to be: on well-formed states
(distinct keys, no key with an empty list of values) every read and every mutator of the model `MD` is the
corresponding operation of `MDSpec` (`md_step_refines`), and mutators keep states well formed. `effect` is the
state a mutator leaves, apart from what it answers.
-/
import WzVerif.Lemmas.PyDictModel
namespace Wz
namespace MDLemmas
open PyDict MD MDSpec
variable {κ ν : Type} [DecidableEq κ]

theorem _root_.Wz.MDSpec.WF.nodupKeys {m : MultiMap κ ν} (h : WF m) : NodupKeys m := h.1

theorem _root_.Wz.MDSpec.WF.ne_nil {m : MultiMap κ ν} (h : WF m) : ∀ e ∈ m, e.2 ≠ [] := h.2

theorem wf_nodup {m : MultiMap κ ν} (h : WF m) : NodupKeys m := h.nodupKeys

theorem put_eq_dictSet (m : MultiMap κ ν) (k : κ) (vs : List ν) : put m k vs = Pre.dictSet m k vs := by
  unfold put Pre.dictSet
  rw [hasKey, ← Pre.dictHas_eq_contains]
  cases Pre.dictHas m k
  · rfl
  · exact List.map_congr_left fun (e : κ × List ν) _ => by by_cases h : e.1 = k <;> simp [h]

theorem hasKey_eq (m : MultiMap κ ν) (k : κ) : hasKey m k = has m k :=
  (Pre.dictHas_eq_contains m k).symm.trans (PyFnsEq.MultiDict.dictHas_eq m k)

theorem valuesOf_eq (m : MultiMap κ ν) (hn : NodupKeys m) (k : κ) : valuesOf m k = MD.getlist m k := by
  show valuesOf m k = (m.lookup k).getD []
  induction m with
  | nil => simp [valuesOf]
  | cons e t ih =>
    obtain ⟨k', vs⟩ := e
    rw [nodupKeys_cons] at hn
    by_cases h : k' = k
    · subst h
      have hf : t.filter (fun e => e.1 == k') = [] :=
        List.filter_eq_nil_iff.2 fun e he => by simpa using fst_ne_of_not_mem hn.1 he
      simp [valuesOf, hf, List.lookup]
    · have hb : (k == k') = false := by simp [Ne.symm h]
      have ih' := ih hn.2
      simp only [valuesOf] at ih'
      simp [valuesOf, h, List.lookup, hb, ih']

theorem remove_eq_erase (m : MultiMap κ ν) (hn : NodupKeys m) (k : κ) : remove m k = erase m k :=
  (erase_eq_filter m k hn).symm

theorem put_eq_set (m : MultiMap κ ν) (hn : NodupKeys m) (k : κ) (vs : List ν) : put m k vs = PyDict.set m k vs := by
  rw [put_eq_dictSet, PyFnsEq.MultiDict.dictSet_eq m k vs (PyFnsEq.MultiDict.atMostOnce_of_nodupKeys hn k)]

theorem add_eq (m : MultiMap κ ν) (hn : NodupKeys m) (k : κ) (v : ν) : MDSpec.add m k v = MD.add m k v := by
  unfold MDSpec.add MD.add
  rw [put_eq_set m hn, valuesOf_eq m hn, MD.getlist]
  cases get? m k <;> rfl

theorem nodup_add (m : MultiMap κ ν) (hn : NodupKeys m) (k : κ) (v : ν) : NodupKeys (MD.add m k v) := by
  unfold MD.add
  split <;> exact nodupKeys_set _ _ _ hn

theorem nodupKeys_addAll (l : List (κ × ν)) : ∀ (d : MD.St κ ν), NodupKeys d → NodupKeys (MD.addAll d l) := by
  induction l with
  | nil => intro d hn; exact hn
  | cons p t ih => intro d hn; obtain ⟨k, v⟩ := p; exact ih _ (nodup_add d hn k v)

theorem addAll_eq (m : MultiMap κ ν) (hn : NodupKeys m) (l : List (κ × ν)) :
    MDSpec.addAll m l = MD.addAll m l := by
  induction l generalizing m with
  | nil => rfl
  | cons p t ih =>
    obtain ⟨k, v⟩ := p
    simp only [MDSpec.addAll, MD.addAll]
    rw [add_eq m hn]
    exact ih _ (nodup_add m hn k v)

theorem wf_set {m : MultiMap κ ν} (h : WF m) (k : κ) {vs : List ν} (hv : vs ≠ []) : WF (PyDict.set m k vs) := by
  refine ⟨nodupKeys_set m k vs h.nodupKeys, ?_⟩
  intro e he
  rcases mem_set he with h1 | h1
  · exact h.ne_nil e h1
  · rw [h1]; exact hv

theorem wf_filter {m : MultiMap κ ν} (h : WF m) (p : κ × List ν → Bool) : WF (m.filter p) :=
  ⟨nodupKeys_filter m p h.nodupKeys, fun e he => h.ne_nil e (List.mem_filter.1 he).1⟩

theorem wf_erase {m : MultiMap κ ν} (h : WF m) (k : κ) : WF (erase m k) := by
  rw [erase_eq_filter m k h.nodupKeys]; exact wf_filter h _

theorem wf_dropLast {m : MultiMap κ ν} (h : WF m) : WF m.dropLast :=
  ⟨nodupKeys_dropLast m h.nodupKeys, fun e he => h.ne_nil e (List.dropLast_subset m he)⟩

theorem wf_add {m : MultiMap κ ν} (h : WF m) (k : κ) (v : ν) : WF (MD.add m k v) := by
  unfold MD.add
  split <;> exact wf_set h k (by simp)

theorem wf_addAll {m : MultiMap κ ν} (h : WF m) (l : List (κ × ν)) : WF (MD.addAll m l) := by
  induction l generalizing m with
  | nil => exact h
  | cons p t ih => obtain ⟨k, v⟩ := p; exact ih (wf_add h k v)

theorem lookup_ne_nil {m : MultiMap κ ν} (h : WF m) {k : κ} {vs : List ν} (hl : get? m k = some vs) : vs ≠ [] :=
  h.ne_nil _ (mem_of_lookup hl)

end MDLemmas
end Wz

namespace Wz.C08L
open Wz PyDict MD MDSpec MDLemmas
variable {κ ν : Type} [DecidableEq κ]

/-- the operations of a history that stay inside the multimap model: everything except giving a
key an empty value list (`setlist(k, [])`, `setlistdefault(k)` on a missing key) - F08d -/
def okOp (c : MD.St κ ν) : MD.Op κ ν → Bool
  | .setlist _ vs => !vs.isEmpty
  | .setlistdefault k vs => has c k || !vs.isEmpty
  | _ => true

theorem first?_eq (m : MultiMap κ ν) (h : WF m) (k : κ) :
    first? m k = match get? m k with | some (v :: _) => some v | _ => none := by
  unfold first?
  rw [valuesOf_eq m h.nodupKeys, MD.getlist]
  cases hl : get? m k with
  | none => simp
  | some vs =>
    cases vs with
    | nil => exact absurd rfl (lookup_ne_nil h hl)
    | cons v t => simp

theorem get?_cases {m : MultiMap κ ν} (h : WF m) (k : κ) :
    (get? m k = none ∧ first? m k = none) ∨ ∃ v t, get? m k = some (v :: t) ∧ first? m k = some v := by
  cases hl : get? m k with
  | none => exact Or.inl ⟨rfl, by rw [first?_eq m h, hl]⟩
  | some vs =>
    cases vs with
    | nil => exact absurd rfl (lookup_ne_nil h hl)
    | cons v t => exact Or.inr ⟨v, t, rfl, by rw [first?_eq m h, hl]⟩

theorem md_step_refines (c : MD.St κ ν) (h : WF c) (op : MD.Op κ ν) (hop : okOp c op = true) :
    MD.step c op = MDSpec.step c op := by
  have hn := h.nodupKeys
  cases op with
  | setitem k v => simp [MD.step, MDSpec.step, put_eq_set c hn]
  | delitem k => simp [MD.step, MDSpec.step, hasKey_eq, remove_eq_erase c hn]
  | add k v => simp [MD.step, MDSpec.step, add_eq c hn]
  | setlist k vs =>
    simp only [okOp, Bool.not_eq_true'] at hop
    simp [MD.step, MDSpec.step, hop, put_eq_set c hn]
  | setdefault k v =>
    simp only [MD.step, MDSpec.step]
    rcases get?_cases h k with ⟨hl, hf⟩ | ⟨x, t, hl, hf⟩
    · have : has c k = false := by rw [has_eq_isSome, hl]; rfl
      simp [hf, this, put_eq_set c hn, getitem, get?_set_self, Except.map]
    · have : has c k = true := by rw [has_eq_isSome, hl]; rfl
      simp [hf, this, getitem, hl, Except.map]
  | setlistdefault k vs =>
    simp only [MD.step, MDSpec.step, hasKey_eq]
    by_cases hh : has c k = true
    · simp [hh, valuesOf_eq c hn]
    · have hh' : has c k = false := by simpa using hh
      simp only [okOp, hh', Bool.false_or, Bool.not_eq_true'] at hop
      simp [hh', hop, put_eq_set c hn, MD.getlist, get?_set_self]
  | update a => simp [MD.step, MDSpec.step, addAll_eq c hn]
  | ior a => simp [MD.step, MDSpec.step, addAll_eq c hn]
  | pop k d =>
    simp only [MD.step, MDSpec.step]
    rcases get?_cases h k with ⟨hl, hf⟩ | ⟨x, t, hl, hf⟩
    · simp [hf, hl]
    · simp [hf, hl, remove_eq_erase c hn]
  | popitem =>
    simp only [MD.step, MDSpec.step, PyDict.popitem]
    cases hl : c.getLast? with
    | none => simp
    | some e =>
      obtain ⟨k, vs⟩ := e
      have hne := h.ne_nil _ (List.mem_of_getLast? hl)
      cases vs with
      | nil => exact absurd rfl hne
      | cons x t => simp
  | poplist k =>
    simp only [MD.step, MDSpec.step]
    rw [valuesOf_eq c hn, remove_eq_erase c hn, MD.getlist]
    cases hl : get? c k with
    | none => simp [erase_of_not_mem c k ((get?_eq_none_iff c k).1 hl)]
    | some vs => simp
  | popitemlist =>
    simp only [MD.step, MDSpec.step, PyDict.popitem]
    cases hl : c.getLast? with
    | none => simp
    | some e => obtain ⟨k, vs⟩ := e; simp
  | clear => simp [MD.step, MDSpec.step]

/-- the dict a mutator leaves, whatever it returns or raises (the shape `HeapMD.step` is written in): a key gets a list, a key
is erased (an absent one: nothing happens), the last entry is dropped, or all are -/
def effect (c : MD.St κ ν) : MD.Op κ ν → MD.St κ ν
  | .setitem k v => PyDict.set c k [v]
  | .setlist k vs => PyDict.set c k vs
  | .add k v => MD.add c k v
  | .update a => MD.addAll c (iterMultiItems a)
  | .ior a => MD.addAll c (iterMultiItems a)
  | .delitem k => erase c k
  | .pop k _ => erase c k
  | .poplist k => erase c k
  | .setdefault k v => if has c k then c else PyDict.set c k [v]
  | .setlistdefault k vs => if has c k then c else PyDict.set c k vs
  | .popitem => c.dropLast
  | .popitemlist => c.dropLast
  | .clear => []

theorem step_fst (c : MD.St κ ν) (op : MD.Op κ ν) : (MD.step c op).1 = effect c op := by
  have absent : ∀ {k}, get? c k = none → erase c k = c := fun h => erase_of_not_mem c _ ((get?_eq_none_iff c _).1 h)
  have last : (match PyDict.popitem c with | some (_, c') => c' | none => c) = c.dropLast := by
    unfold PyDict.popitem
    cases hg : c.getLast? with
    | none => rw [List.getLast?_eq_none_iff.1 hg]; rfl
    | some e => rfl
  cases op with
  | delitem k =>
    simp only [MD.step, effect]
    split
    · rfl
    · rename_i hh
      rw [has_eq_isSome, Option.not_isSome_iff_eq_none] at hh
      exact (absent hh).symm
  | pop k d =>
    simp only [MD.step, effect]
    cases hl : get? c k with
    | none => exact (absent hl).symm
    | some vs => cases vs <;> rfl
  | poplist k =>
    simp only [MD.step, effect]
    cases hl : get? c k with
    | none => exact (absent hl).symm
    | some vs => rfl
  | popitem =>
    rw [← show _ = effect c .popitem from last]
    simp only [MD.step]
    cases PyDict.popitem c with
    | none => rfl
    | some r => obtain ⟨⟨k, vs⟩, c'⟩ := r; cases vs <;> rfl
  | popitemlist =>
    rw [← show _ = effect c .popitemlist from last]
    simp only [MD.step]
    cases PyDict.popitem c with
    | none => rfl
    | some r => rfl
  | _ => rfl

/-- the exceptions of the mutators: `KeyError` from `del d[k]` alone, otherwise `BadRequestKeyError` -/
theorem step_error (c : MD.St κ ν) (op : MD.Op κ ν) (e : String) (h : (MD.step c op).2 = .error e) :
    e = "BadRequestKeyError" ∨ (e = "KeyError" ∧ ∃ k, op = .delitem k) := by
  cases op with
  | delitem k => right; simp only [MD.step] at h; split at h <;> cases h; exact ⟨rfl, k, rfl⟩
  | setdefault k v =>
    left
    simp only [MD.step, MD.getitem] at h
    split at h <;> cases h
    rfl
  | pop k d =>
    left
    simp only [MD.step] at h
    split at h
    · cases h
    · cases d <;> cases h; rfl
    · cases d <;> cases h; rfl
  | popitem => left; simp only [MD.step] at h; split at h <;> cases h <;> rfl
  | popitemlist => left; simp only [MD.step] at h; split at h <;> cases h; rfl
  | poplist k => simp only [MD.step] at h; split at h <;> cases h
  | _ => cases h

theorem nodupKeys_effect (c : MD.St κ ν) (hn : NodupKeys c) (op : MD.Op κ ν) : NodupKeys (effect c op) := by
  cases op <;> simp only [effect]
  case setitem k v => exact nodupKeys_set c k _ hn
  case setlist k vs => exact nodupKeys_set c k _ hn
  case add k v => exact nodup_add c hn k v
  case update a => exact nodupKeys_addAll _ c hn
  case ior a => exact nodupKeys_addAll _ c hn
  case delitem k => exact nodupKeys_erase c k hn
  case pop k _ => exact nodupKeys_erase c k hn
  case poplist k => exact nodupKeys_erase c k hn
  case setdefault k v => split; exact hn; exact nodupKeys_set c k _ hn
  case setlistdefault k vs => split; exact hn; exact nodupKeys_set c k _ hn
  case popitem => exact nodupKeys_dropLast c hn
  case popitemlist => exact nodupKeys_dropLast c hn
  case clear => exact List.nodup_nil

theorem md_step_wf (c : MD.St κ ν) (h : WF c) (op : MD.Op κ ν) (hop : okOp c op = true) :
    WF (MD.step c op).1 := by
  rw [step_fst]
  cases op <;> simp only [effect]
  case setitem k v => exact wf_set h k (List.cons_ne_nil v [])
  case setlist k vs => exact wf_set h k (by simpa [okOp] using hop)
  case add k v => exact wf_add h k v
  case update a => exact wf_addAll h _
  case ior a => exact wf_addAll h _
  case delitem k => exact wf_erase h k
  case pop k _ => exact wf_erase h k
  case poplist k => exact wf_erase h k
  case setdefault k v => split; exact h; exact wf_set h k (List.cons_ne_nil v [])
  case setlistdefault k vs =>
    split
    · exact h
    · rename_i hk; exact wf_set h k (by simpa [okOp, hk] using hop)
  case popitem => exact wf_dropLast h
  case popitemlist => exact wf_dropLast h
  case clear => exact ⟨List.nodup_nil, fun _ he => (by cases he)⟩

omit [DecidableEq κ] in
theorem itemsFirst_wf (c : MD.St κ ν) (h : ∀ e ∈ c, e.2 ≠ []) :
    itemsFirst c = .ok (c.filterMap (fun e => e.2.head?.map (fun v => (e.1, v)))) := by
  induction c with
  | nil => rfl
  | cons e t ih =>
    obtain ⟨k, vs⟩ := e
    have hne := h (k, vs) List.mem_cons_self
    cases vs with
    | nil => exact absurd rfl hne
    | cons v r =>
      have := ih (fun e he => h e (List.mem_cons_of_mem _ he))
      simp [itemsFirst, this]

theorem md_read_refines (c : MD.St κ ν) (h : WF c) (q : Query κ) : MD.read c q = MDSpec.read c q := by
  cases q with
  | getitem k =>
    simp only [MD.read, MDSpec.read, first?_eq c h, getitem]
    cases hl : get? c k with
    | none => rfl
    | some vs => cases vs <;> rfl
  | getlist k => simp [MD.read, MDSpec.read, valuesOf_eq c h.nodupKeys]
  | contains k => simp [MD.read, MDSpec.read, hasKey_eq]
  | len => rfl
  | keys => rfl
  | values =>
    simp only [MD.read, MDSpec.read, MD.values, itemsFirst_wf c h.ne_nil, Except.map]
    simp [List.map_filterMap, Option.map_map, Function.comp_def]
  | items multi =>
    cases multi with
    | false => simp [MD.read, MDSpec.read, itemsFirst_wf c h.ne_nil, Except.map]
    | true => rfl
  | lists => rfl
  | listvalues => rfl
  | toDict flat =>
    cases flat with
    | true => simp [MD.read, MDSpec.read, toDictFlat, itemsFirst_wf c h.ne_nil, Except.map]
    | false => rfl

/-- a history all of whose steps stay inside the multimap model -/
def okHist (c : MD.St κ ν) : List (MD.Op κ ν) → Bool
  | [] => true
  | op :: t => okOp c op && okHist (MD.step c op).1 t

theorem md_run_refines (c : MD.St κ ν) (h : WF c) (ops : List (MD.Op κ ν)) (hok : okHist c ops = true) :
    MD.run c ops = MDSpec.run c ops ∧ WF (MD.run c ops) := by
  induction ops generalizing c with
  | nil => exact ⟨rfl, h⟩
  | cons op t ih =>
    simp only [okHist, Bool.and_eq_true] at hok
    simp only [MD.run, MDSpec.run]
    rw [← md_step_refines c h op hok.1]
    exact ih _ (md_step_wf c h op hok.1) hok.2

end Wz.C08L
