/-
Lemmas about `LimitedStream` (Model/LimitedStream.lean) for C09. Everything rests on one invariant of the object
(`Inv`) and one relation between the states before and after some calls of `readinto` (`Adv s s' d`: the object
advanced by exactly the bytes `d`, and `Inv` is kept): `readinto_cases` / `readinto_adv` for one call, a `*_spec`
lemma per loop and operation (each says `Took`: which bytes the call took, how its value is made of them, what it may
raise), `runOps_spec` and `fresh_run` for a whole sequence of operations on a fresh object.
After that: exactness and fuel of `readall`, the line shape of `readline` / `next` / `readlines`, iteration; and the
decision of `get_input_stream` as a graph with one row per outcome (`Chooses`).
-/
import WzVerif.Model.LimitedStream
namespace Wz.LS
open Wz

structure Inv (s : St) : Prop where
  pos_le : s.pos ≤ s.limit
  consumed : s.u.taken.length = s.pos
  out_eq : s.out = s.u.taken
  no_overread : ∀ p ∈ s.u.log, p.1 + p.2 ≤ s.limit

/-- `s'` results from `s` by calls of `readinto` that handed out exactly `d` -/
structure Adv (s s' : St) (d : Bytes) : Prop where
  limit_eq : s'.limit = s.limit
  isMax_eq : s'.isMax = s.isMax
  ri_eq : s'.hasReadinto = s.hasReadinto
  pos_eq : s'.pos = s.pos + d.length
  out_eq : s'.out = s.out ++ d
  taken_eq : s'.u.taken = s.u.taken ++ d
  data_eq : s.u.data = d ++ s'.u.data
  inv : Inv s → Inv s'

theorem Adv.refl (s : St) : Adv s s [] := by
  constructor <;> simp

theorem Adv.trans {s s' s'' : St} {d e : Bytes} (h1 : Adv s s' d) (h2 : Adv s' s'' e) :
    Adv s s'' (d ++ e) := by
  constructor
  · rw [h2.limit_eq, h1.limit_eq]
  · rw [h2.isMax_eq, h1.isMax_eq]
  · rw [h2.ri_eq, h1.ri_eq]
  · rw [h2.pos_eq, h1.pos_eq, List.length_append]; omega
  · rw [h2.out_eq, h1.out_eq, List.append_assoc]
  · rw [h2.taken_eq, h1.taken_eq, List.append_assoc]
  · rw [h1.data_eq, h2.data_eq, List.append_assoc]
  · exact fun h => h2.inv (h1.inv h)

/-- the measure of every loop: an advance by at least one byte below the limit uses up a unit of fuel -/
theorem Adv.fuel {s s' : St} {d : Bytes} {f : Nat} (h : Adv s s' d) (hd : d ≠ []) (hlim : s.pos < s.limit)
    (hf : s.limit - s.pos < f + 1) : s'.limit - s'.pos < f := by
  have := List.length_pos_iff.mpr hd
  rw [h.limit_eq, h.pos_eq]; omega

theorem request_le (s : St) (size : Nat) : request s size ≤ s.limit - s.pos := by
  unfold request
  dsimp only
  split
  · split <;> omega
  · exact Nat.min_le_right ..

theorem request_le_size (s : St) (size : Nat) : request s size ≤ size := by
  unfold request
  dsimp only
  split
  · split <;> omega
  · exact Nat.min_le_left ..

theorem Under.call_cases (u : Under) (n : Nat) :
    (∃ k, k ≤ n ∧ u.call n = (.got (u.data.take k), u.after n k))
    ∨ u.call n = (.raised, u.after n 0) := by
  unfold Under.call
  cases h : u.script.head? with
  | none => left; exact ⟨n, Nat.le_refl _, rfl⟩
  | some b =>
    cases b with
    | give k => left; exact ⟨min k n, Nat.min_le_right .., rfl⟩
    | eof => left; exact ⟨0, Nat.zero_le _, by simp⟩
    | raise => right; rfl

/-- the bytes a result hands out -/
def given : Res → Bytes
  | .ok b => b
  | .error _ => []

@[simp] theorem given_hook (o : Option String) : given (hook o) = [] := by
  cases o <;> rfl

theorem adv_got {s : St} {size k : Nat} (hlim : ¬ s.limit ≤ s.pos) (hk : k ≤ request s size) :
    Adv s { s with u := s.u.after (request s size) k, pos := s.pos + (s.u.data.take k).length,
                   out := s.out ++ s.u.data.take k } (s.u.data.take k) := by
  have hr := request_le s size
  have hbl : (s.u.data.take k).length ≤ k := by rw [List.length_take]; exact Nat.min_le_left ..
  constructor <;> simp only [Under.after, List.take_append_drop]
  intro h
  constructor
  · simp only; omega
  · simp only [List.length_append]; have := h.consumed; omega
  · simp only; rw [h.out_eq]
  · intro p hp
    simp only [List.mem_cons] at hp
    rcases hp with rfl | hp
    · simp only; have := h.consumed; omega
    · exact h.no_overread p hp

theorem adv_none {s : St} {size k : Nat} (hlim : ¬ s.limit ≤ s.pos) (hb : s.u.data.take k = []) :
    Adv s { s with u := s.u.after (request s size) k } [] := by
  have hr := request_le s size
  have hd : s.u.data.drop k = s.u.data := by
    have := List.take_append_drop k s.u.data
    rw [hb] at this; simpa using this
  constructor <;> simp only [Under.after, hb, hd, List.append_nil, List.length_nil, Nat.add_zero, List.nil_append]
  intro h
  constructor
  · exact h.pos_le
  · exact h.consumed
  · exact h.out_eq
  · intro p hp
    simp only [List.mem_cons] at hp
    rcases hp with rfl | hp
    · simp only; have := h.consumed; omega
    · exact h.no_overread p hp

/-- the three ways a `readinto` call can go: at the limit nothing is touched and `on_exhausted` decides;
below it the underlying stream is asked once, for `request s size` bytes, and either hands over a non-empty
prefix of what it holds, or gives nothing / fails, and `on_disconnect` decides -/
theorem readinto_cases (s : St) (size : Nat) :
    (s.limit ≤ s.pos ∧ readinto s size = (hook (onExhausted s), s)) ∨
    (¬ s.limit ≤ s.pos ∧ ∃ k, k ≤ request s size ∧
      ((s.u.data.take k ≠ [] ∧ readinto s size = (.ok (s.u.data.take k),
          { s with u := s.u.after (request s size) k, pos := s.pos + (s.u.data.take k).length,
                   out := s.out ++ s.u.data.take k })) ∨
       (s.u.data.take k = [] ∧ ∃ err, readinto s size =
          (hook (onDisconnect s err), { s with u := s.u.after (request s size) k })))) := by
  unfold readinto
  by_cases hlim : s.limit ≤ s.pos
  · exact Or.inl ⟨hlim, by simp only [hlim, if_true]⟩
  · refine Or.inr ⟨hlim, ?_⟩
    simp only [hlim, if_false]
    rcases Under.call_cases s.u (request s size) with ⟨k, hk, hc⟩ | hc
    · rw [hc]
      by_cases hb : (s.u.data.take k).isEmpty = true
      · exact ⟨k, hk, Or.inr ⟨List.isEmpty_iff.mp hb, false, by simp only [hb, if_true]⟩⟩
      · exact ⟨k, hk, Or.inl ⟨by simpa using hb, by simp only [hb, Bool.false_eq_true, if_false]⟩⟩
    · exact ⟨0, Nat.zero_le _, Or.inr ⟨rfl, true, by rw [hc]⟩⟩

theorem readinto_adv (s : St) (size : Nat) :
    Adv s (readinto s size).2 (given (readinto s size).1) := by
  rcases readinto_cases s size with ⟨_, h⟩ | ⟨hlim, k, hk, ⟨_, h⟩ | ⟨hb, err, h⟩⟩ <;> rw [h]
  · rw [given_hook]; exact Adv.refl s
  · exact adv_got hlim hk
  · rw [given_hook]; exact adv_none hlim hb

/-- the only exceptions `LimitedStream` itself raises -/
def GoodErr (s : St) (e : String) : Prop :=
  (e = "RequestEntityTooLarge" ∧ s.isMax = true ∧ s.limit ≤ s.pos) ∨ e = "ClientDisconnected"

/-- `GoodErr` without the position (stable along `Adv`) -/
def OkErr (s : St) (e : String) : Prop :=
  (e = "RequestEntityTooLarge" ∧ s.isMax = true) ∨ e = "ClientDisconnected"

theorem GoodErr.ok {s : St} {e : String} (h : GoodErr s e) : OkErr s e := by
  rcases h with ⟨h1, h2, _⟩ | h
  · exact Or.inl ⟨h1, h2⟩
  · exact Or.inr h

theorem OkErr.of_adv {s s' : St} {d : Bytes} {e : String} (h : Adv s s' d) (he : OkErr s' e) : OkErr s e := by
  rcases he with ⟨h1, h2⟩ | he
  · exact Or.inl ⟨h1, by rw [← h.isMax_eq]; exact h2⟩
  · exact Or.inr he

theorem hook_onExhausted_error {s : St} {e : String} (h : hook (onExhausted s) = .error e) :
    e = "RequestEntityTooLarge" ∧ s.isMax = true := by
  unfold onExhausted at h
  split at h
  · simp only [hook, Except.error.injEq] at h; exact ⟨h.symm, by assumption⟩
  · simp [hook] at h

theorem hook_onDisconnect_error {s : St} {b : Bool} {e : String} (h : hook (onDisconnect s b) = .error e) :
    e = "ClientDisconnected" := by
  unfold onDisconnect at h
  split at h
  · simp only [hook, Except.error.injEq] at h; exact h.symm
  · simp [hook] at h

theorem hook_ok {o : Option String} {b : Bytes} (h : hook o = .ok b) : b = [] := by
  cases o <;> simp [hook] at h
  exact h

theorem readinto_error {s : St} {size : Nat} {e : String} (h : (readinto s size).1 = .error e) :
    GoodErr s e := by
  rcases readinto_cases s size with ⟨hlim, hr⟩ | ⟨_, k, _, ⟨_, hr⟩ | ⟨_, err, hr⟩⟩ <;> rw [hr] at h
  · exact Or.inl ⟨(hook_onExhausted_error h).1, (hook_onExhausted_error h).2, hlim⟩
  · cases h
  · exact Or.inr (hook_onDisconnect_error h)

theorem readinto_at_max {s : St} (size : Nat) (hm : s.isMax = true) (hlim : s.limit ≤ s.pos) :
    readinto s size = (.error "RequestEntityTooLarge", s) := by
  simp [readinto, hlim, onExhausted, hm, hook]

theorem readall_at_max {s : St} (hm : s.isMax = true) (hlim : s.limit ≤ s.pos) :
    readall s = (.error "RequestEntityTooLarge", s) := by
  simp only [readall, hlim, if_true, onExhausted, hm, hook]

theorem readinto_at_end {s : St} (size : Nat) (hm : s.isMax = false) (hlim : s.limit ≤ s.pos) :
    readinto s size = (.ok [], s) := by
  simp [readinto, hlim, onExhausted, hm, hook]

theorem readinto_declared_nonempty {s : St} {size : Nat} {b : Bytes} (hm : s.isMax = false)
    (hlim : ¬ s.limit ≤ s.pos) (h : (readinto s size).1 = .ok b) : b ≠ [] := by
  rcases readinto_cases s size with ⟨hl, _⟩ | ⟨_, k, _, ⟨hne, hr⟩ | ⟨_, err, hr⟩⟩
  · exact absurd hl hlim
  · rw [hr] at h; cases h; exact hne
  · rw [hr] at h; simp [onDisconnect, hm, hook] at h

theorem readinto_disconnect {s : St} {size : Nat} (hlim : ¬ s.limit ≤ s.pos)
    (h : (s.u.call (request s size)).1 = .raised ∨
      (s.isMax = false ∧ (s.u.call (request s size)).1 = .got [])) :
    (readinto s size).1 = .error "ClientDisconnected" := by
  unfold readinto
  simp only [hlim, if_false]
  rcases hc : s.u.call (request s size) with ⟨o, u'⟩
  rw [hc] at h
  rcases h with h | ⟨hm, h⟩ <;> simp only at h <;> subst h <;> simp [onDisconnect, hook, *]

theorem readinto_length_le (s : St) (size : Nat) (b : Bytes) (h : (readinto s size).1 = .ok b) :
    b.length ≤ size := by
  rcases readinto_cases s size with ⟨_, hr⟩ | ⟨_, k, hk, ⟨_, hr⟩ | ⟨_, err, hr⟩⟩ <;> rw [hr] at h
  · rw [hook_ok h]; exact Nat.zero_le _
  · cases h
    rw [List.length_take]
    exact Nat.le_trans (Nat.min_le_left ..) (Nat.le_trans hk (request_le_size s size))
  · rw [hook_ok h]; exact Nat.zero_le _

theorem read_adv {s s' : St} {n : Nat} {r : Res} (h : read s n = (r, s')) : Adv s s' (given r) := by
  have := readinto_adv s n
  rwa [show readinto s n = (r, s') from h] at this

theorem read_err {s s' : St} {n : Nat} {e : String} (h : read s n = (.error e, s')) : GoodErr s e :=
  readinto_error (congrArg Prod.fst h)

theorem read_len {s s' : St} {n : Nat} {d : Bytes} (h : read s n = (.ok d, s')) : d.length ≤ n :=
  readinto_length_le s n d (congrArg Prod.fst h)

/-- a line read begins with a `read(1)` and raises what that raises (`readline(0)` returns `b""` without reading) -/
theorem readline_read_error {s s' : St} {e : String} (lim : Option Nat) (hl : reachedLimit lim 0 = false)
    (h : read s 1 = (.error e, s')) : readline s lim = (.error e, s') := by
  simp only [readline, readlineLoop, List.length_nil, hl, Bool.false_eq_true, if_false, h]

theorem next_read_error {s s' : St} {e : String} (h : read s 1 = (.error e, s')) : next s = (.error e, s') := by
  simp only [next, readline_read_error none rfl h]

theorem readlines_read_error {s s' : St} {e : String} (hint : Option Nat) (h : read s 1 = (.error e, s')) :
    readlines s hint = (.error e, s') := by
  have he : e ≠ "StopIteration" := by rcases read_err h with ⟨rfl, _⟩ | rfl <;> decide
  simp [readlines, readlinesLoop, next_read_error h, he]

/-- The call with outcome `p`, made in state `s`, took exactly the bytes `d` from the stream; what it returns
stands in the relation `R` to them; and it raises only what `LimitedStream` raises. Every loop and operation on top of
`readinto` is specified this way (`R` says how the returned value is made of the bytes taken). -/
structure Took {α : Type} (s : St) (p : Except String α × St) (R : α → Bytes → Prop) (d : Bytes) : Prop where
  adv : Adv s p.2 d
  ok : ∀ r, p.1 = .ok r → R r d
  err : ∀ e, p.1 = .error e → OkErr s e

theorem Took.stop {α : Type} {s s' : St} {d : Bytes} {a : α} {R : α → Bytes → Prop} (h : Adv s s' d) (hr : R a d) :
    Took s (.ok a, s') R d :=
  ⟨h, fun _ e => (by cases e; exact hr), fun _ h => (by cases h)⟩

theorem Took.raise {α : Type} {s s' : St} {d : Bytes} {e : String} {R : α → Bytes → Prop} (h : Adv s s' d)
    (he : OkErr s e) : Took s (.error e, s') R d :=
  ⟨h, fun _ e => (by cases e), fun _ h' => (by cases h'; exact he)⟩

theorem Took.step {α : Type} {s s' : St} {d d2 : Bytes} {p : Except String α × St} {R R' : α → Bytes → Prop}
    (h : Adv s s' d) (h2 : Took s' p R' d2) (hR : ∀ r, R' r d2 → R r (d ++ d2)) : Took s p R (d ++ d2) :=
  ⟨h.trans h2.adv, fun r hr => hR r (h2.ok r hr), fun e he => OkErr.of_adv h (h2.err e he)⟩

theorem Took.mono {α : Type} {s : St} {d : Bytes} {p : Except String α × St} {R R' : α → Bytes → Prop}
    (h : Took s p R' d) (hR : ∀ r, R' r d → R r d) : Took s p R d :=
  ⟨h.adv, fun r hr => hR r (h.ok r hr), h.err⟩

theorem readinto_spec (s : St) (n : Nat) : Took s (readinto s n) (fun r d => r = d) (given (readinto s n).1) :=
  ⟨readinto_adv s n, fun r hr => by rw [hr]; rfl, fun _ he => (readinto_error he).ok⟩

theorem readallLoop_spec (f : Nat) (s : St) (acc : Bytes) :
    ∃ d, Took s (readallLoop f s acc) (fun r d => r = acc ++ d) d := by
  fun_induction readallLoop f s acc with
  | case1 s acc => exact ⟨[], .stop (.refl s) (by simp)⟩
  | case2 f s acc hlim => exact ⟨[], .stop (.refl s) (by simp)⟩
  | case3 f s acc hlim e s' hr => exact ⟨_, .raise (read_adv hr) (read_err hr).ok⟩
  | case4 f s acc hlim d s' hr hd => exact ⟨d, .stop (read_adv hr) (by simp [List.isEmpty_iff.mp hd])⟩
  | case5 f s acc hlim d s' hr hd ih =>
    obtain ⟨d2, h2⟩ := ih
    exact ⟨d ++ d2, .step (read_adv hr) h2 fun r hr => by rw [hr, List.append_assoc]⟩

theorem readall_spec (s : St) : ∃ d, Took s (readall s) (fun r d => r = d) d := by
  unfold readall
  by_cases hlim : s.limit ≤ s.pos
  · simp only [hlim, if_true]
    refine ⟨[], Adv.refl s, fun r h => hook_ok h, fun e h => Or.inl (hook_onExhausted_error h)⟩
  · simp only [hlim, if_false]
    obtain ⟨d, h⟩ := readallLoop_spec (s.limit - s.pos + 1) s []
    exact ⟨d, h.mono fun r hr => by simpa using hr⟩

theorem exhaust_spec (s : St) : ∃ d, Took s (exhaust s) (fun r d => r = d) d := by
  unfold exhaust
  by_cases hlim : s.limit ≤ s.pos
  · simp only [hlim, if_true]
    exact ⟨[], .stop (.refl s) rfl⟩
  · simp only [hlim, if_false]
    exact readall_spec s

theorem readlineLoop_spec (f : Nat) (s : St) (lim : Option Nat) (acc : Bytes) :
    ∃ d, Took s (readlineLoop f s lim acc) (fun r d => r = acc ++ d) d := by
  fun_induction readlineLoop f s lim acc with
  | case1 s lim acc => exact ⟨[], .stop (.refl s) (by simp)⟩
  | case2 f s lim acc hl => exact ⟨[], .stop (.refl s) (by simp)⟩
  | case3 f s lim acc hl e s' hr => exact ⟨_, .raise (read_adv hr) (read_err hr).ok⟩
  | case4 f s lim acc hl d s' hr hd => exact ⟨d, .stop (read_adv hr) (by simp [List.isEmpty_iff.mp hd])⟩
  | case5 f s lim acc hl d s' hr hd hn => exact ⟨d, .stop (read_adv hr) rfl⟩
  | case6 f s lim acc hl d s' hr hd hn ih =>
    obtain ⟨d2, h2⟩ := ih
    exact ⟨d ++ d2, .step (read_adv hr) h2 fun r hr => by rw [hr, List.append_assoc]⟩

theorem readline_spec (s : St) (lim : Option Nat) : ∃ d, Took s (readline s lim) (fun r d => r = d) d := by
  obtain ⟨d, h⟩ := readlineLoop_spec (s.limit - s.pos + 2) s lim []
  exact ⟨d, h.mono fun r hr => by simpa using hr⟩

/-- `__next__` is `readline()` with the empty line turned into StopIteration: either the iteration ends and nothing
was taken, or a non-empty line is returned like any other read -/
theorem next_spec (s : St) :
    (∃ s', next s = (.error "StopIteration", s') ∧ Adv s s' []) ∨
    ∃ d, Took s (next s) (fun l d => l = d ∧ l ≠ []) d := by
  obtain ⟨d, h⟩ := readline_spec s none
  unfold next
  rcases hr : readline s none with ⟨r, s'⟩
  rw [hr] at h
  cases r with
  | error e => exact .inr ⟨d, h.adv, fun _ h' => (by cases h'), h.err⟩
  | ok l =>
    have hd := h.ok l rfl
    subst hd
    by_cases hl : l.isEmpty = true
    · simp only [hl, if_true]
      exact .inl ⟨s', rfl, List.isEmpty_iff.mp hl ▸ h.adv⟩
    · simp only [hl, Bool.false_eq_true, if_false]
      exact .inr ⟨l, .stop h.adv ⟨rfl, by simpa using hl⟩⟩

theorem next_ok {s s' : St} {l : Bytes} (hr : next s = (.ok l, s')) : Adv s s' l ∧ l ≠ [] := by
  rcases next_spec s with ⟨s2, h, _⟩ | ⟨d, h⟩
  · rw [hr] at h; cases h
  · rw [hr] at h
    obtain ⟨rfl, hne⟩ := h.ok l rfl
    exact ⟨h.adv, hne⟩

theorem readlinesLoop_spec (f : Nat) (s : St) (hint : Option Nat) (len : Nat) (acc : List Bytes) :
    ∃ d, Took s (readlinesLoop f s hint len acc) (fun r d => ∃ ls, r = acc ++ ls ∧ d = ls.flatten) d := by
  -- one more line `l`, then the rest of the loop
  have more : ∀ {s s' : St} {l : Bytes} {acc : List Bytes} {p : LRes × St}, next s = (.ok l, s') →
      (∃ d, Took s' p (fun r d => ∃ ls, r = (acc ++ [l]) ++ ls ∧ d = ls.flatten) d) →
      ∃ d, Took s p (fun r d => ∃ ls, r = acc ++ ls ∧ d = ls.flatten) d := by
    intro s s' l acc p hr ⟨d2, h2⟩
    exact ⟨_, .step (next_ok hr).1 h2 fun r ⟨ls, h3, h4⟩ => ⟨l :: ls, by simp [h3], by simp [h4]⟩⟩
  fun_induction readlinesLoop f s hint len acc with
  | case1 s hint len acc => exact ⟨[], .stop (.refl s) ⟨[], by simp, rfl⟩⟩
  | case2 f s hint len acc e s' hr hs =>
    -- `next` raised StopIteration: `readline` had returned the empty line, nothing was taken
    have he : e = "StopIteration" := by simpa using hs
    rcases next_spec s with ⟨s2, h, hadv⟩ | ⟨d, h⟩ <;> rw [hr] at h
    · cases h; exact ⟨[], .stop hadv ⟨[], by simp, rfl⟩⟩
    · rcases h.err e rfl with ⟨h1, _⟩ | h1 <;> simp [he] at h1
  | case3 f s hint len acc e s' hr hs =>
    rcases next_spec s with ⟨s2, h, _⟩ | ⟨d, h⟩ <;> rw [hr] at h
    · cases h; simp at hs
    · exact ⟨d, .raise h.adv (h.err e rfl)⟩
  | case4 f s len acc l s' hr hh hc => exact ⟨l, .stop (next_ok hr).1 ⟨[l], rfl, by simp⟩⟩
  | case5 f s len acc l s' hr hh hc ih => exact more hr ih
  | case6 f s len acc l s' hr ih => exact more hr ih

theorem readlines_spec (s : St) (hint : Option Nat) : ∃ d, Took s (readlines s hint) (fun r d => d = r.flatten) d := by
  unfold readlines
  obtain ⟨d, h⟩ := readlinesLoop_spec (s.limit - s.pos + 2) s (match hint with | some 0 => none | h => h) 0 []
  exact ⟨d, h.mono fun r ⟨ls, h1, h2⟩ => by rw [h2, h1, List.nil_append]⟩

theorem Took.single {s : St} {p : Res × St} {d : Bytes} (h : Took s p (fun r d => r = d) d) :
    Took s (single p) (fun rs d => d = rs.flatten) d := by
  rcases p with ⟨r, s'⟩
  cases r with
  | error e => exact .raise h.adv (h.err e rfl)
  | ok b => exact .stop h.adv (by simp [h.ok b rfl])

theorem runOp_spec (s : St) (op : Op) :
    ∃ d, Adv s (runOp s op).2 d ∧ (∀ rs, (runOp s op).1 = .ok rs → d = rs.flatten) ∧
      ∀ e, (runOp s op).1 = .error e → OkErr s e ∨ (e = "StopIteration" ∧ op = .next) := by
  have of : ∀ {p : LRes × St}, (∃ d, Took s p (fun rs d => d = rs.flatten) d) →
      ∃ d, Adv s p.2 d ∧ (∀ rs, p.1 = .ok rs → d = rs.flatten) ∧
        ∀ e, p.1 = .error e → OkErr s e ∨ (e = "StopIteration" ∧ op = .next) :=
    fun ⟨d, h⟩ => ⟨d, h.adv, h.ok, fun e he => .inl (h.err e he)⟩
  cases op with
  | read n => exact of ⟨_, (readinto_spec s n).single⟩
  | readinto n => exact of ⟨_, (readinto_spec s n).single⟩
  | readall => exact of ((readall_spec s).imp fun _ h => h.single)
  | exhaust => exact of ((exhaust_spec s).imp fun _ h => h.single)
  | readline l => exact of ((readline_spec s l).imp fun _ h => h.single)
  | readlines hint => exact of (readlines_spec s hint)
  | next =>
    rcases next_spec s with ⟨s', h, hadv⟩ | ⟨d, h⟩
    · refine ⟨[], by simp only [runOp, h, single]; exact hadv, by simp [runOp, h, single], fun e he => .inr ?_⟩
      simp only [runOp, h, single, Except.error.injEq] at he; exact ⟨he.symm, rfl⟩
    · exact of ⟨d, (h.mono fun _ hl => hl.1).single⟩

theorem runOp_err {s : St} {op : Op} {e : String} (he : (runOp s op).1 = .error e) :
    OkErr s e ∨ (e = "StopIteration" ∧ op = .next) :=
  let ⟨_, _, _, h⟩ := runOp_spec s op; h e he

/-- all bytes the operations returned normally, in order -/
def yielded : List LRes → Bytes
  | [] => []
  | .ok bs :: rest => bs.flatten ++ yielded rest
  | .error _ :: rest => yielded rest

def allOk : List LRes → Bool
  | [] => true
  | .ok _ :: rest => allOk rest
  | .error _ :: _ => false

theorem runOps_spec : ∀ (ops : List Op) (s : St),
    ∃ d, Adv s (runOps s ops).2 d ∧ (yielded (runOps s ops).1).length ≤ d.length ∧
      (allOk (runOps s ops).1 = true → yielded (runOps s ops).1 = d) := by
  intro ops
  induction ops with
  | nil => intro s; exact ⟨[], Adv.refl s, by simp [runOps, yielded], by simp [runOps, yielded]⟩
  | cons op ops ih =>
    intro s
    obtain ⟨d1, h1, hok1, _⟩ := runOp_spec s op
    rcases hr : runOp s op with ⟨r, s'⟩
    rw [hr] at h1 hok1
    obtain ⟨d2, h2, hlen, hall⟩ := ih s'
    simp only [runOps, hr]
    refine ⟨d1 ++ d2, h1.trans h2, ?_, ?_⟩
    · cases r with
      | error e => simp only [yielded, List.length_append]; omega
      | ok bs =>
        have := hok1 bs rfl
        simp only [yielded, List.length_append, this]; omega
    · cases r with
      | error e => simp [allOk]
      | ok bs =>
        intro ha
        simp only [allOk] at ha
        simp only [yielded, hok1 bs rfl, hall ha]

theorem fresh_inv (data : Bytes) (script : List Beh) (limit : Nat) (isMax ri : Bool) :
    Inv (fresh data script limit isMax ri) := by
  constructor <;> simp [fresh]

/-- the operations with results `rs`, run on a fresh object over `data` with this `limit` / `isMax`, ended in `s` and took
exactly `d`: what the C09 theorems about operation sequences are read off -/
structure FreshRun (data : Bytes) (limit : Nat) (isMax : Bool) (rs : List LRes) (s : St) (d : Bytes) : Prop where
  inv : Inv s
  limit_eq : s.limit = limit
  isMax_eq : s.isMax = isMax
  pos_eq : s.pos = d.length
  out_eq : s.out = d
  taken_eq : s.u.taken = d
  data_eq : data = d ++ s.u.data
  ylen : (yielded rs).length ≤ d.length
  yall : allOk rs = true → yielded rs = d

theorem fresh_run (data : Bytes) (script : List Beh) (limit : Nat) (isMax ri : Bool) (ops : List Op) :
    ∃ d, FreshRun data limit isMax (runOps (fresh data script limit isMax ri) ops).1
      (runOps (fresh data script limit isMax ri) ops).2 d := by
  obtain ⟨d, h, hlen, hall⟩ := runOps_spec ops (fresh data script limit isMax ri)
  refine ⟨d, h.inv (fresh_inv ..), ?_, ?_, ?_, ?_, ?_, ?_, hlen, hall⟩
  · rw [h.limit_eq]; rfl
  · rw [h.isMax_eq]; rfl
  · rw [h.pos_eq]; simp [fresh]
  · rw [h.out_eq]; simp [fresh]
  · rw [h.taken_eq]; simp [fresh]
  · have := h.data_eq; simpa [fresh] using this

theorem FreshRun.pos_le {data : Bytes} {limit : Nat} {isMax : Bool} {rs : List LRes} {s : St} {d : Bytes}
    (h : FreshRun data limit isMax rs s d) : s.pos ≤ limit :=
  h.limit_eq ▸ h.inv.pos_le

theorem FreshRun.log_le {data : Bytes} {limit : Nat} {isMax : Bool} {rs : List LRes} {s : St} {d : Bytes}
    (h : FreshRun data limit isMax rs s d) : ∀ p ∈ s.u.log, p.1 + p.2 ≤ limit :=
  h.limit_eq ▸ h.inv.no_overread

theorem FreshRun.take_pos {data : Bytes} {limit : Nat} {isMax : Bool} {rs : List LRes} {s : St} {d : Bytes}
    (h : FreshRun data limit isMax rs s d) : data.take s.pos = d := by
  rw [h.pos_eq, h.data_eq, List.take_left]

theorem readallLoop_declared (f : Nat) (s : St) (acc : Bytes) (hm : s.isMax = false) (hinv : Inv s)
    (hf : s.limit - s.pos < f) (r : Bytes) (h : (readallLoop f s acc).1 = .ok r) :
    (readallLoop f s acc).2.pos = s.limit := by
  fun_induction readallLoop f s acc with
  | case1 s acc => omega
  | case2 f s acc hlim => have := hinv.pos_le; simp only; omega
  | case3 f s acc hlim e s' hr => cases h
  | case4 f s acc hlim d s' hr hd =>
    have hr' : (readinto s 65536).1 = .ok d := congrArg Prod.fst hr
    exact absurd (List.isEmpty_iff.mp hd) (readinto_declared_nonempty hm hlim hr')
  | case5 f s acc hlim d s' hr hd ih =>
    have hadv : Adv s s' d := read_adv hr
    rw [ih (by rw [hadv.isMax_eq]; exact hm) (hadv.inv hinv) (hadv.fuel (by simpa using hd) (by omega) hf) h,
      hadv.limit_eq]

theorem readall_declared {s : St} (hi : Inv s) (hm : s.isMax = false) {r : Bytes} (h : (readall s).1 = .ok r) :
    (readall s).2.pos = s.limit := by
  unfold readall at h ⊢
  by_cases hl : s.limit ≤ s.pos
  · simp only [hl, if_true]; have := hi.pos_le; omega
  · simp only [hl, if_false] at h ⊢
    exact readallLoop_declared _ s [] hm hi (by omega) r h

theorem readall_short {s : St} (hi : Inv s) (hm : s.isMax = false) (hshort : s.u.data.length < s.limit - s.pos) :
    (readall s).1 = .error "ClientDisconnected" := by
  obtain ⟨d, h⟩ := readall_spec s
  cases hr : (readall s).1 with
  | error e =>
    rcases h.err e hr with ⟨_, h3⟩ | h3
    · rw [hm] at h3; cases h3
    · rw [h3]
  | ok r =>
    -- a normal return ends at the limit, so it took `limit - pos` bytes, more than are left
    have hend := readall_declared hi hm hr
    have hlen := congrArg List.length h.adv.data_eq
    rw [h.adv.pos_eq] at hend
    rw [List.length_append] at hlen
    omega

/-- more fuel than `limit - pos` never changes the result of the `readall` loop: the bound
`limit - pos + 1` used by `readall` is not a truncation -/
theorem readallLoop_fuel (f g : Nat) (s : St) (acc : Bytes)
    (hf : s.limit - s.pos < f) (hg : s.limit - s.pos < g) : readallLoop f s acc = readallLoop g s acc := by
  fun_induction readallLoop f s acc generalizing g with
  | case1 s acc => omega
  | case2 f s acc hlim => cases g <;> simp [readallLoop, hlim]
  | case3 f s acc hlim e s' hr =>
    cases g with
    | zero => omega
    | succ g => simp [readallLoop, hlim, hr]
  | case4 f s acc hlim d s' hr hd =>
    cases g with
    | zero => omega
    | succ g => simp [readallLoop, hlim, hr, hd]
  | case5 f s acc hlim d s' hr hd ih =>
    have hadv : Adv s s' d := read_adv hr
    have hne : d ≠ [] := by simpa using hd
    cases g with
    | zero => omega
    | succ g =>
      simp only [readallLoop, hlim, hr, hd, if_false, Bool.false_eq_true]
      exact ih g (hadv.fuel hne (by omega) hf) (hadv.fuel hne (by omega) hg)

/-- the underlying stream never fails and never returns zero bytes while data remain
(it may still fragment arbitrarily) -/
def Faithful (script : List Beh) : Prop := ∀ b ∈ script, ∃ k, b = .give k ∧ 0 < k

theorem Faithful.tail {l : List Beh} (h : Faithful l) : Faithful l.tail :=
  fun b hb => h b (List.mem_of_mem_tail hb)

theorem call_faithful (u : Under) (n : Nat) (hf : Faithful u.script) (hn : 0 < n) :
    ∃ k, 0 < k ∧ k ≤ n ∧ u.call n = (.got (u.data.take k), u.after n k) := by
  unfold Under.call
  cases h : u.script.head? with
  | none => exact ⟨n, hn, Nat.le_refl _, rfl⟩
  | some b =>
    have hb : b ∈ u.script := List.mem_of_head? h
    obtain ⟨k, rfl, hk⟩ := hf b hb
    exact ⟨min k n, by omega, Nat.min_le_right .., rfl⟩

theorem request_pos {s : St} {size : Nat} (hlim : ¬ s.limit ≤ s.pos) (hs : 0 < size) :
    0 < request s size := by
  unfold request
  dsimp only
  split
  · split <;> omega
  · omega

theorem take_take_drop {α : Type} (l : List α) (k L : Nat) (hk : k ≤ L) :
    l.take k ++ (l.drop k).take (L - (l.take k).length) = l.take L := by
  by_cases h : k ≤ l.length
  · have : (l.take k).length = k := by rw [List.length_take]; omega
    rw [this]
    have hL : L = k + (L - k) := by omega
    conv => rhs; rw [hL, List.take_add]
  · have h1 : l.take k = l := List.take_of_length_le (by omega)
    have h2 : l.drop k = [] := List.drop_of_length_le (by omega)
    have h3 : l.take L = l := List.take_of_length_le (by omega)
    rw [h1, h2, h3]; simp

/-- Proved on the body of `readinto`, not through `readinto_cases`: the successor state is needed together with the
`0 < k` of `call_faithful`, which the case lemma hides behind its `∃ k`. The last hypothesis: a declared length that the
data do not reach ends in ClientDisconnected instead. -/
theorem readallLoop_faithful : ∀ (f : Nat) (s : St) (acc : Bytes), Faithful s.u.script →
    s.limit - s.pos < f → (s.isMax = true ∨ s.limit - s.pos ≤ s.u.data.length) →
    (readallLoop f s acc).1 = .ok (acc ++ s.u.data.take (s.limit - s.pos)) := by
  intro f
  induction f with
  | zero => intro s acc _ hf; omega
  | succ f ih =>
    intro s acc hfa hf hcase
    unfold readallLoop
    by_cases hlim : s.limit ≤ s.pos
    · have : s.limit - s.pos = 0 := by omega
      simp [hlim, this]
    · simp only [hlim, if_false, read]
      have hreq := request_pos (size := 65536) hlim (by omega)
      obtain ⟨k, hk0, hk, hc⟩ := call_faithful s.u (request s 65536) hfa hreq
      have hkl : k ≤ s.limit - s.pos := Nat.le_trans hk (request_le s 65536)
      unfold readinto
      simp only [hlim, if_false, hc]
      by_cases hb : (s.u.data.take k).isEmpty = true
      · have hb' : s.u.data.take k = [] := List.isEmpty_iff.mp hb
        have hdata : s.u.data = [] := by
          cases hd : s.u.data with
          | nil => rfl
          | cons a t =>
            rw [hd] at hb'
            cases k with
            | zero => omega
            | succ k => simp at hb'
        simp only [hb, if_true]
        rcases hcase with hm | hlen
        · simp [onDisconnect, hm, hook, hdata]
        · rw [hdata] at hlen; simp at hlen; omega
      · simp only [hb, Bool.false_eq_true, if_false]
        have hne : s.u.data.take k ≠ [] := by simpa using hb
        have hpos : 0 < (s.u.data.take k).length := List.length_pos_iff.mpr hne
        have hble : (s.u.data.take k).length ≤ k := by rw [List.length_take]; exact Nat.min_le_left ..
        have := ih { s with u := s.u.after (request s 65536) k, pos := s.pos + (s.u.data.take k).length,
                            out := s.out ++ s.u.data.take k }
          (acc ++ s.u.data.take k) (by simpa [Under.after] using hfa.tail) (by simp only; omega)
          (by
            rcases hcase with hm | hlen
            · exact Or.inl hm
            · right
              simp only [Under.after, List.length_drop, List.length_take]
              omega)
        rw [this]
        simp only [Under.after, List.append_assoc]
        have e : s.limit - (s.pos + (List.take k s.u.data).length)
            = (s.limit - s.pos) - (List.take k s.u.data).length := by omega
        rw [e, take_take_drop _ _ _ hkl]

theorem readall_faithful (s : St) (hf : Faithful s.u.script) (hlim : s.pos < s.limit)
    (hcase : s.isMax = true ∨ s.limit - s.pos ≤ s.u.data.length) :
    (readall s).1 = .ok (s.u.data.take (s.limit - s.pos)) := by
  unfold readall
  rw [if_neg (by omega)]
  simpa using readallLoop_faithful (s.limit - s.pos + 1) s [] hf (by omega) hcase

/-- a line as `readline` returns it: a newline can only be its last byte -/
def LineShaped (l : Bytes) : Prop := 10 ∉ l.dropLast

theorem readlineLoop_shape (f : Nat) (s : St) (lim : Option Nat) (acc l : Bytes) (hacc : 10 ∉ acc)
    (hlen : ∀ n, lim = some n → acc.length ≤ n) (h : (readlineLoop f s lim acc).1 = .ok l) :
    LineShaped l ∧ (∀ n, lim = some n → l.length ≤ n) := by
  -- the loop stopped without a new byte: the line is `acc`
  have stop : ∀ {acc : Bytes}, 10 ∉ acc → (∀ n, lim = some n → acc.length ≤ n) → Except.ok acc = Except.ok (ε := String) l →
      LineShaped l ∧ (∀ n, lim = some n → l.length ≤ n) := by
    intro acc hacc hlen h
    cases h
    exact ⟨fun hm => hacc (List.dropLast_subset _ hm), hlen⟩
  fun_induction readlineLoop f s lim acc with
  | case1 s lim acc => exact stop hacc hlen h
  | case2 f s lim acc hl => exact stop hacc hlen h
  | case3 f s lim acc hl e s' hr => cases h
  | case4 f s lim acc hl d s' hr hd => exact stop hacc hlen h
  | case5 f s lim acc hl d s' hr hd hn =>
    cases h
    have hd1 := read_len hr
    refine ⟨?_, fun n hn' => ?_⟩
    · match d, hn, hd1 with
      | [x], _, _ => simpa [LineShaped] using hacc
      | _ :: _ :: _, _, h => simp at h
    · have : acc.length < n := by simpa [reachedLimit, hn'] using hl
      rw [List.length_append]; omega
  | case6 f s lim acc hl d s' hr hd hn ih =>
    have hd1 := read_len hr
    refine ih ?_ (fun n hn' => ?_) h stop
    · match d, hn, hd1 with
      | [x], hn, _ => simpa [hacc] using fun e : 10 = x => hn (by simp [← e])
      | [], _, _ => simpa using hacc
      | _ :: _ :: _, _, h => simp at h
    · have : acc.length < n := by simpa [reachedLimit, hn'] using hl
      rw [List.length_append]; omega

theorem readline_shape (s : St) (lim : Option Nat) (l : Bytes) (h : (readline s lim).1 = .ok l) :
    LineShaped l ∧ (∀ n, lim = some n → l.length ≤ n) :=
  readlineLoop_shape _ s lim [] l (by simp) (by simp) h

theorem next_shape (s : St) (l : Bytes) (h : (next s).1 = .ok l) : l ≠ [] ∧ LineShaped l := by
  unfold next at h
  have hs := readline_shape s none
  rcases hr : readline s none with ⟨r, s'⟩
  rw [hr] at h hs
  cases r with
  | error e => simp at h
  | ok l' =>
    simp only at h
    by_cases he : l'.isEmpty = true
    · simp [he] at h
    · simp only [he, Bool.false_eq_true, if_false, Except.ok.injEq] at h
      subst h
      exact ⟨by simpa using he, (hs l' rfl).1⟩

theorem readlinesLoop_shape (f : Nat) (s : St) (hint : Option Nat) (len : Nat) (acc ls : List Bytes)
    (hacc : ∀ l ∈ acc, l ≠ [] ∧ LineShaped l) (h : (readlinesLoop f s hint len acc).1 = .ok ls) :
    ∀ l ∈ ls, l ≠ [] ∧ LineShaped l := by
  have snoc : ∀ {s s' : St} {acc : List Bytes} {l : Bytes}, (∀ l ∈ acc, l ≠ [] ∧ LineShaped l) →
      next s = (.ok l, s') → ∀ x ∈ acc ++ [l], x ≠ [] ∧ LineShaped x := by
    intro s s' acc l hacc hr x hx
    rcases List.mem_append.mp hx with hx | hx
    · exact hacc x hx
    · rw [List.mem_singleton.mp hx]
      exact next_shape s l (congrArg Prod.fst hr)
  fun_induction readlinesLoop f s hint len acc with
  | case1 s hint len acc => cases h; exact hacc
  | case2 f s hint len acc e s' hr hs => cases h; exact hacc
  | case3 f s hint len acc e s' hr hs => cases h
  | case4 f s len acc l s' hr hh hc => cases h; exact snoc hacc hr
  | case5 f s len acc l s' hr hh hc ih => exact ih (snoc hacc hr) h
  | case6 f s len acc l s' hr ih => exact ih (snoc hacc hr) h

theorem readlines_shape (s : St) (hint : Option Nat) (ls : List Bytes) (h : (readlines s hint).1 = .ok ls) :
    ∀ l ∈ ls, l ≠ [] ∧ LineShaped l := by
  unfold readlines at h
  exact readlinesLoop_shape _ s _ 0 [] ls (by simp) h

theorem runOp_next_ok {s s' : St} {bs : List Bytes} (h : runOp s .next = (.ok bs, s')) :
    ∃ l, bs = [l] ∧ l ≠ [] ∧ LineShaped l ∧ Adv s s' l := by
  simp only [runOp] at h
  rcases hn : next s with ⟨r, s1⟩
  rw [hn] at h
  cases r with
  | error e => simp [single] at h
  | ok l =>
    simp only [single, Prod.mk.injEq, Except.ok.injEq] at h
    obtain ⟨rfl, rfl⟩ := h
    exact ⟨l, rfl, (next_ok hn).2, (next_shape s l (congrArg Prod.fst hn)).2, (next_ok hn).1⟩

theorem iterLoop_eq_runOps (f : Nat) (s : St) :
    iterLoop f s = runOps s (List.replicate (iterLoop f s).1.length Op.next) := by
  fun_induction iterLoop f s with
  | case1 s => rfl
  | case2 f s e s' hr => simp [runOps, hr]
  | case3 f s l s' hr rs s'' hi ih =>
    simp only [List.length_cons, List.replicate_succ, runOps, hr]
    rw [hi] at ih
    rw [← ih]

theorem iterLoop_ends (f : Nat) (s : St) (hi : Inv s) (hf : s.limit - s.pos < f) :
    ∃ (ls : List Bytes) (e : String), (iterLoop f s).1 = ls.map (fun l => (Except.ok [l] : LRes)) ++ [.error e] ∧
      (∀ l ∈ ls, l ≠ [] ∧ LineShaped l) ∧ (OkErr s e ∨ e = "StopIteration") := by
  fun_induction iterLoop f s with
  | case1 s => omega
  | case2 f s e s' hr =>
    exact ⟨[], e, rfl, by simp, (runOp_err (congrArg Prod.fst hr)).imp_right And.left⟩
  | case3 f s bs s' hr rs s'' hrs ih =>
    obtain ⟨l, rfl, hne, hsh, hadv⟩ := runOp_next_ok hr
    have hpos : 0 < l.length := List.length_pos_iff.mpr hne
    have hi' := hadv.inv hi
    have hle := hi'.pos_le
    rw [hadv.limit_eq, hadv.pos_eq] at hle
    obtain ⟨ls, e, h1, h2, h3⟩ := ih hi' (hadv.fuel hne (by omega) hf)
    rw [hrs] at h1
    refine ⟨l :: ls, e, by simpa using h1, ?_, h3.imp_left (OkErr.of_adv hadv)⟩
    intro x hx
    rcases List.mem_cons.mp hx with rfl | hx
    · exact ⟨hne, hsh⟩
    · exact h2 x hx

theorem runOps_append (s : St) : ∀ (a b : List Op),
    (runOps s (a ++ b)).1 = (runOps s a).1 ++ (runOps (finalState s a) b).1 := by
  intro a
  induction a generalizing s with
  | nil => intro b; simp [runOps, finalState]
  | cons op ops ih =>
    intro b
    simp only [List.cons_append, runOps, finalState]
    rw [ih]
    simp [finalState]

theorem digits_of_plainInt_pos {v : List Char} {i : Int} (h : plainInt v = some i) (hi : 0 < i) :
    (Py.strip v).all isAsciiDigit = true := by
  unfold plainInt at h
  simp only at h
  split at h
  · split at h
    · cases h; omega
    · cases h
  · split at h
    · rename_i hc; simp only [Bool.and_eq_true] at hc; exact hc.2
    · cases h

theorem getContentLength_eq_none (cl : Option (List Char)) (chunked : Bool) :
    getContentLength cl chunked = none ↔ (chunked = true ∨ cl = none) := by
  unfold getContentLength
  cases chunked <;> cases cl <;> simp
  split <;> simp

/-- the decision of `get_input_stream`, one row per outcome (`n` = the usable declared length) -/
inductive Chooses (n : Option Nat) (terminated : Bool) (max : Option Nat) (safe : Bool) : Choice → Prop
  | tooLarge {k m} : n = some k → max = some m → m < k → Chooses n terminated max safe .tooLarge
  | maxed {m} : terminated = true → max = some m → (∀ k, n = some k → k ≤ m) → Chooses n terminated max safe (.limited m true)
  | raw : terminated = true → max = none → Chooses n terminated max safe .raw
  | noLength : terminated = false → n = none → Chooses n terminated max safe (if safe then .empty else .raw)
  | declared {k} : terminated = false → n = some k → (∀ m, max = some m → k ≤ m) → Chooses n terminated max safe (.limited k false)

theorem getInputStream_chooses (cl : Option (List Char)) (chunked terminated : Bool) (max : Option Nat) (safe : Bool) :
    Chooses (getContentLength cl chunked) terminated max safe (getInputStream cl chunked terminated max safe) := by
  unfold getInputStream
  generalize getContentLength cl chunked = n
  cases n with
  | none =>
    cases terminated <;> cases max <;> simp only [Bool.false_eq_true, if_false, if_true]
    · exact .noLength rfl rfl
    · exact .noLength rfl rfl
    · exact .raw rfl rfl
    · exact .maxed rfl rfl (by simp)
  | some k =>
    cases max with
    | none =>
      cases terminated <;> simp only [Bool.false_eq_true, if_false, if_true]
      · exact .declared rfl rfl (by simp)
      · exact .raw rfl rfl
    | some m =>
      by_cases h : k > m
      · simp only [h, decide_true, if_true]; exact .tooLarge rfl rfl h
      · simp only [h, decide_false, Bool.false_eq_true, if_false]
        cases terminated <;> simp only [Bool.false_eq_true, if_false, if_true]
        · exact .declared rfl rfl (by simp; omega)
        · exact .maxed rfl rfl (by simp; omega)

end Wz.LS
