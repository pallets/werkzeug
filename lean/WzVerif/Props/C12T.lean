/-
C12T — the redirect-URL glue of `werkzeug.routing.map.MapAdapter` *as regenerated from the source* by
`tools/py2lean.py` (`Gen/PyFns_RoutingUrl.lean`, rewritten on every check run: `get_host`,
`encode_query_args`, `make_redirect_url`, `make_alias_redirect_url`; one translation per class of
`query_args` - `str` / mapping handed over as its list of pairs) equals the hand-written model the C12
theorems are about (`Model/RoutingUrl.lean` `getHost`, `encodeQueryArgs`, `makeRedirectUrl`; the alias
arm of `Model/RoutingAdapter.lean` `matchAdapter`). `urlunsplit` (urllib) and `_urlencode` are
parameters, instantiated with the model's functions. The `assert url != path` of
`make_alias_redirect_url` is the model's `aliasOutcome`: the translation equals it for every domain part (`*_outcome`);
the assertion cannot fire when the domain part contains no `/` (`*_in_match`: the alias arm is the redirect text alone),
and it does fire on the real code for a bound subdomain containing `/` (`alias_assert_reachable_witness`; replayed on the
real code).
Helper lemmas: `Lemmas/PyFnsEq_RoutingUrl.lean`.
-/
import WzVerif.Lemmas.PyFnsEq_RoutingUrl
namespace Wz.Props.C12T
open Wz Wz.Routing
open Gen.PyFns_RoutingUrl
open Wz.PyFnsEq.RoutingUrl

/-- `MapAdapter.get_host(domain_part)`, as translated from the source, returns the model's `getHost`
for every adapter, both settings of `host_matching` and every `domain_part` (including `None`) -/
theorem adapter_get_host_eq (hm : Bool) (a : Routing.Adapter) (dp : Option Str) :
    adapter_get_host hm a.serverName a.subdomain dp = Routing.getHost hm a dp := by
  unfold adapter_get_host Routing.getHost
  cases hm <;> cases dp <;> cases a.subdomain <;> simp <;> split <;> simp_all

/-- `MapAdapter.encode_query_args(query_args)` for a `str` returns it unchanged, as the model says -/
theorem encode_query_args_str_eq (s : Str) :
    encode_query_args_str s = Routing.encodeQueryArgs (.text s) := rfl

/-- `MapAdapter.encode_query_args(query_args)` for a mapping returns `_urlencode(query_args)`, as the
model says -/
theorem encode_query_args_pairs_eq (l : List (Str × Str)) :
    encode_query_args_pairs Routing.urlencode l = Routing.encodeQueryArgs (.pairs l) := rfl

/-- `MapAdapter.make_redirect_url(path_info, query_args, domain_part)`, as translated from the source for
`str` query arguments, returns the model's `makeRedirectUrl`: for every adapter bound with
`query_args=None` or a `str`, every call with `query_args=None` or a `str` (all four combinations, empty
strings included), every `path_info`, `domain_part`, `host_matching` -/
theorem make_redirect_url_str_eq (hm : Bool) (a : Routing.Adapter) (pathInfo : Str)
    (qa : Routing.QueryArgs) (dp : Option Str) (sq cq : Option Str)
    (ha : qaStr a.queryArgs = some sq) (hq : qaStr qa = some cq) :
    make_redirect_url_str Routing.urlunsplit Routing.urlencode hm a.serverName a.subdomain a.urlScheme
      a.scriptName sq pathInfo cq dp = Routing.makeRedirectUrl hm a pathInfo qa dp := by
  unfold make_redirect_url_str Routing.makeRedirectUrl
  simp only [adapter_get_host_eq, stripChars_singleton, lstripChars_singleton, join_slash_pair,
    encode_query_args_str_eq, scheme_or_http]
  cases qa <;> cases haq : a.queryArgs <;>
    simp only [qaStr, haq, Option.some.injEq, reduceCtorEq] at ha hq <;>
    subst ha hq <;>
    simp only [Routing.effQa, Routing.QueryArgs.truthy, Routing.encodeQueryArgs, haq, Bool.false_eq_true, if_false] <;>
    first | rfl | (split <;> simp only [*, if_true, Bool.false_eq_true, if_false])

/-- `MapAdapter.make_redirect_url(path_info, query_args, domain_part)`, as translated from the source for
mapping query arguments, returns the model's `makeRedirectUrl`: for every adapter bound with
`query_args=None` or a mapping, every call with `query_args=None` or a mapping (all four combinations,
empty mappings included), every `path_info`, `domain_part`, `host_matching` -/
theorem make_redirect_url_pairs_eq (hm : Bool) (a : Routing.Adapter) (pathInfo : Str)
    (qa : Routing.QueryArgs) (dp : Option Str) (sq cq : Option (List (Str × Str)))
    (ha : qaPairs a.queryArgs = some sq) (hq : qaPairs qa = some cq) :
    make_redirect_url_pairs Routing.urlunsplit Routing.urlencode hm a.serverName a.subdomain a.urlScheme
      a.scriptName sq pathInfo cq dp = Routing.makeRedirectUrl hm a pathInfo qa dp := by
  unfold make_redirect_url_pairs Routing.makeRedirectUrl
  simp only [adapter_get_host_eq, stripChars_singleton, lstripChars_singleton, join_slash_pair,
    encode_query_args_pairs_eq, scheme_or_http]
  cases qa <;> cases haq : a.queryArgs <;>
    simp only [qaPairs, haq, Option.some.injEq, reduceCtorEq] at ha hq <;>
    subst ha hq <;>
    simp only [Routing.effQa, Routing.QueryArgs.truthy, Routing.encodeQueryArgs, haq, Bool.false_eq_true, if_false] <;>
    first | rfl | (split <;> simp only [*, if_true, Bool.false_eq_true, if_false])

/-- `MapAdapter.make_alias_redirect_url(path, ..., query_args)` for a `str` `query_args`, when
`self.build(...)` returned `url` and the final text differs from `path`: returns exactly the text of the
model's alias arm (`url`, plus `"?" + query_args` when `query_args` is not empty) -/
theorem make_alias_redirect_url_str_eq (url path s : Str) (en va me : Unit)
    (h : (if (Routing.QueryArgs.text s).truthy then url ++ '?' :: Routing.encodeQueryArgs (.text s) else url) ≠ path) :
    make_alias_redirect_url_str (.ok url) path en va me s
      = .ok (if (Routing.QueryArgs.text s).truthy then url ++ '?' :: Routing.encodeQueryArgs (.text s) else url) := by
  rw [make_alias_redirect_url_str_of_built, if_neg (mt beq_iff_eq.1 h)]

/-- necessity of the hypothesis of `make_alias_redirect_url_str_eq`: when the final text equals `path`
the `assert url != path` of the source fires (`AssertionError`): the error arm of the model's `aliasOutcome` -/
theorem make_alias_redirect_url_str_assert (url path s : Str) (en va me : Unit)
    (h : (if (Routing.QueryArgs.text s).truthy then url ++ '?' :: Routing.encodeQueryArgs (.text s) else url) = path) :
    make_alias_redirect_url_str (.ok url) path en va me s = .error "AssertionError" := by
  rw [make_alias_redirect_url_str_of_built, if_pos (beq_iff_eq.2 h)]

/-- an exception raised by `self.build(...)` escapes `make_alias_redirect_url` unchanged (`str` case) -/
theorem make_alias_redirect_url_str_error (e : String) (path s : Str) (en va me : Unit) :
    make_alias_redirect_url_str (.error e) path en va me s = .error e := rfl

/-- `MapAdapter.make_alias_redirect_url(path, ..., query_args)` for a mapping `query_args`, when
`self.build(...)` returned `url` and the final text differs from `path`: returns exactly the text of the
model's alias arm (`url`, plus `"?" + _urlencode(query_args)` when the mapping is not empty) -/
theorem make_alias_redirect_url_pairs_eq (url path : Str) (l : List (Str × Str)) (en va me : Unit)
    (h : (if (Routing.QueryArgs.pairs l).truthy then url ++ '?' :: Routing.encodeQueryArgs (.pairs l) else url) ≠ path) :
    make_alias_redirect_url_pairs (.ok url) Routing.urlencode path en va me l
      = .ok (if (Routing.QueryArgs.pairs l).truthy then url ++ '?' :: Routing.encodeQueryArgs (.pairs l) else url) := by
  rw [make_alias_redirect_url_pairs_of_built, if_neg (mt beq_iff_eq.1 h)]

/-- necessity of the hypothesis of `make_alias_redirect_url_pairs_eq`: when the final text equals
`path` the `assert url != path` of the source fires (`AssertionError`): the error arm of the model's `aliasOutcome` -/
theorem make_alias_redirect_url_pairs_assert (url path : Str) (l : List (Str × Str)) (en va me : Unit)
    (h : (if (Routing.QueryArgs.pairs l).truthy then url ++ '?' :: Routing.encodeQueryArgs (.pairs l) else url) = path) :
    make_alias_redirect_url_pairs (.ok url) Routing.urlencode path en va me l = .error "AssertionError" := by
  rw [make_alias_redirect_url_pairs_of_built, if_pos (beq_iff_eq.2 h)]

/-- an exception raised by `self.build(...)` escapes `make_alias_redirect_url` unchanged (mapping case) -/
theorem make_alias_redirect_url_pairs_error (e : String) (path : Str) (l : List (Str × Str))
    (en va me : Unit) :
    make_alias_redirect_url_pairs (.error e) Routing.urlencode path en va me l = .error e := rfl

/-- the model's `QueryArgs.none` in the alias arm: `MapAdapter.match` hands `self.query_args or {}` to
`make_alias_redirect_url`, i.e. the empty mapping when no query arguments are bound or given; the
translation then returns `url` itself, which is the model's text for `.none` -/
theorem make_alias_redirect_url_none_eq (url path : Str) (en va me : Unit)
    (h : (if Routing.QueryArgs.none.truthy then url ++ '?' :: Routing.encodeQueryArgs .none else url) ≠ path) :
    make_alias_redirect_url_pairs (.ok url) Routing.urlencode path en va me []
      = .ok (if Routing.QueryArgs.none.truthy then url ++ '?' :: Routing.encodeQueryArgs .none else url) :=
  make_alias_redirect_url_pairs_eq url path [] en va me h

/-- `make_alias_redirect_url` as called by `MapAdapter.match` (`str` query arguments), with the model's
`build(..., force_external=True)` as `self.build`: when the domain part contains no `/` the result is the
model's alias arm — the redirect text, or the exception of `build`; never `AssertionError` -/
theorem make_alias_redirect_url_str_in_match (cfg : MapCfg) (a : Routing.Adapter) (rules : List Rule)
    (ep : Str) (vals : List (Str × Value)) (method : Option Str) (au : Bool) (dom pp s : Str)
    (en va me : Unit) (hd : '/' ∉ dom) :
    make_alias_redirect_url_str (adapterBuild cfg a rules ep vals method true au) (dom ++ '|' :: pp) en va me s
      = (adapterBuild cfg a rules ep vals method true au).map fun url =>
          if (Routing.QueryArgs.text s).truthy then url ++ '?' :: Routing.encodeQueryArgs (.text s) else url := by
  cases hb : adapterBuild cfg a rules ep vals method true au with
  | error e => rfl
  | ok url =>
    rw [make_alias_redirect_url_str_eq url _ s en va me (alias_url_ne_path hb (.text s) dom pp hd)]
    rfl

/-- `make_alias_redirect_url` as called by `MapAdapter.match` (mapping query arguments), with the
model's `build(..., force_external=True)` as `self.build`: when the domain part contains no `/` the
result is the model's alias arm — the redirect text, or the exception of `build`; never `AssertionError` -/
theorem make_alias_redirect_url_pairs_in_match (cfg : MapCfg) (a : Routing.Adapter) (rules : List Rule)
    (ep : Str) (vals : List (Str × Value)) (method : Option Str) (au : Bool) (dom pp : Str)
    (l : List (Str × Str)) (en va me : Unit) (hd : '/' ∉ dom) :
    make_alias_redirect_url_pairs (adapterBuild cfg a rules ep vals method true au) Routing.urlencode
        (dom ++ '|' :: pp) en va me l
      = (adapterBuild cfg a rules ep vals method true au).map fun url =>
          if (Routing.QueryArgs.pairs l).truthy then url ++ '?' :: Routing.encodeQueryArgs (.pairs l) else url := by
  cases hb : adapterBuild cfg a rules ep vals method true au with
  | error e => rfl
  | ok url =>
    rw [make_alias_redirect_url_pairs_eq url _ l en va me (alias_url_ne_path hb (.pairs l) dom pp hd)]
    rfl

/-- the hypothesis `'/' ∉ dom` of the two theorems above cannot be dropped: with the domain part
`http://b.server/canon?z`, the built URL `http://b.server/canon`, path part `/alias` and the query string
`z|/alias`, the final text is `f"{domain_part}|{path_part}"` and the assertion fires. (Replayed on the
real code: `Map([Rule("/canon", endpoint="e", subdomain="b"), Rule("/alias", endpoint="e",
subdomain='<any("a", "http://b.server/canon?z"):s>', alias=True)]).bind("server",
subdomain="http://b.server/canon?z", url_scheme="http").match("/alias", query_args="z|/alias")` raises
`AssertionError`, the error arm of the model's `aliasOutcome`.) -/
theorem alias_assert_reachable_witness (en va me : Unit) :
    make_alias_redirect_url_str (.ok "http://b.server/canon".toList)
      ("http://b.server/canon?z".toList ++ '|' :: "/alias".toList) en va me "z|/alias".toList
      = .error "AssertionError" := by
  apply make_alias_redirect_url_str_assert
  repeat rw [String.toList_ofList]
  decide

/-- an outcome of the translated `make_alias_redirect_url` read as an outcome of `MapAdapter.match`:
the URL is raised as `RequestRedirect`, an exception propagates -/
def aliasView : Except String Str → Outcome
  | .ok url => .redirect url
  | .error e => .error e

/-- `make_alias_redirect_url` (`str` query arguments) as called by `MapAdapter.match` with
`path = f"{domain_part}|{path_part}"`, for *every* domain part: the exception of `self.build`, else
exactly the model's `aliasOutcome` of the canonical URL with the query appended - `AssertionError`
when that text equals `path`, the redirect otherwise. No hypothesis on the domain part is left. -/
theorem make_alias_redirect_url_str_outcome (built : Except String Str) (dom pp s : Str) (en va me : Unit) :
    aliasView (make_alias_redirect_url_str built (dom ++ '|' :: pp) en va me s) =
      match built with
      | .error e => .error e
      | .ok url => aliasOutcome (if (QueryArgs.text s).truthy then url ++ '?' :: encodeQueryArgs (.text s) else url) dom pp := by
  cases built with
  | error e => rfl
  | ok url => rw [make_alias_redirect_url_str_of_built, apply_ite aliasView]; rfl

/-- the same for mapping query arguments (handed over as the list of pairs) -/
theorem make_alias_redirect_url_pairs_outcome (built : Except String Str) (dom pp : Str) (l : List (Str × Str)) (en va me : Unit) :
    aliasView (make_alias_redirect_url_pairs built Routing.urlencode (dom ++ '|' :: pp) en va me l) =
      match built with
      | .error e => .error e
      | .ok url => aliasOutcome (if (QueryArgs.pairs l).truthy then url ++ '?' :: encodeQueryArgs (.pairs l) else url) dom pp := by
  cases built with
  | error e => rfl
  | ok url => rw [make_alias_redirect_url_pairs_of_built, apply_ite aliasView]; rfl

end Wz.Props.C12T
