/-
C05T — `Response._clean_status` (sansio/response.py) and `Response.get_app_iter`
(wrappers/response.py) *as regenerated from the source* by `tools/py2lean.py`
(`Gen/PyFns_Response.lean`, rewritten on every check run) against C05's hand model
`Model/Response.lean` (`cleanStatus`, `codeLine`, `bodyless`, `getAppIter`). `HTTP_STATUS_CODES` is
the regenerated table `Gen.Response.statusCodes` (`phraseOf`); `int(code_str)` is C06's hand model
`Http.pyInt` on both sides; `clean_status_str_underscore` / `_tab` / `_unit_separator` are status texts
on which the narrower `Views.CC.pyInt` would answer differently. Helper lemmas:
Lemmas/PyFnsEq_Response.lean.
-/
import WzVerif.Gen.PyFns_Response
import WzVerif.Lemmas.PyFnsEq_Response
namespace Wz.Props.C05T
open Wz Wz.Pre Wz.Gen.PyFns_Response Wz.PyFnsEq.Response

/-- `Response.get_app_iter(environ)`, as translated from the current source of
`werkzeug/wrappers/response.py` (the test `REQUEST_METHOD == "HEAD" or 100 <= status < 200 or status in
(204, 304)`, then `direct_passthrough`), chooses the iterable exactly as the model's `bodyless` and the
branch order of `Resp.getAppIter` say: code 0 (`ClosingIterator((), self.close)` - no body) for a HEAD
request and for a 1xx / 204 / 304 response, otherwise code 1 (`self.response` itself) under
`direct_passthrough`, otherwise code 2 (`ClosingIterator(self.iter_encoded(), self.close)`); for every
method text, every status code (any int) and both values of `direct_passthrough`. -/
theorem get_app_iter_eq (method : List Char) (status : Int) (dp : Bool) :
    get_app_iter method status dp ()
      = if Resp.bodyless status method then 0 else if dp then 1 else 2 := by
  unfold get_app_iter Resp.bodyless
  have e : "HEAD".toList = ['H', 'E', 'A', 'D'] := rfl
  simp only [e, Bool.or_assoc, id_eq]

/-- `Response._clean_status(value)` for an `int` (or `HTTPStatus`), as translated from the current
source of `werkzeug/sansio/response.py` (`int(value)`, `HTTP_STATUS_CODES[status_code].upper()` with
`except KeyError` giving `UNKNOWN`), never raises and returns exactly the model's
`cleanStatus (.code i)` - the line `"<code> <PHRASE>"` with the phrase of the regenerated status table,
`"<code> UNKNOWN"` for a code the table lacks (negative ones included), and the code - for every int. -/
theorem clean_status_int_eq (i : Int) :
    clean_status_int phraseOf i = Resp.cleanStatus (.code i) :=
  PyFnsEq.Response.clean_status_int_eq i

/-- `Response._clean_status(value)` for a `str`, as translated from the current source (`strip`, the
empty test with its ValueError, `partition(" ")`, `int(code_str)` with `except ValueError` giving
`("0 " + value, 0)`, `if sep`, the `HTTP_STATUS_CODES` lookup with `except KeyError`), equals the
model's `cleanStatus (.text s)` **for every text**: same ValueError for a blank value, same
`(status line, code)` otherwise. (`int()` is C06's hand model `Http.pyInt` on both sides.) -/
theorem clean_status_str_eq (s : Str) :
    clean_status_str phraseOf s = Resp.cleanStatus (.text s) := by
  unfold clean_status_str Resp.cleanStatus
  simp only [Pre.strip, Views.strip, Pre.partition_singleton, partitionCh_eq, intOfStr]
  by_cases he : (Py.strip s).isEmpty = true
  · simp [he]
  · simp only [he, Bool.false_eq_true, if_false]
    cases Http.pyInt ((Py.strip s).takeWhile (· != ' ')) with
    | error e => rfl
    | ok i =>
      have hi := clean_status_int_eq i
      unfold clean_status_int Resp.cleanStatus at hi
      simp only [id] at hi
      cases hc : (Py.strip s).contains ' ' with
      | true => simp
      | false => simp only []; exact hi

/-- `int()`'s underscore grammar: `("200 OK", 200)` -/
theorem clean_status_str_underscore :
    clean_status_str phraseOf "2_00".toList = .ok ("200 OK".toList, 200) ∧
    Resp.cleanStatus (.text "2_00".toList) = .ok ("200 OK".toList, 200) := by decide

/-- `int()`'s white-space stripping: `("200\t OK", 200)` -/
theorem clean_status_str_tab :
    clean_status_str phraseOf "200\t OK".toList = .ok ("200\t OK".toList, 200) ∧
    Resp.cleanStatus (.text "200\t OK".toList) = .ok ("200\t OK".toList, 200) := by decide

/-- U+001F is white space for `str.strip()` but not for `int()`: `("0 200\x1f X", 0)` -/
theorem clean_status_str_unit_separator :
    clean_status_str phraseOf "200\x1f X".toList = .ok ("0 200\x1f X".toList, 0) ∧
    Resp.cleanStatus (.text "200\x1f X".toList) = .ok ("0 200\x1f X".toList, 0) := by decide

/-- The code of the translated `get_app_iter` against the model's `Resp.getAppIter` (chunks the server
receives, close actions of the iterable): the code is 0, 1 or 2; with code 0 the server gets no chunk
and closing runs `Response.close`; with code 1 or 2 it gets the encoded body items; with code 2
closing runs `Response.close`; with code 1 (the bare `self.response`) closing runs only the wrapped
iterable's own `close` - `Response.close` minus the `call_on_close` callbacks. -/
theorem get_app_iter_model (r : Resp.R) (method : Str) :
    let code := get_app_iter method r.status r.directPassthrough ()
    (code = 0 ∨ code = 1 ∨ code = 2) ∧
    (code = 0 → Resp.getAppIter r method = ⟨[], Resp.respClose r⟩) ∧
    (code ≠ 0 → (Resp.getAppIter r method).chunks = r.body.items.map Resp.Item.encode) ∧
    (code = 1 → Resp.respClose r = (Resp.getAppIter r method).closeActs ++ r.onClose) ∧
    (code = 2 → (Resp.getAppIter r method).closeActs = Resp.respClose r) := by
  simp only [get_app_iter_eq]
  unfold Resp.getAppIter Resp.respClose
  cases Resp.bodyless r.status method <;> cases r.directPassthrough <;> simp

end Wz.Props.C05T
