/-
`sansio.utils.get_host` and `get_current_url` on URL text (C15). `get_host` drops exactly the scheme's default port
(`dropDefaultPort`, `getHost_hostport`). For an input inside the property's domain (`CurInput`), what `get_current_url`
assembles - `scheme://host` + the path text `curPathText root path` + `?` + the quoted query - is the unsplit of a tuple
of the grammar, so `uri_to_iri` of it is one pass (`plain_text`): the URL produced is the unsplit of `curSplit`, and it
is of the grammar, so it splits back into `curSplit` (`getCurrentUrl_tuple`); what it quotes decodes back exactly.
-/
import WzVerif.Lemmas.UrlText
import WzVerif.Lemmas.UrlRoundtrip
import WzVerif.Lemmas.UrlStrip
import WzVerif.Model.UrlHostServer
namespace Wz.Url
open Wz

theorem cur_no_pct : isSafe Gen.UrlTables.curRootSafe 0x25 = false ∧
    isSafe Gen.UrlTables.curPathSafe 0x25 = false := by decide

theorem curSafe_chars : (∀ c ∈ Gen.UrlTables.curRootSafe, pathChar c = true) ∧
    (∀ c ∈ Gen.UrlTables.curPathSafe, pathChar c = true) ∧ (∀ c ∈ Gen.UrlTables.curQuerySafe, queryChar c = true) := by
  unfold Gen.UrlTables.curRootSafe Gen.UrlTables.curPathSafe Gen.UrlTables.curQuerySafe
  rw [String.toList_ofList, String.toList_ofList]
  decide +kernel

theorem cur_query_chars (B : Bytes) : ∀ c ∈ quoteBytes Gen.UrlTables.curQuerySafe B, queryChar c = true :=
  quote_writes (by decide) (fun _ h => pathChar_query (plainChar_path h)) curSafe_chars.2.2 B

/-- the path text `get_current_url` assembles -/
def curPathText (root path : Str) : Str :=
  quote Gen.UrlTables.curRootSafe (rstripSlash root) ++ '/' :: quote Gen.UrlTables.curPathSafe (lstripSlash path)

/-- the path text spells `root_path.rstrip("/") + "/" + path.lstrip("/")`: neither safe set has `%` -/
theorem Spells.of_curPathText (root path : Str) :
    Spells [] (curPathText root path) (utf8Enc (rstripSlash root ++ '/' :: lstripSlash path)) := by
  have := ((Spells.of_quote_text (s := rstripSlash root) fun _ => cur_no_pct.1).append
    (Spells.lit (keep := []) (c := '/') (by decide))).append (Spells.of_quote_text (s := lstripSlash path) fun _ => cur_no_pct.2)
  simpa [curPathText, utf8Enc, Utf8Facts.utf8EncodeChar_ascii '/' (by decide)] using this

theorem curPathText_chars (root path : Str) : ∀ c ∈ curPathText root path, pathChar c = true := by
  unfold curPathText
  simp only [List.mem_append, List.mem_cons, or_imp, forall_and, forall_eq]
  exact ⟨quote_writes (by decide) (fun _ => plainChar_path) curSafe_chars.1 _, by decide,
    quote_writes (by decide) (fun _ => plainChar_path) curSafe_chars.2.1 _⟩

theorem curPathText_wf (root path : Str) : wellFormed (curPathText root path) = true :=
  (Spells.of_curPathText root path).wfk_eq

theorem curPathText_head (root path : Str) (hroot : root = [] ∨ root.head? = some '/') :
    (curPathText root path).head? = some '/' := by
  unfold curPathText
  cases hr : rstripSlash root with
  | nil => rfl
  | cons x xs =>
    have hx : x = '/' := by simpa [hr] using rstripSlash_form hroot
    rw [hx, quote_cons_fixed ⟨by decide, by decide⟩]
    rfl

theorem endsWith_split {s suf : Str} (h : endsWith s suf = true) :
    s = s.take (s.length - suf.length) ++ suf := by
  unfold endsWith at h
  obtain ⟨t, ht⟩ := List.isPrefixOf_iff_prefix.mp h
  have hs : s = t.reverse ++ suf := by
    have := congrArg List.reverse ht
    simpa using this.symm
  have hl : s.length - suf.length = t.reverse.length := by rw [hs]; simp
  rw [hl]
  conv => lhs; rw [hs]
  rw [hs, List.take_left']
  simp

theorem endsWith_append (h suf : Str) : endsWith (h ++ suf) suf = true := by
  unfold endsWith
  simp [List.isPrefixOf_iff_prefix]

theorem getHost_suffix (scheme host : Str) :
    ∃ suf, host = getHost scheme host ++ suf ∧
      (suf = [] ∨ ((scheme = "http".toList ∨ scheme = "ws".toList) ∧ suf = ":80".toList) ∨
        ((scheme = "https".toList ∨ scheme = "wss".toList) ∧ suf = ":443".toList)) := by
  unfold getHost
  split
  · rename_i hc
    simp only [Bool.and_eq_true, Bool.or_eq_true, beq_iff_eq] at hc
    exact ⟨":80".toList, by have := endsWith_split hc.2; simpa using this, Or.inr (Or.inl ⟨hc.1, rfl⟩)⟩
  · split
    · rename_i hc
      simp only [Bool.and_eq_true, Bool.or_eq_true, beq_iff_eq] at hc
      exact ⟨":443".toList, by have := endsWith_split hc.2; simpa using this, Or.inr (Or.inr ⟨hc.1, rfl⟩)⟩
    · exact ⟨[], by simp, Or.inl rfl⟩

theorem getHost_80 {scheme : Str} (hs : scheme = "http".toList ∨ scheme = "ws".toList) (h : Str) :
    getHost scheme (h ++ ":80".toList) = h := by
  unfold getHost
  have hc : ((scheme == "http".toList || scheme == "ws".toList) && endsWith (h ++ ":80".toList) ":80".toList) = true := by
    simp only [Bool.and_eq_true, Bool.or_eq_true, beq_iff_eq]
    exact ⟨hs, endsWith_append _ _⟩
  rw [if_pos hc]
  simp

theorem getHost_443 {scheme : Str} (hs : scheme = "https".toList ∨ scheme = "wss".toList) (h : Str) :
    getHost scheme (h ++ ":443".toList) = h := by
  unfold getHost
  have hn : ¬ (((scheme == "http".toList || scheme == "ws".toList) && endsWith (h ++ ":443".toList) ":80".toList) = true) := by
    simp only [Bool.and_eq_true, Bool.or_eq_true, beq_iff_eq, not_and]
    intro h1
    rcases hs with rfl | rfl <;> rcases h1 with h1 | h1 <;> exact absurd h1 (by decide)
  have hc : ((scheme == "https".toList || scheme == "wss".toList) && endsWith (h ++ ":443".toList) ":443".toList) = true := by
    simp only [Bool.and_eq_true, Bool.or_eq_true, beq_iff_eq]
    exact ⟨hs, endsWith_append _ _⟩
  rw [if_neg hn, if_pos hc]
  simp

/-- the port `get_host` leaves in the host text -/
def dropDefaultPort (scheme : Str) (port : Option Nat) : Option Nat :=
  if (scheme = "http".toList ∨ scheme = "ws".toList) ∧ port = some 80 then none
  else if (scheme = "https".toList ∨ scheme = "wss".toList) ∧ port = some 443 then none
  else port

theorem digits_inj {a b : Nat} (h : (toString a).toList = (toString b).toList) : a = b := by
  have h1 := (digits_spec a).2.2
  have h2 := (digits_spec b).2.2
  rw [h] at h1
  exact h1.symm.trans h2

theorem endsWith_hostport (ha : Str) (port : Option Nat) (k : Nat)
    (h : endsWith (hostBr ha ++ portText port) (':' :: (toString k).toList) = true) :
    port = some k := by
  obtain ⟨dne, ddig, _⟩ := digits_spec k
  have hcolon : ':' ∉ (toString k).toList := fun hm => (digit_facts (ddig _ hm)).2.1 rfl
  -- without a port text the host would have to end with `:<k>`
  have nohost : endsWith (hostBr ha) (':' :: (toString k).toList) = true → False := by
    intro h0
    unfold endsWith at h0
    obtain ⟨w, hw⟩ := List.isPrefixOf_iff_prefix.mp h0
    by_cases hc : ':' ∈ ha
    · -- bracketed: the last character is `]`, not a digit
      rw [hostBr_of_colon hc, List.reverse_append, List.reverse_singleton, List.singleton_append] at hw
      cases hd : (toString k).toList.reverse with
      | nil => exact dne (by simp at hd)
      | cons d ds =>
        simp only [List.reverse_cons, hd, List.cons_append, List.cons.injEq] at hw
        have hdm : d ∈ (toString k).toList := by
          have : d ∈ (toString k).toList.reverse := by rw [hd]; simp
          simpa using this
        exact ne_of_class (digit_facts (ddig d hdm)).1 (by decide) hw.1
    · rw [hostBr_of_no_colon hc] at hw
      apply hc
      have : ':' ∈ ha.reverse := by rw [← hw]; simp
      simpa using this
  cases port with
  | none => exact (nohost (by simpa [portText] using h)).elim
  | some j =>
    by_cases hj : j = 0
    · subst hj; exact (nohost (by simpa [portText] using h)).elim
    · rw [portText_pos hj] at h
      have hs := endsWith_split h
      have hcj : ':' ∉ (toString j).toList := fun hm => (digit_facts ((digits_spec j).2.1 _ hm)).2.1 rfl
      have r1 := rpartitionChar_append (hostBr ha) _ hcj
      rw [hs, rpartitionChar_append _ _ hcolon] at r1
      simp only [Prod.mk.injEq, Option.some.injEq] at r1
      rw [digits_inj r1.2]

theorem getHost_hostport (ha scheme : Str) (port : Option Nat) :
    getHost scheme (hostBr ha ++ portText port) = hostBr ha ++ portText (dropDefaultPort scheme port) := by
  have e80 : (":80".toList : Str) = ':' :: (toString 80).toList := by decide
  have e443 : (":443".toList : Str) = ':' :: (toString 443).toList := by decide
  have p80 : portText (some 80) = ":80".toList := by decide
  have p443 : portText (some 443) = ":443".toList := by decide
  by_cases h1 : (scheme = "http".toList ∨ scheme = "ws".toList) ∧ port = some 80
  · rw [dropDefaultPort, if_pos h1, h1.2, p80, getHost_80 h1.1]
    simp [portText]
  · by_cases h2 : (scheme = "https".toList ∨ scheme = "wss".toList) ∧ port = some 443
    · rw [dropDefaultPort, if_neg h1, if_pos h2, h2.2, p443, getHost_443 h2.1]
      simp [portText]
    · rw [dropDefaultPort, if_neg h1, if_neg h2]
      unfold getHost
      have c1 : ((scheme == "http".toList || scheme == "ws".toList) &&
          endsWith (hostBr ha ++ portText port) ":80".toList) = false := by
        apply Bool.eq_false_iff.mpr
        intro hc
        simp only [Bool.and_eq_true, Bool.or_eq_true, beq_iff_eq] at hc
        rw [e80] at hc
        exact h1 ⟨hc.1, endsWith_hostport ha port 80 hc.2⟩
      have c2 : ((scheme == "https".toList || scheme == "wss".toList) &&
          endsWith (hostBr ha ++ portText port) ":443".toList) = false := by
        apply Bool.eq_false_iff.mpr
        intro hc
        simp only [Bool.and_eq_true, Bool.or_eq_true, beq_iff_eq] at hc
        rw [e443] at hc
        exact h2 ⟨hc.1, endsWith_hostport ha port 443 hc.2⟩
      simp only [c1, c2, Bool.false_eq_true, if_false]

/-- without a Host header `get_host` starts from the server address, written as a Host header would write it -/
theorem hostOrServer_server {name : Str} (k : Nat) (hn : name.head? ≠ some '[') :
    hostOrServer none (some (name, some (k + 1))) = hostBr name ++ portText (some (k + 1)) := by
  simp only [hostOrServer, show (name.head? != some '[') = true by simpa using hn, Bool.and_true, hostBr, portText]

theorem dropDefaultPort_cases (scheme : Str) (port : Option Nat) :
    dropDefaultPort scheme port = none ∨ dropDefaultPort scheme port = port := by
  unfold dropDefaultPort
  split
  · exact Or.inl rfl
  · split
    · exact Or.inl rfl
    · exact Or.inr rfl

theorem dropDefaultPort_idem (scheme : Str) (port : Option Nat) :
    dropDefaultPort scheme (dropDefaultPort scheme port) = dropDefaultPort scheme port := by
  rcases dropDefaultPort_cases scheme port with h | h
  · rw [h]; simp [dropDefaultPort]
  · rw [h, h]

/-- what `get_current_url` is given, inside the property's domain: a valid lower-case scheme, a host in URI form without
userinfo (`hostBr ha ++ portText port`, what `get_host` yields: host characters, port in range, an accepted IPv6
literal), a root path that is empty or starts with `/`, and query bytes whose quoting is in the `%XX` grammar -/
structure CurInput (o : UrlOpaque) (scheme ha : Str) (port : Option Nat) (root : Str) (q : Bytes) : Prop where
  scheme : validScheme scheme = true ∧ scheme.map asciiLower = scheme ∧ noTab scheme
  host_ne : ha ≠ []
  host_chars : ∀ c ∈ ha, hostChar c = true
  port : ∀ k, port = some k → k ≤ 65535
  bracket : ha.contains ':' = true → o.bracketOk ha = true
  root_form : root = [] ∨ root.head? = some '/'
  query_wf : wellFormed (quoteBytes Gen.UrlTables.curQuerySafe q) = true

theorem CurInput.authority {o : UrlOpaque} {scheme ha root : Str} {port : Option Nat} {q : Bytes}
    (ci : CurInput o scheme ha port root q) : Authority o scheme ha port :=
  ⟨ci.scheme, ci.host_ne, ci.host_chars, ci.port, ci.bracket⟩

theorem CurInput.no_query {o : UrlOpaque} {scheme ha root : Str} {port : Option Nat} {q : Bytes}
    (ci : CurInput o scheme ha port root q) : CurInput o scheme ha port root [] :=
  ⟨ci.scheme, ci.host_ne, ci.host_chars, ci.port, ci.bracket, ci.root_form, rfl⟩

theorem CurInput.no_root {o : UrlOpaque} {scheme ha root : Str} {port : Option Nat} {q : Bytes}
    (ci : CurInput o scheme ha port root q) : CurInput o scheme ha port [] q :=
  ⟨ci.scheme, ci.host_ne, ci.host_chars, ci.port, ci.bracket, Or.inl rfl, ci.query_wf⟩

/-- the 5-tuple of the URL `get_current_url` produces: the scheme, the decoded host with the same port, the
partially unquoted path text and query text -/
def curSplit (scheme hu : Str) (port : Option Nat) (root path : Str) (q : Bytes) : Split :=
  { scheme := scheme, netloc := hostBr hu ++ portText port,
    path := unquotePartial Gen.UrlTables.keepPath (curPathText root path),
    query := unquotePartial Gen.UrlTables.keepQuery (quoteBytes Gen.UrlTables.curQuerySafe q),
    fragment := [] }

/-- **`get_current_url`, structurally.** For a valid scheme, a host in URI form without userinfo
(`hostBr ha ++ portText port`: what `get_host` yields), any root path, any path and any query bytes
whose quoting is in the `%XX` grammar: the URL is produced, and it is the unsplit of a 5-tuple of the
grammar, `curSplit`. -/
theorem getCurrentUrl_tuple {o : UrlOpaque} (laws : HostLaws o)
    {scheme ha hu root path : Str} {port : Option Nat} {q : Bytes}
    (ci : CurInput o scheme ha port root q) (hconv : o.hostToUnicode ha = some hu) :
    GoodSplit o (curSplit scheme hu port root path q) ∧
      getCurrentUrl o scheme (hostBr ha ++ portText port) root path q
        = .ok (urlunsplit (curSplit scheme hu port root path q)) := by
  have hform : curPathText root path = [] ∨ (curPathText root path).head? = some '/' :=
    Or.inr (curPathText_head root path ci.root_form)
  have hpath := curPathText_chars root path
  have hquery := cur_query_chars q
  -- the text get_current_url assembles is the unsplit of a tuple
  have htext : scheme ++ "://".toList ++ (hostBr ha ++ portText port)
      ++ quote Gen.UrlTables.curRootSafe (rstripSlash root) ++ ['/']
      ++ quote Gen.UrlTables.curPathSafe (lstripSlash path)
      ++ (if q.isEmpty then [] else '?' :: quoteBytes Gen.UrlTables.curQuerySafe q)
      = urlunsplit ⟨scheme, hostBr ha ++ portText port, curPathText root path,
          quoteBytes Gen.UrlTables.curQuerySafe q, []⟩ := by
    rw [urlunsplit_good (plain_url laws.nfkc ci.authority hform hpath hquery).1]
    simp only [tailOf, curPathText, quoteBytes_isEmpty, List.isEmpty_nil, if_true, List.append_nil]
    by_cases hqe : q.isEmpty = true <;> simp [hqe, List.append_assoc]
  have g1 := (uri_pass laws
    (plainParts_base ci.scheme (laws.u_chars _ _ hconv) ci.port hform)
    ⟨fun u hu' => by simp [plainParts, truthy] at hu', fun u hu' => by simp [plainParts, truthy] at hu',
      ⟨curPathText_wf root path, hpath⟩, ⟨ci.query_wf, hquery⟩, ⟨rfl, fun c hc => by cases hc⟩⟩
    (laws.bracket_u _ _ hconv)).good
  rw [apply_plainParts] at g1
  refine ⟨g1, ?_⟩
  unfold getCurrentUrl
  simp only
  rw [htext, uriToIriText_eq, plain_text laws.nfkc ci.authority hform hpath hquery hconv, apply_plainParts]
  rfl

end Wz.Url
