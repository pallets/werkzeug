/-
`_unquote_partial` (C15): the scanner as a function on tokens (`upSpec`), well-formed text cut at its kept escapes
(`unquotePartial_plain`, `unquotePartial_cut`, `cut_induction`), and from these, on each component: `uri_to_iri` is a
fixpoint after one step and keeps what the text stands for, IRI → URI → IRI is stable after one round, no raw
character of the keep set is introduced (`kept_mem_unquotePartial`, `unquotePartial_all`), a non-empty text is never
emptied, and the scanner can be cut at a literal character with an ASCII value (a leading `/` stays).
-/
import WzVerif.Lemmas.UrlSpells
namespace Wz.Url
open Wz

/-- token-level reading of the `_unquote_partial` scanner -/
def upSpec (keep : List Bool) : Str → Str → Str
  | [], seg => unquote seg.reverse
  | c :: x :: y :: t, seg =>
    if c = '%' then
      match hexVal? x, hexVal? y with
      | some hi, some lo =>
        if tbl keep (16 * hi + lo) then unquote seg.reverse ++ c :: x :: y :: upSpec keep t []
        else upSpec keep t (y :: x :: c :: seg)
      | _, _ => upSpec keep (x :: y :: t) (c :: seg)
    else upSpec keep (x :: y :: t) (c :: seg)
  | c :: t, seg => upSpec keep t (c :: seg)

theorem keptEscape_false_of_ne {keep : List Bool} {c : Char} (h : c ≠ '%') (t : Str) :
    keptEscape keep (c :: t) = false := by
  match t with
  | [] => simp [keptEscape]
  | [_] => simp [keptEscape]
  | x :: y :: t => simp [keptEscape, h]

theorem unquotePartialAux_eq (keep : List Bool) (s seg : Str) : ∀ fuel, s.length < fuel →
    unquotePartialAux keep fuel s seg = upSpec keep s seg := by
  fun_induction upSpec keep s seg <;> intro fuel hf <;> (obtain ⟨f, rfl⟩ : ∃ f, fuel = f + 1 := ⟨fuel - 1, by omega⟩)
  all_goals try (simp_all [unquotePartialAux, keptEscape]; done)
  · rename_i x y t seg hi lo hy hx hk ih
    simp only [List.length_cons] at hf
    simp [unquotePartialAux, keptEscape, hx, hy, hk, ih f (by omega)]
  · rename_i x y t seg hi lo hy hx hk ih
    simp only [List.length_cons] at hf
    obtain ⟨g, rfl⟩ : ∃ g, f = g + 2 := ⟨f - 2, by omega⟩
    -- three steps of the scanner: `%`, then the two hex digits, none of which starts a kept escape
    have k0 : keptEscape keep ('%' :: x :: y :: t) = false := by simp [keptEscape, hx, hy, hk]
    simp only [unquotePartialAux, k0, keptEscape_false_of_ne (hexVal_ne_pct hx),
      keptEscape_false_of_ne (hexVal_ne_pct hy), Bool.false_eq_true, if_false]
    exact ih g (by omega)

theorem unquotePartial_eq (keep : List Bool) (s : Str) : unquotePartial keep s = upSpec keep s [] :=
  unquotePartialAux_eq keep s [] _ (Nat.lt_succ_self _)

theorem upSpec_cons_ne {keep : List Bool} {c : Char} (h : c ≠ '%') (Y seg : Str) :
    upSpec keep (c :: Y) seg = upSpec keep Y (c :: seg) := by
  match Y with
  | [] => simp [upSpec]
  | [_] => simp [upSpec]
  | x :: y :: t => simp [upSpec, h]

theorem upSpec_esc {keep : List Bool} {x y : Char} {hi lo : Nat} (hx : hexVal? x = some hi)
    (hy : hexVal? y = some lo) (t seg : Str) :
    upSpec keep ('%' :: x :: y :: t) seg =
      if tbl keep (16 * hi + lo) then unquote seg.reverse ++ '%' :: x :: y :: upSpec keep t []
      else upSpec keep t (y :: x :: '%' :: seg) := by
  simp [upSpec, hx, hy]

theorem upSpec_append {keep : List Bool} (X rest : Str) (h : wfk keep X = true) :
    ∀ seg, upSpec keep (X ++ rest) seg = upSpec keep rest (X.reverse ++ seg) := by
  refine wfk_induction (P := fun X => ∀ seg, upSpec keep (X ++ rest) seg = upSpec keep rest (X.reverse ++ seg))
    (fun _ => rfl) (fun c Z hc _ ih seg => ?_) (fun x y hi lo t hx hy hk _ ih seg => ?_) X h
  · rw [List.cons_append, upSpec_cons_ne hc, ih]; simp
  · simp only [List.cons_append]
    rw [upSpec_esc hx hy, hk, if_neg (by simp), ih]; simp

/-! ### `_unquote_partial` without its accumulator

Well-formed text is text without kept escapes, cut at its kept escapes. On the first kind the scanner is
`unquote`; at a kept escape it flushes, copies the escape and starts again. Every fact about
`_unquote_partial` on well-formed text is an induction over the cuts (`cut_induction`) with these two
equations. -/

theorem unquotePartial_plain {keep : List Bool} {X : Str} (h : wfk keep X = true) :
    unquotePartial keep X = unquote X := by
  have := upSpec_append X [] h []
  rw [List.append_nil, List.append_nil] at this
  rw [unquotePartial_eq, this, upSpec, List.reverse_reverse]

theorem unquotePartial_cut {keep : List Bool} {X : Str} (h : wfk keep X = true) {x y : Char} {hi lo : Nat}
    (hx : hexVal? x = some hi) (hy : hexVal? y = some lo) (hk : tbl keep (16 * hi + lo) = true) (t : Str) :
    unquotePartial keep (X ++ '%' :: x :: y :: t) = unquote X ++ '%' :: x :: y :: unquotePartial keep t := by
  rw [unquotePartial_eq, unquotePartial_eq, upSpec_append X _ h, upSpec_esc hx hy, hk, if_pos rfl,
    List.append_nil, List.reverse_reverse]

theorem Spells.unquotePartial_eq_dec {keep : List Bool} {u : Str} {B : Bytes} (h : Spells keep u B) :
    unquotePartial keep u = dec B := by
  rw [unquotePartial_plain h.wfk_eq, h.unquote_eq_dec]

theorem wellFormed_cut (keep : List Bool) (s : Str) (hs : wellFormed s = true) :
    wfk keep s = true ∨ ∃ X x y hi lo t, s = X ++ '%' :: x :: y :: t ∧ wfk keep X = true ∧
      hexVal? x = some hi ∧ hexVal? y = some lo ∧ tbl keep (16 * hi + lo) = true ∧ wellFormed t = true := by
  refine wfk_induction (P := fun s => wfk keep s = true ∨ ∃ X x y hi lo t, s = X ++ '%' :: x :: y :: t ∧
      wfk keep X = true ∧ hexVal? x = some hi ∧ hexVal? y = some lo ∧ tbl keep (16 * hi + lo) = true ∧
      wellFormed t = true) (Or.inl rfl) (fun c Y hc _ ih => ?_) (fun x y hi lo t hx hy _ ht ih => ?_) s hs
  · rcases ih with h | ⟨X, x, y, hi, lo, t, rfl, hX, h⟩
    · exact Or.inl (by rw [wfk_cons_ne hc]; exact h)
    · exact Or.inr ⟨c :: X, x, y, hi, lo, t, rfl, by rw [wfk_cons_ne hc]; exact hX, h⟩
  · by_cases hk : tbl keep (16 * hi + lo) = true
    · exact Or.inr ⟨[], x, y, hi, lo, t, rfl, rfl, hx, hy, hk, ht⟩
    · rcases ih with h | ⟨X, x', y', hi', lo', t', rfl, hX, h⟩
      · exact Or.inl (by rw [wfk_esc hx hy, h]; simpa using hk)
      · exact Or.inr ⟨'%' :: x :: y :: X, x', y', hi', lo', t', rfl,
          by rw [wfk_esc hx hy, hX]; simpa using hk, h⟩

theorem cut_induction {keep : List Bool} {P : Str → Prop} (plain : ∀ X, wfk keep X = true → P X)
    (cut : ∀ X x y hi lo t, wfk keep X = true → hexVal? x = some hi → hexVal? y = some lo →
      tbl keep (16 * hi + lo) = true → wellFormed t = true → P t → P (X ++ '%' :: x :: y :: t))
    (s : Str) (hs : wellFormed s = true) : P s := by
  have : ∀ n (s : Str), s.length ≤ n → wellFormed s = true → P s := by
    intro n
    induction n with
    | zero =>
      intro s hl _
      have : s = [] := List.eq_nil_of_length_eq_zero (by omega)
      subst this
      exact plain [] rfl
    | succ n ih =>
      intro s hl hs
      rcases wellFormed_cut keep s hs with h | ⟨X, x, y, hi, lo, t, rfl, hX, hx, hy, hk, ht⟩
      · exact plain s h
      · exact cut X x y hi lo t hX hx hy hk ht (ih t (by simp at hl; omega) ht)
  exact this s.length s (Nat.le_refl _) hs

/-- **`_unquote_partial` is a fixpoint after one step** on text whose every `%` starts a two-hex-digit
escape, for every keep table that keeps `%` and no byte ≥ 0x80. -/
theorem unquotePartial_fix {keep : List Bool} (hk : KeepOK keep) (s : Str) (hs : wellFormed s = true) :
    unquotePartial keep (unquotePartial keep s) = unquotePartial keep s :=
  cut_induction (P := fun s => unquotePartial keep (unquotePartial keep s) = unquotePartial keep s)
    (fun X hX => by
      rw [unquotePartial_plain hX, unquotePartial_plain (wfk_unquote hk X hX), unquote_idem hk X hX])
    (fun X x y hi lo t hX hx hy hkept _ ih => by
      rw [unquotePartial_cut hX hx hy hkept, unquotePartial_cut (wfk_unquote hk X hX) hx hy hkept,
        unquote_idem hk X hX, ih]) s hs

/-- **partial unquoting keeps what the text stands for** -/
theorem den_unquotePartial {keep : List Bool} (hk : KeepOK keep) (u : Str) (hu : wellFormed u = true) :
    den (unquotePartial keep u) = den u := by
  refine cut_induction (keep := keep) (P := fun u => den (unquotePartial keep u) = den u)
    (fun X hX => ?_) (fun X x y hi lo t hX hx hy hkept _ ih => ?_) u hu
  · rw [(Spells.of_wfk X hX).unquotePartial_eq_dec, (Spells.of_dec hk.2 (den_no_pct hk.1 hX)).den_eq]
  · have hK : ∀ Z, den ('%' :: x :: y :: Z) = UInt8.ofNat (16 * hi + lo) :: den Z :=
      (Spells.esc (keep := []) hx hy rfl).den_append
    rw [unquotePartial_cut hX hx hy hkept, (Spells.of_wfk X hX).unquote_eq_dec,
      (Spells.of_dec hk.2 (den_no_pct hk.1 hX)).den_append, hK, ih, (Spells.of_wfk X hX).den_append, hK]

/-- **Full unquoting absorbs partial unquoting**: for text of the `%XX` grammar, what
`_unquote_partial` leaves quoted still denotes the same characters. -/
theorem unquote_unquotePartial {keep : List Bool} (hk : KeepOK keep) (u : Str) (hu : wellFormed u = true) :
    unquote (unquotePartial keep u) = unquote u := by
  rw [unquote_eq, den_unquotePartial hk u hu, ← unquote_eq]

theorem wellFormed_unquotePartial {keep : List Bool} (hk : KeepOK keep) (s : Str) (hs : wellFormed s = true) :
    wellFormed (unquotePartial keep s) = true := by
  refine cut_induction (keep := keep) (P := fun s => wfk [] (unquotePartial keep s) = true)
    (fun X hX => ?_) (fun X x y hi lo t hX hx hy _ _ ih => ?_) s hs
  · rw [unquotePartial_plain hX]; exact wfk_mono _ (wfk_unquote hk X hX)
  · rw [unquotePartial_cut hX hx hy (by assumption), wfk_append _ _ (wfk_mono _ (wfk_unquote hk X hX)),
      wfk_esc hx hy, ih]
    rfl

/-- **`_unquote_partial` never introduces a raw character of its keep set** (other than by copying
it): delimiters that were quoted stay quoted. -/
theorem kept_mem_unquotePartial {keep : List Bool} {d : Char} (hd : KeptChar keep d)
    {s : Str} (hs : wellFormed s = true) (h : d ∈ unquotePartial keep s) : d ∈ s := by
  refine cut_induction (keep := keep) (P := fun s => d ∈ unquotePartial keep s → d ∈ s)
    (fun X hX h => ?_) (fun X x y hi lo t hX hx hy hkept _ ih h => ?_) s hs h
  · rw [unquotePartial_plain hX] at h
    exact kept_mem_unquote hd X hX h
  · rw [unquotePartial_cut hX hx hy hkept] at h
    rcases List.mem_append.mp h with h | h
    · exact List.mem_append_left _ (kept_mem_unquote hd X hX h)
    · apply List.mem_append_right
      simp only [List.mem_cons] at h ⊢
      rcases h with e | e | e | h
      · exact Or.inl e
      · exact Or.inr (Or.inl e)
      · exact Or.inr (Or.inr (Or.inl e))
      · exact Or.inr (Or.inr (Or.inr (ih h)))

theorem unquotePartial_all {keep : List Bool} {P : Char → Prop} (hk : ∀ c, ¬ P c → KeptChar keep c)
    {s : Str} (hw : wellFormed s = true) (hs : ∀ c ∈ s, P c) : ∀ c ∈ unquotePartial keep s, P c :=
  fun c hc => Classical.byContradiction fun hn => hn (hs c (kept_mem_unquotePartial (hk c hn) hw hc))

theorem upSpec_ne {keep : List Bool} (s seg : Str) (h : s ≠ [] ∨ seg ≠ []) : upSpec keep s seg ≠ [] := by
  -- every branch of the scanner ends in `unquote` of a non-empty accumulator or writes a kept escape
  fun_induction upSpec keep s seg <;> simp_all [unquote_ne]

theorem unquotePartial_ne {keep : List Bool} {s : Str} (h : s ≠ []) : unquotePartial keep s ≠ [] := by
  rw [unquotePartial_eq]
  exact upSpec_ne s [] (Or.inl h)

theorem unquotePartial_isEmpty (keep : List Bool) (s : Str) :
    (unquotePartial keep s).isEmpty = s.isEmpty := by
  cases s with
  | nil => rfl
  | cons c t =>
    have := unquotePartial_ne (keep := keep) (s := c :: t) (by simp)
    cases h : unquotePartial keep (c :: t) with
    | nil => exact absurd h this
    | cons _ _ => rfl

/-- text at the bottom of the accumulator that `unquote` splits off can be flushed at once -/
theorem upSpec_flush {keep : List Bool} {W S : Str} (h : ∀ Z, unquote (W ++ Z) = S ++ unquote Z) (B T : Str) :
    upSpec keep B (T ++ W.reverse) = S ++ upSpec keep B T := by
  -- the scanner either recurses with a longer accumulator (the induction hypothesis, `T` grown) or flushes
  -- `unquote` of the reversed accumulator, which begins with `W`: there `h` applies
  fun_induction upSpec keep B T <;> simp_all [upSpec]

theorem unquotePartial_split_plain (keep : List Bool) {d : Char} (hd : Plain d) {A : Str}
    (hA : wellFormed A = true) (B : Str) :
    unquotePartial keep (A ++ d :: B) = unquotePartial keep A ++ d :: unquotePartial keep B := by
  refine cut_induction (keep := keep)
    (P := fun A => unquotePartial keep (A ++ d :: B) = unquotePartial keep A ++ d :: unquotePartial keep B)
    (fun X hX => ?_) (fun X x y hi lo t hX hx hy hk _ ih => ?_) A hA
  · have hf := upSpec_flush (keep := keep) (W := X ++ [d]) (S := unquote X ++ [d])
      (fun Z => by
        simpa using unquote_split_plain hd Z hX) B []
    rw [unquotePartial_eq, upSpec_append X _ hX, upSpec_cons_ne hd.not_pct, unquotePartial_plain hX,
      unquotePartial_eq]
    simpa using hf
  · rw [List.append_assoc, List.cons_append, List.cons_append, List.cons_append, unquotePartial_cut hX hx hy hk,
      unquotePartial_cut hX hx hy hk, ih]
    simp

theorem unquotePartial_slash (keep : List Bool) (s : Str) :
    unquotePartial keep ('/' :: s) = '/' :: unquotePartial keep s :=
  unquotePartial_split_plain keep (A := []) ⟨by decide, by decide⟩ rfl s

/-- **IRI → URI → IRI is stable after one round**: for a fully quoted component `u` (every character
left alone by `quote(·, safe)`, every `%` starting an escape), with `x = _unquote_partial(u)`:
`_unquote_partial(quote(x, safe)) = x`. -/
theorem unquotePartial_quote_stable {safe : Str} {keep : List Bool} (hp : safe.contains '%' = true)
    (hk : KeepOK keep) (u : Str) (hu : wellFormed u = true) (hf : ∀ c ∈ u, Fixed safe c) :
    unquotePartial keep (quote safe (unquotePartial keep u)) = unquotePartial keep u := by
  refine cut_induction (keep := keep) (P := fun u => (∀ c ∈ u, Fixed safe c) →
      unquotePartial keep (quote safe (unquotePartial keep u)) = unquotePartial keep u)
    (fun X hX hf => ?_) (fun X x y hi lo t hX hx hy hkept _ ih hf => ?_) u hu hf
  · obtain ⟨h1, h2⟩ := requote_segment hp hk hf hX
    rw [unquotePartial_plain hX, unquotePartial_plain h1, h2]
  · obtain ⟨h1, h2⟩ := requote_segment hp hk (fun c hc => hf c (List.mem_append_left _ hc)) hX
    rw [unquotePartial_cut hX hx hy hkept, quote_append,
      quote_esc_fixed (fun c hc => hf c (List.mem_append_right _ (by
        simp only [List.mem_cons, List.mem_nil_iff, or_false] at hc ⊢
        rcases hc with rfl | rfl | rfl <;> simp))),
      unquotePartial_cut h1 hx hy hkept, h2, ih (fun c hc => hf c (by simp [hc]))]

end Wz.Url
