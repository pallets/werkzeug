/-
Lemmas for C18, the invariant: "objects a running call may mutate are private to that call", kept
by every primitive effect of every context under every schedule (through `stepOp_facts` of
Lemmas/Local.lean). The atomic call of `Model/Local.lean` is a frame that runs alone and without
interruption (`path_inv`, `runProg_effect`), so the isolation lemmas of the atomic semantics
(`stepEvent_inv`, `run_inv`) rest on the same invariant.
-/
import WzVerif.Lemmas.Local
import WzVerif.Model.LocalFine
namespace Wz.Local

instance FEvent.decCbw (e : FEvent) : Decidable e.cbw := by cases e <;> unfold FEvent.cbw <;> infer_instance

/-- object `id` belongs to the call context `c` is running on cell `v`, and to nothing else: no
other (context, cell) is bound to it and no other running call holds it in a register -/
structure Private (fw : FWorld) (c v id : Nat) : Prop where
  onlyBound : ∀ c' v', fw.w.ctxs c' v' = some id → c' = c ∧ v' = v
  noOtherReg : ∀ c' f', c' ≠ c → fw.run c' = some f' → ∀ r, f'.rg r ≠ some id

/-- the frame of a call in progress is in order: the rest of its path writes in place only to what the frame owns
at this point (`cbw`), and what it owns is private to it -/
structure FrameOk (fw : FWorld) (c : Nat) (f : Active) : Prop where
  regsLt : ∀ r id, f.rg r = some id → id < fw.w.next
  cbw : cbwPath f.owned f.rest = true
  ownedPriv : ∀ r, r ∈ f.owned → ∃ id, f.rg r = some id ∧ Private fw c f.v id

/-- the one invariant of C18: the world is well-formed and the frame of every call in progress is in order -/
structure FInv (fw : FWorld) : Prop where
  wf : WF fw.w
  frames : ∀ c f, fw.run c = some f → FrameOk fw c f

/-- the frame of a call after the effect `op` left it in `f'` -/
def Active.after (f : Active) (op : Op) (t : Path) (f' : Frame) : Active :=
  { f with rest := t, rg := f'.rg, acc := f'.acc, owned := ownedAfter f.owned op }

theorem fstep_begin {fw : FWorld} {c : Nat} (hc : c < fw.w.nctx) (hidle : fw.run c = none) (v : Nat) (path : Path)
    (a : Args) :
    fstep fw (.begin c v path a) = { fw with
      run := setRun fw.run c (some { v, a, rest := path, rg := fun _ => none, acc := none, owned := [] }) } := by
  simp [fstep, hc, hidle]

theorem fstep_step_idle {fw : FWorld} {c : Nat} (h : fw.run c = none) : fstep fw (.step c) = fw := by
  simp [fstep, h]

theorem fstep_step {fw : FWorld} {c : Nat} {f : Active} (hf : fw.run c = some f) :
    fstep fw (.step c) =
      match f.rest with
      | [] => { fw with run := setRun fw.run c none }
      | op :: t =>
        match stepOp c f.v f.a { w := fw.w, rg := f.rg, acc := f.acc } op with
        | .cont f' => { w := f'.w, run := setRun fw.run c (some (f.after op t f')) }
        | .ret w' _ => { w := w', run := setRun fw.run c none }
        | .skip => { fw with run := setRun fw.run c none } := by
  simp only [fstep, hf]
  rfl

theorem fstep_copyCtx {fw : FWorld} {parent : Nat} (hidle : fw.run parent = none) :
    fstep fw (.copyCtx parent) = { fw with w := stepEvent fw.w (.copyCtx parent) } := by
  simp [fstep, hidle]

/-- a frame stays in order when the world only grows and keeps the frame's private objects private -/
theorem FrameOk.mono {fw fw' : FWorld} {c : Nat} {f : Active} (h : FrameOk fw c f)
    (hx : fw.w.next ≤ fw'.w.next)
    (hp : ∀ id, id < fw.w.next → Private fw c f.v id → Private fw' c f.v id) : FrameOk fw' c f :=
  ⟨fun r id hr => Nat.lt_of_lt_of_le (h.regsLt r id hr) hx, h.cbw,
    fun r hr => (h.ownedPriv r hr).imp fun id hid => ⟨hid.1, hp id (h.regsLt r id hid.1) hid.2⟩⟩

theorem finv_init : FInv FWorld.init :=
  ⟨wf_init, by intro c f h; simp [FWorld.init] at h⟩

/-- The invariant survives one effect of context `c`: the world moves as `StepFacts` says, `c`'s frame
is replaced by one that obeys `FrameFacts` (or dropped), every other frame stays; and no observation
outside (`c`, the call's cell) changes. -/
theorem finv_update {fw : FWorld} (hinv : FInv fw) {c : Nat} {f : Active} (hf : fw.run c = some f)
    {w' : World} (hs : StepFacts fw.w c f.v f.rg f.owned w') (fo : Option Active)
    (hfo : ∀ f', fo = some f' → f'.v = f.v ∧ cbwPath f'.owned f'.rest = true ∧
      FrameFacts fw.w c f.v f.rg f.owned w' f'.rg f'.owned) :
    FInv { w := w', run := setRun fw.run c fo } ∧ CallEffect fw.w c f.v w' := by
  have hF := hinv.frames c f hf
  refine ⟨⟨hs.wf', ?_⟩, hs.wf', hs.nctxEq, hs.ctxOther, ?_⟩
  · intro c2 f2 h2
    simp only [setRun] at h2
    by_cases hc2 : c2 = c
    · -- the updated frame of context c
      subst hc2
      simp only [if_true] at h2
      obtain ⟨hv, hcbw, hff⟩ := hfo f2 h2
      refine ⟨hff.regsLt', hcbw, ?_⟩
      intro r hr
      obtain ⟨id, hid, hprov⟩ := hff.ownedProv r hr
      refine ⟨id, hid, ?_, ?_⟩
      · intro c' v' hb
        rw [hv]
        by_cases hcv : c' = c2 ∧ v' = f.v
        · exact hcv
        · exfalso
          rw [hs.ctxOther c' v' hcv] at hb
          rcases hprov with hfresh | ⟨r0, hr0, hid0⟩
          · have := hinv.wf c' v' id hb; omega
          · obtain ⟨id0, hid0', hpriv⟩ := hF.ownedPriv r0 hr0
            rw [hid0] at hid0'; cases hid0'
            exact hcv (hpriv.onlyBound c' v' hb)
      · intro c' f' hne hrun r' hreg
        simp only [setRun, hne, if_false] at hrun
        rcases hprov with hfresh | ⟨r0, hr0, hid0⟩
        · have := (hinv.frames c' f' hrun).regsLt r' id hreg; omega
        · obtain ⟨id0, hid0', hpriv⟩ := hF.ownedPriv r0 hr0
          rw [hid0] at hid0'; cases hid0'
          exact hpriv.noOtherReg c' f' hne hrun r' hreg
    · -- an untouched frame of another context
      simp only [hc2, if_false] at h2
      refine (hinv.frames c2 f2 h2).mono hs.nextLe fun id hlt hpriv => ⟨?_, ?_⟩
      · intro c' v' hb
        by_cases hcv : c' = c ∧ v' = f.v
        · exfalso
          rw [hcv.1, hcv.2] at hb
          rcases hs.ctxHere with hold | ⟨r0, id0, hr0, hnew⟩
          · rw [hold] at hb
            exact hc2 (hpriv.onlyBound c f.v hb).1.symm
          · rw [hnew] at hb; cases hb
            exact hpriv.noOtherReg c f (fun e => hc2 e.symm) hf r0 hr0
        · rw [hs.ctxOther c' v' hcv] at hb
          exact hpriv.onlyBound c' v' hb
      · intro c' f' hne hrun r' hreg
        simp only [setRun] at hrun
        by_cases hcc : c' = c
        · subst hcc
          simp only [if_true] at hrun
          obtain ⟨_, _, hff⟩ := hfo f' hrun
          rcases hff.prov r' id hreg with ⟨r0, hr0⟩ | hfresh | hbound
          · exact hpriv.noOtherReg c' f hne hf r0 hr0
          · omega
          · exact hc2 (hpriv.onlyBound c' f.v hbound).1.symm
        · simp only [hcc, if_false] at hrun
          exact hpriv.noOtherReg c' f' hne hrun r' hreg
  · intro c' v' hne
    unfold obs
    rw [hs.ctxOther c' v' hne]
    cases hb : fw.w.ctxs c' v' with
    | none => rfl
    | some id =>
      simp only [Option.map_some, Option.some.injEq]
      apply hs.heapKeep id (hinv.wf c' v' id hb)
      rintro ⟨r, hr, hid⟩
      obtain ⟨id0, hid0, hpriv⟩ := hF.ownedPriv r hr
      rw [hid] at hid0; cases hid0
      exact hne (hpriv.onlyBound c' v' hb)

theorem finv_drop {fw : FWorld} (hinv : FInv fw) {c : Nat} {f : Active} (hf : fw.run c = some f) :
    FInv { fw with run := setRun fw.run c none } :=
  (finv_update hinv hf (stepFacts_refl hinv.wf c f.v f.rg f.owned) none (by intro f' h; cases h)).1

/-- what one effect of context `c` leaves, by its outcome (read like `OpFacts`) -/
def EffectOk (fw : FWorld) (c : Nat) (f : Active) (op : Op) (t : Path) : Step → Prop
  | .cont f' => FInv { w := f'.w, run := setRun fw.run c (some (f.after op t f')) } ∧ CallEffect fw.w c f.v f'.w
  | .ret w' _ => FInv { w := w', run := setRun fw.run c none } ∧ CallEffect fw.w c f.v w'
  | .skip => True

/-- One effect of a frame that is in order keeps the invariant and is a `CallEffect`: what both the
scheduler's step and the uninterrupted run are made of. -/
theorem frame_effect {fw : FWorld} (hinv : FInv fw) {c : Nat} {f : Active} (hf : fw.run c = some f)
    {op : Op} {t : Path} (hrest : f.rest = op :: t) :
    EffectOk fw c f op t (stepOp c f.v f.a { w := fw.w, rg := f.rg, acc := f.acc } op) := by
  have hF := hinv.frames c f hf
  have hcb := hF.cbw
  rw [hrest] at hcb
  simp only [cbwPath, Bool.and_eq_true] at hcb
  have hfacts := stepOp_facts hinv.wf c f.v f.a f.rg f.acc f.owned hF.regsLt
    (fun r hr => (hF.ownedPriv r hr).imp fun _ h => h.1) op hcb.1
  cases hstep : stepOp c f.v f.a { w := fw.w, rg := f.rg, acc := f.acc } op with
  | cont f' =>
    rw [hstep] at hfacts
    exact finv_update hinv hf hfacts.1 _ (by intro f'' h; cases h; exact ⟨rfl, hcb.2, hfacts.2⟩)
  | ret w' r =>
    rw [hstep] at hfacts
    exact finv_update hinv hf hfacts none (by intro f'' h; cases h)
  | skip => trivial

/-- a call that starts: its frame holds nothing yet -/
theorem finv_begin {fw : FWorld} (hinv : FInv fw) (c v : Nat) (a : Args) {path : Path}
    (hp : cbwPath [] path = true) :
    FInv { fw with
      run := setRun fw.run c (some { v, a, rest := path, rg := fun _ => none, acc := none, owned := [] }) } := by
  refine ⟨hinv.wf, fun c2 f2 h2 => ?_⟩
  simp only [setRun] at h2
  by_cases hc2 : c2 = c
  · subst hc2
    simp only [if_true, Option.some.injEq] at h2
    subst h2
    exact ⟨(by intro r id h; cases h), hp, (by intro r hr; cases hr)⟩
  · simp only [hc2, if_false] at h2
    refine (hinv.frames c2 f2 h2).mono (Nat.le_refl _) fun id _ hpriv => ⟨hpriv.onlyBound, ?_⟩
    intro c' f' hne hrun r' hreg
    simp only [setRun] at hrun
    by_cases hcc : c' = c
    · subst hcc
      simp only [if_true, Option.some.injEq] at hrun
      subst hrun
      cases hreg
    · simp only [hcc, if_false] at hrun
      exact hpriv.noOtherReg c' f' hne hrun r' hreg

/-- a context created while its parent (if it copies one) is idle takes nothing private from anyone -/
theorem finv_newCtx {fw : FWorld} (hinv : FInv fw) {e : Event} (he : e.actor = none)
    (hidle : ∀ p, e = .copyCtx p → fw.run p = none) : FInv { fw with w := stepEvent fw.w e } := by
  refine ⟨(newCtx_inv hinv.wf he).1, fun c2 f2 hr2 => ?_⟩
  have hnext : fw.w.next ≤ (stepEvent fw.w e).next := by
    cases e with
    | call => cases he
    | copyCtx parent | freshCtx => exact Nat.le_refl _
  refine (hinv.frames c2 f2 hr2).mono hnext fun id _ hpriv => ⟨fun c' v' hb => ?_, hpriv.noOtherReg⟩
  rcases newCtx_ctxs he hb with h | ⟨_, p, hp, h⟩
  · exact hpriv.onlyBound c' v' h
  · -- the child inherits the parent's binding: the parent is idle, so it is not `c2`
    have := (hpriv.onlyBound p v' h).1
    subst this
    rw [hidle p hp] at hr2; cases hr2

theorem fstep_inv {fw : FWorld} (hinv : FInv fw) (e : FEvent) (he : e.cbw) :
    FInv (fstep fw e) ∧ fw.w.nctx ≤ (fstep fw e).w.nctx ∧
    ∀ c' v', c' < fw.w.nctx → ¬ e.touches fw c' v' → obs (fstep fw e).w c' v' = obs fw.w c' v' := by
  cases e with
  | «begin» c v path a =>
    simp only [fstep]
    split
    · exact ⟨finv_begin hinv c v a he, Nat.le_refl _, fun _ _ _ _ => rfl⟩
    · exact ⟨hinv, Nat.le_refl _, fun _ _ _ _ => rfl⟩
  | step c =>
    cases hf : fw.run c with
    | none => rw [fstep_step_idle hf]; exact ⟨hinv, Nat.le_refl _, fun _ _ _ _ => rfl⟩
    | some f =>
      have out : ∀ {w'}, CallEffect fw.w c f.v w' → fw.w.nctx ≤ w'.nctx ∧
          ∀ c' v', c' < fw.w.nctx → ¬ (FEvent.step c).touches fw c' v' → obs w' c' v' = obs fw.w c' v' :=
        fun h => ⟨Nat.le_of_eq h.nctxEq.symm, fun c' v' _ hn => h.obsOther c' v' fun hcv =>
          hn ⟨hcv.1.symm, f, hf, hcv.2.symm⟩⟩
      rw [fstep_step hf]
      cases hrest : f.rest with
      | nil => exact ⟨finv_drop hinv hf, Nat.le_refl _, fun _ _ _ _ => rfl⟩
      | cons op t =>
        have hs := frame_effect hinv hf hrest
        simp only
        cases hstep : stepOp c f.v f.a { w := fw.w, rg := f.rg, acc := f.acc } op with
        | cont f' => rw [hstep] at hs; exact ⟨hs.1, out hs.2⟩
        | ret w' r => rw [hstep] at hs; exact ⟨hs.1, out hs.2⟩
        | skip => exact ⟨finv_drop hinv hf, Nat.le_refl _, fun _ _ _ _ => rfl⟩
  | copyCtx parent =>
    simp only [fstep]
    split
    · rename_i hidle
      have ⟨_, h2, h3⟩ := newCtx_inv hinv.wf (e := .copyCtx parent) rfl
      exact ⟨finv_newCtx hinv rfl (fun p hp => by cases hp; simpa using hidle), h2, fun c' v' hc' _ => h3 c' v' hc'⟩
    · exact ⟨hinv, Nat.le_refl _, fun _ _ _ _ => rfl⟩
  | freshCtx =>
    have ⟨_, h2, h3⟩ := newCtx_inv hinv.wf (e := .freshCtx) rfl
    exact ⟨finv_newCtx hinv rfl (fun p hp => nomatch hp), h2, fun c' v' hc' _ => h3 c' v' hc'⟩

theorem frun_inv {fw : FWorld} (hinv : FInv fw) :
    ∀ (es : List FEvent), (∀ e ∈ es, e.cbw) →
    FInv (frun fw es) ∧ fw.w.nctx ≤ (frun fw es).w.nctx ∧
    ∀ c' v', c' < fw.w.nctx → NoTouchF c' v' fw es → obs (frun fw es).w c' v' = obs fw.w c' v' := by
  intro es
  induction es generalizing fw with
  | nil => intro _; exact ⟨hinv, Nat.le_refl _, fun _ _ _ _ => rfl⟩
  | cons e t ih =>
    intro hc
    obtain ⟨h1, h2, h3⟩ := fstep_inv hinv e (hc e (by simp))
    obtain ⟨g1, g2, g3⟩ := ih h1 (fun x hx => hc x (List.mem_cons_of_mem _ hx))
    simp only [frun, List.foldl_cons] at g1 g2 g3 ⊢
    refine ⟨g1, Nat.le_trans h2 g2, ?_⟩
    intro c' v' hc' hnt
    rw [g3 c' v' (by omega) hnt.2]
    exact h3 c' v' hc' hnt.1

theorem frun_finv {fw : FWorld} (hinv : FInv fw) (es : List FEvent) (hc : ∀ e ∈ es, e.cbw) : FInv (frun fw es) :=
  (frun_inv hinv es hc).1

theorem frun_obs {fw : FWorld} (hinv : FInv fw) (es : List FEvent) (hc : ∀ e ∈ es, e.cbw) {c' v' : Nat}
    (hc' : c' < fw.w.nctx) (hnt : NoTouchF c' v' fw es) : obs (frun fw es).w c' v' = obs fw.w c' v' :=
  (frun_inv hinv es hc).2.2 c' v' hc' hnt

theorem setRun_self (run : Nat → Option Active) (c : Nat) (x : Option Active) : setRun run c x c = x := by
  simp [setRun]

theorem setRun_idle {run : Nat → Option Active} {c : Nat} (h : run c = none) : setRun run c none = run := by
  funext c'; simp only [setRun]; split
  · rename_i e; rw [e, h]
  · rfl

theorem setRun_setRun (run : Nat → Option Active) (c : Nat) (a b : Option Active) :
    setRun (setRun run c a) c b = setRun run c b := by
  funext c'; simp only [setRun]; split <;> rfl

theorem steps_idle (c : Nat) : ∀ (n : Nat) (fw : FWorld), fw.run c = none → frun fw (stepsOf c n) = fw
  | 0, _, _ => rfl
  | n + 1, fw, h => by
    simp only [stepsOf, frun, List.foldl_cons]
    rw [fstep_step_idle h]
    exact steps_idle c n fw h

/-- running the remaining effects of a frame without interruption is `runPath` -/
theorem steps_eq_runPath (c : Nat) :
    ∀ (rest : Path) (fw : FWorld) (f : Active), fw.run c = some f → f.rest = rest →
    ∀ w' r, runPath c f.v f.a { w := fw.w, rg := f.rg, acc := f.acc } rest = some (w', r) →
    frun fw (stepsOf c (rest.length + 1)) = { w := w', run := setRun fw.run c none }
  | [], fw, f, hf, hrest, w', r, hrun => by
    simp only [runPath, Option.some.injEq, Prod.mk.injEq] at hrun
    simp only [List.length_nil, stepsOf, frun, List.foldl_cons, List.foldl_nil, fstep_step hf, hrest]
    rw [← hrun.1]
  | op :: t, fw, f, hf, hrest, w', r, hrun => by
    simp only [runPath] at hrun
    have hlen : stepsOf c ((op :: t).length + 1) = .step c :: stepsOf c (t.length + 1) := rfl
    rw [hlen]
    simp only [frun, List.foldl_cons, fstep_step hf, hrest]
    cases hstep : stepOp c f.v f.a { w := fw.w, rg := f.rg, acc := f.acc } op with
    | cont f' =>
      rw [hstep] at hrun
      have := steps_eq_runPath c t { w := f'.w, run := setRun fw.run c (some (f.after op t f')) }
        (f.after op t f') (setRun_self ..) rfl w' r hrun
      simp only [frun] at this
      simp only [this, setRun_setRun]
    | ret w'' r'' =>
      rw [hstep] at hrun
      simp only [Option.some.injEq, Prod.mk.injEq] at hrun
      have := steps_idle c (t.length + 1) { w := w'', run := setRun fw.run c none } (setRun_self ..)
      simp only [frun] at this
      rw [← hrun.1, this]
    | skip =>
      rw [hstep] at hrun
      cases hrun

/-- Running the rest of a frame's path without interruption keeps the invariant, whatever calls the
other contexts are in the middle of, and touches nothing outside the frame's (context, cell). -/
theorem path_inv (c : Nat) : ∀ (rest : Path) {fw : FWorld} {f : Active}, FInv fw → fw.run c = some f →
    f.rest = rest → ∀ {w' : World} {r : Res},
    runPath c f.v f.a { w := fw.w, rg := f.rg, acc := f.acc } rest = some (w', r) →
    FInv { w := w', run := setRun fw.run c none } ∧ CallEffect fw.w c f.v w'
  | [], fw, f, hinv, hf, _, w', r, hrun => by
    simp only [runPath, Option.some.injEq, Prod.mk.injEq] at hrun
    rw [← hrun.1]
    exact ⟨finv_drop hinv hf, CallEffect.refl hinv.wf ..⟩
  | op :: t, fw, f, hinv, hf, hrest, w', r, hrun => by
    have hs := frame_effect hinv hf hrest
    simp only [runPath] at hrun
    cases hstep : stepOp c f.v f.a { w := fw.w, rg := f.rg, acc := f.acc } op with
    | cont f' =>
      rw [hstep] at hs hrun
      obtain ⟨g1, g2⟩ := path_inv c t hs.1 (setRun_self ..) rfl hrun
      rw [setRun_setRun] at g1
      exact ⟨g1, hs.2.trans g2⟩
    | ret w'' r'' =>
      rw [hstep] at hs hrun
      simp only [Option.some.injEq, Prod.mk.injEq] at hrun
      rw [← hrun.1]
      exact hs
    | skip => rw [hstep] at hrun; cases hrun

/-- the atomic call is the path `runProg` selects, run by a frame while no other context is inside a call -/
theorem runProg_effect {w : World} (hw : WF w) (c v : Nat) (a : Args) :
    ∀ (p : Prog), cbwProg p = true → CallEffect w c v (runProg w c v a p).1
  | [], _ => CallEffect.refl hw c v
  | path :: rest, hp => by
    simp only [cbwProg, List.all_cons, Bool.and_eq_true] at hp
    simp only [runProg]
    cases hrun : runPath c v a { w := w, rg := fun _ => none } path with
    | none => exact runProg_effect hw c v a rest hp.2
    | some r =>
      have hinv := finv_begin (fw := ⟨w, fun _ => none⟩) ⟨hw, fun _ _ h => by cases h⟩ c v a hp.1
      exact (path_inv c path hinv (setRun_self ..) rfl (w' := r.1) (r := r.2) hrun).2

/-- what a call event has done: nothing outside (c, v), also when `c` does not exist -/
theorem stepEvent_call_effect {w : World} (hw : WF w) (c v : Nat) (p : Prog) (a : Args) (hp : CopyBeforeWrite p) :
    CallEffect w c v (stepEvent w (.call c v p a)) := by
  simp only [stepEvent]
  split
  · exact runProg_effect hw c v a p hp
  · exact CallEffect.refl hw c v

theorem stepEvent_inv {w : World} (hw : WF w) (e : Event) (he : e.cbw) :
    WF (stepEvent w e) ∧ w.nctx ≤ (stepEvent w e).nctx ∧
    ∀ c' v', c' < w.nctx → ¬ e.touches c' v' → obs (stepEvent w e) c' v' = obs w c' v' := by
  cases ha : e.actor with
  | none =>
    have ⟨h1, h2, h3⟩ := newCtx_inv hw ha
    exact ⟨h1, h2, fun c' v' hc' _ => h3 c' v' hc'⟩
  | some _ =>
    cases e with
    | call c v p a =>
      have h := stepEvent_call_effect hw c v p a he
      exact ⟨h.wf, Nat.le_of_eq h.nctxEq.symm, fun c' v' _ hnt => h.obsOther c' v' fun hcv =>
        hnt ⟨hcv.1.symm, hcv.2.symm⟩⟩
    | copyCtx _ | freshCtx => cases ha

theorem run_inv {w : World} (hw : WF w) :
    ∀ (es : List Event), (∀ e ∈ es, e.cbw) →
    WF (run w es) ∧ w.nctx ≤ (run w es).nctx ∧
    ∀ c' v', c' < w.nctx → (∀ e ∈ es, ¬ e.touches c' v') → obs (run w es) c' v' = obs w c' v' := by
  intro es
  induction es generalizing w with
  | nil => intro _; exact ⟨hw, Nat.le_refl _, fun _ _ _ _ => rfl⟩
  | cons e t ih =>
    intro hc
    obtain ⟨h1, h2, h3⟩ := stepEvent_inv hw e (hc e (by simp))
    obtain ⟨g1, g2, g3⟩ := ih h1 (fun x hx => hc x (List.mem_cons_of_mem _ hx))
    simp only [run, List.foldl_cons] at g1 g2 g3 ⊢
    refine ⟨g1, Nat.le_trans h2 g2, ?_⟩
    intro c' v' hc' hnt
    rw [g3 c' v' (by omega) (fun x hx => hnt x (List.mem_cons_of_mem _ hx))]
    exact h3 c' v' hc' (hnt e (by simp))

theorem run_wf {w : World} (hw : WF w) (es : List Event) (hc : ∀ e ∈ es, e.cbw) : WF (run w es) :=
  (run_inv hw es hc).1

/-- what a context observes of a cell changes only by its own calls on that cell -/
theorem run_obs {w : World} (hw : WF w) (es : List Event) (hc : ∀ e ∈ es, e.cbw) {c' v' : Nat} (hc' : c' < w.nctx)
    (hnt : ∀ e ∈ es, ¬ e.touches c' v') : obs (run w es) c' v' = obs w c' v' :=
  (run_inv hw es hc).2.2 c' v' hc' hnt

theorem obs_run_newCtx {w : World} (hw : WF w) {e : Event} (he : e.actor = none) (es : List Event)
    (hc : ∀ e ∈ es, e.cbw) (v : Nat) (hnt : ∀ e ∈ es, ¬ e.touches w.nctx v) :
    obs (run (stepEvent w e) es) w.nctx v = obs (stepEvent w e) w.nctx v :=
  run_obs (newCtx_inv hw he).1 es hc (by rw [newCtx_nctx he]; exact Nat.lt_succ_self _) hnt

end Wz.Local
