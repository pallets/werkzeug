/-
What Props/C15T rests on when it compares the translated `get_current_url`, the two latin-1 dances and the
bodies of `iri_to_uri` / `uri_to_iri` (`Gen/PyFns_Url.lean`) with the model (`Model/Url.lean`,
`Model/UrlEnviron.lean`): the definitions the statements there use (`SplitAttrs`, `partsOfAttrs`, `hostAfter`,
`PortOk`, …); the `safe=` literals of the source, which the generated code holds as character lists, equated
with the tables `Gen.UrlTables.*` the model reads (`curRootSafe_lit` … `iriPasswordSafe_lit`); and the netloc
assembly, which both directions share: `netloc_cps` says once that the translated control flow is the model's
`netloc` for any continuation, `iri_to_uri_eq_nat` / `uri_to_iri_eq_nat` are its two instances (for a port that
is a natural number; `attrs_eq_of_portOk` brings a split result with `PortOk` into that form). Last,
`text_via_translated`: the model's text-level conversion with the conversion step done by a translated body.
-/
import WzVerif.Gen.PyFns_Url
import WzVerif.Model.UrlEnviron
import WzVerif.Lemmas.PyFns_Prelude
namespace Wz.PyFnsEq.Url
open Wz Wz.Pre

theorem curRootSafe_lit :
    Gen.UrlTables.curRootSafe
      = ['!', '$', '&', '\'', '(', ')', '*', '+', ',', '/', ':', ';', '=', '@'] :=
  String.toList_ofList

theorem curPathSafe_lit :
    Gen.UrlTables.curPathSafe
      = ['!', '$', '&', '\'', '(', ')', '*', '+', ',', '/', ':', ';', '=', '@'] :=
  String.toList_ofList

theorem curQuerySafe_lit :
    Gen.UrlTables.curQuerySafe
      = ['!', '$', '&', '\'', '(', ')', '*', '+', ',', '/', ':', ';', '=', '?', '@', '%'] :=
  String.toList_ofList

theorem iriPathSafe_lit :
    Gen.UrlTables.iriPathSafe
      = ['%', '!', '$', '&', '\'', '(', ')', '*', '+', ',', '/', ':', ';', '=', '@'] :=
  String.toList_ofList

theorem iriQuerySafe_lit :
    Gen.UrlTables.iriQuerySafe
      = ['%', '!', '$', '&', '\'', '(', ')', '*', '+', ',', '/', ':', ';', '=', '?', '@'] :=
  String.toList_ofList

theorem iriFragmentSafe_lit :
    Gen.UrlTables.iriFragmentSafe
      = ['%', '!', '#', '$', '&', '\'', '(', ')', '*', '+', ',', '/', ':', ';', '=', '?', '@'] :=
  String.toList_ofList

theorem iriUserSafe_lit :
    Gen.UrlTables.iriUserSafe
      = ['%', '!', '$', '&', '\'', '(', ')', '*', '+', ',', ';', '='] :=
  String.toList_ofList

theorem iriPasswordSafe_lit :
    Gen.UrlTables.iriPasswordSafe
      = ['%', '!', '$', '&', '\'', '(', ')', '*', '+', ',', ';', '='] :=
  String.toList_ofList

/-- the `SplitResult` attributes the translated functions read, as the translation passes them:
`(scheme, hostname, port, username, password, path, query, fragment)` -/
abbrev SplitAttrs :=
  Pre.Str × Option Pre.Str × Option Int × Option Pre.Str × Option Pre.Str × Pre.Str × Pre.Str × Pre.Str

/-- the argument of `urlunsplit` as the translation represents it -/
def tuple5 (s : Url.Split) : Pre.Str × Pre.Str × Pre.Str × Pre.Str × Pre.Str :=
  (s.scheme, s.netloc, s.path, s.query, s.fragment)

/-- the model's `Parts` for a split result whose hostname has been through the IDNA step (`h`) -/
def partsOfAttrs (p : SplitAttrs) (h : Pre.Str) : Url.Parts :=
  { scheme := p.1, username := p.2.2.2.1, password := p.2.2.2.2.1, host := h,
    port := p.2.2.1.map Int.toNat, path := p.2.2.2.2.2.1, query := p.2.2.2.2.2.2.1,
    fragment := p.2.2.2.2.2.2.2 }

/-- `if parts.hostname: netloc = conv(parts.hostname) else: netloc = ""` -/
def hostAfter (conv : Pre.Str → Except String Pre.Str) (hostname : Option Pre.Str) : Except String Pre.Str :=
  match hostname with
  | none => .ok []
  | some [] => .ok []
  | some h => conv h

/-- `if parts.hostname: netloc = conv(parts.hostname) else: netloc = ""` for a conversion that does not raise -/
def hostAfterTotal (conv : Pre.Str → Pre.Str) (hostname : Option Pre.Str) : Pre.Str :=
  match hostname with
  | none => []
  | some [] => []
  | some h => conv h

/-- `SplitResult.port` is `None` or a non-negative `int` -/
def PortOk (p : SplitAttrs) : Prop := ∀ k, p.2.2.1 = some k → 0 ≤ k

theorem truthy_none : Url.truthy none = none := rfl
theorem truthy_nil : Url.truthy (some []) = none := rfl
theorem truthy_cons (x : Char) (t : List Char) : Url.truthy (some (x :: t)) = some (x :: t) := rfl

/-- The netloc assembly of both directions (`[...]` around a host with `:`, `:port` for a truthy
port, `user[:password]@` for a truthy user name) is the model's `netloc`. The right-hand side is the
control flow of the translated bodies, with the rest of the function as a continuation `K`; so both
translations are instances (`K` wraps the 5-tuple) and no case split is repeated there. -/
theorem netloc_cps {β : Type} (K : Pre.Str → β) (fu fp : Pre.Str → Pre.Str) (u pw : Option Pre.Str)
    (h : Pre.Str) (port : Option Nat) (sc pa q f : Pre.Str) :
    K (Url.netloc fu fp { scheme := sc, username := u, password := pw, host := h, port := port,
                          path := pa, query := q, fragment := f })
      = (let n := if Pre.contains h [':'] then ['['] ++ h ++ [']'] else h
         let k2 := fun n : Pre.Str =>
           match u with
           | none => K n
           | some x =>
             if !x.isEmpty then
               match pw with
               | none => K (fu x ++ ['@'] ++ n)
               | some y => if !y.isEmpty then K (fu x ++ [':'] ++ fp y ++ ['@'] ++ n) else K (fu x ++ ['@'] ++ n)
             else K n
         match port.map Int.ofNat with
         | none => k2 n
         | some k => if !(k == 0) then k2 (n ++ [':'] ++ Pre.strOfInt k) else k2 n) := by
  have hk : ∀ k : Nat, ¬ ((k : Int) + 1 = 0) := by omega
  have hs : ∀ k : Nat, Pre.strOfInt ((k : Int) + 1) = (toString (k + 1)).toList := fun k => strOfInt_nat (k + 1)
  unfold Url.netloc
  rcases u with _ | _ | ⟨x, t⟩ <;> rcases pw with _ | _ | ⟨y, t'⟩ <;> rcases port with _ | _ | k <;>
    simp [truthy_none, truthy_nil, truthy_cons, contains_singleton, hk, hs]

/-- `iri_to_uri_eq` with the port given as a natural number (the form the proof works on) -/
theorem iri_to_uri_eq_nat (sc : Pre.Str) (hn : Option Pre.Str) (port : Option Nat) (u pw : Option Pre.Str)
    (pa q f : Pre.Str) (idna : Pre.Str → Except String Pre.Str) (iri : Pre.Str) :
    Gen.PyFns_Url.iri_to_uri (fun _ => (sc, hn, port.map Int.ofNat, u, pw, pa, q, f)) idna iri
      = (hostAfter idna hn).map fun h =>
          tuple5 (Url.iriToUri { scheme := sc, username := u, password := pw, host := h, port := port,
                                 path := pa, query := q, fragment := f }) := by
  have key := fun h => netloc_cps (fun n => (Except.ok (sc, n, Url.quote Gen.UrlTables.iriPathSafe pa,
      Url.quote Gen.UrlTables.iriQuerySafe q, Url.quote Gen.UrlTables.iriFragmentSafe f) : Except String _))
    (Url.quote Gen.UrlTables.iriUserSafe) (Url.quote Gen.UrlTables.iriPasswordSafe) u pw h port sc pa q f
  unfold Gen.PyFns_Url.iri_to_uri Url.iriToUri tuple5 hostAfter
  rw [iriPathSafe_lit, iriQuerySafe_lit, iriFragmentSafe_lit, iriUserSafe_lit, iriPasswordSafe_lit] at key ⊢
  rcases hn with _ | _ | ⟨c, hs⟩
  · exact (key []).symm
  · exact (key []).symm
  · dsimp only
    cases idna (c :: hs) with
    | error e => rfl
    | ok h => exact (key h).symm

/-- `uri_to_iri_eq` with the port given as a natural number (the form the proof works on) -/
theorem uri_to_iri_eq_nat (sc : Pre.Str) (hn : Option Pre.Str) (port : Option Nat) (u pw : Option Pre.Str)
    (pa q f : Pre.Str) (decode_idna : Pre.Str → Pre.Str) (uri : Pre.Str) :
    Gen.PyFns_Url.uri_to_iri (fun _ => (sc, hn, port.map Int.ofNat, u, pw, pa, q, f)) decode_idna uri
      = .ok (tuple5 (Url.uriToIri { scheme := sc, username := u, password := pw,
                                    host := hostAfterTotal decode_idna hn, port := port,
                                    path := pa, query := q, fragment := f })) := by
  have key : ∀ h, Except.ok (tuple5 (Url.uriToIri ⟨sc, u, pw, h, port, pa, q, f⟩)) = _ :=
    fun h => netloc_cps (fun n => (Except.ok (sc, n, _, _, _) : Except String _)) _ _ u pw h port sc pa q f
  unfold Gen.PyFns_Url.uri_to_iri hostAfterTotal
  rcases hn with _ | _ | ⟨c, hs⟩ <;> exact (key _).symm

/-- a split result whose port is `None` or non-negative is one whose port is a natural number: the form
`iri_to_uri_eq_nat` / `uri_to_iri_eq_nat` speak of -/
theorem attrs_eq_of_portOk (p : SplitAttrs) (h : PortOk p) :
    p = (p.1, p.2.1, (p.2.2.1.map Int.toNat).map Int.ofNat, p.2.2.2.1, p.2.2.2.2.1, p.2.2.2.2.2.1,
          p.2.2.2.2.2.2.1, p.2.2.2.2.2.2.2) := by
  obtain ⟨sc, hn, port, u, pw, pa, q, f⟩ := p
  rcases port with _ | k
  · rfl
  · simp only [Option.map_some, Int.ofNat_eq_natCast, Int.toNat_of_nonneg (h k rfl)]

/-! The hypothesis `PortOk` cannot be dropped: for a negative port (which `SplitResult.port` never
returns - it raises `ValueError` outside `0..65535`) the code would print `:-1` while the model, whose
port is a natural number, has nothing to print. -/
example : (Gen.PyFns_Url.uri_to_iri (fun _ => ([], some ['h'], some (-1), none, none, [], [], [])) id []).toOption.map
    (·.2.1) = some "h:-1".toList := by
  repeat rw [String.toList_ofList]
  decide +kernel
example : (tuple5 (Url.uriToIri (partsOfAttrs ([], some ['h'], some (-1), none, none, [], [], []) ['h']))).2.1
    = ['h'] := by decide

/-- the `SplitResult` attributes of a model `Parts` value whose host is already converted -/
def attrsOf (p : Url.Parts) : SplitAttrs :=
  (p.scheme, some p.host, p.port.map Int.ofNat, p.username, p.password, p.path, p.query, p.fragment)

def splitOfTuple (t : Pre.Str × Pre.Str × Pre.Str × Pre.Str × Pre.Str) : Url.Split :=
  { scheme := t.1, netloc := t.2.1, path := t.2.2.1, query := t.2.2.2.1, fragment := t.2.2.2.2 }

theorem uri_to_iri_attrsOf (p : Url.Parts) (url : Pre.Str) :
    Gen.PyFns_Url.uri_to_iri (fun _ => attrsOf p) id url = .ok (tuple5 (Url.uriToIri p)) := by
  have hh : hostAfterTotal id (some p.host) = p.host := by unfold hostAfterTotal; cases p.host <;> rfl
  rw [attrsOf, uri_to_iri_eq_nat, hh]

theorem iri_to_uri_attrsOf (p : Url.Parts) (url : Pre.Str) :
    Gen.PyFns_Url.iri_to_uri (fun _ => attrsOf p) .ok url = .ok (tuple5 (Url.iriToUri p)) := by
  have hh : hostAfter .ok (some p.host) = .ok p.host := by unfold hostAfter; cases p.host <;> rfl
  rw [attrsOf, iri_to_uri_eq_nat, hh]; rfl

/-- a text-level conversion of the model - split, read the parts, convert, unsplit - with the conversion step
replaced by a translated body `g` that computes the same 5-tuple -/
theorem text_via_translated {o : Url.UrlOpaque} {conv : Str → Option Str} {f : Url.Parts → Url.Split}
    {g : Url.Parts → Except String (Str × Str × Str × Str × Str)} (hg : ∀ p, g p = .ok (tuple5 (f p))) (url : Str) :
    (match Url.urlsplit o url with
      | .error e => .error e
      | .ok sp =>
        match Url.partsOf conv sp with
        | .error e => .error e
        | .ok p => .ok (Url.urlunsplit (f p)))
    = (Url.urlsplit o url >>= Url.partsOf conv) >>= fun p => (g p).map fun t => Url.urlunsplit (splitOfTuple t) := by
  cases Url.urlsplit o url with
  | error e => rfl
  | ok sp =>
    cases hp : Url.partsOf conv sp with
    | error e => simp [bind, Except.bind, hp]
    | ok p => simp [bind, Except.bind, hp, hg, Except.map, splitOfTuple, tuple5]

end Wz.PyFnsEq.Url
