/-
Day-number arithmetic behind `http_date` / `parse_date` (C06): `date.fromordinal` inverts `date.toordinal`
(`ord2ymd_spec`, by the 400/100/4/1-year cycles of `datetime._ord2ymd`), years are ordered as their day
counts (`dby_succ`, `dby_mono`, `ymd2ord_bracket`), and the civil fields of *every* instant form a date
that gives the instant back (`civilOfSeconds_spec`), for every year. The range 0100…9999 of the property comes
from the four-digit text (Lemmas/DateText.lean); of it only the two day counts `dby_100`, `dby_10000` stand here.
-/
import WzVerif.Model.Date
namespace Wz.Date

theorem isLeap_iff (y : Nat) : isLeap y = true ↔ (y % 4 = 0 ∧ (y % 100 ≠ 0 ∨ y % 400 = 0)) := by
  simp [isLeap]

/-- what `monthDay` must satisfy on one day of the year (the pair is matched, so that evaluation computes it once) -/
def monthDayOk (leap : Bool) (r : Nat) : Bool :=
  match monthDay leap r with
  | (m, d) => 1 ≤ m && m ≤ 12 && 1 ≤ d && d ≤ daysInMonth leap m && daysBeforeMonth leap m + d == r + 1

theorem monthDay_table :
    (List.range 365).all (monthDayOk false) = true ∧ (List.range 366).all (monthDayOk true) = true := by
  decide +kernel

theorem monthDay_spec (leap : Bool) (r : Nat) (h : r < 365 + leap.toNat) :
    1 ≤ (monthDay leap r).1 ∧ (monthDay leap r).1 ≤ 12 ∧ 1 ≤ (monthDay leap r).2 ∧
      (monthDay leap r).2 ≤ daysInMonth leap (monthDay leap r).1 ∧
      daysBeforeMonth leap (monthDay leap r).1 + (monthDay leap r).2 = r + 1 := by
  have : monthDayOk leap r = true := by
    cases leap
    · exact List.all_eq_true.1 monthDay_table.1 r (List.mem_range.2 h)
    · exact List.all_eq_true.1 monthDay_table.2 r (List.mem_range.2 h)
  unfold monthDayOk at this
  simpa [and_assoc] using this

theorem dby_decomp (a b c d : Nat) (hb : b ≤ 3) (hc : c ≤ 24) (hd : d ≤ 3) :
    daysBeforeYear (400 * a + 100 * b + 4 * c + d + 1) = 146097 * a + 36524 * b + 1461 * c + 365 * d := by
  simp only [daysBeforeYear, Nat.add_sub_cancel]
  omega

/-- the recurrence behind `_days_before_year`; the quotients are atoms for `omega`, only divisibility is left to it -/
theorem dby_succ (y : Nat) (hy : 1 ≤ y) : daysBeforeYear (y + 1) = daysBeforeYear y + 365 + (isLeap y).toNat := by
  obtain ⟨q, rfl⟩ : ∃ q, y = q + 1 := ⟨y - 1, by omega⟩
  have hleap : isLeap (q + 1) = (decide (4 ∣ q + 1) && (!decide (100 ∣ q + 1) || decide (400 ∣ q + 1))) := by
    rw [Bool.eq_iff_iff]; simp [isLeap, Nat.dvd_iff_mod_eq_zero]
  have g : q / 100 ≤ q / 4 := Nat.div_le_div_left (by decide) (by decide)
  simp only [daysBeforeYear, Nat.add_sub_cancel, Nat.succ_div, hleap]
  generalize q / 4 = A at *
  generalize q / 100 = B at *
  generalize q / 400 = C at *
  by_cases h4 : 4 ∣ q + 1 <;> by_cases h100 : 100 ∣ q + 1 <;> by_cases h400 : 400 ∣ q + 1 <;>
    simp only [h4, h100, h400, if_true, if_false, decide_true, decide_false, Bool.not_true, Bool.not_false,
      Bool.true_and, Bool.false_and, Bool.or_true, Bool.or_false, Bool.toNat_true, Bool.toNat_false] <;>
    omega

theorem dby_mono {y z : Nat} (h : y ≤ z) : daysBeforeYear y ≤ daysBeforeYear z := by
  induction h with
  | refl => exact Nat.le_refl _
  | @step z _ ih =>
    refine Nat.le_trans ih ?_
    cases z with
    | zero => decide
    | succ z => rw [dby_succ (z + 1) (by omega)]; omega

theorem dby_100 : daysBeforeYear 100 = 36159 := by decide
theorem dby_10000 : daysBeforeYear 10000 = 3652059 := by decide

/-- `r = (year, month, day)` is the valid date whose ordinal is `n`: what `date.fromordinal(n)` has to return -/
structure YmdOk (n : Nat) (r : Nat × Nat × Nat) : Prop where
  y1 : 1 ≤ r.1
  m1 : 1 ≤ r.2.1
  m12 : r.2.1 ≤ 12
  d1 : 1 ≤ r.2.2
  dmax : r.2.2 ≤ daysInMonth (isLeap r.1) r.2.1
  ord : ymd2ord r.1 r.2.1 r.2.2 = n

/-- the last day of a 4-year cycle (which `_ord2ymd` special-cases) is December 31st of a leap year -/
theorem ymdOk_leapEnd (a b c : Nat) (hb : b ≤ 3) (hc : c ≤ 24)
    (hleap : isLeap (400 * a + 100 * b + 4 * c + 4) = true) :
    YmdOk (146097 * a + 36524 * b + 1461 * c + 1461) (400 * a + 100 * b + 4 * c + 4, 12, 31) := by
  have hdby := dby_decomp a b c 3 hb hc (by omega)
  refine ⟨by simp, by simp, by simp, by simp, by simp [daysInMonth], ?_⟩
  simp only [ymd2ord, hleap, daysBeforeMonth, Bool.toNat_true, hdby]

theorem ymdOk_general (a b c d r4 : Nat) (hb : b ≤ 3) (hc : c ≤ 24) (hd : d ≤ 3) (hr : r4 < 365) :
    YmdOk (146097 * a + 36524 * b + 1461 * c + 365 * d + r4 + 1)
      (400 * a + 100 * b + 4 * c + d + 1,
        (monthDay (isLeap (400 * a + 100 * b + 4 * c + d + 1)) r4).1,
        (monthDay (isLeap (400 * a + 100 * b + 4 * c + d + 1)) r4).2) := by
  have hdby := dby_decomp a b c d hb hc hd
  have hm := monthDay_spec (isLeap (400 * a + 100 * b + 4 * c + d + 1)) r4 (by omega)
  obtain ⟨m1, m12, d1, dmax, hsum⟩ := hm
  refine ⟨by simp, m1, m12, d1, dmax, ?_⟩
  simp only [ymd2ord, hdby]
  omega

/-- quotient and remainder as variables, so that later arithmetic is linear -/
theorem divMod_spec (x k : Nat) (hk : 0 < k) : ∃ q r, x / k = q ∧ x % k = r ∧ x = k * q + r ∧ r < k :=
  ⟨_, _, rfl, rfl, (Nat.div_add_mod x k).symm, Nat.mod_lt x hk⟩

theorem ord2ymd_spec (n : Nat) (h1 : 1 ≤ n) : YmdOk n (ord2ymd n) := by
  unfold ord2ymd
  simp only
  obtain ⟨a, r1, ha, hr1, e0, b1⟩ := divMod_spec (n - 1) 146097 (by decide)
  rw [ha, hr1]
  obtain ⟨b, r2, hb, hr2, e1, b2⟩ := divMod_spec r1 36524 (by decide)
  rw [hb, hr2]
  obtain ⟨c, r3, hc, hr3, e2, b3⟩ := divMod_spec r2 1461 (by decide)
  rw [hc, hr3]
  obtain ⟨d, r4, hd, hr4, e3, b4⟩ := divMod_spec r3 365 (by decide)
  rw [hd, hr4]
  clear ha hr1 hb hr2 hc hr3 hd hr4
  subst e1 e2 e3
  have hn : n = 146097 * a + 36524 * b + 1461 * c + 365 * d + r4 + 1 := by omega
  subst hn
  clear e0 h1
  by_cases hsp : (d == 4 || b == 4) = true
  · -- `n` is the last day of a 4-year or of the 400-year cycle
    simp only [hsp, if_true]
    simp only [Bool.or_eq_true, beq_iff_eq] at hsp
    by_cases hb4 : b = 4
    · have hy : a * 400 + b * 100 + c * 4 + d + 1 - 1 = 400 * a + 100 * 3 + 4 * 24 + 4 := by omega
      have hn : 146097 * a + 36524 * b + 1461 * c + 365 * d + r4 + 1
          = 146097 * a + 36524 * 3 + 1461 * 24 + 1461 := by omega
      rw [hy, hn]
      exact ymdOk_leapEnd a 3 24 (by omega) (by omega) (by rw [isLeap_iff]; omega)
    · have hy : a * 400 + b * 100 + c * 4 + d + 1 - 1 = 400 * a + 100 * b + 4 * c + 4 := by omega
      have hn : 146097 * a + 36524 * b + 1461 * c + 365 * d + r4 + 1
          = 146097 * a + 36524 * b + 1461 * c + 1461 := by omega
      have hc23 : c ≤ 23 := by omega
      rw [hy, hn]
      exact ymdOk_leapEnd a b c (by omega) (by omega) (by rw [isLeap_iff]; omega)
  · simp only [hsp, Bool.false_eq_true, if_false]
    simp only [Bool.or_eq_true, beq_iff_eq, not_or] at hsp
    have hy : a * 400 + b * 100 + c * 4 + d + 1 = 400 * a + 100 * b + 4 * c + d + 1 := by omega
    rw [hy]
    exact ymdOk_general a b c d r4 (by omega) (by omega) (by omega) b4

theorem month_span : ∀ leap : Bool, ∀ m, m < 13 → daysBeforeMonth leap m + daysInMonth leap m ≤ 365 + leap.toNat := by
  decide

theorem ymd2ord_bracket {y m d : Nat} (hy : 1 ≤ y) (hm : m ≤ 12) (hd1 : 1 ≤ d) (hd : d ≤ daysInMonth (isLeap y) m) :
    daysBeforeYear y < ymd2ord y m d ∧ ymd2ord y m d ≤ daysBeforeYear (y + 1) := by
  have hs := dby_succ y hy
  have hm := month_span (isLeap y) m (by omega)
  unfold ymd2ord
  omega

theorem year_lt_of_ord_le {y m d Y : Nat} (hy : 1 ≤ y) (hm : m ≤ 12) (hd1 : 1 ≤ d)
    (hd : d ≤ daysInMonth (isLeap y) m) (h : ymd2ord y m d ≤ daysBeforeYear Y) : y < Y := by
  refine Nat.lt_of_not_le fun hle => ?_
  have := dby_mono hle
  have := (ymd2ord_bracket hy hm hd1 hd).1
  omega

theorem year_le_of_lt_ord {y m d Y : Nat} (hy : 1 ≤ y) (hm : m ≤ 12) (hd1 : 1 ≤ d)
    (hd : d ≤ daysInMonth (isLeap y) m) (h : daysBeforeYear Y < ymd2ord y m d) : Y ≤ y := by
  refine Nat.le_of_not_lt fun hlt => ?_
  have := dby_mono (show y + 1 ≤ Y from hlt)
  have := (ymd2ord_bracket hy hm hd1 hd).2
  omega

theorem Civil.valid_iff (c : Civil) : c.valid = true ↔
    1 ≤ c.y ∧ c.y ≤ 9999 ∧ 1 ≤ c.mo ∧ c.mo ≤ 12 ∧ 1 ≤ c.d ∧ c.d ≤ daysInMonth (isLeap c.y) c.mo ∧
      c.hh < 24 ∧ c.mi < 60 ∧ c.ss < 60 := by
  simp only [Civil.valid, Bool.and_eq_true, decide_eq_true_eq, and_assoc]

theorem civilOfSeconds_spec (t : Nat) :
    let c := civilOfSeconds t
    YmdOk (t / 86400 + 1) (c.y, c.mo, c.d) ∧ c.hh < 24 ∧ c.mi < 60 ∧ c.ss < 60 ∧ secondsOfCivil c = t := by
  have spec := ord2ymd_spec (t / 86400 + 1) (by omega)
  generalize hr : ord2ymd (t / 86400 + 1) = r at spec
  obtain ⟨y, mo, d⟩ := r
  have hc : civilOfSeconds t = ⟨y, mo, d, t % 86400 / 3600, t % 86400 % 3600 / 60, t % 86400 % 60⟩ := by
    simp [civilOfSeconds, hr]
  rw [hc]
  refine ⟨spec, ?_, ?_, ?_, ?_⟩ <;> simp only [secondsOfCivil, spec.ord] <;> omega

end Wz.Date
