/-
C07T — "no client-controlled text makes request parsing raise", restated on the header parsers *as
regenerated from werkzeug's source* by `tools/py2lean.py` (`Gen/PyFns_Http.lean`,
`Gen/PyFns_HttpDict.lean`, `Gen/PyFns_HttpOptions.lean`, `Gen/PyFns_Etag.lean`): each translated
parser returns a value (`Safe` = no exception escapes) for every input text - the translation keeps
every `IndexError` / `ValueError` / `KeyError` / `TypeError` the Python code could raise as an explicit
error arm, so these theorems say that none of those arms is reachable. They follow from the equalities
with the hand model (Props/C06T, C06T2, C11T2) and C07's totality theorems about the model.
Property theorems only.
-/
import WzVerif.Props.C06T2
import WzVerif.Props.C11T2
import WzVerif.Lemmas.HttpSafe
import WzVerif.Lemmas.HttpCC
import WzVerif.Lemmas.HttpCRange
namespace Wz.Props.C07T
open Wz Wz.Http Wz.Pre

/-- `parse_list_header(s)`, as translated from the current source, returns a list for every `s`
(`item[0]` / `item[-1]` are only reached for an item of at least two characters). -/
theorem parse_list_header_total_safe (s : List Char) : Safe (Gen.PyFns_Http.parse_list_header s) :=
  ⟨_, C06T.parse_list_header_eq s⟩

/-- `parse_set_header(value)`, as translated, never raises - for every value including `None`. -/
theorem parse_set_header_total_safe (v : Option (List Char)) : Safe (Gen.PyFns_Http.parse_set_header v ()) :=
  ⟨_, C06T.parse_set_header_eq v⟩

/-- `parse_dict_header(s)`, as translated, returns a dict for every `s`: no IndexError from
`key[-1]` / `value[0]` / `value[-1]`, and `unquote()` is only reached with one of the four encodings. -/
theorem parse_dict_header_total_safe (s : List Char) : Safe (Gen.PyFns_HttpDict.parse_dict_header s) :=
  C06T2.parse_dict_header_total s

/-- `parse_cache_control_header(value)`, as translated, never raises. -/
theorem parse_cache_control_header_total_safe (v : Option (List Char)) :
    Safe (Gen.PyFns_HttpDict.parse_cache_control_header v () ()) := by
  rw [C06T2.parse_cache_control_header_eq]
  cases v with
  | none => exact ⟨_, rfl⟩
  | some s => exact parseCacheControl_safe s

/-- `parse_options_header(value)`, as translated (scanner loop, nested quoted-string loop, the
RFC 2231 pass), returns `(value, options)` for every text once the fuel covers the length of the
text: neither the marker error of the loops nor any IndexError / TypeError arm is reachable. -/
theorem parse_options_header_total_safe (fuel : Nat) (s : List Char) (hf : s.length ≤ fuel) :
    Safe (Gen.PyFns_HttpOptions.parse_options_header fuel (some s)) :=
  C06T2.parse_options_header_ok fuel s hf

/-- the fuel hypothesis is satisfiable -/
example : "text/html; charset=utf-8".toList.length ≤ 30 := by rw [String.toList_ofList]; decide

/-- `parse_content_range_header(value)`, as translated, never raises (the two-way unpackings of the
`split` calls are guarded, `_plain_int`'s ValueError is caught, the constructor's assertion holds). -/
theorem parse_content_range_header_total_safe (v : Option (List Char)) :
    Safe (Gen.PyFns_HttpDict.parse_content_range_header v ()) := by
  rw [C06T.parse_content_range_header_eq]
  cases v with
  | none => exact ⟨_, rfl⟩
  | some s => exact (parseContentRangeHeader_safe s).map _

/-- `parse_age(value)`, as translated, never raises (ValueError of `int()` and OverflowError of
`timedelta` are caught). -/
theorem parse_age_total_safe (v : Option (List Char)) : Safe (Gen.PyFns_HttpDict.parse_age v) := by
  rw [C06T.parse_age_eq]
  cases v with
  | none => exact ⟨_, rfl⟩
  | some s => exact (parseAge_safe s).map _

/-- `parse_csp_header(value)`, as translated, never raises (`split(" ", 1)` is only reached when a
space occurs). -/
theorem parse_csp_header_total_safe (v : Option (List Char)) :
    Safe (Gen.PyFns_HttpDict.parse_csp_header v () ()) := by
  cases v with
  | none => exact ⟨_, (C06T2.parse_csp_header_eq []).2⟩
  | some s => exact Safe.of_map (C06T2.parse_csp_header_eq s).1

/-- `parse_etags(value)`, as translated, returns an `ETags` object for every header text without a
line feed (fuel ≥ length + 1) - the hypothesis is needed: `parse_etags_lf_spins` (Props/C06T2). -/
theorem parse_etags_total_safe (fuel : Nat) (s : List Char) (hlf : '\n' ∉ s) (hf : s.length + 1 ≤ fuel) :
    Safe (Gen.PyFns_Etag.parse_etags fuel (some s)) :=
  ⟨_, (C06T2.parse_etags_eq fuel s hlf hf).1⟩

/-- the two hypotheses are satisfiable -/
example : '\n' ∉ "\"a\"".toList ∧ "\"a\"".toList.length + 1 ≤ 4 := by rw [String.toList_ofList]; decide

/-- `is_resource_modified(...)`, as translated together with the parsers it calls, never raises on
header texts without line feeds: the TypeError arms for `unquote_etag(etag)[0]` being `None` are
unreachable. -/
theorem is_resource_modified_total_safe (pd : List Char → Option Int)
    (range ifRange ims inm im etag : Option (List Char)) (lm : Option PyFnsEq.Etag.Inst) (ign : Bool)
    (h1 : PyFnsEq.Etag.NoLF ifRange) (h2 : PyFnsEq.Etag.NoLF inm) (h3 : PyFnsEq.Etag.NoLF im) :
    Safe (Gen.PyFns_Etag.is_resource_modified PyFnsEq.Etag.dle PyFnsEq.Etag.dropMicro (PyFnsEq.Etag.parseDateOf pd)
      (PyFnsEq.Etag.parseIfRangeT pd) PyFnsEq.Etag.parseEtagsT range ifRange ims inm im etag () lm ign) :=
  ⟨_, C11T2.is_resource_modified_translated pd range ifRange ims inm im etag lm ign h1 h2 h3⟩

/-- an absent header satisfies `NoLF` -/
example : PyFnsEq.Etag.NoLF none := by intro s hs; cases hs

end Wz.Props.C07T
