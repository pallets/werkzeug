/-
C01 is proved for parts given by the bytes of their header block (`RawPart`): whatever `_parse_headers`
and `parse_options_header` accept (`RawOk`), the part the decoder reports being read off `headEvent`
(`headOut`, `RawPart.out`). `rawBody` is the body such parts make; `rDataOf` / `rAfterOf` are what is
left of it after a header block / after a delimiter line, with `dataSpec_rDataOf` the single-shot
semantics of a data stretch. The encoder-shaped parts of `MultipartCodec` are the instance `rawOf`
(`rawOk_of_validPart`, `rawOf_out`).
-/
import WzVerif.Lemmas.MultipartCodec
import WzVerif.Lemmas.MultipartStep
namespace Wz.Multipart
open Wz

variable {nl : Nl} {ep : Bytes}

/-- a part on the wire: the bytes of its header block (without the blank line), its payload, and the
transport padding (RFC 2046) that follows `--boundary` on the delimiter line in front of it -/
structure RawPart where
  hdr : Bytes
  payload : Bytes
  pad : Bytes
deriving Repr, DecidableEq

def partOfEvent : Event → Part
  | .file n f h => ⟨true, n, some f, h, []⟩
  | .field n h => ⟨false, n, none, h, []⟩
  | _ => ⟨false, none, none, [], []⟩

/-- the part (without payload) the decoder reports for a header block -/
def headOut (H : Bytes) : Part :=
  match headEvent H with
  | .ok ev => partOfEvent ev
  | .error _ => ⟨false, none, none, [], []⟩

def RawPart.out (r : RawPart) : Part := { headOut r.hdr with payload := r.payload }

theorem headOut_of_ok {H : Bytes} {ev : Event} (h : headEvent H = .ok ev) : headOut H = partOfEvent ev := by
  unfold headOut; rw [h]

theorem partOfEvent_partHeadEvent {p : Part} (hf : p.isFile = p.filename.isSome) :
    partOfEvent (partHeadEvent p) = { p with payload := [] } := by
  obtain ⟨isFile, name, filename, headers, payload⟩ := p
  cases filename <;> simp only [Option.isSome] at hf <;> subst hf <;> rfl

theorem headOut_spec {H : Bytes} {ev : Event} (h : headEvent H = .ok ev) : partHeadEvent (headOut H) = ev := by
  have hp := headEvent_isPart h
  unfold headOut
  rw [h]
  cases ev <;> first | rfl | cases hp

/-- a raw part the theorems cover (decidable): the header block is not empty and does not start with a
line break (it may start with other white space), its first blank line is the one that ends it, the decoder
makes a Field / File event of it (`headEvent`: `_parse_headers`, Content-Disposition present,
`parse_options_header` succeeds), the transport padding on its delimiter line is horizontal white
space (any amount), and the payload has no line starting with `--boundary` and is free of the other
newline kind. Header lines may be folded, padded with white space, broken with any line
break, come in any order and number. -/
def RawOk (nl : Nl) (bnd : Bytes) (r : RawPart) : Prop :=
  isNl (r.hdr.headD 10) = false ∧
  searchBlank (r.hdr ++ (nl.bytes ++ nl.bytes)) = some (r.hdr.length, r.hdr.length + 2 * nl.len) ∧
  (headEvent r.hdr).toOption.isSome = true ∧
  (∀ x ∈ r.pad, isHws x = true) ∧
  PayloadOkNl nl bnd r.payload

instance (nl : Nl) (bnd : Bytes) (r : RawPart) : Decidable (RawOk nl bnd r) := by
  unfold RawOk; infer_instance

theorem RawOk.blank {bnd : Bytes} {r : RawPart} (h : RawOk nl bnd r) :
    searchBlank (r.hdr ++ (nl.bytes ++ nl.bytes)) = some (r.hdr.length, r.hdr.length + 2 * nl.len) := h.2.1

theorem RawOk.pad_hws {bnd : Bytes} {r : RawPart} (h : RawOk nl bnd r) : ∀ x ∈ r.pad, isHws x = true := h.2.2.2.1

theorem RawOk.payload {bnd : Bytes} {r : RawPart} (h : RawOk nl bnd r) : PayloadOkNl nl bnd r.payload := h.2.2.2.2

theorem rawOk_head {bnd : Bytes} {r : RawPart} (h : RawOk nl bnd r) :
    ∃ x t, r.hdr = x :: t ∧ isNl x = false := by
  have h1 := h.1
  cases hh : r.hdr with
  | nil => rw [hh] at h1; simp [isNl] at h1
  | cons x t => rw [hh] at h1; exact ⟨x, t, rfl, by simpa using h1⟩

theorem RawPart.out_isFile (r : RawPart) : r.out.isFile = r.out.filename.isSome := by
  unfold RawPart.out headOut
  cases headEvent r.hdr with
  | error e => rfl
  | ok ev => cases ev <;> rfl

theorem rawOk_event {bnd : Bytes} {r : RawPart} (h : RawOk nl bnd r) :
    headEvent r.hdr = .ok (partHeadEvent r.out) := by
  have h3 := h.2.2.1
  cases he : headEvent r.hdr with
  | error e => rw [he] at h3; simp [Except.toOption] at h3
  | ok ev =>
    rw [← headOut_spec he]
    unfold RawPart.out partHeadEvent
    rfl

def rawPartBytes (nl : Nl) (bnd : Bytes) (r : RawPart) : Bytes :=
  nl.bytes ++ (delim bnd ++ (r.pad ++ (nl.bytes ++ (r.hdr ++ (nl.bytes ++ framedNl nl r.payload)))))

/-- `NL--boundary pad NL headers NL NL payload … NL--boundary--` + `ep` -/
def rawBody (nl : Nl) (bnd ep : Bytes) : List RawPart → Bytes
  | [] => closing nl bnd ep
  | r :: rs => rawPartBytes nl bnd r ++ rawBody nl bnd ep rs

/-- the buffer after the line break that ends the last header line of part `r` -/
def rDataOf (nl : Nl) (bnd ep : Bytes) (r : RawPart) (rs : List RawPart) : Bytes :=
  framedNl nl r.payload ++ rawBody nl bnd ep rs

/-- what follows `NL--boundary` in the body for the remaining parts -/
def rTailOf (nl : Nl) (bnd ep : Bytes) : List RawPart → Bytes
  | [] => 45 :: 45 :: ep
  | r :: rs => r.pad ++ (nl.bytes ++ (r.hdr ++ (nl.bytes ++ rDataOf nl bnd ep r rs)))

/-- the buffer once that delimiter has been consumed -/
def rAfterOf (nl : Nl) (bnd ep : Bytes) : List RawPart → Bytes
  | [] => epiOf ep
  | r :: rs => r.hdr ++ (nl.bytes ++ rDataOf nl bnd ep r rs)

theorem rawBody_eq (bnd : Bytes) (rs : List RawPart) :
    rawBody nl bnd ep rs = nl.bytes ++ (delim bnd ++ rTailOf nl bnd ep rs) := by
  cases rs with
  | nil => rfl
  | cons r rs => simp [rawBody, rawPartBytes, rTailOf, rDataOf]

theorem rAfterDelim_tailOf {bnd : Bytes} (rs : List RawPart) (hv : ∀ q ∈ rs, RawOk nl bnd q) :
    AfterDelimNl nl (rTailOf nl bnd ep rs) rs.isEmpty (rAfterOf nl bnd ep rs) := by
  cases rs with
  | nil => exact .closing nl ep
  | cons r rs =>
    have hr := hv r (by simp)
    rcases rawOk_head hr with ⟨x, t, hx, hsp⟩
    have := AfterDelimNl.next nl (t ++ (nl.bytes ++ rDataOf nl bnd ep r rs)) hr.pad_hws (isNl_eq_false_iff.1 hsp).1
    simpa only [rTailOf, rAfterOf, hx, List.cons_append, List.isEmpty_cons] using this

theorem rAfterOf_cons (bnd : Bytes) (r : RawPart) (rs : List RawPart) :
    rAfterOf nl bnd ep (r :: rs) = r.hdr ++ (nl.bytes ++ rDataOf nl bnd ep r rs) := rfl

theorem rAfterOf_cons_blank (bnd : Bytes) (r : RawPart) (rs : List RawPart) :
    ∃ Z, rAfterOf nl bnd ep (r :: rs) = r.hdr ++ (nl.bytes ++ (nl.bytes ++ Z)) ∧
      rDataOf nl bnd ep r rs = nl.bytes ++ Z := by
  suffices h : ∃ Z, rDataOf nl bnd ep r rs = nl.bytes ++ Z by
    obtain ⟨Z, hZ⟩ := h
    exact ⟨Z, by rw [rAfterOf_cons, hZ], hZ⟩
  unfold rDataOf framedNl
  cases hp : r.payload.isEmpty with
  | true => simp only [if_true, List.nil_append]; rw [rawBody_eq]; exact ⟨_, rfl⟩
  | false => exact ⟨r.payload ++ rawBody nl bnd ep rs, by simp⟩

theorem dataSpec_rDataOf {bnd : Bytes} (hb : BoundaryOk bnd) (r : RawPart) (rs : List RawPart)
    (hv : RawOk nl bnd r) (hvs : ∀ q ∈ rs, RawOk nl bnd q) :
    dataSpec bnd true (rDataOf nl bnd ep r rs) = some (r.payload, rs.isEmpty, rAfterOf nl bnd ep rs) := by
  unfold rDataOf framedNl
  rw [rawBody_eq]
  cases hp : r.payload with
  | nil =>
    simp only [List.isEmpty_nil, if_true, List.nil_append]
    exact dataSpec_encoded_empty_nl (bnd := bnd) _ (rAfterDelim_tailOf rs hvs)
  | cons a t =>
    simp only [List.isEmpty_cons, Bool.false_eq_true, if_false]
    exact dataSpec_encoded_nl hb (a :: t) (rTailOf nl bnd ep rs) (by rw [← hp]; exact hv.payload)
      (rAfterDelim_tailOf rs hvs)

theorem lbLen_rDataOf {bnd : Bytes} (r : RawPart) (rs : List RawPart) (hv : RawOk nl bnd r) :
    lbLen (rDataOf nl bnd ep r rs) = nl.len := by
  unfold rDataOf framedNl
  rw [rawBody_eq]
  cases hp : r.payload.isEmpty with
  | true => simp only [if_true, List.nil_append]; exact nl.lbLen_delim bnd _
  | false =>
    simp only [Bool.false_eq_true, if_false]
    exact Nl.lbLen_data _ _ hv.payload.noOther

def rawOf (nl : Nl) (p : Part) : RawPart := ⟨hdrBlock nl (nameOf p) p, p.payload, []⟩

theorem rawBody_map (bnd : Bytes) (ps : List Part) :
    rawBody nl bnd ep (ps.map (rawOf nl)) = encBody nl bnd ep ps := by
  induction ps with
  | nil => rfl
  | cons p ps ih => simp only [List.map_cons, rawBody, encBody, ih]; rfl

theorem headEvent_hdrBlock {bnd : Bytes} {p : Part} (hv : ValidPart nl bnd p) :
    headEvent (hdrBlock nl (nameOf p) p) = .ok (partHeadEvent (decodedPart p)) := by
  have hf := validPart_facts hv
  have hok := allHeadersOk hv
  have hparse : parseHeaders (hdrBlock nl (nameOf p) p) = .ok (cdHeader (nameOf p) p.filename :: p.headers) :=
    parseHeaders_block nl _ hok
  have hopt := FormOptions.parseOptions_disposition_lemma (nameOf p) p.filename hf.name.1
    (fun x hx => (hf.filename x hx).1)
  have hnm := validPart_name hv
  rw [headEvent_of_parse hparse (headerGet_cd _ _ _) hopt, lookup_name, lookup_filename]
  cases hfn : p.filename with
  | none => simp [partHeadEvent, decodedPart, hfn, hnm]
  | some x => simp [partHeadEvent, decodedPart, hfn, hnm]

theorem rawOf_out {bnd : Bytes} {p : Part} (hv : ValidPart nl bnd p) : (rawOf nl p).out = decodedPart p := by
  have hf : (decodedPart p).isFile = (decodedPart p).filename.isSome := (validPart_facts hv).isFile
  show ({ headOut (hdrBlock nl (nameOf p) p) with payload := p.payload } : Part) = _
  rw [headOut_of_ok (headEvent_hdrBlock hv), partOfEvent_partHeadEvent hf]
  rfl

theorem rawOk_of_validPart {bnd : Bytes} {p : Part} (hv : ValidPart nl bnd p) : RawOk nl bnd (rawOf nl p) := by
  have hlines := linesOk_of_headersOk (allHeadersOk hv)
  refine ⟨?_, ?_, ?_, by simp [rawOf], (validPart_facts hv).payload⟩
  · rcases hdrBlock_head nl (nameOf p) p with ⟨r, hr⟩
    simp only [rawOf, hr, List.headD_cons]
    decide
  · have := searchBlank_block nl _ [] hlines
    simpa [rawOf, hdrBlock] using this
  · simp only [rawOf]
    rw [headEvent_hdrBlock hv]
    rfl

theorem map_rawOf_out {bnd : Bytes} (ps : List Part) (hv : ∀ p ∈ ps, ValidPart nl bnd p) :
    (ps.map (rawOf nl)).map RawPart.out = ps.map decodedPart := by
  induction ps with
  | nil => rfl
  | cons p ps ih =>
    simp only [List.map_cons]
    rw [rawOf_out (hv p (by simp)), ih (fun q hq => hv q (by simp [hq]))]

end Wz.Multipart
