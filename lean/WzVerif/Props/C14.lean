/-
C14 — untrusted paths and filenames cannot escape the trusted directory.

Vocabulary: `segments s` = the components of `s.split("/")` other than `""` and `"."`;
`initialSlashes s` = normpath's root class of `s` (0 relative, 1 `/`, 2 `//`);
`Clean c` = `c` is a non-empty component other than `.` and `..` that contains no `/`;
`Inside d p` = the normalised segments of `d` are a prefix of those of `p`, only clean components
follow, same root class; `Refused alts f` = `f` is non-empty and absolute / climbing / contains an
alternative separator after normalisation; `ServedFrom isfile e path p` = how a served file `p`
relates to the export `e` that produced it (Lemmas/PathsGlue.lean).

Outside the model, hence outside every theorem here (also listed in the check's `assumptions`):
the file system itself - symbolic links, case-insensitive or normalising file systems, races between
`os.path.isfile` and `open` -; containment is *lexical*. `os.path.isfile`, `is_allowed`/`fnmatch`,
`importlib`'s resource reader and `unicodedata.normalize("NFKD", ·)` are opaque parameters.
`FileStorage.save(dst)` uses `dst` as given: the property only speaks about `secure_filename`,
which the application has to call itself; nothing of `FileStorage` is modelled.
-/
import WzVerif.Lemmas.Paths
import WzVerif.Lemmas.PathsRefuse
import WzVerif.Lemmas.PathsGlue
import WzVerif.Lemmas.SecureFilename
import WzVerif.Model.StaticFiles
import WzVerif.Gen.StaticGlue
import WzVerif.Lemmas.TableSweep
namespace Wz.Props.C14
open Wz Wz.Paths

/-- The Windows device-file branch of `secure_filename` is dead on the platform the model is
generated for (`os.name != "nt"`), so leaving it out of `secureAscii` loses nothing. -/
theorem windows_branch_dead : Gen.Paths.osNameNt = false := by decide

/-- Shape of `posixpath.normpath`'s result for every path: its segments are a block of `..`
followed only by clean components (no `.`, `..`, empty component, or `/` inside a component);
an absolute path keeps no `..` at all. -/
theorem normpath_shape (p : Str) :
    ∃ k rest, segments (normpath p) = List.replicate k dotdot ++ rest ∧
      (isabs p = true → k = 0) ∧ ∀ c ∈ rest, Clean c := by
  obtain ⟨k, rest, hs, hk, hr⟩ := normSegs_shape p
  exact ⟨k, rest, by rw [segments_normpath, hs], fun h => hk ((isabs_iff p).mp h), hr⟩

example : segments (normpath "a/./b//../../../c/".toList) = [dotdot, "c".toList] := by
  repeat rw [String.toList_ofList]
  decide +kernel
example : segments (normpath "//a/../../b".toList) = ["b".toList] := by
  repeat rw [String.toList_ofList]
  decide +kernel

/-- The text `normpath` returns is never empty and is exactly the canonical rendering of its own
segments under its own root class: no repeated, trailing or stray slashes, `"."` only for the empty
relative path. -/
theorem normpath_text (p : Str) :
    normpath p ≠ [] ∧
    normpath p = render (initialSlashes (normpath p)) (segments (normpath p)) := by
  refine ⟨normpath_ne_nil p, ?_⟩
  by_cases hp : p = []
  · subst hp; decide
  · rw [segments_normpath, initialSlashes_normpath, normpath_eq_render hp]

/-- `normpath` is idempotent and preserves the root class (relative, `/`, `//`). -/
theorem normpath_idempotent (p : Str) :
    normpath (normpath p) = normpath p ∧ initialSlashes (normpath p) = initialSlashes p :=
  ⟨normpath_idem p, initialSlashes_normpath p⟩

/-- **Containment.** Whenever `safe_join(directory, *pathnames)` returns a path (for every trusted
directory - absolute, relative, empty, root -, any number of untrusted components over arbitrary
characters incl. NUL and backslash, and any list of alternative separators), the normalised result
has the normalised directory's segments as a prefix, continues only with clean components (so it
never climbs out through `..`), and keeps the directory's root class. -/
theorem safe_join_contained (alts : List Char) (d : Str) (ps : List Str) (p : Str)
    (h : safeJoinWith alts d ps = some p) :
    ∃ extra, segments (normpath p) = segments (normpath d) ++ extra ∧
      (∀ c ∈ extra, Clean c) ∧
      initialSlashes (normpath p) = initialSlashes (normpath d) :=
  safeJoinWith_contained h

example : safeJoinWith [] "/srv/root".toList ["a/../b".toList, "".toList, "c".toList]
    = some "/srv/root/b/c".toList := by
  repeat rw [String.toList_ofList]
  decide +kernel
example : safeJoinWith [] "".toList ["x\x00\\..".toList] = some "./x\x00\\..".toList := by
  repeat rw [String.toList_ofList]
  decide +kernel

/-- The same for this platform's `_os_alt_seps` (regenerated from the source). -/
theorem safe_join_contained_here (d : Str) (ps : List Str) (p : Str) (h : safeJoin d ps = some p) :
    (segments (normpath d)) <+: (segments (normpath p)) ∧ dotdot ∉ (segments (normpath p)).drop (segments (normpath d)).length := by
  obtain ⟨extra, h1, h2, _⟩ := safe_join_contained _ d ps p h
  refine ⟨⟨extra, h1.symm⟩, ?_⟩
  rw [h1, List.drop_left]
  intro hm
  exact (h2 _ hm).ne_dotdot rfl

example : safeJoin "rel".toList ["a".toList, "b/../c".toList] = some "rel/a/c".toList := by
  repeat rw [String.toList_ofList]
  decide +kernel

/-- Refusals the property text lists: a component that normalises to `..`, starts with `../`, or is
absolute is refused whatever precedes or follows it. -/
theorem safe_join_refuses (alts : List Char) (d : Str) (pre post : List Str) (f : Str)
    (hf : f ≠ []) (hbad : normpath f = dotdot ∨ (['.', '.', '/'] : Str).isPrefixOf (normpath f) = true ∨
      isabs (normpath f) = true) :
    safeJoinWith alts d (pre ++ f :: post) = none := by
  have hr : Refused alts f := by
    rw [refused_iff_text, normOrEmpty, if_neg hf]
    rcases hbad with h | h | h
    · exact .inr (.inr (.inl h))
    · exact .inr (.inr (.inr h))
    · exact .inr (.inl h)
  rw [safeJoinWith_eq, if_pos ⟨f, by simp, hr⟩]

example : safeJoinWith [] "/srv".toList ["a".toList, "b/../..".toList] = none := by
  repeat rw [String.toList_ofList]
  decide +kernel

/-- **Exactly what `safe_join` refuses.** For every directory, every number of components and every
alternative-separator list: the result is `None` iff some component is refused, and a component is
refused iff it is not the empty string and (it is absolute, or the first segment of its normal form
is `..` - i.e. it climbs above where it starts -, or its normal form contains an alternative
separator). Nothing else is refused: `.`, `""`, `~`, `C:`, backslashes (POSIX), percent-encoded
dots, NUL and names with dots are all accepted; `a/../..`, `/x`, `//x`, `..` are refused wherever
they stand. -/
theorem safe_join_refuses_iff (alts : List Char) (d : Str) (ps : List Str) :
    safeJoinWith alts d ps = none ↔ ∃ f ∈ ps, Refused alts f := by
  rw [safeJoinWith_eq]
  split <;> simp [*]

example : Refused [] "a/../..".toList := by
  repeat rw [String.toList_ofList]
  decide +kernel
example : Refused ['\\'] "a\\b".toList := by
  repeat rw [String.toList_ofList]
  decide +kernel
example : ∀ f ∈ ["..a", "a..", "...", ".", "", "~", "C:", "C:\\x", "\\..\\", "%2e%2e", "%2e%2e/x", "a\x00b",
    "a/../b", "./"].map String.toList, ¬ Refused [] f := by decide +kernel
example : ∀ f ∈ ["..", "../", "../a", "a/../..", "./..", "/", "//", "/a", "//a", ".//../x"].map String.toList,
    Refused [] f := by
  repeat rw [String.toList_ofList]
  decide +kernel

/-- **Exactly what `safe_join` returns otherwise**: when no component is refused, the result is
`posixpath.join(directory or ".", *components)` with every non-empty component replaced by its
`normpath` - nothing else is rewritten, decoded or dropped. -/
theorem safe_join_result (alts : List Char) (d : Str) (ps : List Str)
    (h : ∀ f ∈ ps, ¬ Refused alts f) :
    safeJoinWith alts d ps = some (join (if d = [] then dot else d) (ps.map normOrEmpty)) := by
  rw [safeJoinWith_eq, if_neg fun ⟨f, hf, hr⟩ => h f hf hr]

example : ∀ f ∈ ["a/./b".toList, [], "%2e%2e".toList], ¬ Refused [] f := by
  repeat rw [String.toList_ofList]
  decide +kernel
example : safeJoinWith [] [] ["a/./b".toList, [], "%2e%2e".toList] = some "./a/b/%2e%2e".toList := by
  repeat rw [String.toList_ofList]
  decide +kernel

/-- **The static-file helpers never open a file outside their root.** For every request path (any
text: what is left after percent-decoding, incl. `..`, `//`, NUL, backslashes), every directory,
every `is_allowed` predicate and every state of the file system (`isfile` is an arbitrary predicate):
* whatever `send_from_directory` sends is exactly `safe_join(directory, path)`, lies inside
  `directory`, and is a file; otherwise NotFound;
* whatever `SharedDataMiddleware` serves comes from one of its exports and is related to it as
  `ServedFrom` says: a directory export serves `safe_join(directory, rest)` (inside the directory,
  `rest` = the request path behind `key/`, cleaned by nothing but `safe_join`) or the directory value
  itself under its exact key; a single-file export serves that file; a package export serves
  `pkgDir/safe_join(package_path, rest)`, inside `pkgDir/package_path`. A path outside every export
  root is never served. -/
theorem served_path_inside_root (isfile allowed : Str → Bool) :
    (∀ d path p, sendFromDirectory isfile d path = some p →
      safeJoin d [path] = some p ∧ Inside d p ∧ isfile p = true) ∧
    (∀ exports path p, sharedData isfile allowed exports path = some p →
      ∃ e ∈ exports, ServedFrom isfile e path p) := by
  refine ⟨?_, ?_⟩
  · intro d path p h
    obtain ⟨h1, h2⟩ := joinIfFile_eq_some_iff.mp h
    exact ⟨h1, safeJoinWith_contained h1, h2⟩
  · intro exports path p h
    obtain ⟨pre, e, post, name, rfl, _, he, _⟩ := (sharedData_eq_some_iff ..).mp h
    exact ⟨e, by simp, tryExport_served he⟩

example : sendFromDirectory (fun _ => true) "/srv/root".toList "a/../b.txt".toList
    = some "/srv/root/b.txt".toList := by
  repeat rw [String.toList_ofList]
  decide +kernel
example : sendFromDirectory (fun _ => true) "/srv/root".toList "../secret".toList = none := by
  repeat rw [String.toList_ofList]
  decide +kernel
example : sharedData (fun p => p == "/srv/root/x.css".toList) (fun _ => true)
    [("/static".toList, .dir "/srv/root".toList)] "/static/x.css".toList = some "/srv/root/x.css".toList := by
  repeat rw [String.toList_ofList]
  decide +kernel
example : sharedData (fun _ => true) (fun _ => true) [("/static".toList, .dir "/srv/root".toList)]
    "/static/../../etc/passwd".toList = none := by
  repeat rw [String.toList_ofList]
  decide +kernel
/-- a directory exported at the mount point `/`: a request path with two leading slashes leaves an
absolute remainder, which `safe_join` refuses -/
example : sharedData (fun _ => true) (fun _ => true) [("/".toList, .dir "/srv/root".toList)]
    "//etc/passwd".toList = none := by
  repeat rw [String.toList_ofList]
  decide +kernel
/-- backslashes are ordinary characters on POSIX: the package loader hands them through unchanged -/
example : sharedData (fun _ => true) (fun _ => true) [("/static".toList, .pkg "/pkg".toList "static".toList)]
    "/static/..\\..\\secret.txt".toList = some "/pkg/static/..\\..\\secret.txt".toList := by
  repeat rw [String.toList_ofList]
  decide +kernel
/-- a single-file export answers for its key and for everything below it -/
example : sharedData (fun _ => false) (fun _ => true) [("/robots.txt".toList, .file "/srv/r.txt".toList)]
    "/robots.txt/../../x".toList = some "/srv/r.txt".toList := by
  repeat rw [String.toList_ofList]
  decide +kernel

/-- **Which export answers** (the loop of `SharedDataMiddleware.__call__`, read off the code): the
exports are tried in the order of `self.exports` (dict / list order as given to the constructor -
not longest-prefix); the *first* export whose loader yields a file wins and ends the loop; an
export that matches the path but has no such file (or refuses it) does not stop later exports from
being tried; if the winner's `real_filename` is not allowed the wrapped application is called and
no later export is tried. -/
theorem shared_data_first_match (isfile allowed : Str → Bool) (exports : List (Str × Export))
    (path : Str) :
    (∀ p, sharedData isfile allowed exports path = some p ↔
      ∃ pre e post name, exports = pre ++ e :: post ∧
        (∀ e' ∈ pre, tryExport isfile e'.1 e'.2 path = none) ∧
        tryExport isfile e.1 e.2 path = some (name, p) ∧ allowed name = true) ∧
    (sharedData isfile allowed exports path = none ↔
      (∀ e ∈ exports, tryExport isfile e.1 e.2 path = none) ∨
      ∃ r, findExport isfile exports path = some r ∧ allowed r.1 = false) :=
  ⟨sharedData_eq_some_iff isfile allowed exports path,
    by rw [sharedData_eq_none_iff, findExport_eq_none_iff]⟩

/-- an earlier export that matches but has no such file lets a later export answer -/
example : sharedData (fun p => p == "/b/x".toList) (fun _ => true)
    [("/s".toList, .dir "/a".toList), ("/s".toList, .dir "/b".toList)] "/s/x".toList = some "/b/x".toList := by
  repeat rw [String.toList_ofList]
  decide +kernel
/-- list order, not prefix length, decides -/
example : sharedData (fun _ => true) (fun _ => true)
    [("/s".toList, .dir "/a".toList), ("/s/t".toList, .dir "/b".toList)] "/s/t/x".toList = some "/a/t/x".toList := by
  repeat rw [String.toList_ofList]
  decide +kernel
/-- a disallowed winner ends the search -/
example : sharedData (fun _ => true) (fun n => n != "x".toList)
    [("/s".toList, .dir "/a".toList), ("/s".toList, .file "/b/y".toList)] "/s/x".toList = none := by
  repeat rw [String.toList_ofList]
  decide +kernel

/-- **`disallow` only ever removes files**: whatever is served passed `is_allowed`, and for directory
and single-file exports the name tested is the base name of the very file that is opened. -/
theorem shared_data_disallow (isfile allowed : Str → Bool) (exports : List (Str × Export)) (path p : Str)
    (h : sharedData isfile allowed exports path = some p) :
    sharedData isfile (fun _ => true) exports path = some p ∧
    ((∀ e ∈ exports, ∀ pd pp, e.2 ≠ .pkg pd pp) → allowed (basename p) = true) := by
  obtain ⟨pre, e, post, name, rfl, hpre, he, ha⟩ := (sharedData_eq_some_iff ..).mp h
  refine ⟨(sharedData_eq_some_iff ..).mpr ⟨pre, e, post, name, rfl, hpre, he, rfl⟩, fun hex => ?_⟩
  rw [← show name = basename p from tryExport_name_dir_file he (hex e (by simp))]
  exact ha

example : sharedData (fun _ => true) (fun n => n != "x.py".toList) [("/s".toList, .dir "/a".toList)]
    "/s/y.css".toList = some "/a/y.css".toList := by
  repeat rw [String.toList_ofList]
  decide +kernel

/-- **Which loader an export value gets** (`SharedDataMiddleware.__init__`): a tuple is a package
export; a `str` that is a regular file when the middleware is built is a single-file export,
otherwise a directory export; the order of the exports is kept. -/
theorem shared_data_exports_init (isfileInit : Str → Bool) (specs : List (Str × ExportSpec)) :
    (mkExports isfileInit specs).map (·.1) = specs.map (·.1) ∧
    ∀ k v, (k, v) ∈ specs →
      (k, match v with
          | .path s => if isfileInit s then Export.file s else Export.dir s
          | .package pd pp => Export.pkg pd pp) ∈ mkExports isfileInit specs := by
  refine ⟨by simp [mkExports, Function.comp_def], ?_⟩
  intro k v h
  unfold mkExports
  refine List.mem_map.mpr ⟨(k, v), h, ?_⟩
  cases v <;> rfl

/-- two file-system states: a `str` value that names nothing when the middleware is built gets the
directory loader; once it is a regular file it is served under its exact key (`loader(None)`, the
value itself - the export root), not below it (stream static-files, export kind `late:`) -/
example : sharedData (fun p => p == "/srv/late".toList) (fun _ => true)
    (mkExports (fun _ => false) [("/static".toList, .path "/srv/late".toList)]) "/static".toList
    = some "/srv/late".toList := by
  repeat rw [String.toList_ofList]
  decide +kernel
example : sharedData (fun p => p == "/srv/late".toList) (fun _ => true)
    (mkExports (fun _ => false) [("/static".toList, .path "/srv/late".toList)]) "/static/x".toList
    = none := by
  repeat rw [String.toList_ofList]
  decide +kernel

/-- **`_root_path`, when absolute or empty** (what Flask passes is `app.root_path`, an absolute
path): the file `send_file` opens is the file that was tested with `os.path.isfile`, it is
`join(_root_path, safe_join(directory, path))`, and it lies inside `join(_root_path, directory)`;
without `_root_path` the tested and the opened path are the `safe_join` result itself. -/
theorem send_from_directory_root_partial (isfile : Str → Bool) (root : Option Str) (d path tested opened : Str)
    (hroot : ∀ r, root = some r → r = [] ∨ isabs r = true)
    (h : sendFromDirectoryRoot isfile root d path = some (tested, opened)) :
    opened = tested ∧ isfile tested = true ∧
    ∃ p, safeJoin d [path] = some p ∧
      match root with
      | none => tested = p ∧ Inside d p
      | some r => tested = join r [p] ∧ Inside (join r [if d = [] then dot else d]) tested := by
  obtain ⟨p, hj, rfl, hf, rfl⟩ := sendFromDirectoryRoot_eq_some_iff.mp h
  cases root with
  | none => exact ⟨rfl, hf, p, hj, rfl, safeJoinWith_contained hj⟩
  | some r =>
    exact ⟨sendFileOpened_sfdChecked (hroot r rfl) p, hf, p, hj, rfl, safeJoinWith_inside_under hj r⟩

example : sendFromDirectoryRoot (fun _ => true) (some "/app".toList) "static".toList "a/../x.css".toList
    = some ("/app/static/x.css".toList, "/app/static/x.css".toList) := by
  repeat rw [String.toList_ofList]
  decide +kernel
example : ∀ r, some "/app".toList = some r → r = [] ∨ isabs r = true := by
  intro r h; cases h; right; decide
example : sendFromDirectoryRoot (fun _ => true) none "static".toList "x.css".toList
    = some ("static/x.css".toList, "static/x.css".toList) := by
  repeat rw [String.toList_ofList]
  decide +kernel

/-- **Finding F14b: a relative `_root_path` is joined twice.** `send_from_directory` joins
`_root_path` onto the `safe_join` result, tests *that* path with `os.path.isfile`, and passes it on
to `send_file` together with the same `_root_path`, which joins it again: for `_root_path="r"`,
`directory="d"`, `path="x.txt"` the file tested is `r/d/x.txt` but the file opened is
`r/r/d/x.txt` - not the tested file and not inside `r/d`. (So the hypothesis of
`send_from_directory_root_partial` is necessary.) -/
theorem send_from_directory_root_full_false :
    ¬ ∀ (isfile : Str → Bool) (root : Option Str) (d path tested opened : Str),
      sendFromDirectoryRoot isfile root d path = some (tested, opened) → opened = tested := by
  intro h
  have := h (fun _ => true) (some "r".toList) "d".toList "x.txt".toList "r/d/x.txt".toList
    "r/r/d/x.txt".toList (by decide +kernel)
  revert this
  decide +kernel

/-- the opened file of the F14b witness is outside the directory the request was confined to -/
example : ¬ (segments (normpath "r/d".toList) <+: segments (normpath "r/r/d/x.txt".toList)) := by
  repeat rw [String.toList_ofList]
  decide +kernel

/-- **Nothing decodes or rewrites the path behind the containment check** (AST facts, every run):
in `send_from_directory`, in the directory loader and in the package loader of
`SharedDataMiddleware`, the joined path variable is only ever assigned the result of `safe_join`
(plus the trusted `_root_path` prefix / the export directory itself), and the only functions called
are the file tests, the openers and `safe_join` - no `unquote`, no `replace`, no `normpath`. This is
what makes `sendFromDirectory` / `directoryLoader` / `packageLoader` (join, then test, then open the
very same text) a faithful model. -/
theorem glue_keeps_checked_path :
    (∀ a ∈ Gen.StaticGlue.sfdAssigns,
      a ∈ ["safe_join(os.fspath(directory), os.fspath(path))", "os.path.join(kwargs['_root_path'], path_str)"]) ∧
    (∀ a ∈ Gen.StaticGlue.dirLoaderAssigns, a ∈ ["safe_join(directory, path)", "directory"]) ∧
    (∀ a ∈ Gen.StaticGlue.pkgLoaderAssigns, a ∈ ["safe_join(package_path, path)"]) ∧
    (∀ c ∈ Gen.StaticGlue.sfdCalls,
      c ∈ ["NotFound", "os.fspath", "os.path.isfile", "os.path.join", "safe_join", "send_file"]) ∧
    (∀ c ∈ Gen.StaticGlue.dirLoaderCalls,
      c ∈ ["os.path.basename", "os.path.isfile", "safe_join", "self._opener"]) ∧
    (∀ c ∈ Gen.StaticGlue.pkgLoaderCalls,
      c ∈ ["datetime.fromtimestamp", "isinstance", "len", "os.path.getmtime", "os.path.getsize",
        "posixpath.basename", "reader.open_resource", "resource.getvalue", "safe_join"]) := by
  decide +kernel

/-- **The loaders test and open the path they joined** (AST facts, every run): the directory loader
tests `os.path.isfile(path)` and returns `basename(path)` with `self._opener(path)`; `_opener` opens
its argument; the package loader opens `reader.open_resource(path)`; the file loader is
`lambda x: (basename(filename), self._opener(filename))` whatever `x` is. -/
theorem glue_loaders_shape :
    Gen.StaticGlue.dirLoaderTests = ["path is not None", "path is None", "os.path.isfile(path)"] ∧
    Gen.StaticGlue.dirLoaderReturns =
      ["None | None", "os.path.basename(path) | self._opener(path)", "None | None"] ∧
    Gen.StaticGlue.openerOpenArgs = ["filename, 'rb'"] ∧
    Gen.StaticGlue.pkgLoaderTests = ["path is None", "path is None", "isinstance(resource, BytesIO)"] ∧
    Gen.StaticGlue.pkgOpenArgs = ["path"] ∧
    Gen.StaticGlue.pkgLoaderReturns =
      ["None | None", "None | None", "None | None", "basename | <lambda>", "basename | <lambda>"] ∧
    Gen.StaticGlue.fileLoaderReturns = ["lambda x: (os.path.basename(filename), self._opener(filename))"] :=
  ⟨rfl, rfl, rfl, rfl, rfl, rfl, rfl⟩

/-- **The export loop of `SharedDataMiddleware.__call__` has the shape `tryExport` / `findExport` /
`sharedData` model** (AST facts, every run): the request path is `get_path_info(environ)` and is
never re-assigned (no normalisation, no decoding); the loop runs over `self.exports` in order;
its tests are `search_path == path` → `loader(None)`, then `search_path += "/"` unless it ends with
a slash, then `path.startswith(search_path)` → `loader(path[len(search_path):])` (slicing, not
`lstrip`/`replace`), each followed by `break` when a file loader came back; nothing else is called
in the loop; afterwards the only gate is `file_loader is None or not self.is_allowed(real_filename)`.
`__init__`: tuple → package loader, `str` → file loader if `os.path.isfile(value)` else directory
loader; a mapping contributes `exports.items()`; `disallow` installs `not fnmatch(x, disallow)`. -/
theorem glue_export_loop_shape :
    Gen.StaticGlue.callPathAssigns = ["get_path_info(environ)"] ∧
    Gen.StaticGlue.callSearchAssigns = ["search_path += '/'"] ∧
    Gen.StaticGlue.callLoopHead = ["(search_path, loader)", "self.exports"] ∧
    Gen.StaticGlue.callLoopTests = ["search_path == path", "file_loader is not None",
      "not search_path.endswith('/')", "path.startswith(search_path)", "file_loader is not None"] ∧
    Gen.StaticGlue.callLoaderArgs = ["None", "path[len(search_path):]"] ∧
    Gen.StaticGlue.callLoopCalls = ["len", "loader", "path.startswith", "search_path.endswith"] ∧
    Gen.StaticGlue.callLoopBreaks = 2 ∧ Gen.StaticGlue.callLoopContinues = 0 ∧
    Gen.StaticGlue.callGate = ["file_loader is None or not self.is_allowed(real_filename)"] ∧
    Gen.StaticGlue.initLoopHead = ["(key, value)", "exports"] ∧
    Gen.StaticGlue.initTests = ["isinstance(value, tuple)", "isinstance(value, str)", "os.path.isfile(value)"] ∧
    Gen.StaticGlue.initLoaderAssigns = ["self.get_package_loader(*value)", "self.get_file_loader(value)",
      "self.get_directory_loader(value)"] ∧
    Gen.StaticGlue.initExportsAssigns = ["exports.items()"] ∧
    Gen.StaticGlue.initAppendArgs = ["(key, loader)"] ∧
    Gen.StaticGlue.initAllowed = ["lambda x: not fnmatch(x, disallow)"] :=
  ⟨rfl, rfl, rfl, rfl, rfl, rfl, rfl, rfl, rfl, rfl, rfl, rfl, rfl, rfl, rfl⟩

/-- **`send_from_directory` / `send_file` have the shape `sendFromDirectoryRoot` models** (AST facts,
every run): refusal → NotFound, then the `_root_path` join, then the `os.path.isfile` test, then
`send_file(path_str, environ, **kwargs)` (so `_root_path` travels on); `send_file` opens
`os.path.join(_root_path, path_or_file)` or `os.path.abspath(path_or_file)`. -/
theorem glue_send_file_shape :
    Gen.StaticGlue.sfdTests = ["path_str is None", "'_root_path' in kwargs", "not os.path.isfile(path_str)"] ∧
    Gen.StaticGlue.sfdSendFileArgs = ["path_str, environ, **kwargs"] ∧
    Gen.StaticGlue.sendFilePathAssigns = ["path: str | None = None",
      "os.path.join(_root_path, path_or_file)", "os.path.abspath(path_or_file)"] ∧
    Gen.StaticGlue.sendFileOpenArgs = ["path, 'rb'"] :=
  ⟨rfl, rfl, rfl, rfl⟩

/-- **Constants the hand models hard-code, against the source** (regenerated every run):
`posixpath.sep/curdir/pardir` are the model's `/`, `.`, `..`; `_os_alt_seps` is `os.sep`,
`os.path.altsep` without `None` and `/`, and the separators `secure_filename` replaces are the
truthy ones of the same pair; the string literals of `safe_join` are exactly
`""`, `"."`, `".."`, `"../"`, `"/"` and those of `secure_filename` exactly
`""`, `" "`, `"."`, `"._"`, `"NFKD"`, `"_"`, `"ascii"`, `"ignore"`, `"nt"`. -/
theorem model_constants_match_source :
    Gen.Paths.posixSep.toList = [sep] ∧ Gen.Paths.posixCurdir.toList = dot ∧
    Gen.Paths.posixPardir.toList = dotdot ∧
    Gen.Paths.osAltSeps.map String.singleton =
      (Gen.Paths.osSep :: Gen.Paths.osAltsep.toList).filter (· != "/") ∧
    Gen.Paths.osSeps.map String.singleton = Gen.Paths.osSep :: Gen.Paths.osAltsep.toList ∧
    Gen.Paths.safeJoinLiterals = ["", ".", "..", "../", "/"] ∧
    Gen.Paths.secureFilenameLiterals = ["", " ", ".", "._", "NFKD", "_", "ascii", "ignore", "nt"] ∧
    Gen.Paths.stripChars = ['.', '_'] ∧ Gen.Paths.joinChars = ['_'] :=
  ⟨rfl, rfl, rfl, by decide +kernel, by decide +kernel, rfl, rfl, rfl, rfl⟩

/-- **`_filename_ascii_strip_re` is the negated class `[A-Za-z0-9_.-]`**: the pattern text, its flags,
and the live regex evaluated on all 128 ASCII code points (kept = exactly `[A-Za-z0-9_.-]`) and on
every code point above (all removed); no `str.isspace` character and no separator survives it. -/
theorem strip_regex_class :
    Gen.Paths.stripRePattern = "[^A-Za-z0-9_.-]" ∧ Gen.Paths.stripReFlags = 32 ∧
    Gen.Paths.stripRe.length = 128 ∧
    (∀ n, n < 128 → (!tbl Gen.Paths.stripRe n) = allowedNat n) ∧
    Gen.Paths.stripReHigh = true ∧
    (∀ n ∈ Gen.Paths.pySpaces, allowedNat n = false) ∧
    allowed '/' = false ∧ allowed '\\' = false :=
  ⟨by decide, by decide, by decide +kernel, strip_table, strip_high, spaces_not_allowed, by decide, by decide⟩

/-- **`_windows_device_files` and `str.upper`**: the device table is the 24 names the model's
`isDevice` consults, and the model's `upperChar` is `str.upper` on all 128 ASCII characters. -/
theorem windows_device_table :
    Gen.Paths.windowsDeviceFiles = ["AUX", "COM0", "COM1", "COM2", "COM3", "COM4", "COM5", "COM6",
      "COM7", "COM8", "COM9", "CON", "LPT0", "LPT1", "LPT2", "LPT3", "LPT4", "LPT5", "LPT6", "LPT7",
      "LPT8", "LPT9", "NUL", "PRN"] ∧
    Gen.Paths.upperAscii.length = 128 ∧
    ∀ n, n < 128 → (upperChar (Char.ofNat n)).toNat = Gen.Paths.upperAscii.getD n 0 :=
  ⟨rfl, rfl, fun _ hn => beq_iff_eq.mp (getD_sweep (t := Gen.Paths.upperAscii)
    (q := fun r n => (upperChar (Char.ofNat n)).toNat == r) (by decide +kernel) hn)⟩

/-- **The one law assumed of the opaque NFKD normalisation** (hypothesis `hn` of the idempotence
theorems: identity on ASCII text) holds for the live `unicodedata.normalize("NFKD", ·)` on every
ASCII string of length one and two (evaluated at generation time, every run). -/
theorem nfkd_law_checked : Gen.Paths.nfkdAsciiIdentity = true := by decide

/-- Sanitised names use only `[A-Za-z0-9_.-]` (so they are ASCII), whatever the input and whatever
the Unicode normalisation did before. -/
theorem secure_filename_charset (nfkd : Str → Str) (s : Str) :
    ∀ c ∈ secureFilename nfkd s, allowed c = true :=
  secureAscii_allowed _

/-- Sanitised names contain no path separator (`/`, `\`) and no whitespace (`str.isspace`). -/
theorem secure_filename_no_sep_ws (nfkd : Str → Str) (s : Str) :
    ∀ c ∈ secureFilename nfkd s, c ≠ '/' ∧ c ≠ '\\' ∧ isSpace c = false ∧ c.toNat < 128 := by
  exact fun c hc => allowed_spec (secure_filename_charset nfkd s c hc)

/-- A sanitised name never starts (or ends) with a dot or underscore. -/
theorem secure_filename_no_leading_dot (nfkd : Str → Str) (s : Str) :
    (secureFilename nfkd s).head? ≠ some '.' ∧ (secureFilename nfkd s).head? ≠ some '_' ∧
    (secureFilename nfkd s).getLast? ≠ some '.' := by
  obtain ⟨hh, hl⟩ := secureBase_ends Gen.Paths.osSeps (asciiIgnore (nfkd s))
  exact ⟨fun h => absurd (hh _ h) (by decide), fun h => absurd (hh _ h) (by decide),
    fun h => absurd (hl _ h) (by decide)⟩

/-- Sanitising is idempotent, provided the (opaque) NFKD normalisation leaves ASCII text alone. -/
theorem secure_filename_idempotent (nfkd : Str → Str)
    (hn : ∀ t : Str, (∀ c ∈ t, c.toNat < 128) → nfkd t = t) (s : Str) :
    secureFilename nfkd (secureFilename nfkd s) = secureFilename nfkd s := by
  simpa only [secureFilenameWith_here] using secureFilenameWith_idem seps_not_allowed false nfkd hn s

example : ∀ t : Str, (∀ c ∈ t, c.toNat < 128) → id t = t := fun _ _ => rfl
example : secureFilename id " ../.. /etc/pass wd\t$._".toList = "etc_pass_wd".toList := by
  repeat rw [String.toList_ofList]
  decide +kernel

/-- The platform-parametric model (`os.sep`/`os.path.altsep` as `seps`, `os.name == "nt"` as `nt`)
instantiated with the generating platform's values is the model the theorems above, the
correspondence stream `secure-filename` and Props/C14T are about. -/
theorem secure_filename_here (nfkd : Str → Str) (s : Str) :
    secureFilenameWith Gen.Paths.osSeps false nfkd s = secureFilename nfkd s :=
  secureFilenameWith_here nfkd s

/-- **What the property demands of `secure_filename`, on every platform** - whatever `os.sep` /
`os.path.altsep` are and whether or not the Windows device-file branch (`os.name == "nt"`) runs:
the result uses only `[A-Za-z0-9_.-]` (hence is ASCII, contains no `/`, no `\`, no whitespace) and
never starts with a dot. (The property says nothing about device names; with the branch on, the
result may start with `_`.) -/
theorem secure_filename_any_platform (seps : List Char) (nt : Bool) (nfkd : Str → Str) (s : Str) :
    (∀ c ∈ secureFilenameWith seps nt nfkd s,
      allowed c = true ∧ c ≠ '/' ∧ c ≠ '\\' ∧ isSpace c = false ∧ c.toNat < 128) ∧
    (secureFilenameWith seps nt nfkd s).head? ≠ some '.' := by
  refine ⟨?_, secureAsciiWith_head _ _ _⟩
  intro c hc
  have h := secureAsciiWith_allowed seps nt _ c hc
  exact ⟨h, allowed_spec h⟩

example : secureFilenameWith ['\\', '/'] true id "..\\CON.txt".toList = "_CON.txt".toList := by
  repeat rw [String.toList_ofList]
  decide +kernel

/-- **Idempotent on every platform**, incl. Windows (`_CON` strips back to `CON`, which is prefixed
again), provided no separator is one of `[A-Za-z0-9_.-]` (true for `/` and `\`) and the opaque NFKD
normalisation leaves ASCII text alone. -/
theorem secure_filename_idempotent_any_platform (seps : List Char) (nt : Bool) (nfkd : Str → Str)
    (hs : ∀ c ∈ seps, allowed c = false)
    (hn : ∀ t : Str, (∀ c ∈ t, c.toNat < 128) → nfkd t = t) (s : Str) :
    secureFilenameWith seps nt nfkd (secureFilenameWith seps nt nfkd s) = secureFilenameWith seps nt nfkd s := by
  exact secureFilenameWith_idem hs nt nfkd hn s

example : ∀ c ∈ ['\\', '/'], allowed c = false := by decide +kernel
example : secureFilenameWith ['\\', '/'] true id "_CON.txt".toList = "_CON.txt".toList := by
  repeat rw [String.toList_ofList]
  decide +kernel
/-- the hypothesis on the separators is not an artefact: were `_` a separator, `a $ b` would go to
`a__b` and then to `a_b` -/
example : secureFilenameWith ['_'] false id "a $ b".toList = "a__b".toList ∧
    secureFilenameWith ['_'] false id "a__b".toList = "a_b".toList := by
  repeat rw [String.toList_ofList]
  decide +kernel

/-- **What the code does about Windows device names** (not demanded by the property): with the
branch on, the result is never a name whose part before the first dot, upper-cased, is in
`_windows_device_files` (`CON`, `nul.txt`, `Com1.tar.gz` ... get a `_` prefix). With the branch off
(every non-Windows host) such names are returned unchanged. -/
theorem secure_filename_nt_not_device (seps : List Char) (nfkd : Str → Str) (s : Str) :
    isDevice (secureFilenameWith seps true nfkd s) = false ∨ secureFilenameWith seps true nfkd s = [] :=
  secureAsciiWith_nt_not_device _ _

example : secureFilenameWith ['/'] false id "nul.txt".toList = "nul.txt".toList := by
  repeat rw [String.toList_ofList]
  decide +kernel
example : isDevice "nul.txt".toList = true := by
  repeat rw [String.toList_ofList]
  decide +kernel

end Wz.Props.C14
