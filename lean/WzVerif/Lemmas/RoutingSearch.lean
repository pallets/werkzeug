/-
Routing lemmas: the specification of `_match` (`dfs`).

`_match` on a trie makes a list of *attempts* in an order that does not depend on the request: an attempt (`Cand`) is a stored
rule, the place `ps` where it is stored, the way (`Via`) in which its own recogniser admits the input, and the groups. Three
theorems say what the search does:
  `dfs_eq`       the search returns what the first attempt that is not `None` returns, with the bookkeeping
                 (`have_match_for`, `websocket_mismatch`) of the attempts up to there;
  `mem_cands_root` (from `of_mem_cands` / `mem_cands` for any well-formed trie) on the matcher of a rule list the attempts are
                 exactly the admissions `walkVia via r.parts input = some vals` of the input by the list's rules;
  `cands_sorted` the attempts are listed in an order that refines specificity (`specLt`); rules that tie stay in the order
                 in which they were added.
The request enters through `Cand.out` only, one attempt at a time. Soundness, the slash redirect, `None`, `have_match_for`
and priority at the root of a rule list (`root_*`) are read off these with the facts about `Out.firstOf`.
-/
import WzVerif.Lemmas.RoutingDfs
import WzVerif.Lemmas.RoutingWalk
namespace Wz.Routing
open State

/-- one attempt of `_match`: rule `r`, stored at `ps`, admits the input in the way `via` with the groups `vals` -/
structure Cand where
  ps : List Part
  r : Rule
  via : Via
  vals : List Str

/-- the attempt seen from the state above, reached through the transition `p` -/
def Cand.push (p : Part) (c : Cand) : Cand := { c with ps := p :: c.ps }

/-- what the attempt contributes: an entry of one of the two loops over `state.rules` (`ruleOut`), or of the "would match
with an additional slash" probe, which records nothing -/
def Cand.out (q : Req) (c : Cand) : Out :=
  match c.via with
  | .direct => ruleOut q false c.vals c.r
  | .trailing => ruleOut q true c.vals c.r
  | .noslash => ⟨if ruleOK q c.r then (if c.r.strict then .slash else .found c.r c.vals) else .none, [], false⟩

mutual
/-- the attempts `_match(state, parts, values)` makes, in its order -/
def cands : State → List Str → List Str → List Cand
  | .node rs ss _, [], vals =>
    rs.map (⟨[], ·, .direct, vals⟩) ++
      (match lookupStatic [] ss with
       | some child => child.rules.map (⟨[.static []], ·, .noslash, vals⟩)
       | none => [])
  | .node rs ss ds, x :: xs, vals =>
    candsS ss x xs vals ++ candsD ds x xs vals ++ (if x :: xs = [[]] then rs.map (⟨[], ·, .trailing, vals⟩) else [])
def candsS : List (Str × State) → Str → List Str → List Str → List Cand
  | [], _, _, _ => []
  | (k, s) :: t, x, xs, vals =>
    if k == x then (cands s xs vals).map (Cand.push (.static x)) else candsS t x xs vals
def candsD : List (Part × State) → Str → List Str → List Str → List Cand
  | [], _, _, _ => []
  | (p, s) :: t, x, xs, vals =>
    (match p.isDyn, step p (x :: xs) with
     | true, some (a, rem) => (cands s rem (vals ++ a)).map (Cand.push p)
     | _, _ => []) ++ candsD t x xs vals
end

/-- the attempts behind one entry of `state.dynamic` -/
def dynCands (p : Part) (s : State) (x : Str) (xs vals : List Str) : List Cand :=
  match p.isDyn, step p (x :: xs) with
  | true, some (a, rem) => (cands s rem (vals ++ a)).map (Cand.push p)
  | _, _ => []

theorem candsS_eq (ss : List (Str × State)) (x : Str) (xs vals : List Str) :
    candsS ss x xs vals =
      match lookupStatic x ss with
      | some s => (cands s xs vals).map (Cand.push (.static x))
      | none => [] := by
  induction ss with
  | nil => rfl
  | cons e t ih =>
    obtain ⟨k, s⟩ := e
    simp only [candsS, lookupStatic]
    split <;> simp_all

theorem candsD_eq (ds : List (Part × State)) (x : Str) (xs vals : List Str) :
    candsD ds x xs vals = ds.flatMap fun e => dynCands e.1 e.2 x xs vals := by
  induction ds with
  | nil => rfl
  | cons e t ih => obtain ⟨p, s⟩ := e; rw [candsD, ih, List.flatMap_cons]; rfl

theorem mem_dynCands {p : Part} {s : State} {x : Str} {xs vals : List Str} {c : Cand} (h : c ∈ dynCands p s x xs vals) :
    p.isDyn = true ∧ ∃ a rem c0, step p (x :: xs) = some (a, rem) ∧ c0 ∈ cands s rem (vals ++ a) ∧ c = c0.push p := by
  unfold dynCands at h
  split at h
  · rename_i a rem hd hs
    obtain ⟨c0, hc0, rfl⟩ := List.mem_map.1 h
    exact ⟨hd, a, rem, c0, hs, hc0, rfl⟩
  · cases h

theorem slashCheck_eq (q : Req) (vals : List Str) (rs : List Rule) :
    (⟨slashCheck q vals rs, [], false⟩ : Out) =
      Out.firstOf (rs.map fun r => Cand.out q ⟨[.static []], r, .noslash, vals⟩) := by
  induction rs with
  | nil => rfl
  | cons r t ih =>
    rw [List.map_cons, Out.firstOf, ← ih]
    simp only [slashCheck, List.find?_cons, Cand.out]
    cases ruleOK q r with
    | false => simp [Out.orElse]
    | true => cases hs : r.strict <;> simp [Out.orElse, hs]

theorem dfs_nil_eq (q : Req) (rs ss ds) (vals : List Str) :
    dfs q (.node rs ss ds) [] vals =
      (scanRules q false vals rs).orElse
        ⟨match lookupStatic [] ss with | some child => slashCheck q vals child.rules | none => .none, [], false⟩ := by
  rw [dfs.eq_1]
  cases h : (scanRules q false vals rs).res with
  | none =>
    rw [Out.orElse_of_none h]
    cases lookupStatic [] ss with
    | none => simp only [List.append_nil, Bool.or_false]; rw [← h]
    | some child => simp only [List.append_nil, Bool.or_false]
  | found r vs => rw [Out.orElse_of_ne (by simp [h])]
  | slash => rw [Out.orElse_of_ne (by simp [h])]

theorem dfs_eq (q : Req) (st : State) : ∀ input vals,
    dfs q st input vals = Out.firstOf ((cands st input vals).map (Cand.out q)) := by
  induction st using State.induct with
  | h rs ss ds ihs ihd =>
    intro input vals
    cases input with
    | nil =>
      rw [dfs_nil_eq, cands, List.map_append, Out.firstOf_append, scanRules_eq, List.map_map]
      congr 1
      cases lookupStatic [] ss with
      | none => rfl
      | some child => rw [slashCheck_eq, List.map_map]; rfl
    | cons x xs =>
      rw [dfs_cons_eq, cands, List.map_append, List.map_append, Out.firstOf_append, Out.firstOf_append]
      congr 1
      · congr 1
        · rw [dfsStatic_eq, candsS_eq]
          cases hl : lookupStatic x ss with
          | none => rfl
          | some s =>
            simp only [List.map_map]
            rw [ihs x s (mem_of_lookupStatic hl)]; rfl
        · rw [dfsDyn_eq, candsD_eq, List.map_flatMap, Out.firstOf_flatMap]
          congr 1
          apply List.map_congr_left
          intro ⟨p, s⟩ hm
          cases hd : p.isDyn with
          | false => simp only [dynOut, dynCands, hd]; rfl
          | true =>
            cases hs : step p (x :: xs) with
            | none => simp only [dynOut, dynCands, hd, hs]; rfl
            | some ar => simp only [dynOut, dynCands, hd, hs, List.map_map]; rw [ihd p s hm]; rfl
      · simp only [fallback]
        split
        · rw [scanRules_eq, List.map_map]; rfl
        · rfl

theorem of_mem_cands (st : State) : ∀ {input vals c}, c ∈ cands st input vals →
    InTrie st c.ps c.r ∧ ∃ vs, walkVia c.via c.ps input = some vs ∧ c.vals = vals ++ vs := by
  induction st using State.induct with
  | h rs ss ds ihs ihd =>
    intro input vals c hc
    cases input with
    | nil =>
      rw [cands, List.mem_append] at hc
      rcases hc with hc | hc
      · obtain ⟨r, hr, rfl⟩ := List.mem_map.1 hc
        exact ⟨.here hr, [], walkVia_direct_nil, by simp⟩
      · cases hl : lookupStatic [] ss with
        | none => simp [hl] at hc
        | some child =>
          simp only [hl] at hc
          obtain ⟨r, hr, rfl⟩ := List.mem_map.1 hc
          exact ⟨.viaStatic (mem_of_lookupStatic hl) (inTrie_nil_rules.2 hr), [], walkVia_noslash_base, by simp⟩
    | cons x xs =>
      rw [cands, List.mem_append, List.mem_append, candsS_eq, candsD_eq] at hc
      rcases hc with (hc | hc) | hc
      · cases hl : lookupStatic x ss with
        | none => simp [hl] at hc
        | some s =>
          simp only [hl] at hc
          obtain ⟨c', hc', rfl⟩ := List.mem_map.1 hc
          have hm := mem_of_lookupStatic hl
          obtain ⟨hi, vs, hw, hv⟩ := ihs x s hm hc'
          exact ⟨.viaStatic hm hi, vs,
            by simpa [Cand.push] using walkVia_cons_of_step (a := []) (rem := xs) (by simp [step_static]) hw, hv⟩
      · obtain ⟨⟨p, s⟩, hm, hc⟩ := List.mem_flatMap.1 hc
        obtain ⟨hd, a, rem, c0, hs, hc0, rfl⟩ := mem_dynCands hc
        obtain ⟨hi, vs, hw, hv⟩ := ihd p s hm hc0
        exact ⟨.viaDyn hm hd hi, a ++ vs, walkVia_cons_of_step hs hw, by rw [Cand.push, hv, List.append_assoc]⟩
      · split at hc
        · rename_i heq
          obtain ⟨r, hr, rfl⟩ := List.mem_map.1 hc
          exact ⟨.here hr, [], by simp [walkVia, heq], by simp⟩
        · cases hc

/-- Down the path of the rule: the keys of a well-formed state are distinct, so the static transition `_match` takes is
the one the rule is stored under. -/
theorem mem_cands {st : State} {ps : List Part} {r : Rule} (hi : InTrie st ps r) : WF st →
    ∀ {via input vs} (vals : List Str), walkVia via ps input = some vs → ⟨ps, r, via, vals ++ vs⟩ ∈ cands st input vals := by
  induction hi with
  | @here rs ss ds r hm =>
    intro _ via input vs vals hw
    obtain ⟨rfl, ⟨rfl, rfl⟩ | ⟨rfl, rfl⟩⟩ := walkVia_nil_inv hw <;> rw [cands]
    · exact List.mem_append_left _ (List.mem_map.2 ⟨r, hm, by simp⟩)
    · exact List.mem_append_right _ (by rw [if_pos rfl]; exact List.mem_map.2 ⟨r, hm, by simp⟩)
  | @viaStatic rs ss ds k s ps r hm hi' ih =>
    intro hwf via input w vals hw
    rcases walkVia_cons_inv hw with ⟨rfl, rfl, hk, rfl, rfl⟩ | ⟨a, rem, vs', hs, hw', rfl⟩
    · -- the rule lacks the final slash: it is tried by the `"" in state.static` probe
      injection hk with hk
      subst hk
      rw [cands, lookupStatic_of_mem hwf.static_nodup hm]
      exact List.mem_append_right _ (List.mem_map.2 ⟨r, inTrie_nil_rules.1 hi', by simp⟩)
    · cases input with
      | nil => rw [step_nil] at hs; cases hs
      | cons x xs =>
        simp only [step_static] at hs
        split at hs
        · rename_i hk
          obtain rfl : k = x := by simpa using hk
          cases hs
          rw [cands, candsS_eq, lookupStatic_of_mem hwf.static_nodup hm]
          exact List.mem_append_left _ (List.mem_append_left _ (List.mem_map.2 ⟨_, ih (hwf.static_child hm) vals hw', rfl⟩))
        · cases hs
  | @viaDyn rs ss ds p s ps r hm hd hi' ih =>
    intro hwf via input w vals hw
    rcases walkVia_cons_inv hw with ⟨_, _, rfl, _⟩ | ⟨a, rem, vs', hs, hw', rfl⟩
    · cases hd
    · cases input with
      | nil => rw [step_nil] at hs; cases hs
      | cons x xs =>
        rw [cands, candsD_eq]
        refine List.mem_append_left _ (List.mem_append_right _ (List.mem_flatMap.2 ⟨(p, s), hm, ?_⟩))
        simp only [dynCands, hd, hs]
        exact List.mem_map.2 ⟨_, ih (hwf.dyn_child hm) (vals ++ a) hw', by simp [Cand.push, List.append_assoc]⟩

theorem specLt_nil_right (a : List Part) : specLt a [] = false := by cases a <;> rfl

theorem specLt_nil_left (a : List Part) : specLt [] a = false := by cases a <;> rfl

theorem specLt_cons_self (p : Part) (a b : List Part) : specLt (p :: a) (p :: b) = specLt a b := by
  rw [specLt, if_pos rfl]

theorem specLt_append_left (pre a b : List Part) : specLt (pre ++ a) (pre ++ b) = specLt a b := by
  induction pre with
  | nil => rfl
  | cons p t ih => rw [List.cons_append, List.cons_append, specLt_cons_self, ih]

theorem specLt_cons_ne {p q : Part} (h : p ≠ q) (a b : List Part) : specLt (p :: a) (q :: b) = partLt p q := by
  rw [specLt, if_neg h]

theorem specLt_irrefl (a : List Part) : specLt a a = false := by
  induction a with
  | nil => rfl
  | cons p t ih => rw [specLt_cons_self, ih]

theorem partLt_dyn {p p' : Part} (h : p.isDyn = true) (h' : p'.isDyn = true) : partLt p p' = p.weight.lt p'.weight := by
  cases p with
  | static _ => cases h
  | dyn _ _ _ _ _ _ =>
    cases p' with
    | static _ => cases h'
    | dyn _ _ _ _ _ _ => rfl

/-- **no later attempt is for a rule stored at a strictly more specific place than an earlier one.** At a state: the static
child first, then the dynamic children in the order of their weights (`Sorted`; their keys differ, `WF`), then the rules of
the state itself; below one child the order is the child's. -/
theorem cands_sorted (st : State) : WF st → Sorted st → ∀ input vals,
    (cands st input vals).Pairwise (fun c c' => specLt c'.ps c.ps = false) := by
  induction st using State.induct with
  | h rs ss ds ihs ihd =>
    intro hwf hsorted input vals
    cases hsorted with
    | node hsl hss hsd =>
    have child : ∀ (p : Part) (s : State) (inp vs : List Str),
        (cands s inp vs).Pairwise (fun c c' => specLt c'.ps c.ps = false) →
        ((cands s inp vs).map (Cand.push p)).Pairwise (fun c c' => specLt c'.ps c.ps = false) := by
      intro p s inp vs ih
      rw [List.pairwise_map]
      exact ih.imp (fun h => by rw [Cand.push, Cand.push, specLt_cons_self]; exact h)
    cases input with
    | nil =>
      rw [cands, List.pairwise_append]
      refine ⟨?_, ?_, ?_⟩
      · rw [List.pairwise_map]; exact List.pairwise_of_forall (fun _ _ => rfl)
      · cases lookupStatic [] ss with
        | none => exact .nil
        | some ch => rw [List.pairwise_map]; exact List.pairwise_of_forall (fun _ _ => specLt_irrefl _)
      · intro c hc c' _
        obtain ⟨r, _, rfl⟩ := List.mem_map.1 hc
        exact specLt_nil_right _
    | cons x xs =>
      rw [cands, candsS_eq, candsD_eq, List.pairwise_append, List.pairwise_append]
      refine ⟨⟨?_, ?_, ?_⟩, ?_, ?_⟩
      · cases hl : lookupStatic x ss with
        | none => exact .nil
        | some s =>
          have hm := mem_of_lookupStatic hl
          exact child _ s xs vals (ihs x s hm (hwf.static_child hm) (hss x s hm) xs vals)
      · rw [List.pairwise_flatMap]
        constructor
        · intro ⟨p, s⟩ hm
          simp only [dynCands]
          split
          · exact child _ s _ _ (ihd p s hm (hwf.dyn_child hm) (hsd p s hm) _ _)
          · exact .nil
        · have hne : ds.Pairwise (fun a b => a.1 ≠ b.1) := List.pairwise_map.1 hwf.dyn_nodup
          refine (hsl.and hne).imp ?_
          intro e1 e2 ⟨hw, hn⟩ c hc c' hc'
          obtain ⟨hd1, _, _, c0, _, _, rfl⟩ := mem_dynCands hc
          obtain ⟨hd2, _, _, c0', _, _, rfl⟩ := mem_dynCands hc'
          rw [Cand.push, Cand.push, specLt, if_neg (Ne.symm hn), partLt_dyn hd2 hd1, hw]
      · intro c hc c' hc'
        obtain ⟨⟨p, s⟩, _, hc'⟩ := List.mem_flatMap.1 hc'
        obtain ⟨hd, _, _, c0', _, _, rfl⟩ := mem_dynCands hc'
        cases hl : lookupStatic x ss with
        | none => simp [hl] at hc
        | some s0 =>
          simp only [hl] at hc
          obtain ⟨c0, _, rfl⟩ := List.mem_map.1 hc
          cases p with
          | static _ => cases hd
          | dyn _ _ _ _ _ _ => simp [Cand.push, specLt, partLt]
      · split
        · rw [List.pairwise_map]; exact List.pairwise_of_forall (fun _ _ => rfl)
        · exact .nil
      · intro c _ c' hc'
        split at hc'
        · obtain ⟨r, _, rfl⟩ := List.mem_map.1 hc'
          exact specLt_nil_left _
        · cases hc'

/-- the ways of admitting a path that the bookkeeping of `_match` looks at -/
def Counted (r : Rule) (via : Via) : Prop := via = .direct ∨ (via = .trailing ∧ r.strict = false)

/-- the attempt of `r` in the way `via` is made: `_match` passes over one attempt whatever the request, a strict rule in the
extra-slash loop (`Attempt.skipped`). Weaker than `viaAllowed`: the probe for a strict rule (`.noslash`) is made, and answers
with the slash redirect. An attempt that is made returns `None` only when the rule is not fit for the request
(`Cand.out_none`). -/
def Tried (r : Rule) (via : Via) : Prop := via = .trailing → r.strict = false

theorem Counted.tried {r : Rule} {via : Via} (hc : Counted r via) : Tried r via := by
  rintro rfl; rcases hc with h | ⟨_, h⟩
  · cases h
  · exact h

theorem Counted.ne_noslash {r : Rule} {via : Via} (hc : Counted r via) : via ≠ .noslash := by
  rintro rfl; rcases hc with h | ⟨h, _⟩ <;> cases h

/-- what one attempt returns, one constructor per way through the body of the loop over `state.rules` or of the probe -/
inductive Attempt (q : Req) (c : Cand) : Out → Prop
  | skipped : c.via = .trailing → c.r.strict = true → Attempt q c ⟨.none, [], false⟩
  | method : Counted c.r c.via → methodOK q c.r = false → Attempt q c ⟨.none, c.r.methods.getD [], false⟩
  | protocol : Counted c.r c.via → methodOK q c.r = true → c.r.websocket ≠ q.websocket → Attempt q c ⟨.none, [], true⟩
  | unfit : c.via = .noslash → ruleOK q c.r = false → Attempt q c ⟨.none, [], false⟩
  | slash : c.via = .noslash → ruleOK q c.r = true → c.r.strict = true → Attempt q c ⟨.slash, [], false⟩
  | found : ruleOK q c.r = true → viaAllowed c.r c.via = true → Attempt q c ⟨.found c.r c.vals, [], false⟩

theorem Cand.attempt (q : Req) (c : Cand) : Attempt q c (c.out q) := by
  unfold Cand.out
  split <;> rename_i hv
  · rcases ruleOut_cases q false c.vals c.r with ⟨h, _⟩ | ⟨_, ⟨hm, e⟩ | ⟨hm, hw, e⟩ | ⟨hok, e⟩⟩
    · cases h
    · rw [e]; exact .method (.inl hv) hm
    · rw [e]; exact .protocol (.inl hv) hm hw
    · rw [e]; exact .found hok (by rw [hv]; rfl)
  · rcases ruleOut_cases q true c.vals c.r with ⟨_, hst, e⟩ | ⟨hst, ⟨hm, e⟩ | ⟨hm, hw, e⟩ | ⟨hok, e⟩⟩
    · rw [e]; exact .skipped hv hst
    · rw [e]; exact .method (.inr ⟨hv, hst rfl⟩) hm
    · rw [e]; exact .protocol (.inr ⟨hv, hst rfl⟩) hm hw
    · rw [e]; exact .found hok (by rw [hv]; simp [viaAllowed, hst rfl])
  · cases hok : ruleOK q c.r with
    | false => exact .unfit hv hok
    | true =>
      cases hst : c.r.strict with
      | true => exact .slash hv hok hst
      | false => exact .found hok (by rw [hv]; simp [viaAllowed, hst])

theorem Cand.out_found {q : Req} {c : Cand} {r : Rule} {vs : List Str} (h : (c.out q).res = .found r vs) :
    r = c.r ∧ vs = c.vals ∧ ruleOK q r = true ∧ viaAllowed r c.via = true := by
  have g := c.attempt q
  generalize c.out q = o at g h
  cases g with
  | found hok ha => cases h; exact ⟨rfl, rfl, hok, ha⟩
  | _ => cases h

theorem Cand.out_slash {q : Req} {c : Cand} (h : (c.out q).res = .slash) :
    c.via = .noslash ∧ ruleOK q c.r = true ∧ c.r.strict = true := by
  have g := c.attempt q
  generalize c.out q = o at g h
  cases g with
  | slash hv hok hst => exact ⟨hv, hok, hst⟩
  | _ => cases h

theorem Cand.out_none {q : Req} {c : Cand} (h : (c.out q).res = .none) (hvia : Tried c.r c.via) :
    ruleOK q c.r = false := by
  have g := c.attempt q
  generalize c.out q = o at g h
  cases g with
  | skipped hv hst => rw [hvia hv] at hst; cases hst
  | method _ hm => simp [ruleOK, hm]
  | protocol _ _ hw => simp [ruleOK, hw]
  | unfit _ hok => exact hok
  | _ => cases h

theorem Cand.mem_out_ms {q : Req} {c : Cand} {m : Str} :
    m ∈ (c.out q).ms ↔ Counted c.r c.via ∧ methodOK q c.r = false ∧ m ∈ c.r.methods.getD [] := by
  have g := c.attempt q
  generalize c.out q = o at g
  cases g with
  | method hc hm => exact ⟨fun h => ⟨hc, hm, h⟩, fun h => h.2.2⟩
  | skipped hv hst => exact ⟨nofun, fun h => absurd (h.1.tried hv) (by simp [hst])⟩
  | protocol _ hm _ => exact ⟨nofun, fun h => by rw [hm] at h; cases h.2.1⟩
  | unfit hv _ => exact ⟨nofun, fun h => absurd hv h.1.ne_noslash⟩
  | slash hv _ _ => exact ⟨nofun, fun h => absurd hv h.1.ne_noslash⟩
  | found hok _ => exact ⟨nofun, fun h => by simp [ruleOK, h.2.1] at hok⟩

theorem Cand.out_wsm {q : Req} {c : Cand} (hc : Counted c.r c.via) (hmo : methodOK q c.r = true)
    (hws : c.r.websocket ≠ q.websocket) : (c.out q).wsm = true := by
  have g := c.attempt q
  generalize c.out q = o at g
  cases g with
  | protocol => rfl
  | skipped hv hst => exact absurd (hc.tried hv) (by simp [hst])
  | method _ hm => rw [hmo] at hm; cases hm
  | unfit hv _ => exact absurd hv hc.ne_noslash
  | slash hv _ _ => exact absurd hv hc.ne_noslash
  | found hok _ => simp [ruleOK, hmo, hws] at hok

theorem mem_cands_root {rules : List Rule} {input : List Str} {c : Cand} :
    c ∈ cands (buildRoot rules) input [] ↔
      c.r ∈ rules ∧ c.r.spec.buildOnly = false ∧ c.ps = c.r.parts ∧ walkVia c.via c.r.parts input = some c.vals := by
  constructor
  · intro h
    obtain ⟨hi, vs, hw, hv⟩ := of_mem_cands _ h
    obtain ⟨hm, hbo, hp⟩ := (inTrie_buildRoot rules).1 hi
    exact ⟨hm, hbo, hp, by rw [← hp, hw, hv]; rfl⟩
  · rintro ⟨hm, hbo, hp, hw⟩
    have := mem_cands ((inTrie_buildRoot rules).2 ⟨hm, hbo, rfl⟩) (WF.buildRoot rules) [] hw
    obtain ⟨ps, r, via, vals⟩ := c
    obtain rfl : ps = r.parts := hp
    simpa using this

/-- **the search on a rule list returns what one of its attempts returns, and no attempt that is not `None` is for a
strictly more specific rule**: the first attempt that is not `None`, in a list ordered by specificity -/
theorem root_first {rules : List Rule} {q : Req} {input : List Str}
    (h : (dfs q (buildRoot rules) input []).res ≠ .none) :
    ∃ c ∈ cands (buildRoot rules) input [], (c.out q).res = (dfs q (buildRoot rules) input []).res ∧
      ∀ c' ∈ cands (buildRoot rules) input [], (c'.out q).res ≠ .none → specLt c'.ps c.ps = false := by
  have hsorted := cands_sorted _ (WF.buildRoot rules) (Sorted.buildRoot rules) input []
  rw [dfs_eq] at h ⊢
  obtain ⟨l1, c, l2, hl, hc, hl1⟩ := Out.firstOf_first h
  rw [hl] at hsorted
  refine ⟨c, by rw [hl]; simp, hc, fun c' hc' hne => ?_⟩
  rcases List.mem_append.1 (hl ▸ hc') with hin | hin
  · exact absurd (hl1 c' hin) hne
  · rcases List.mem_cons.1 hin with rfl | hin
    · exact specLt_irrefl _
    · exact (List.pairwise_cons.1 (List.pairwise_append.1 hsorted).2.1).1 _ hin

theorem root_found {rules : List Rule} {q : Req} {input : List Str} {r : Rule} {vs : List Str}
    (h : (dfs q (buildRoot rules) input []).res = .found r vs) :
    r ∈ rules ∧ r.spec.buildOnly = false ∧ ruleOK q r = true ∧
      ∃ via, walkVia via r.parts input = some vs ∧ viaAllowed r via = true := by
  obtain ⟨c, hc, hres, _⟩ := root_first (by rw [h]; nofun)
  obtain ⟨rfl, rfl, hok, ha⟩ := Cand.out_found (hres.trans h)
  obtain ⟨hm, hbo, _, hw⟩ := mem_cands_root.1 hc
  exact ⟨hm, hbo, hok, c.via, hw, ha⟩

theorem root_found_strict {rules : List Rule} (hstrict : ∀ x ∈ rules, x.strict = true) {q : Req} {input : List Str}
    {r : Rule} {vs : List Str} (h : (dfs q (buildRoot rules) input []).res = .found r vs) :
    r ∈ rules ∧ r.spec.buildOnly = false ∧ ruleOK q r = true ∧ walkVia .direct r.parts input = some vs := by
  obtain ⟨hmem, hbo, hok, via, hw, ha⟩ := root_found h
  cases via with
  | direct => exact ⟨hmem, hbo, hok, hw⟩
  | trailing => simp [viaAllowed, hstrict r hmem] at ha
  | noslash => simp [viaAllowed, hstrict r hmem] at ha

theorem root_slash {rules : List Rule} {q : Req} {input : List Str}
    (h : (dfs q (buildRoot rules) input []).res = .slash) :
    ∃ r ∈ rules, r.spec.buildOnly = false ∧ ruleOK q r = true ∧ r.strict = true ∧
      ∃ vs, walkVia .noslash r.parts input = some vs := by
  obtain ⟨c, hc, hres, _⟩ := root_first (by rw [h]; nofun)
  obtain ⟨hv, hok, hst⟩ := Cand.out_slash (hres.trans h)
  obtain ⟨hm, hbo, _, hw⟩ := mem_cands_root.1 hc
  exact ⟨c.r, hm, hbo, hok, hst, c.vals, hv ▸ hw⟩

theorem root_attempt_ne_none {rules : List Rule} {q : Req} {input : List Str} {r' : Rule} (hr' : r' ∈ rules)
    (hbo' : r'.spec.buildOnly = false) (hok' : ruleOK q r' = true) {via : Via} (hvia : Tried r' via)
    {w : List Str} (hw : walkVia via r'.parts input = some w) :
    (⟨r'.parts, r', via, w⟩ : Cand) ∈ cands (buildRoot rules) input [] ∧ (Cand.out q ⟨r'.parts, r', via, w⟩).res ≠ .none :=
  ⟨mem_cands_root.2 ⟨hr', hbo', rfl, hw⟩, fun hn => by have := Cand.out_none hn hvia; rw [hok'] at this; cases this⟩

/-- the rule the search returns is minimal in the specificity order among the rules fit for the request that admit the input
in a way that is tried (`Tried`): directly, lacking the final slash, or — when not strict — with an extra final slash -/
theorem root_priority {rules : List Rule} {q : Req} {input : List Str} {r : Rule} {vs : List Str}
    (h : (dfs q (buildRoot rules) input []).res = .found r vs) {r' : Rule} (hr' : r' ∈ rules)
    (hbo' : r'.spec.buildOnly = false) (hok' : ruleOK q r' = true) {via : Via} (hvia : Tried r' via)
    {w : List Str} (hw : walkVia via r'.parts input = some w) : specLt r'.parts r.parts = false := by
  obtain ⟨c, hc, hres, hmin⟩ := root_first (by rw [h]; nofun)
  obtain ⟨rfl, _, _, _⟩ := Cand.out_found (hres.trans h)
  obtain ⟨hc', hne⟩ := root_attempt_ne_none (q := q) hr' hbo' hok' hvia hw
  rw [← (mem_cands_root.1 hc).2.2.1]
  exact hmin _ hc' hne

theorem root_attempt_none {rules : List Rule} {q : Req} {input : List Str}
    (h : (dfs q (buildRoot rules) input []).res = .none) {r : Rule} (hr : r ∈ rules) (hbo : r.spec.buildOnly = false)
    {via : Via} {vs : List Str} (hw : walkVia via r.parts input = some vs) :
    (Cand.out q ⟨r.parts, r, via, vs⟩).res = .none ∧ (Cand.out q ⟨r.parts, r, via, vs⟩).le (dfs q (buildRoot rules) input []) := by
  rw [dfs_eq] at h ⊢
  exact Out.firstOf_none h _ (mem_cands_root.2 ⟨hr, hbo, rfl, hw⟩)

theorem root_none {rules : List Rule} {q : Req} {input : List Str}
    (h : (dfs q (buildRoot rules) input []).res = .none) {r : Rule} (hr : r ∈ rules) (hbo : r.spec.buildOnly = false)
    (hok : ruleOK q r = true) {via : Via} (hvia : Tried r via) :
    walkVia via r.parts input = none := by
  cases hw : walkVia via r.parts input with
  | none => rfl
  | some vs =>
    have := Cand.out_none (root_attempt_none h hr hbo hw).1 hvia
    rw [hok] at this; cases this

theorem root_none_iff {rules : List Rule} {q : Req} {input : List Str} :
    (dfs q (buildRoot rules) input []).res = .none ↔
      ∀ r ∈ rules, r.spec.buildOnly = false → ruleOK q r = true →
        ∀ via, Tried r via → walkVia via r.parts input = none := by
  refine ⟨fun h r hr hbo hok via hvia => root_none h hr hbo hok hvia, fun h => ?_⟩
  cases hr : (dfs q (buildRoot rules) input []).res with
  | none => rfl
  | found r vs =>
    obtain ⟨hmem, hbo, hok, via, hw, ha⟩ := root_found hr
    have := h r hmem hbo hok via (by intro hv; subst hv; simpa [viaAllowed] using ha)
    rw [hw] at this; cases this
  | slash =>
    obtain ⟨r, hmem, hbo, hok, _, vs, hw⟩ := root_slash hr
    have := h r hmem hbo hok .noslash (by intro hv; cases hv)
    rw [hw] at this; cases this

/-- everything in `have_match_for` comes from a rule of the list that admits the input (directly or with an extra final
slash) and does not list the request method -/
theorem root_ms {rules : List Rule} {q : Req} {input : List Str} {x : Str}
    (h : x ∈ (dfs q (buildRoot rules) input []).ms) :
    ∃ r ∈ rules, r.spec.buildOnly = false ∧ methodOK q r = false ∧ x ∈ r.methods.getD [] ∧
      ∃ via, Counted r via ∧ (walkVia via r.parts input).isSome = true := by
  rw [dfs_eq] at h
  obtain ⟨c, hc, hx⟩ := Out.firstOf_ms h
  obtain ⟨hcnt, hmo, hxm⟩ := Cand.mem_out_ms.1 hx
  obtain ⟨hm, hbo, _, hw⟩ := mem_cands_root.1 hc
  exact ⟨c.r, hm, hbo, hmo, hxm, c.via, hcnt, by rw [hw]; rfl⟩

theorem root_ms_of_none {rules : List Rule} {q : Req} {input : List Str}
    (h : (dfs q (buildRoot rules) input []).res = .none) {r : Rule} (hr : r ∈ rules) (hbo : r.spec.buildOnly = false)
    {via : Via} (hc : Counted r via) (hw : (walkVia via r.parts input).isSome = true) (hmo : methodOK q r = false) :
    ∀ x ∈ r.methods.getD [], x ∈ (dfs q (buildRoot rules) input []).ms := by
  obtain ⟨vs, hv⟩ := Option.isSome_iff_exists.1 hw
  exact fun x hx => (root_attempt_none h hr hbo hv).2.ms x (Cand.mem_out_ms.2 ⟨hc, hmo, hx⟩)

theorem root_wsm_of_none {rules : List Rule} {q : Req} {input : List Str}
    (h : (dfs q (buildRoot rules) input []).res = .none) {r : Rule} (hr : r ∈ rules) (hbo : r.spec.buildOnly = false)
    {via : Via} (hc : Counted r via) (hw : (walkVia via r.parts input).isSome = true) (hmo : methodOK q r = true)
    (hws : r.websocket ≠ q.websocket) : (dfs q (buildRoot rules) input []).wsm = true := by
  obtain ⟨vs, hv⟩ := Option.isSome_iff_exists.1 hw
  exact (root_attempt_none h hr hbo hv).2.wsm (Cand.out_wsm hc hmo hws)

end Wz.Routing
