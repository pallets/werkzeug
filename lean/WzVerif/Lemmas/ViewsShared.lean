/-
View objects shared between SEVERAL responses, and several live view objects of one response (C16).
A world holds any number of responses (their header lists) and any number of held view objects.
Every held object remembers which response its `on_update` closure writes to (`tgt`): the response
whose property getter produced it, or - for a setter that re-binds the callback
(`Response.www_authenticate`) - the response it was last assigned to. The generic coherence
argument: whenever a held object is in sync with *its* response, re-reading that response's
property gives the held view; a view mutation never touches another response.
-/
import WzVerif.Lemmas.Views
namespace Wz.C16L
open Wz Hdr

/-- a view family together with its whole-property setter applied to a view object -/
structure Shared (σ ο : Type) extends Family σ ο where
  /-- `response.prop = view` : what the setter does to the headers of the assigned-to response -/
  assignH : HList → σ → HList
  /-- does the setter install an `on_update` that targets the assigned-to response? -/
  rebinds : Bool

/-- a held view object: content, the response its callback writes to, and whether it is known to
be in sync with that response -/
structure Held (σ : Type) where
  v : σ
  tgt : Nat
  synced : Bool

/-- the responses' header lists and the held view objects -/
structure W (σ : Type) where
  hs : Nat → HList
  held : List (Held σ)

inductive Ev2 (ο : Type) where
  /-- a mutator called on held object `j` -/
  | view (j : Nat) (op : ο)
  /-- `held[j] = response_i.prop` -/
  | fetch (j i : Nat)
  /-- `response_i.prop = held[j]` -/
  | assign (j i : Nat)
  /-- anything that only touches the headers of response `i` (direct edits, `response.headers = …`,
  assignment of text / None, `del`) -/
  | edit (i : Nat) (f : HList → HList)

variable {σ ο : Type}

def upd (hs : Nat → HList) (i : Nat) (h : HList) : Nat → HList := fun k => if k = i then h else hs k

/-- every held object whose callback targets response `i` is no longer known to be in sync -/
def desync (i : Nat) (held : List (Held σ)) : List (Held σ) :=
  held.map fun x => if x.tgt = i then { x with synced := false } else x

def next2 (F : Shared σ ο) (w : W σ) : Ev2 ο → W σ
  | .view j op =>
    match w.held[j]? with
    | none => w
    | some x =>
      let r := F.vstep x.v op
      if r.2 then
        ⟨upd w.hs x.tgt (F.write (w.hs x.tgt) r.1), (desync x.tgt w.held).set j ⟨r.1, x.tgt, true⟩⟩
      else ⟨w.hs, w.held.set j ⟨r.1, x.tgt, x.synced⟩⟩
  | .fetch j i =>
    let h := w.hs i
    ⟨upd w.hs i (F.refetchH h), (if F.refetchH h = h then w.held else desync i w.held).set j ⟨F.load h, i, true⟩⟩
  | .assign j i =>
    match w.held[j]? with
    | none => w
    | some x =>
      let h' := F.assignH (w.hs i) x.v
      if F.rebinds then ⟨upd w.hs i h', (desync i w.held).set j ⟨x.v, i, true⟩⟩
      else ⟨upd w.hs i h', desync i w.held⟩
  | .edit i f => ⟨upd w.hs i (f (w.hs i)), desync i w.held⟩

def run2 (F : Shared σ ο) (w : W σ) : List (Ev2 ο) → W σ
  | [] => w
  | e :: t => run2 F (next2 F w e) t

/-- side conditions of a history (the analogue of `okHistGood`) -/
def okHist2 (F : Shared σ ο) (E : σ → σ → Bool) (I : σ → Bool) (adm : σ → ο → Bool) (good : HList → σ → Bool)
    (w : W σ) : List (Ev2 ο) → Bool
  | [] => true
  | .view j op :: t =>
    (match w.held[j]? with
     | none => true
     | some x => adm x.v op && (let r := F.vstep x.v op; !r.2 || good (w.hs x.tgt) r.1)) &&
    okHist2 F E I adm good (next2 F w (.view j op)) t
  | .fetch j i :: t =>
    I (F.load (w.hs i)) && E (F.load (F.refetchH (w.hs i))) (F.load (w.hs i)) &&
    okHist2 F E I adm good (next2 F w (.fetch j i)) t
  | .assign j i :: t =>
    (match w.held[j]? with
     | none => true
     | some x => !F.rebinds || good (w.hs i) x.v) &&
    okHist2 F E I adm good (next2 F w (.assign j i)) t
  | .edit i f :: t => okHist2 F E I adm good (next2 F w (.edit i f)) t

/-- the invariant: every held object satisfies the family invariant, and one that is in sync
re-reads equal from the response its callback targets -/
def Inv2 (F : Shared σ ο) (E : σ → σ → Bool) (I : σ → Bool) (w : W σ) : Prop :=
  ∀ x ∈ w.held, I x.v = true ∧ (x.synced = true → E (F.load (w.hs x.tgt)) x.v = true)

theorem mem_desync {i : Nat} {held : List (Held σ)} {y : Held σ} (h : y ∈ desync i held) :
    ∃ x ∈ held, y.v = x.v ∧ y.tgt = x.tgt ∧ ((x.tgt = i ∧ y.synced = false) ∨ (x.tgt ≠ i ∧ y = x)) := by
  simp only [desync, List.mem_map] at h
  obtain ⟨x, hx, rfl⟩ := h
  refine ⟨x, hx, ?_⟩
  by_cases ht : x.tgt = i
  · simp [ht]
  · simp [ht]

theorem upd_ne (hs : Nat → HList) (i k : Nat) (h : HList) (hk : k ≠ i) : upd hs i h k = hs k := by
  simp [upd, hk]

theorem upd_self (hs : Nat → HList) (i : Nat) (h : HList) : upd hs i h i = h := by simp [upd]

theorem inv2_desync (F : Shared σ ο) (E : σ → σ → Bool) (I : σ → Bool) (w : W σ) (hinv : Inv2 F E I w)
    (i : Nat) (h' : HList) : Inv2 F E I ⟨upd w.hs i h', desync i w.held⟩ := by
  intro y hy
  obtain ⟨x, hx, hv, ht, hc⟩ := mem_desync hy
  have hxi := hinv x hx
  refine ⟨by rw [hv]; exact hxi.1, ?_⟩
  rcases hc with ⟨_, hs⟩ | ⟨hne, rfl⟩
  · intro h; rw [hs] at h; cases h
  · intro h
    simp only []
    rw [upd_ne _ _ _ _ hne]
    exact hxi.2 h

theorem inv2_set (F : Shared σ ο) (E : σ → σ → Bool) (I : σ → Bool) (w : W σ) (hinv : Inv2 F E I w)
    (j : Nat) (y : Held σ) (hy : I y.v = true ∧ (y.synced = true → E (F.load (w.hs y.tgt)) y.v = true)) :
    Inv2 F E I ⟨w.hs, w.held.set j y⟩ := by
  intro z hz
  rcases List.mem_or_eq_of_mem_set hz with h | h
  · exact hinv z h
  · subst h; exact hy

/-- the coherence argument for worlds; `coherent` (Views.lean) is its case of one response and one held object, with the same
three cases: a view mutator (notified: the codec round trip; quiet: the view is as it was), a fetch, an edit -/
theorem coherent2 (F : Shared σ ο) (E : σ → σ → Bool) (I : σ → Bool) (adm : σ → ο → Bool) (good : HList → σ → Bool)
    (hstep : ∀ v op, I v = true → adm v op = true → I (F.vstep v op).1 = true)
    (hquiet : ∀ v op, I v = true → adm v op = true → (F.vstep v op).2 = false → (F.vstep v op).1 = v)
    (hrt : ∀ h v, I v = true → good h v = true → E (F.load (F.write h v)) v = true)
    (hrtA : F.rebinds = true → ∀ h v, I v = true → good h v = true → E (F.load (F.assignH h v)) v = true)
    (evs : List (Ev2 ο)) (w : W σ) (hinv : Inv2 F E I w)
    (hok : okHist2 F E I adm good w evs = true) : Inv2 F E I (run2 F w evs) := by
  induction evs generalizing w with
  | nil => exact hinv
  | cons e t ih =>
    cases e with
    | view j op =>
      simp only [okHist2, Bool.and_eq_true] at hok
      obtain ⟨hc, hrest⟩ := hok
      refine ih _ ?_ hrest
      simp only [next2]
      cases hj : w.held[j]? with
      | none => exact hinv
      | some x =>
        simp only [hj, Bool.and_eq_true, Bool.or_eq_true, Bool.not_eq_true'] at hc
        obtain ⟨hadm, hg⟩ := hc
        have hx := hinv x (List.mem_of_getElem? hj)
        have hI' := hstep _ _ hx.1 hadm
        simp only []
        cases hn : (F.vstep x.v op).2 with
        | true =>
          simp only [if_true]
          have hd := inv2_desync F E I w hinv x.tgt (F.write (w.hs x.tgt) (F.vstep x.v op).1)
          refine inv2_set F E I _ hd j _ ⟨hI', fun _ => ?_⟩
          simp only [upd_self]
          rcases hg with h | h
          · rw [hn] at h; cases h
          · exact hrt _ _ hI' h
        | false =>
          simp only [Bool.false_eq_true, if_false]
          refine inv2_set F E I _ hinv j _ ⟨hI', fun hs => ?_⟩
          simp only []
          rw [hquiet _ _ hx.1 hadm hn]
          exact hx.2 hs
    | fetch j i =>
      simp only [okHist2, Bool.and_eq_true] at hok
      obtain ⟨⟨hi, he⟩, hrest⟩ := hok
      refine ih _ ?_ hrest
      simp only [next2]
      by_cases hr : F.refetchH (w.hs i) = w.hs i
      · simp only [hr, if_true]
        have hw : Inv2 F E I ⟨upd w.hs i (w.hs i), w.held⟩ := by
          intro y hy
          have := hinv y hy
          refine ⟨this.1, fun hs => ?_⟩
          simp only []
          by_cases hk : y.tgt = i
          · rw [hk, upd_self, ← hk]; exact this.2 hs
          · rw [upd_ne _ _ _ _ hk]; exact this.2 hs
        refine inv2_set F E I _ hw j _ ⟨hi, fun _ => ?_⟩
        simp only [upd_self]
        rw [hr] at he; exact he
      · simp only [hr, if_false]
        have hd := inv2_desync F E I w hinv i (F.refetchH (w.hs i))
        refine inv2_set F E I _ hd j _ ⟨hi, fun _ => ?_⟩
        simp only [upd_self]
        exact he
    | assign j i =>
      simp only [okHist2, Bool.and_eq_true] at hok
      obtain ⟨hc, hrest⟩ := hok
      refine ih _ ?_ hrest
      simp only [next2]
      cases hj : w.held[j]? with
      | none => exact hinv
      | some x =>
        simp only [hj, Bool.or_eq_true, Bool.not_eq_true'] at hc
        have hx := hinv x (List.mem_of_getElem? hj)
        simp only []
        cases hb : F.rebinds with
        | false =>
          simp only [Bool.false_eq_true, if_false]
          exact inv2_desync F E I w hinv i _
        | true =>
          simp only [if_true]
          have hd := inv2_desync F E I w hinv i (F.assignH (w.hs i) x.v)
          refine inv2_set F E I _ hd j _ ⟨hx.1, fun _ => ?_⟩
          simp only [upd_self]
          rcases hc with h | h
          · rw [hb] at h; cases h
          · exact hrtA hb _ _ hx.1 h
    | edit i f =>
      simp only [okHist2] at hok
      exact ih _ (inv2_desync F E I w hinv i _) hok

/-- the setter of a re-binding family makes the assigned object a view of the assigned-to response -/
theorem assign_retargets (F : Shared σ ο) (hb : F.rebinds = true) (w : W σ) (j i : Nat) (x : Held σ)
    (hj : w.held[j]? = some x) :
    (next2 F w (.assign j i)).held[j]? = some ⟨x.v, i, true⟩ ∧
    (next2 F w (.assign j i)).hs i = F.assignH (w.hs i) x.v := by
  have hlt : j < w.held.length := by
    rcases Nat.lt_or_ge j w.held.length with h | h
    · exact h
    · rw [List.getElem?_eq_none h] at hj; cases hj
  simp only [next2, hj, hb, if_true, upd_self, and_true]
  rw [List.getElem?_set_self (by simpa [desync] using hlt)]

/-- a mutation of a held object writes only to the response its callback targets: the headers of
every other response are untouched (no cross-response leak), and the written response receives the
`on_update` serialisation of the new view -/
theorem view_frame (F : Shared σ ο) (w : W σ) (j : Nat) (op : ο) (x : Held σ) (hj : w.held[j]? = some x) :
    (∀ k, k ≠ x.tgt → (next2 F w (.view j op)).hs k = w.hs k) ∧
    ((F.vstep x.v op).2 = true →
      (next2 F w (.view j op)).hs x.tgt = F.write (w.hs x.tgt) (F.vstep x.v op).1) := by
  simp only [next2, hj]
  cases hn : (F.vstep x.v op).2 with
  | true =>
    simp only [if_true]
    exact ⟨fun k hk => upd_ne _ _ _ _ hk, fun _ => upd_self _ _ _⟩
  | false =>
    simp only [Bool.false_eq_true, if_false]
    refine ⟨fun _ _ => ?_, fun h => by cases h⟩
    first | rfl | trivial

/-- a family whose whole-property setter stores the serialisation `on_update` would store -/
def sharedOf (F : Family σ ο) (rebinds : Bool) : Shared σ ο := { F with assignH := F.write, rebinds := rebinds }

/-- `coherent2` for families compared with plain equality and no invariant / admissibility side
conditions -/
theorem coherent2_eq [DecidableEq σ] (F : Shared σ ο) (I : σ → Bool) (adm : σ → ο → Bool) (good : HList → σ → Bool)
    (hI : ∀ v, I v = true)
    (hquiet : ∀ v op, (F.vstep v op).2 = false → (F.vstep v op).1 = v)
    (hrt : ∀ h v, good h v = true → F.load (F.write h v) = v)
    (hrtA : F.rebinds = true → ∀ h v, good h v = true → F.load (F.assignH h v) = v)
    (evs : List (Ev2 ο)) (w : W σ) (hinv : ∀ x ∈ w.held, x.synced = true → F.load (w.hs x.tgt) = x.v)
    (hok : okHist2 F eqB I adm good w evs = true) :
    ∀ x ∈ (run2 F w evs).held, x.synced = true → F.load ((run2 F w evs).hs x.tgt) = x.v := by
  have := coherent2 F eqB I adm good (fun _ _ _ _ => hI _) (fun v op _ _ h => hquiet v op h)
    (fun h v _ hg => (eqB_iff _ _).2 (hrt h v hg)) (fun hb h v _ hg => (eqB_iff _ _).2 (hrtA hb h v hg))
    evs w (fun x hx => ⟨hI _, fun hs => (eqB_iff _ _).2 (hinv x hx hs)⟩) hok
  exact fun x hx hs => (eqB_iff _ _).1 ((this x hx).2 hs)

open Views in
/-- the setters `response.vary = view` / `response.content_security_policy = view` leave the
headers `on_update` of that view would leave -/
theorem assign_eq_write (h : HList) (name writeName : Str) (c : HS.St) (d : CSP.St) :
    (SetView.assign h name c).1 = SetView.write h name c ∧
    (CSP.assign h name writeName d).1 = CSP.write h name writeName d := by
  constructor
  · unfold SetView.assign SetView.write
    cases c.set.isEmpty with
    | false => rfl
    | true => exact (ite_contains_delKey h name).symm
  · unfold CSP.assign CSP.write
    cases d.isEmpty <;> rfl

end Wz.C16L
