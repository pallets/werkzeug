/-
The IMF-fixdate text of `http_date` and the recogniser `parseImfFixdate` (C06): `%02d` / `%04d` as
fixed-width decimals (`decDigits`), the generated day and month names, `parse_format` (a valid civil
date of a year ≥ 100 is read back from its text: below 100 `email.utils` re-centuries the year), hence
`parse_date(http_date(t)) == t` from 0100-01-01 to 9999-12-31 (`date_roundtrip_any`), and what the
recogniser accepts lies in that range (`parseDate_image_range`).
-/
import WzVerif.Lemmas.Date
namespace Wz.Date

/-- the last `k` decimal digits of `n`, most significant first (`%0kd` for `n < 10 ^ k`) -/
def decDigits : Nat → Nat → Str
  | 0, _ => []
  | k + 1, n => decDigits k (n / 10) ++ [Nat.digitChar (n % 10)]

theorem decDigits_zero (k : Nat) : decDigits k 0 = List.replicate k '0' := by
  induction k with
  | zero => rfl
  | succ k ih => rw [decDigits, Nat.zero_div, ih, List.replicate_succ']; rfl

/-- `str(n).rjust(k, "0")` -/
theorem toDigits_pad (k n : Nat) (h : n < 10 ^ (k + 1)) :
    List.replicate (k + 1 - (Nat.toDigits 10 n).length) '0' ++ Nat.toDigits 10 n = decDigits (k + 1) n := by
  induction k generalizing n with
  | zero =>
    have h10 : n < 10 := by omega
    rw [Nat.toDigits_of_lt_base h10, decDigits, Nat.mod_eq_of_lt h10]; rfl
  | succ k ih =>
    rw [decDigits]
    by_cases h10 : n < 10
    · rw [Nat.toDigits_of_lt_base h10, Nat.div_eq_of_lt h10, Nat.mod_eq_of_lt h10, decDigits_zero]
      rfl
    · rw [Nat.toDigits_of_base_le (by decide) (by omega), ← ih (n / 10) (by omega), List.length_append,
        List.length_singleton, Nat.add_sub_add_right, List.append_assoc]

theorem ofDigitChars_decDigits (k n : Nat) (h : n < 10 ^ k) : Nat.ofDigitChars 10 (decDigits k n) 0 = n := by
  induction k generalizing n with
  | zero => simp at h; subst h; rfl
  | succ k ih =>
    rw [decDigits, Nat.ofDigitChars_append, ih (n / 10) (by omega),
      Nat.ofDigitChars_cons_digitChar_of_lt_ten (Nat.mod_lt n (by decide)), Nat.ofDigitChars_nil]
    omega

theorem decDigits_all_isDigit (k n : Nat) : (decDigits k n).all Char.isDigit = true := by
  induction k generalizing n with
  | zero => rfl
  | succ k ih => simp [decDigits, ih, Nat.isDigit_digitChar, Nat.mod_lt]

theorem num_decDigits (k n : Nat) (h : n < 10 ^ (k + 1)) : num? (decDigits (k + 1) n) = some n := by
  have hne : (decDigits (k + 1) n).isEmpty = false := by simp [decDigits]
  simp only [num?, hne, decDigits_all_isDigit, Bool.not_false, Bool.and_self, if_true, ofDigitChars_decDigits _ _ h]

theorem pad4_eq (n : Nat) (h : n < 10000) : pad4 n = decDigits 4 n := toDigits_pad 3 n h

theorem pad2_eq (n : Nat) (h : n < 100) : pad2 n = decDigits 2 n := by
  rw [← toDigits_pad 1 n h, pad2]
  by_cases h10 : n < 10
  · rw [if_pos h10, Nat.toDigits_of_lt_base h10]; rfl
  · rw [if_neg h10, Nat.toDigits_of_base_le (by decide) (by omega), Nat.toDigits_of_lt_base (by omega)]; rfl

def dayOk (w : Nat) : Bool :=
  match dayNames.getD w [] with
  | [x, y, z] => x.isAlpha && y.isAlpha && z.isAlpha
  | _ => false

theorem day_table : ∀ w, w < 7 → dayOk w = true := by decide +kernel

def monthOk (m : Nat) : Bool :=
  match monthNames.getD m [] with
  | [x, y, z] => monthIndex? [x, y, z] == some (m + 1)
  | _ => false

theorem month_table : ∀ m, m < 12 → monthOk m = true := by decide +kernel

theorem day_shape (w : Nat) (h : w < 7) :
    ∃ x y z, dayNames.getD w [] = [x, y, z] ∧ x.isAlpha = true ∧ y.isAlpha = true ∧ z.isAlpha = true := by
  have := day_table w h
  unfold dayOk at this
  split at this
  · next x y z heq => exact ⟨x, y, z, heq, by simpa [Bool.and_eq_true, and_assoc] using this⟩
  · simp at this

theorem month_shape (m : Nat) (h : m < 12) :
    ∃ x y z, monthNames.getD m [] = [x, y, z] ∧ monthIndex? [x, y, z] = some (m + 1) := by
  have := month_table m h
  unfold monthOk at this
  split at this
  · next x y z heq => exact ⟨x, y, z, heq, by simpa using this⟩
  · simp at this

/-- the recogniser on text of the IMF-fixdate shape (its 29-character pattern, unfolded once) -/
theorem parseImfFixdate_shape (w1 w2 w3 d1 d2 m1 m2 m3 y1 y2 y3 y4 h1 h2 i1 i2 s1 s2 : Char) :
    parseImfFixdate [w1, w2, w3, ',', ' ', d1, d2, ' ', m1, m2, m3, ' ', y1, y2, y3, y4, ' ', h1, h2, ':', i1, i2, ':',
      s1, s2, ' ', 'G', 'M', 'T'] =
    (if !(w1.isAlpha && w2.isAlpha && w3.isAlpha) then none else
      (num? [d1, d2]).bind fun d => (monthIndex? [m1, m2, m3]).bind fun mo => (num? [y1, y2, y3, y4]).bind fun y =>
        (num? [h1, h2]).bind fun hh => (num? [i1, i2]).bind fun mi => (num? [s1, s2]).bind fun ss =>
          if Civil.valid ⟨if y < 100 then (if y > 68 then y + 1900 else y + 2000) else y, mo, d, hh, mi, ss⟩
          then some ⟨if y < 100 then (if y > 68 then y + 1900 else y + 2000) else y, mo, d, hh, mi, ss⟩ else none) := by
  rfl

theorem parse_format (c : Civil) (hv : c.valid = true) (hy : 100 ≤ c.y) :
    parseImfFixdate (formatCivil c) = some c := by
  obtain ⟨y, mo, d, hh, mi, ss⟩ := c
  have hv' := hv
  rw [Civil.valid_iff] at hv'
  obtain ⟨hy1, hy2, hm1, hm2, hd1, hd2, hh24, hmi, hss⟩ := hv'
  simp only at hy hy1 hy2 hm1 hm2 hd1 hd2 hh24 hmi hss
  have hd31 : d < 100 := by
    have : daysInMonth (isLeap y) mo ≤ 31 := by
      unfold daysInMonth; split <;> (try split) <;> omega
    omega
  obtain ⟨w1, w2, w3, hw, a1, a2, a3⟩ := day_shape (weekday (ymd2ord y mo d)) (by unfold weekday; omega)
  obtain ⟨m1, m2, m3, hmn, hmi'⟩ := month_shape (mo - 1) (by omega)
  have s1 : ", ".toList = [',', ' '] := by decide
  have s2 : " GMT".toList = [' ', 'G', 'M', 'T'] := by decide
  simp only [formatCivil, hw, hmn, pad2_eq d hd31, pad2_eq hh (by omega), pad2_eq mi (by omega),
    pad2_eq ss (by omega), pad4_eq y (by omega), s1, s2]
  -- the recogniser matches on single characters
  have e2 : ∀ n, decDigits 2 n = [Nat.digitChar (n / 10 % 10), Nat.digitChar (n % 10)] := fun _ => rfl
  have e4 : ∀ n, decDigits 4 n = [Nat.digitChar (n / 10 / 10 / 10 % 10), Nat.digitChar (n / 10 / 10 % 10),
      Nat.digitChar (n / 10 % 10), Nat.digitChar (n % 10)] := fun _ => rfl
  have n2 : ∀ n, n < 100 → num? [Nat.digitChar (n / 10 % 10), Nat.digitChar (n % 10)] = some n :=
    fun n h => num_decDigits 1 n h
  have n4 : num? [Nat.digitChar (y / 10 / 10 / 10 % 10), Nat.digitChar (y / 10 / 10 % 10),
      Nat.digitChar (y / 10 % 10), Nat.digitChar (y % 10)] = some y := num_decDigits 3 y (by omega)
  simp only [e2, e4, List.cons_append, List.nil_append]
  rw [parseImfFixdate_shape]
  simp only [a1, a2, a3, Bool.and_self, Bool.not_true, Bool.false_eq_true, if_false, hmi', n4,
    n2 d hd31, n2 hh (by omega), n2 mi (by omega), n2 ss (by omega), Option.bind_some]
  have e5 : mo - 1 + 1 = mo := by omega
  have hy100 : ¬ (y < 100) := by omega
  simp [e5, hy100, hv]

/-- 0100-01-01T00:00:00 (smallest year email.utils does not re-century) -/
def tMin : Nat := (ymd2ord 100 1 1 - 1) * 86400
/-- 9999-12-31T23:59:59 -/
def tMax : Nat := ymd2ord 9999 12 31 * 86400 - 1

theorem tMin_val : tMin = 36159 * 86400 := by decide
theorem tMax_val : tMax = 3652059 * 86400 - 1 := by decide

theorem date_roundtrip_any (t : Nat) (h1 : tMin ≤ t) (h2 : t ≤ tMax) : parseDate (httpDate t) = some t := by
  rw [tMin_val] at h1
  rw [tMax_val] at h2
  obtain ⟨hd, hh, hmi, hss, hsec⟩ := civilOfSeconds_spec t
  have hy9999 : (civilOfSeconds t).y < 10000 :=
    year_lt_of_ord_le hd.y1 hd.m12 hd.d1 hd.dmax (by rw [hd.ord, dby_10000]; omega)
  have hy100 : 100 ≤ (civilOfSeconds t).y :=
    year_le_of_lt_ord hd.y1 hd.m12 hd.d1 hd.dmax (by rw [hd.ord, dby_100]; omega)
  have hvalid : (civilOfSeconds t).valid = true :=
    (Civil.valid_iff _).2 ⟨hd.y1, by omega, hd.m1, hd.m12, hd.d1, hd.dmax, hh, hmi, hss⟩
  rw [parseDate, httpDate, parse_format _ hvalid hy100, Option.map_some, hsec]

theorem secondsOfCivil_range (c : Civil) (hv : c.valid = true) (hy : 100 ≤ c.y) :
    tMin ≤ secondsOfCivil c ∧ secondsOfCivil c ≤ tMax := by
  obtain ⟨hy1, hy2, hm1, hm2, hd1, hd2, hh, hmi, hss⟩ := (Civil.valid_iff c).1 hv
  obtain ⟨b1, b2⟩ := ymd2ord_bracket hy1 hm2 hd1 hd2
  have hlo := dby_mono hy
  have hhi := dby_mono (show c.y + 1 ≤ 10000 by omega)
  rw [dby_100] at hlo
  rw [dby_10000] at hhi
  rw [tMin_val, tMax_val]
  unfold secondsOfCivil
  constructor <;> omega

theorem parseImfFixdate_image (s : Str) (c : Civil) (h : parseImfFixdate s = some c) : c.valid = true ∧ 100 ≤ c.y := by
  revert h
  fun_cases parseImfFixdate s
  · intro h; cases h
  · intro h
    simp +zetaDelta only [Option.bind_eq_bind, Option.bind_eq_some_iff] at h
    obtain ⟨d, _, mo, _, y, _, hh, _, mi, _, ss, _, hc⟩ := h
    -- the year after the two-digit fix-up
    generalize hY : (if y < 100 then if y > 68 then y + 1900 else y + 2000 else y) = Y at hc
    split at hc
    · next hv =>
      cases hc
      refine ⟨hv, ?_⟩
      show 100 ≤ Y
      rw [← hY]
      split
      · split <;> omega
      · omega
    · cases hc
  · intro h; cases h

theorem parseDate_image_range (w : Str) (t : Nat) (h : parseDate w = some t) : tMin ≤ t ∧ t ≤ tMax := by
  unfold parseDate at h
  cases hc : parseImfFixdate w with
  | none => rw [hc] at h; cases h
  | some c =>
    rw [hc] at h
    simp only [Option.map_some, Option.some.injEq] at h
    subst h
    obtain ⟨hv, hy⟩ := parseImfFixdate_image w c hc
    exact secondsOfCivil_range c hv hy

theorem httpDate_head (t : Nat) : ∃ x y r, httpDate t = x :: y :: r ∧ x.isAlpha = true ∧ y.isAlpha = true := by
  obtain ⟨x, y, z, hw, a1, a2, _⟩ := day_shape
    (weekday (ymd2ord (civilOfSeconds t).y (civilOfSeconds t).mo (civilOfSeconds t).d)) (by unfold weekday; omega)
  refine ⟨x, y, (httpDate t).drop 2, ?_, a1, a2⟩
  simp only [httpDate, formatCivil, hw, List.cons_append, List.drop_succ_cons, List.drop_zero]

theorem httpDateAware_some {c : Civil} {off : Int} {w : Str} (h : httpDateAware c off = some w) :
    0 ≤ (secondsOfCivil c : Int) - off ∧ w = httpDate ((secondsOfCivil c : Int) - off).toNat := by
  unfold httpDateAware at h
  simp only at h
  split at h
  · cases h
  · next hn =>
    simp only [Bool.or_eq_true, decide_eq_true_eq, not_or] at hn
    -- `cases h` here would put `httpDate …` into weak head normal form
    exact ⟨Int.not_lt.mp hn.1, (Option.some.inj h).symm⟩

end Wz.Date
