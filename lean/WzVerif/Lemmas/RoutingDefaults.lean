/-
Routing lemmas (C12): the defaults redirect — what the matched values look like after re-matching the target, and
no second defaults redirect: `get_default_redirect` takes the FIRST rule of the endpoint that provides defaults for
the matched rule and is suitable; a rule in front of it that would be suitable after the redirect would already have
been suitable before it (`getDefaultRedirect_first`, `RoutingSelect`). "Already before" needs Python `==` on the model's
values to be transitive (`Value.pyEq_trans`; for floats, kept as decimals `Dec`, by `Dec.eq_trans`) and so is the comparison
of argument sets (`sameSet_trans`): the middle of the file.
-/
import WzVerif.Lemmas.RoutingSelect
import WzVerif.Lemmas.RoutingBuildSide
namespace Wz.Routing

/-- `provides_defaults_for`, taken apart (`self != rule` is the comparison of the traces) -/
structure ProvidesDefaults (cfg : MapCfg) (r0 rule : Rule) : Prop where
  notBuildOnly : r0.spec.buildOnly = false
  defaults_ne : r0.defaults ≠ []
  endpoint_eq : r0.endpoint = rule.endpoint
  trace_ne : r0.trace cfg ≠ rule.trace cfg
  sameArgs : sameSet r0.arguments rule.arguments = true

theorem providesDefaultsFor_iff {cfg : MapCfg} {r0 rule : Rule} :
    providesDefaultsFor cfg r0 rule = true ↔ ProvidesDefaults cfg r0 rule := by
  simp only [providesDefaultsFor, Bool.and_eq_true, Bool.not_eq_true', beq_iff_eq, bne_iff_ne, ne_eq, List.isEmpty_eq_false_iff]
  exact ⟨fun ⟨⟨⟨⟨h1, h2⟩, h3⟩, h4⟩, h5⟩ => ⟨h1, h2, h3, h4, h5⟩, fun ⟨h1, h2, h3, h4, h5⟩ => ⟨⟨⟨⟨h1, h2⟩, h3⟩, h4⟩, h5⟩⟩

theorem providesDefaultsFor_facts {cfg : MapCfg} {r0 rule : Rule} (h : providesDefaultsFor cfg r0 rule = true) :
    ProvidesDefaults cfg r0 rule := providesDefaultsFor_iff.1 h

theorem suitableFor_defaults {r : Rule} {values : List (Str × Value)} {mth : Option Str} (h : r.suitableFor values mth = true) :
    ∀ kd ∈ r.defaults, ∀ v, lookupVal kd.1 values = some v → kd.2.pyEq v = true := by
  simp only [Rule.suitableFor, Bool.and_eq_true, List.all_eq_true] at h
  intro kd hkd v hv
  have := h.2 kd hkd
  obtain ⟨k, d⟩ := kd
  simp only [hv] at this
  exact this

/-- after the re-match, a variable without default carries the value the original match had -/
theorem rematch_value_nodefault (r0 : Rule) (vals : List (Str × Value)) (n : Str) (hn : n ∈ varNames r0.pathToks)
    (hd : lookupVal n r0.defaults = none) :
    lookupVal n (dictUpdate (builtPairs r0 (dictUpdate vals r0.defaults) r0.pathToks) r0.defaults) = lookupVal n vals := by
  rw [lookupVal_dictUpdate_notin n r0.defaults _ hd, lookupVal_builtPairs, if_pos hn]
  simp only [buildValue, hd]
  exact lookupVal_dictUpdate_notin n r0.defaults vals hd

theorem Dec.eq_of_le_le {x y : Dec} (h1 : x.le y = true) (h2 : y.le x = true) :
    x.m * (10 : Int) ^ y.e = y.m * (10 : Int) ^ x.e := by
  simp only [Dec.le, decide_eq_true_eq] at h1 h2
  omega

theorem Dec.le_of_eq {x y : Dec} (h : x.m * (10 : Int) ^ y.e = y.m * (10 : Int) ^ x.e) : x.le y = true ∧ y.le x = true := by
  simp only [Dec.le, decide_eq_true_eq]
  omega

theorem Dec.eq_trans {x y z : Dec} (h1 : x.m * (10 : Int) ^ y.e = y.m * (10 : Int) ^ x.e)
    (h2 : y.m * (10 : Int) ^ z.e = z.m * (10 : Int) ^ y.e) : x.m * (10 : Int) ^ z.e = z.m * (10 : Int) ^ x.e := by
  have hy : (0 : Int) < (10 : Int) ^ y.e := Int.pow_pos (by omega)
  have key : (x.m * (10 : Int) ^ z.e) * (10 : Int) ^ y.e = (z.m * (10 : Int) ^ x.e) * (10 : Int) ^ y.e := by
    calc (x.m * (10 : Int) ^ z.e) * (10 : Int) ^ y.e
        = (x.m * (10 : Int) ^ y.e) * (10 : Int) ^ z.e := by
          rw [Int.mul_assoc, Int.mul_assoc, Int.mul_comm ((10 : Int) ^ z.e)]
      _ = (y.m * (10 : Int) ^ x.e) * (10 : Int) ^ z.e := by rw [h1]
      _ = (y.m * (10 : Int) ^ z.e) * (10 : Int) ^ x.e := by
          rw [Int.mul_assoc, Int.mul_assoc, Int.mul_comm ((10 : Int) ^ x.e)]
      _ = (z.m * (10 : Int) ^ y.e) * (10 : Int) ^ x.e := by rw [h2]
      _ = (z.m * (10 : Int) ^ x.e) * (10 : Int) ^ y.e := by
          rw [Int.mul_assoc, Int.mul_assoc, Int.mul_comm ((10 : Int) ^ y.e)]
  exact Int.eq_of_mul_eq_mul_right (by omega) key

theorem Value.pyEq_refl (a : Value) : a.pyEq a = true := by
  simp only [Value.pyEq]
  cases h : a.dec? with
  | none => simp
  | some x => simp [Dec.le]

theorem Value.pyEq_trans {a b c : Value} (h1 : a.pyEq b = true) (h2 : b.pyEq c = true) : a.pyEq c = true := by
  simp only [Value.pyEq] at h1 h2 ⊢
  cases ha : a.dec? with
  | none =>
    cases hb : b.dec? with
    | some y => simp [ha, hb] at h1
    | none =>
      cases hc : c.dec? with
      | some z => simp [hb, hc] at h2
      | none =>
        simp only [ha, hb, hc, beq_iff_eq] at h1 h2 ⊢
        rw [h1, h2]
  | some x =>
    cases hb : b.dec? with
    | none => simp [ha, hb] at h1
    | some y =>
      cases hc : c.dec? with
      | none => simp [hb, hc] at h2
      | some z =>
        simp only [ha, hb, hc, Bool.and_eq_true] at h1 h2 ⊢
        exact Dec.le_of_eq (Dec.eq_trans (Dec.eq_of_le_le h1.1 h1.2) (Dec.eq_of_le_le h2.1 h2.2))

theorem sameSet_trans {a b c : List Str} (h1 : sameSet a b = true) (h2 : sameSet b c = true) : sameSet a c = true := by
  simp only [sameSet, Bool.and_eq_true, List.all_eq_true, List.contains_eq_mem, decide_eq_true_eq] at h1 h2 ⊢
  exact ⟨fun x hx => h2.1 x (h1.1 x hx), fun x hx => h1.2 x (h2.2 x hx)⟩

theorem sameSet_mem {a b : List Str} (h : sameSet a b = true) {x : Str} (hx : x ∈ a) : x ∈ b := by
  simp only [sameSet, Bool.and_eq_true, List.all_eq_true, List.contains_eq_mem, decide_eq_true_eq] at h
  exact h.1 x hx

theorem getDefaultRedirect_none {m : RMap} {a : Adapter} {rule : Rule} {meth : Str} {vals : List (Str × Value)}
    {qa : QueryArgs} : ∀ (l1 : List Rule) (l2 : List Rule),
    (∀ x ∈ l1, x.idx ≠ rule.idx ∧ (providesDefaultsFor m.cfg x rule && x.suitableFor vals (some meth)) = false) →
    getDefaultRedirect m a rule meth vals qa (l1 ++ rule :: l2) = .ok none := by
  intro l1
  induction l1 with
  | nil => intro l2 _; simp [getDefaultRedirect]
  | cons x t ih =>
    intro l2 h
    have hx := h x (by simp)
    simp only [List.cons_append, getDefaultRedirect]
    rw [if_neg (by simpa using hx.1), if_neg (by simp [hx.2])]
    exact ih l2 (fun y hy => h y (List.mem_cons_of_mem _ hy))

/-- do the values after the redirect agree (Python `==`) with the values before it, key by key? -/
def valsAgree (vals0 vals : List (Str × Value)) : Bool :=
  vals.all fun kv => match lookupVal kv.1 vals0 with
    | some v0 => v0.pyEq kv.2
    | none => false

theorem any_key_of_lookupVal {k : Str} {v : Value} {l : List (Str × Value)} (h : lookupVal k l = some v) :
    l.any (·.1 == k) = true := by
  simp only [List.any_eq_true]
  exact ⟨(k, v), mem_of_lookupVal h, by simp⟩

theorem suitableFor_of_agree {x : Rule} {vals0 vals : List (Str × Value)} {mth : Option Str}
    (hagree : valsAgree vals0 vals = true)
    (hkeys : ∀ k ∈ x.arguments, vals.any (·.1 == k) = true)
    (h : x.suitableFor vals0 mth = true) : x.suitableFor vals mth = true := by
  simp only [Rule.suitableFor, Bool.and_eq_true, List.all_eq_true, Bool.or_eq_true] at h ⊢
  refine ⟨⟨h.1.1, fun k hk => .inr (hkeys k hk)⟩, ?_⟩
  intro kd hkd
  have hx := h.2 kd hkd
  obtain ⟨k, d⟩ := kd
  simp only at hx ⊢
  cases hv : lookupVal k vals with
  | none => rfl
  | some v =>
    simp only
    simp only [valsAgree, List.all_eq_true] at hagree
    have := hagree (k, v) (mem_of_lookupVal hv)
    simp only at this
    cases hv0 : lookupVal k vals0 with
    | none => simp [hv0] at this
    | some v0 =>
      simp only [hv0] at this hx
      exact Value.pyEq_trans hx this

theorem no_second_defaults_redirect {m : RMap} {a : Adapter} {rule : Rule} {meth : Str} {vals : List (Str × Value)}
    {qa : QueryArgs} {url : Str} {l : List Rule}
    (hidx : (l.map (·.idx)).Nodup)
    (htrace : ∀ x ∈ l, x.idx ≠ rule.idx → x.trace m.cfg ≠ rule.trace m.cfg)
    (hkeys : ∀ k ∈ rule.arguments, vals.any (·.1 == k) = true)
    (h : getDefaultRedirect m a rule meth vals qa l = .ok (some url)) :
    ∃ r0 ∈ l, providesDefaultsFor m.cfg r0 rule = true ∧ r0.suitableFor vals (some meth) = true ∧
      (∀ (vals0 : List (Str × Value)) (qa' : QueryArgs), valsAgree vals0 vals = true →
        getDefaultRedirect m a r0 meth vals0 qa' l = .ok none) := by
  obtain ⟨l1, r0, l2, hl, fp⟩ := getDefaultRedirect_first h
  refine ⟨r0, by rw [hl]; simp, fp.provides, fp.suitable, ?_⟩
  intro vals0 qa' hagree
  rw [hl]
  apply getDefaultRedirect_none
  intro x hx
  have hxl : x ∈ l := by rw [hl]; exact List.mem_append_left _ hx
  -- idx of an earlier entry differs from r0's
  have hne : x.idx ≠ r0.idx := by
    rw [hl, List.map_append, List.map_cons] at hidx
    have := (List.nodup_append.1 hidx).2.2 x.idx (List.mem_map.2 ⟨x, hx, rfl⟩) r0.idx (by simp)
    exact this
  refine ⟨hne, ?_⟩
  cases hc : (providesDefaultsFor m.cfg x r0 && x.suitableFor vals0 (some meth)) with
  | false => rfl
  | true =>
    exfalso
    simp only [Bool.and_eq_true] at hc
    obtain ⟨hp0, hs0⟩ := hc
    obtain ⟨hxidx, hfirst⟩ := fp.before x hx
    -- x provides defaults for the originally matched rule as well
    have hp : providesDefaultsFor m.cfg x rule = true := by
      have p0 := providesDefaultsFor_facts hp0
      have p := providesDefaultsFor_facts fp.provides
      exact providesDefaultsFor_iff.2 ⟨p0.notBuildOnly, p0.defaults_ne, p0.endpoint_eq.trans p.endpoint_eq,
        htrace x hxl hxidx, sameSet_trans p0.sameArgs p.sameArgs⟩
    have hsx : x.suitableFor vals (some meth) = true := by
      apply suitableFor_of_agree hagree _ hs0
      intro k hk
      exact hkeys k (sameSet_mem (providesDefaultsFor_facts hp).sameArgs hk)
    rw [hp, hsx] at hfirst
    cases hfirst

end Wz.Routing
