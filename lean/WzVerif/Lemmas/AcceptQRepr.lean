/-
`Accept.to_header()` prints a quality with `f"{quality}"`, the `repr` of a float; the model's `qRepr` prints the normal
form of the exact decimal in positional notation and is undefined where CPython switches to exponent notation (a
non-zero quality below `1e-4`: `qRepr_none_iff`). `ReprOk q` says that what is printed is a token which `_q_value_re`
and the range check accept and which denotes the same number; `reprOk_of_le_one` proves it for every `q ≤ 1` in the
domain of `qRepr`. The round trip of whole headers in Lemmas/AcceptLexer.lean rests on it.
-/
import WzVerif.Lemmas.AcceptText
namespace Wz.Accept
open Wz

def isTokenB (s : Str) : Bool := !s.isEmpty && s.all isTokChar

theorem isTokenB_iff (s : Str) : isTokenB s = true ↔ IsToken s := by
  unfold isTokenB IsToken
  cases s with
  | nil => simp
  | cons c t => simp

def isValueTextB (s : Str) : Bool := !s.isEmpty && s.all fun c => isTokChar c || c == '/'

theorem isValueTextB_iff (s : Str) : isValueTextB s = true ↔ IsValueText s := by
  unfold isValueTextB IsValueText
  cases s with
  | nil => simp
  | cons c t => simp

/-- qualities equivalent as numbers -/
def Q.equiv (a b : Q) : Bool := a.le b && b.le a

/-- the quality prints (if it is not 1) as a token that `_q_value_re` and the range check accept and
that denotes the same number -/
def ReprOk (q : Q) : Bool :=
  q.isOne || (match qRepr q with
    | some r => isTokenB r && (match parseQ r with
      | some q' => Q.equiv q' q
      | none => false)
    | none => false)

/-- what the element parses back to -/
def reparsed (it : Str × Q) : Str × Q :=
  (it.1, if it.2.isOne then Q.one else ((qRepr it.2).bind parseQ).getD Q.zero)

theorem reprOk_cases {q : Q} (h : ReprOk q = true) :
    q.isOne = true ∨ (q.isOne = false ∧ ∃ r q', qRepr q = some r ∧ IsToken r ∧ parseQ r = some q' ∧
      Q.equiv q' q = true) := by
  unfold ReprOk at h
  cases h1 : q.isOne with
  | true => exact Or.inl rfl
  | false =>
    right
    refine ⟨rfl, ?_⟩
    rw [h1] at h
    simp only [Bool.false_or] at h
    cases hr : qRepr q with
    | none => rw [hr] at h; cases h
    | some r =>
      rw [hr] at h
      simp only [Bool.and_eq_true] at h
      cases hp : parseQ r with
      | none => rw [hp] at h; simp at h
      | some q' =>
        rw [hp] at h
        exact ⟨r, q', rfl, (isTokenB_iff r).mp h.1, hp, h.2⟩

theorem reparsed_equiv (it : Str × Q) (h : ReprOk it.2 = true) :
    (reparsed it).1 = it.1 ∧ Q.equiv (reparsed it).2 it.2 = true := by
  refine ⟨rfl, ?_⟩
  rcases reprOk_cases h with h1 | ⟨h1, r, q', hr, _, hp, he⟩
  · simp only [reparsed, h1, ↓reduceIte]
    unfold Q.isOne at h1
    unfold Q.equiv
    simp only [Bool.and_eq_true] at h1 ⊢
    exact ⟨h1.2, h1.1⟩
  · simp [reparsed, h1, hr, hp, he]

theorem norm_go_spec (n s : Nat) :
    (Q.norm.go n s).num * 10 ^ s = n * 10 ^ (Q.norm.go n s).scale ∧
    ((Q.norm.go n s).scale > 0 → (Q.norm.go n s).num % 10 ≠ 0) ∧ (Q.norm.go n s).scale ≤ s := by
  induction s generalizing n with
  | zero => simp [Q.norm.go]
  | succ s ih =>
    unfold Q.norm.go
    by_cases h : (n % 10 == 0) = true
    · simp only [h, ↓reduceIte]
      obtain ⟨h1, h2, h3⟩ := ih (n / 10)
      refine ⟨?_, h2, by omega⟩
      have hdiv : n / 10 * 10 = n := by
        have : n % 10 = 0 := by simpa using h
        omega
      generalize Q.norm.go (n / 10) s = r at h1
      calc r.num * 10 ^ (s + 1) = (r.num * 10 ^ s) * 10 := by rw [Nat.pow_succ, Nat.mul_assoc]
        _ = (n / 10 * 10 ^ r.scale) * 10 := by rw [h1]
        _ = (n / 10 * 10) * 10 ^ r.scale := by rw [Nat.mul_right_comm]
        _ = n * 10 ^ r.scale := by rw [hdiv]
    · have h' : (n % 10 == 0) = false := by simpa using h
      simp only [h', Bool.false_eq_true, ↓reduceIte]
      refine ⟨by simp, fun _ => by simpa using h, by simp⟩

theorem norm_spec (q : Q) :
    q.norm.num * 10 ^ q.scale = q.num * 10 ^ q.norm.scale ∧
    (q.norm.scale > 0 → q.norm.num % 10 ≠ 0) := by
  obtain ⟨h1, h2, _⟩ := norm_go_spec q.num q.scale
  exact ⟨h1, h2⟩

theorem norm_scale_le (q : Q) : q.norm.scale ≤ q.scale := (norm_go_spec q.num q.scale).2.2

theorem digitsVal_eq_ofDigitChars (l : Str) : digitsVal l = Nat.ofDigitChars 10 l 0 := rfl

theorem isDigit_isTokChar {c : Char} (h : c.isDigit = true) : isTokChar c = true := by
  simp [isTokChar, Char.isAlphanum, h]

/-- the decimal text of a quality strictly between 0 and 1 whose normal form has `scale` fraction
digits: `0.` followed by the numerator left-padded with zeros -/
theorem parseQ_padded (num scale : Nat) (hs : 0 < scale) (hlt : num < 10 ^ scale) :
    parseQ ('0' :: '.' :: padZeros scale (toString num).toList) = some ⟨num, scale⟩ ∧
    isTokenB ('0' :: '.' :: padZeros scale (toString num).toList) = true := by
  have hd : (toString num).toList = Nat.toDigits 10 num := by simp
  have hlen : (Nat.toDigits 10 num).length ≤ scale := (Nat.length_toDigits_le_iff (by decide) hs).mpr hlt
  have hfr : ∀ c ∈ padZeros scale (toString num).toList, c.isDigit = true := by
    intro c hc
    rw [hd] at hc
    simp only [padZeros, List.mem_append, List.mem_replicate] at hc
    rcases hc with ⟨_, rfl⟩ | hc
    · decide
    · exact toDigits_isDigit num c hc
  have hfl : (padZeros scale (toString num).toList).length = scale := by
    rw [hd]; simp [padZeros]; omega
  have hval : digitsVal (['0'] ++ padZeros scale (toString num).toList) = num := by
    rw [hd, digitsVal_eq_ofDigitChars, padZeros, Nat.ofDigitChars_append, Nat.ofDigitChars_append]
    have e0 : Nat.ofDigitChars 10 ['0'] 0 = 0 := by decide
    rw [e0, Nat.ofDigitChars_replicate_zero, Nat.mul_zero, Nat.ofDigitChars_ten_toDigits]
  constructor
  · apply (parseQ_iff _ _).mpr
    refine ⟨false, ['0'], padZeros scale (toString num).toList, by simp, ?_, ?_, ?_, ?_, ?_, by simp⟩
    · intro c hc; simp at hc; subst hc; decide
    · intro c hc; exact hfr c hc
    · have hne : (padZeros scale (toString num).toList).isEmpty = false := by
        cases h : padZeros scale (toString num).toList with
        | nil => rw [h] at hfl; simp at hfl; omega
        | cons _ _ => rfl
      simp only [Bool.false_eq_true, ↓reduceIte, List.nil_append, hne, List.cons_append]
    · rw [hval, hfl]
    · show num ≤ 10 ^ scale
      omega
  · rw [isTokenB_iff]
    refine ⟨by simp, ?_⟩
    intro c hc
    rcases List.mem_cons.mp hc with rfl | hc
    · decide
    · rcases List.mem_cons.mp hc with rfl | hc
      · decide
      · exact isDigit_isTokChar (hfr c hc)

theorem qRepr_eq (q : Q) : qRepr q =
    if q.norm.num = 0 then some ['0', '.', '0']
    else if q.norm.scale = 0 then some ((toString q.norm.num).toList ++ ['.', '0'])
    else if 4 < q.norm.scale ∧ q.norm.num * 10000 < 10 ^ q.norm.scale then none
    else some ('0' :: '.' :: padZeros q.norm.scale (toString q.norm.num).toList) := by
  simp only [qRepr, beq_iff_eq, gt_iff_lt, Bool.and_eq_true, decide_eq_true_eq]

/-- **General reprint theorem.** Every quality `q ≤ 1` that `to_header` can print in positional
notation (`qRepr q ≠ none`: zero, or at least `1e-4`) prints as a token that `_q_value_re` and the
range check accept and that denotes the same number. -/
theorem reprOk_of_le_one (q : Q) (hle : q.le Q.one = true) (hr : (qRepr q).isSome = true) :
    ReprOk q = true := by
  unfold ReprOk
  cases hone : q.isOne with
  | true => rfl
  | false =>
    simp only [Bool.false_or]
    obtain ⟨hv, hmod⟩ := norm_spec q
    have hle' : q.num ≤ 10 ^ q.scale := by simpa [Q.le, Q.one] using hle
    -- the normal form is at most one as well
    have hnle : q.norm.num ≤ 10 ^ q.norm.scale := by
      have h1 : q.norm.num * 10 ^ q.scale ≤ 10 ^ q.norm.scale * 10 ^ q.scale := by
        rw [hv, Nat.mul_comm]; exact Nat.mul_le_mul_left _ hle'
      exact Nat.le_of_mul_le_mul_right h1 (Nat.pow_pos (by decide))
    rw [qRepr_eq] at hr ⊢
    by_cases h0 : q.norm.num = 0
    · -- zero prints as 0.0
      have hq0 : q.num = 0 := by
        rw [h0] at hv
        have : q.num * 10 ^ q.norm.scale = 0 := by omega
        rcases Nat.mul_eq_zero.mp this with h | h
        · exact h
        · exact absurd h (Nat.pos_iff_ne_zero.mp (Nat.pow_pos (by decide)))
      have hp : parseQ ['0', '.', '0'] = some ⟨0, 1⟩ := by decide
      have ht : isTokenB ['0', '.', '0'] = true := by decide
      simp [h0, hp, ht, Q.equiv, Q.le, hq0]
    by_cases hs : q.norm.scale = 0
    · -- scale 0 and not zero: the quality is 1, excluded
      exfalso
      have hn1 : q.norm.num = 1 := by rw [hs] at hnle; simp at hnle; omega
      rw [hn1, hs] at hv
      simp only [Nat.one_mul, Nat.pow_zero, Nat.mul_one] at hv
      have : q.isOne = true := by simp [Q.isOne, Q.le, Q.one, hv]
      rw [this] at hone; cases hone
    by_cases hx : 4 < q.norm.scale ∧ q.norm.num * 10000 < 10 ^ q.norm.scale
    · simp [h0, hs, hx] at hr
    · simp only [h0, hs, hx, ↓reduceIte]
      have hspos : 0 < q.norm.scale := by omega
      have hlt : q.norm.num < 10 ^ q.norm.scale := by
        rcases Nat.lt_or_ge q.norm.num (10 ^ q.norm.scale) with h | h
        · exact h
        · exfalso
          have heq : q.norm.num = 10 ^ q.norm.scale := by omega
          have := hmod hspos
          rw [heq] at this
          obtain ⟨k, hk⟩ : ∃ k, q.norm.scale = k + 1 := ⟨q.norm.scale - 1, by omega⟩
          rw [hk, Nat.pow_succ] at this
          simp at this
      obtain ⟨hp, ht⟩ := parseQ_padded q.norm.num q.norm.scale hspos hlt
      simp only [hp, ht, Bool.true_and]
      simp only [Q.equiv, Q.le, Bool.and_eq_true, decide_eq_true_eq]
      constructor <;> omega

/-- … and `to_header` leaves positional notation only for a non-zero quality below `1e-4` -/
theorem qRepr_none_iff (q : Q) :
    qRepr q = none ↔ q.norm.num ≠ 0 ∧ 4 < q.norm.scale ∧ q.norm.num * 10000 < 10 ^ q.norm.scale := by
  rw [qRepr_eq]
  by_cases h0 : q.norm.num = 0
  · simp [h0]
  by_cases hs : q.norm.scale = 0
  · simp [h0, hs]
  by_cases hx : 4 < q.norm.scale ∧ q.norm.num * 10000 < 10 ^ q.norm.scale
  · simp [h0, hs, hx]
  · simp [h0, hs, hx]

theorem itemHeader_none_iff (it : Str × Q) :
    itemHeader it = none ↔ (it.2.isOne = false ∧ qRepr it.2 = none) := by
  unfold itemHeader
  cases h1 : it.2.isOne <;> cases h2 : qRepr it.2 <;> simp

end Wz.Accept
