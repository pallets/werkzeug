/-
C17 — content negotiation picks a best-quality, most-specific offer.
Property theorems only (helper lemmas live in Lemmas/Accept.lean, AcceptText.lean, AcceptQRepr.lean,
AcceptLexer.lean).

The generic theorems hold for every `Neg σ κ` (any specificity function, any match relation) whose
two `≤` relations are total preorders; they are then instantiated for the four werkzeug classes.
-/
import WzVerif.Lemmas.AcceptText
import WzVerif.Lemmas.AcceptQRepr
import WzVerif.Lemmas.AcceptLexer
import WzVerif.Gen.AcceptTbl
import WzVerif.Gen.AcceptApi
import WzVerif.Lemmas.TableSweep
namespace Wz.Props.C17
open Wz Wz.Accept

variable {σ κ : Type}

/-- one row of `Gen.AcceptTbl.qTable`: the model's `parse_accept_header("a;q=" + s)` equals what
the live function returned (no item, or the item `a` with that normalised q) -/
def qRowAgrees (e : Str × Option (Nat × Nat)) : Bool :=
  ((parseAcceptRaw (['a', ';', 'q', '='] ++ e.1)).toOption.map fun l =>
      l.map fun it => (it.1, it.2.norm.num, it.2.norm.scale))
    == some (match e.2 with
      | none => []
      | some (n, s) => [(['a'], n, s)])

/-- The live `parse_accept_header` (with the live `_q_value_re`, `float` and range check) and the
model agree on every q text of length ≤ 3 over the alphabet `-.015x` and the length-4 texts
starting `0.`, `1.`, `-0`, `-1` — 402 strings, including
all the malformed, negative and `> 1` shapes of the property (`decide` over the regenerated table;
an edit of the regex or of a comparison in the range check changes a row). -/
theorem q_table_agrees : Gen.AcceptTbl.qTable.all qRowAgrees = true := by
  -- every q text of the table is a token, so the lexer need not be run on the rows
  have htok : Gen.AcceptTbl.qTable.all (fun e => isTokenB e.1 &&
      ((parseQ e.1).map fun q => (q.norm.num, q.norm.scale)) == e.2) = true := by decide +kernel
  rw [List.all_eq_true] at htok ⊢
  intro e he
  unfold qRowAgrees
  rw [qRow_of_token e.1 e.2 (htok e he)]
  exact beq_self_eq_true _

def tblAt (t : List Bool) (n : Nat) : Bool := t.getD n false

/-- The live `_locale_delim_re` and `_mime_split_re` accept exactly the single characters the model
splits on (`_`/`-`; `/`/`;`), and the whitespace `_mime_split_re` absorbs around `;` is the model's. -/
theorem delimiter_tables_agree :
    ∀ n, n < 256 →
      tblAt Gen.AcceptTbl.langDelim n = isLangDelim (Char.ofNat n) ∧
      tblAt Gen.AcceptTbl.mimeDelim n = (n == 47 || n == 59) ∧
      tblAt Gen.AcceptTbl.mimeWs n = Py.isSpace (Char.ofNat n) := by
  intro n hn
  have h1 : Gen.AcceptTbl.langDelim.length = 256 := by decide +kernel
  have h2 : Gen.AcceptTbl.mimeDelim.length = 256 := by decide +kernel
  have h3 : Gen.AcceptTbl.mimeWs.length = 256 := by decide +kernel
  exact ⟨beq_iff_eq.mp (getD_sweep (q := fun b n => b == isLangDelim (Char.ofNat n))
      (by decide +kernel) (h1 ▸ hn)),
    beq_iff_eq.mp (getD_sweep (q := fun b n => b == (n == 47 || n == 59)) (by decide +kernel) (h2 ▸ hn)),
    beq_iff_eq.mp (getD_sweep (q := fun b n => b == Py.isSpace (Char.ofNat n))
      (by decide +kernel) (h3 ▸ hn))⟩

/-- `Accept.__init__` neither drops nor invents client items. -/
theorem parse_perm (N : Neg σ κ) (values : List (Str × κ)) : (mk N values).Perm values :=
  sortDesc_perm _ _

/-- The parsed list is sorted descending by `(specificity, q)`: every earlier item is at least as
specific as every later one, and among equally specific items has at least its quality. -/
theorem parse_sorted (N : Neg σ κ) (hs : TotalPre N.sle) (hq : TotalPre N.qle)
    (values : List (Str × κ)) :
    (mk N values).Pairwise fun x y =>
      N.sle (N.spec y.1) (N.spec x.1) = true ∧
      (N.sle (N.spec x.1) (N.spec y.1) = true → N.qle y.2 x.2 = true) :=
  (sortDesc_sorted (keyGe N) (keyGe_totalPre N hs hq) values).imp (keyGe_dominates N hs)

/-- Parsing keeps the client's order among items of equal specificity and quality: the subsequence
of items whose specificity is equivalent to `s` and whose quality is equivalent to `q` is the same
before and after `Accept.__init__`. -/
theorem parse_order_stable (N : Neg σ κ) (hs : TotalPre N.sle) (hq : TotalPre N.qle)
    (values : List (Str × κ)) (s : σ) (q : κ) :
    let same := fun (x : Str × κ) =>
      N.sle (N.spec x.1) s && N.sle s (N.spec x.1) && N.qle x.2 q && N.qle q x.2
    (mk N values).filter same = values.filter same := by
  intro same
  apply sortDesc_filter
  intro a b ha hb
  simp only [same, Bool.and_eq_true] at ha hb
  simp only [keyGe]
  have h1 := hs.trans _ _ _ hb.1.1.1 ha.1.1.2
  have h2 := hq.trans _ _ _ hb.1.2 ha.2
  simp [h1, h2]

example : (mk acceptNeg [("a".toList, ⟨5, 1⟩), ("*".toList, ⟨1, 0⟩), ("b".toList, ⟨50, 2⟩),
      ("c".toList, ⟨9, 1⟩)]).map (·.1)
    = ["c".toList, "a".toList, "b".toList, "*".toList] := by
  -- a literal's `toList` is rewritten to the list of its characters: evaluating it decodes the bytes
  repeat rewrite [String.toList_ofList]
  decide +kernel

/-- `_best_single_match` on the sorted list returns a client item that matches the offer and is
the most specific matching one — and, among equally specific matching items, one of highest
quality. This is "the quality of an offer" of the property text. -/
theorem sorted_first_match_most_specific (N : Neg σ κ) (hs : TotalPre N.sle) (hq : TotalPre N.qle)
    (values : List (Str × κ)) (offer : Str) (x : Str × κ)
    (h : bestSingle N (mk N values) offer = some x) :
    x ∈ values ∧ N.matches offer x.1 = true ∧
    ∀ y ∈ values, N.matches offer y.1 = true →
      N.sle (N.spec y.1) (N.spec x.1) = true ∧
      (N.sle (N.spec x.1) (N.spec y.1) = true → N.qle y.2 x.2 = true) :=
  bestSingle_mk_spec N hs hq values offer x h

example : bestSingle mimeNeg (mk mimeNeg [("text/*".toList, ⟨9, 1⟩), ("text/html".toList, ⟨2, 1⟩),
      ("*/*".toList, ⟨5, 1⟩)]) "text/html".toList = some ("text/html".toList, ⟨2, 1⟩) := by
  repeat rewrite [String.toList_ofList]
  decide +kernel

/-- An offer has no quality (`quality()` returns 0, `find` -1, `in` False) exactly when no client
item matches it. -/
theorem no_match_iff (N : Neg σ κ) (values : List (Str × κ)) (offer : Str) :
    bestSingle N (mk N values) offer = none ↔ ∀ y ∈ values, N.matches offer y.1 = false :=
  bestSingle_mk_none N values offer

/-- `quality`, `find` and `__contains__` agree with `_best_single_match`. -/
theorem quality_find_contains (N : Neg σ κ) (self : List (Str × κ)) (key : Str) :
    (quality N self key = none ↔ bestSingle N self key = none) ∧
    (find N self key = none ↔ bestSingle N self key = none) ∧
    (contains N self key = false ↔ bestSingle N self key = none) := by
  refine ⟨by simp [quality], ?_, ?_⟩
  · rw [find_eq_none_iff, bestSingle_eq_none_iff]
  · rw [← Bool.not_eq_true, contains_iff, bestSingle_eq_none_iff]
    simp

/-- `best_match` returns an offer `r` (at some position `pre ++ r :: post`) whose quality `q` is
positive and the highest among all offers; among the offers of that same quality its matched range
is the most specific; and every earlier offer is strictly worse (lower quality, or the same quality
with a strictly less specific range) — so ties go to the earlier offer. -/
theorem bestMatch_optimal (N : Neg σ κ) (hs : TotalPre N.sle) (hq : TotalPre N.qle)
    (self : List (Str × κ)) (offers : List Str) (r : Str)
    (h : bestMatch N self offers = some r) :
    ∃ pre post ci q, offers = pre ++ r :: post ∧ bestSingle N self r = some (ci, q) ∧
      N.qle q N.zero = false ∧
      (∀ o ∈ offers, ∀ ci' q', bestSingle N self o = some (ci', q') →
          N.qle q' q = true ∧ (N.qle q q' = true → N.sle (N.spec ci') (N.spec ci) = true)) ∧
      (∀ o ∈ pre, ∀ ci' q', bestSingle N self o = some (ci', q') →
          N.qle q q' = true → N.sle (N.spec ci) (N.spec ci') = false) := by
  obtain ⟨⟨q, sp⟩, hfm⟩ := bestMatch_eq_some N hs hq h
  have hall := FirstMax.ge_all _ _ (rankGe_totalPre N hs hq) (r := r) hfm
  obtain ⟨pre, post, hl, hsr, hpre, -⟩ := hfm
  obtain ⟨ci, hb, hpos, rfl⟩ := (offerScore_eq_some N).mp hsr
  refine ⟨pre, post, ci, q, hl, hb, hpos, ?_, ?_⟩
  · intro o ho ci' q' hbo
    cases c : N.qle q' N.zero
    · exact lexGe_dominates hq (hall o ho _ ((offerScore_eq_some N).mpr ⟨ci', hbo, c, rfl⟩))
    · exact ⟨hq.trans _ _ _ c (hq.of_not hpos), fun h2 => by rw [hq.trans _ _ _ h2 c] at hpos; cases hpos⟩
  · intro o ho ci' q' hbo hqq
    cases c : N.qle q' N.zero
    · have := hpre o ho _ ((offerScore_eq_some N).mpr ⟨ci', hbo, c, rfl⟩)
      cases c2 : N.sle (N.spec ci) (N.spec ci') with
      | false => rfl
      | true => rw [(rankGe_iff N (q', N.spec ci') (q, N.spec ci)).mpr (.inr ⟨hqq, c2⟩)] at this; cases this
    · rw [hq.trans _ _ _ hqq c] at hpos; cases hpos

example : bestMatch mimeNeg (mk mimeNeg [("text/*".toList, ⟨9, 1⟩), ("text/html".toList, ⟨2, 1⟩),
      ("*/*".toList, ⟨5, 1⟩)]) ["image/png".toList, "text/html".toList, "text/plain".toList]
    = some "text/plain".toList := by
  repeat rewrite [String.toList_ofList]
  decide +kernel

/-- `best_match` returns the default exactly when no offer has positive quality, i.e. an offer that
no range matches, or whose most specific range has `q = 0`, is never chosen — and some offer is
chosen whenever one has positive quality. -/
theorem bestMatch_none_iff (N : Neg σ κ) (hs : TotalPre N.sle) (hq : TotalPre N.qle)
    (self : List (Str × κ)) (offers : List Str) :
    bestMatch N self offers = none ↔
      ∀ o ∈ offers, ∀ ci q, bestSingle N self o = some (ci, q) → N.qle q N.zero = true := by
  rw [bestMatch_eq_none_iff N hs hq]
  exact forall₂_congr fun o _ => offerScore_eq_none N

example : bestMatch acceptNeg (mk acceptNeg [("gzip".toList, Q.zero), ("*".toList, ⟨5, 1⟩)])
    ["gzip".toList] = none := by
  repeat rewrite [String.toList_ofList]
  decide +kernel

/-- declarative reading of "the quality of an offer": `x` is a client item that matches the offer,
is at least as specific as every other matching item, and among the equally specific ones has the
highest q -/
def IsOfferQuality (N : Neg σ κ) (values : List (Str × κ)) (offer : Str) (x : Str × κ) : Prop :=
  x ∈ values ∧ N.matches offer x.1 = true ∧
  ∀ y ∈ values, N.matches offer y.1 = true →
    N.sle (N.spec y.1) (N.spec x.1) = true ∧
    (N.sle (N.spec x.1) (N.spec y.1) = true → N.qle y.2 x.2 = true)

/-- The property, end to end on the parsed client items (any class): if `best_match` on the parsed
header returns `r`, then `r` is an offer, its quality (the q of its most specific matching range)
is positive, and no offer has a higher quality — where "quality" is the declarative
`IsOfferQuality`, not the code's lookup. -/
theorem negotiation_meets_property (N : Neg σ κ) (hs : TotalPre N.sle) (hq : TotalPre N.qle)
    (values : List (Str × κ)) (offers : List Str) (r : Str)
    (h : bestMatch N (mk N values) offers = some r) :
    r ∈ offers ∧ ∃ x, IsOfferQuality N values r x ∧ N.qle x.2 N.zero = false ∧
      ∀ o ∈ offers, ∀ y, IsOfferQuality N values o y → N.qle y.2 x.2 = true := by
  obtain ⟨pre, post, ci, q, hl, hb, hpos, hall, _⟩ := bestMatch_optimal N hs hq (mk N values) offers r h
  have hx := sorted_first_match_most_specific N hs hq values r (ci, q) hb
  refine ⟨by rw [hl]; simp, (ci, q), hx, hpos, ?_⟩
  intro o ho y hy
  obtain ⟨⟨ci0, q0⟩, hbo, hyq⟩ := bestSingle_mk_dominates N hs hq values o y hy
  exact hq.trans _ _ _ hyq (hall o ho ci0 q0 hbo).1

example : TotalPre acceptNeg.sle ∧ TotalPre acceptNeg.qle ∧
    bestMatch acceptNeg (mk acceptNeg [("gzip".toList, ⟨5, 1⟩), ("*".toList, ⟨1, 1⟩)])
      ["br".toList, "gzip".toList] = some "gzip".toList :=
  ⟨specLe_totalPre, qle_totalPre, by decide +kernel⟩

/-- ... and conversely nothing is chosen only when no offer has positive quality. -/
theorem negotiation_none_meets_property (N : Neg σ κ) (hs : TotalPre N.sle) (hq : TotalPre N.qle)
    (values : List (Str × κ)) (offers : List Str)
    (h : bestMatch N (mk N values) offers = none) :
    ∀ o ∈ offers, ∀ y, IsOfferQuality N values o y → N.qle y.2 N.zero = true := by
  intro o ho y hy
  have hnone := (bestMatch_none_iff N hs hq (mk N values) offers).mp h o ho
  obtain ⟨⟨ci0, q0⟩, hbo, hyq⟩ := bestSingle_mk_dominates N hs hq values o y hy
  exact hq.trans _ _ _ hyq (hnone ci0 q0 hbo)

/-- Exactly which q texts are kept: `parseQ s = some q` iff `s` has the shape `-?digits(.digits)?`
(`_q_value_re`), `q` is its decimal value, `q ≤ 1`, and a minus sign only stands in front of zero.
Every other text — empty, `1.`, `.5`, `+1`, `1e-1`, `abc`, anything negative or above one — makes
`parse_accept_header` drop the item. -/
theorem q_text_kept_iff (s : Str) (q : Q) : parseQ s = some q ↔ QText s q := parseQ_iff s q

/-- A q that passes `_q_value_re` and the range check lies in `[0, 1]`, and a q written with a
minus sign is only accepted when it is `-0`. -/
theorem parseQ_range (s : Str) (q : Q) (h : parseQ s = some q) :
    q.num ≤ 10 ^ q.scale ∧ (s.head? = some '-' → q.num = 0) := by
  obtain ⟨neg, ip, fr, hne, hip, _, hs, _, hle, hneg⟩ := (parseQ_iff s q).mp h
  refine ⟨hle, ?_⟩
  intro hd
  apply hneg
  cases neg with
  | true => rfl
  | false =>
    subst hs
    cases ip with
    | nil => exact absurd rfl hne
    | cons a t =>
      simp only [Bool.false_eq_true, ↓reduceIte, List.nil_append, List.cons_append, List.head?_cons,
        Option.some.injEq] at hd
      subst hd
      have := hip '-' (by simp)
      revert this; decide

example : parseQ "0.001".toList = some ⟨1, 3⟩ ∧ parseQ "1.000".toList = some ⟨1000, 3⟩ ∧
    parseQ "-0.5".toList = none ∧ parseQ "1.001".toList = none ∧ parseQ "1.".toList = none ∧
    parseQ "abc".toList = none ∧ parseQ "".toList = none ∧ parseQ "-0".toList = some ⟨0, 0⟩ := by
  repeat rewrite [String.toList_ofList]
  decide +kernel

/-- An item is dropped by the loop of `parse_accept_header` exactly when it carries a `q` parameter
whose (stripped) text fails `_q_value_re` or the range check. -/
theorem item_dropped_iff (item : Str) (opts : List (Str × Str)) :
    acceptItem item opts = none ↔
      ∃ qs, dictGet opts qKey = some qs ∧ parseQ (Py.strip qs) = none := by
  unfold acceptItem
  cases hq : dictGet opts qKey with
  | none => simp
  | some qs =>
    cases hp : parseQ (Py.strip qs) <;> simp [hp]

/-- Items with a malformed or out-of-range q are ignored: removing such an item from the lexed
header does not change the parsed result (for any class, before and after sorting).
`_partial`: stated for items whose `q` parameter survived `parse_options_header`; see
`invalid_q_ignored_full_false` for the inputs this excludes. -/
theorem invalid_q_ignored_partial (item : Str) (opts : List (Str × Str)) (qs : Str)
    (hq : dictGet opts qKey = some qs) (hbad : parseQ (Py.strip qs) = none)
    (l1 l2 : List (Str × List (Str × Str))) :
    acceptItems (l1 ++ (item, opts) :: l2) = acceptItems (l1 ++ l2) := by
  have : acceptItem item opts = none := (item_dropped_iff item opts).mpr ⟨qs, hq, hbad⟩
  simp [acceptItems, List.filterMap_append, this]

example : dictGet [(qKey, "1.5".toList)] qKey = some "1.5".toList ∧
    parseQ (Py.strip "1.5".toList) = none := by
  repeat rewrite [String.toList_ofList]
  decide +kernel

/-- the full-strength reading of "items with malformed q are ignored" on header text:
an element `value;q=<text>` whose q text is not a valid q contributes nothing -/
def InvalidQIgnoredFull : Prop :=
  ∀ (value qs : Str), value.all (fun c => isTokChar c || c == '/') = true → qs.all (fun c => c != ',' && c != ';' && c != '"') = true →
    parseQ (Py.strip qs) = none →
    (parseAcceptRaw (value ++ ";q=".toList ++ qs)).toOption = some []

/-- Known finding F17b: the full-strength form is false. `text/html;q=` (empty q) is kept with q=1:
`parse_options_header` drops the unparsable parameter before the q check sees it. -/
theorem invalid_q_ignored_full_false : ¬ InvalidQIgnoredFull := by
  intro h
  have := h "text/html".toList [] (by decide) (by decide) (by decide)
  revert this
  decide +kernel

/-- Header text level: the element `value;q=<text>` (value made of token characters and `/`,
q text a non-empty token) parses to nothing when the q text fails `_q_value_re` / the range
check, and to exactly `(value, q)` otherwise.
This is the `_partial` form of "items with malformed or out-of-range q are ignored" on header text;
excluded are exactly the q texts that are not tokens (empty, or starting with a blank — F17b). -/
theorem invalid_q_ignored_header_partial (v qs : Str) (hv : IsValueText v) (hq : IsToken qs) :
    (parseAcceptRaw (qElement v qs)).toOption =
      some (match parseQ qs with
        | none => []
        | some q => [(v, q)]) := by
  rw [parseAcceptRaw_qElement v qs hv hq]
  rfl

example : IsValueText "text/html".toList ∧ IsToken "1.5".toList ∧ parseQ "1.5".toList = none ∧
    qElement "text/html".toList "1.5".toList = "text/html;q=1.5".toList := by
  repeat rewrite [String.toList_ofList]
  exact ⟨(isValueTextB_iff _).mp (by decide +kernel), (isTokenB_iff _).mp (by decide +kernel),
    by decide +kernel, by decide +kernel⟩

/-- the same happens for bad whitespace after `=` -/
theorem invalid_q_space_kept :
    (parseAcceptRaw "text/html;q= 0.5".toList).toOption = some [("text/html".toList, Q.one)] := by
  repeat rewrite [String.toList_ofList]
  decide +kernel

/-- `parse_accept_header` on the property's grammar, as text: for a header
`e₁,e₂,…,eₙ` whose elements are `value(;key=token)*(;q=token)?` (values of token characters and
`/`, distinct lower-case keys, token parameter values — media ranges with and without parameters,
language tags, charsets, codings), the list handed to the Accept class consists, in header order,
of `value; key=token; …` with the q of the element (1 when absent) for exactly the elements whose
q text is a valid q (`q_text_kept_iff`); elements with any other token as q text are dropped.
The one gap of the code is outside this grammar: a q parameter that is not a token (`;q=`,
`;q= 0.5`) is lost in `parse_options_header` and the element is kept with q=1 — known finding
F17b, witnesses `invalid_q_ignored_full_false` and `invalid_q_space_kept`. -/
theorem parse_accept_text (es : List Elem) (hne : es ≠ []) (h : ∀ e ∈ es, e.WF) :
    parseAcceptRaw (headerText es) = .ok (es.filterMap Elem.item) :=
  parseAcceptRaw_header es hne h

/-- an element is dropped exactly when it has a q text that is not a valid q -/
theorem element_dropped_iff (e : Elem) :
    e.item = none ↔ ∃ qs, e.q = some qs ∧ ∀ q, ¬ QText qs q := by
  unfold Elem.item
  cases hq : e.q with
  | none => simp
  | some qs =>
    simp only [Option.map_eq_none_iff, Option.some.injEq, exists_eq_left']
    constructor
    · intro hn q hqt
      rw [(parseQ_iff qs q).mpr hqt] at hn; cases hn
    · intro hall
      cases hp : parseQ qs with
      | none => rfl
      | some q => exact absurd ((parseQ_iff qs q).mp hp) (hall q)

def exampleHeader : List Elem :=
  [⟨"text/html".toList, [("level".toList, "1".toList)], some "0.5".toList⟩,
   ⟨"text/*".toList, [], some "1.5".toList⟩, ⟨"*/*".toList, [], none⟩]

example : headerText exampleHeader = "text/html;level=1;q=0.5,text/*;q=1.5,*/*".toList ∧
    exampleHeader.filterMap Elem.item =
      [("text/html; level=1".toList, ⟨5, 1⟩), ("*/*".toList, Q.one)] := by
  repeat rewrite [String.toList_ofList]
  decide +kernel

/-- The property end to end on header text, for any of the four classes: negotiate on the parsed
text of a well-formed header; if `best_match` returns `r`, then `r` is an offer, its quality — the
q of the most specific element of the header that matches it, computed declaratively from the
header's elements — is positive, and no offer has a higher quality. -/
theorem negotiation_meets_property_text (N : Neg σ Q) (hs : TotalPre N.sle)
    (es : List Elem) (hne : es ≠ []) (h : ∀ e ∈ es, e.WF) (self : List (Str × Q))
    (hp : parseAccept N (headerText es) = .ok self) (offers : List Str) (r : Str)
    (hb : bestMatch N self offers = some r) (hq : N.qle = Q.le) :
    r ∈ offers ∧ ∃ x, IsOfferQuality N (es.filterMap Elem.item) r x ∧ N.qle x.2 N.zero = false ∧
      ∀ o ∈ offers, ∀ y, IsOfferQuality N (es.filterMap Elem.item) o y → N.qle y.2 x.2 = true := by
  cases (parseAccept_header N es hne h).symm.trans hp
  exact negotiation_meets_property N hs (hq ▸ qle_totalPre) _ offers r hb

/-- ... and `None` is returned only when no offer has positive quality. -/
theorem negotiation_none_meets_property_text (N : Neg σ Q) (hs : TotalPre N.sle)
    (es : List Elem) (hne : es ≠ []) (h : ∀ e ∈ es, e.WF) (self : List (Str × Q))
    (hp : parseAccept N (headerText es) = .ok self) (offers : List Str)
    (hb : bestMatch N self offers = none) (hq : N.qle = Q.le) :
    ∀ o ∈ offers, ∀ y, IsOfferQuality N (es.filterMap Elem.item) o y → N.qle y.2 N.zero = true := by
  cases (parseAccept_header N es hne h).symm.trans hp
  exact negotiation_none_meets_property N hs (hq ▸ qle_totalPre) _ offers hb

/-- Parsing header text keeps the client's order among elements of equal specificity and quality. -/
theorem parse_order_stable_text (N : Neg σ Q) (hs : TotalPre N.sle)
    (es : List Elem) (hne : es ≠ []) (h : ∀ e ∈ es, e.WF) (self : List (Str × Q))
    (hp : parseAccept N (headerText es) = .ok self) (s : σ) (q : Q) (hq : N.qle = Q.le) :
    let same := fun (x : Str × Q) =>
      N.sle (N.spec x.1) s && N.sle s (N.spec x.1) && N.qle x.2 q && N.qle q x.2
    self.filter same = (es.filterMap Elem.item).filter same := by
  cases (parseAccept_header N es hne h).symm.trans hp
  exact parse_order_stable N hs (hq ▸ qle_totalPre) _ s q

example : (parseAccept mimeNeg (headerText exampleHeader)).toOption =
      some [("text/html; level=1".toList, ⟨5, 1⟩), ("*/*".toList, Q.one)] ∧
    bestMatch mimeNeg [("text/html; level=1".toList, ⟨5, 1⟩), ("*/*".toList, Q.one)]
      ["text/plain".toList, "text/html;level=1".toList] = some "text/plain".toList := by
  repeat rewrite [String.toList_ofList]
  decide +kernel

/-- `MIMEAccept`: every generic theorem applies (its specificity tuples are totally ordered by
Python's tuple comparison, q values by `≤`). Stated here for the selection. -/
theorem mime_bestMatch_optimal (self : List (Str × Q)) (offers : List Str) (r : Str)
    (h : bestMatch mimeNeg self offers = some r) :
    ∃ pre post ci q, offers = pre ++ r :: post ∧ bestSingle mimeNeg self r = some (ci, q) ∧
      mimeMatches r ci = true ∧ Q.le q Q.zero = false ∧
      (∀ o ∈ offers, ∀ ci' q', bestSingle mimeNeg self o = some (ci', q') →
          Q.le q' q = true ∧ (Q.le q q' = true → specLe (mimeSpec ci') (mimeSpec ci) = true)) ∧
      (∀ o ∈ pre, ∀ ci' q', bestSingle mimeNeg self o = some (ci', q') →
          Q.le q q' = true → specLe (mimeSpec ci) (mimeSpec ci') = false) := by
  obtain ⟨pre, post, ci, q, h1, h2, h3, h4, h5⟩ :=
    bestMatch_optimal mimeNeg specLe_totalPre qle_totalPre self offers r h
  refine ⟨pre, post, ci, q, h1, h2, ?_, h3, h4, h5⟩
  exact (bestSingle_some mimeNeg h2).2

/-- `MIMEAccept._value_matches`, concrete facts: `*/*` matches every offer; an item without `/`
or of the form `*/x` matches nothing; parameters are compared as a multiset and ignored under
a wildcard subtype. -/
theorem mime_match_facts :
    (∀ v, mimeMatches v "*/*".toList = true) ∧
    (∀ v item, hasSlash item = false → mimeMatches v item = false) ∧
    (∀ v item, (mimeNorm item).type = star → (mimeNorm item).subtype ≠ star → mimeMatches v item = false) ∧
    (∀ v item, hasSlash item = true → (mimeNorm item).type ≠ star →
        (mimeNorm item).type = (mimeNorm v).type → (mimeNorm item).subtype = star →
        mimeMatches v item = true) ∧
    (∀ v item, hasSlash item = true → (mimeNorm item).type ≠ star → (mimeNorm item).subtype ≠ star →
        (mimeNorm v).type ≠ star → (mimeNorm v).subtype ≠ star →
        (mimeMatches v item = true ↔
          ((mimeNorm item).type = (mimeNorm v).type ∧ (mimeNorm item).subtype = (mimeNorm v).subtype ∧
           (mimeNorm item).params.Perm (mimeNorm v).params))) := by
  refine ⟨?_, ?_, ?_, ?_, ?_⟩
  · intro v
    have h : (mimeNorm "*/*".toList).type = star ∧ (mimeNorm "*/*".toList).subtype = star := by decide +kernel
    have h2 : hasSlash "*/*".toList = true := by decide +kernel
    unfold mimeMatches
    simp only [h2, h.1, h.2]
    simp
  · intro v item h
    simp [mimeMatches, h]
  · intro v item h1 h2
    unfold mimeMatches
    split
    · rfl
    · simp [h1, h2]
  · intro v item h0 h1 h2 h3
    simp [mimeMatches, h0, h2, h3]
  · intro v item h0 h1 h2 h3 h4
    simp [mimeMatches, h0, h1, h2, h3, h4, List.isPerm_iff]

/-- On well-formed media-type text (`type/subtype; p1; p2 …` as `parse_accept_header` rebuilds it:
lower-case pieces free of `/`, `;` and blanks) the specificity tuple is
`(type ≠ *, subtype ≠ *, True per parameter …)`. -/
theorem mime_spec_text (t s : Str) (ps : List Str) (ht : NoDelim t) (hs : NoDelim s)
    (hps : ∀ p ∈ ps, NoDelim p) :
    mimeSpec (renderMime t s ps) = (t != star) :: (s != star) :: ps.map (· != star) := by
  simp [mimeSpec, mimeSplit_render t s ps ht hs hps]

/-- On well-formed text, a concrete range `t/s;ps` matches a concrete offer `t'/s';ps'` exactly when
type and subtype agree and the parameters agree as multisets (order-insensitive). -/
theorem mime_match_text (t s t' s' : Str) (ps ps' : List Str)
    (ht : NoDelim t) (hs : NoDelim s) (hps : ∀ p ∈ ps, NoDelim p)
    (ht' : NoDelim t') (hs' : NoDelim s') (hps' : ∀ p ∈ ps', NoDelim p)
    (lt : IsLower t) (ls : IsLower s) (lps : ∀ p ∈ ps, IsLower p)
    (lt' : IsLower t') (ls' : IsLower s') (lps' : ∀ p ∈ ps', IsLower p)
    (n1 : t ≠ star) (n2 : s ≠ star) (n3 : t' ≠ star) (n4 : s' ≠ star) :
    mimeMatches (renderMime t' s' ps') (renderMime t s ps) = true ↔
      t = t' ∧ s = s' ∧ ps.Perm ps' := by
  simp [mimeMatches_render ⟨ht, hs, hps, lt, ls, lps⟩ ⟨ht', hs', hps', lt', ls', lps'⟩, n1, n2, n3, n4,
    List.isPerm_iff]

/-- Parameters are a set: matching is invariant under any reordering of the parameters of the
client's range and of the offer (well-formed text; wildcards allowed on either side). An offer that
spells `level=1;charset=utf-8` as `charset=utf-8;level=1` matches exactly the same ranges. -/
theorem mime_match_param_order_irrelevant (t s t' s' : Str) (ps ps2 ps' ps2' : List Str)
    (ht : NoDelim t) (hs : NoDelim s) (hps : ∀ p ∈ ps, NoDelim p)
    (ht' : NoDelim t') (hs' : NoDelim s') (hps' : ∀ p ∈ ps', NoDelim p)
    (lt : IsLower t) (ls : IsLower s) (lps : ∀ p ∈ ps, IsLower p)
    (lt' : IsLower t') (ls' : IsLower s') (lps' : ∀ p ∈ ps', IsLower p)
    (hperm : ps.Perm ps2) (hperm' : ps'.Perm ps2') :
    mimeMatches (renderMime t' s' ps2') (renderMime t s ps2) =
      mimeMatches (renderMime t' s' ps') (renderMime t s ps) := by
  have h : MimeWF t s ps := ⟨ht, hs, hps, lt, ls, lps⟩
  have h' : MimeWF t' s' ps' := ⟨ht', hs', hps', lt', ls', lps'⟩
  have hp : ps2.isPerm ps2' = ps.isPerm ps' := by
    rw [Bool.eq_iff_iff, List.isPerm_iff, List.isPerm_iff]
    exact ⟨fun h => hperm.trans (h.trans hperm'.symm), fun h => hperm.symm.trans (h.trans hperm')⟩
  rw [mimeMatches_render h h', mimeMatches_render (h.perm hperm) (h'.perm hperm'), hp]

example : mimeMatches "text/html; charset=utf-8; level=1".toList "text/html; level=1; charset=utf-8".toList = true ∧
    ["level=1".toList, "charset=utf-8".toList].Perm ["charset=utf-8".toList, "level=1".toList] :=
  ⟨by decide +kernel, List.Perm.swap _ _ _⟩

/-- ... a `t/*` range matches exactly the offers of type `t`, whatever their parameters. -/
theorem mime_match_text_subtype_wildcard (t t' s' : Str) (ps' : List Str)
    (ht : NoDelim t) (ht' : NoDelim t') (hs' : NoDelim s') (hps' : ∀ p ∈ ps', NoDelim p)
    (lt : IsLower t) (lt' : IsLower t') (ls' : IsLower s') (lps' : ∀ p ∈ ps', IsLower p)
    (n1 : t ≠ star) (n3 : t' ≠ star) :
    mimeMatches (renderMime t' s' ps') (renderMime t star []) = true ↔ t = t' := by
  simp [mimeMatches_render (MimeWF.star ht lt) ⟨ht', hs', hps', lt', ls', lps'⟩, n1, n3]

example : renderMime "text".toList "html".toList ["level=1".toList] = "text/html; level=1".toList ∧
    mimeMatches "text/html; level=1".toList "text/html; level=1".toList = true := by
  repeat rewrite [String.toList_ofList]
  decide +kernel

/-- the specificity order of media ranges: `*/*` < `type/*` < `type/subtype` < with parameters -/
theorem mime_spec_order :
    mimeSpec "*/*".toList = [false, false] ∧ mimeSpec "text/*".toList = [true, false] ∧
    mimeSpec "text/html".toList = [true, true] ∧ mimeSpec "text/html; level=1".toList = [true, true, true] ∧
    specLe [false, false] [true, false] = true ∧ specLe [true, false] [false, false] = false ∧
    specLe [true, false] [true, true] = true ∧ specLe [true, true] [true, false] = false ∧
    specLe [true, true] [true, true, true] = true ∧ specLe [true, true, true] [true, true] = false := by
  repeat rewrite [String.toList_ofList]
  decide +kernel

/-- what `best_match` of any class guarantees about its result -/
theorem bestMatch_sound (N : Neg σ κ) (hs : TotalPre N.sle) (hq : TotalPre N.qle)
    (self : List (Str × κ)) (offers : List Str) (r : Str) (h : bestMatch N self offers = some r) :
    r ∈ offers ∧ ∃ ci q, (ci, q) ∈ self ∧ N.matches r ci = true ∧ N.qle q N.zero = false := by
  obtain ⟨pre, post, ci, q, h1, h2, h3, _, _⟩ := bestMatch_optimal N hs hq self offers r h
  exact ⟨by rw [h1]; simp, ci, q, (bestSingle_some N h2).1, (bestSingle_some N h2).2, h3⟩

/-- Exact stage: when some offer has positive quality under exact (normalised) tag matching,
`LanguageAccept.best_match` is the generic selection, so `bestMatch_optimal` describes it. -/
theorem lang_exact_stage (self : List (Str × Q)) (offers : List Str) (r : Str)
    (h : bestMatch langNeg self offers = some r) : langBestMatch self offers = some r := by
  simp [langBestMatch_eq, h]

theorem lang_exact_stage_optimal (self : List (Str × Q)) (offers : List Str) (r : Str)
    (h : bestMatch langNeg self offers = some r) :
    ∃ pre post ci q, offers = pre ++ r :: post ∧ bestSingle langNeg self r = some (ci, q) ∧
      Q.le q Q.zero = false ∧
      (∀ o ∈ offers, ∀ ci' q', bestSingle langNeg self o = some (ci', q') →
          Q.le q' q = true ∧ (Q.le q q' = true → specLe (baseSpec ci') (baseSpec ci) = true)) ∧
      (∀ o ∈ pre, ∀ ci' q', bestSingle langNeg self o = some (ci', q') →
          Q.le q q' = true → specLe (baseSpec ci) (baseSpec ci') = false) :=
  bestMatch_optimal langNeg specLe_totalPre qle_totalPre self offers r h

/-- the offers kept for the fallback stages are offers, and none of them was found refused -/
theorem mem_langNotRefused {self : List (Str × Q)} {offers : List Str} {o : Str}
    (h : o ∈ langNotRefused self offers) :
    o ∈ offers ∧ ∀ ci q, bestSingle langNeg self o = some (ci, q) → Q.le q Q.zero = false := by
  unfold langNotRefused at h
  obtain ⟨h1, h2⟩ := List.mem_filter.mp h
  refine ⟨h1, ?_⟩
  intro ci q hb
  rw [hb] at h2
  simpa using h2

/-- Every result of `LanguageAccept.best_match`, including the fallback stages, is one of the
offers and is justified by a client range of positive quality: the range matches the offer
exactly, or the range's primary tag is the offer (stage 2), or the offer's primary tag is the
range (stage 3). In particular a stage-3 result has the matched primary tag — the repaired F17
(`english-x` for client `en` is impossible). -/
theorem lang_result_sound (self : List (Str × Q)) (offers : List Str) (r : Str)
    (h : langBestMatch self offers = some r) :
    r ∈ offers ∧ ∃ ci q, (ci, q) ∈ self ∧ Q.le q Q.zero = false ∧
      (langMatches r ci = true ∨ baseMatches r (primaryTag ci) = true ∨
       langMatches (primaryTag r) ci = true) := by
  rcases langBestMatch_cases h with h1 | ⟨_, h2 | ⟨_, hr, h3⟩⟩
  · obtain ⟨hm, ci, q, hin, hmt, hpos⟩ := bestMatch_sound langNeg specLe_totalPre qle_totalPre _ _ _ h1
    exact ⟨hm, ci, q, hin, hpos, Or.inl hmt⟩
  · obtain ⟨hm, ci, q, hin, hmt, hpos⟩ := bestMatch_sound acceptNeg specLe_totalPre qle_totalPre _ _ _ h2
    have hin' : (ci, q) ∈ self.map fun it => (primaryTag it.1, it.2) := (mem_sortDesc _).mp hin
    obtain ⟨it, hit, heq⟩ := List.mem_map.mp hin'
    simp only [Prod.mk.injEq] at heq
    refine ⟨(mem_langNotRefused hm).1, it.1, it.2, hit, ?_, Or.inr (Or.inl ?_)⟩
    · rw [heq.2]; exact hpos
    · rw [heq.1]; exact hmt
  · obtain ⟨_, ci, q, hin, hmt, hpos⟩ := bestMatch_sound langNeg specLe_totalPre qle_totalPre _ _ _ h3
    exact ⟨(mem_langNotRefused hr).1, ci, q, hin, hpos, Or.inr (Or.inr hmt)⟩

example : langBestMatch (mk langNeg [("en".toList, Q.one)]) ["english-x".toList, "en-US".toList]
    = some "en-US".toList := by decide +kernel
example : langBestMatch (mk langNeg [("en-US".toList, ⟨5, 1⟩), ("en-GB".toList, ⟨9, 1⟩)])
    ["de".toList, "en".toList] = some "en".toList := by
  repeat rewrite [String.toList_ofList]
  decide +kernel

/-- The fallback stages only ever pick an offer that no client range matches exactly (0816efc):
a fallback result is an offer without any exact match. -/
theorem lang_fallback_only_unmatched (self : List (Str × Q)) (offers : List Str) (r : Str)
    (h : langBestMatch self offers = some r) (hfb : bestMatch langNeg self offers = none) :
    r ∈ offers ∧ bestSingle langNeg self r = none := by
  have hm := (lang_result_sound self offers r h).1
  refine ⟨hm, ?_⟩
  -- r survived the filter ...
  have hr : r ∈ langNotRefused self offers := by
    rcases langBestMatch_cases h with h1 | ⟨_, h2 | ⟨_, hr, _⟩⟩
    · rw [hfb] at h1; cases h1
    · exact (bestMatch_sound acceptNeg specLe_totalPre qle_totalPre _ _ _ h2).1
    · exact hr
  -- ... and the exact stage found nothing of positive quality
  have hle := (bestMatch_none_iff langNeg specLe_totalPre qle_totalPre self offers).mp hfb r hm
  cases hb : bestSingle langNeg self r with
  | none => rfl
  | some m =>
    obtain ⟨ci, q⟩ := m
    have h1 := hle ci q hb
    have h2 := (mem_langNotRefused hr).2 ci q hb
    change Q.le q Q.zero = true at h1
    rw [h1] at h2; cases h2

example : langBestMatch (mk langNeg [("en-US".toList, ⟨5, 1⟩)]) ["en".toList] = some "en".toList ∧
    bestMatch langNeg (mk langNeg [("en-US".toList, ⟨5, 1⟩)]) ["en".toList] = none := by
  repeat rewrite [String.toList_ofList]
  decide +kernel

/-- "An offer whose best range has q=0 is never chosen" — at full strength for
`LanguageAccept.best_match` including both fallback stages (F17c, repaired by 0816efc): whenever
the chosen offer has an exact match at all, that match has positive quality. -/
theorem lang_zero_never_chosen (self : List (Str × Q)) (offers : List Str) (r : Str)
    (h : langBestMatch self offers = some r) :
    ∀ ci q, bestSingle langNeg self r = some (ci, q) → Q.le q Q.zero = false := by
  intro ci q hb
  cases h1 : bestMatch langNeg self offers with
  | some r1 =>
    have : langBestMatch self offers = some r1 := lang_exact_stage self offers r1 h1
    rw [this] at h
    simp only [Option.some.injEq] at h
    subst h
    obtain ⟨_, _, ci0, q0, _, hb0, hpos, _, _⟩ :=
      bestMatch_optimal langNeg specLe_totalPre qle_totalPre self offers r1 h1
    rw [hb0] at hb
    simp only [Option.some.injEq, Prod.mk.injEq] at hb
    rw [← hb.2]; exact hpos
  | none =>
    have := (lang_fallback_only_unmatched self offers r h h1).2
    rw [this] at hb; cases hb

/-- regression inputs of F17c: the refused offers do not come back -/
theorem lang_refused_stays_refused :
    langBestMatch (mk langNeg [("en-US".toList, Q.zero), ("*".toList, Q.one)]) ["en_us".toList] = none ∧
    langBestMatch (mk langNeg [("en-US".toList, Q.zero), ("en".toList, ⟨5, 1⟩)]) ["en-US".toList] = none ∧
    langBestMatch (mk langNeg [("en".toList, Q.zero), ("en-GB".toList, Q.one)]) ["en".toList] = none ∧
    langBestMatch (mk langNeg [("en-US".toList, Q.zero), ("*".toList, Q.one)])
      ["en_us".toList, "de-AT".toList] = some "de-AT".toList := by
  repeat rewrite [String.toList_ofList]
  decide +kernel

/-- The last stage never fails to map the matched primary tag back to an offer (the `next(...)`
in the code cannot raise `StopIteration`): the result is `None` exactly when all three stages find
no offer of positive quality (the fallback stages run over the offers that were not refused). -/
theorem lang_none_iff (self : List (Str × Q)) (offers : List Str) :
    langBestMatch self offers = none ↔
      bestMatch langNeg self offers = none ∧
      bestMatch acceptNeg (langFallbackSelf self) (langNotRefused self offers) = none ∧
      bestMatch langNeg self ((langNotRefused self offers).map primaryTag) = none := by
  rw [langBestMatch_eq, Option.or_eq_none_iff, Option.or_eq_none_iff]
  refine and_congr_right fun _ => and_congr_right fun _ => ?_
  cases h3 : bestMatch langNeg self ((langNotRefused self offers).map primaryTag) with
  | none => simp
  | some p => obtain ⟨r, _, _, hf, _⟩ := stage3_find h3; simp [hf]

/-- `CharsetAccept` (for every codec alias table): the generic selection theorem applies. -/
theorem charset_bestMatch_optimal (aliases : List (Str × Str)) (self : List (Str × Q))
    (offers : List Str) (r : Str) (h : bestMatch (charsetNeg aliases) self offers = some r) :
    ∃ pre post ci q, offers = pre ++ r :: post ∧
      bestSingle (charsetNeg aliases) self r = some (ci, q) ∧ Q.le q Q.zero = false ∧
      (∀ o ∈ offers, ∀ ci' q', bestSingle (charsetNeg aliases) self o = some (ci', q') →
          Q.le q' q = true ∧ (Q.le q q' = true → specLe (baseSpec ci') (baseSpec ci) = true)) ∧
      (∀ o ∈ pre, ∀ ci' q', bestSingle (charsetNeg aliases) self o = some (ci', q') →
          Q.le q q' = true → specLe (baseSpec ci) (baseSpec ci') = false) :=
  bestMatch_optimal (charsetNeg aliases) specLe_totalPre qle_totalPre self offers r h

example : bestMatch (charsetNeg [("UTF8".toList, "utf-8".toList), ("utf-8".toList, "utf-8".toList)])
    (mk (charsetNeg []) [("UTF8".toList, ⟨5, 1⟩)]) ["latin1".toList, "utf-8".toList]
    = some "utf-8".toList := by
  repeat rewrite [String.toList_ofList]
  decide +kernel

def clsName : AcceptCls → Str
  | .accept => "Accept".toList
  | .mime => "MIMEAccept".toList
  | .lang => "LanguageAccept".toList
  | .charset => "CharsetAccept".toList

/-- `Request.accept_mimetypes / accept_charsets / accept_encodings / accept_languages`, read from
the source by AST on every run: each is `parse_accept_header(self.headers.get(<header>), <class>)`
with exactly the header and the class the model uses (a swapped header or class changes the
regenerated table). -/
theorem request_attr_table :
    Gen.AcceptApi.requestAttrs =
      AcceptAttr.all.map fun a => (a.spec.1, a.spec.2.1, clsName a.spec.2.2) := by decide +kernel

/-- `MIMEAccept.accept_html / accept_xhtml / accept_json` test exactly these media types with
`in self`, or-ed together (`accept_html` also consults `accept_xhtml`) — as the model does. -/
theorem mime_flag_table :
    Gen.AcceptApi.mimeFlags =
      [("accept_html".toList, [mtHtml], ["accept_xhtml".toList]),
       ("accept_xhtml".toList, [mtXhtml, mtXml], []),
       ("accept_json".toList, [mtJson], [])] := by
  repeat rewrite [String.toList_ofList]
  decide +kernel

/-- Which methods each class defines itself: `MIMEAccept` only `_specificity` and `_value_matches`,
`LanguageAccept` only `_value_matches` and `best_match`, `CharsetAccept` only `_value_matches` —
everything else (`quality`, `find`, `index`, `__contains__`, `__getitem__`, `best`, `values`,
`to_header`, the sort in `__init__`) is `Accept`'s, which is what makes the generic theorems apply
to all four classes. -/
theorem class_overrides_table :
    Gen.AcceptApi.overrides =
      [("Accept".toList, ["__contains__".toList, "__getitem__".toList, "__init__".toList,
          "_best_single_match".toList, "_specificity".toList, "_value_matches".toList, "best".toList,
          "best_match".toList, "find".toList, "index".toList, "quality".toList, "to_header".toList,
          "values".toList]),
       ("MIMEAccept".toList, ["_specificity".toList, "_value_matches".toList]),
       ("LanguageAccept".toList, ["_value_matches".toList, "best_match".toList]),
       ("CharsetAccept".toList, ["_value_matches".toList])] := by
  repeat rewrite [String.toList_ofList]
  decide +kernel

/-- A Request attribute depends on its own header only: two header sets that agree on that header
give the same object — `Accept-Language` never leaks into `accept_mimetypes` etc. -/
theorem request_attr_reads_only_its_header (aliases : List (Str × Str)) (attr : AcceptAttr)
    (h1 h2 : List (Str × Str)) (h : headersGet h1 attr.spec.2.1 = headersGet h2 attr.spec.2.1) :
    requestAccept aliases attr h1 = requestAccept aliases attr h2 := by
  simp [requestAccept, h]

/-- … and is the parse of that header's text with the attribute's class, so every theorem about
`parseAccept` / `bestMatch` (`negotiation_meets_property_text` …) is a theorem about
`request.accept_*`. An absent header gives the empty object, on which nothing is ever chosen. -/
theorem request_attr_is_parse (aliases : List (Str × Str)) (attr : AcceptAttr) (headers : List (Str × Str)) :
    (∀ v, headersGet headers attr.spec.2.1 = some v →
      requestAccept aliases attr headers = parseAccept (attr.spec.2.2.neg aliases) v) ∧
    (headersGet headers attr.spec.2.1 = none →
      requestAccept aliases attr headers = .ok [] ∧
      ∀ offers d, clsBestMatch aliases attr.spec.2.2 [] offers d = d) := by
  refine ⟨fun v hv => by simp [requestAccept, hv], fun hn => ⟨by simp [requestAccept, hn], ?_⟩⟩
  intro offers d
  by_cases hc : attr.spec.2.2 = .lang
  · simp [hc, clsBestMatch, langBestMatch_eq, langFallbackSelf, mk, sortDesc, bestMatch_nil]
  · rw [clsBestMatch_eq aliases hc]
    simp [bestMatchD, bestMatch_nil]

example : (requestAccept [] .languages [("Accept".toList, "text/html".toList),
      ("accept-language".toList, "de;q=0.5, en".toList)]).toOption =
    some [("en".toList, Q.one), ("de".toList, ⟨5, 1⟩)] := by
  repeat rewrite [String.toList_ofList]
  decide +kernel

/-- `best_match(matches, default)`: the default is returned exactly when plain `best_match` returns
`None`; otherwise the result is the negotiated offer (to which `bestMatch_optimal` applies). -/
theorem bestMatch_default (N : Neg σ κ) (self : List (Str × κ)) (offers : List Str) (d : Option Str) :
    (bestMatch N self offers = none → bestMatchD N self offers d = d) ∧
    (∀ r, bestMatch N self offers = some r → bestMatchD N self offers d = some r) := by
  constructor
  · intro h; simp [bestMatchD, h]
  · intro r h; simp [bestMatchD, h]

/-- The `best` property is the first parsed item: a client item that is at least as specific as
every other one and has the highest q among the equally specific ones. (Most specific first —
*not* highest quality first: `text/html;q=0.1, */*;q=0.9` has `best == "text/html"`.) -/
theorem best_is_most_specific_first (N : Neg σ κ) (hs : TotalPre N.sle) (hq : TotalPre N.qle)
    (values : List (Str × κ)) (v : Str) (h : best (mk N values) = some v) :
    ∃ q, (v, q) ∈ values ∧ ∀ y ∈ values,
      N.sle (N.spec y.1) (N.spec v) = true ∧
      (N.sle (N.spec v) (N.spec y.1) = true → N.qle y.2 q = true) := by
  unfold best at h
  cases hm : mk N values with
  | nil => rw [hm] at h; cases h
  | cons x t =>
    rw [hm] at h
    simp only [List.head?_cons, Option.map_some, Option.some.injEq] at h
    subst h
    have hsorted := parse_sorted N hs hq values
    rw [hm] at hsorted
    have hx : x ∈ values := (mem_sortDesc _).mp (by rw [show sortDesc (keyGe N) values = mk N values from rfl, hm]; simp)
    refine ⟨x.2, hx, ?_⟩
    intro y hy
    have hy' : y ∈ x :: t := by rw [← hm]; exact (mem_sortDesc _).mpr hy
    rcases List.mem_cons.mp hy' with rfl | hyt
    · exact ⟨hs.refl _, fun _ => hq.refl _⟩
    · exact (List.pairwise_cons.mp hsorted).1 y hyt

example : best (mk mimeNeg [("*/*".toList, ⟨9, 1⟩), ("text/html".toList, ⟨1, 1⟩)]) = some "text/html".toList := by
  repeat rewrite [String.toList_ofList]
  decide +kernel

/-- `self[key]` / `quality(key)` for a string key is the q of `_best_single_match` — on a parsed
object the quality of the offer in the property's sense (`sorted_first_match_most_specific`) — and
`0` exactly when no client range matches. -/
theorem getitem_is_offer_quality (N : Neg σ κ) (values : List (Str × κ)) (key : Str) :
    (∀ x, bestSingle N (mk N values) key = some x → getItemStr N (mk N values) key = x.2) ∧
    ((∀ y ∈ values, N.matches key y.1 = false) → getItemStr N (mk N values) key = N.zero) := by
  constructor
  · intro x hx; simp [getItemStr, quality, hx]
  · intro h
    have := (no_match_iff N values key).mpr h
    simp [getItemStr, quality, this]

/-- `index(key)` is `find(key)` with `ValueError` for `-1`: it returns the position of the first
item that matches, and raises exactly when none does. -/
theorem index_spec (N : Neg σ κ) (self : List (Str × κ)) (key : Str) :
    (∀ i, index N self key = .ok i ↔ find N self key = some i) ∧
    (index N self key = .error "ValueError" ↔ ∀ y ∈ self, N.matches key y.1 = false) ∧
    (∀ i, index N self key = .ok i →
      ∃ x, self[i]? = some x ∧ N.matches key x.1 = true ∧ bestSingle N self key = some x) := by
  exact ⟨fun _ => index_eq_ok_iff N, (index_eq_error_iff N).trans (find_eq_none_iff N),
    fun _ hi => find_eq_some N ((index_eq_ok_iff N).mp hi)⟩

/-- `values()` lists the client's values, each exactly once per item (a permutation of the header
order). -/
theorem values_perm (N : Neg σ κ) (vs : List (Str × κ)) :
    (values (mk N vs)).Perm (vs.map (·.1)) := (parse_perm N vs).map _

/-- the convenience flags are membership tests: `accept_json` holds exactly when some client range
matches `application/json` (and likewise for the others) -/
theorem mime_flags_spec (self : List (Str × Q)) :
    (acceptJson self = true ↔ ∃ it ∈ self, mimeMatches mtJson it.1 = true) ∧
    (acceptXhtml self = true ↔ ∃ it ∈ self, mimeMatches mtXhtml it.1 = true ∨ mimeMatches mtXml it.1 = true) ∧
    (acceptHtml self = true ↔ ∃ it ∈ self, mimeMatches mtHtml it.1 = true ∨
        mimeMatches mtXhtml it.1 = true ∨ mimeMatches mtXml it.1 = true) := by
  refine ⟨by rw [acceptJson, contains_iff]; rfl, ?_, ?_⟩
  · simp only [acceptXhtml, Bool.or_eq_true, contains_iff, ← exists_or, ← and_or_left]
    rfl
  · simp only [acceptHtml, acceptXhtml, Bool.or_eq_true, contains_iff, ← exists_or, ← and_or_left]
    rfl

example : acceptHtml [("application/xml".toList, Q.one)] = true ∧
    acceptJson [("*/*".toList, Q.zero)] = true ∧ acceptJson [("text/*".toList, Q.one)] = false := by
  repeat rewrite [String.toList_ofList]
  decide +kernel

/-- End to end from the request: for `request.accept_mimetypes`, `accept_charsets` and
`accept_encodings` (for `accept_languages` see the `lang_*` theorems), when the attribute's header
carries the well-formed text of the elements `es` and `best_match(offers, default)` returns an
offer `r` that negotiation chose (plain `best_match` is not `None`), then `r` is an offer, its
quality — computed declaratively from the header's elements — is positive and no offer has a
higher one. The other request headers play no role. -/
theorem request_negotiation_meets_property (aliases : List (Str × Str)) (attr : AcceptAttr)
    (hattr : attr ≠ .languages) (headers : List (Str × Str)) (es : List Elem) (hne : es ≠ [])
    (hwf : ∀ e ∈ es, e.WF) (hh : headersGet headers attr.spec.2.1 = some (headerText es))
    (self : List (Str × Q)) (hself : requestAccept aliases attr headers = .ok self)
    (offers : List Str) (d : Option Str) (r : Str)
    (hb : bestMatch (attr.spec.2.2.neg aliases) self offers = some r) :
    clsBestMatch aliases attr.spec.2.2 self offers d = some r ∧ r ∈ offers ∧
    ∃ x, IsOfferQuality (attr.spec.2.2.neg aliases) (es.filterMap Elem.item) r x ∧
      Q.le x.2 Q.zero = false ∧
      ∀ o ∈ offers, ∀ y, IsOfferQuality (attr.spec.2.2.neg aliases) (es.filterMap Elem.item) o y →
        Q.le y.2 x.2 = true := by
  have hp : parseAccept (attr.spec.2.2.neg aliases) (headerText es) = .ok self := by
    rw [← (request_attr_is_parse aliases attr headers).1 _ hh]; exact hself
  obtain ⟨hsle, hqle, hzero⟩ := AcceptCls.neg_orders aliases attr.spec.2.2
  have key := negotiation_meets_property_text (attr.spec.2.2.neg aliases)
    (by rw [hsle]; exact specLe_totalPre) es hne hwf self hp offers r hb hqle
  rw [hqle, hzero] at key
  refine ⟨?_, key⟩
  -- only `accept_languages` builds the class that overrides `best_match`
  have hnl : attr.spec.2.2 ≠ .lang := by
    cases attr with
    | languages => exact absurd rfl hattr
    | _ => nofun
  rw [clsBestMatch_eq aliases hnl, (bestMatch_default _ self offers d).2 r hb]

/-! ### the fallback stages of `LanguageAccept.best_match` are optimal in their own terms -/

/-- Stage 2 (no offer has positive quality under exact matching): the result is the generic
selection of a plain `Accept` built from the client's *primary tags* over the offers that were not
refused — so it has the highest quality among those offers (quality = q of the range whose primary
tag equals the offer, `*` least specific), ties to the earlier offer. -/
theorem lang_stage2_optimal (self : List (Str × Q)) (offers : List Str) (r : Str)
    (h1 : bestMatch langNeg self offers = none)
    (h2 : bestMatch acceptNeg (langFallbackSelf self) (langNotRefused self offers) = some r) :
    langBestMatch self offers = some r ∧
    ∃ pre post ci q, langNotRefused self offers = pre ++ r :: post ∧
      bestSingle acceptNeg (langFallbackSelf self) r = some (ci, q) ∧ Q.le q Q.zero = false ∧
      (∀ o ∈ langNotRefused self offers, ∀ ci' q', bestSingle acceptNeg (langFallbackSelf self) o = some (ci', q') →
          Q.le q' q = true ∧ (Q.le q q' = true → specLe (baseSpec ci') (baseSpec ci) = true)) ∧
      (∀ o ∈ pre, ∀ ci' q', bestSingle acceptNeg (langFallbackSelf self) o = some (ci', q') →
          Q.le q q' = true → specLe (baseSpec ci) (baseSpec ci') = false) := by
  refine ⟨by simp [langBestMatch_eq, h1, h2], ?_⟩
  exact bestMatch_optimal acceptNeg specLe_totalPre qle_totalPre _ _ r h2

/-- Stage 3 (stages 1 and 2 found nothing): the offers' primary tags are negotiated against the
client's ranges with the generic selection (`bestMatch_optimal` applies to the tag `p`), and the
result is the **first** not-refused offer whose primary tag is the chosen tag. -/
theorem lang_stage3_first_offer (self : List (Str × Q)) (offers : List Str) (r : Str)
    (h1 : bestMatch langNeg self offers = none)
    (h2 : bestMatch acceptNeg (langFallbackSelf self) (langNotRefused self offers) = none)
    (h : langBestMatch self offers = some r) :
    ∃ p, bestMatch langNeg self ((langNotRefused self offers).map primaryTag) = some p ∧
      primaryTag r = p ∧
      ∃ pre post, langNotRefused self offers = pre ++ r :: post ∧ ∀ o ∈ pre, primaryTag o ≠ p := by
  rw [langBestMatch_eq, h1, h2, Option.none_or, Option.none_or, stage3_eq_some_iff] at h
  exact ⟨_, h.1, rfl, h.2⟩

example : langBestMatch (mk langNeg [("en".toList, Q.one)]) ["de-AT".toList, "en-GB".toList, "en-US".toList]
    = some "en-GB".toList := by
  repeat rewrite [String.toList_ofList]
  decide +kernel

/-- Every RFC 9110 qvalue (`k/1000`, three decimals, `0 ≤ k ≤ 1000`) prints — when it is not 1 — as
a text that `_q_value_re` and the range check accept and that denotes the same number
(`0.5`, `0.001`, `0.0`, …): the case of three decimals of `quality_reprints` below. -/
theorem rfc_qvalues_reprint : ∀ k, k ≤ 1000 → ReprOk ⟨k, 3⟩ = true := by
  intro k hk
  refine reprOk_of_le_one _ (by simpa [Q.le, Q.one] using hk) ?_
  rw [Option.isSome_iff_ne_none, Ne, qRepr_none_iff]
  have : (Q.norm ⟨k, 3⟩).scale ≤ 3 := norm_scale_le ⟨k, 3⟩
  omega

/-- **General reprint theorem**: every quality `q ≤ 1` — all that
`parse_accept_header` lets through (`parseQ_range`) — which `to_header` prints in positional
notation prints as a token `_q_value_re` and the range check accept and that denotes the same
number; proved from core's `Nat.toDigits` lemmas, for every number of decimals. -/
theorem quality_reprints (q : Q) (hle : q.le Q.one = true) (hr : (qRepr q).isSome = true) :
    ReprOk q = true := reprOk_of_le_one q hle hr

/-- … and positional notation is left (Python prints `1e-05`, which would not parse back) exactly
for a non-zero quality below `1e-4`. -/
theorem to_header_positional_iff (q : Q) :
    qRepr q = none ↔ q.norm.num ≠ 0 ∧ 4 < q.norm.scale ∧ q.norm.num * 10000 < 10 ^ q.norm.scale :=
  qRepr_none_iff q

example : (qRepr ⟨1, 5⟩).isSome = false ∧ (qRepr ⟨3333333333, 10⟩).isSome = true ∧
    Q.le ⟨3333333333, 10⟩ Q.one = true := by decide +kernel

/-- Normal form: for a non-empty object whose values are plain (token characters and `/`: media
ranges without parameters, language tags, charsets, codings) and whose qualities reprint
(`ReprOk`: every quality in `{0} ∪ [1e-4, 1]` by `quality_reprints`), `parse_accept_header(obj.to_header())`
yields the same values in the same order with numerically equal qualities — nothing dropped,
nothing reordered before the class sorts again.
(Items carrying parameters: `to_header_normal_form_params` below.) Qualities below `1e-4` are a real gap of
the code, not of the proof: Python prints `1e-05`, a text `_q_value_re` rejects, so the item is lost on
re-parse (`to_header_positional_iff`). -/
theorem to_header_normal_form (self : List (Str × Q)) (hne : self ≠ [])
    (hv : ∀ it ∈ self, IsValueText it.1) (hq : ∀ it ∈ self, ReprOk it.2 = true) :
    ∃ t, toHeader self = some t ∧ parseAcceptRaw t = .ok (self.map reparsed) ∧
      ∀ it ∈ self, (reparsed it).1 = it.1 ∧ Q.equiv (reparsed it).2 it.2 = true := by
  obtain ⟨t, h1, h2⟩ := toHeader_reparse (self.map PItem.ofPlain) (by simpa using hne)
    (by
      intro x hx
      obtain ⟨it, hit, rfl⟩ := List.mem_map.mp hx
      exact PItem.ofPlain_wf (hv it hit))
    (by
      intro x hx
      obtain ⟨it, hit, rfl⟩ := List.mem_map.mp hx
      exact hq it hit)
  rw [PItem.map_toItem_ofPlain] at h1 h2
  exact ⟨t, h1, h2, fun it hit => reparsed_equiv it (hq it hit)⟩

/-- The normal form for everything `parse_accept_header` can have produced from plain values: the
qualities are only required to be at most 1 and printable in positional notation. -/
theorem to_header_normal_form_parsed (self : List (Str × Q)) (hne : self ≠ [])
    (hv : ∀ it ∈ self, IsValueText it.1)
    (hq : ∀ it ∈ self, it.2.le Q.one = true ∧ (qRepr it.2).isSome = true) :
    ∃ t, toHeader self = some t ∧ parseAcceptRaw t = .ok (self.map reparsed) ∧
      ∀ it ∈ self, (reparsed it).1 = it.1 ∧ Q.equiv (reparsed it).2 it.2 = true :=
  to_header_normal_form self hne hv fun it hit => quality_reprints it.2 (hq it hit).1 (hq it hit).2

/-- `parse_accept_header` on the text `to_header` writes for items that carry parameters
(`value; k=v; k2=v2;q=0.5`: a blank after the `;` of every parameter, none before `q`): the
general lexing theorem for elements whose parameters are preceded by arbitrary white space. -/
theorem parse_accept_text_spaced (es : List SpElem) (hne : es ≠ []) (h : ∀ s ∈ es, s.WF) :
    parseAcceptRaw (spHeaderText es) = .ok (es.filterMap fun s => s.e.item) :=
  parseAcceptRaw_spHeader es hne h

/-- Normal form, **with parameters**: for a non-empty object whose
items are what `parse_accept_header` rebuilds — `value; key=token; …` with distinct lower-case
keys — and whose qualities reprint (`quality_reprints`), `parse_accept_header(obj.to_header())`
yields the same item texts in the same order with numerically equal qualities. Media ranges with
parameters (`text/html; level=1;q=0.5`) included. -/
theorem to_header_normal_form_params (its : List PItem) (hne : its ≠ [])
    (hwf : ∀ x ∈ its, x.1.WF) (hq : ∀ x ∈ its, ReprOk x.2 = true) :
    ∃ t, toHeader (its.map PItem.toItem) = some t ∧
      parseAcceptRaw t = .ok ((its.map PItem.toItem).map reparsed) ∧
      ∀ it ∈ its.map PItem.toItem, (reparsed it).1 = it.1 ∧ Q.equiv (reparsed it).2 it.2 = true := by
  obtain ⟨t, h1, h2⟩ := toHeader_reparse its hne hwf hq
  refine ⟨t, h1, h2, ?_⟩
  intro it hit
  obtain ⟨x, hx, rfl⟩ := List.mem_map.mp hit
  exact reparsed_equiv _ (hq x hx)

def exampleItems : List PItem :=
  [(⟨"text/html".toList, [("level".toList, "1".toList), ("v".toList, "2".toList)], none⟩, ⟨5, 1⟩),
   (⟨"*/*".toList, [], none⟩, Q.one)]

example : exampleItems.map PItem.toItem =
      [("text/html; level=1; v=2".toList, ⟨5, 1⟩), ("*/*".toList, Q.one)] ∧
    toHeader (exampleItems.map PItem.toItem) = some "text/html; level=1; v=2;q=0.5,*/*".toList ∧
    (parseAcceptRaw "text/html; level=1; v=2;q=0.5,*/*".toList).toOption =
      some [("text/html; level=1; v=2".toList, ⟨5, 1⟩), ("*/*".toList, Q.one)] := by
  repeat rewrite [String.toList_ofList]
  decide +kernel

example : toHeader [("text/html".toList, ⟨500, 3⟩), ("*/*".toList, ⟨1000, 3⟩), ("a".toList, ⟨0, 0⟩)] =
      some "text/html;q=0.5,*/*,a;q=0.0".toList ∧
    (parseAcceptRaw "text/html;q=0.5,*/*,a;q=0.0".toList).toOption =
      some [("text/html".toList, ⟨5, 1⟩), ("*/*".toList, Q.one), ("a".toList, ⟨0, 1⟩)] ∧
    toHeader [("a".toList, ⟨1, 5⟩)] = none := by
  repeat rewrite [String.toList_ofList]
  decide +kernel

end Wz.Props.C17
