/-
`werkzeug.serving.WSGIRequestHandler.make_environ` *as regenerated from the source*
by `tools/py2lean.py` (`Gen/PyFns_MakeEnviron.lean`, rewritten on every check run: the function up to the
TLS client-certificate lookup, answering the text-valued part of the environ as an insertion-ordered dict
and whether `wsgi.input_terminated` was set) agrees, for all inputs, with the hand-written model
`DevServer.makeEnviron` (`Model/DevServer.lean`, header loop `Chunked.foldHeader` of `Model/Chunked.lean`)
that the C19 theorems are about.

The model keeps only the header-derived entries (`HTTP_*`, `CONTENT_TYPE`, `CONTENT_LENGTH`) in its
`headers` env, starting from the empty env; the real environ starts with twelve text-valued base entries
(`wsgi.url_scheme` ... `SERVER_PROTOCOL`). The bridge: no base key can be written by the header loop, so the
loop (and `environ["HTTP_HOST"] = netloc`, and the `HTTP_TRANSFER_ENCODING` lookup) acts on the header part
alone, and the translated environ is `baseOf ... E ++ E.headers`.

The translated function is brought into one equation (`make_environ_spec`), from which the equality with the model
(`make_environ_eq`) and its reading from a normal return (`make_environ_ok`) follow; the corollaries are in Props/C19T2.lean.

The equality holds without any hypothesis on the inputs. (`str.upper()` / `str.lower()` are ASCII-only in the prelude *and* in the model; header names that
reach `make_environ` are ASCII - `email.feedparser` accepts only `[\041-\071\073-\176]` in a header name -
and header values are latin-1 text, where no character lower-cases to an ASCII letter.)
-/
import WzVerif.Gen.PyFns_MakeEnviron
import WzVerif.Lemmas.PyFns_Prelude
import WzVerif.Lemmas.PyDict
import WzVerif.Model.DevServer
import WzVerif.Lemmas.DevServer
namespace Wz.PyFnsEq.MakeEnviron
open Wz Wz.Pre Wz.Chunked Wz.DevServer

theorem ofNat_val_toNat (n : Nat) (h : n < 0xd800) : (Char.ofNat n).val.toNat = n := toNat_ofNat_valid (Or.inl h)

/-- Lean's `Char.toUpper` (what the prelude's `str.upper()` applies to every character: ASCII
letters only) is the model's `upperAscii`, for every character -/
theorem toUpper_eq (c : Char) : c.toUpper = upperAscii c := by
  unfold Char.toUpper upperAscii
  by_cases h : 'a' ≤ c ∧ c ≤ 'z'
  · have h' : 'a'.val ≤ c.val ∧ c.val ≤ 'z'.val := h
    simp only [h, h', dite_true, if_true, and_self]
    apply Char.ext
    apply UInt32.toNat_inj.mp
    have h1 : 97 ≤ c.toNat := by have := UInt32.le_iff_toNat_le.mp h'.1; simpa using this
    have h2 : c.toNat ≤ 122 := by have := UInt32.le_iff_toNat_le.mp h'.2; simpa using this
    rw [ofNat_val_toNat _ (by omega)]
    simp
    omega
  · have h' : ¬ ('a'.val ≤ c.val ∧ c.val ≤ 'z'.val) := h
    simp only [h, h', dite_false, if_false]

/-- Lean's `Char.toLower` (what the prelude's `str.lower()` applies to every character: ASCII
letters only) is the model's `lowerAscii`, for every character -/
theorem toLower_eq (c : Char) : c.toLower = lowerAscii c := by
  unfold Char.toLower lowerAscii
  by_cases h : 'A' ≤ c ∧ c ≤ 'Z'
  · have h' : c.val ≥ 'A'.val ∧ c.val ≤ 'Z'.val := h
    simp only [h, h', dite_true, if_true, and_self]
    apply Char.ext
    apply UInt32.toNat_inj.mp
    have h1 : 65 ≤ c.toNat := by have := UInt32.le_iff_toNat_le.mp h'.1; simpa using this
    have h2 : c.toNat ≤ 90 := by have := UInt32.le_iff_toNat_le.mp h'.2; simpa using this
    rw [ofNat_val_toNat _ (by omega)]
    simp
    omega
  · have h' : ¬ (c.val ≥ 'A'.val ∧ c.val ≤ 'Z'.val) := h
    simp only [h, h', dite_false, if_false]

theorem upperAscii_eq_dash (c : Char) : (upperAscii c == '-') = (c == '-') := by
  unfold upperAscii
  by_cases h : 'a' ≤ c ∧ c ≤ 'z'
  · have h' : 'a'.val ≤ c.val ∧ c.val ≤ 'z'.val := h
    have h1 : 97 ≤ c.toNat := by have := UInt32.le_iff_toNat_le.mp h'.1; simpa using this
    have h2 : c.toNat ≤ 122 := by have := UInt32.le_iff_toNat_le.mp h'.2; simpa using this
    simp only [h, and_self, if_true]
    have e1 : (Char.ofNat (c.toNat - 32) == '-') = false := by
      rw [beq_eq_false_iff_ne]
      intro e
      have := congrArg (fun x => x.val.toNat) e
      simp only [ofNat_val_toNat _ (show c.toNat - 32 < 0xd800 by omega)] at this
      simp at this
      omega
    have e2 : (c == '-') = false := by
      rw [beq_eq_false_iff_ne]
      intro e
      subst e
      simp at h1
    rw [e1, e2]
  · simp only [h, if_false]

theorem replace_upper_eq_envName (k : List Char) :
    Pre.replace (Pre.upper k) ['-'] ['_'] = envName k := by
  rw [replace_singleton]
  unfold Pre.upper envName
  rw [List.map_map]
  apply List.map_congr_left
  intro c _
  simp only [Function.comp, toUpper_eq, upperAscii_eq_dash]

theorem replace_crlf_eq_dropCrlf (v : List Char) :
    Pre.replace v ['\r', '\n'] [] = dropCrlf v := by
  have : ∀ v : List Char, replaceAux ['\r', '\n'] [] v 0 = dropCrlf v := by
    intro v
    induction v using dropCrlf.induct with
    | case1 t ih =>
      simp [replaceAux, dropCrlf, List.isPrefixOf, ih]
    | case2 c t hne ih =>
      rw [dropCrlf]
      · unfold replaceAux
        have hp : ['\r', '\n'].isPrefixOf (c :: t) = false := by
          cases t with
          | nil => simp [List.isPrefixOf]
          | cons d t' =>
            simp only [List.isPrefixOf, Bool.and_true, Bool.and_eq_false_imp, beq_iff_eq]
            intro hc
            rw [beq_eq_false_iff_ne]
            intro hd
            exact hne t' hc.symm (by rw [hd])
        simp only [hp, Bool.false_eq_true, if_false, ih]
      · exact hne
    | case3 => rfl
  simp [Pre.replace, this]

theorem lower_strip_eq (v : List Char) : Pre.lower (Pre.strip v) = lowerStr (Py.strip v) := by
  unfold Pre.lower Pre.strip lowerStr
  apply List.map_congr_left
  intro c _
  exact toLower_eq c

/-- a `dict[str, str]` as the prelude keeps it: the `(key, value)` pairs in insertion order -/
abbrev Dict := List (List Char × List Char)

/-- `list(d)`: the keys in insertion order -/
def keys (d : Dict) : List (List Char) := d.map (·.1)

theorem dictGet?_eq_get (d : Dict) (k : List Char) : Pre.dictGet? d k = Env.get d k := rfl

theorem dictGetD_eq_get (d : Dict) (k x : List Char) : Pre.dictGetD d k x = (Env.get d k).getD x := rfl

theorem not_has {d : Dict} {k : List Char} (h : k ∉ keys d) : Pre.dictHas d k = false := by
  rw [← Bool.not_eq_true, Pre.dictHas_iff_mem]; exact h

/-- `d[k] = v` of the prelude (update *every* pair with key `k`, else append) is the model's `Env.set`
(update the *first* pair with key `k`, else append) on a dict whose keys are distinct
(`PyFnsEq.MultiDict.dictSet_eq`, Lemmas/PyDictModel.lean, is the same comparison for the model dict of the containers) -/
theorem dictSet_eq_set (d : Dict) (k v : List Char) (hn : (keys d).Nodup) :
    Pre.dictSet d k v = Env.set d k v := by
  induction d with
  | nil => rfl
  | cons p t ih =>
    obtain ⟨k', v'⟩ := p
    simp only [keys, List.map_cons, List.nodup_cons] at hn
    have iht := ih hn.2
    unfold Env.set
    unfold Pre.dictSet at iht ⊢
    by_cases hk : (k' == k) = true
    · have e : k' = k := by simpa using hk
      have hnot : k ∉ keys t := by rw [← e]; exact hn.1
      simp only [Pre.dictHas, List.any_cons, hk, Bool.true_or, if_true, List.map_cons,
        Pre.map_set_of_not_has t k v (not_has hnot)]
    · have hk' : (k' == k) = false := by simpa using hk
      simp only [hk', Bool.false_eq_true, if_false]
      rw [← iht]
      simp only [Pre.dictHas, List.any_cons, hk', Bool.false_or, List.map_cons, Bool.false_eq_true, if_false]
      split <;> simp [*]

/-- the distinct-keys hypothesis of `dictSet_eq_set` is needed: with a repeated key the prelude updates
both pairs, the model the first only (neither list is a Python dict) -/
example : Pre.dictSet [(['a'], ['1']), (['a'], ['2'])] ['a'] ['3'] ≠ Env.set [(['a'], ['1']), (['a'], ['2'])] ['a'] ['3'] := by
  decide

theorem nodup_set (d : Dict) (k v : List Char) (hn : (keys d).Nodup) : (keys (Env.set d k v)).Nodup := by
  rw [← dictSet_eq_set d k v hn]; exact Pre.nodup_keys_dictSet d k v hn

theorem get_append (base e : Dict) (k : List Char) (hb : k ∉ keys base) :
    Env.get (base ++ e) k = Env.get e k := by
  have h := not_has hb
  rw [Pre.dictHas_eq_isSome] at h
  have h' : Pre.dictGet? base k = none := by simpa using h
  rw [← dictGet?_eq_get, Pre.dictGet?_append, h']
  rfl

/-- the keys the header loop of `make_environ` can write: `HTTP_…`, `CONTENT_TYPE`, `CONTENT_LENGTH` -/
def isHeaderKey (k : List Char) : Bool := "HTTP_".toList.isPrefixOf k || isContentKey k

/-- no key of the dict is one the header loop can write -/
def HeaderFree (base : Dict) : Prop := ∀ k ∈ keys base, isHeaderKey k = false

theorem isHeaderKey_http (k : List Char) : isHeaderKey ("HTTP_".toList ++ k) = true := by
  simp [isHeaderKey]

theorem isHeaderKey_content (k : List Char) (h : isContentKey k = true) : isHeaderKey k = true := by
  simp [isHeaderKey, h]

theorem HeaderFree.not_mem {base : Dict} (hb : HeaderFree base) {k : List Char} (hk : isHeaderKey k = true) :
    k ∉ keys base := by
  intro hm
  have := hb k hm
  rw [hk] at this
  cases this

theorem HeaderFree.dictGetD {base : Dict} (hb : HeaderFree base) (e : Dict) {k : List Char}
    (hk : isHeaderKey k = true) (x : List Char) :
    Pre.dictGetD (base ++ e) k x = (Env.get e k).getD x := by
  rw [dictGetD_eq_get, get_append _ _ _ (hb.not_mem hk)]

theorem HeaderFree.dictSet {base : Dict} (hb : HeaderFree base) {e : Dict} (hn : (keys e).Nodup)
    {k : List Char} (hk : isHeaderKey k = true) (v : List Char) :
    Pre.dictSet (base ++ e) k v = base ++ Env.set e k v := by
  rw [Pre.dictSet_append _ _ _ _ (not_has (hb.not_mem hk)), dictSet_eq_set _ _ _ hn]

/-- one iteration of the header loop of `make_environ` as a total function on the whole environ -/
def stepT (environ : Dict) (x : List Char × List Char) : Dict :=
  if Pre.contains x.1 ['_'] then environ
  else
    let key := Pre.replace (Pre.upper x.1) ['-'] ['_']
    let value := Pre.replace x.2 ['\r', '\n'] []
    if !(key == ['C', 'O', 'N', 'T', 'E', 'N', 'T', '_', 'T', 'Y', 'P', 'E'] || key == ['C', 'O', 'N', 'T', 'E', 'N', 'T', '_', 'L', 'E', 'N', 'G', 'T', 'H']) then
      let key := ['H', 'T', 'T', 'P', '_'] ++ key
      if Pre.dictHas environ key then
        Pre.dictSet environ key (Pre.dictGetD environ key [] ++ [','] ++ value)
      else Pre.dictSet environ key value
    else Pre.dictSet environ key value

/-- one iteration of the header loop, with the prelude's string kernels replaced by the model's
(`envName`, `dropCrlf`, membership of `_`, `isContentKey`); the dict operations are still the prelude's -/
theorem stepT_eq (environ : Dict) (x : List Char × List Char) :
    stepT environ x =
      if x.1.contains '_' then environ
      else if isContentKey (envName x.1) then Pre.dictSet environ (envName x.1) (dropCrlf x.2)
      else if Pre.dictHas environ ("HTTP_".toList ++ envName x.1) then
        Pre.dictSet environ ("HTTP_".toList ++ envName x.1)
          (Pre.dictGetD environ ("HTTP_".toList ++ envName x.1) [] ++ ',' :: dropCrlf x.2)
      else Pre.dictSet environ ("HTTP_".toList ++ envName x.1) (dropCrlf x.2) := by
  unfold stepT
  simp only [contains_singleton, replace_upper_eq_envName, replace_crlf_eq_dropCrlf]
  by_cases h1 : x.1.contains '_' = true
  · simp only [h1, if_true]
  · simp only [h1, Bool.false_eq_true, if_false]
    have e : (envName x.1 == ['C', 'O', 'N', 'T', 'E', 'N', 'T', '_', 'T', 'Y', 'P', 'E'] || envName x.1 == ['C', 'O', 'N', 'T', 'E', 'N', 'T', '_', 'L', 'E', 'N', 'G', 'T', 'H']) = isContentKey (envName x.1) := rfl
    rw [e]
    by_cases h2 : isContentKey (envName x.1) = true
    · simp only [h2, Bool.not_true, Bool.false_eq_true, if_false, if_true]
    · simp only [h2, Bool.not_false, if_true, Bool.false_eq_true, if_false]
      have e2 : ['H', 'T', 'T', 'P', '_'] = "HTTP_".toList := rfl
      rw [e2]
      simp only [List.append_assoc, List.singleton_append]

theorem keys_nodup_foldHeader (e : Dict) (h : List Char × List Char) (hn : (keys e).Nodup) :
    (keys (foldHeader e h)).Nodup := by
  unfold foldHeader
  split
  · exact hn
  · simp only []
    split
    · exact nodup_set _ _ _ hn
    · split <;> exact nodup_set _ _ _ hn

theorem stepT_append (base e : Dict) (h : List Char × List Char) (hb : HeaderFree base) (hn : (keys e).Nodup) :
    stepT (base ++ e) h = base ++ foldHeader e h := by
  rw [stepT_eq]
  unfold foldHeader
  by_cases h1 : h.1.contains '_' = true
  · simp only [h1, if_true]
  · simp only [h1, if_false, Bool.false_eq_true]
    by_cases h2 : isContentKey (envName h.1) = true
    · simp only [h2, if_true]
      exact hb.dictSet hn (isHeaderKey_content _ h2) _
    · simp only [h2, if_false, Bool.false_eq_true]
      have hk := isHeaderKey_http (envName h.1)
      rw [Pre.dictHas_append, not_has (hb.not_mem hk), Bool.false_or, Pre.dictHas_eq_isSome, dictGet?_eq_get,
        hb.dictGetD e hk]
      cases Env.get e ("HTTP_".toList ++ envName h.1) with
      | none => exact hb.dictSet hn hk _
      | some old => exact hb.dictSet hn hk _

/-- the header-free hypothesis of `stepT_append` is needed: were `HTTP_A` a base entry, a header `A`
would be joined onto it instead of starting a new entry -/
example : stepT ([("HTTP_A".toList, ['1'])] ++ []) (['A'], ['2']) ≠ [("HTTP_A".toList, ['1'])] ++ foldHeader [] (['A'], ['2']) := by
  decide +kernel

theorem keys_nodup_foldl (hs : List (List Char × List Char)) (e : Dict) (hn : (keys e).Nodup) :
    (keys (hs.foldl foldHeader e)).Nodup := by
  induction hs generalizing e with
  | nil => exact hn
  | cons h t ih => exact ih _ (keys_nodup_foldHeader e h hn)

theorem foldl_stepT_append (base : Dict) (hb : HeaderFree base) (hs : List (List Char × List Char)) (e : Dict)
    (hn : (keys e).Nodup) :
    hs.foldl stepT (base ++ e) = base ++ hs.foldl foldHeader e := by
  induction hs generalizing e with
  | nil => rfl
  | cons h t ih =>
    simp only [List.foldl_cons]
    rw [stepT_append base e h hb hn]
    exact ih _ (keys_nodup_foldHeader e h hn)

/-- the `urlsplit` parameter of the main theorem: the model's `urlsplit`, answering
`(scheme, netloc, path, query)`; the model's `none` (a target outside the modelled domain, or `[` / `]` in
the authority, where urllib raises) is presented as `ValueError` -/
def urlsplitOf (s : List Char) : Except String (List Char × List Char × List Char × List Char) :=
  match DevServer.urlsplit s with
  | some u => .ok (u.scheme, u.netloc, u.path, u.query)
  | none => .error "ValueError"

/-- the `unquote` parameter of the main theorem: `urllib.parse.unquote` as the model has it (percent-decode,
then decode as UTF-8 with replacement); the model's `unquoteDance s` is `dance (unquoteOf s)` -/
def unquoteOf (s : List Char) : List Char := Py.decodeReplace (pctDecode s)

/-- the twelve text-valued entries the environ literal of `make_environ` starts with, in the order of the
source (the non-text entries `wsgi.version`, `wsgi.input`, `wsgi.errors`, `wsgi.multithread`,
`wsgi.multiprocess`, `wsgi.run_once`, `werkzeug.socket`, `REMOTE_PORT` are not part of the translation) -/
def baseEntries (tls : Bool) (ra sn sp sv method pathInfo query rawUri protocol : List Char) : Dict :=
  [("wsgi.url_scheme".toList, if tls then "https".toList else "http".toList),
   ("SERVER_SOFTWARE".toList, sv), ("REQUEST_METHOD".toList, method), ("SCRIPT_NAME".toList, []),
   ("PATH_INFO".toList, pathInfo), ("QUERY_STRING".toList, query), ("REQUEST_URI".toList, rawUri),
   ("RAW_URI".toList, rawUri), ("REMOTE_ADDR".toList, ra), ("SERVER_NAME".toList, sn),
   ("SERVER_PORT".toList, sp), ("SERVER_PROTOCOL".toList, protocol)]

/-- the base entries written with the fields of the model's `Environ`: `REQUEST_METHOD = E.method`,
`PATH_INFO = E.pathInfo`, `QUERY_STRING = E.query`, `REQUEST_URI = RAW_URI = E.rawUri`,
`SERVER_PROTOCOL = E.protocol`; `tls` = `self.server.ssl_context is not None`, `ra` = `self.address_string()`,
`sn` / `sp` = the server address, `sv` = `self.server_version` -/
def baseOf (tls : Bool) (ra sn sp sv : List Char) (E : Environ) : Dict :=
  baseEntries tls ra sn sp sv E.method E.pathInfo E.query E.rawUri E.protocol

theorem baseEntries_headerFree (tls : Bool) (ra sn sp sv m p q r pr : List Char) :
    HeaderFree (baseEntries tls ra sn sp sv m p q r pr) := by
  unfold HeaderFree baseEntries keys
  repeat rw [String.toList_ofList]
  simp only [List.map_cons, List.map_nil, List.forall_mem_cons]
  decide +kernel

theorem foldl_stepT_base {base : Dict} (hb : HeaderFree base) (hs : List (List Char × List Char)) :
    hs.foldl stepT base = base ++ foldHeaders hs := by
  have := foldl_stepT_append base hb hs [] List.nodup_nil
  rwa [List.append_nil] at this

/-- the model's test for a chunked request, on the value `environ.get("HTTP_TRANSFER_ENCODING", "")`
(a missing key gives `""`, which is not `chunked`) -/
theorem isChunkedRequest_eq (fh : Dict) :
    isChunkedRequest fh
      = (lowerStr (Py.strip ((Env.get fh "HTTP_TRANSFER_ENCODING".toList).getD [])) == "chunked".toList) := by
  unfold isChunkedRequest
  cases Env.get fh "HTTP_TRANSFER_ENCODING".toList with
  | none => rw [String.toList_ofList]; rfl
  | some v => rfl

open Wz.Gen.PyFns_MakeEnviron

theorem loop1_eq_foldl urlsplit unquote tls ra sn sp sv headers (hs : List (List Char × List Char)) (environ : Dict) :
    make_environ.loop1 urlsplit unquote tls ra sn sp sv headers hs environ = .fall (hs.foldl stepT environ) := by
  induction hs generalizing environ with
  | nil => rfl
  | cons x rest ih =>
    -- every branch of the body ends in the recursive call: push the rest of the loop through the `if`s of `stepT`
    simp only [make_environ.loop1, ih, List.foldl_cons, stepT,
      apply_ite (fun e => (Pre.Loop.fall (List.foldl stepT e rest) : Pre.Loop (Except String (Dict × Bool)) Dict))]
    -- what is left is `environ[key]` under `if key in environ`
    by_cases hh : Pre.dictHas environ (['H', 'T', 'T', 'P', '_'] ++ Pre.replace (Pre.upper x.1) ['-'] ['_']) = true
    · simp only [hh, if_true, Pre.dictGetItem_of_has _ _ [] hh]
    · simp only [hh, if_false, Bool.false_eq_true]

/-- the two branches of the generated code that differ only in the flag they answer -/
theorem ite_ok_flag {ε α : Type} (c : Bool) (a : α) :
    (if c = true then (Except.ok (a, true) : Except ε (α × Bool)) else .ok (a, false)) = .ok (a, c) := by
  cases c <;> rfl

/-- **the translated `make_environ` in one equation**, for arbitrary `urlsplit` / `unquote` collaborators:
it raises what `urlsplit(self.path)` raises and nothing else; otherwise the twelve base entries (the path
put together from netloc and path when there is a netloc but no scheme, unquoted, through the encoding
dance) are folded with the header loop, `HTTP_HOST` is overwritten for an absolute-form target, and the
flag is the `Transfer-Encoding: chunked` test on the folded environ -/
theorem make_environ_spec
    (us : List Char → Except String (List Char × List Char × List Char × List Char)) (uq : List Char → List Char)
    (tls : Bool) (ra sn sp sv : List Char) (headers : List (List Char × List Char))
    (path command version : List Char) :
    make_environ us uq tls ra sn sp sv headers path command version =
      (us path).map fun u =>
        let env := headers.foldl stepT (baseEntries tls ra sn sp sv command
          (dance (uq (if u.1.isEmpty && !u.2.1.isEmpty then '/' :: u.2.1 ++ u.2.2.1 else u.2.2.1)))
          (dance u.2.2.2) (dance path) version)
        (if !u.1.isEmpty && !u.2.1.isEmpty then Pre.dictSet env "HTTP_HOST".toList u.2.1 else env,
          Pre.lower (Pre.strip (Pre.dictGetD env "HTTP_TRANSFER_ENCODING".toList [])) == "chunked".toList) := by
  have hd : ∀ s, Gen.PyFns_Url.wsgi_encoding_dance s = dance s := fun _ => rfl
  unfold make_environ baseEntries
  repeat rw [String.toList_ofList]
  cases us path with
  | error e => rfl
  | ok u =>
    -- each of the four cases is one normalisation of the generated body
    cases hs : u.1.isEmpty <;> cases hn : u.2.1.isEmpty <;>
      simp only [loop1_eq_foldl, Except.map, hd, ite_not_swap, hs, hn, ite_ok_flag, Bool.not_true, Bool.not_false,
        Bool.and_true, Bool.and_false, Bool.false_eq_true, if_true, if_false, List.cons_append, List.nil_append]

/-- `Props.C19T2.make_environ_eq` has the statement in werkzeug's terms: the base entries are header-free, so the header loop,
the `HTTP_TRANSFER_ENCODING` lookup and `environ["HTTP_HOST"] = netloc` act on the header part alone -/
theorem make_environ_eq (tls : Bool) (ra sn sp sv : List Char) (headers : List (List Char × List Char))
    (path command version : List Char) :
    make_environ urlsplitOf unquoteOf tls ra sn sp sv headers path command version =
      match makeEnviron command path version headers with
      | none => .error "ValueError"
      | some E => .ok (baseOf tls ra sn sp sv E ++ E.headers, E.terminated) := by
  rw [make_environ_spec]
  unfold makeEnviron urlsplitOf
  cases DevServer.urlsplit path with
  | none => rfl
  | some u =>
    have hb := baseEntries_headerFree tls ra sn sp sv command
      (dance (unquoteOf (if u.scheme.isEmpty && !u.netloc.isEmpty then '/' :: u.netloc ++ u.path else u.path)))
      (dance u.query) (dance path) version
    have hte : isHeaderKey "HTTP_TRANSFER_ENCODING".toList = true := by rw [String.toList_ofList]; rfl
    have hhost : isHeaderKey "HTTP_HOST".toList = true := by rw [String.toList_ofList]; rfl
    have hnd : (keys (foldHeaders headers)).Nodup := keys_nodup_foldl headers [] List.nodup_nil
    simp only [Except.map, foldl_stepT_base hb, hb.dictGetD _ hte, lower_strip_eq, ← isChunkedRequest_eq]
    split
    · rw [hb.dictSet hnd hhost]
      rfl
    · rfl

/-- a normal return of the translated function, read back: the model answered some `E` and these are its parts -/
theorem make_environ_ok {tls : Bool} {ra sn sp sv : List Char} {headers : List (List Char × List Char)}
    {path command version : List Char} {d : Dict} {t : Bool}
    (h : make_environ urlsplitOf unquoteOf tls ra sn sp sv headers path command version = .ok (d, t)) :
    ∃ E, makeEnviron command path version headers = some E ∧
      d = baseOf tls ra sn sp sv E ++ E.headers ∧ t = E.terminated := by
  rw [make_environ_eq] at h
  cases hm : makeEnviron command path version headers with
  | none => rw [hm] at h; cases h
  | some E => rw [hm] at h; cases h; exact ⟨E, rfl, rfl, rfl⟩

end Wz.PyFnsEq.MakeEnviron
