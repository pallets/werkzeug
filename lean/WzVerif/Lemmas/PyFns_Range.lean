/-
What the equalities of Props/C11T (translated `parse_range_header` / `Range.__init__`, `unquote_etag`, `parse_if_range_header` =
the model of `Model/Conditional.lean`) need about the model and the prelude alone: the prelude's split / `_plain_int` against the
model's own, the model's pattern matches on `W/` and `"` spelled with `startswith` as the code spells them (`unquoteEtag_spec`,
`quotedLike`), and that every range list the model returns passes the validation of `Range.__init__` (`parseRangeItems_valid`).
`ifRangeOf` and `summ` are the shapes in which C11T's statements compare the two sides' results.
-/
import WzVerif.Model.Conditional
import WzVerif.Lemmas.PyFns_Prelude
open Wz Wz.Pre

namespace Wz.PyFnsRange

theorem splitOnce_singleton_not_mem [BEq α] [LawfulBEq α] (s : List α) (c : α) (h : c ∉ s) :
    splitOnce s [c] = .error "ValueError" :=
  Pre.splitOnce_singleton_not_mem s c h

theorem splitOn_singleton (c : Char) (s : Str) : splitOn s [c] = Cond.splitOnChar c s [] :=
  splitOnAux_singleton_of (fun _ => rfl) (fun _ _ _ => rfl) s []

theorem cond_plainInt_eq (v : Str) : Cond.plainInt v = (Pre.plainInt v).toOption := by
  have e1 : Cond.isDigitA = Pre.isDigitA := rfl
  have e2 : Cond.digitsVal = Pre.digitsVal := rfl
  unfold Cond.plainInt
  simp only [e1, e2]
  cases hs : Py.strip v with
  | nil => rw [plainInt_pos (by simp [hs]), hs]; rfl
  | cons c t =>
    by_cases hc : c = '-'
    · subst hc; rw [plainInt_neg hs]
      cases h1 : t.isEmpty <;> cases h2 : t.all isDigitA <;> simp [Except.toOption, h1, h2]
    · rw [plainInt_pos (by simp [hs, hc]), hs]
      cases h2 : (c :: t).all isDigitA <;> simp [Except.toOption, h2, hc]

/-- the model's `unquoteEtag` with its pattern match on `W/` / `w/` spelled with `startswith` -/
theorem unquoteEtag_spec (s : List Char) :
    Cond.unquoteEtag s =
      if s.isEmpty then none
      else
        let e := Py.strip s
        let w := startswith e ['W', '/'] || startswith e ['w', '/']
        let g := if w then e.drop 2 else e
        some (if g.head? == some '"' && g.getLast? == some '"' then (g.drop 1).dropLast else g, w) := by
  unfold Cond.unquoteEtag
  split
  · rfl
  · generalize Py.strip s = e
    simp only
    split
    · simp [startswith, List.isPrefixOf]
    · simp [startswith, List.isPrefixOf]
    · next h1 h2 => simp [startswith_false ['W', '/'] h1, startswith_false ['w', '/'] h2]

/-- the test `g[:1] == g[-1:] == '"'` of `unquote_etag`, on the prelude's reading of the two slices -/
theorem quoted_test (g : List Char) :
    ((g.take 1 == Pre.lastAsList g) && (Pre.lastAsList g == ['"']))
    = (g.head? == some '"' && g.getLast? == some '"') := by
  unfold Pre.lastAsList
  cases g with
  | nil => simp
  | cons x t =>
    have hl : (x :: t).getLast? = some ((x :: t).getLast (by simp)) := List.getLast?_eq_some_getLast (by simp)
    rw [hl]
    generalize (x :: t).getLast (by simp) = z
    by_cases hz : z = '"'
    · subst hz; simp
    · have hzb : (z == '"') = false := by simpa using hz
      simp [hzb]

/-- is the value spelled like an entity tag (what `parse_if_range_header` tests before it tries a date)? -/
def quotedLike (v : List Char) : Bool :=
  startswith (lstrip v) ['"'] || startswith (lstrip v) ['W', '/', '"'] || startswith (lstrip v) ['w', '/', '"']

/-- the `IfRange` object as the pair (etag, date) -/
def ifRangeOf : Cond.IfRange → Option (List Char) × Option Int
  | .none => (none, none)
  | .date d => (none, some d)
  | .etag e => (some e, none)

theorem looksLikeEtag_eq (v : List Char) : Cond.looksLikeEtag v = quotedLike v := by
  unfold Cond.looksLikeEtag quotedLike Pre.lstrip
  generalize v.dropWhile Py.isSpace = e
  split
  · rfl
  · simp [startswith, List.isPrefixOf]
  · simp [startswith, List.isPrefixOf]
  · next h1 h2 h3 =>
    rw [startswith_false ['"'] h1, startswith_false ['W', '/', '"'] h2, startswith_false ['w', '/', '"'] h3]
    rfl

/-- what `Range.__init__` accepts -/
def ValidPair (p : Int × Option Int) : Prop :=
  match p.2 with
  | none => True
  | some e => 0 ≤ p.1 ∧ p.1 < e

def AllValid (l : List (Int × Option Int)) : Prop := ∀ p ∈ l, ValidPair p

theorem parseRangeItems_valid (items : List Str) : ∀ (le : Int) (acc rs : List (Int × Option Int)),
    Cond.parseRangeItems items le acc = some rs → AllValid acc → AllValid rs := by
  intro le acc rs h hv
  fun_induction Cond.parseRangeItems items le acc
  case case1 =>
    cases h
    intro p hp; exact hv p (by simpa using hp)
  case case6 ih => exact ih h (List.forall_mem_cons.mpr ⟨trivial, hv⟩)
  case case12 ih => exact ih h (List.forall_mem_cons.mpr ⟨trivial, hv⟩)
  case case11 ih =>
    -- an accepted `begin-end` item: `lastEnd ≤ begin`, `0 ≤ lastEnd` and `begin < end` were tested
    have hle := ‹¬(decide (_ < _) || decide (_ < (0 : Int))) = true›
    have hbe := ‹¬(_ : Int) ≥ _›
    simp only [Bool.or_eq_true, decide_eq_true_eq, not_or, Int.not_lt] at hle
    exact ih h (List.forall_mem_cons.mpr ⟨show 0 ≤ _ ∧ _ < _ by omega, hv⟩)
  all_goals cases h

def validB (p : Int × Option Int) : Bool :=
  match p.2 with
  | none => true
  | some e => decide (0 ≤ p.1) && decide (p.1 < e)

theorem validB_iff (p : Int × Option Int) : validB p = true ↔ ValidPair p := by
  obtain ⟨b, e⟩ := p
  cases e <;> simp [validB, ValidPair]

theorem all_validB_iff (l : List (Int × Option Int)) : l.all validB = true ↔ AllValid l := by
  simp [AllValid, List.all_eq_true, validB_iff]

abbrev R := List (Int × Option Int)

/-- what the `for item in rng.split(",")` loop of `parse_range_header` did, as far as the model says it: `some none` = returned
None, `some (some rs)` = fell through with the ranges `rs`, `none` = any other exit (an exception, a returned value) -/
def summ : Pre.Loop (Except String (Option (List Char × R))) (Int × R) → Option (Option R)
  | .ret (.ok none) => some none
  | .fall (_, rs) => some (some rs)
  | _ => none

theorem summ_none_iff (l : Pre.Loop (Except String (Option (List Char × R))) (Int × R)) :
    summ l = some none ↔ l = .ret (.ok none) := by
  constructor
  · intro h
    match l, h with
    | .ret (.ok none), _ => rfl
  · rintro rfl; rfl

theorem summ_some_iff (l : Pre.Loop (Except String (Option (List Char × R))) (Int × R)) (rs : R) :
    summ l = some (some rs) ↔ ∃ le, l = .fall (le, rs) := by
  constructor
  · intro h
    match l, h with
    | .fall (le, _), rfl => exact ⟨le, rfl⟩
  · rintro ⟨le, rfl⟩; rfl

end Wz.PyFnsRange
