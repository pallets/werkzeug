/-
`base64.b64decode(base64.b64encode(bs)) == bs` for CPython's non-strict `a2b_base64` state machine (C06, Basic
credentials): every symbol of the alphabet decodes to its index (`b64_table`), one data symbol moves the decoder one
arm of its `match quad` (`b64DecodeGo_symbol`), and three bytes are four sextets (`b64_roundtrip_go`, bit arithmetic).
-/
import WzVerif.Model.Http
import WzVerif.Lemmas.TableSweep
namespace Wz.Http
open Wz

/-- every symbol is a member of the alphabet (an index past its end gives `'A'`) -/
theorem b64Char_mem (n : Nat) : b64Char n ∈ b64Alphabet := by
  unfold b64Char
  rw [List.getD_eq_getElem?_getD]
  cases h : b64Alphabet[n]? with
  | none => unfold b64Alphabet; rw [String.toList_ofList]; simp
  | some c => exact List.mem_of_getElem? h

-- the alphabet is a string literal: turned into the list of its characters by a lemma, not by evaluation
theorem b64Alphabet_chars : ∀ c ∈ b64Alphabet, c ≠ '=' ∧ c.toNat < 128 ∧ Py.isSpace c = false := by
  unfold b64Alphabet; rw [String.toList_ofList]; decide +kernel

theorem b64_table (n : Nat) (hn : n < 64) : b64Val? (b64Char n) = some n := by
  have hlen : b64Alphabet.length = 64 := by unfold b64Alphabet; rw [String.toList_ofList]; rfl
  have := getD_sweep (t := b64Alphabet) (d := 'A') (q := fun c n => b64Val? c == some n)
    (by unfold b64Alphabet; rw [String.toList_ofList]; decide +kernel) (hlen ▸ hn)
  simpa [b64Char] using this

theorem b64DecodeGo_symbol (n : Nat) (hn : n < 64) (t : Str) (quad left pads : Nat) (out : Bytes) :
    b64DecodeGo (b64Char n :: t) quad left pads out =
      match quad with
      | 0 => b64DecodeGo t 1 n 0 out
      | 1 => b64DecodeGo t 2 (n % 16) 0 (UInt8.ofNat (left * 4 + n / 16) :: out)
      | 2 => b64DecodeGo t 3 (n % 4) 0 (UInt8.ofNat (left * 16 + n / 4) :: out)
      | _ => b64DecodeGo t 0 0 0 (UInt8.ofNat (left * 64 + n) :: out) := by
  rw [b64DecodeGo]
  simp only [beq_iff_eq, (b64Alphabet_chars _ (b64Char_mem n)).1, if_false, b64_table n hn]
  rcases quad with _ | _ | _ | _ <;> rfl

theorem b64_roundtrip_go (bs : Bytes) (out : Bytes) :
    b64DecodeGo (b64Encode bs) 0 0 0 out = .ok (out.reverse ++ bs) := by
  fun_induction b64Encode bs generalizing out with
  | case1 a b c t ih =>
    have ha := a.toNat_lt
    have hb := b.toNat_lt
    have hc := c.toNat_lt
    rw [b64DecodeGo_symbol _ (by omega) _ 0, b64DecodeGo_symbol _ (by omega) _ 1, b64DecodeGo_symbol _ (by omega) _ 2, b64DecodeGo_symbol _ (by omega) _ 3]
    have e1 : a.toNat / 4 * 4 + (a.toNat % 4 * 16 + b.toNat / 16) / 16 = a.toNat := by omega
    have e2 : (a.toNat % 4 * 16 + b.toNat / 16) % 16 * 16 + (b.toNat % 16 * 4 + c.toNat / 64) / 4 = b.toNat := by omega
    have e3 : (b.toNat % 16 * 4 + c.toNat / 64) % 4 * 64 + c.toNat % 64 = c.toNat := by omega
    rw [e1, e2, e3, ih]
    simp
  | case2 a b =>
    have ha := a.toNat_lt
    have hb := b.toNat_lt
    rw [b64DecodeGo_symbol _ (by omega) _ 0, b64DecodeGo_symbol _ (by omega) _ 1, b64DecodeGo_symbol _ (by omega) _ 2]
    have e1 : a.toNat / 4 * 4 + (a.toNat % 4 * 16 + b.toNat / 16) / 16 = a.toNat := by omega
    have e2 : (a.toNat % 4 * 16 + b.toNat / 16) % 16 * 16 + (b.toNat % 16 * 4) / 4 = b.toNat := by omega
    rw [e1, e2]
    simp [b64DecodeGo]
  | case3 a =>
    have ha := a.toNat_lt
    rw [b64DecodeGo_symbol _ (by omega) _ 0, b64DecodeGo_symbol _ (by omega) _ 1]
    have e1 : a.toNat / 4 * 4 + (a.toNat % 4 * 16) / 16 = a.toNat := by omega
    rw [e1]
    simp [b64DecodeGo]
  | case4 => simp [b64DecodeGo]

theorem b64Encode_chars (bs : Bytes) : ∀ c ∈ b64Encode bs, c.toNat < 128 ∧ Py.isSpace c = false := by
  have sym : ∀ n, (b64Char n).toNat < 128 ∧ Py.isSpace (b64Char n) = false :=
    fun n => (b64Alphabet_chars _ (b64Char_mem n)).2
  have pad : ('=' : Char).toNat < 128 ∧ Py.isSpace '=' = false := by decide
  fun_induction b64Encode bs with
  | case1 a b c t ih => simp only [List.forall_mem_cons]; exact ⟨sym _, sym _, sym _, sym _, ih⟩
  | case2 a b => simp only [List.forall_mem_cons]; exact ⟨sym _, sym _, sym _, pad, by simp⟩
  | case3 a => simp only [List.forall_mem_cons]; exact ⟨sym _, sym _, pad, pad, by simp⟩
  | case4 => simp

theorem b64_roundtrip (bs : Bytes) : b64Decode (b64Encode bs) = .ok bs := by
  unfold b64Decode
  have : (b64Encode bs).any (fun c => decide (c.toNat ≥ 128)) = false := by
    rw [List.any_eq_false]
    intro c hc
    have := (b64Encode_chars bs c hc).1
    simp; omega
  rw [this]
  simpa using b64_roundtrip_go bs []

end Wz.Http
