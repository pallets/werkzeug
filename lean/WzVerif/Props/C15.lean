/-
C15 - URLs keep their meaning between IRI, URI, environ and request.
Property theorems; helper lemmas live in Lemmas/Url*.lean.

Modelled (validated by the streams, tied by regenerated tables): urllib quote / unquote with werkzeug's
codec error handler, urlsplit / urlunsplit and the SplitResult attributes, iri_to_uri / uri_to_iri,
the latin-1 dances, EnvironBuilder (__init__ with every argument form, properties, get_environ,
from_environ), Request (path, root_path, host, args, full_path, url / base_url / root_url / host_url),
sansio get_host (Host header and the SERVER_NAME / SERVER_PORT fallback) / get_current_url,
wsgi.get_current_url, DispatcherMiddleware, ProxyFix.
Opaque (stated laws `HostLaws` / `AsciiHostLaws`, shown satisfiable): ipaddress validation of a bracketed
host, the NFKC test of `_checknetloc`, `hostname.lower()` + IDNA codec / `_decode_idna`;
`parse_list_header` (C06) for ProxyFix; `_urlencode` / `parse_qsl` are C02's model - its `unquote` is
proved equal to this property's (`unquote_models_agree`).

Repaired in /repo and kept as regression cases of stream iri-uri: F15a (`_decode_idna` leaves a
malformed `xn--` label as punycode, c7898ed), F15b (`[` `]` in the keep-quoted set of the userinfo,
319c4e1 - `keep_tables_cover_reserved`); F15d (899f28c) and F15e (16e16ac) are regression cases of
stream environ-kernel. Known findings with a negation witness:
* F15c (`environ_path_full_false`: urlsplit inside EnvironBuilder drops TAB/CR/LF) - the explicit
  exclusion of `environ_url_roundtrip`;
* F15f, repaired in /repo by 18c1dce (`_quote_url_syntax`): before it `EnvironBuilder.from_environ`
  handed the DECODED PATH_INFO / SCRIPT_NAME to the URL-syntax parameters (`%XX` decoded once more,
  `#...` cut, `?` refused) - a clause of the property, "a path ... given to the environ builder [is]
  recovered exactly by the request object": `from_environ` is an entry point of the environ builder and
  makes the quantifier's call `cls(path=, base_url=, query_string=)`. `from_environ_roundtrip` holds for
  every decoded path (F15c's TAB/CR/LF is the one exclusion: `from_environ_roundtrip_needs_no_tab`);
  `from_environ_f15f_regression` pins the inputs that failed, stream from-environ keeps them in its
  corpus.

Clause -> theorem map (property text, clause by clause):
* "IRI -> URI always yields pure ASCII": `quote_ascii`, `iriToUri_ascii`, `iriToUriText_ascii_idempotent`
* "is idempotent": `quote_idempotent` (+ `_not_idempotent_without_percent`), `iri_safe_sets_keep_percent`,
  `iriToUri_idempotent`, `iriToUri_idempotent_parts`, `iriToUriText_ascii_idempotent`
  (+ `iriToUriText_not_idempotent_without_host`)
* "undone by URI-to-IRI up to normalisation (each direction a fixpoint after one step)": `uriToIri_fixpoint`,
  `uriToIri_fixpoint_parts`, `iri_uri_iri`, `uriToIriText_fixpoint_and_roundtrip`
  (+ `uriToIri_fixpoint_needs_wellformed`)
* "component-specific reserved characters and invalid percent-escapes left quoted rather than
  reinterpreted": `keep_tables_cover_reserved`, `keep_tables_ok`, `keep_tables_are_always_unsafe_plus_extra`,
  `iri_safe_sets_respect_delimiters`, `current_url_safe_sets_respect_delimiters`,
  `current_url_quoting_is_lossless`, `parse_qsl_after_partial_unquote`
* "a path ... given to the environ builder [is] recovered (path)": `environ_url_roundtrip` (exclusions:
  `environ_url_roundtrip_exclusions_needed`, `environ_path_full_false` = F15c), `environ_path_roundtrip`,
  `dance_roundtrip`, `unquote_quote_inverse`; through `from_environ`: `from_environ_roundtrip`,
  `from_environ_f15f_regression` (F15f, repaired), `from_environ_roundtrip_needs_no_tab` (F15c)
* "query ... recovered (args)": `builder_args_roundtrip`, `builder_text_args`, `builder_query_forms`,
  `builder_path_and_query_refused`, `builder_str_form`, `urlencode_safe_ok`, `unquote_models_agree`
* "base URL ... recovered (host)": `environ_url_roundtrip` (host clause), `get_host_on_hostport`,
  `get_host_drops_only_default_port`, `get_host_tables_agree`, `get_host_server_fallback`,
  `get_host_server_table_agrees`, `builder_server_table_agrees`
* "(reconstructed URL)": `environ_url_roundtrip` / `environ_url_roundtrip_partial` (scheme, host, port,
  path component denotes root_path + path, query component denotes the query string),
  `environ_url_query_denotes_mapping` (the query component, parsed, IS the mapping),
  `environ_url_roundtrip_query_grammar_needed`, `request_url_family`, `url_root_denotes`,
  `wsgi_current_url_is_request_url`, `full_path_keeps_question_mark`
* "for all Unicode": every theorem above quantifies over `List Char` (Unicode scalar values)
* "path-dispatching middleware preserves the concatenation of script name and path info while choosing
  the longest matching mount": `dispatcher_preserves_concat`, `dispatcher_longest_mount`,
  `dispatcher_default_unchanged` (+ `dispatcher_default_needs_leading_slash`); ProxyFix (a middleware
  in front of the app): `proxyfix_preserves_path_info`, `proxyfix_prefix_replaces_script_name`,
  `proxyfix_scheme`, `proxyfix_nth_from_right`, `proxyfix_port_replaces`
* glue pinned to the source: `environ_entries_pinned`, `call_sites_pinned`, `proxyfix_writes_pinned`
Only stream-covered: the opaque IDNA / ipaddress / NFKC steps (laws stated, evaluated live per case),
`script_root` / `url_root` aliases, REQUEST_URI / RAW_URI / SERVER_NAME / SERVER_PORT of the environ.

`environ_url_roundtrip` starts at EnvironBuilder's ARGUMENTS; every exclusion has a necessity witness.
-/
import WzVerif.Lemmas.UrlDenote
import WzVerif.Lemmas.UrlBuilder
import WzVerif.Lemmas.UrlBuilderRequest
import WzVerif.Lemmas.UrlFamily
import WzVerif.Lemmas.UrlFromEnviron
import WzVerif.Lemmas.UrlQueryDenote
import WzVerif.Lemmas.UrlDispatch
import WzVerif.Lemmas.UrlProxyFix
import WzVerif.Lemmas.UrlKeep
import WzVerif.Lemmas.UrlNetloc
import WzVerif.Model.UrlEnviron
import WzVerif.Model.UrlHostServer
import WzVerif.Gen.UrlGlue
namespace Wz.Props.C15
open Wz Wz.Url

/-- `urllib.parse.quote` produces pure ASCII for every input string and every safe set. -/
theorem quote_ascii (safe s : Str) : ∀ c ∈ quote safe s, c.toNat < 128 :=
  quoteBytes_ascii safe _

example : quote "/".toList "é /~".toList = "%C3%A9%20/~".toList := by
  -- `String.toList_ofList` turns each `"…".toList` into the list of its characters by a lemma; left to
  -- evaluation, a literal is UTF-8-encoded and decoded again, which outweighs the model's own work.
  repeat rw [String.toList_ofList]
  decide +kernel

/-- `quote` is idempotent whenever `%` is in the safe set: already quoted text is left alone. -/
theorem quote_idempotent (safe s : Str) (h : safe.contains '%' = true) :
    quote safe (quote safe s) = quote safe s :=
  quote_idem h s

example : ("%!$&'()*+,/:;=@".toList).contains '%' = true := by
  repeat rw [String.toList_ofList]
  decide +kernel

/-- Without `%` in the safe set the statement is false (so the hypothesis is needed): -/
theorem quote_not_idempotent_without_percent :
    quote "/".toList (quote "/".toList " ".toList) ≠ quote "/".toList " ".toList := by
  repeat rw [String.toList_ofList]
  decide

/-- Every safe set `iri_to_uri` passes to `quote` (collected from the AST on every run) contains
`%` - the obligation a changed `safe=` literal breaks. -/
theorem iri_safe_sets_keep_percent : ∀ p ∈ Gen.UrlTables.iriSafeSets, p.2.contains '%' = true := by
  obtain ⟨hu, hpw, hpa, hq, hf⟩ := iriSafe_pct
  intro p hp
  simp only [Gen.UrlTables.iriSafeSets, List.mem_cons, List.not_mem_nil, or_false] at hp
  rcases hp with rfl | rfl | rfl | rfl | rfl <;> assumption

/-- ... and none of them lets through a character that would end or change its component:
no `?`/`#` in the path set, no `#` in the query set, no `/?#@:` in the userinfo sets beyond what
the component allows (`:` is excluded from username and password). -/
theorem iri_safe_sets_respect_delimiters :
    (∀ c ∈ ['?', '#'], Gen.UrlTables.iriPathSafe.contains c = false) ∧
    Gen.UrlTables.iriQuerySafe.contains '#' = false ∧
    (∀ c ∈ ['/', '?', '#', '@', ':'], Gen.UrlTables.iriUserSafe.contains c = false ∧
      Gen.UrlTables.iriPasswordSafe.contains c = false) := by decide +kernel

/-- The safe sets `get_current_url` quotes the root path, the path and the query string with (AST,
every run) do not let through the delimiter that would end the component: no `?` / `#` in a path,
no `#` in the query - a decoded `?` in `Request.path` is re-quoted in `Request.url`. -/
theorem current_url_safe_sets_respect_delimiters :
    (∀ s ∈ [Gen.UrlTables.curRootSafe, Gen.UrlTables.curPathSafe],
      s.contains '?' = false ∧ s.contains '#' = false) ∧
    Gen.UrlTables.curQuerySafe.contains '#' = false := by decide +kernel

/-- `iri_to_uri` yields pure ASCII: every quoted component for every input, and the whole 5-tuple
handed to `urlunsplit` when the scheme and the (IDNA-encoded, opaque) host are ASCII. -/
theorem iriToUri_ascii (p : Parts) (hs : ∀ c ∈ p.scheme, c.toNat < 128) (hh : ∀ c ∈ p.host, c.toNat < 128) :
    let u := iriToUri p
    (∀ c ∈ u.scheme, c.toNat < 128) ∧ (∀ c ∈ u.netloc, c.toNat < 128) ∧ (∀ c ∈ u.path, c.toNat < 128) ∧
    (∀ c ∈ u.query, c.toNat < 128) ∧ (∀ c ∈ u.fragment, c.toNat < 128) :=
  Wz.Url.iriToUri_ascii p hs hh

example :
    iriToUri
      { scheme := "http".toList
        username := some "ü".toList
        host := "xn--n3h.net".toList
        port := some 8080
        path := "/på th".toList
        query := "q=è%DF".toList } =
      { scheme := "http".toList
        netloc := "%C3%BC@xn--n3h.net:8080".toList
        path := "/p%C3%A5%20th".toList
        query := "q=%C3%A8%DF".toList
        fragment := [] } := by
  repeat rw [String.toList_ofList]
  decide +kernel

/-- `iri_to_uri` is idempotent component-wise: re-quoting any component it produced (path, query,
fragment, username, password) with the same safe set changes nothing. -/
theorem iriToUri_idempotent (s : Str) :
    ∀ p ∈ Gen.UrlTables.iriSafeSets, quote p.2 (quote p.2 s) = quote p.2 s :=
  fun p hp => quote_idempotent p.2 s (iri_safe_sets_keep_percent p hp)

/-- in particular for the three components that travel unchanged through `urlunsplit`/`urlsplit` -/
theorem iriToUri_idempotent_parts (p : Parts) :
    let u := iriToUri p
    (iriToUri { p with path := u.path, query := u.query, fragment := u.fragment }).path = u.path ∧
    (iriToUri { p with path := u.path, query := u.query, fragment := u.fragment }).query = u.query ∧
    (iriToUri { p with path := u.path, query := u.query, fragment := u.fragment }).fragment = u.fragment := by
  exact ⟨quote_idempotent _ _ iriSafe_pct.2.2.1, quote_idempotent _ _ iriSafe_pct.2.2.2.1,
    quote_idempotent _ _ iriSafe_pct.2.2.2.2⟩

/-- an instance of the opaque parameters that satisfies the laws (hosts that are plain ASCII text
are their own IDNA form): shows the hypotheses below are satisfiable -/
def plainOpaque : UrlOpaque :=
  { bracketOk := fun _ => true, nfkcOk := fun _ => true,
    hostToAscii := fun h => if !h.isEmpty && h.all (fun c => hostChar c && decide (c.toNat < 128)) then some h else none,
    hostToUnicode := fun h => if !h.isEmpty && h.all (fun c => hostChar c && decide (c.toNat < 128)) then some h else none }

example : InGrammar plainOpaque "http://üser:pw@example.com:8080/på th?q=è#f".toList := by
  repeat rw [String.toList_ofList]
  exact ⟨_, rfl, by decide, by decide⟩

example : (iriToUriText plainOpaque "HTTP://üser:pw@example.com:8080/på th?q=è#f".toList).toOption
    = some "http://%C3%BCser:pw@example.com:8080/p%C3%A5%20th?q=%C3%A8#f".toList := by
  repeat rw [String.toList_ofList]
  decide +kernel

/-- **`iri_to_uri` on URL text** (urlsplit, netloc assembly and urlunsplit included): for every URL
of the grammar - it splits, has a scheme and a host - the result is pure ASCII and converting it
again changes nothing, under the laws assumed of the opaque `hostname.lower()` + IDNA step
(its output is non-empty ASCII host text, is its own image, and passes the bracket check when it
is an IPv6 literal). -/
theorem iriToUriText_ascii_idempotent (o : UrlOpaque) (laws : AsciiHostLaws o) (url r : Str)
    (hg : InGrammar o url) (h : iriToUriText o url = .ok r) :
    (∀ c ∈ r, c.toNat < 128) ∧ iriToUriText o r = .ok r :=
  ⟨iriToUriText_ascii laws hg h, iriToUriText_idem laws hg h⟩

theorem plainOpaque_spec (h r : Str) :
    (plainOpaque.hostToAscii h = some r ∨ plainOpaque.hostToUnicode h = some r) →
    r = h ∧ r ≠ [] ∧ (∀ c ∈ r, hostChar c = true) ∧ plainOpaque.hostToAscii r = some r ∧
      plainOpaque.hostToUnicode r = some r := by
  intro hr
  -- both conversions are the same guard: non-empty ASCII host text, left alone
  obtain ⟨rfl, hne, hall⟩ := ite_all_eq_some.mp (hr.elim id id)
  have hfix := ite_all_eq_some.mpr ⟨rfl, hne, hall⟩
  exact ⟨rfl, hne, fun c hc => (Bool.and_eq_true _ _ ▸ hall c hc).1, hfix, hfix⟩

example : AsciiHostLaws plainOpaque := by
  refine ⟨fun h r hr => ?_, fun h r hr => (plainOpaque_spec h r (.inl hr)).2.2.2.1, fun _ _ _ _ => rfl⟩
  obtain ⟨rfl, hne, hall⟩ := ite_all_eq_some.mp hr
  exact ⟨hne, fun c hc => by simpa using hall c hc⟩

/-- the laws assumed of the opaque host conversions are satisfiable -/
theorem plainOpaque_hostLaws : HostLaws plainOpaque := by
  refine ⟨?_, ?_, ?_, ?_, ?_, fun _ _ _ _ => rfl, fun _ _ _ _ => rfl, fun _ => rfl⟩
  · intro h r hr; have := plainOpaque_spec h r (Or.inl hr); exact ⟨this.2.1, this.2.2.1⟩
  · intro h r hr; have := plainOpaque_spec h r (Or.inr hr); exact ⟨this.2.1, this.2.2.1⟩
  · intro h r hr; exact (plainOpaque_spec h r (Or.inr hr)).2.2.2.2
  · intro h r hr
    have := plainOpaque_spec h r (Or.inr hr)
    exact ⟨r, this.2.2.2.1, this.2.2.2.2⟩
  · intro h a ha
    have := plainOpaque_spec h a (Or.inl ha)
    exact ⟨a, this.2.2.2.2⟩

/-- Outside the grammar (no host) the text-level statement is false - the known `urlunsplit` quirk
for paths that start with `//`: `iri_to_uri("p:////")` is `"p://"`, whose image is `"p:"`. -/
theorem iriToUriText_not_idempotent_without_host :
    (iriToUriText plainOpaque "p:////".toList).toOption = some "p://".toList ∧
    (iriToUriText plainOpaque "p://".toList).toOption = some "p:".toList := by
  repeat rw [String.toList_ofList]
  decide +kernel

/-- **Known finding F15c, as a theorem about the model**: `EnvironBuilder(path="/a\tb")` does not
hand the path through - `urlsplit`, which it applies to its `path` argument, deletes TAB (likewise
CR, LF), so `Request.path` is `"/ab"`. -/
theorem environ_path_full_false :
    (((builderEnviron plainOpaque "/a\tb".toList "http://localhost/".toList []).bind
      (requestView plainOpaque)).toOption.map (fun r => r.path)) = some "/ab".toList := by
  repeat rw [String.toList_ofList]
  decide +kernel

/-- Former finding F15d (repaired in /repo, 899f28c: `%` is no longer in the safe sets for the
already-unquoted `root_path` / `path`): a literal `%41` in the path (request target `/%2541`) is now
re-quoted, `Request.url` denotes `Request.path` again. -/
example :
    (((builderEnviron plainOpaque "/%2541".toList "http://localhost/".toList []).bind
      (requestView plainOpaque)).toOption.map (fun r => (r.path, r.url)))
      = some ("/%41".toList, "http://localhost/%2541".toList) := by
  repeat rw [String.toList_ofList]
  decide +kernel


/-- `%` (0x25) and every C0 control, SP and DEL stay quoted in every component of `uri_to_iri`, and
each component keeps its own delimiters quoted (tables evaluated from the live compiled patterns):
path `/?#`, query `&=+#`, userinfo `:@/?#[]` - the brackets included, so that unquoting can never
produce a netloc that `urlsplit` reads as an (invalid) IPv6 literal (former finding F15b). -/
theorem keep_tables_cover_reserved :
    (∀ n ∈ Gen.UrlTables.alwaysUnsafe, tbl Gen.UrlTables.keepPath n = true ∧
      tbl Gen.UrlTables.keepQuery n = true ∧ tbl Gen.UrlTables.keepFragment n = true ∧
      tbl Gen.UrlTables.keepUser n = true) ∧
    (∀ n, n ≤ 0x20 ∨ n = 0x25 ∨ n = 0x7f → n ∈ Gen.UrlTables.alwaysUnsafe) ∧
    (∀ c ∈ ['/', '?', '#'], tbl Gen.UrlTables.keepPath c.toNat = true) ∧
    (∀ c ∈ ['&', '=', '+', '#'], tbl Gen.UrlTables.keepQuery c.toNat = true) ∧
    (∀ c ∈ [':', '@', '/', '?', '#', '[', ']'], tbl Gen.UrlTables.keepUser c.toNat = true) := by
  exact ⟨fun n hn => ⟨keepPath_exactly.unsafe_kept hn, keepQuery_exactly.unsafe_kept hn,
      keepFragment_exactly.unsafe_kept hn, keepUser_exactly.unsafe_kept hn⟩,
    fun n => (mem_alwaysUnsafe n).mpr, by decide, by decide, by decide⟩

/-- The four keep tables of `uri_to_iri` (evaluated from the live patterns) keep `%` quoted and keep
no byte ≥ 0x80 - what the fixpoint argument needs of them. -/
theorem keep_tables_ok :
    KeepOK Gen.UrlTables.keepPath ∧ KeepOK Gen.UrlTables.keepQuery ∧
    KeepOK Gen.UrlTables.keepFragment ∧ KeepOK Gen.UrlTables.keepUser :=
  ⟨keepPath_exactly.keepOK, keepQuery_exactly.keepOK, keepFragment_exactly.keepOK, keepUser_exactly.keepOK⟩

/-- **`uri_to_iri` is a fixpoint after one step**, component-wise: on text whose every `%` starts a
two-hex-digit escape (the property's `%XX` grammar - valid UTF-8, invalid bytes and reserved
characters alike), applying a component's partial unquoter to its own output changes nothing:
decoded characters stay, kept escapes stay, re-quoted undecodable bytes are undecodable again. -/
theorem uriToIri_fixpoint (s : Str) (hs : wellFormed s = true) :
    unquotePartial Gen.UrlTables.keepPath (unquotePartial Gen.UrlTables.keepPath s)
      = unquotePartial Gen.UrlTables.keepPath s ∧
    unquotePartial Gen.UrlTables.keepQuery (unquotePartial Gen.UrlTables.keepQuery s)
      = unquotePartial Gen.UrlTables.keepQuery s ∧
    unquotePartial Gen.UrlTables.keepFragment (unquotePartial Gen.UrlTables.keepFragment s)
      = unquotePartial Gen.UrlTables.keepFragment s ∧
    unquotePartial Gen.UrlTables.keepUser (unquotePartial Gen.UrlTables.keepUser s)
      = unquotePartial Gen.UrlTables.keepUser s :=
  ⟨unquotePartial_fix keepPath_exactly.keepOK s hs, unquotePartial_fix keepQuery_exactly.keepOK s hs,
   unquotePartial_fix keepFragment_exactly.keepOK s hs, unquotePartial_fix keepUser_exactly.keepOK s hs⟩

example : wellFormed "a%2Fb%C3%A9%FF%41%e2%82".toList = true := by
  repeat rw [String.toList_ofList]
  decide

/-- in terms of the split URL: the three components that travel unchanged through
`urlunsplit` / `urlsplit` are fixed by a second `uri_to_iri` -/
theorem uriToIri_fixpoint_parts (p : Parts) (hp : wellFormed p.path = true)
    (hq : wellFormed p.query = true) (hf : wellFormed p.fragment = true) :
    let i := uriToIri p
    (uriToIri { p with path := i.path, query := i.query, fragment := i.fragment }).path = i.path ∧
    (uriToIri { p with path := i.path, query := i.query, fragment := i.fragment }).query = i.query ∧
    (uriToIri { p with path := i.path, query := i.query, fragment := i.fragment }).fragment = i.fragment :=
  ⟨(uriToIri_fixpoint p.path hp).1, (uriToIri_fixpoint p.query hq).2.1,
   (uriToIri_fixpoint p.fragment hf).2.2.1⟩

/-- **IRI → URI → IRI is stable after one round** ("undone by URI-to-IRI up to normalisation"):
for every component text `s` of the `%XX` grammar, with `u = quote(s, safe)` what `iri_to_uri` makes
of it and `x = _unquote_partial(u)` the normalised IRI component, converting `x` to a URI and back
gives `x` again - for each pairing of `iri_to_uri`'s safe set with `uri_to_iri`'s keep table
(path, query, fragment, userinfo). -/
theorem iri_uri_iri (s : Str) (hs : wellFormed s = true) :
    (let x := unquotePartial Gen.UrlTables.keepPath (quote Gen.UrlTables.iriPathSafe s)
     unquotePartial Gen.UrlTables.keepPath (quote Gen.UrlTables.iriPathSafe x) = x) ∧
    (let x := unquotePartial Gen.UrlTables.keepQuery (quote Gen.UrlTables.iriQuerySafe s)
     unquotePartial Gen.UrlTables.keepQuery (quote Gen.UrlTables.iriQuerySafe x) = x) ∧
    (let x := unquotePartial Gen.UrlTables.keepFragment (quote Gen.UrlTables.iriFragmentSafe s)
     unquotePartial Gen.UrlTables.keepFragment (quote Gen.UrlTables.iriFragmentSafe x) = x) ∧
    (let x := unquotePartial Gen.UrlTables.keepUser (quote Gen.UrlTables.iriUserSafe s)
     unquotePartial Gen.UrlTables.keepUser (quote Gen.UrlTables.iriUserSafe x) = x) ∧
    (let x := unquotePartial Gen.UrlTables.keepUser (quote Gen.UrlTables.iriPasswordSafe s)
     unquotePartial Gen.UrlTables.keepUser (quote Gen.UrlTables.iriPasswordSafe x) = x) := by
  exact ⟨requote_stable iriSafe_pct.2.2.1 keepPath_exactly.keepOK hs,
    requote_stable iriSafe_pct.2.2.2.1 keepQuery_exactly.keepOK hs,
    requote_stable iriSafe_pct.2.2.2.2 keepFragment_exactly.keepOK hs,
    requote_stable iriSafe_pct.1 keepUser_exactly.keepOK hs, requote_stable iriSafe_pct.2.1 keepUser_exactly.keepOK hs⟩

example : unquotePartial Gen.UrlTables.keepPath (quote Gen.UrlTables.iriPathSafe "/é %41%2F%FF".toList)
    = "/é%20A%2F%FF".toList := by
  repeat rw [String.toList_ofList]
  decide +kernel

/-- Outside that grammar the statement is false - a bare `%` can combine with a decoded digit
(`uri_to_iri("%%34%31") = "%41"`, whose image is `"A"`): -/
theorem uriToIri_fixpoint_needs_wellformed :
    unquotePartial Gen.UrlTables.keepPath (unquotePartial Gen.UrlTables.keepPath "%%34%31".toList)
      ≠ unquotePartial Gen.UrlTables.keepPath "%%34%31".toList := by
  repeat rw [String.toList_ofList]
  decide +kernel

/-- a kept escape is copied verbatim by `_unquote_partial` (here: a quoted slash in a path) -/
example : unquotePartial Gen.UrlTables.keepPath "a%2Fb%C3%A9%FF%41".toList = "a%2Fbé%FFA".toList := by
  repeat rw [String.toList_ofList]
  decide +kernel

/-- **`uri_to_iri` is a fixpoint after one step, and IRI → URI → IRI is stable after one round, on
whole URL text** (urlsplit, netloc re-assembly, port and userinfo handling, urlunsplit included): for
every URL of the grammar whose text components are `%XX`-well-formed and whose userinfo carries no
raw delimiter, under the laws assumed of the opaque host conversions (`HostLaws`). With
`n = uri_to_iri(iri_to_uri(url))`: `uri_to_iri(iri_to_uri(n)) = n`. -/
theorem uriToIriText_fixpoint_and_roundtrip (o : UrlOpaque) (laws : HostLaws o) (url : Str) (sp : Split)
    (g : InGrammarU o url sp) :
    (∀ r, uriToIriText o url = .ok r → uriToIriText o r = .ok r) ∧
    (∀ u1, iriToUriText o url = .ok u1 →
      ∃ n u3, uriToIriText o u1 = .ok n ∧ iriToUriText o n = .ok u3 ∧ uriToIriText o u3 = .ok n) :=
  ⟨fun _ h => uriToIriText_fix laws g h,
   fun _ h => iri_uri_iri_text laws g h⟩

example : InGrammarU plainOpaque "http://us%40er:pw@example.com:8080/p%C3%A5%2Fth?q=%FF#f".toList
    ⟨"http".toList, "us%40er:pw@example.com:8080".toList, "/p%C3%A5%2Fth".toList, "q=%FF".toList, "f".toList⟩ := by
  repeat rw [String.toList_ofList]
  refine ⟨rfl, by decide +kernel, by decide +kernel, ?_, ?_, by decide +kernel, by decide +kernel, by decide +kernel⟩
  -- `truthy … = some u` is `u ∈ truthy …`, a bounded quantifier over the user name (password) that is there
  · show ∀ u ∈ truthy _, _
    decide +kernel
  · show ∀ pw ∈ truthy _, _
    decide +kernel

example : (uriToIriText plainOpaque "http://us%40er:pw@example.com:8080/p%C3%A5%2Fth?q=%FF#f".toList).toOption
    = some "http://us%40er:pw@example.com:8080/på%2Fth?q=%FF#f".toList := by
  repeat rw [String.toList_ofList]
  decide +kernel

/-- `get_current_url` quotes the (already unquoted) root path and path with safe sets that do not
contain `%` (repair 899f28c), so what it quotes decodes back exactly - for EVERY text, a literal
percent sign included; and fully unquoting what `uri_to_iri` leaves partially quoted gives the same
characters as fully unquoting the input (`%XX` grammar, any of the four keep tables). -/
theorem current_url_quoting_is_lossless :
    (∀ s : Str, unquote (quote Gen.UrlTables.curRootSafe s) = s ∧ unquote (quote Gen.UrlTables.curPathSafe s) = s) ∧
    (∀ u : Str, wellFormed u = true →
      unquote (unquotePartial Gen.UrlTables.keepPath u) = unquote u ∧
      unquote (unquotePartial Gen.UrlTables.keepQuery u) = unquote u) :=
  ⟨fun s => ⟨unquote_quote_all cur_no_pct.1 s, unquote_quote_all cur_no_pct.2 s⟩,
   fun u hu => ⟨unquote_unquotePartial keepPath_exactly.keepOK u hu,
     unquote_unquotePartial keepQuery_exactly.keepOK u hu⟩⟩

example : unquote (quote Gen.UrlTables.curPathSafe "/100%41 é?#".toList) = "/100%41 é?#".toList := by
  repeat rw [String.toList_ofList]
  decide +kernel

/-- **`environ_url_roundtrip` - from the builder's ARGUMENTS to the request.** For every
`EnvironBuilder(path=p, base_url=scheme://host[:port]root, query_string=qs)` with
* `p` a URL path of the property's domain (`PathArg`: starts with exactly one `/` - "paths not
  starting with '//'" -, no `?` / `#`, no TAB / CR / LF - known finding F15c) without `%` (a `%XX` in the
  path argument is an escape, not text),
* a base URL of the grammar (`BaseArg`: valid lower-case scheme, any host text the opaque IDNA step
  accepts - ASCII, IDN, IPv4, IPv6 -, any port ≤ 65535, a root path without `?` / `#` / `%`),
* any Unicode query string whose `%` all start `%XX` escapes,
under the stated laws of the opaque host conversions: the environ is built; `Request.path` is exactly
`p`; `Request.root_path` is the root without trailing slashes; `Request.host` is the IDNA host with
the port, the scheme's default port dropped and nothing else; `Request.url` splits back into the
scheme, the decoded host (`hu`, which the laws guarantee to exist) with that port, a path component
that denotes `root_path + path`, a query component that denotes what the query string denotes, and no
fragment.
(`urlsplit(path)`, both `iri_to_uri` calls, the `base_url` setter, `_path_encode`, the dances,
`Request.__init__`, `get_host`, `get_current_url` / `uri_to_iri` are all inside the model.) -/
theorem environ_url_roundtrip (o : UrlOpaque) (laws : HostLaws o)
    (scheme h ha root p qs : Str) (port : Option Nat)
    (b : BaseArg o scheme h port root) (hp : PathArg p) (hpp : '%' ∉ p) (hrp : '%' ∉ root)
    (hq : wellFormed (quoteBytes Gen.UrlTables.curQuerySafe (utf8Enc qs)) = true)
    (hconv : o.hostToAscii h = some ha) :
    ∃ e rv t hu, builderEnviron o p (baseText scheme h port root) qs = .ok e ∧ requestView o e = .ok rv ∧
      rv.path = p ∧ rv.rootPath = rstripSlash root ∧
      rv.host = hostBr ha ++ portText (dropDefaultPort scheme port) ∧
      urlsplit o rv.url = .ok t ∧ t.scheme = scheme ∧ o.hostToUnicode ha = some hu ∧
      t.netloc = hostBr hu ++ portText (dropDefaultPort scheme port) ∧
      unquote t.path = rstripSlash root ++ p ∧
      unquote t.query = unquote (quote Gen.UrlTables.curQuerySafe qs) ∧ t.fragment = [] := by
  obtain ⟨e, r, hu, he, hconvu, hv, hs⟩ := builder_request_text laws b hp hpp hrp hq hconv
  refine ⟨e, _, _, hu, he, hv, rfl, rfl, rfl, hs, rfl, hconvu, rfl, ?_,
    unquote_unquotePartial keepQuery_exactly.keepOK _ hq, rfl⟩
  simp only [curSplit]
  rw [unquote_partial_curPathText, rstripSlash_idem, lstripSlash_pathArg hp]

example : BaseArg plainOpaque "https".toList "example.com".toList (some 443) "/ap p/é/".toList := by
  repeat rw [String.toList_ofList]
  exact ⟨⟨by decide +kernel, by decide +kernel, by unfold noTab; decide +kernel⟩, by decide +kernel,
    by decide +kernel, by intro k hk; cases hk; decide, by decide +kernel, by decide +kernel, by decide +kernel,
    by decide +kernel, by unfold noTab; decide +kernel⟩
example : PathArg "/é x/日本;v=1".toList := by
  rw [String.toList_ofList]
  exact ⟨by decide, by decide, by decide, by decide, by unfold noTab; decide⟩
example : baseText "https".toList "example.com".toList (some 443) "/ap p/é/".toList
    = "https://example.com:443/ap p/é/".toList := by
  repeat rw [String.toList_ofList]
  decide +kernel
example : (((builderEnviron plainOpaque "/é x/日本;v=1".toList "https://example.com:443/ap p/é/".toList
      "q=é&x=%41".toList).bind (requestView plainOpaque)).toOption.map
        (fun r => (r.path, r.rootPath, r.host, r.url)))
    = some ("/é x/日本;v=1".toList, "/ap p/é".toList, "example.com".toList,
        "https://example.com/ap%20p/é/é%20x/日本;v=1?q=é&x=A".toList) := by
  repeat rw [String.toList_ofList]
  decide +kernel

/-- **Every exclusion of `environ_url_roundtrip` is needed** (the model run on the excluded input):
a path starting with `//` loses its first segment (it is read as an authority); `#` cuts the path
(fragment); `?` next to a `query_string` argument is refused; a `%XX` in the path or in the base
URL's path is an escape and comes back decoded; (TAB / CR / LF: `environ_path_full_false`, F15c). -/
theorem environ_url_roundtrip_exclusions_needed :
    let run := fun (p base : String) =>
      ((builderEnviron plainOpaque p.toList base.toList []).bind (requestView plainOpaque)).toOption.map
        (fun r => (String.ofList r.rootPath, String.ofList r.path))
    run "//x/y" "http://localhost/" = some ("", "/y") ∧
    run "/a#b" "http://localhost/" = some ("", "/a") ∧
    run "/a?b" "http://localhost/" = none ∧
    run "/%41" "http://localhost/" = some ("", "/A") ∧
    run "/p" "http://localhost/%41/" = some ("/A", "/p") := by
  intro run
  simp only [run]
  repeat rw [String.toList_ofList]
  decide +kernel

/-- ... and so is the `%XX` grammar of the query string for the clause about the query component:
for `%%34%31` the URL's query reads `%41`, which denotes `A`, not what the query string denotes. -/
theorem environ_url_roundtrip_query_grammar_needed :
    (((builderEnviron plainOpaque "/".toList "http://localhost/".toList "%%34%31".toList).bind
      (requestView plainOpaque)).toOption.map (fun r => r.url)) = some "http://localhost/?%41".toList ∧
    unquote "%41".toList ≠ unquote (quote Gen.UrlTables.curQuerySafe "%%34%31".toList) := by
  repeat rw [String.toList_ofList]
  decide +kernel

/-- **`environ_url_roundtrip_partial` - the request side.** For an environ whose SCRIPT_NAME,
PATH_INFO and QUERY_STRING are the latin-1 dances of `root`, `p` and `qs` (what `EnvironBuilder`
and a WSGI server put there), with a valid scheme and a URI-form host without userinfo that
`get_host` leaves alone: `Request.url` is produced; it splits back into the scheme, the decoded host
with the same port, no fragment; its path component denotes exactly `Request.root_path +
Request.path`, and its query component denotes what the query string denotes - for every Unicode
path (literal `%`, `?`, `#` included), under the stated laws of the opaque host conversions. -/
theorem environ_url_roundtrip_partial (o : UrlOpaque) (laws : HostLaws o)
    (scheme ha hu root p qs : Str) (port : Option Nat)
    (ci : CurInput o scheme ha port (rstripSlash root) (utf8Enc qs)) (hconv : o.hostToUnicode ha = some hu)
    (hgh : getHost scheme (hostBr ha ++ portText port) = hostBr ha ++ portText port) :
    ∃ rv t, requestView o (danceEnviron scheme (hostBr ha ++ portText port) root p qs) = .ok rv ∧
      rv.path = '/' :: lstripSlash p ∧ rv.rootPath = rstripSlash root ∧
      urlsplit o rv.url = .ok t ∧ t.scheme = scheme ∧ t.netloc = hostBr hu ++ portText port ∧
      unquote t.path = rv.rootPath ++ rv.path ∧
      unquote t.query = unquote (quote Gen.UrlTables.curQuerySafe qs) ∧ t.fragment = [] := by
  obtain ⟨r, hv, hs⟩ := requestView_text laws (p := p) ci hconv hgh
  refine ⟨_, _, hv, rfl, rfl, hs, rfl, rfl, ?_, unquote_unquotePartial keepQuery_exactly.keepOK _ ci.query_wf, rfl⟩
  simp only [curSplit]
  rw [unquote_partial_curPathText, rstripSlash_idem, lstripSlash_cons]

example : CurInput plainOpaque "http".toList "example.com".toList (some 8080) (rstripSlash "/app/".toList)
    (utf8Enc "q=é&x=%41".toList) := by
  repeat rw [String.toList_ofList]
  exact ⟨⟨by decide +kernel, by decide +kernel, by unfold noTab; decide +kernel⟩, by decide +kernel,
    by decide +kernel, by intro k hk; cases hk; decide, by decide +kernel, by decide +kernel, by decide +kernel⟩

example : (((requestView plainOpaque (danceEnviron "http".toList "example.com:8080".toList "/app/".toList
    "/é %41?x".toList "q=é".toList)).toOption.map (fun r => r.url)))
    = some "http://example.com:8080/app/é%20%2541%3Fx?q=é".toList := by
  repeat rw [String.toList_ofList]
  decide +kernel

/-- `werkzeug.wsgi.get_current_url(environ)` - the environ-level public function, modelled as
`sansio.get_current_url` after the WSGI decoding dance (repair 16e16ac, former finding F15e) - is
exactly `Request(environ).url`, for every environ; so `environ_url_roundtrip_partial` covers it too. -/
theorem wsgi_current_url_is_request_url (o : UrlOpaque) (e : Environ) :
    wsgiCurrentUrl o e false false false = (requestView o e).map (fun r => r.url) :=
  wsgiCurrentUrl_eq_request_url o e

example : (wsgiCurrentUrl plainOpaque (danceEnviron "http".toList "localhost".toList [] "/café".toList [])
    false false false).toOption = some "http://localhost/café".toList := by
  repeat rw [String.toList_ofList]
  decide +kernel

/-- **`get_host` drops the scheme's default port as a suffix and nothing else**: the reported host is
the Host header with `:80` (http, ws) resp. `:443` (https, wss) cut off its end, or the header itself -
`10.0.0.80:80` gives `10.0.0.80`, never `10.0.0.`. -/
theorem get_host_drops_only_default_port (scheme host : Str) :
    (∃ suf, host = getHost scheme host ++ suf ∧
      (suf = [] ∨ ((scheme = "http".toList ∨ scheme = "ws".toList) ∧ suf = ":80".toList) ∨
        ((scheme = "https".toList ∨ scheme = "wss".toList) ∧ suf = ":443".toList))) ∧
    (∀ h, (scheme = "http".toList ∨ scheme = "ws".toList) → getHost scheme (h ++ ":80".toList) = h) ∧
    (∀ h, (scheme = "https".toList ∨ scheme = "wss".toList) → getHost scheme (h ++ ":443".toList) = h) :=
  ⟨getHost_suffix scheme host, fun h hs => getHost_80 hs h, fun h hs => getHost_443 hs h⟩

example : getHost "http".toList "10.0.0.80:80".toList = "10.0.0.80".toList ∧
    getHost "https".toList "cdn4:443".toList = "cdn4".toList ∧
    getHost "https".toList "10.0.0.80:80".toList = "10.0.0.80:80".toList := by
  repeat rw [String.toList_ofList]
  decide +kernel

/-- The latin-1 "dance" is lossless for every string of Unicode scalar values:
`_wsgi_decoding_dance(_wsgi_encoding_dance(s)) == s`. -/
theorem dance_roundtrip (s : Str) : decodingDance (encodingDance s) = some s :=
  dance_roundtrip' s

/-- `unquote` inverts `quote` on every text without `%`, for every safe set (with werkzeug's error
handler and with `errors="replace"` alike): percent-encoding never changes what a component means. -/
theorem unquote_quote_inverse (safe s : Str) (h : '%' ∉ s) :
    unquote (quote safe s) = s ∧ unquoteReplace (quote safe s) = s :=
  ⟨unquote_quote safe s h, unquoteReplace_quote safe s h⟩

example : unquote (quote "/".toList "/é 日本/#?".toList) = "/é 日本/#?".toList := by
  repeat rw [String.toList_ofList]
  decide +kernel

/-- with a `%` in the text the statement is false for the safe sets that contain `%` (the text is
then read as already quoted): -/
theorem unquote_quote_needs_no_percent :
    unquote (quote Gen.UrlTables.iriPathSafe "%41".toList) ≠ "%41".toList := by
  repeat rw [String.toList_ofList]
  decide +kernel

/-- **Environ round trip of the path.** For every path of Unicode scalar values without `%`, the
`PATH_INFO` that `EnvironBuilder` derives (`_wsgi_encoding_dance(unquote(iri_to_uri(path)))`) is read
back exactly by the decoding dance, and `Request.path` is exactly the path when it starts with a
single `/` (urlsplit, which sits in front, is opaque - see known finding F15c). -/
theorem environ_path_roundtrip (p : Str) (hp : '%' ∉ p) :
    decodingDance (environPathInfo p) = some p ∧
    (∀ q, p = '/' :: q → q.head? ≠ some '/' → requestPath (environPathInfo p) = some p) := by
  rw [environPathInfo_of_noPct hp, requestPath_encodingDance]
  refine ⟨dance_roundtrip p, fun q hq hhead => ?_⟩
  rw [hq]
  exact congrArg (fun t => some ('/' :: t)) (lstripSlash_of_head hhead)

example : requestPath (environPathInfo "/é/日本 x".toList) = some "/é/日本 x".toList := by
  repeat rw [String.toList_ofList]
  decide +kernel

/-- `DispatcherMiddleware` preserves the concatenation: what it appends to SCRIPT_NAME followed by
the new PATH_INFO is the original PATH_INFO, for every mount table and every path. -/
theorem dispatcher_preserves_concat (mounts : List Str) (p : Str) :
    (dispatch mounts p).script ++ (dispatch mounts p).pathInfo = p :=
  (dispatch_spec mounts p).concat

/-- The selected mount is the longest mount key that is a `/`-boundary prefix of PATH_INFO
(`BP k p`: `p == k or p.startswith(k + "/")`), the script name is exactly that key; the default app
is used only when no key is such a prefix. -/
theorem dispatcher_longest_mount (mounts : List Str) (p : Str) :
    (∀ k, (dispatch mounts p).mount = some k →
      k ∈ mounts ∧ (dispatch mounts p).script = k ∧ BP k p ∧
      ∀ k' ∈ mounts, BP k' p → k'.length ≤ k.length) ∧
    ((dispatch mounts p).mount = none → ∀ k' ∈ mounts, ¬ BP k' p) :=
  ⟨(dispatch_spec mounts p).chosen, (dispatch_spec mounts p).default⟩

example : dispatch ["/api".toList, "/api/v1".toList] "/api/v1/users".toList =
    ⟨"/api/v1".toList, "/users".toList, some "/api/v1".toList⟩ := by
  repeat rw [String.toList_ofList]
  decide
example : dispatch ["/api".toList] "/apix/y".toList = ⟨[], "/apix/y".toList, none⟩ := by
  repeat rw [String.toList_ofList]
  decide
example : BP "/api".toList "/api/v1".toList := ⟨"/v1".toList, by decide, Or.inr (by decide)⟩

/-- **A path that no mount matches reaches the default app untouched**: for a PATH_INFO that is empty
or starts with `/` (what a WSGI server sends), when the default app is selected nothing is appended to
SCRIPT_NAME and PATH_INFO is unchanged - for every mount table (nested prefixes, keys with trailing
slashes, the empty key included). -/
theorem dispatcher_default_unchanged (mounts : List Str) (p : Str) (hp : p = [] ∨ p.head? = some '/')
    (h : (dispatch mounts p).mount = none) :
    (dispatch mounts p).script = [] ∧ (dispatch mounts p).pathInfo = p :=
  dispatch_default_unchanged mounts p hp h

example : dispatch ["/api".toList, "/api/".toList] "/apix/y".toList = ⟨[], "/apix/y".toList, none⟩ := by
  repeat rw [String.toList_ofList]
  decide
/-- the hypothesis is needed: a PATH_INFO without a leading slash is moved to SCRIPT_NAME as a whole
(the concatenation is still preserved) -/
theorem dispatcher_default_needs_leading_slash :
    dispatch ["/api".toList] "abc".toList = ⟨"abc".toList, [], none⟩ := by
  repeat rw [String.toList_ofList]
  decide
/-- mounts that are prefixes of each other, a trailing slash in a key, the empty key -/
example : dispatch ["/a".toList, "/a/b".toList, "/a/b/".toList, []] "/a/b/c".toList =
    ⟨"/a/b".toList, "/c".toList, some "/a/b".toList⟩ := by
  repeat rw [String.toList_ofList]
  decide
example : dispatch ["/a".toList, "/a/b".toList, "/a/b/".toList, []] "/a/b/".toList =
    ⟨"/a/b/".toList, [], some "/a/b/".toList⟩ := by
  repeat rw [String.toList_ofList]
  decide
example : dispatch ["/a".toList, []] "/x".toList = ⟨[], "/x".toList, some []⟩ := by
  repeat rw [String.toList_ofList]
  decide

/-- `_urlencode`'s safe set (C02's regenerated literal) keeps `%`, `+`, `&`, `=` escaped, and it is the
literal this property's table generator found at the same call site -/
theorem urlencode_safe_ok :
    Urlencode.SafeOk Gen.Urlencode.urlencodeSafe ∧
    Gen.UrlTables.urlencodeSafe.map (fun c => UInt8.ofNat c.toNat) = Gen.Urlencode.urlencodeSafe :=
  ⟨urlencodeSafe_ok, by decide +kernel⟩

/-- `EnvironBuilder(path, base_url, query_string=<str>)` of `environ_url_roundtrip` is the general
constructor (`builderInit`, every argument form) at that form: the theorems about `builderEnviron`
are theorems about `EnvironBuilder.__init__` + `get_environ`. -/
theorem builder_str_form (o : UrlOpaque) (path base qs : Str) :
    builderEnviron o path base qs =
      (builderInit o path (some base) (.text qs)).map (fun b => b.environ.toEnviron) :=
  builderEnviron_eq_init o path base qs

/-- **Which query string the builder sends, per argument form**: a `str` as given; `_urlencode` of a
dict / MultiDict / list of pairs; the query component of `path` when only the path carries one
(`EnvironBuilder("/a?b=c")`); the empty string otherwise. -/
theorem builder_query_forms (o : UrlOpaque) (path : Str) (base : Option Str) (q : QueryArg) (b : Builder)
    (h : builderInit o path base q = .ok b) :
    ∃ ru, urlsplit o path = .ok ru ∧ b.queryText = (match q with
      | .text s => s
      | .items l => urlencodeText l
      | .absent => if path.contains '?' then ru.query else []) :=
  builderInit_queryText h

example : ((builderInit plainOpaque "/a?b=c&d".toList none .absent).toOption.map
    (fun b => (b.queryText, b.environ.pathInfo, b.environ.requestUri)))
    = some ("b=c&d".toList, "/a".toList, "/a?b=c&d".toList) := by
  repeat rw [String.toList_ofList]
  decide +kernel

/-- a query in the path next to a `query_string` argument (of any form) is refused with ValueError -/
theorem builder_path_and_query_refused (o : UrlOpaque) (path : Str) (base : Option Str) (q : QueryArg)
    (hq : q.given = true) (hp : '?' ∈ path) : builderInit o path base q = .error "ValueError" :=
  builderInit_both_refused o path base q hq hp

example : (builderInit plainOpaque "/a?b=c".toList none (.items [("x".toList, "y".toList)])).toOption.isNone = true := by
  repeat rw [String.toList_ofList]
  decide +kernel

/-- **`Request.args` recovers the query mapping exactly, for all Unicode**: for every list of pairs
(repeated keys, empty keys / values, `&`, `=`, `+`, `%`, `#` inside them) given as `query_string`, with
any path and base URL the builder accepts: the builder's own `args` property and `Request.args` of the
environ it builds are that list - `_urlencode`, the encoding dance, `encode("latin1")`, the decoding
with werkzeug's error handler and `parse_qsl` compose to the identity (C02's `parseQsl_urlencode`). -/
theorem builder_args_roundtrip (o : UrlOpaque) (path : Str) (base : Option Str) (l : List (Str × Str))
    (b : Builder) (h : builderInit o path base (.items l) = .ok b) :
    b.argsProp = .ok l ∧ requestArgs b.environ.toEnviron = some l :=
  Wz.Url.builder_args_roundtrip urlencode_safe_ok.1 h

example : ((builderInit plainOpaque "/".toList none (.items [("a b".toList, "&=+%#é".toList), ([], [])])).toOption.map
    (fun b => (b.queryText, requestArgs b.environ.toEnviron)))
    = some ("a+b=%26%3D%2B%25%23%C3%A9&=".toList, some [("a b".toList, "&=+%#é".toList), ([], [])]) := by
  repeat rw [String.toList_ofList]
  decide +kernel

/-- for the `str` form `Request.args` is `parse_qsl` of exactly that string (every Unicode string), and
the builder's `args` property is unavailable (AttributeError: "a query string is defined") -/
theorem builder_text_args (o : UrlOpaque) (path : Str) (base : Option Str) (s : Str) (b : Builder)
    (h : builderInit o path base (.text s) = .ok b) :
    b.argsProp = .error "AttributeError" ∧
    requestArgs b.environ.toEnviron = some (Urlencode.parseQsl true s) :=
  Url.builder_text_args h

/-- **The two hand models of `unquote(s, "utf-8", "werkzeug.url_quote")` are one function**: C02's
(inside its `parse_qsl` model: Lean core's strict UTF-8 decoder, a monolithic re-quoting scanner for
invalid input) and this property's (`firstItem` / `items` / `render`) agree on every string - so the
theorems about `unquote` / `_unquote_partial` above speak about the `unquote` inside `Request.args`'s
`parse_qsl` too. -/
theorem unquote_models_agree (s : Str) : Urlencode.unquote s = unquote s :=
  unquote_models_eq s

example : Urlencode.unquote "a%C3%A9%FF%E2%82+%zz".toList = "aé%FF%E2%82+%zz".toList ∧
    unquote "a%C3%A9%FF%E2%82+%zz".toList = "aé%FF%E2%82+%zz".toList := by
  repeat rw [String.toList_ofList]
  decide +kernel

/-- **`uri_to_iri`'s query unquoter never changes the mapping a query denotes**: for every query text
of the `%XX` grammar (any Unicode, invalid bytes, reserved characters), `parse_qsl(keep_blank_values=
True)` reads the same pairs from `_unquote_query(text)` as from `text` - the raw `&` `=` `+` it splits
at are neither produced nor consumed (their escapes `%26` `%3D` `%2B` and `%20` stay quoted), every
other escape is merely decoded earlier. -/
theorem parse_qsl_after_partial_unquote (s : Str) (hs : wellFormed s = true) :
    Urlencode.parseQsl true (unquotePartial Gen.UrlTables.keepQuery s) = Urlencode.parseQsl true s :=
  parseQsl_unquotePartial keepQuery_exactly.keepOK keepQuery_seps.1 keepQuery_seps.2.1 keepQuery_seps.2.2 s hs

example : wellFormed "a+b=%26%3D%2B%C3%A9&%FF=%41&&x".toList = true := by
  repeat rw [String.toList_ofList]
  decide

example : unquotePartial Gen.UrlTables.keepQuery "a+b=%26%3D%2B%C3%A9&%FF=%41&&x".toList
      = "a+b=%26%3D%2Bé&%FF=A&&x".toList ∧
    Urlencode.parseQsl true "a+b=%26%3D%2Bé&%FF=A&&x".toList
      = [("a b".toList, "&=+é".toList), ("%FF".toList, "A".toList), ("x".toList, [])] ∧
    Urlencode.parseQsl true "a+b=%26%3D%2B%C3%A9&%FF=%41&&x".toList
      = [("a b".toList, "&=+é".toList), ("%FF".toList, "A".toList), ("x".toList, [])] := by
  repeat rw [String.toList_ofList]
  decide +kernel

/-- outside the `%XX` grammar the statement is false (`%%34%31` reads `%41` after the partial pass,
which `parse_qsl` then reads as `A`): -/
theorem parse_qsl_after_partial_unquote_needs_wellformed :
    Urlencode.parseQsl true (unquotePartial Gen.UrlTables.keepQuery "%%34%31".toList)
      ≠ Urlencode.parseQsl true "%%34%31".toList := by
  repeat rw [String.toList_ofList]
  decide +kernel

/-- **The reconstructed URL's query component denotes the mapping given to the builder.** For every
`EnvironBuilder(path=p, base_url=scheme://host[:port]root, query_string=<mapping>)` with `p`, the base
URL and the host as in `environ_url_roundtrip` and ANY list of pairs over Unicode as the mapping
(repeated / empty keys, `&` `=` `+` `%` `#` and non-ASCII text inside keys and values): the environ is
built, `Request.url` is produced and splits, and `parse_qsl(urlsplit(Request.url).query,
keep_blank_values=True)` is exactly the list of pairs - as is `Request.args`. (`_urlencode`, the
dances, `get_current_url`'s `quote(query_string, safe=...)`, `uri_to_iri`'s `_unquote_query` and
`parse_qsl` compose to the identity; the `quote` leaves `_urlencode`'s output alone -
`urlencode_alphabet_fixed`, two regenerated literals - and the partial unquoting does not change what
`parse_qsl` reads - `parse_qsl_after_partial_unquote`.) -/
theorem environ_url_query_denotes_mapping (o : UrlOpaque) (laws : HostLaws o)
    (scheme h ha root p : Str) (port : Option Nat) (l : List (Str × Str))
    (b : BaseArg o scheme h port root) (hp : PathArg p) (hpp : '%' ∉ p) (hrp : '%' ∉ root)
    (hconv : o.hostToAscii h = some ha) :
    ∃ bd rv t, builderInit o p (some (baseText scheme h port root)) (.items l) = .ok bd ∧
      requestView o bd.environ.toEnviron = .ok rv ∧ urlsplit o rv.url = .ok t ∧
      Urlencode.parseQsl true t.query = l ∧ requestArgs bd.environ.toEnviron = some l :=
  builder_query_denotes_mapping laws l b hp hpp hrp hconv

example : ((builderInit plainOpaque "/é x".toList (some "https://example.com:8443/app/".toList)
      (.items [("a b".toList, "&=+%#é".toList), ([], []), ("k".toList, "1".toList), ("k".toList, "2".toList)])).bind
      (fun bd => (requestView plainOpaque bd.environ.toEnviron).bind (fun rv => (urlsplit plainOpaque rv.url).map
        (fun t => (t.query, Urlencode.parseQsl true t.query))))).toOption
    = some ("a+b=%26%3D%2B%25%23é&=&k=1&k=2".toList,
        [("a b".toList, "&=+%#é".toList), ([], []), ("k".toList, "1".toList), ("k".toList, "2".toList)]) := by
  repeat rw [String.toList_ofList]
  decide +kernel

/-- **`Request.full_path` is `path + "?" + query`** - the `?` is there even when the query string is
empty - for every environ whose PATH_INFO / QUERY_STRING are the dances of Unicode texts. -/
theorem full_path_keeps_question_mark (scheme host root p qs : Str) :
    requestFullPath (danceEnviron scheme host root p qs) = some (('/' :: lstripSlash p) ++ '?' :: qs) :=
  requestFullPath_dance scheme host root p qs

example : requestFullPath (danceEnviron "http".toList "h".toList [] "/é".toList []) = some "/é?".toList := by
  repeat rw [String.toList_ofList]
  decide

/-- **`EnvironBuilder.from_environ` round trip** (after repair 18c1dce of F15f: `_quote_url_syntax`
quotes `%`, `?`, `#` of the decoded PATH_INFO / SCRIPT_NAME before they reach the URL-syntax
parameters of `__init__`). For the environ a builder produces from a base URL of the property's
domain (host in its ASCII form, `BaseArg`, root without `%`) and ANY decoded path that starts with
exactly one `/` and contains no TAB / CR / LF (`EnvPath`; F15c is the one exclusion left, needed:
`from_environ_roundtrip_needs_no_tab`) - literal `%`, `%XX` sequences, `?` and `#` included -:
`from_environ(environ)` succeeds, and the builder it returns builds the same SCRIPT_NAME, PATH_INFO,
QUERY_STRING, HTTP_HOST and wsgi.url_scheme again (`_quote_url_syntax`, `_make_base_url`, the
decoding dances and the whole of `__init__` / `get_environ` in between) - hence the same
`Request.path` / `args` / `host` / `url`. -/
theorem from_environ_roundtrip (o : UrlOpaque) (laws : HostLaws o) (scheme ha root p qs : Str)
    (port : Option Nat) (b : BaseArg o scheme ha port root) (hp : EnvPath p)
    (hrp : '%' ∉ root) (hfix : o.hostToAscii ha = some ha) :
    ∃ b', fromEnviron o (danceEnviron scheme (hostBr ha ++ portText port) (rstripSlash root) p qs) = .ok b' ∧
      b'.environ.toEnviron = danceEnviron scheme (hostBr ha ++ portText port) (rstripSlash root) p qs :=
  Wz.Url.from_environ_roundtrip_fixed laws qs b hp hrp hfix

example : EnvPath "/%41/a?b#c/100%".toList := by
  rw [String.toList_ofList]
  exact ⟨by decide, by decide, by unfold noTab; decide⟩

example : ((fromEnviron plainOpaque (danceEnviron "https".toList "example.com:8443".toList "/ap p".toList
    "/é x".toList "q=é".toList)).toOption.map (fun b => (b.baseUrl, b.environ.pathInfo, b.environ.scriptName)))
    = some ("https://example.com:8443/ap%20p/".toList, encodingDance "/é x".toList, "/ap p".toList) := by
  repeat rw [String.toList_ofList]
  decide +kernel

/-- **Regression for F15f** (fixed in 18c1dce): the former
failing inputs round-trip. The environ of a request for `/%2541` (PATH_INFO `/%41`) comes back with
PATH_INFO `/%41` - not `/A` -, the one for `/a%3Fb` (PATH_INFO `/a?b`) is accepted - not refused
with ValueError - and keeps `?b`, the one for `/a%23b` keeps `#b`; a literal `%` goes round as
before. -/
theorem from_environ_f15f_regression :
    let run := fun (p : String) =>
      (fromEnviron plainOpaque (danceEnviron "http".toList "localhost".toList [] p.toList [])).toOption.map
        (fun b => String.ofList b.environ.pathInfo)
    run "/%41" = some "/%41" ∧ run "/a?b" = some "/a?b" ∧ run "/a#b" = some "/a#b" ∧
    run "/100%/%zz" = some "/100%/%zz" ∧ run "/%2541" = some "/%2541" := by
  intro run
  simp only [run]
  repeat rw [String.toList_ofList]
  decide +kernel

/-- the remaining exclusion is needed (known finding F15c, `urlsplit` inside `__init__`): a TAB in the
decoded path is still removed on the way through `from_environ` -/
theorem from_environ_roundtrip_needs_no_tab :
    (fromEnviron plainOpaque (danceEnviron "http".toList "localhost".toList [] "/a\tb".toList [])).toOption.map
      (fun b => String.ofList b.environ.pathInfo) = some "/ab" := by
  repeat rw [String.toList_ofList]
  decide +kernel

/-- **The URL family as text.** For an environ whose SCRIPT_NAME / PATH_INFO / QUERY_STRING are the
dances of `root`, `p`, `qs`, with a URI-form host that `get_host` leaves alone, and
`H = scheme://<decoded host>[:port]`:
`host_url = H/`; `root_url` (`url_root`) `= H + <root>/`; `base_url = root_url + <path>` (the path
without its leading slashes); `url = base_url` followed by `?<query>` exactly when the query string is
not empty - `<root>/`, `<path>`, `<query>` being the partially unquoted quoted texts, which denote
`root_path + "/"`, `path` and the query (`url_root_denotes`, `environ_url_roundtrip_partial`).
`script_root` / `url_root` are aliases of `root_path` / `root_url` (checked by the streams). -/
theorem request_url_family (o : UrlOpaque) (laws : HostLaws o)
    (scheme ha hu root p qs : Str) (port : Option Nat)
    (ci : CurInput o scheme ha port (rstripSlash root) (utf8Enc qs)) (hconv : o.hostToUnicode ha = some hu)
    (hgh : getHost scheme (hostBr ha ++ portText port) = hostBr ha ++ portText port) :
    ∃ H rootUrl baseUrl, H = scheme ++ "://".toList ++ (hostBr hu ++ portText port) ∧
      rootUrl = H ++ unquotePartial Gen.UrlTables.keepPath (curPathText (rstripSlash root) []) ∧
      baseUrl = rootUrl ++ unquotePartial Gen.UrlTables.keepPath (quote Gen.UrlTables.curPathSafe (lstripSlash p)) ∧
      requestUrls o (danceEnviron scheme (hostBr ha ++ portText port) root p qs) = .ok
        (baseUrl ++ (if (utf8Enc qs).isEmpty then [] else
            '?' :: unquotePartial Gen.UrlTables.keepQuery (quote Gen.UrlTables.curQuerySafe qs)),
         baseUrl, rootUrl, H ++ ['/']) := by
  refine ⟨_, _, _, rfl, rfl, rfl, ?_⟩
  rw [Wz.Url.request_url_family laws keep_tables_ok ci hconv hgh, curPathText_split, lstripSlash_cons]
  simp only [List.append_assoc]

example : (requestUrls plainOpaque (danceEnviron "http".toList "example.com:8080".toList "/app/".toList
    "/é x".toList "q=é".toList)).toOption
    = some ("http://example.com:8080/app/é%20x?q=é".toList, "http://example.com:8080/app/é%20x".toList,
        "http://example.com:8080/app/".toList, "http://example.com:8080/".toList) := by
  repeat rw [String.toList_ofList]
  decide +kernel

/-- `url_root`'s path component denotes `root_path + "/"` -/
theorem url_root_denotes (root : Str) (hr : root = [] ∨ root.head? = some '/') :
    unquote (unquotePartial Gen.UrlTables.keepPath (curPathText root [])) = rstripSlash root ++ ['/'] := by
  rw [unquote_partial_curPathText]
  rfl

/-- **`get_host` on `host[:port]`, every case**: the port stays unless it is the scheme's default
(80 for http / ws, 443 for https / wss) - no other text is cut, whatever the host looks like
(names ending in digits, IPv4, bracketed IPv6), whatever the port. -/
theorem get_host_on_hostport (ha scheme : Str) (port : Option Nat) :
    getHost scheme (hostBr ha ++ portText port) = hostBr ha ++ portText (dropDefaultPort scheme port) :=
  getHost_hostport ha scheme port

example : dropDefaultPort "https".toList (some 443) = none ∧ dropDefaultPort "https".toList (some 80) = some 80 ∧
    dropDefaultPort "ftp".toList (some 80) = some 80 := by
  repeat rw [String.toList_ofList]
  decide +kernel

/-- the default-port rules read from `get_host`'s source (AST) are the ones the model implements, the
number of characters cut is the length of the suffix tested, and the model agrees with the live
function on the whole generated scheme x host table (hosts ending in the port's digits, IPv6
literals, malformed ports) -/
theorem get_host_tables_agree :
    Gen.UrlGlue.getHostRules = [(["http", "ws"], ":80", 3), (["https", "wss"], ":443", 4)] ∧
    (∀ r ∈ Gen.UrlGlue.getHostRules, r.2.1.length = r.2.2 ∧
      ∀ s ∈ r.1, getHost s.toList ("h".toList ++ r.2.1.toList) = "h".toList) ∧
    (∀ row ∈ Gen.UrlGlue.getHostTable, getHost row.1.toList row.2.1.toList = row.2.2.toList) := by
  refine ⟨rfl, by decide +kernel, fun row hrow => ?_⟩
  -- A Bool check that takes the row apart by `match` hands the kernel the closed term `String.toList "http"`,
  -- the same in every row, so each distinct literal is decoded once; with `∀ row ∈ …` and `Decidable`
  -- instances it sees `String.toList row.1`, a new term (and a new UTF-8 decoding) per row.
  have h : Gen.UrlGlue.getHostTable.all (fun | (s, h, r) => getHost s.toList h.toList == r.toList) = true := by
    decide +kernel
  exact beq_iff_eq.mp (List.all_eq_true.mp h row hrow)

/-- **`get_host` without a Host header falls back to the server address and reports the same text a
Host header would**: for a SERVER_NAME that is a name, an IPv4 address or a bare IPv6 address (wrapped
in brackets) and a SERVER_PORT, the host is `name:port` with the scheme's default port cut - exactly
`get_host(scheme, "name:port")`; with a Host header the server address is ignored. -/
theorem get_host_server_fallback (scheme name : Str) (k : Nat) (hn : name.head? ≠ some '[') :
    getHostFull scheme none (some (name, some (k + 1)))
      = hostBr name ++ portText (dropDefaultPort scheme (some (k + 1))) ∧
    (∀ h srv, getHostFull scheme (some h) srv = getHost scheme h) := by
  refine ⟨?_, fun _ _ => rfl⟩
  rw [getHostFull, hostOrServer_server k hn, getHost_hostport]

example : ("2001:db8::1".toList).head? ≠ some '[' := by
  repeat rw [String.toList_ofList]
  decide +kernel

example : getHostFull "https".toList none (some ("2001:db8::1".toList, some 443)) = "[2001:db8::1]".toList ∧
    getHostFull "http".toList none (some ("web08".toList, some 8080)) = "web08:8080".toList ∧
    getHostFull "http".toList (some "hdr:80".toList) (some ("web08".toList, some 8080)) = "hdr".toList := by
  repeat rw [String.toList_ofList]
  decide +kernel

/-- the model of the fallback agrees with the live function on the generated scheme x Host header x
server table (IPv6 names with and without brackets, unix socket paths, port `None` / 0 / default) -/
theorem get_host_server_table_agrees :
    ∀ row ∈ Gen.UrlGlue.getHostServerTable,
      getHostFull row.1.toList (row.2.1.map String.toList) (row.2.2.1.map fun p => (p.1.toList, p.2))
        = row.2.2.2.toList := by
  intro row hrow
  have h : Gen.UrlGlue.getHostServerTable.all (fun
      | (s, h, v, r) =>
        getHostFull s.toList (h.map String.toList) (v.map fun | (n, p) => (n.toList, p)) == r.toList) = true := by
    decide +kernel
  exact beq_iff_eq.mp (List.all_eq_true.mp h row hrow)

/-- `EnvironBuilder.server_name` / `server_port` (SERVER_NAME / SERVER_PORT of the environ): the model
agrees with the live object on the generated scheme x host table - 443 for https, 80 otherwise, the
host's own port when it is numeric; `[::1]:5000` is split at its FIRST colon -/
theorem builder_server_table_agrees :
    ∀ row ∈ Gen.UrlGlue.builderServerTable,
      let b : Builder := { path := [], requestUri := [], scriptRoot := [], host := row.2.1.toList,
                           urlScheme := row.1.toList, queryString := none, args := none }
      b.serverName = row.2.2.1.toList ∧ b.serverPort = row.2.2.2 := by
  intro row hrow
  have h : Gen.UrlGlue.builderServerTable.all (fun
      | (s, h, n, p) =>
        let b : Builder := { path := [], requestUri := [], scriptRoot := [], host := h.toList,
                             urlScheme := s.toList, queryString := none, args := none }
        b.serverName == n.toList && b.serverPort == p) = true := by
    decide +kernel
  simpa using List.all_eq_true.mp h row hrow

/-- each keep-quoted table of `uri_to_iri` (evaluated from the live compiled pattern) is exactly
`_always_unsafe` plus the literal given at its `_make_unquote_part` call (AST) -/
theorem keep_tables_are_always_unsafe_plus_extra :
    Gen.UrlGlue.keepExtra.map (fun r => r.2.1) = ["fragment", "query", "path", "user"] ∧
    (∀ r ∈ Gen.UrlGlue.keepExtra.zip
        [Gen.UrlTables.keepFragment, Gen.UrlTables.keepQuery, Gen.UrlTables.keepPath, Gen.UrlTables.keepUser],
      ∀ n, n < 256 → tbl r.2 n =
        (Gen.UrlTables.alwaysUnsafe.contains n || (n < 128 && r.1.2.2.contains (Char.ofNat n)))) := by
  refine ⟨rfl, fun r hr => ?_⟩
  simp only [Gen.UrlGlue.keepExtra, List.zip_cons_cons, List.zip_nil_right, List.mem_cons, List.not_mem_nil,
    or_false] at hr
  rcases hr with rfl | rfl | rfl | rfl
  · exact keepFragment_exactly
  · exact keepQuery_exactly
  · exact keepPath_exactly
  · exact keepUser_exactly

/-- `EnvironBuilder.get_environ` builds SCRIPT_NAME / PATH_INFO / QUERY_STRING / REQUEST_URI / RAW_URI /
SERVER_NAME / SERVER_PORT / HTTP_HOST / wsgi.url_scheme from exactly the expressions the model
(`Builder.environ`) implements (dict literal, `_path_encode`, `raw_uri`; AST, and nothing writes these
keys afterwards) -/
theorem environ_entries_pinned :
    Gen.UrlGlue.environEntries = [
      ("SCRIPT_NAME", "_path_encode(self.script_root)"), ("PATH_INFO", "_path_encode(self.path)"),
      ("QUERY_STRING", "_wsgi_encoding_dance(self.query_string)"), ("REQUEST_URI", "raw_uri"),
      ("RAW_URI", "raw_uri"), ("SERVER_NAME", "self.server_name"), ("SERVER_PORT", "str(self.server_port)"),
      ("HTTP_HOST", "self.host"), ("wsgi.url_scheme", "self.url_scheme"),
      ("_path_encode(x)", "return _wsgi_encoding_dance(unquote(x))"),
      ("raw_uri", "_wsgi_encoding_dance(self.request_uri)")] := rfl

/-- the URL helper calls of every glue function the model covers, in source order (AST): a new or
removed `quote` / `unquote` / `urlsplit` / `iri_to_uri` / dance call in `EnvironBuilder`, `Request`,
`get_current_url` or `ProxyFix._get_real_value` changes this table -/
theorem call_sites_pinned :
    Gen.UrlGlue.callSites = [
      ("test.py", "EnvironBuilder.__init__", ["urlsplit", "iri_to_uri", "iri_to_uri"]),
      ("test.py", "EnvironBuilder.from_environ",
        ["_wsgi_decoding_dance", "cls._make_base_url", "_wsgi_decoding_dance", "_wsgi_decoding_dance"]),
      ("test.py", "EnvironBuilder._make_base_url", ["urlunsplit"]),
      ("test.py", "EnvironBuilder.base_url", ["self._make_base_url"]),
      ("test.py", "EnvironBuilder.base_url@setter", ["urlsplit"]),
      ("test.py", "EnvironBuilder.query_string", ["_urlencode"]),
      ("test.py", "EnvironBuilder.get_environ",
        ["_urlencode", "_wsgi_encoding_dance", "unquote", "_wsgi_encoding_dance", "_path_encode", "_path_encode",
         "_wsgi_encoding_dance"]),
      ("sansio/utils.py", "get_current_url", ["uri_to_iri", "quote", "uri_to_iri", "quote", "quote", "uri_to_iri"]),
      ("wsgi.py", "get_current_url",
        ["get_host", "_wsgi_decoding_dance", "_wsgi_decoding_dance", "_sansio_utils.get_current_url"]),
      ("wrappers/request.py", "Request.__init__", ["_wsgi_decoding_dance", "_wsgi_decoding_dance"]),
      ("sansio/request.py", "Request.args", ["parse_qsl"]),
      ("sansio/request.py", "Request.url", ["get_current_url"]),
      ("sansio/request.py", "Request.base_url", ["get_current_url"]),
      ("sansio/request.py", "Request.root_url", ["get_current_url"]),
      ("sansio/request.py", "Request.host_url", ["get_current_url"]),
      ("sansio/request.py", "Request.host", ["get_host"]),
      ("middleware/proxy_fix.py", "ProxyFix._get_real_value", ["parse_list_header"]),
      ("urls.py", "_urlencode", ["urlencode"])] := rfl

/-- **ProxyFix never touches PATH_INFO**, whatever the trust counts and the forwarded headers - so
`Request.path` behind the middleware is the path the server received ("path-dispatching middleware
preserves ... path info": ProxyFix does not dispatch, it only REPLACES SCRIPT_NAME, see below). -/
theorem proxyfix_preserves_path_info (c : PFConfig) (h : PFHeaders) (e : PFEnviron) :
    (proxyFix c h e).pathInfo = e.pathInfo ∧
    requestPath (proxyFix c h e).pathInfo = requestPath e.pathInfo := by
  rw [proxyFix_pathInfo]; exact ⟨rfl, rfl⟩

/-- ... at the source level: the environ keys `ProxyFix.__call__` assigns (AST, per trusted header)
are exactly those of the model, PATH_INFO and QUERY_STRING are not among them, and `_get_real_value`
is the statement sequence the model implements (`values[-trusted]`) -/
theorem proxyfix_writes_pinned :
    Gen.UrlGlue.proxyFixWrites = [
      ("x_for", "HTTP_X_FORWARDED_FOR", ["REMOTE_ADDR"]),
      ("x_proto", "HTTP_X_FORWARDED_PROTO", ["wsgi.url_scheme"]),
      ("x_host", "HTTP_X_FORWARDED_HOST", ["HTTP_HOST", "SERVER_NAME", "SERVER_NAME", "SERVER_PORT"]),
      ("x_port", "HTTP_X_FORWARDED_PORT", ["HTTP_HOST", "SERVER_PORT"]),
      ("x_prefix", "HTTP_X_FORWARDED_PREFIX", ["SCRIPT_NAME"])] ∧
    (∀ r ∈ Gen.UrlGlue.proxyFixWrites, ¬ "PATH_INFO" ∈ r.2.2 ∧ ¬ "QUERY_STRING" ∈ r.2.2) ∧
    Gen.UrlGlue.realValueBody = ["if not (trusted and value): return None", "values = parse_list_header(value)",
      "if len(values) >= trusted: return values[-trusted]", "return None"] ∧
    Gen.UrlGlue.dispatcherWrites = ["SCRIPT_NAME", "PATH_INFO"] :=
  ⟨rfl, by decide +kernel, rfl, rfl⟩

/-- **`X-Forwarded-Prefix` REPLACES SCRIPT_NAME** (it is not prepended; the original is only kept in
`werkzeug.proxy_fix.orig`), and only when a non-empty trusted value exists; otherwise SCRIPT_NAME is
unchanged. So ProxyFix does NOT preserve SCRIPT_NAME + PATH_INFO - what it preserves is PATH_INFO. -/
theorem proxyfix_prefix_replaces_script_name (c : PFConfig) (h : PFHeaders) (e : PFEnviron) :
    (proxyFix c h e).scriptName =
      (match truthyV (realValue c.xPrefix h.pfx) with | some v => v | none => e.scriptName) :=
  proxyFix_scriptName c h e

/-- the scheme is the trusted `X-Forwarded-Proto` value when there is one -/
theorem proxyfix_scheme (c : PFConfig) (h : PFHeaders) (e : PFEnviron) :
    (proxyFix c h e).urlScheme =
      (match truthyV (realValue c.xProto h.proto) with | some v => v | none => e.urlScheme) :=
  proxyFix_urlScheme c h e

/-- **`_get_real_value` picks the `n`-th value counted from the RIGHT** (the one appended by the
outermost trusted proxy), and nothing when fewer than `n` values are present or `n = 0`. -/
theorem proxyfix_nth_from_right (n : Nat) (vs : List Str) (v : Str) :
    realValue n (some vs) = some v ↔ 0 < n ∧ vs.reverse[n - 1]? = some v :=
  realValue_spec n vs v

example : realValue 2 (some ["a".toList, "b".toList, "c".toList]) = some "b".toList ∧
    realValue 4 (some ["a".toList, "b".toList, "c".toList]) = none ∧
    realValue 0 (some ["a".toList]) = none := by
  repeat rw [String.toList_ofList]
  decide +kernel

/-- **`X-Forwarded-Port` replaces or appends the port of HTTP_HOST and nothing else**: for a host of
the form `host[:port]` - a name, an IPv4 address or a bracketed IPv6 literal, with or without a port -
and a trusted non-empty port value `v`, the new HTTP_HOST is `host:v` (the brackets of an IPv6 literal
stay, an old port is dropped). -/
theorem proxyfix_port_replaces (c : PFConfig) (hd : PFHeaders) (e : PFEnviron) (h v : Str) (p : Option Nat)
    (hne : h ≠ []) (hh : e.httpHost = some (hostBr h ++ portText p))
    (hv : truthyV (realValue c.xPort hd.port) = some v) :
    (applyPort c hd e).httpHost = some (hostBr h ++ ':' :: v) ∧ (applyPort c hd e).serverPort = v := by
  -- `truthyV` is `truthy` (the same body, stated once per model file)
  have ht : truthyV e.httpHost = some (hostBr h ++ portText p) := hh ▸ truthy_some_ne (hostport_ne hne p)
  rw [applyPort_of_host hv ht, stripPort_hostport]
  exact ⟨rfl, rfl⟩

example : (proxyFix ⟨0, 0, 0, 1, 1⟩ ⟨none, none, none, some ["8443".toList], some ["/app".toList]⟩
    { remoteAddr := none, urlScheme := "http".toList, httpHost := some "[::1]:5000".toList,
      serverName := "::1".toList, serverPort := "5000".toList, scriptName := "/old".toList,
      pathInfo := "/p".toList })
    = { remoteAddr := none, urlScheme := "http".toList, httpHost := some "[::1]:8443".toList,
        serverName := "::1".toList, serverPort := "8443".toList, scriptName := "/app".toList,
        pathInfo := "/p".toList } := by
  repeat rw [String.toList_ofList]
  decide

end Wz.Props.C15
