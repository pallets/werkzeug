/-
Facts that hold of every row of a generated table are checked by one linear pass over the table
(`zipIdx` pairs each row with its index). A statement of the form `∀ n, n < 256 → … t.getD n d …` makes
the kernel walk the list again for every `n`, which is quadratic in the length of the table.
-/
namespace Wz

theorem getD_sweep {α : Type} {t : List α} {d : α} {q : α → Nat → Bool}
    (h : t.zipIdx.all (fun p => q p.1 p.2) = true) {n : Nat} (hn : n < t.length) :
    q (t.getD n d) n = true := by
  have hm : (t[n], n) ∈ t.zipIdx := by
    rw [List.mem_zipIdx_iff_getElem?]
    simp [hn]
  have := List.all_eq_true.mp h _ hm
  simpa [List.getD, hn] using this

theorem getD_eq_of_sweep {α : Type} [BEq α] [LawfulBEq α] {t : List α} {d : α} {p : Nat → α} {k : Nat}
    (h : (t.length == k && t.zipIdx.all fun r => r.1 == p r.2) = true) {n : Nat} (hn : n < k) :
    t.getD n d = p n := by
  obtain ⟨hl, hs⟩ := Bool.and_eq_true_iff.mp h
  exact beq_iff_eq.mp (getD_sweep (q := fun a n => a == p n) hs (beq_iff_eq.mp hl ▸ hn))

/-- Two tables side by side, for facts that relate the rows of one to the rows of the other. -/
theorem getD_sweep₂ {α β : Type} {s : List α} {t : List β} {c : α} {d : β} {q : α → β → Nat → Bool}
    (h : (s.zip t).zipIdx.all (fun p => q p.1.1 p.1.2 p.2) = true) {n : Nat}
    (hs : n < s.length) (ht : n < t.length) : q (s.getD n c) (t.getD n d) n = true := by
  have hn : n < (s.zip t).length := by rw [List.length_zip]; omega
  have := getD_sweep (d := (c, d)) (q := fun p n => q p.1 p.2 n) h hn
  have e : (s.zip t).getD n (c, d) = (s.getD n c, t.getD n d) := by
    rw [List.getD, List.getD, List.getD, List.getElem?_eq_getElem hn, List.getElem?_eq_getElem hs,
      List.getElem?_eq_getElem ht, List.getElem_zip]
    rfl
  rwa [e] at this

end Wz
