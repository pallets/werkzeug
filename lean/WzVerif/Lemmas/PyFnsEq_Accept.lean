/-
PyFnsEq_Accept — the class-specific parts and the small API of `werkzeug.datastructures.accept`
*as regenerated from the source* by `tools/py2lean.py` (`Gen/PyFns_Accept.lean`, rewritten on every
check run) are equal, for all inputs, to the hand-written model of `Model/Accept.lean` that the C17
theorems are about. (`_best_single_match`, `quality`, `__contains__`, `index`, `find`, `best_match`,
`LanguageAccept.best_match` are in `Props/C17T.lean`.) A change of the Python source changes the
generated definition and breaks these obligations.

The theorems are stated in `Props/C17T2.lean`; at the end, for `Props/C17T`, one turn of the selection loop of `best_match`
(`best_match_turn`: one `bestStep` of the model's fold, `Rel` kept). `mime_value_matches_eq` (value *and* exception behaviour) and `to_header_eq` carry the
content; the code's comparison of `sorted(...)` parameter lists is the model's permutation test by `Pre.sortedStr_beq`.
-/
import WzVerif.Gen.PyFns_Accept
import WzVerif.Lemmas.PyFns_Prelude
import WzVerif.Lemmas.Accept
namespace Wz.PyFnsEq.Accept
open Wz Wz.Accept Wz.PyFnsAccept

theorem strLe_refl (a : Pre.Str) : Pre.strLe a a = true := Pre.strLe_refl a

theorem normalize_mime_eq (v : List Char) :
    Gen.PyFns_Accept.normalize_mime v = mimeSplit (lowerA v) := rfl

theorem mime_specificity_eq (v : List Char) :
    Gen.PyFns_Accept.mime_specificity v = mimeSpec v := rfl

/-- every `/` (and every `;`) starts a new piece: with a `/` there are at least two -/
theorem mimePieces_length (s : List Char) : ∀ cur : List Char, '/' ∈ s → 2 ≤ (mimePieces s cur).length := by
  induction s with
  | nil => intro cur h; simp at h
  | cons c t ih =>
    intro cur h
    have hpos : ∀ (t cur : List Char), 1 ≤ (mimePieces t cur).length := by
      intro t
      induction t with
      | nil => intro cur; simp [mimePieces]
      | cons d u ihu =>
        intro cur
        unfold mimePieces
        split
        · simp
        · split
          · simp
          · exact ihu _
    unfold mimePieces
    by_cases h1 : (c == '/') = true
    · simp only [h1, if_true, List.length_cons]
      have := hpos t []
      omega
    · have hc : c ≠ '/' := by simpa using h1
      have h1' : (c == '/') = false := by simpa using h1
      have ht : '/' ∈ t := by
        rcases List.mem_cons.mp h with e | e
        · exact absurd e.symm hc
        · exact e
      simp only [h1', Bool.false_eq_true, if_false]
      by_cases h2 : (c == ';') = true
      · simp only [h2, if_true, List.length_cons]
        have := ih [] ht
        omega
      · have h2' : (c == ';') = false := by simpa using h2
        simp only [h2', Bool.false_eq_true, if_false]
        exact ih _ ht

theorem mimeTrim_length (l : List (List Char × Bool)) : ∀ b : Bool, (mimeTrim b l).length = l.length := by
  induction l with
  | nil => intro b; rfl
  | cons x t ih => intro b; obtain ⟨p, s⟩ := x; simp [mimeTrim, ih]

theorem mimeSplit_two (v : List Char) (h : '/' ∈ v) : ∃ a b ps, mimeSplit v = a :: b :: ps := by
  have hl : 2 ≤ (mimeSplit v).length := by
    unfold mimeSplit
    rw [mimeTrim_length]
    exact mimePieces_length v [] h
  match hm : mimeSplit v, hl with
  | a :: b :: ps, _ => exact ⟨a, b, ps, rfl⟩

theorem lowerA_slash (v : List Char) (h : hasSlash v = true) : '/' ∈ lowerA v := by
  have h' : '/' ∈ v := by simpa [hasSlash] using h
  unfold lowerA
  exact List.mem_map.mpr ⟨'/', h', by decide⟩

/-- `t, s = normalized[:2]` and `normalized[2:]` for a value with a `/`: never a `ValueError` from the
unpacking; the three parts are the model's `mimeNorm` -/
theorem normalize_unpack (x : List Char) (h : hasSlash x = true) :
    Pre.unpack2 (Pre.slice (Gen.PyFns_Accept.normalize_mime x) none (some 2)) =
        .ok ((mimeNorm x).type, (mimeNorm x).subtype) ∧
      Pre.slice (Gen.PyFns_Accept.normalize_mime x) (some 2) none = (mimeNorm x).params := by
  obtain ⟨a, b, ps, e⟩ := mimeSplit_two (lowerA x) (lowerA_slash x h)
  have e1 : Pre.slice (Gen.PyFns_Accept.normalize_mime x) none (some 2) = _ :=
    Pre.slice_none_nat (Gen.PyFns_Accept.normalize_mime x) 2
  have e2 : Pre.slice (Gen.PyFns_Accept.normalize_mime x) (some 2) none = _ :=
    Pre.slice_nat_none (Gen.PyFns_Accept.normalize_mime x) 2
  rw [e1, e2, normalize_mime_eq]
  unfold mimeNorm
  rw [e]
  exact ⟨rfl, rfl⟩

theorem contains_slash (x : List Char) : Pre.contains x ['/'] = hasSlash x :=
  Pre.contains_singleton x '/'

theorem mime_value_matches_eq (value item : List Char) :
    Gen.PyFns_Accept.mime_value_matches value item =
      if hasSlash item && mimeOfferInvalid value then .error "ValueError"
      else .ok (mimeMatches value item) := by
  unfold Gen.PyFns_Accept.mime_value_matches
  rw [contains_slash, contains_slash]
  by_cases hi : hasSlash item = true
  · by_cases hv : hasSlash value = true
    · obtain ⟨v1, v2⟩ := normalize_unpack value hv
      obtain ⟨i1, i2⟩ := normalize_unpack item hi
      simp only [hi, hv, v1, v2, i1, i2, Pre.sortedStr_beq, mimeOfferInvalid, mimeMatches,
        Bool.not_true, Bool.false_eq_true, if_false, Bool.true_and, Bool.false_or, bne, star]
      by_cases hvs : ((mimeNorm value).type == ['*'] && !((mimeNorm value).subtype == ['*'])) = true
      · rw [if_pos hvs, if_pos hvs]
      · rw [if_neg hvs, if_neg hvs]
        by_cases his : ((mimeNorm item).type == ['*'] && !((mimeNorm item).subtype == ['*'])) = true
        · simp only [his, if_true]
        · have his' := Bool.eq_false_iff.mpr his
          simp only [his', Bool.false_eq_true, if_false]
    · have hv' : hasSlash value = false := by simpa using hv
      simp [hi, hv', mimeOfferInvalid]
  · have hi' : hasSlash item = false := by simpa using hi
    simp [hi', mimeMatches]

theorem mime_value_matches_ok (value item : List Char) (b : Bool)
    (h : Gen.PyFns_Accept.mime_value_matches value item = .ok b) : b = mimeMatches value item := by
  rw [mime_value_matches_eq] at h
  split at h
  · cases h
  · exact (Except.ok.inj h).symm

theorem normalize_lang_eq (v : List Char) : Gen.PyFns_Accept.normalize_lang v = normLang v := rfl

theorem lang_value_matches_eq (value item : List Char) :
    Gen.PyFns_Accept.lang_value_matches value item = langMatches value item := rfl

theorem charset_value_matches_eq (aliases : List (List Char × List Char)) (value item : List Char) :
    Gen.PyFns_Accept.charset_value_matches
        (fun n => (aliases.find? (fun p => p.1 == n)).map (·.2)) value item =
      charsetMatches aliases value item := by
  unfold Gen.PyFns_Accept.charset_value_matches Gen.PyFns_Accept.codecLookupName charsetMatches
    charsetNorm
  dsimp only
  cases List.find? (fun p => p.1 == value) aliases <;>
    cases List.find? (fun p => p.1 == item) aliases <;> rfl

/-- the `for item in self: yield item[0]` loop of `Accept.values` -/
theorem values_loop_eq {κ : Type} (l : List (List Char × κ)) : ∀ acc : List (List Char),
    Gen.PyFns_Accept.values.loop1 l acc = .fall (acc ++ l.map (·.1)) := by
  intro acc
  rw [List.map_eq_flatMap]
  exact Pre.forLoop_append Gen.PyFns_Accept.values.loop1 (fun x => [x.1]) (fun _ => rfl) (fun _ _ _ => rfl) l acc

/-- one element of the list `to_header` joins, with the printing function `qstr` -/
def hdrItem (qstr : Q → List Char) (it : List Char × Q) : List Char :=
  if it.2.isOne then it.1 else it.1 ++ [';', 'q', '='] ++ qstr it.2

theorem to_header_loop_eq {σ : Type} (N : Neg σ Q) (hN : N.qle = Q.le) (qstr : Q → List Char)
    (l : List (List Char × Q)) : ∀ acc : List (List Char),
    Gen.PyFns_Accept.to_header.loop1 N Q.one qstr l acc = .fall (acc ++ l.map (hdrItem qstr)) := by
  intro acc
  rw [List.map_eq_flatMap]
  refine Pre.forLoop_append (Gen.PyFns_Accept.to_header.loop1 N Q.one qstr) (fun x => [hdrItem qstr x]) (fun _ => rfl)
    (fun x t acc => ?_) l acc
  rw [Gen.PyFns_Accept.to_header.loop1]
  have e : (Q.le x.2 Q.one && Q.le Q.one x.2) = x.2.isOne := rfl
  simp only [hN, hdrItem, e]
  cases x.2.isOne <;> simp

theorem to_header_join {σ : Type} (N : Neg σ Q) (hN : N.qle = Q.le) (qstr : Q → List Char)
    (self : List (List Char × Q)) :
    Gen.PyFns_Accept.to_header N Q.one qstr self = [','].intercalate (self.map (hdrItem qstr)) := by
  unfold Gen.PyFns_Accept.to_header
  simp only [to_header_loop_eq N hN, List.nil_append, Pre.join_eq_intercalate]

theorem mapM_itemHeader (qstr : Q → List Char) (self : List (List Char × Q))
    (h : ∀ it ∈ self, it.2.isOne = true ∨ qRepr it.2 = some (qstr it.2)) :
    self.mapM itemHeader = some (self.map (hdrItem qstr)) := by
  refine mapM_some _ _ _ fun x hx => ?_
  unfold itemHeader hdrItem
  cases h1 : x.2.isOne with
  | true => rfl
  | false =>
    rcases h x hx with h2 | h2
    · rw [h1] at h2; cases h2
    · simp [h2]

theorem to_header_eq {σ : Type} (N : Neg σ Q) (hN : N.qle = Q.le) (qstr : Q → List Char)
    (self : List (List Char × Q))
    (h : ∀ it ∈ self, it.2.isOne = true ∨ qRepr it.2 = some (qstr it.2)) :
    toHeader self = some (Gen.PyFns_Accept.to_header N Q.one qstr self) := by
  unfold toHeader
  rw [mapM_itemHeader qstr self h, to_header_join N hN]
  rfl

/-- the four literal offers of `accept_html` / `accept_xhtml` / `accept_json` are valid, so these
properties never raise `ValueError` -/
theorem flag_offers_valid : ∀ o ∈ [mtHtml, mtXhtml, mtXml, mtJson], mimeOfferInvalid o = false := by
  decide +kernel

section selection
variable {σ κ : Type} (N : Neg σ κ)

theorem best_single_match_eq (self : List (List Char × κ)) (offer : List Char) :
    Gen.PyFns_Accept.best_single_match N self offer = bestSingle N self offer := by
  unfold Gen.PyFns_Accept.best_single_match bestSingle
  rw [Pre.forLoop_first (Gen.PyFns_Accept.best_single_match.loop1 N self offer)
    (fun it : List Char × κ => N.matches offer it.1) some rfl (fun _ _ => rfl) self]
  cases List.find? (fun it => N.matches offer it.1) self <;> rfl

/-- one turn of the selection loop is one `bestStep` of the model's fold, `Rel` kept -/
theorem best_match_turn (hq : TotalPre N.qle) (qm1 : κ) (sm1 : σ) (self : List (List Char × κ))
    (dflt : Option (List Char)) (o : List Char) (t : List (List Char))
    {st : BestState σ κ} {r : Option (List Char)} {bq : κ} {bs : σ} (h : Rel N dflt st r bq bs) :
    ∃ r' bq' bs', Gen.PyFns_Accept.best_match.loop1 N qm1 sm1 self (o :: t) r bq bs
        = Gen.PyFns_Accept.best_match.loop1 N qm1 sm1 self t r' bq' bs' ∧
      Rel N dflt (bestStep N self st o) r' bq' bs' := by
  rw [Gen.PyFns_Accept.best_match.loop1]
  simp only [best_single_match_eq]
  cases hb : bestSingle N self o with
  | none =>
    simp only [bestStep, hb]
    exact ⟨r, bq, bs, rfl, h⟩
  | some m =>
    obtain ⟨ci, q⟩ := m
    simp only [bestStep, hb]
    by_cases hz : N.qle q N.zero = true
    · simp only [hz, Bool.true_or, if_true]
      exact ⟨r, bq, bs, rfl, h⟩
    · have hz' : N.qle q N.zero = false := by simpa using hz
      have hzq : N.qle N.zero q = true := hq.of_not hz'
      simp only [hz', Bool.false_or, Bool.false_eq_true, if_false]
      cases st with
      | none =>
        obtain ⟨hr, hbq⟩ := h
        have h1 : N.qle bq q = true := hq.trans _ _ _ hbq hzq
        have h2 : N.qle q bq = false := by
          cases hh : N.qle q bq
          · rfl
          · exact absurd (hq.trans _ _ _ hh hbq) hz
        simp only [h1, Bool.not_true, Bool.false_eq_true, if_false, h2, Bool.not_false, Bool.true_or, if_true]
        exact ⟨some o, q, N.spec ci, rfl, rfl, rfl, rfl, hz'⟩
      | some s3 =>
        obtain ⟨o', q', s'⟩ := s3
        obtain ⟨hr, hbq, hbs, hq0⟩ := h
        subst hbq; subst hbs
        by_cases h1 : N.qle bq q = true
        · simp only [h1, Bool.not_true, Bool.false_eq_true, if_false]
          by_cases h2 : (!(N.qle q bq) || !(N.sle (N.spec ci) bs)) = true
          · simp only [h2, if_true]
            exact ⟨some o, q, N.spec ci, rfl, rfl, rfl, rfl, hz'⟩
          · simp only [h2, Bool.false_eq_true, if_false]
            exact ⟨r, bq, bs, rfl, hr, rfl, rfl, hq0⟩
        · have h1' : N.qle bq q = false := by simpa using h1
          simp only [h1', Bool.not_false, if_true]
          exact ⟨r, bq, bs, rfl, hr, rfl, rfl, hq0⟩

end selection

end Wz.PyFnsEq.Accept
