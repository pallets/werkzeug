/-
C17T3 — C17T continued: `parse_accept_header` (`http.py`) *as regenerated from the source* by
`tools/py2lean.py` (`Gen/PyFns_HttpOptions.lean`, rewritten on every check run): the `q` loop (lookup,
`options.pop("q")`, `strip`, `_q_value_re.fullmatch`, `float`, the range check, the reconstruction with
`dump_options_header`) on top of the translated `parse_list_header` / `parse_options_header` /
`dump_options_header`. It is polymorphic in the quality type; instantiated with (text, rounded sign &
magnitude) it equals C06/C07's `Http.parseAcceptHeader` exactly, instantiated with exact signed
decimals its loop body is C17's `Accept.acceptItem` and the whole function is `Accept.parseAcceptRaw`
wherever C17's own lexical layer agrees with C06's (`hlex`; it answers UNSUPPORTED for RFC 2231 `key*`
parameters). The float semantics stay a documented assumption (`oor_snap_imp`: what the float check
rejects, the exact check rejects too).
Property theorems only; helper lemmas and the longer proofs are in Lemmas/PyFnsEq_AcceptHeader.lean.
-/
import WzVerif.Lemmas.PyFnsEq_AcceptHeader
namespace Wz.Props.C17T3
open Wz Wz.Pre Wz.PyFnsHttp Wz.Gen.PyFns_HttpOptions
open Wz.PyFnsEq.AcceptHeader

section generic
variable {κ : Type} (qle : κ → κ → Bool) (qzero qone : κ) (float_of : Str → κ)


/-- The whole loop: for every list of items that fit the fuel and every accumulator, it falls
through with `result` extended by the pairs of the items that were not skipped, in order - or leaves
the function with the first exception a callee raised. -/
theorem parse_accept_header_loop_eq (fuel : Nat) (items : List Str) : ∀ (result : List (Str × κ)),
    (∀ item ∈ items, item.length ≤ fuel) →
    parse_accept_header.loop1 fuel qle qzero qone float_of items result =
      match items.mapM (itemStep qle qzero qone float_of) with
      | .ok l => .fall (result ++ l.filterMap id)
      | .error e => .ret (.error e) :=
  PyFnsEq.AcceptHeader.loop1_eq qle qzero qone float_of fuel items

/-- `parse_accept_header(value, cls)` for a `str`, as translated from the current source (`if not
value: return cls(None)`, `parse_list_header` - itself translated -, the loop, `cls(result)`; the
translation returns the argument handed to `cls`), for every quality type: `None` for the empty
text, else the list of pairs `itemStep` yields for the items of the comma list. -/
theorem parse_accept_header_gen (fuel : Nat) (v : Str)
    (hf : ∀ item ∈ Http.parseListHeader v, item.length ≤ fuel) :
    parse_accept_header fuel qle qzero qone float_of (some v) () =
      if v.isEmpty then .ok none
      else match (Http.parseListHeader v).mapM (itemStep qle qzero qone float_of) with
        | .ok l => .ok (some (l.filterMap id))
        | .error e => .error e :=
  PyFnsEq.AcceptHeader.parse_accept_header_gen qle qzero qone float_of fuel v hf

/-- `parse_accept_header(None)` hands `None` to the class (an empty `Accept` object); no fuel is used. -/
theorem parse_accept_header_none (fuel : Nat) :
    parse_accept_header fuel qle qzero qone float_of none () = .ok none := rfl

end generic

/-- `parse_accept_header` never raises: the same with the fuel bound `len(value) ≤ fuel`. -/
theorem parse_accept_header_total {κ : Type} (qle : κ → κ → Bool) (qzero qone : κ) (float_of : Str → κ)
    (fuel : Nat) (v : Str) (hf : v.length ≤ fuel) :
    ∃ r, parse_accept_header fuel qle qzero qone float_of (some v) () = .ok r :=
  parse_accept_header_total_of_items qle qzero qone float_of fuel v
    (fun item h => Nat.le_trans (parseListHeader_length v item h) hf)

/-- Float versus exact comparison: whatever the float range check rejects the exact decimal check
rejects too (rounding moves values *into* `[0, 1]`, never out of it). The converse fails exactly in
the two rounding bands. -/
theorem oor_snap_imp (x : SQ) (h : oor SQ.le sqZero sqOne (snap x) = true) :
    oor SQ.le sqZero sqOne x = true := by
  obtain ⟨neg, q⟩ := x
  cases neg with
  | true =>
    simp only [snap] at h
    split at h
    · exact h
    · rw [oor_neg] at h; cases h
  | false =>
    simp only [snap] at h
    split at h
    · exact h
    · split at h
      · rename_i h2
        rw [oor_pos] at h ⊢
        simp only [Accept.Q.le, Accept.Q.one] at h ⊢
        simp at h
      · exact h

/-- Against C06/C07's model: the translated `parse_accept_header`, at the instantiation `FQ` (quality = its text and
the correctly rounded value), returns the pairs of `Http.parseAcceptHeader`, for every text with `len(value) ≤ fuel`. -/
theorem parse_accept_header_eq_http (fuel : Nat) (v : Str) (hf : v.length ≤ fuel) :
    (parse_accept_header fuel FQ.le fqZero fqOne floatOf (some v) ()).map (Option.map (List.map txt))
      = if v.isEmpty then .ok none else (Http.parseAcceptHeader v).map some :=
  PyFnsEq.AcceptHeader.parse_accept_header_eq_http fuel v hf

/-- C17's `Accept.parseQ` (regex + `float` + range check in one function) is C06's regex model
`Http.qParts?` - the `qValueReFullmatch` of the translation - followed by the exact range check. -/
theorem parseQ_eq (s : Str) : Accept.parseQ s = (Http.qParts? s).bind rangeQ :=
  PyFnsEq.AcceptHeader.parseQ_eq s

/-- **Against C17's model, loop body.** With the options of the item already parsed - `parse_options_header(item)
= (i, o)` -, the translated loop body (`"q" in options`, `options.pop("q").strip()`,
`_q_value_re.fullmatch`, `float`, `q < 0 or q > 1`, `dump_options_header(item, options)` when
options remain) at the exact-decimal instantiation contributes exactly what C17's
`Accept.acceptItem i o` contributes: nothing for a malformed or out-of-range q, else the
reconstructed item with the quality as the exact decimal (sign forgotten: it only survives in front
of zero) - provided the two models of `dump_options_header` agree on the remaining options
(`dumpAgrees_of_keys`: they do when no key is empty). -/
theorem itemOf_eq_accept (i : Str) (o : List (Str × Str))
    (hd : o.filter (·.1 != Accept.qKey) ≠ [] → DumpAgrees i (o.filter (·.1 != Accept.qKey))) :
    (itemOf SQ.le sqZero sqOne exactOf i o).map (Option.map mag) = .ok (Accept.acceptItem i o) :=
  PyFnsEq.AcceptHeader.itemOf_eq_accept i o hd

/-- `dump_options_header(header, options)` for `str` values: C06's model (`Http.dumpOptionsHeader`,
proved equal to the translated source in `Props/C06T`) and C17's model
(`Accept.dumpOptionsHeader`) print the same text whenever no key is empty - which is what
`parse_options_header` guarantees (C07 `parseOptions_keys_nonempty`). `key*` parameters included. -/
theorem dumpAgrees_of_keys (i : Str) (o : List (Str × Str)) (hk : ∀ x ∈ o, x.1 ≠ []) : DumpAgrees i o :=
  PyFnsEq.AcceptHeader.dumpAgrees_of_keys i o hk

/-- **Against C17's model, one turn of the loop.** If `parse_options_header(item)` is `(i, o)` (C06's model =
the translated function; when C17's lexer `Accept.parseOptionsHeader item` gives the same pair this
is what C17 feeds to `acceptItem`), then the turn of the translated loop for this item, at the
exact-decimal instantiation, appends exactly the contribution `Accept.acceptItem i o` of C17's model
(nothing or one pair, the sign forgotten) and goes on. No hypothesis about the dumpers is needed:
the keys `parse_options_header` returns are never empty. -/
theorem parse_accept_header_loop_cons_accept (fuel : Nat) (item : Str) (rest : List Str) (result : List (Str × SQ))
    (i : Str) (o : List (Str × Str)) (hf : item.length ≤ fuel)
    (hp : Http.parseOptionsHeader item = .ok (i, o)) :
    ∃ c : Option (Str × SQ), c.map mag = Accept.acceptItem i o ∧
      parse_accept_header.loop1 fuel SQ.le sqZero sqOne exactOf (item :: rest) result =
        parse_accept_header.loop1 fuel SQ.le sqZero sqOne exactOf rest (result ++ c.toList) :=
  PyFnsEq.AcceptHeader.loop1_cons_accept fuel item rest result i o hf hp

/-- **Against C17's model.** `parse_accept_header(value)`, as translated from the current source, at the
exact-decimal instantiation (`κ := SQ`: `float` and float comparison as exact signed decimal
arithmetic - the documented assumption of C17's model), for every header text with `len(value) ≤
fuel` on which C17's own lexical layer agrees with C06's (`Accept.lexHeader v` = C06's
`parse_list_header` followed by `parse_options_header` on every item; false e.g. for RFC 2231
`key*` parameters, where C17's lexer answers `UNSUPPORTED`): the items handed to the `Accept` class,
the sign of a `-0` forgotten, are exactly the list `Accept.parseAcceptRaw v` that C17's negotiation
theorems start from (the class sorts it: `Accept.parseAccept`). The empty text gives `cls(None)`. -/
theorem parse_accept_header_eq_raw (fuel : Nat) (v : Str) (hf : v.length ≤ fuel)
    (hlex : Accept.lexHeader v = (Http.parseListHeader v).mapM Http.parseOptionsHeader) :
    (parse_accept_header fuel SQ.le sqZero sqOne exactOf (some v) ()).map (Option.map (List.map mag))
      = if v.isEmpty then .ok none else (Accept.parseAcceptRaw v).map some :=
  parse_accept_header_eq_raw_of_items fuel v
    (fun item h => Nat.le_trans (parseListHeader_length v item h) hf) hlex



end Wz.Props.C17T3
