/-
Routing lemmas: `Weighting.lt` (Python's tuple / list comparison of `Weighting`) is a strict weak order (`SWO`; every order
fact is an instance of the lexicographic step `lexLt`), and a stable insertion sort by a strict weak order (`sortBy`: the shape
of `list.sort(key=…)` in `StateMachineMatcher.update` and in `Map.update`) permutes its input and leaves it sorted.
-/
import WzVerif.Model.RoutingSpec
namespace Wz.Routing

/-- strict weak order on a Bool-valued relation: asymmetric, and `x ≤ y := ¬ y < x` is transitive -/
structure SWO {α : Type} (lt : α → α → Bool) : Prop where
  asymm : ∀ a b, lt a b = true → lt b a = false
  negtrans : ∀ a b c, lt b a = false → lt c b = false → lt c a = false

theorem SWO.lt_of_lt_of_le {α} {lt : α → α → Bool} (h : SWO lt) {a b c : α}
    (hab : lt a b = true) (hbc : lt c b = false) : lt a c = true := by
  cases hac : lt a c with
  | true => rfl
  | false =>
    have := h.negtrans b c a hbc hac
    rw [hab] at this; cases this

theorem SWO.lt_of_le_of_lt {α} {lt : α → α → Bool} (h : SWO lt) {a b c : α}
    (hab : lt b a = false) (hbc : lt b c = true) : lt a c = true := by
  cases hac : lt a c with
  | true => rfl
  | false =>
    have := h.negtrans c a b hac hab
    rw [hbc] at this; cases this

/-- lexicographic combination of two comparisons on the same carrier -/
def lexLt {α : Type} (f g : α → α → Bool) (a b : α) : Bool := f a b || (!f b a && g a b)

/-- The second comparison is asked about the pair at hand only, not to be a strict weak order: for lists it is the
comparison of the tails, known by induction for these tails alone (`swo_listLt`). Likewise in `lexLt_negtrans`. -/
theorem lexLt_asymm {α} {f g : α → α → Bool} (hf : SWO f) {a b : α} (hg : g a b = true → g b a = false)
    (h : lexLt f g a b = true) : lexLt f g b a = false := by
  simp only [lexLt, Bool.or_eq_true, Bool.and_eq_true, Bool.not_eq_true'] at h
  simp only [lexLt, Bool.or_eq_false_iff, Bool.and_eq_false_imp, Bool.not_eq_true']
  rcases h with h | ⟨h1, h2⟩
  · exact ⟨hf.asymm a b h, fun h' => by rw [h] at h'; cases h'⟩
  · exact ⟨h1, fun _ => hg h2⟩

theorem lexLt_negtrans {α} {f g : α → α → Bool} (hf : SWO f) {a b c : α}
    (hg : g b a = false → g c b = false → g c a = false)
    (h1 : lexLt f g b a = false) (h2 : lexLt f g c b = false) : lexLt f g c a = false := by
  simp only [lexLt, Bool.or_eq_false_iff, Bool.and_eq_false_imp, Bool.not_eq_true'] at h1 h2 ⊢
  obtain ⟨h1a, h1b⟩ := h1
  obtain ⟨h2a, h2b⟩ := h2
  refine ⟨hf.negtrans a b c h1a h2a, ?_⟩
  intro hac
  cases hab : f a b with
  | false =>
    cases hbc : f b c with
    | false => exact hg (h1b hab) (h2b hbc)
    | true => have := hf.lt_of_le_of_lt h1a hbc; rw [hac] at this; cases this
  | true => have := hf.lt_of_lt_of_le hab h2a; rw [hac] at this; cases this

theorem SWO.lex {α} {f g : α → α → Bool} (hf : SWO f) (hg : SWO g) : SWO (lexLt f g) :=
  ⟨fun a b => lexLt_asymm hf (hg.asymm a b), fun a b c => lexLt_negtrans hf (hg.negtrans a b c)⟩

theorem SWO.int_key {α} (k : α → Int) : SWO (fun a b => decide (k a < k b)) where
  asymm a b h := by simp only [decide_eq_true_eq, decide_eq_false_iff_not] at h ⊢; omega
  negtrans a b c h1 h2 := by simp only [decide_eq_false_iff_not] at h1 h2 ⊢; omega

/-- the lexicographic step on an integer key, as Python tuple comparison spells it (`<`, or `==` and the rest) -/
theorem lexLt_int {α} (k : α → Int) (g : α → α → Bool) (a b : α) :
    lexLt (fun a b => decide (k a < k b)) g a b = (decide (k a < k b) || (k a == k b && g a b)) := by
  simp only [lexLt]
  by_cases h1 : k a < k b
  · simp [h1]
  · by_cases h2 : k b < k a
    · have : ¬ k a = k b := by omega
      simp [h2, this]
    · have : k a = k b := by omega
      simp [this]

theorem swo_pairLt : SWO pairLt := by
  have heq : pairLt = lexLt (fun a b => decide (a.1 < b.1)) (fun a b => decide (a.2 < b.2)) := by
    funext a b; rw [lexLt_int (fun x : Int × Int => x.1)]; rfl
  rw [heq]
  exact SWO.lex (SWO.int_key (fun x : Int × Int => x.1)) (SWO.int_key (fun x : Int × Int => x.2))

theorem SWO.comap {α β} {lt : β → β → Bool} (h : SWO lt) (k : α → β) : SWO (fun a b => lt (k a) (k b)) :=
  ⟨fun a b => h.asymm (k a) (k b), fun a b c => h.negtrans (k a) (k b) (k c)⟩

/-- Python's list comparison on non-empty lists is the lexicographic step of head and tail -/
theorem listLt_cons {α} (lt : α → α → Bool) (x y : α) (xs ys : List α) :
    listLt lt (x :: xs) (y :: ys) =
      lexLt (fun p q : α × List α => lt p.1 q.1) (fun p q => listLt lt p.2 q.2) (x, xs) (y, ys) := rfl

theorem swo_listLt {α} {lt : α → α → Bool} (h : SWO lt) : SWO (listLt lt) where
  asymm := by
    intro a
    induction a with
    | nil => intro b hb; cases b <;> simp_all [listLt]
    | cons x xs ih =>
      intro b hb
      cases b with
      | nil => simp [listLt] at hb
      | cons y ys =>
        rw [listLt_cons] at hb ⊢
        exact lexLt_asymm (h.comap Prod.fst) (ih ys) hb
  negtrans := by
    intro a
    induction a with
    | nil =>
      intro b c h1 h2
      cases c with
      | nil => rfl
      | cons z zs => simp [listLt]
    | cons x xs ih =>
      intro b c h1 h2
      cases b with
      | nil => simp [listLt] at h1
      | cons y ys =>
        cases c with
        | nil => simp [listLt] at h2
        | cons z zs =>
          rw [listLt_cons] at h1 h2 ⊢
          exact lexLt_negtrans (h.comap Prod.fst) (ih ys zs) h1 h2

theorem swo_weighting : SWO Weighting.lt := by
  have heq : Weighting.lt = lexLt (fun a b => decide (a.nStatic < b.nStatic))
      (lexLt (fun a b => listLt pairLt a.statics b.statics)
        (lexLt (fun a b => decide (a.nArgs < b.nArgs)) (fun a b => listLt intLt a.args b.args))) := by
    funext a b
    rw [lexLt_int (fun w : Weighting => w.nStatic), lexLt, lexLt_int (fun w : Weighting => w.nArgs)]; rfl
  rw [heq]
  exact SWO.lex (SWO.int_key (fun w : Weighting => w.nStatic)) (SWO.lex ((swo_listLt swo_pairLt).comap (fun w : Weighting => w.statics))
    (SWO.lex (SWO.int_key (fun w : Weighting => w.nArgs)) ((swo_listLt (SWO.int_key fun x : Int => x)).comap (fun w : Weighting => w.args))))

/-- stable insertion sort by a Bool-valued "lighter than": `x` goes in front of the first entry that is not lighter.
The shape of `sortDyn` (`list.sort(key=weight)`) and of `sortRules` (`rules.sort(key=build_compare_key)`). -/
def insertBy {α : Type} (lt : α → α → Bool) (x : α) : List α → List α
  | [] => [x]
  | y :: t => if lt y x then y :: insertBy lt x t else x :: y :: t

def sortBy {α : Type} (lt : α → α → Bool) : List α → List α
  | [] => []
  | x :: t => insertBy lt x (sortBy lt t)

theorem insertBy_perm {α : Type} (lt : α → α → Bool) (x : α) (l : List α) : (insertBy lt x l).Perm (x :: l) := by
  induction l with
  | nil => exact .refl _
  | cons y t ih =>
    simp only [insertBy]
    split
    · exact (List.Perm.cons y ih).trans (List.Perm.swap x y t)
    · exact .refl _

theorem sortBy_perm {α : Type} (lt : α → α → Bool) (l : List α) : (sortBy lt l).Perm l := by
  induction l with
  | nil => exact .refl _
  | cons x t ih => exact (insertBy_perm lt x _).trans (List.Perm.cons x ih)

theorem sortBy_sorted {α : Type} {lt : α → α → Bool} (h : SWO lt) (l : List α) :
    (sortBy lt l).Pairwise (fun a b => lt b a = false) := by
  have ins : ∀ (x : α) {l : List α}, l.Pairwise (fun a b => lt b a = false) →
      (insertBy lt x l).Pairwise (fun a b => lt b a = false) := by
    intro x l hl
    induction l with
    | nil => simp [insertBy]
    | cons y t ih =>
      obtain ⟨hy, ht⟩ := List.pairwise_cons.1 hl
      simp only [insertBy]
      split
      · rename_i hlt
        refine List.pairwise_cons.2 ⟨fun z hz => ?_, ih ht⟩
        rcases List.mem_cons.1 ((insertBy_perm lt x t).mem_iff.1 hz) with rfl | hz
        · exact h.asymm _ _ hlt
        · exact hy z hz
      · rename_i hlt
        have hlt : lt y x = false := by simpa using hlt
        refine List.pairwise_cons.2 ⟨fun z hz => ?_, hl⟩
        rcases List.mem_cons.1 hz with rfl | hz
        · exact hlt
        · exact h.negtrans _ _ _ hlt (hy z hz)
  induction l with
  | nil => exact .nil
  | cons x t ih => exact ins x ih

theorem listLt_irrefl {α} {lt : α → α → Bool} (h : SWO lt) (l : List α) : listLt lt l l = false := by
  cases hl : listLt lt l l with
  | false => rfl
  | true => have := (swo_listLt h).asymm l l hl; rw [hl] at this; cases this

theorem weighting_lt_same_statics (n : Int) (st : List (Int × Int)) (k : Int) (a1 a2 : List Int) :
    Weighting.lt ⟨n, st, k, a1⟩ ⟨n, st, k, a2⟩ = listLt intLt a1 a2 := by
  simp [Weighting.lt, listLt_irrefl swo_pairLt]

end Wz.Routing
