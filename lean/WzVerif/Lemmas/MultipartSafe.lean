/-
Which exceptions the decoder / parser model can raise, and how many fields and files it can return: the
three model-internal error values ("AttributeError": `_parse_data(start=True)` on a buffer that does not
begin with a line break; "UnboundLocalError": a Data event before any Field/File event; "FUEL": the event
bound of `drain`) are unreachable from `mkDecoder`, and the number of fields and files
`MultiPartParser.parse` returns is bounded by the decoder's part counter. Both follow one event at a time
through decoder and parser together (`joint_step`); `LoopStable` carries what holds of the two states along
the parser loop. Outcomes are stated with `Ends Q E x` (Lemmas/Outcome.lean): `x` returns a value in `Q` or raises
an exception in `E`.
-/
import WzVerif.Lemmas.FormLimits
import WzVerif.Lemmas.FormOptions
import WzVerif.Lemmas.Outcome
namespace Wz.Multipart
open Wz

/-- the decoder is inside a part body -/
def openS (d : Decoder) : Bool := d.state == .dataStart || d.state == .data

/-- the fields and files stored so far: what `max_form_parts` bounds, through the decoder's part counter -/
def formCount (st : FormState) : Nat := st.fields.length + st.files.length

theorem partCharset_error {hs : Headers} {e : String} (h : partCharset hs = .error e) : e = "UNMODELLED" := by
  unfold partCharset at h
  split at h
  · simp at h
  · split at h
    · simp at h
    · cases hp : FormOptions.parseOptionsHeader _ with
      | error e' => rw [hp] at h; simp at h; subst h; exact FormOptions.parseOptionsHeader_error hp
      | ok r =>
        rw [hp] at h
        simp only at h
        split at h <;> simp at h

/-- the exception classes the decoder / parser model can raise from `mkDecoder`: ValueError (malformed
body), UnicodeDecodeError (a header line that is not UTF-8), RequestEntityTooLarge (a limit), and the
model-only value UNMODELLED (RFC 2231 `key*=charset''…` parameters, outside the options-header model) -/
def Raisable (e : String) : Prop :=
  e = "ValueError" ∨ e = "UnicodeDecodeError" ∨ e = "RequestEntityTooLarge" ∨ e = "UNMODELLED"

/-- in DATA_START the buffer begins with the line break that ended the headers -/
def DS (d : Decoder) : Prop := d.state = .dataStart → 0 < lbLen d.buffer

theorem headEvent_error {hd : Bytes} {e : String} (h : headEvent hd = .error e) : Raisable e := by
  have hs := headEvent_spec hd
  rw [h] at hs
  cases hs with
  | hdrBad hph => exact Or.inr (Or.inl (parseHeaders_error hph))
  | noDisposition => exact Or.inl rfl
  | optBad _ _ hpo => exact Or.inr (Or.inr (Or.inr (FormOptions.parseOptionsHeader_error hpo)))

theorem receive_ds {d d' : Decoder} {c : Option Bytes} (hd : DS d) (h : receive d c = .ok d') : DS d' := by
  have r := receive_ok h
  intro hs
  rw [r.buffer]
  exact Nat.lt_of_lt_of_le (hd (r.state ▸ hs)) (lbLen_append_ge _ _)

theorem step_error {d : Decoder} {e : String} (hd : DS d) (h : step d = .error e) : Raisable e := by
  cases Step.of_error h with
  | partBad _ _ hev => exact headEvent_error hev
  | partFull => exact Or.inr (Or.inr (Or.inl rfl))
  | dataBad hst h0 => have := hd hst; omega

theorem step_ds {d d' : Decoder} {ev : Event} (hd : DS d) (h : step d = .ok (ev, d')) : DS d' := by
  have closed : ∀ (f : Bool) (b : Bytes) (sp : Nat), DS { d with buffer := b, state := afterDelim f, searchPos := sp } :=
    fun f _ _ hs => by cases f <;> cases hs
  cases Step.of_ok h with
  | preWait hst | partWait hst => exact fun hs => by rw [show d.state = _ from hs] at hst; cases hst
  | dataWait | epiWait | done => exact hd
  | preFound | dataLast => exact closed _ _ _
  | dataMore | epiDone => exact fun hs => by cases hs
  | partHead _ hq => exact fun _ => searchBlankFrom_cut hq

theorem nextEvent_error_raisable {d : Decoder} {e : String} (hd : DS d) (h : nextEvent d = .error e) :
    Raisable e :=
  (nextEvent_error h).elim (step_error hd) Or.inl

theorem nextEvent_ds {d d' : Decoder} {ev : Event} (hd : DS d) (h : nextEvent d = .ok (ev, d')) : DS d' :=
  step_ds hd (nextEvent_ok h)

theorem ds_mkDecoder (bnd : Bytes) (mm mp : Option Nat) : DS (mkDecoder bnd mm mp) := by
  intro h; simp [mkDecoder] at h

/-- what the parser itself raises: RequestEntityTooLarge, and the model's UNMODELLED (RFC 2231 charset
parameter in a part's Content-Type) -/
def FormErr (e : String) : Prop := e = "RequestEntityTooLarge" ∨ e = "UNMODELLED"

theorem FormErr.raisable {e : String} (h : FormErr e) : Raisable e :=
  h.elim (fun h => Or.inr (Or.inr (Or.inl h))) (fun h => Or.inr (Or.inr (Or.inr h)))

/-- a Data event that finds a current part keeps it; the last one adds exactly one field or file -/
theorem formEvent_data_spec {m : Option Nat} {st : FormState} (x : Bytes) (more : Bool)
    (hcur : st.cur.isSome = true) :
    Ends (fun st' => st'.cur.isSome = true ∧ formCount st' = formCount st + Bool.toNat (!more)) FormErr
      (formEvent m st (.data x more)) := by
  rw [formEvent_data]
  cases hf : fieldSizeStep m st.fieldSize x.length with
  | error e => exact .error (Or.inl (fieldSizeStep_error hf))
  | ok fsz =>
    cases hc : st.cur with
    | none => rw [hc] at hcur; cases hcur
    | some p =>
      simp only
      cases hs : storeData st fsz { p with payload := p.payload ++ x } more with
      | error e => exact .error (Or.inr (partCharset_error (storeData_error hs)))
      | ok st' =>
        rcases storeData_ok hs with ⟨hc', _, hk⟩
        refine .ok ⟨by rw [hc']; rfl, ?_⟩
        simp only [formCount] at hk ⊢
        cases more <;> simpa [Bool.toNat] using hk

/-- **one event through decoder and parser**: a Data event finds its part; the fields and files stored,
plus the part that is open, grow exactly as the decoder's part counter does; the parser raises only what
`FormErr` allows -/
theorem joint_step {m : Option Nat} {d d' : Decoder} {ev : Event} {st : FormState}
    (hn : step d = .ok (ev, d')) (hcur : openS d = true → st.cur.isSome = true) :
    Ends (fun st' => (openS d' = true → st'.cur.isSome = true) ∧
        formCount st' + Bool.toNat (openS d') + d.partsDecoded = formCount st + Bool.toNat (openS d) + d'.partsDecoded)
      FormErr (formEvent m st ev) := by
  have inData : ∀ {start : Bool}, (d.state = if start then .dataStart else .data) → openS d = true := by
    intro start hst; cases start <;> simp [openS, hst]
  have closed : ∀ {s : State}, d.state = s → (s == .dataStart || s == .data) = false → openS d = false := by
    intro s hst h; rw [← h, ← hst]; rfl
  have after : ∀ (f : Bool) (b : Bytes) (sp : Nat),
      openS { d with buffer := b, state := afterDelim f, searchPos := sp } = false := fun f _ _ => by cases f <;> rfl
  cases Step.of_ok hn with
  | partHead hst _ hev =>
    have ho := closed hst rfl
    cases ev with
    | field n hs => exact .ok ⟨fun _ => rfl, by rw [ho]; simp [formCount, Bool.toNat, openS]; omega⟩
    | file n f hs => exact .ok ⟨fun _ => rfl, by rw [ho]; simp [formCount, Bool.toNat, openS]; omega⟩
    | _ => cases headEvent_isPart hev
  | dataMore hst =>
    have ho := inData hst
    exact (formEvent_data_spec _ true (hcur ho)).mono
      (fun _ h => ⟨fun _ => h.1, by rw [ho, h.2]; rfl⟩) (fun _ h => h)
  | dataLast hst =>
    have ho := inData hst
    exact (formEvent_data_spec _ false (hcur ho)).mono
      (fun _ h => ⟨fun h' => (by rw [after] at h'; cases h'), by rw [ho, after, h.2]; simp [Bool.toNat]⟩) (fun _ h => h)
  | preFound hst => exact .ok ⟨fun h => (by rw [after] at h; cases h), by rw [after, closed hst rfl]⟩
  | epiDone hst => exact .ok ⟨fun h => (by cases h), by rw [closed hst rfl]; rfl⟩
  | _ => exact .ok ⟨hcur, rfl⟩

/-- What a relation between decoder and parser state needs in order to hold along `MultiPartParser.parse`:
`receive_data` keeps it, and so does one event that goes from `next_event` into the parser — unless the
parser raises, and then, like `next_event` itself, only what `Raisable` allows. -/
structure LoopStable (m : Option Nat) (J : Decoder → FormState → Prop) : Prop where
  recv : ∀ {d d' : Decoder} {c : Option Bytes} {st : FormState}, J d st → receive d c = .ok d' → J d' st
  event : ∀ {d d' : Decoder} {ev : Event} {st : FormState}, J d st → nextEvent d = .ok (ev, d') →
    Ends (J d') Raisable (formEvent m st ev)
  raise : ∀ {d : Decoder} {st : FormState} {e : String}, J d st → nextEvent d = .error e → Raisable e

namespace LoopStable
variable {m : Option Nat} {J : Decoder → FormState → Prop} (hJ : LoopStable m J)
include hJ

/-- one `receive_data` and the drain after it, with the parser run over the events: the parser ends in a
state related to the decoder that is left, and then an exception that ended the decoder's run is raisable;
or the parser raises a raisable exception -/
theorem feed {d : Decoder} {st : FormState} (c : Option Bytes) (h : J d st) :
    Ends (fun st' => J (feed d c).dec st' ∧ ∀ e, (feed d c).err = some e → Raisable e) Raisable
      (formEvents m st (feed d c).events) := by
  cases hr : receive d c with
  | error e =>
    rw [feed_of_error hr]
    exact .ok ⟨h, fun e' he => by cases he; exact Or.inr (Or.inr (Or.inl (receive_error hr)))⟩
  | ok d1 =>
    rw [feed_of_ok hr]
    have := drain_rule (I := fun d' evs => Ends (J d') Raisable (formEvents m st evs))
      (E := fun evs e => ∀ st', formEvents m st evs = .ok st' → Raisable e) ?_ ?_
      (drainFuel d1) d1 [] (by simp [drainFuel]) (.ok (hJ.recv h hr))
    · cases hf : formEvents m st (drain (drainFuel d1) d1 []).events with
      | error e => exact .error (this.1.of_error hf)
      | ok st' => exact .ok ⟨this.1.of_ok hf, fun e he => this.2 e he st' hf⟩
    · intro d2 evs ev d3 h2 hn
      by_cases he : ev = .needData
      · subst he
        rw [if_pos rfl]
        exact h2.mono (fun st' h' => (hJ.event h' hn).of_ok rfl) (fun _ h' => h')
      · rw [if_neg he, formEvents_snoc]
        exact h2.bind fun st' h' => hJ.event h' hn
    · intro d2 evs e h2 hn st' hf
      exact hJ.raise (h2.of_ok hf) hn

theorem formLoop (cs : List (Option Bytes)) : ∀ {d : Decoder} {st : FormState}, J d st →
    Ends (fun st' => ∃ d', J d' st') Raisable (formLoop m d st cs) := by
  induction cs with
  | nil => intro d st h; exact .ok ⟨d, h⟩
  | cons c t ih =>
    intro d st h
    have hf := hJ.feed c h
    simp only [Multipart.formLoop]
    cases hfe : formEvents m st (Multipart.feed d c).events with
    | error e => exact .error (hf.of_error hfe)
    | ok st1 =>
      have h1 := hf.of_ok hfe
      cases he : (Multipart.feed d c).err with
      | some e => exact .error (h1.2 e he)
      | none => exact ih h1.1

end LoopStable

/-- the DATA_START buffer starts with its line break, and a decoder inside a part body has given the parser
its part: what keeps the model-internal exceptions out -/
def Linked (d : Decoder) (st : FormState) : Prop := DS d ∧ (openS d = true → st.cur.isSome = true)

theorem linked_stable (m : Option Nat) : LoopStable m Linked where
  recv := fun {d d' _ _} ⟨hd, hi⟩ hr =>
    ⟨receive_ds hd hr, fun ho => hi (by rw [openS, ← (receive_ok hr).state]; exact ho)⟩
  event := fun ⟨hd, hi⟩ hn =>
    (joint_step (nextEvent_ok hn) hi).mono (fun _ h => ⟨nextEvent_ds hd hn, h.1⟩) (fun _ => FormErr.raisable)
  raise := fun ⟨hd, _⟩ hn => nextEvent_error_raisable hd hn

/-- **`MultiPartParser.parse` raises only ValueError, UnicodeDecodeError, RequestEntityTooLarge** (and the
model-only UNMODELLED): the model-internal values AttributeError, UnboundLocalError and FUEL are
unreachable from any decoder / parser state satisfying the two invariants, in particular from
`mkDecoder` and the empty parser state -/
theorem formLoop_raises {m : Option Nat} (cs : List (Option Bytes)) : ∀ (d : Decoder) (st : FormState) (e : String),
    DS d → (openS d = true → st.cur.isSome = true) → formLoop m d st cs = .error e → Raisable e :=
  fun _ _ _ hd hi h => ((linked_stable m).formLoop cs ⟨hd, hi⟩).of_error h

/-- what links the decoder and the parser state between two reads of `MultiPartParser.parse` under
`max_form_parts = mp` -/
structure LoopInv (mp : Option Nat) (d : Decoder) (st : FormState) : Prop where
  linked : Linked d st
  /-- every counted part is a stored field or file, or the part that is open -/
  count : formCount st + Bool.toNat (openS d) = d.partsDecoded
  maxParts : d.maxParts = mp
  bound : ∀ k, mp = some k → d.partsDecoded ≤ k

theorem loopInv_stable (m mp : Option Nat) : LoopStable m (LoopInv mp) where
  recv := fun {d d' _ _} h hr =>
    have r := receive_ok hr
    have ho : openS d' = openS d := by rw [openS, r.state]; rfl
    ⟨(linked_stable m).recv h.linked hr, by rw [ho, r.partsDecoded]; exact h.count,
      r.config.maxParts.trans h.maxParts, fun k hk => r.partsDecoded ▸ h.bound k hk⟩
  event := fun {d d' ev st} h hn => by
    have s := step_ok (nextEvent_ok hn)
    refine (joint_step (m := m) (nextEvent_ok hn) h.linked.2).mono
      (fun st' ⟨hcur, hdiff⟩ => ⟨⟨nextEvent_ds h.linked.1 hn, hcur⟩, by have := h.count; omega,
        s.config.maxParts.trans h.maxParts, fun k hk => ?_⟩)
      (fun _ => FormErr.raisable)
    cases hev : isPart ev with
    | true => exact s.parts_le k (h.maxParts.trans hk) hev
    | false => rw [s.parts, hev]; exact h.bound k hk
  raise := fun h hn => (linked_stable m).raise h.linked hn

/-- **what `MultiPartParser.parse` can do**, for every body, limits, buffer size and read schedule: it
returns at most `max_form_parts` fields and files, or raises one of the raisable exceptions -/
theorem formParse_spec (bnd : Bytes) (mm mp : Option Nat) (bufSize : Nat) (sched : List Nat) (body : Bytes) :
    Ends (fun r => ∀ k, mp = some k → r.1.length + r.2.length ≤ k) Raisable
      (formParse bnd mm mp bufSize sched body) := by
  have h := (loopInv_stable mm mp).formLoop ((readChunks bufSize body.length sched body).map some ++ [none])
    (d := mkDecoder bnd mm mp) (st := {})
    ⟨⟨ds_mkDecoder bnd mm mp, fun ho => by simp [openS, mkDecoder] at ho⟩,
      rfl, rfl, fun _ _ => Nat.zero_le _⟩
  rw [formParse_eq]
  refine h.map _ fun st ⟨d', hi⟩ k hmp => ?_
  have := hi.bound k hmp
  have := hi.count
  simp only [formCount] at this
  show st.fields.length + st.files.length ≤ k
  omega

theorem formParse_raises {bnd : Bytes} {mm mp : Option Nat} {bufSize : Nat} {sched : List Nat} {body : Bytes}
    {e : String} (h : formParse bnd mm mp bufSize sched body = .error e) : Raisable e :=
  (formParse_spec bnd mm mp bufSize sched body).of_error h

end Wz.Multipart
