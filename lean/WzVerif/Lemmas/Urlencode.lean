/-
The url-encoded half of C02: `quote_plus` is a per-byte encoder (`encPlus`) that `unquote` after
`+` → space inverts, and `parse_qsl` splits what `urlencode` joined, because the encoder never writes
`&` or `=` (`QByte`).
-/
import WzVerif.Model.Urlencode
import WzVerif.Lemmas.Utf8Facts
import WzVerif.Lemmas.TableSweep
import WzVerif.Lemmas.Basics
namespace Wz.Urlencode
open Wz

theorem byteChar_toNat (b : UInt8) : (Char.ofNat b.toNat).toNat = b.toNat :=
  toNat_ofNat_lt b.toNat_lt

theorem byteChar_inj {a b : UInt8} (h : Char.ofNat a.toNat = Char.ofNat b.toNat) : a = b := by
  have := congrArg Char.toNat h
  rw [byteChar_toNat, byteChar_toNat] at this
  exact UInt8.toNat_inj.1 this

/-- `+` -> space on bytes (what `str.replace('+', ' ')` does to ASCII text) -/
def p2s (b : UInt8) : UInt8 := if b == 43 then 32 else b

/-- the per-byte encoder that `quote_plus` amounts to -/
def encPlus (safe : Bytes) (b : UInt8) : Bytes :=
  if b == 32 then [43] else if kept safe b then [b] else pct b

/-- what the round trips need from the `safe` set: `%`, `+`, `&`, `=` are always escaped -/
def SafeOk (safe : Bytes) : Prop :=
  kept safe 37 = false ∧ kept safe 43 = false ∧ kept safe 38 = false ∧ kept safe 61 = false

instance (safe : Bytes) : Decidable (SafeOk safe) := by unfold SafeOk; infer_instance

/-- a byte `quote_plus` may write: ASCII, and neither `&` nor `=` -/
structure QByte (x : UInt8) : Prop where
  ne_amp : x ≠ 38
  ne_eq : x ≠ 61
  ascii : x < 128

/-- a hex digit of `%XX`: it decodes to its value and is neither space nor `+` -/
structure HexDigit (n : Nat) (x : UInt8) : Prop extends QByte x where
  val : hexVal? x = some n
  ne_space : x ≠ 32
  ne_plus : x ≠ 43

theorem hexUpper_digit (n : Nat) (h : n < 16) : HexDigit n (hexUpper n) := by
  have : ∀ n, n < 16 → hexVal? (hexUpper n) = some n ∧ hexUpper n ≠ 32 ∧ hexUpper n ≠ 43 ∧ hexUpper n ≠ 38 ∧
      hexUpper n ≠ 61 ∧ hexUpper n < 128 := by decide
  obtain ⟨h1, h2, h3, h4, h5, h6⟩ := this n h
  exact ⟨⟨h4, h5, h6⟩, h1, h2, h3⟩

theorem pct_eq (b : UInt8) : pct b = [37, hexUpper (b.toNat / 16), hexUpper (b.toNat % 16)] := rfl

theorem div16_lt (b : UInt8) : b.toNat / 16 < 16 := by
  have := b.toNat_lt; omega

theorem mod16_lt (b : UInt8) : b.toNat % 16 < 16 := Nat.mod_lt _ (by omega)

theorem encPlus_bytes {safe : Bytes} (hs : SafeOk safe) (b x : UInt8) (hx : x ∈ encPlus safe b) :
    QByte x := by
  unfold encPlus at hx
  split at hx
  · simp at hx; subst hx; exact ⟨by decide, by decide, by decide⟩
  · split at hx
    · rename_i hk
      simp at hx; subst hx
      refine ⟨?_, ?_, ?_⟩
      · intro h; subst h; rw [hs.2.2.1] at hk; simp at hk
      · intro h; subst h; rw [hs.2.2.2] at hk; simp at hk
      · -- kept bytes are ASCII: always-safe ones by the table, the others by definition
        unfold kept at hk
        simp only [Bool.or_eq_true, Bool.and_eq_true, decide_eq_true_eq] at hk
        rcases hk with hk | hk
        · have ha : Gen.Urlencode.alwaysSafe.length = 256 := by decide +kernel
          have h2 := getD_sweep (t := Gen.Urlencode.alwaysSafe) (d := false)
            (q := fun b n => !b || decide (n < 128)) (by decide +kernel) (by rw [ha]; exact x.toNat_lt)
          rw [show Gen.Urlencode.alwaysSafe.getD x.toNat false = true from hk] at h2
          exact UInt8.lt_iff_toNat_lt.2 (of_decide_eq_true h2)
        · exact hk.1
    · rw [pct_eq] at hx
      simp at hx
      rcases hx with rfl | rfl | rfl
      · exact ⟨by decide, by decide, by decide⟩
      · exact (hexUpper_digit _ (div16_lt b)).toQByte
      · exact (hexUpper_digit _ (mod16_lt b)).toQByte

theorem kept_append_space {safe : Bytes} {b : UInt8} (hb : b ≠ 32) :
    kept (safe ++ [32]) b = kept safe b := by
  unfold kept
  have : (safe ++ [32]).contains b = safe.contains b := by
    simp [List.contains_eq_mem, hb]
  rw [this]

theorem kept_space (safe : Bytes) : kept (safe ++ [32]) 32 = true := by
  unfold kept; simp

theorem quotePlus_eq_flatMap (safe bs : Bytes) : quotePlus safe bs = bs.flatMap (encPlus safe) := by
  unfold quotePlus
  split
  · unfold quoteFromBytes
    rw [List.map_flatMap]
    congr 1
    funext b
    unfold encPlus
    by_cases hb : b = 32
    · subst hb; simp [kept_space]
    · have hb' : (b == 32) = false := by simp [hb]
      rw [kept_append_space hb, hb']
      simp only [Bool.false_eq_true, if_false]
      split
      · simp [hb]
      · rw [pct_eq]
        simp [(hexUpper_digit _ (div16_lt b)).ne_space, (hexUpper_digit _ (mod16_lt b)).ne_space]
  · rename_i hc
    unfold quoteFromBytes
    have hall : ∀ b ∈ bs, b ≠ 32 := by
      intro b hb h; subst h
      exact hc (List.contains_iff_mem.2 hb)
    clear hc
    induction bs with
    | nil => rfl
    | cons b t ih =>
      simp only [List.flatMap_cons]
      rw [ih (fun x hx => hall x (by simp [hx]))]
      congr 1
      unfold encPlus
      have : (b == 32) = false := by simp [hall b (by simp)]
      rw [this]; simp

theorem unquoteBytes_cons_ne {c : UInt8} (rest : Bytes) (h : c ≠ 37) :
    unquoteBytes (c :: rest) = c :: unquoteBytes rest := by
  have hc : (c == 37) = false := by simp [h]
  match rest with
  | [] => simp [unquoteBytes]
  | [a] => simp [unquoteBytes]
  | a :: b :: t => simp [unquoteBytes, hc]

theorem unquoteBytes_pct {a b : UInt8} {x y : Nat} (t : Bytes) (ha : hexVal? a = some x)
    (hb : hexVal? b = some y) :
    unquoteBytes (37 :: a :: b :: t) = UInt8.ofNat (16 * x + y) :: unquoteBytes t := by
  simp [unquoteBytes, ha, hb]

theorem p2s_map_encPlus {safe : Bytes} (hs : SafeOk safe) (b : UInt8) (rest : Bytes) :
    unquoteBytes ((encPlus safe b).map p2s ++ rest) = b :: unquoteBytes rest := by
  unfold encPlus
  by_cases hb : b = 32
  · subst hb; simp [p2s, unquoteBytes_cons_ne]
  · have hb' : (b == 32) = false := by simp [hb]
    rw [hb']
    simp only [Bool.false_eq_true, if_false]
    split
    · rename_i hk
      have h37 : b ≠ 37 := by intro h; subst h; rw [hs.1] at hk; simp at hk
      have h43 : b ≠ 43 := by intro h; subst h; rw [hs.2.1] at hk; simp at hk
      simp [p2s, h43, unquoteBytes_cons_ne _ h37]
    · rw [pct_eq]
      have h1 := hexUpper_digit _ (div16_lt b)
      have h2 := hexUpper_digit _ (mod16_lt b)
      simp only [List.map_cons, List.map_nil, List.cons_append, List.nil_append]
      have e1 : p2s 37 = 37 := by decide
      have e2 : p2s (hexUpper (b.toNat / 16)) = hexUpper (b.toNat / 16) := by
        simp [p2s, h1.ne_plus]
      have e3 : p2s (hexUpper (b.toNat % 16)) = hexUpper (b.toNat % 16) := by
        simp [p2s, h2.ne_plus]
      rw [e1, e2, e3, unquoteBytes_pct _ h1.val h2.val, Nat.div_add_mod]
      simp

theorem unquoteBytes_quotePlus {safe : Bytes} (hs : SafeOk safe) (bs : Bytes) :
    unquoteBytes ((quotePlus safe bs).map p2s) = bs := by
  rw [quotePlus_eq_flatMap, List.map_flatMap]
  have := flatMap_decode (enc := fun b => (encPlus safe b).map p2s) (dec := unquoteBytes) (f := id) (l := bs)
    (fun a _ rest => p2s_map_encPlus hs a rest) []
  simpa [unquoteBytes] using this

theorem quotePlus_bytes {safe : Bytes} (hs : SafeOk safe) (bs : Bytes) (x : UInt8)
    (hx : x ∈ quotePlus safe bs) : QByte x := by
  rw [quotePlus_eq_flatMap] at hx
  rcases List.mem_flatMap.1 hx with ⟨b, _, hb⟩
  exact encPlus_bytes hs b x hb

theorem asciiStr_cons (b : UInt8) (t : Bytes) : asciiStr (b :: t) = Char.ofNat b.toNat :: asciiStr t := rfl
theorem asciiStr_append (a b : Bytes) : asciiStr (a ++ b) = asciiStr a ++ asciiStr b := by
  simp [asciiStr]

theorem decodeUrlQuote_nil : decodeUrlQuote [] = [] := by decide

theorem decodeUrlQuote_utf8Enc (s : Str) : decodeUrlQuote (utf8Enc s) = s := by
  simp [decodeUrlQuote, utf8Dec_utf8Enc]

theorem unquoteGo_ascii (bs : Bytes) : ∀ acc : Bytes, (∀ x ∈ bs, x < 128) →
    unquoteGo acc (asciiStr bs) = flushRun (bs.reverse ++ acc) := by
  induction bs with
  | nil => intro acc _; simp [asciiStr, unquoteGo]
  | cons b t ih =>
    intro acc h
    have hb : b < 128 := h b (by simp)
    have hlt : (Char.ofNat b.toNat).toNat < 128 := by
      rw [byteChar_toNat]; exact UInt8.lt_iff_toNat_lt.1 hb
    rw [asciiStr_cons]
    simp only [unquoteGo, hlt, if_true]
    rw [byteChar_toNat, UInt8.ofNat_toNat, ih _ (fun x hx => h x (by simp [hx]))]
    simp

theorem unquote_ascii (bs : Bytes) (h : ∀ x ∈ bs, x < 128) :
    unquote (asciiStr bs) = decodeUrlQuote (unquoteBytes bs) := by
  unfold unquote
  rw [unquoteGo_ascii bs [] h]
  simp only [List.append_nil, flushRun]
  cases bs with
  | nil => simp [unquoteBytes, decodeUrlQuote_nil]
  | cons b t => simp

theorem plusToSpace_ascii (bs : Bytes) : plusToSpace (asciiStr bs) = asciiStr (bs.map p2s) := by
  induction bs with
  | nil => rfl
  | cons b t ih =>
    simp only [asciiStr_cons, plusToSpace, List.map_cons] at ih ⊢
    rw [ih]
    congr 1
    by_cases hb : b = 43
    · subst hb; decide
    · have hne : Char.ofNat b.toNat ≠ '+' := by
        intro h
        have : Char.ofNat b.toNat = Char.ofNat (43 : UInt8).toNat := by rw [h]; decide
        exact hb (byteChar_inj this)
      simp [hne, p2s, hb]

theorem p2s_lt {x : UInt8} (h : x < 128) : p2s x < 128 := by
  unfold p2s; split
  · decide
  · exact h

theorem unquote_quotePlusStr {safe : Bytes} (hs : SafeOk safe) (s : Str) :
    unquote (plusToSpace (asciiStr (quotePlusStr safe s))) = s := by
  rw [plusToSpace_ascii, unquote_ascii]
  · unfold quotePlusStr
    rw [unquoteBytes_quotePlus hs, decodeUrlQuote_utf8Enc]
  · intro x hx
    rcases List.mem_map.1 hx with ⟨y, hy, rfl⟩
    exact p2s_lt (quotePlus_bytes hs _ y hy).ascii

def joinS (sep : Char) : List Str → Str
  | [] => []
  | [x] => x
  | x :: y :: t => x ++ sep :: joinS sep (y :: t)

theorem splitOn_no_sep {sep : Char} {x : Str} (h : sep ∉ x) : splitOn sep x = [x] := by
  induction x with
  | nil => rfl
  | cons c t ih =>
    have hc : (c == sep) = false := by
      simp; intro he; subst he; exact h (by simp)
    simp only [splitOn, hc]
    rw [ih (fun hm => h (by simp [hm]))]
    simp

theorem splitOn_append_sep {sep : Char} {x : Str} (r : Str) (h : sep ∉ x) :
    splitOn sep (x ++ sep :: r) = x :: splitOn sep r := by
  induction x with
  | nil => simp [splitOn]
  | cons c t ih =>
    have hc : (c == sep) = false := by
      simp; intro he; subst he; exact h (by simp)
    simp only [List.cons_append, splitOn, hc]
    rw [ih (fun hm => h (by simp [hm]))]
    simp

theorem splitOn_joinS {sep : Char} (ps : List Str) (hne : ps ≠ []) (h : ∀ p ∈ ps, sep ∉ p) :
    splitOn sep (joinS sep ps) = ps := by
  induction ps with
  | nil => exact absurd rfl hne
  | cons x t ih =>
    cases t with
    | nil => simpa [joinS] using splitOn_no_sep (h x (by simp))
    | cons y t =>
      simp only [joinS]
      rw [splitOn_append_sep _ (h x (by simp)), ih (by simp) (fun p hp => h p (by simp [hp]))]

theorem asciiStr_joinWith (ps : List Bytes) :
    asciiStr (joinWith 38 ps) = joinS '&' (ps.map asciiStr) := by
  induction ps with
  | nil => rfl
  | cons x t ih =>
    cases t with
    | nil => rfl
    | cons y t =>
      simp only [joinWith, List.map_cons, joinS] at ih ⊢
      rw [asciiStr_append, asciiStr_cons, ih]
      rfl

theorem mem_asciiStr {c : Char} {bs : Bytes} (h : c ∈ asciiStr bs) : ∃ b ∈ bs, c = Char.ofNat b.toNat := by
  simp only [asciiStr, List.mem_map] at h
  rcases h with ⟨b, hb, rfl⟩
  exact ⟨b, hb, rfl⟩

theorem byteChar_not_mem {bs : Bytes} (x0 : UInt8) (h : ∀ x ∈ bs, x ≠ x0) :
    Char.ofNat x0.toNat ∉ asciiStr bs := by
  intro hm
  rcases mem_asciiStr hm with ⟨b, hb, he⟩
  exact h b hb (byteChar_inj he.symm)

theorem takeWhile_ne_eq (a b : Bytes) (h : ∀ x ∈ a, x ≠ 61) :
    (asciiStr (a ++ 61 :: b)).takeWhile (· != '=') = asciiStr a ∧
    (asciiStr (a ++ 61 :: b)).dropWhile (· != '=') = '=' :: asciiStr b := by
  rw [asciiStr_append, asciiStr_cons]
  exact takeWhile_ne_append (asciiStr b) (byteChar_not_mem 61 h)

/-- `key=value`, both quoted: one piece of what `urlencode` writes -/
def encPair (safe : Bytes) (kv : Str × Str) : Bytes := quotePlusStr safe kv.1 ++ 61 :: quotePlusStr safe kv.2

theorem urlencode_eq (safe : Bytes) (items : List (Str × Str)) :
    urlencode safe items = joinWith 38 (items.map (encPair safe)) := rfl

theorem encPair_ne_amp {safe : Bytes} (hs : SafeOk safe) (kv : Str × Str) : ∀ x ∈ encPair safe kv, x ≠ 38 := by
  intro x hx
  simp only [encPair, List.mem_append, List.mem_cons] at hx
  rcases hx with hx | rfl | hx
  · exact (quotePlus_bytes hs _ x hx).ne_amp
  · decide
  · exact (quotePlus_bytes hs _ x hx).ne_amp

theorem parsePair_encPair {safe : Bytes} (hs : SafeOk safe) (kv : Str × Str) :
    parsePair true (asciiStr (encPair safe kv)) = some kv := by
  obtain ⟨k, v⟩ := kv
  obtain ⟨h1, h2⟩ := takeWhile_ne_eq (quotePlusStr safe k) (quotePlusStr safe v)
    fun x hx => (quotePlus_bytes hs _ x hx).ne_eq
  have hne : (asciiStr (quotePlusStr safe k ++ 61 :: quotePlusStr safe v)).isEmpty = false := by simp [asciiStr]
  unfold parsePair encPair
  simp only [hne, Bool.false_eq_true, if_false, h1, h2, Bool.or_true, if_true]
  rw [unquote_quotePlusStr hs, unquote_quotePlusStr hs]

theorem parseQsl_urlencode_lemma {safe : Bytes} (hs : SafeOk safe) (items : List (Str × Str)) :
    parseQsl true (asciiStr (urlencode safe items)) = items := by
  cases items with
  | nil => rfl
  | cons it rest =>
    have hne : (asciiStr (urlencode safe (it :: rest))).isEmpty = false := by
      rw [urlencode_eq]
      cases rest <;> simp [joinWith, encPair, asciiStr]
    unfold parseQsl
    rw [if_neg (by simp [hne]), urlencode_eq, asciiStr_joinWith, splitOn_joinS _ (by simp), List.map_map,
      List.filterMap_map]
    · induction (it :: rest) with
      | nil => rfl
      | cons a t ih => rw [List.filterMap_cons, Function.comp, Function.comp, parsePair_encPair hs, ih]
    · intro p hp
      simp only [List.map_map, List.mem_map] at hp
      obtain ⟨kv, _, rfl⟩ := hp
      exact byteChar_not_mem 38 (encPair_ne_amp hs kv)

theorem mem_joinWith {sep x : UInt8} : ∀ {ps : List Bytes}, x ∈ joinWith sep ps → x = sep ∨ ∃ p ∈ ps, x ∈ p
  | [], h => by simp [joinWith] at h
  | [p], h => Or.inr ⟨p, by simp, by simpa [joinWith] using h⟩
  | p :: q :: t, h => by
    simp only [joinWith, List.mem_append, List.mem_cons] at h
    rcases h with h | rfl | h
    · exact Or.inr ⟨p, by simp, h⟩
    · exact Or.inl rfl
    · rcases mem_joinWith (ps := q :: t) h with h | ⟨r, hr, hx⟩
      · exact Or.inl h
      · exact Or.inr ⟨r, by simp [hr], hx⟩

theorem urlencode_ascii {safe : Bytes} (hs : SafeOk safe) (items : List (Str × Str)) :
    ∀ x ∈ urlencode safe items, x < 128 := by
  intro x hx
  unfold urlencode at hx
  rcases mem_joinWith hx with rfl | ⟨p, hp, hxp⟩
  · decide
  · rcases List.mem_map.1 hp with ⟨kv, _, rfl⟩
    simp only [List.mem_append, List.mem_cons] at hxp
    rcases hxp with h | rfl | h
    · exact (quotePlus_bytes hs _ x h).ascii
    · decide
    · exact (quotePlus_bytes hs _ x h).ascii

theorem parseUrlencoded_urlencode {safe : Bytes} (hs : SafeOk safe) (items : List (Str × Str))
    (cl : Option Nat) (sched : List Nat) :
    parseUrlencoded none cl sched (urlencode safe items) = .ok items := by
  have hdec : utf8Dec? (urlencode safe items) = some (asciiStr (urlencode safe items)) := by
    have : utf8Enc (asciiStr (urlencode safe items)) = _ := Utf8Facts.utf8Enc_map_ofNat (urlencode_ascii hs items)
    rw [← this, utf8Dec_utf8Enc, this]
  simp only [parseUrlencoded, urlencodedRead, hdec, parseQsl_urlencode_lemma hs items]

end Wz.Urlencode
