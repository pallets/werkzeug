/-
Helper lemmas for `Props/C04T.lean`: the converter classes of `werkzeug/routing/converters.py` as translated
(`Gen/PyFns_Routing.lean`) against the routing model. The model carries lengths / digit counts as `Nat` and regex text as
`String`; the translation uses `Int` and `List Char`. What stands here bridges the two: `str(n)` and `sep.join(...)` in the
model's `String` form (`strOfInt_natCast`, `join_map_ofList`); the regex text and the attributes the translated `__init__`s
store (`unicode_init_eq`, `any_init_regex_eq`, `any_init_items_contains`, `numRegex`, `number_init_attrs`);
`BaseConverter.to_python` / `to_url` for the converters that inherit them (`InheritsBase`); and, at the end, the prelude's
`zfill` / `str(int)` against the model's own (`zfill_eq`, `strOfInt_head`: no generated definition is mentioned there).
-/
import WzVerif.Gen.PyFns_Routing
import WzVerif.Model.RoutingBuild
import WzVerif.Lemmas.PyFns_Prelude
namespace Wz.PyFnsEq.Conv
open Wz Wz.Pre Wz.Routing
open Gen.PyFns_Routing

theorem strOfInt_natCast (n : Nat) : String.ofList (Pre.strOfInt (n : Int)) = toString n := by
  rw [Pre.strOfInt_nat, String.ofList_toList]

theorem join_map_ofList (sep : List Char) (ws : List (List Char)) :
    Pre.join sep ws = ((String.ofList sep).intercalate (ws.map String.ofList)).toList := by
  rw [join_eq_intercalate, String.toList_intercalate, String.toList_ofList, List.map_map]
  congr 1
  induction ws with
  | nil => rfl
  | cons w t ih => simp

/-- the converters of the model whose class inherits `to_python` / `to_url` from `BaseConverter`
unchanged: `UnicodeConverter` (`string`, `default`) and `PathConverter` -/
def InheritsBase : Routing.Conv → Prop
  | .string .. => True
  | .path => True
  | _ => False

/-- `BaseConverter.to_python` (`return value`) is the model's `toPython` for the classes that do not override it, class by
class (in one statement: `C04T.base_to_python_eq`) -/
theorem base_to_python_string (mn : Nat) (mx len : Option Nat) (s : List Char) :
    toPython (.string mn mx len) s = some (.str (base_to_python s)) := rfl

theorem base_to_python_any (items : List (List Char)) (s : List Char) :
    toPython (.any items) s = some (.str (base_to_python s)) := rfl

theorem base_to_python_path (s : List Char) :
    toPython .path s = some (.str (base_to_python s)) := rfl

theorem base_to_url_eq (s : List Char) : base_to_url s = Routing.quote Routing.pathSafe s := by
  unfold base_to_url quoteL
  rfl

theorem base_to_url_toUrl (c : Routing.Conv) (hc : InheritsBase c) (v : Routing.Value) :
    toUrl c v = .ok (base_to_url (pyStr v)) := by
  cases c <;> simp [InheritsBase] at hc <;> simp [toUrl, base_to_url_eq]

theorem base_to_url_toUrl_str (c : Routing.Conv) (hc : InheritsBase c) (s : List Char) :
    toUrl c (.str s) = .ok (base_to_url s) := base_to_url_toUrl c hc (.str s)

theorem unicode_init_eq (mn : Nat) (mx len : Option Nat) :
    String.ofList (unicode_init () (mn : Int) (mx.map Int.ofNat) (len.map Int.ofNat))
      = (Routing.Conv.string mn mx len).regexText := by
  unfold unicode_init Routing.Conv.regexText
  cases len with
  | some n =>
    simp only [Option.map_some, id, String.ofList_append]
    rw [show (Int.ofNat n) = (n : Int) from rfl, strOfInt_natCast]
    rfl
  | none =>
    cases mx with
    | none =>
      simp only [Option.map_none, id, String.ofList_append]
      rw [strOfInt_natCast]
      rfl
    | some m =>
      simp only [Option.map_none, Option.map_some, id, String.ofList_append]
      rw [show (Int.ofNat m) = (m : Int) from rfl, strOfInt_natCast, strOfInt_natCast]
      rfl

theorem unicode_init_eq_toList (mn : Nat) (mx len : Option Nat) :
    unicode_init () (mn : Int) (mx.map Int.ofNat) (len.map Int.ofNat)
      = (Routing.Conv.string mn mx len).regexText.toList := by
  rw [← unicode_init_eq, String.toList_ofList]

/-- The regex text the translated `AnyConverter.__init__` stores in `self.regex`
(`(?:` + the `re.escape`d items joined by `|` + `)`) is the model's `Conv.regexText (.any items)`, for
every list of items (including the empty list and duplicates, which stay in the regex). -/
theorem any_init_regex_eq (items : List (List Char)) :
    String.ofList (any_init () items).2 = (Routing.Conv.any items).regexText := by
  unfold any_init Routing.Conv.regexText
  simp only [String.ofList_append]
  rw [join_map_ofList, String.ofList_toList, List.map_map]
  rfl

theorem any_init_regex_eq_toList (items : List (List Char)) :
    (any_init () items).2 = (Routing.Conv.any items).regexText.toList := by
  rw [← any_init_regex_eq, String.toList_ofList]

/-- `self.items` as stored by the translated `AnyConverter.__init__` is `set(items)` -/
theorem any_init_items (items : List (List Char)) :
    (any_init () items).1 = Pre.frozenset items := rfl

/-- `value in self.items` after the translated `AnyConverter.__init__` is `value in items`: the model's
`Conv.any items` keeps the argument list where the class keeps a set; membership agrees. -/
theorem any_init_items_contains (items : List (List Char)) (s : List Char) :
    (any_init () items).1.contains s = items.contains s := by
  rw [any_init_items, frozenset_contains]

theorem any_init_items_mem (items : List (List Char)) (s : List Char) :
    s ∈ (any_init () items).1 ↔ s ∈ items := by
  rw [any_init_items, frozenset_mem]

/-- the `self.regex` text the model's `Conv.regexText` gives a number converter whose class-level
regex is `cls` -/
def numRegex (cls : String) (signed : Bool) : String := (if signed then "-?" else "") ++ cls

/-- the attributes the translated `NumberConverter.__init__` stores besides `regex` are its arguments
(`fixed_digits`, `min`, `max`, `signed`), whatever the class-level regex -/
theorem number_init_attrs (r : List Char) (fixed : Int) (mn mx : Option Int) (signed : Bool) :
    (number_init r () fixed mn mx signed).2 = (fixed, mn, mx, signed) := by
  unfold number_init
  cases signed <;> rfl

example : String.ofList (unicode_init () 2 none none) = "[^/]{2,}" := by decide
example : String.ofList (unicode_init () 1 (some 5) none) = "[^/]{1,5}" := by decide
example : String.ofList (unicode_init () 1 (some 5) (some 3)) = "[^/]{3}" := by decide
example : String.ofList (any_init () ["a.b".toList, "c".toList]).2 = "(?:a\\.b|c)" := by decide
example : (any_to_url (any_init () ["a b".toList]).1 "a b".toList).toOption = some "a%20b".toList := by
  decide
example : (any_to_url (any_init () ["a".toList]).1 "b".toList).toOption = none := by decide
example : String.ofList (number_init (classRegex "int").toList () 0 none none true).1 = "-?\\d+" := by
  decide

end Wz.PyFnsEq.Conv

namespace Wz.PyFnsRouting
open Wz Wz.Pre Wz.Routing

/-- `s.zfill(w)` as modelled by the prelude (sign-aware for `-` and `+`) and by the routing model
(sign-aware for `-` only) agree on every text that does not start with `+` -/
theorem zfill_eq (w : Nat) (s : List Char) (h : s.head? ≠ some '+') :
    Pre.zfill s (w : Int) = Routing.zfill w s := by
  unfold Pre.zfill Routing.zfill
  have : ((w : Int) - (s.length : Int)).toNat = w - s.length := by omega
  rw [this]
  match s with
  | [] => rfl
  | c :: t =>
    by_cases h1 : c = '-'
    · subst h1; rfl
    · by_cases h2 : c = '+'
      · subst h2; simp at h
      · simp [h1, h2]

theorem strOfInt_head (i : Int) : (Pre.strOfInt i).head? ≠ some '+' := by
  unfold Pre.strOfInt
  cases i with
  | ofNat n =>
    rw [toString_ofNat_toList]
    intro hh
    exact absurd (toDigits_isDigit n '+' (List.mem_of_mem_head? hh)) (by decide)
  | negSucc n => rw [toString_negSucc_toList]; simp

end Wz.PyFnsRouting
