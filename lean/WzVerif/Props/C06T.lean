/-
C06T — functions of `werkzeug.http` and `werkzeug.datastructures.range` *as regenerated from the
source* by `tools/py2lean.py` (`Gen/PyFns_Http.lean`, `Gen/PyFns_HttpDict.lean`, `Gen/PyFns_Internal.lean`,
rewritten on every check run) are equal, for all inputs, to the hand-written model functions of
`Model/Http.lean` that the C06 round-trip theorems are about: `quote_header_value`,
`unquote_header_value`, `is_byte_range_valid`, `Range.to_header`, `parse_list_header`, `dump_header`
(list and dict), `dump_options_header`, `quote_etag`, `parse_set_header`, `_plain_int`, `parse_age`,
`dump_age`, `ContentRange.__init__`, `parse_content_range_header`; and C06's round trips restated on
the translated pairs. `_token_chars` enters through its membership test (`Http.isToken`, a table
regenerated from the live frozenset).
Property theorems, proved in place (helper lemmas: Lemmas/PyFns_Http.lean, Lemmas/PyFns_HttpList.lean,
Lemmas/PyFns_HttpDict.lean, Lemmas/PyFns_Prelude.lean).
-/
import WzVerif.Gen.PyFns_Http
import WzVerif.Gen.PyFns_HttpDict
import WzVerif.Gen.PyFns_Internal
import WzVerif.Lemmas.PyFnsEq_Internal
import WzVerif.Lemmas.PyFns_HttpDict
import WzVerif.Lemmas.PyFns_Http
import WzVerif.Lemmas.PyFns_HttpList
import WzVerif.Lemmas.Http
import WzVerif.Lemmas.HttpEtag
import WzVerif.Lemmas.HttpInt
namespace Wz.Props.C06T
open Wz Wz.Pre Wz.PyFnsHttp

/-- `quote_header_value(value, allow_token)` for a `str` value, as translated from the current
source (empty value, the `_token_chars.issuperset` shortcut, the two `replace` calls, the quotes),
returns exactly the model's `quoteHeaderValue`, for every text and both values of `allow_token`. -/
theorem quote_header_value_eq (v : List Char) (allow : Bool) :
    Gen.PyFns_Http.quote_header_value v allow = Http.quoteHeaderValue v allow := by
  unfold Gen.PyFns_Http.quote_header_value Http.quoteHeaderValue Http.escapeDq
  simp only [replace1_eq, Pre.issuperset]
  cases allow <;> by_cases h1 : v.isEmpty = true <;> by_cases h2 : v.all Http.isToken = true <;> simp [h1, h2]

/-- `unquote_header_value(value)`, as translated from the current source (`len(value) >= 2`,
`value[0] == value[-1] == '"'`, `value[1:-1]`, the two `replace` calls), never raises (the two
index operations are only reached for a text of at least two characters) and returns exactly the
model's `unquoteHeaderValue`, for every text. -/
theorem unquote_header_value_eq (v : List Char) :
    Gen.PyFns_Http.unquote_header_value v = .ok (Http.unquoteHeaderValue v) := by
  unfold Gen.PyFns_Http.unquote_header_value Http.unquoteHeaderValue Http.unescapeDq
  have := dq_step2 v (fun w => (.ok (Pre.replace (Pre.replace w ['\\', '\\'] ['\\']) ['\\', '"'] ['"']) : Except String Str))
    (fun w => .ok w) (fun x => .error x)
  simp only [replace2_eq] at this ⊢
  refine this.trans ?_
  cases Http.stripDq? v <;> rfl

/-- `is_byte_range_valid`, as translated from the current source, computes exactly the
`isByteRangeValid` of `Model/Http.lean` (the copy that `ContentRange` parsing and dumping use). -/
theorem is_byte_range_valid_eq (start stop length : Option Int) :
    Gen.PyFns_Http.is_byte_range_valid start stop length
      = Http.isByteRangeValid start stop length := by
  cases start <;> cases stop <;> cases length <;>
    simp only [Gen.PyFns_Http.is_byte_range_valid, Http.isByteRangeValid] <;> grind

/-- C06 `unquote_quote` on the translated definitions: un-quoting what the regenerated
`quote_header_value` produced gives the value back, for every text (quoted or left as a token). -/
theorem unquote_quote_translated (v : List Char) (allow : Bool) :
    Gen.PyFns_Http.unquote_header_value (Gen.PyFns_Http.quote_header_value v allow) = .ok v := by
  rw [quote_header_value_eq, unquote_header_value_eq, Http.unquote_quote_any]

/-- The `for begin, end in self.ranges` loop of `Range.to_header`, as translated from the current
source, appends to `ranges` the text of every pair (`begin-`, `-suffix`, `begin-last`), for every
list of pairs and every accumulator. -/
theorem range_to_header_loop_eq (rs : List (Int × Option Int)) : ∀ acc : List (List Char),
    Gen.PyFns_Http.range_to_header.loop1 rs acc = .fall (acc ++ rs.map item) := by
  intro acc
  rw [List.map_eq_flatMap]
  refine forLoop_append _ (fun p => [item p]) (fun _ => rfl) ?_ rs acc
  -- one turn of the loop appends the text of the pair
  rintro ⟨b, e⟩ rest acc
  rw [Gen.PyFns_Http.range_to_header.loop1]
  cases e <;> simp [item, strOfInt_eq]

/-- `Range.to_header()`, as translated from the current source of
`werkzeug/datastructures/range.py`, prints exactly what the model's `rangeToHeader` prints (the
dump side of C06's `range_roundtrip`), for every unit text and every list of pairs. -/
theorem range_to_header_eq (units : List Char) (rs : List (Int × Option Int)) :
    Gen.PyFns_Http.range_to_header units rs = Http.rangeToHeader ⟨units, rs⟩ := by
  unfold Gen.PyFns_Http.range_to_header Http.rangeToHeader
  have e : ([','] : Str) = ",".toList := by decide
  simp only [range_to_header_loop_eq, List.nil_append, e, join_intercalate]
  simp
  rfl

/-- The `for item in _parse_list_header(value)` loop of `parse_list_header`, as translated from the
current source (the guard `len(item) >= 2 and item[0] == item[-1] == '"'`, the slice `item[1:-1]`, the
append), never raises and appends to `result` every item with one pair of surrounding quotes removed
(`unq` = the model's `stripDq?` or the item itself), for every list of items and every accumulator. -/
theorem parse_list_header_loop_eq (items : List (List Char)) : ∀ acc : List (List Char),
    Gen.PyFns_Http.parse_list_header.loop1 items acc = .fall (acc ++ items.map unq) := by
  intro acc
  rw [List.map_eq_flatMap]
  refine forLoop_append _ (fun v => [unq v]) (fun _ => rfl) ?_ items acc
  -- one turn of the loop appends the unquoted item
  intro item rest acc
  rw [Gen.PyFns_Http.parse_list_header.loop1]
  have := dq_step item (fun v => Gen.PyFns_Http.parse_list_header.loop1 rest (acc ++ [v])) (fun x => .ret (.error x))
  simp at this ⊢
  exact this

/-- `parse_list_header(value)`, as translated from the current source (urllib's `parse_http_list`
enters as C06's hand model `parseHttpList`), never raises (`item[0]` / `item[-1]` are only reached
for an item of at least two characters) and returns exactly the model's `parseListHeader`, for
every text. -/
theorem parse_list_header_eq (v : List Char) :
    Gen.PyFns_Http.parse_list_header v = .ok (Http.parseListHeader v) := by
  unfold Gen.PyFns_Http.parse_list_header Http.parseListHeader
  simp only [parse_list_header_loop_eq, List.nil_append]
  rfl

/-- `dump_header(iterable)` for a list of `str`, as translated from the current source (the
`isinstance(iterable, dict)` test decided by the type, the comprehension over `quote_header_value`
- itself translated, with `allow_token` taken from the default in the source -, the `", "` join),
prints exactly the model's `dumpHeaderList`, for every list of texts. -/
theorem dump_header_list_eq (items : List (List Char)) :
    Gen.PyFns_Http.dump_header_list items = .ok (Http.dumpHeaderList items) := by
  unfold Gen.PyFns_Http.dump_header_list Http.dumpHeaderList
  have e : ([',', ' '] : Str) = ", ".toList := by decide
  simp only [quote_header_value_eq, e, join_intercalate]

/-- C06 `parseList_dump` on the translated definitions: parsing what the regenerated `dump_header`
printed gives the items back, for every list of texts. -/
theorem parse_list_dump_translated (items : List (List Char)) :
    (Gen.PyFns_Http.dump_header_list items >>= Gen.PyFns_Http.parse_list_header) = .ok items := by
  rw [dump_header_list_eq]
  show Gen.PyFns_Http.parse_list_header _ = _
  rw [parse_list_header_eq, Http.parseList_dump_any]

/-- The `for key, value in iterable.items()` loop of `dump_header` (dict branch), as translated from
the current source (`value is None` gives the bare key, `key[-1] == "*"` keeps the value unquoted,
otherwise `quote_header_value`), appends the text of every item (`dictItemText`) or raises the
IndexError of the first empty key with a value, for every list of pairs and every accumulator. -/
theorem dump_header_dict_loop_eq (d : List (List Char × Option (List Char))) : ∀ acc : List (List Char),
    Gen.PyFns_Http.dump_header_dict.loop1 d acc =
      match d.mapM dictItemText with
      | .ok items => .fall (acc ++ items)
      | .error e => .ret (.error e) := by
  intro acc
  rw [forLoop_mapM Gen.PyFns_Http.dump_header_dict.loop1 dictItemText (fun s => [s]) (fun _ => rfl) d ?_ acc]
  · cases d.mapM dictItemText <;> simp only [List.flatMap_singleton']
  -- one turn of the loop: the item's text is appended, or its IndexError leaves the function
  rintro ⟨key, value⟩ - rest acc
  rw [Gen.PyFns_Http.dump_header_dict.loop1]
  cases value with
  | none => rfl
  | some v =>
    refine (star_step key _ _ _).trans ?_
    simp only [dictItemText, kvText, quote_header_value_eq]
    cases key.getLast? with
    | none => rfl
    | some l => by_cases hl : l = '*' <;> simp [hl]

/-- `dump_header(iterable)` for a dict with `str | None` values, as translated from the current
source, prints - or raises IndexError for an empty key, exactly as - the model's `dumpHeaderDict`,
for every dict (given as its item list). -/
theorem dump_header_dict_eq (d : List (List Char × Option (List Char))) :
    Gen.PyFns_Http.dump_header_dict d = Http.dumpHeaderDict d := by
  rw [dumpHeaderDict_spec]
  unfold Gen.PyFns_Http.dump_header_dict
  simp only [Pre.dictItems, dump_header_dict_loop_eq, List.nil_append]
  have e : ([',', ' '] : Str) = ", ".toList := by decide
  cases h : d.mapM dictItemText with
  | error x => simp [bind, Except.bind]
  | ok items => simp only [bind, Except.bind, pure, Except.pure, e, join_intercalate]

/-- The `for key, value in options.items()` loop of `dump_options_header`, as translated from the
current source (`None` values skipped, `key[-1] == "*"`, `quote_header_value`), appends the model's
`optionSegment` of every pair, for every list of pairs and every accumulator. -/
theorem dump_options_header_loop_eq (d : List (List Char × Option (List Char))) : ∀ acc : List (List Char),
    Gen.PyFns_Http.dump_options_header.loop1 d acc =
      match d.mapM Http.optionSegment with
      | .ok segs => .fall (acc ++ segs.filterMap id)
      | .error e => .ret (.error e) := by
  intro acc
  rw [forLoop_mapM Gen.PyFns_Http.dump_options_header.loop1 Http.optionSegment Option.toList (fun _ => rfl) d ?_ acc]
  · cases d.mapM Http.optionSegment <;> simp only [filterMap_id_eq_flatMap]
  -- one turn of the loop: the segment is appended (a `None` value gives none), or its IndexError leaves the function
  rintro ⟨key, value⟩ - rest acc
  rw [Gen.PyFns_Http.dump_options_header.loop1]
  cases value with
  | none => simp [Http.optionSegment]
  | some v =>
    refine (star_step key _ _ _).trans ?_
    simp only [optionSegment_eq (key, some v), kvText, quote_header_value_eq]
    cases key.getLast? with
    | none => rfl
    | some l => by_cases hl : l = '*' <;> simp [hl, Except.map]

/-- `dump_options_header(header, options)`, as translated from the current source (the optional
leading header, the loop above, the `"; "` join), prints - or raises IndexError exactly as - the
model's `dumpOptionsHeader`, for every header (or None) and every options dict. -/
theorem dump_options_header_eq (header : Option (List Char)) (options : List (List Char × Option (List Char))) :
    Gen.PyFns_Http.dump_options_header header options = Http.dumpOptionsHeader header options := by
  unfold Gen.PyFns_Http.dump_options_header Http.dumpOptionsHeader
  have e : ([';', ' '] : Str) = "; ".toList := by decide
  cases header <;> simp only [Pre.dictItems, dump_options_header_loop_eq, List.nil_append] <;>
    cases h : options.mapM Http.optionSegment <;>
    simp only [bind, Except.bind, pure, Except.pure, e, join_intercalate, List.nil_append, List.cons_append]

/-- `quote_etag(etag, weak)`, as translated from the current source (the `'"' in etag` refusal, the
quotes, the `W/` prefix), equals the model's `quoteEtag` - value or ValueError - for every text and
both values of `weak`. -/
theorem quote_etag_eq (etag : List Char) (weak : Bool) :
    Gen.PyFns_Http.quote_etag etag weak = Http.quoteEtag etag weak := by
  unfold Gen.PyFns_Http.quote_etag Http.quoteEtag
  rw [contains_singleton]
  cases weak <;> simp

/-- C06 `etag_roundtrip` with the translated `quote_etag`: un-quoting what the regenerated function
printed gives `(etag, weak)` back for every tag without `"`. -/
theorem etag_roundtrip_translated (e : List Char) (weak : Bool) (hq : e.contains '"' = false) :
    (Gen.PyFns_Http.quote_etag e weak).map Http.unquoteEtag = .ok (some (e, weak)) := by
  rw [quote_etag_eq]; exact Http.unquote_quoteEtag e weak hq

example : ("a b".toList).contains '"' = false := by decide

/-- `parse_set_header(value)`, as translated from the current source (a missing or empty value
gives `HeaderSet(None)`, anything else `HeaderSet(parse_list_header(value))`; the result is the
`headers` argument handed to the constructor), never raises and hands over exactly the model's
`parseSetHeader` list, for every value including `None`. -/
theorem parse_set_header_eq (value : Option (List Char)) :
    Gen.PyFns_Http.parse_set_header value () =
      .ok (match value with
        | none => none
        | some v => if v.isEmpty then none else some (Http.parseSetHeader v)) := by
  unfold Gen.PyFns_Http.parse_set_header Http.parseSetHeader
  cases value with
  | none => rfl
  | some v => by_cases h : v.isEmpty = true <;> simp [h, parse_list_header_eq]

/-- `_plain_int`, as translated from the current source, is the prelude's `plainInt` (restated here
for the Content-Range proofs; see Props/C09T, C11T). -/
theorem plain_int_eq (v : List Char) : Gen.PyFns_Internal.plain_int v = Pre.plainInt v :=
  Pre.plain_int_eq v

/-- `parse_age(value)`, as translated from the current source (missing / empty value, `int(value)`
with `except ValueError`, the negative test, `timedelta(seconds=…)` with `except OverflowError`; the
timedelta is represented by its seconds), never raises and returns exactly the model's `parseAge`,
for every value including `None`. `int()` is C06's hand model `pyInt`. -/
theorem parse_age_eq (value : Option (List Char)) :
    Gen.PyFns_HttpDict.parse_age value =
      match value with
      | none => .ok none
      | some v => (Http.parseAge v).map (Option.map Int.ofNat) := by
  cases value with
  | none => rfl
  | some v =>
    unfold Gen.PyFns_HttpDict.parse_age Http.parseAge
    simp only [try_step_some (Http.pyInt_onlyRaises v)]
    split
    · rfl
    · cases Http.pyInt v with
      | error e => rfl
      | ok secs =>
        by_cases hn : secs < 0
        · simp only [hn, decide_true, if_true]; rfl
        · -- from 0 upwards `timedelta` overflows exactly above the model's bound
          have ht : Gen.PyFns_HttpDict.timedeltaSeconds secs =
              if secs.toNat > Gen.Http.timedeltaMaxSeconds then .error "OverflowError" else .ok secs := by
            unfold Gen.PyFns_HttpDict.timedeltaSeconds
            by_cases hm : secs.toNat > Gen.Http.timedeltaMaxSeconds <;> simp [hm] <;> omega
          simp only [hn, decide_false, Bool.false_eq_true, if_false, ht]
          by_cases hm : secs.toNat > Gen.Http.timedeltaMaxSeconds
          · simp only [hm, if_true]; rfl
          · simp only [hm, if_false]
            exact congrArg (fun n : Int => Except.ok (some n)) (Int.toNat_of_nonneg (by omega)).symm

/-- `dump_age(age)` for an `int` (or `None`), as translated from the current source: `None` stays
`None`, a negative age is the documented ValueError, anything else prints as the model's `dumpAge`. -/
theorem dump_age_eq (age : Option Int) :
    Gen.PyFns_HttpDict.dump_age age =
      match age with
      | none => .ok none
      | some n => if n < 0 then .error "ValueError" else .ok (some (Http.dumpAge n.toNat)) := by
  cases age with
  | none => rfl
  | some n =>
    unfold Gen.PyFns_HttpDict.dump_age Http.dumpAge
    by_cases h : n < 0
    · simp [h]
    · simp only [h, id, decide_false, Bool.false_eq_true, if_false, strOfInt_eq]
      obtain ⟨m, rfl⟩ := Int.eq_ofNat_of_zero_le (by omega : 0 ≤ n)
      rfl

/-- C06 `age_roundtrip` on the translated pair: parsing what the regenerated `dump_age` printed gives
the number of seconds back, for every age within timedelta's range. -/
theorem age_roundtrip_translated (n : Nat) (hn : n ≤ Gen.Http.timedeltaMaxSeconds) :
    (Gen.PyFns_HttpDict.dump_age (some (n : Int)) >>= Gen.PyFns_HttpDict.parse_age) = .ok (some (n : Int)) := by
  rw [dump_age_eq]
  have h : ¬ ((n : Int) < 0) := by omega
  simp only [h, if_false, bind, Except.bind, parse_age_eq, Int.toNat_natCast, Http.age_roundtrip_any n hn]
  rfl

example : (5 : Nat) ≤ Gen.Http.timedeltaMaxSeconds := by decide

/-- `ContentRange(units, start, stop, length)` (the constructor is pinned by the generator to
`self.on_update = on_update; self.set(start, stop, length, units)`; `set` is translated): the object
for a valid range, AssertionError otherwise. -/
theorem content_range_init_eq (u : Option (List Char)) (s e l : Option Int) :
    Gen.PyFns_HttpDict.content_range_init u s e l =
      if Http.isByteRangeValid s e l then .ok (u, s, e, l) else .error "AssertionError" := by
  unfold Gen.PyFns_HttpDict.content_range_init Gen.PyFns_HttpDict.content_range_set
  simp only [is_byte_range_valid_eq]
  by_cases h : Http.isByteRangeValid s e l = true <;> simp [h]

/-- `parse_content_range_header(value)`, as translated from the current source (`None`, the
`split(None, 1)` into units and range definition, `"/" in`, `split("/", 1)`, the `*` length or
`_plain_int`, the `*` range, `"-" in`, `split("-", 1)`, the two `_plain_int` calls in one `try`,
`is_byte_range_valid`, the `ContentRange` constructor with its assertion), never raises and returns
exactly the model's `parseContentRangeHeader` (`crTup` = the object's four attributes), for every
value including `None`. -/
theorem parse_content_range_header_eq (value : Option (List Char)) :
    Gen.PyFns_HttpDict.parse_content_range_header value () =
      match value with
      | none => .ok none
      | some v => (Http.parseContentRangeHeader v).map (Option.map crTup) := by
  cases value with
  | none => rfl
  | some v =>
    unfold Gen.PyFns_HttpDict.parse_content_range_header Http.parseContentRangeHeader
    have hv : (if (!v.isEmpty) = true then v else []) = v := by cases v <;> simp
    simp only [hv, splitWsOnce_eq, Pre.strip, Http.strip, plain_int_eq, is_byte_range_valid_eq, content_range_init_eq, contains_singleton,
      try_step_some (Http.splitWs2_onlyRaises _)]
    cases Http.splitWs2 (Py.strip v) with
    | error e => rfl
    | ok p =>
      obtain ⟨units, rangedef⟩ := p
      simp only []
      refine (split_step rangedef '/' _ _ _).trans ?_
      split
      · rfl
      · generalize (Http.partition '/' rangedef).1 = rng
        generalize (Http.partition '/' rangedef).2.2 = ls
        simp only [parseLength_eq]
        by_cases hl : ls = ['*']
        · subst hl
          have := cr_tail units rng none
          simp only [beq_self_eq_true, if_true, ok_bind] at this ⊢
          exact this
        · simp only [hl, beq_iff_eq, if_false]
          cases plainInt ls with
          | error e => rfl
          | ok l =>
            have := cr_tail units rng (some l)
            simp only [ok_bind, beq_iff_eq] at this ⊢
            exact this

example : Gen.PyFns_Http.quote_header_value "a\"b".toList true = "\"a\\\"b\"".toList := by decide

end Wz.Props.C06T
