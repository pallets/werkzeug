/-
C04 — URL building and matching are mutually inverse.

Model: converter `to_url` / `to_python`, `quote` with the safe sets found in the source,
`Rule.build` (`_compile_builder` with defaults folded), `suitable_for`, `build_compare_key` order,
`MapAdapter.build` (relative / external form), `_encode_query_vars` (`Model/RoutingBuild.lean`);
the server side of a built URL (`Model/RoutingRoundtrip.lean`).
Floats are modelled as positional decimal text: Python's float <-> text conversion is
correspondence-tested only (partial).
Helper lemmas: `Lemmas/RoutingQuote.lean` (quote / unquote), `RoutingNumber` (the `int` converter's text), `RoutingRender` and `RoutingBuildSide` (rule level), `RoutingMatch` and
`RoutingSelect` (map level), `RoutingReadBuilt` (URL text around the path), `RoutingFactory`.
-/
import WzVerif.Lemmas.RoutingQuote
import WzVerif.Lemmas.RoutingNumber
import WzVerif.Lemmas.RoutingBuildSide
import WzVerif.Lemmas.RoutingReadBuilt
import WzVerif.Gen.RoutingGlue
import WzVerif.Lemmas.RoutingFactory
namespace Wz.Props.C04
open Wz Wz.Routing

/-- the `safe=` literals of the three path-quoting call sites and of the query encoder are the model's -/
theorem quote_safe_sets_match_source :
    Gen.Routing.safeSites.contains ("routing/converters.py", "to_url", "quote", pathSafe) = true ∧
    Gen.Routing.safeSites.contains ("routing/rules.py", "_compile_builder", "quote", pathSafe) = true ∧
    Gen.Routing.safeSites.contains ("urls.py", "_urlencode", "urlencode", querySafe) = true := by
  decide +kernel

/-- **rule_build_returns_builder_result.** In the current source `Rule.build` hands back exactly what the
compiled builder returned (`self._build_unknown(**values)` / `self._build(**values)`, or `None` after a
`ValidationError`): no statement rewrites the built URL afterwards — the model's `Rule.build` is the
compiled builder (`buildSide` + query), nothing else. -/
theorem rule_build_returns_builder_result :
    Gen.RoutingGlue.ruleBuildReturns = ["self._build_unknown(**values)", "self._build(**values)", "None"] ∧
    Gen.RoutingGlue.ruleBuildOther = [] :=
  ⟨rfl, rfl⟩

/-- **build_order_source_pinned.** The three small decision functions behind rule selection are, in the
current source, the expressions the model transcribes: `build_compare_key` = (alias last, more
arguments first, more defaults first) — `Rule.buildCompareKey`; `suitable_for` — `Rule.suitableFor`;
`provides_defaults_for` — `providesDefaultsFor`. -/
theorem build_order_source_pinned :
    Gen.RoutingGlue.buildCompareKey =
      ["return (1 if self.alias else 0, -len(self.arguments), -len(self.defaults or ()))"] ∧
    Gen.RoutingGlue.suitableFor =
      ["if method is not None and self.methods is not None and (method not in self.methods): return False",
       "defaults = self.defaults or ()",
       "for key in self.arguments: if key not in defaults and key not in values: return False",
       "if defaults: for key, value in defaults.items(): if key in values and value != values[key]: return False",
       "return True"] ∧
    Gen.RoutingGlue.providesDefaultsFor =
      ["return bool(not self.build_only and self.defaults and (self.endpoint == rule.endpoint) and (self != rule) and (self.arguments == rule.arguments))"] :=
  ⟨rfl, rfl, rfl⟩

/-- **converter_overrides_pinned.** Which converter class defines which conversion, in the current
source: `to_python` / `to_url` are defined by `BaseConverter`, `NumberConverter` (the pair proved equal to
the model in `C04T`) and `UUIDConverter`, `to_url` alone by `AnyConverter`; `IntegerConverter` and
`FloatConverter` only set `regex` / `num_convert` — no other override exists (a new `to_url` on one of
the subclasses would change what `Conv.float` / `Conv.int` have to model). -/
theorem converter_overrides_pinned :
    Gen.RoutingGlue.converterClasses =
      [("ValidationError", ["ValueError"], [], []),
       ("BaseConverter", [], ["__init__", "__init_subclass__", "to_python", "to_url"], ["part_isolating", "regex", "weight"]),
       ("UnicodeConverter", ["BaseConverter"], ["__init__"], []),
       ("AnyConverter", ["BaseConverter"], ["__init__", "to_url"], []),
       ("PathConverter", ["BaseConverter"], [], ["part_isolating", "regex", "weight"]),
       ("NumberConverter", ["BaseConverter"], ["__init__", "signed_regex", "to_python", "to_url"], ["weight"]),
       ("IntegerConverter", ["NumberConverter"], [], ["regex"]),
       ("FloatConverter", ["NumberConverter"], ["__init__"], ["num_convert", "regex"]),
       ("UUIDConverter", ["BaseConverter"], ["to_python", "to_url"], ["regex"])] :=
  rfl

/-- **match_prelude_pinned.** What `MapAdapter.match` does to its arguments before the matcher runs, in the current
source: `update()`, defaults for path_info / query_args / websocket, `method.upper()`, the domain part (bound
subdomain unless host matching), and `path_part = "/" + path_info.lstrip("/")` — nothing else touches the path
(no case folding, no Unicode normalisation: the model's `matchAdapter` / `pathPart` work on the code points as given). -/
theorem match_prelude_pinned :
    Gen.RoutingGlue.matchPrelude =
      ["self.map.update()",
       "if path_info is None: path_info = self.path_info",
       "if query_args is None: query_args = self.query_args or {}",
       "method = (method or self.default_method).upper()",
       "if websocket is None: websocket = self.websocket",
       "domain_part = self.server_name",
       "if not self.map.host_matching and self.subdomain is not None: domain_part = self.subdomain",
       "path_part = f'/{path_info.lstrip('/')}' if path_info else ''"] :=
  rfl

/-- **unquote_quote.** Percent-decoding (what a server does to the request path) undoes the quoting the
builder applies to literal rule text and to string / path values — for every text: Unicode, spaces,
`;?#%` and every other reserved character. -/
theorem unquote_quote (s : Str) : unquote (quote pathSafe s) = s := unquote_quote_pathSafe s

/-- **string** (any length options): every text round-trips; the regex sees the text itself. -/
theorem toPython_toUrl_string (mn : Nat) (mx ln : Option Nat) (s : Str) :
    ∃ u, toUrl (.string mn mx ln) (.str s) = .ok u ∧ unquote u = s ∧
      toPython (.string mn mx ln) (unquote u) = some (.str s) :=
  ⟨quote pathSafe s, rfl, unquote_quote_pathSafe s, by simp [toPython, unquote_quote_pathSafe]⟩

/-- **path**: every text round-trips (multi-segment paths included). -/
theorem toPython_toUrl_path (s : Str) :
    ∃ u, toUrl .path (.str s) = .ok u ∧ unquote u = s ∧ toPython .path (unquote u) = some (.str s) :=
  ⟨quote pathSafe s, rfl, unquote_quote_pathSafe s, by simp [toPython, unquote_quote_pathSafe]⟩

/-- **any**: every listed item round-trips — spaces, Unicode, `?`, `#`, `%41` included:
`AnyConverter.to_url` percent-quotes the item like every other text converter (the subject of F04a). -/
theorem toPython_toUrl_any (items : List Str) (s : Str) (hmem : s ∈ items) :
    ∃ u, toUrl (.any items) (.str s) = .ok u ∧ unquote u = s ∧ toPython (.any items) (unquote u) = some (.str s) := by
  refine ⟨quote pathSafe s, ?_, unquote_quote_pathSafe s, by simp [toPython, unquote_quote_pathSafe]⟩
  simp [toUrl, hmem]

-- non-vacuity, on the inputs of F04a (items with `?`, `#`, `%41`)
example : "a?b".toList ∈ ["a?b".toList, "%41".toList, "x#y".toList] ∧
    toUrl (.any ["a?b".toList, "%41".toList]) (.str "%41".toList) = .ok "%2541".toList := by
  constructor
  · decide
  · simp [toUrl]; decide +kernel

/-- **uuid**: canonical (lower-case) UUID text round-trips. -/
theorem toPython_toUrl_uuid (t : Str) (hlow : t.map lowerHex = t) (hp : '%' ∉ t) :
    ∃ u, toUrl .uuid (.uuid t) = .ok u ∧ unquote u = t ∧ toPython .uuid (unquote u) = some (.uuid t) :=
  ⟨t, rfl, unquote_noPercent t hp, by simp [toPython, unquote_noPercent t hp, hlow]⟩

example : "12345678-1234-5678-1234-567812345678".toList.map lowerHex = "12345678-1234-5678-1234-567812345678".toList ∧
    regexAccepts .uuid "12345678-1234-5678-1234-567812345678".toList = true := by
  repeat rw [String.toList_ofList]
  decide +kernel

/-- **int** — signed or not, with or without `fixed_digits` (zero padding), within `min` / `max`:
`to_python(unquote(to_url(i))) = i`. With `fixed_digits = n` the printed number must fit n characters
(`to_python` checks the length, sign included). -/
theorem toPython_toUrl_int (fixed : Nat) (signed : Bool) (mn mx : Option Int) (i : Int)
    (hfix : fixed = 0 ∨ (toString i).toList.length ≤ fixed)
    (hmn : ∀ m, mn = some m → m ≤ i) (hmx : ∀ m, mx = some m → i ≤ m) :
    ∃ u, toUrl (.int fixed signed mn mx) (.int i) = .ok u ∧ toPython (.int fixed signed mn mx) (unquote u) = some (.int i) := by
  by_cases hf : fixed = 0
  · refine ⟨(toString i).toList, by simp [toUrl, hf], ?_⟩
    rw [unquote_noPercent _ (percent_not_in_toString i),
      toPython_int_of_bounds _ _ _ _ _ (.inl hf) (by rwa [intOfText_toString]) (by rwa [intOfText_toString]),
      intOfText_toString]
  · have hlen := hfix.resolve_left hf
    have hval : intOfText (zfill fixed (toString i).toList) = i := by rw [intOfText_zfill, intOfText_toString]
    refine ⟨zfill fixed (toString i).toList, by simp [toUrl, hf], ?_⟩
    rw [unquote_noPercent _ (percent_not_in_zfill _ _ (percent_not_in_toString i)),
      toPython_int_of_bounds _ _ _ _ _ (.inr (zfill_length fixed _ hlen)) (by rwa [hval]) (by rwa [hval]), hval]

-- non-vacuity: -5 with fixed_digits = 3, signed, bounds -20 .. 50
example : (toString (-5 : Int)).toList.length ≤ 3 ∧ (-20 : Int) ≤ -5 ∧ (-5 : Int) ≤ 50 := by decide

/-- **float** (partial): positional decimal text in Python's own canonical spelling round-trips; that
`str(float)` produces that spelling and `float(text)` reads it back is Python's, not modelled. -/
theorem toPython_toUrl_float_partial (signed : Bool) (t : Str) (hcanon : normFloat (asciiNum t) = t) (hp : '%' ∉ t) :
    ∃ u, toUrl (.float signed none none) (.float t) = .ok u ∧
      toPython (.float signed none none) (unquote u) = some (.float t) :=
  ⟨t, rfl, by simp [toPython, unquote_noPercent t hp, hcanon]⟩

example : normFloat (asciiNum "-12.25".toList) = "-12.25".toList ∧ '%' ∉ "-12.25".toList := by decide +kernel

/-- **rule_build_match_partial.** For a rule of the property's grammar without subdomain rule
(`GramToks`: isolating converters, literals without '/', optionally one path converter followed by
literal text and slashes only): whatever URL path text `Rule.build` assembles from `values` (defaults
folded in), a server's percent-decoding of it is admitted DIRECTLY by the rule's own compiled parts,
and the groups the parts extract are exactly the decoded converter outputs `unquote(to_url(value))`, in
order — the texts `to_python` is then applied to (`toPython_toUrl_*`).
Hypotheses = the canonical domain: every `to_url` output is percent-quoted or free of '%'
(`UrlsClosed`: holds for string, path and any values by construction, for numbers and UUIDs because they contain no '%'); every decoded text is accepted by its converter's regex; the
values of isolating converters contain no '/'; a path value does not leave a '/' in front of the
rule's final slash (`PathTailOK`: paths not ending with '/'). -/
theorem rule_build_match_partial (r : Rule) (values : List (Str × Value)) {pp : List Part} {pc : List (Str × Conv)} {u : Str}
    (hparts : r.parts = .static [] :: pp) (hparse : parseRule r.pathToks = some (pp, pc))
    (hgram : GramToks r.pathToks)
    (hbuild : buildSide r values (traceToks r.pathToks) = .ok u)
    (hclosed : UrlsClosed r values r.pathToks)
    (hdom : ∀ ts, valueTexts r values r.pathToks = some ts →
      IsoNoSlash r.pathToks ts ∧ PathTailOK r.pathToks ts ∧ AllAccept ((tokConvs r.pathToks).map Conv.kind) ts) :
    ∃ ts, valueTexts r values r.pathToks = some ts ∧
      walkVia .direct r.parts (segments [] (unquote u)) = some ts ∧
      admitsGroups r (segments [] (unquote u)) = some ts := by
  obtain ⟨ts, text, hts, hrender, hcl⟩ := buildSide_closed r values r.pathToks hbuild hclosed
  obtain ⟨hns, htail, hacc⟩ := hdom ts hts
  have hw := parse_render_admits_gram r.pathToks {} none ts PendOK.init hgram htail hparse hrender hns hacc
  simp only [pendText, List.nil_append, Option.getD_none, List.append_nil, Option.toList_none] at hw
  rw [← hcl.unquote] at hw
  have hfull : walkVia .direct r.parts (segments [] (unquote u)) = some ts := by
    rw [hparts, segments]
    have := walkVia_cons_of_step (via := .direct) (p := .static []) (a := []) (rem := splitOn '/' (unquote u))
      (input := [] :: splitOn '/' (unquote u)) (by simp [step_static]) hw
    simpa using this
  exact ⟨ts, hts, hfull, admitsGroups_of_walkVia hfull rfl⟩

def exSpec : RuleSpec :=
  { toks := [.slash, .lit "r".toList, .slash, .lit "id-".toList, .var (.int 3 true none none) "n".toList, .lit ".html".toList,
             .slash, .var (.string 1 none none) "s".toList, .slash],
    endpoint := "e".toList }

def exValues : List (Str × Value) := [("n".toList, .int (-5)), ("s".toList, .str "a b;?#%é".toList)]

def exSpecPath : RuleSpec :=
  { toks := [.slash, .lit "w".toList, .slash, .var (.string 1 none (some 2)) "l".toList, .slash, .lit "p-".toList,
             .var .path "rest".toList, .lit ".txt".toList, .slash, .lit "edit".toList, .slash],
    endpoint := "w".toList }

def exValuesPath : List (Str × Value) := [("l".toList, .str "de".toList), ("rest".toList, .str "a b/ü/%2F".toList)]

-- non-vacuity: `/r/id-<int(fixed_digits=3, signed=True):n>.html/<string:s>/` with n = -5, s = 'a b;?#%é':
-- every hypothesis holds, the built text is '/r/id--05.html/a%20b;%3F%23%25%C3%A9/'
example : (match bindRule {} 0 exSpec with
    | some r =>
      (match r.parts, parseRule r.pathToks, buildSide r exValues (traceToks r.pathToks) with
       | .static [] :: pp, some (pp', _), .ok u =>
         pp == pp' && buildDomainGB r exValues && u == "/r/id--05.html/a%20b;%3F%23%25%C3%A9/".toList
       | _, _, _ => false)
    | none => false) = true := by
  repeat rw [String.toList_ofList]
  decide +kernel

-- ... and with a path converter in the middle of a branch rule:
-- `/w/<string(length=2):l>/p-<path:rest>.txt/edit/` with rest = 'a b/ü/%2F'
example : (match bindRule {} 0 exSpecPath with
    | some r =>
      (match r.parts, parseRule r.pathToks, buildSide r exValuesPath (traceToks r.pathToks) with
       | .static [] :: pp, some (pp', _), .ok u =>
         pp == pp' && buildDomainGB r exValuesPath && u == "/w/de/p-a%20b/%C3%BC/%252F.txt/edit/".toList
       | _, _, _ => false)
    | none => false) = true := by
  repeat rw [String.toList_ofList]
  decide +kernel

/-- **build_selects_suitable_rule.** Without host matching, the URL `MapAdapter.build` assembles is the
one `Rule.build` gives for a rule of the map that has the requested endpoint and is `suitable_for` the
values; its path text is what `buildSide` produces (plus the query string for unknown values). -/
theorem build_selects_suitable_rule {cfg : MapCfg} {a : Adapter} {rules : List Rule} {ep : Str} {values : List (Str × Value)}
    {method : Option Str} {au : Bool} (hhm : cfg.hostMatching = false) {d u : Str} {w : Bool}
    (h : partialBuild cfg a rules ep values method au = .ok (some (d, u, w))) :
    ∃ r ∈ rules, r.endpoint = ep ∧ (∃ mth, r.suitableFor values mth = true) ∧
      ∃ upath, buildSide r values (traceToks r.pathToks) = .ok upath ∧ (u = upath ∨ ∃ params, u = upath ++ '?' :: params) := by
  obtain ⟨r, hr, hep, hs, hb⟩ := partialBuild_some hhm h
  exact ⟨r, hr, hep, hs, rule_build_path hb⟩

/-- **match_build_partial.** On a map where no other rule admits the path in any way (non-overlapping
maps: e.g. pairwise distinct literal first segments, `walkVia_none_of_first_literal`), matching the
percent-decoded path a rule of the grammar built returns THAT rule, and the converted values are
exactly the values the path was built from, variable by variable (`builtPairs`), with the rule's
defaults added — `match(unquote(build(endpoint, values))) = (endpoint, values)`.
Hypotheses: the rule has no subdomain rule (`hbind`, `hnodom`); the canonical domain of
`rule_build_match_partial`; every variable round-trips through its converter (`VarsRoundTrip`, discharged
per converter by `toPython_toUrl_*`); the rule is fit for the request and is not an alias under
redirect_defaults. -/
theorem match_build_partial {cfg : MapCfg} {specs : List RuleSpec} {m : RMap} (hm : mkMap cfg specs = some m)
    {r : Rule} (hr : r ∈ m.rules) (hbo : r.spec.buildOnly = false) {i : Nat} {sp : RuleSpec}
    (hbind : bindRule cfg i sp = some r)
    (hnodom : (if cfg.hostMatching then sp.domain.getD [] else sp.domain.getD cfg.defaultSubdomain) = [])
    (values : List (Str × Value)) {u : Str}
    (hgram : GramToks r.pathToks)
    (hbuild : buildSide r values (traceToks r.pathToks) = .ok u)
    (hclosed : UrlsClosed r values r.pathToks)
    (hdom : ∀ ts, valueTexts r values r.pathToks = some ts →
      IsoNoSlash r.pathToks ts ∧ PathTailOK r.pathToks ts ∧ AllAccept ((tokConvs r.pathToks).map Conv.kind) ts)
    (hrt : VarsRoundTrip r values r.pathToks)
    {q : Req} (hok : ruleOK q r = true) (mg rd : Bool) (halias : (r.alias && rd) = false)
    (hothers : ∀ r' ∈ m.rules, r' ≠ r → ∀ via, walkVia via r'.parts (segments [] (unquote u)) = none) :
    matchSM m.root mg rd q [] (unquote u) = .ok r (dictUpdate (builtPairs r values r.pathToks) r.defaults) := by
  obtain ⟨pp, pc, hparts, hparse, hconvs⟩ := bindRule_nodomain hbind hnodom
  obtain ⟨ts, hts, hfull, _⟩ := rule_build_match_partial r values hparts hparse hgram hbuild hclosed hdom
  have hfound := search_unique hm hr hbo hok hfull hothers
  have hconv : convertValues r.convs ts = some (builtPairs r values r.pathToks) := by
    rw [hconvs, parseRule_convs hparse]; exact convert_built r values r.pathToks hts hrt
  rw [matchSM_of_found_convert hfound hconv, halias]; rfl

-- non-vacuity: the map of `exSpec` plus a rule with another first literal; all hypotheses hold for
-- the example values (round trip of each variable and "no other rule admits the path" included)
example : (match mkMap {} [exSpec, { toks := [.slash, .lit "other".toList, .slash, .var (.string 1 none none) "s".toList], endpoint := "o".toList }] with
    | some m =>
      (match m.rules with
       | [r, r'] =>
         (match buildSide r exValues (traceToks r.pathToks) with
          | .ok u =>
            buildDomainGB r exValues && ruleOK ⟨"GET".toList, false⟩ r && !r.alias &&
            [Via.direct, Via.trailing, Via.noslash].all (fun via => (walkVia via r'.parts (segments [] (unquote u))).isNone) &&
            (match matchSM m.root true true ⟨"GET".toList, false⟩ [] (unquote u) with
             | .ok r1 vals => r1.idx == 0 && vals == exValues
             | _ => false)
          | _ => false)
       | _ => false)
    | none => false) = true := by decide +kernel

/-- **match_build_url_partial.** `match_build_partial` on the full URL text `MapAdapter.build` returns.
Whatever form `build` chooses — relative (`script_root + path[?query]`) or external
(`[scheme:]//host + script_root + path[?query]`, forced or because the rule lives on another subdomain) —
a server reading that URL back (`readBuilt`: host -> subdomain of the adapter, script root stripped,
query / fragment cut, percent-decoding) and matching the resulting PATH_INFO gets the rule the URL was
built from, with exactly the built values plus the rule's defaults.
Additional hypotheses over `match_build_partial`: the adapter's script root is as `MapAdapter` stores it
(`ScriptOK`), host and server name are plain, the built text has no '?' / '#' (`UrlsNoCut`: true for
quoted text, numbers and UUIDs), the rule string starts with '/', and neither the built path nor its
decoding starts with '//'. -/
theorem match_build_url_partial {cfg : MapCfg} {specs : List RuleSpec} {m : RMap} (hm : mkMap cfg specs = some m)
    (hhm : m.cfg.hostMatching = false) {a : Adapter} (hs : ScriptOK a) (hserver : a.serverName ≠ [])
    {r : Rule} (hr : r ∈ m.rules) (hbo : r.spec.buildOnly = false) {i : Nat} {sp : RuleSpec}
    (hbind : bindRule cfg i sp = some r)
    (hnodom : (if cfg.hostMatching then sp.domain.getD [] else sp.domain.getD cfg.defaultSubdomain) = [])
    (values : List (Str × Value)) {ep : Str} {method : Option Str} {fe au : Bool} {dom u : Str} {w : Bool} {upath : Str}
    (hp : partialBuild m.cfg a m.rules ep values method au = .ok (some (dom, u, w)))
    (hb : r.build m.cfg values au = .ok (dom, u))
    (hgram : GramToks r.pathToks) (hslash : ∃ toks', r.pathToks = .slash :: toks')
    (hbuild : buildSide r values (traceToks r.pathToks) = .ok upath)
    (hclosed : UrlsClosed r values r.pathToks) (hnocut : UrlsNoCut r values r.pathToks)
    (hdom : ∀ ts, valueTexts r values r.pathToks = some ts →
      IsoNoSlash r.pathToks ts ∧ PathTailOK r.pathToks ts ∧ AllAccept ((tokConvs r.pathToks).map Conv.kind) ts)
    (hrt : VarsRoundTrip r values r.pathToks)
    (hsingle : ∀ t, upath = '/' :: t → t.head? ≠ some '/' ∧ (unquote t).head? ≠ some '/')
    (hhost : ∀ c ∈ getHost false a (some dom), c ≠ '/')
    {q : Req} (hok : ruleOK q r = true) (mg rd : Bool) (halias : (r.alias && rd) = false)
    (hothers : ∀ r' ∈ m.rules, r' ≠ r → ∀ via, walkVia via r'.parts (segments [] (unquote upath)) = none) :
    ∃ url pathInfo, adapterBuild m.cfg a m.rules ep values method fe au = .ok url ∧
      readBuilt m.cfg a url = some ({ a with subdomain := some dom }, pathInfo) ∧
      matchSM m.root mg rd q [] (pathPart pathInfo) = .ok r (dictUpdate (builtPairs r values r.pathToks) r.defaults) := by
  have _ := hserver -- not needed by the proof: the statement keeps it, a server binds a non-empty name
  obtain ⟨upath', hup', hform⟩ := rule_build_path hb
  obtain rfl : upath = upath' := by rw [hbuild] at hup'; injection hup'
  obtain ⟨toks', htoks⟩ := hslash
  obtain ⟨t, ht⟩ := buildSide_slash (htoks ▸ hbuild)
  obtain ⟨hthead, hdechead⟩ := hsingle t ht
  obtain ⟨url, pathInfo, hbuilt, hread, hpp⟩ := readBuilt_rule_path (fe := fe) hhm hs hp (ht ▸ hform) hhost
    (ht ▸ buildSide_noCut r values r.pathToks hbuild hnocut) hthead hdechead
  refine ⟨url, pathInfo, hbuilt, hread, ?_⟩
  -- the PATH_INFO the server reads is the decoded path the rule built
  rw [hpp, ← buildSide_slash_unquote (htoks ▸ ht ▸ hbuild) (htoks ▸ hclosed), ← ht]
  exact match_build_partial hm hr hbo hbind hnodom values hgram hbuild hclosed hdom hrt hok mg rd halias hothers

def adapterEx : Adapter :=
  { serverName := "example.org:8080".toList, scriptName := "/app/".toList, subdomain := some [], urlScheme := "https".toList,
    defaultMethod := "GET".toList, queryArgs := .none }

example : ScriptOK adapterEx :=
  ⟨by decide +kernel, by decide +kernel, by decide +kernel, by decide +kernel, by unfold noCut; decide +kernel⟩

-- non-vacuity of `match_build_url_partial`: on the map of `exSpec` + another rule, with an extra query value,
-- both the relative and the forced external URL read back and match to the rule with the built values
example : (match mkMap {} [exSpec, { toks := [.slash, .lit "other".toList, .slash, .var (.string 1 none none) "s".toList], endpoint := "o".toList }] with
    | some m =>
      let vals := exValues ++ [("q".toList, Value.str "x y".toList)]
      [false, true].all (fun fe =>
        match adapterBuild m.cfg adapterEx m.rules "e".toList vals none fe true with
        | .ok url =>
          (url == (if fe then "https://example.org:8080/app/r/id--05.html/a%20b;%3F%23%25%C3%A9/?q=x+y".toList
                   else "/app/r/id--05.html/a%20b;%3F%23%25%C3%A9/?q=x+y".toList)) &&
          (match readBuilt m.cfg adapterEx url with
           | some (a2, pathInfo) =>
             a2.subdomain == some [] &&
             (match matchSM m.root true true ⟨"GET".toList, false⟩ [] (pathPart pathInfo) with
              | .ok r1 vals' => r1.idx == 0 && vals' == exValues
              | _ => false)
           | none => false)
        | .error _ => false) &&
      (match m.rules with
       | [r, _] => (match buildSide r vals (traceToks r.pathToks) with
                    | .ok upath => upath.all (fun c => c != '?' && c != '#') && upath.take 2 != "//".toList
                    | _ => false)
       | _ => false)
    | none => false) = true := by
  repeat rw [String.toList_ofList]
  decide +kernel

/-- `MapAdapter.match` returns the matcher's rule unless `get_default_redirect` finds a sibling -/
theorem matchAdapter_of_ok {m : RMap} {a : Adapter} {p : Str} {meth : Option Str} {qa : QueryArgs} {ws : Option Bool}
    {r : Rule} {vals : List (Str × Value)}
    (hsm : matchSM m.root m.cfg.mergeSlashes m.cfg.redirectDefaults (reqOf a meth ws) (domainPartOf m.cfg a) (pathPart p) = .ok r vals)
    (hnored : m.cfg.redirectDefaults = true →
      getDefaultRedirect m a r (reqOf a meth ws).method vals (effQa a qa) (rulesByEndpoint m.rules r.endpoint) = .ok none) :
    matchAdapter m a p meth qa ws = .matched r vals := by
  simp only [matchAdapter, hsm]
  cases hrd : m.cfg.redirectDefaults with
  | false => simp
  | true => simp [hnored hrd]

/-- **match_build_adapter_partial.** The law on whole URLs at the level of the public API:
`MapAdapter.match` (bound the way a server binds it for the URL `MapAdapter.build` returned: host ->
subdomain, script root stripped, path percent-decoded) returns `matched r values` for the rule the URL
was built from — under the hypotheses of `match_build_url_partial`, and provided no rule of the endpoint
that precedes `r` in build order provides defaults for `r` and is suitable for the matched values
(`hnored`, stated as "`get_default_redirect` finds nothing"; with `redirect_defaults` off there is nothing to
assume). That proviso is not an artefact: `match_build_crossed_defaults_false` (F04c) below. -/
theorem match_build_adapter_partial {cfg : MapCfg} {specs : List RuleSpec} {m : RMap} (hm : mkMap cfg specs = some m)
    (hhm : m.cfg.hostMatching = false) {a : Adapter} (hs : ScriptOK a) (hserver : a.serverName ≠ [])
    {r : Rule} (hr : r ∈ m.rules) (hbo : r.spec.buildOnly = false) {i : Nat} {sp : RuleSpec}
    (hbind : bindRule cfg i sp = some r)
    (hnodom : (if cfg.hostMatching then sp.domain.getD [] else sp.domain.getD cfg.defaultSubdomain) = [])
    (values : List (Str × Value)) {ep : Str} {method : Option Str} {fe au : Bool} {dom u : Str} {w : Bool} {upath : Str}
    (hp : partialBuild m.cfg a m.rules ep values method au = .ok (some (dom, u, w)))
    (hb : r.build m.cfg values au = .ok (dom, u))
    (hgram : GramToks r.pathToks) (hslash : ∃ toks', r.pathToks = .slash :: toks')
    (hbuild : buildSide r values (traceToks r.pathToks) = .ok upath)
    (hclosed : UrlsClosed r values r.pathToks) (hnocut : UrlsNoCut r values r.pathToks)
    (hdom : ∀ ts, valueTexts r values r.pathToks = some ts →
      IsoNoSlash r.pathToks ts ∧ PathTailOK r.pathToks ts ∧ AllAccept ((tokConvs r.pathToks).map Conv.kind) ts)
    (hrt : VarsRoundTrip r values r.pathToks)
    (hsingle : ∀ t, upath = '/' :: t → t.head? ≠ some '/' ∧ (unquote t).head? ≠ some '/')
    (hhost : ∀ c ∈ getHost false a (some dom), c ≠ '/')
    (meth : Option Str) (qa : QueryArgs) (ws : Option Bool)
    (hok : ruleOK (reqOf a meth ws) r = true) (halias : (r.alias && m.cfg.redirectDefaults) = false)
    (hothers : ∀ r' ∈ m.rules, r' ≠ r → ∀ via, walkVia via r'.parts (segments [] (unquote upath)) = none)
    (hnored : m.cfg.redirectDefaults = true →
      getDefaultRedirect m { a with subdomain := some dom } r (reqOf a meth ws).method
        (dictUpdate (builtPairs r values r.pathToks) r.defaults) (effQa a qa) (rulesByEndpoint m.rules r.endpoint) = .ok none) :
    ∃ url pathInfo, adapterBuild m.cfg a m.rules ep values method fe au = .ok url ∧
      readBuilt m.cfg a url = some ({ a with subdomain := some dom }, pathInfo) ∧
      matchAdapter m { a with subdomain := some dom } pathInfo meth qa ws =
        .matched r (dictUpdate (builtPairs r values r.pathToks) r.defaults) := by
  obtain ⟨url, pathInfo, h1, h2, h3⟩ := match_build_url_partial (fe := fe) hm hhm hs hserver hr hbo hbind hnodom values hp hb hgram hslash
    hbuild hclosed hnocut hdom hrt hsingle hhost hok m.cfg.mergeSlashes m.cfg.redirectDefaults halias hothers
  refine ⟨url, pathInfo, h1, h2, ?_⟩
  -- the rule has no domain rule: the built domain part is empty
  have hdt := bindRule_domToks_nil hbind hnodom
  have hdomnil : dom = [] := rule_build_nodomain hb (by rw [(mkMap_built hm).cfg_eq]; exact hdt)
  apply matchAdapter_of_ok
  · have hdp : domainPartOf m.cfg { a with subdomain := some dom } = [] := by
      simp [domainPartOf, hhm, hdomnil]
    rw [hdp]
    exact h3
  · exact hnored

def specsF04c : List RuleSpec :=
  [ { toks := [.slash, .lit "a".toList, .slash, .var (.int 0 false none none) "x".toList, .slash], endpoint := "e".toList,
      defaults := [("y".toList, .int 1)] },
    { toks := [.slash, .lit "b".toList, .slash, .var (.int 0 false none none) "y".toList], endpoint := "e".toList,
      defaults := [("x".toList, .int 2)] } ]

/-- **F04c (witness): `hnored` is needed on the unchanged code.** `Map([Rule('/a/<int:x>/', endpoint='e',
defaults={'y': 1}), Rule('/b/<int:y>', endpoint='e', defaults={'x': 2})])` — distinct literal first
segments, equal argument sets, crossed variable / default arguments: `build('e', {'y': 1})` is `/b/1`
(the only rule suitable for the given values); `match('/b/1')` converts to `{'y': 1, 'x': 2}`, for which
the first rule now "provides defaults", and answers with a redirect to `/a/2/` instead of the match.
The target denotes the same endpoint and arguments (C12), but build -> match is not the identity. -/
theorem match_build_crossed_defaults_false :
    (match mkMap {} specsF04c with
     | some m =>
       let a : Adapter := { serverName := "example.org".toList, scriptName := "/".toList, subdomain := some [],
                            urlScheme := "http".toList, defaultMethod := "GET".toList, queryArgs := .none }
       (match adapterBuild m.cfg a m.rules "e".toList [("y".toList, Value.int 1)] none false true with
        | .ok u =>
          u == "/b/1".toList &&
          (match matchAdapter m a u none .none none with
           | .redirect url => url == "http://example.org/a/2/".toList
           | _ => false) &&
          (match matchAdapter m a "/a/2/".toList none .none none with
           | .matched r vals => r.idx == 0 && vals == [("x".toList, Value.int 2), ("y".toList, Value.int 1)]
           | _ => false)
        | .error _ => false)
     | none => false) = true := by decide +kernel

-- non-vacuity of `match_build_adapter_partial`'s proviso: on the map of `exSpec` + another rule nothing provides defaults
example : (match mkMap {} [exSpec, { toks := [.slash, .lit "other".toList, .slash, .var (.string 1 none none) "s".toList], endpoint := "o".toList }] with
    | some m =>
      (match m.rules with
       | [r, _] =>
         (match getDefaultRedirect m adapterEx r "GET".toList (dictUpdate (builtPairs r exValues r.pathToks) r.defaults) .none
                  (rulesByEndpoint m.rules r.endpoint) with
          | .ok none => true
          | _ => false) &&
         (match matchAdapter m adapterEx "/r/id--05.html/a b;?#%é/".toList none .none none with
          | .matched r1 vals => r1.idx == 0 && vals == exValues
          | _ => false)
       | _ => false)
    | none => false) = true := by decide +kernel

/-- **build_match_fixpoint_partial (rule level).** Rebuilding a rule's path from what the match of its own
URL returns — the built values per variable plus the rule's defaults (`match_build_partial`) — gives the
same text: `build(match(build(values))) = build(values)` for the rule that was selected. -/
theorem build_match_fixpoint_partial (r : Rule) (values : List (Str × Value)) :
    buildSide r (dictUpdate (builtPairs r values r.pathToks) r.defaults) (traceToks r.pathToks) =
      buildSide r values (traceToks r.pathToks) :=
  buildSide_congr r _ values r.pathToks (fun n hn => buildValue_matched r values r.pathToks n hn)

def specsF04b : List RuleSpec :=
  [ { toks := [.slash, .lit "x".toList], endpoint := "e".toList, defaults := [("page".toList, .int 1)] },
    { toks := [.slash, .lit "y".toList, .slash, .var (.int 0 false none none) "page".toList], endpoint := "e".toList,
      defaults := [("lang".toList, .str "en".toList)] } ]

/-- **F04b (witness): the converse law fails at map level when an endpoint's rules have unequal argument
sets.** On the unchanged code, with `Map([Rule('/x', endpoint='e', defaults={'page': 1}),
Rule('/y/<int:page>', endpoint='e', defaults={'lang': 'en'})])` (distinct literal first segments):
`match('/x') = ('e', {'page': 1})`, and `build('e', {'page': 1}) = '/y/1'`, not `/x` — `build()` orders the
endpoint's rules by number of arguments first and `suitable_for` accepts the rule whose extra
argument is a default. `build_match_fixpoint_partial` is therefore about the rule that was selected;
re-selection needs the endpoint's rules to have equal argument sets. -/
theorem build_match_fixpoint_map_level_false :
    (match mkMap { redirectDefaults := false } specsF04b with
     | some m =>
       let a : Adapter := { serverName := "example.org".toList, scriptName := "/".toList, subdomain := some [],
                            urlScheme := "http".toList, defaultMethod := "GET".toList, queryArgs := .none }
       (match matchAdapter m a "/x".toList none .none none with
        | .matched r vals =>
          r.idx == 0 && vals == [("page".toList, Value.int 1)] &&
          (match adapterBuild m.cfg a m.rules r.endpoint vals none false true with
           | .ok u => u == "/y/1".toList
           | .error _ => false)
        | _ => false)
     | none => false) = true := by decide +kernel

/-! ### rule factories (`Submount`, `Subdomain`, `EndpointPrefix`, `RuleTemplate`)

`Model/RoutingFactory.lean` expands factories the way `get_rules` does (the `build-match` stream hands the
driver the inner rule + its factories and builds the nested factory objects on the real side). The
theorems say that the expansion commutes with compiling, matching and building. -/

/-- **submount_expansion.** `Submount(path, [rule])` yields a copy of the rule whose rule string is
`path.rstrip('/')` + the rule's; a trailing slash on the mount path makes no difference. The copy
(`Rule.empty()`) keeps defaults, subdomain / host, methods, build_only, endpoint, strict_slashes and alias —
and NOT `merge_slashes` / `websocket` (`get_empty_kwargs` does not hand them on: the copy takes the map's
merge setting and is never a websocket rule; `factory_copy_drops_merge_and_websocket`). -/
theorem submount_expansion (hm : Bool) (lits : List Str) (s : RuleSpec) :
    (Wrap.submount (mountToks lits)).apply hm s = .ok { s.emptyCopy with toks := mountToks lits ++ s.toks } ∧
    (Wrap.submount (mountToks lits ++ [.slash])).apply hm s = .ok { s.emptyCopy with toks := mountToks lits ++ s.toks } := by
  simp [Wrap.apply, rstripSlashToks_mount, rstripSlashToks_mount_slash]

/-- **submount_compile_commutes.** Compiling the mounted rule string (`_parse_rule`, with or without slash
merging) gives the inner rule's parts behind one static part per mount segment, and the same converters. -/
theorem submount_compile_commutes (lits : List Str) (toks' : List Tok) :
    parseRule (mountToks lits ++ .slash :: toks') =
      (parseToks toks' {}).map (fun pc => (.static [] :: (lits.map Part.static ++ pc.1), pc.2)) ∧
    parseRule (.slash :: toks') = (parseToks toks' {}).map (fun pc => (.static [] :: pc.1, pc.2)) ∧
    mergeSlashToks (mountToks lits ++ .slash :: toks') = mountToks lits ++ mergeSlashToks (.slash :: toks') := by
  refine ⟨?_, ?_, mergeSlashToks_mount lits _⟩
  · simp only [parseRule]; exact parseToks_mount lits toks'
  · have := parseToks_mount [] toks'
    simpa [parseRule, mountToks] using this

/-- **submount_match_commutes.** The mounted rule admits the path `mount + p` exactly when the inner rule
admits `p` — in each of the three ways (directly, with an extra final slash, lacking the final slash) —
and extracts the same converter groups; behind any one-segment domain part `d` (static subdomain /
host text or a converter segment). Mount segments contain no '/'. -/
theorem submount_match_commutes (via : Via) (d : Part) (lits : List Str) (hl : ∀ s ∈ lits, noSlash s)
    {toks' : List Tok} {ps : List Part} {cs : List (Str × Conv)} (hparse : parseToks toks' {} = some (ps, cs))
    (dom p : Str) (hd : ∀ xs, step d (dom :: xs) = (step d [dom]).map fun ar => (ar.1, xs)) :
    walkVia via (d :: .static [] :: (lits.map Part.static ++ ps)) (segments dom (mountText lits ++ '/' :: p)) =
      walkVia via (d :: .static [] :: ps) (segments dom ('/' :: p)) := by
  have _ := hparse -- not needed by the proof: it says that `ps` are the inner rule's parts
  simp only [segments, splitOn_mount lits hl p]
  have h0 : splitOn '/' ('/' :: p) = [] :: splitOn '/' p := by simp [splitOn]
  rw [h0]
  exact walkVia_submount via d lits ps dom (splitOn '/' p) hd

/-- **submount_build_commutes.** The mounted rule builds the (quoted) mount path followed by exactly what
the inner rule builds from the same values. -/
theorem submount_build_commutes (r : Rule) (values : List (Str × Value)) (lits : List Str) (toks : List Tok) :
    buildSide r values (traceToks (mountToks lits ++ toks)) =
      (buildSide r values (traceToks toks)).map fun u => (lits.flatMap fun s => '/' :: quote pathSafe s) ++ u := by
  rw [traceToks_append]; exact buildSide_mount r values lits _

/-- **endpoint_prefix_and_subdomain_expansion.** `EndpointPrefix` changes nothing but the endpoint (the same
rule string, hence the same parts, matches and URLs); `Subdomain` nothing but the subdomain rule — and nothing
at all under host matching, where the `host` of the rule is compiled instead. -/
theorem endpoint_prefix_and_subdomain_expansion (hm : Bool) (p : Str) (d : List Tok) (s : RuleSpec) :
    (Wrap.endpointPrefix p).apply hm s = .ok { s.emptyCopy with endpoint := p ++ s.endpoint } ∧
    (Wrap.subdomain d).apply false s = .ok { s.emptyCopy with domain := some d } ∧
    (Wrap.subdomain d).apply true s = .ok s.emptyCopy := by
  simp [Wrap.apply]

def specWs : RuleSpec :=
  { toks := [.slash, .lit "echo".toList], endpoint := "e".toList, websocket := true, merge := some false, methods := some ["GET".toList] }

/-- **factory_copy_drops_merge_and_websocket (witness).** On the unchanged code `Submount('/x', [Rule('/echo',
websocket=True, merge_slashes=False)])` yields an ordinary HTTP rule with the map's merge setting: a plain
`GET /x/echo` is matched. (Observed defect of `Rule.get_empty_kwargs`, outside the three property texts; the
model follows the code, the `build-match` stream compares.) -/
theorem factory_copy_drops_merge_and_websocket :
    (match (Wrap.submount (mountToks ["x".toList])).apply false specWs with
     | .ok s' =>
       s'.websocket == false && s'.merge == none &&
       (match mkMap {} [s'] with
        | some m =>
          (matchAdapter m { serverName := "example.org".toList, scriptName := "/".toList, subdomain := some [],
                            urlScheme := "http".toList, defaultMethod := "GET".toList, queryArgs := .none }
             "/x/echo".toList none .none none).isMatched
        | none => false)
     | .error _ => false) = true := by decide +kernel

-- non-vacuity of the commutation theorems: `Submount('/blog/', [Rule('/entry/<slug>')])` on the path `/blog/entry/a b`
example : (match (Wrap.submount (mountToks ["blog".toList] ++ [.slash])).apply false
              { toks := [.slash, .lit "entry".toList, .slash, .var (.string 1 none none) "slug".toList], endpoint := "show".toList } with
    | .ok s' =>
      (match mkMap {} [s'] with
       | some m =>
         let a : Adapter := { serverName := "example.org".toList, scriptName := "/".toList, subdomain := some [],
                              urlScheme := "http".toList, defaultMethod := "GET".toList, queryArgs := .none }
         (match matchAdapter m a "/blog/entry/a b".toList none .none none with
          | .matched _ vals => vals == [("slug".toList, Value.str "a b".toList)]
          | _ => false) &&
         (match adapterBuild m.cfg a m.rules "show".toList [("slug".toList, Value.str "a b".toList)] none false true with
          | .ok u => u == "/blog/entry/a%20b".toList
          | .error _ => false)
       | none => false)
    | .error _ => false) = true := by decide +kernel

/-- **template_expansion (witness).** `RuleTemplate([Rule('/$name/<int:id>', endpoint='$name.show', alias=True)])(name='user')`
yields `Rule('/user/<int:id>', endpoint='user.show')` — `string.Template` substitution in rule string and endpoint —
and drops `alias` (also `merge_slashes`, `websocket`, `host`: `RuleTemplateFactory` passes seven arguments on). -/
theorem template_expansion :
    (match (Wrap.template [("name".toList, "user".toList)]).apply false
        { toks := [.slash, .lit "$name".toList, .slash, .var (.int 0 false none none) "id".toList],
          endpoint := "${name}.show$$".toList, alias := true } with
     | .ok s' => decide (s' = { toks := [.slash, .lit "user".toList, .slash, .var (.int 0 false none none) "id".toList],
                                endpoint := "user.show$".toList, alias := false })
     | .error _ => false) = true := by
  decide +kernel

-- OPEN: build_match_fixpoint at map level - that `MapAdapter.build` selects the same rule again for the matched values - is
-- false in general (F04b, `build_match_fixpoint_map_level_false`; F04c's second face); `build_match_fixpoint_partial`
-- is the law for the selected rule. A sufficient syntactic condition (all rules of the endpoint have equal
-- argument sets and no crossed defaults) is not carried as a theorem; the stream `build-match` checks both laws on
-- the real code and on the model (oracle: match(unquote(build)) = (endpoint, values) and build(match(url)) = url).
-- Host-matching maps are outside `match_build_url_partial` (`hhm`); floats: canonical decimal text only.

end Wz.Props.C04
