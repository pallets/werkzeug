/-
The model's Python dict (`Wz.PyDict`, Model/Containers.lean: an association list in insertion order, `d[k] = x` replaces the
first entry of `k`, `del d[k]` erases it) on its own: lookups after writes, keys, distinct keys (`NodupKeys`); and its relation to
the dict of the translation prelude (`Wz.Pre.dict*`, Lemmas/PyDict.lean: written with `any` / `find?` / `map` / `filter` over ALL
entries). The lookups of the two agree on every association list; the writes agree when the key occurs at most once
(`AtMostOnce`, implied by `NodupKeys`) — the two `example`s show that this cannot be dropped. It is an artefact of the list
representation (a Python dict cannot hold a key twice), not a difference with the real code.
-/
import WzVerif.Model.Containers
import WzVerif.Lemmas.PyDict
namespace Wz

theorem nodup_snoc {α : Type} {l : List α} {a : α} (h : l.Nodup) (ha : a ∉ l) : (l ++ [a]).Nodup :=
  List.nodup_append.2 ⟨h, by simp, fun x hx y hy => by
    rw [List.mem_singleton.1 hy]; exact fun e => ha (e ▸ hx)⟩

namespace PyDict
variable {κ α : Type} [DecidableEq κ]

def NodupKeys (d : Dict κ α) : Prop := (d.map (·.1)).Nodup

omit [DecidableEq κ] in
theorem fst_ne_of_not_mem {d : Dict κ α} {k : κ} (h : k ∉ d.map (·.1)) {e : κ × α} (he : e ∈ d) : e.1 ≠ k :=
  fun heq => h (heq ▸ List.mem_map_of_mem he)

theorem lookup_set_self (d : Dict κ α) (k : κ) (x : α) : (set d k x).lookup k = some x := by
  induction d with
  | nil => simp [set]
  | cons e t ih =>
    obtain ⟨k', y⟩ := e
    by_cases h : k' = k
    · subst h; simp [set]
    · have h' : (k == k') = false := by simp [Ne.symm h]
      simp [set, h, List.lookup, h', ih]

theorem lookup_set_ne (d : Dict κ α) (k k' : κ) (x : α) (hne : k' ≠ k) :
    (set d k x).lookup k' = d.lookup k' := by
  induction d with
  | nil =>
    have : (k' == k) = false := by simp [hne]
    simp [set, List.lookup, this]
  | cons e t ih =>
    obtain ⟨k'', y⟩ := e
    by_cases h : k'' = k
    · subst h
      have : (k' == k'') = false := by simp [hne]
      simp [set, List.lookup, this]
    · simp only [set, h, if_false, List.lookup]
      split <;> simp_all

theorem lookup_set (d : Dict κ α) (k k' : κ) (x : α) :
    (set d k x).lookup k' = if k' = k then some x else d.lookup k' := by
  split
  · rename_i h; rw [h]; exact lookup_set_self d k x
  · rename_i h; exact lookup_set_ne d k k' x h

theorem mem_of_lookup {d : Dict κ α} {k : κ} {x : α} (h : d.lookup k = some x) : (k, x) ∈ d := by
  obtain ⟨l₁, l₂, rfl, _⟩ := List.lookup_eq_some_iff.1 h
  simp

theorem lookup_of_mem {d : Dict κ α} (hn : (d.map (·.1)).Nodup) {k : κ} {x : α} (h : (k, x) ∈ d) :
    d.lookup k = some x := by
  induction d with
  | nil => cases h
  | cons a t ih =>
    obtain ⟨ak, av⟩ := a
    simp only [List.map_cons, List.nodup_cons] at hn
    rcases List.mem_cons.1 h with e | e
    · cases e; simp [List.lookup]
    · have hb : (k == ak) = false := by
        rw [beq_eq_false_iff_ne]; rintro rfl; exact hn.1 (List.mem_map_of_mem (f := (·.1)) e)
      simp only [List.lookup, hb]
      exact ih hn.2 e

theorem mem_set {d : Dict κ α} {k : κ} {x : α} {e : κ × α} (h : e ∈ set d k x) :
    e ∈ d ∨ e = (k, x) := by
  induction d with
  | nil => simp [set] at h; exact Or.inr h
  | cons a t ih =>
    obtain ⟨ak, av⟩ := a
    simp only [set] at h
    by_cases hk : ak = k
    · simp only [hk, if_true, List.mem_cons] at h
      rcases h with h | h
      · right; rw [h]
      · left; exact List.mem_cons_of_mem _ h
    · simp only [hk, if_false, List.mem_cons] at h
      rcases h with h | h
      · left; rw [h]; exact List.mem_cons_self
      · rcases ih h with h' | h'
        · left; exact List.mem_cons_of_mem _ h'
        · right; exact h'

theorem keys_set (d : Dict κ α) (k : κ) (x : α) :
    keys (set d k x) = if k ∈ keys d then keys d else keys d ++ [k] := by
  induction d with
  | nil => simp [set, keys]
  | cons e t ih =>
    obtain ⟨k', y⟩ := e
    by_cases h : k' = k
    · subst h; simp [set, keys]
    · simp only [keys] at ih
      simp only [set, h, if_false, keys, List.map_cons, ih, List.mem_cons]
      have : ¬ k = k' := fun e => h e.symm
      by_cases hm : k ∈ List.map (fun x => x.1) t <;> simp [hm, this]

theorem mem_keys_iff_lookup (d : Dict κ α) (k : κ) : k ∈ keys d ↔ (d.lookup k).isSome := by
  induction d with
  | nil => simp [keys]
  | cons e t ih =>
    obtain ⟨k', y⟩ := e
    by_cases h : k = k'
    · subst h; simp [keys, List.lookup]
    · have : (k == k') = false := by simp [h]
      simp only [keys] at ih
      simp [keys, List.lookup, this, h, ih]

theorem lookup_eq_none {d : Dict κ α} {k : κ} (h : k ∉ keys d) : d.lookup k = none := by
  cases hl : d.lookup k with
  | none => rfl
  | some x => exact absurd ((mem_keys_iff_lookup d k).2 (by rw [hl]; rfl)) h

omit [DecidableEq κ] in
theorem nodupKeys_nil : NodupKeys ([] : Dict κ α) := List.nodup_nil

omit [DecidableEq κ] in
theorem nodupKeys_cons (e : κ × α) (t : Dict κ α) : NodupKeys (e :: t) ↔ e.1 ∉ keys t ∧ NodupKeys t :=
  List.nodup_cons

omit [DecidableEq κ] in
theorem not_mem_keys_of_nodup_append {acc t : Dict κ α} {e : κ × α} (hn : NodupKeys (acc ++ e :: t)) : e.1 ∉ keys acc := by
  simp only [NodupKeys, List.map_append, List.map_cons] at hn
  exact fun hm => (List.nodup_append.1 hn).2.2 _ hm _ List.mem_cons_self rfl

theorem has_iff (d : Dict κ α) (k : κ) : has d k = true ↔ k ∈ keys d := by
  simp [has, mem_keys_iff_lookup]

theorem has_eq_isSome (d : Dict κ α) (k : κ) : has d k = (get? d k).isSome := rfl

theorem get?_eq_none_iff (d : Dict κ α) (k : κ) : get? d k = none ↔ k ∉ keys d := by
  rw [← has_iff, has_eq_isSome]; cases get? d k <;> simp

theorem get?_set (d : Dict κ α) (k k' : κ) (x : α) : get? (set d k x) k' = if k' = k then some x else get? d k' :=
  lookup_set d k k' x

theorem get?_set_self (d : Dict κ α) (k : κ) (x : α) : get? (set d k x) k = some x := lookup_set_self d k x

theorem erase_of_not_mem (d : Dict κ α) (k : κ) (h : k ∉ keys d) : erase d k = d := by
  induction d with
  | nil => rfl
  | cons e t ih =>
    obtain ⟨k', y⟩ := e
    simp only [keys, List.map_cons, List.mem_cons, not_or] at h
    have h1 : ¬ k' = k := fun e => h.1 e.symm
    simp only [erase, h1, if_false]
    rw [ih]; simpa [keys] using h.2

theorem nodupKeys_set (d : Dict κ α) (k : κ) (x : α) (hn : NodupKeys d) : NodupKeys (set d k x) := by
  unfold NodupKeys
  rw [show (set d k x).map (·.1) = _ from keys_set d k x]
  split
  · exact hn
  · rename_i h; exact nodup_snoc hn h

omit [DecidableEq κ] in
theorem nodupKeys_filter (d : Dict κ α) (p : κ × α → Bool) (hn : NodupKeys d) : NodupKeys (d.filter p) := by
  unfold NodupKeys at *
  exact List.Nodup.sublist (List.Sublist.map _ List.filter_sublist) hn

omit [DecidableEq κ] in
theorem nodupKeys_dropLast (d : Dict κ α) (hn : NodupKeys d) : NodupKeys d.dropLast := by
  unfold NodupKeys at *
  exact List.Nodup.sublist (List.Sublist.map _ (List.dropLast_sublist d)) hn

omit [DecidableEq κ] in
theorem popitem_some {d : Dict κ α} {p : κ × α} {c' : Dict κ α} (h : popitem d = some (p, c')) :
    c' = d.dropLast := by
  unfold popitem at h
  cases hl : d.getLast? <;> simp [hl] at h
  exact h.2.symm

end PyDict
end Wz

namespace Wz.PyFnsEq.MultiDict
open Wz Wz.PyDict

section prims
variable {κ α : Type} [DecidableEq κ]

/-- the key `k` occurs at most once among the keys of the association list `d` (what the dict
invariant "keys are unique" says about the one key an operation touches) -/
def AtMostOnce (d : Dict κ α) (k : κ) : Prop := (keys d).count k ≤ 1

theorem atMostOnce_of_nodupKeys {d : Dict κ α} (hn : NodupKeys d) (k : κ) : AtMostOnce d k :=
  List.nodup_iff_count.mp hn k

theorem atMostOnce_of_not_mem {d : Dict κ α} {k : κ} (h : k ∉ keys d) : AtMostOnce d k := by
  unfold AtMostOnce; rw [List.count_eq_zero_of_not_mem h]; exact Nat.zero_le _

theorem atMostOnce_cons_self {k : κ} {y : α} {t : Dict κ α} (h : AtMostOnce ((k, y) :: t) k) : k ∉ keys t := by
  intro hm
  have := List.count_pos_iff.mpr hm
  simp only [AtMostOnce, keys, List.map_cons, List.count_cons_self] at h this
  omega

theorem atMostOnce_cons_ne {k k' : κ} {y : α} {t : Dict κ α} (hk : k' ≠ k) :
    AtMostOnce ((k', y) :: t) k ↔ AtMostOnce t k := by
  simp [AtMostOnce, keys, hk]

theorem atMostOnce_set {d : Dict κ α} {k' : κ} (h : AtMostOnce d k') (k : κ) (x : α) :
    AtMostOnce (PyDict.set d k x) k' := by
  unfold AtMostOnce at *
  rw [keys_set]
  by_cases hm : k ∈ keys d
  · simpa [hm] using h
  · by_cases he : k = k'
    · subst he
      have := List.count_eq_zero_of_not_mem hm
      simp [hm, List.count_append, this]
    · simp [hm, List.count_append, he]; exact h

variable [BEq κ] [LawfulBEq κ]

theorem dictHas_eq (d : Dict κ α) (k : κ) : Pre.dictHas d k = PyDict.has d k := by
  induction d with
  | nil => rfl
  | cons e t ih =>
    obtain ⟨k', y⟩ := e
    simp only [Pre.dictHas, PyDict.has, List.any_cons, List.lookup_cons] at ih ⊢
    by_cases h : k' = k
    · subst h; simp
    · have h1 : (k' == k) = false := by simpa using h
      have h2 : (@BEq.beq κ instBEqOfDecidableEq k k') = false := by simpa using fun e => h e.symm
      simp [h1, h2, ih]

theorem dictGet?_eq (d : Dict κ α) (k : κ) : Pre.dictGet? d k = PyDict.get? d k := by
  induction d with
  | nil => rfl
  | cons e t ih =>
    obtain ⟨k', y⟩ := e
    simp only [Pre.dictGet?, PyDict.get?, List.find?_cons, List.lookup_cons] at ih ⊢
    by_cases h : k' = k
    · subst h; simp
    · have h1 : (k' == k) = false := by simpa using h
      have h2 : (@BEq.beq κ instBEqOfDecidableEq k k') = false := by simpa using fun e => h e.symm
      simp [h1, h2, ih]

theorem dictGetD_eq (d : Dict κ α) (k : κ) (x : α) : Pre.dictGetD d k x = (PyDict.get? d k).getD x := by
  simp [Pre.dictGetD, dictGet?_eq]

theorem dictGetItem_eq (d : Dict κ α) (k : κ) :
    Pre.dictGetItem d k = match PyDict.get? d k with
      | some v => .ok v
      | none => .error "KeyError" := by
  unfold Pre.dictGetItem
  rw [dictGet?_eq]
  cases PyDict.get? d k <;> rfl

/-- `d[k] = x`: the prelude replaces the value in *every* entry of the key, the model in the first;
they agree when the key occurs at most once (necessity: first `example` after the section) -/
theorem dictSet_eq (d : Dict κ α) (k : κ) (x : α) (h : AtMostOnce d k) :
    Pre.dictSet d k x = PyDict.set d k x := by
  induction d with
  | nil => rfl
  | cons e t ih =>
    obtain ⟨k', y⟩ := e
    by_cases hk : k' = k
    · subst hk
      have hnot : Pre.dictHas t k' = false :=
        Bool.eq_false_iff.2 (fun hh => atMostOnce_cons_self h ((Pre.dictHas_iff_mem t k').1 hh))
      rw [Pre.dictSet_of_has _ _ _ (by rw [Pre.dictHas_cons, beq_self_eq_true]; rfl), List.map_cons,
        Pre.map_set_of_not_has t k' x hnot]
      simp [PyDict.set]
    · rw [Pre.dictSet_cons_ne _ _ _ _ (beq_eq_false_iff_ne.2 hk), ih ((atMostOnce_cons_ne hk).mp h)]
      simp [PyDict.set, hk]

/-- `del d[k]` / the dict after `pop`: the prelude filters out *every* entry of the key, the model
erases the first; they agree when the key occurs at most once (necessity: second `example` after the
section) -/
theorem dictDel_eq (d : Dict κ α) (k : κ) (h : AtMostOnce d k) : Pre.dictDel d k = PyDict.erase d k := by
  induction d with
  | nil => rfl
  | cons e t ih =>
    obtain ⟨k', y⟩ := e
    by_cases hk : k' = k
    · subst hk
      have hnot : Pre.dictHas t k' = false :=
        Bool.eq_false_iff.2 (fun hh => atMostOnce_cons_self h ((Pre.dictHas_iff_mem t k').1 hh))
      rw [Pre.dictDel, List.filter_cons_of_neg (by simp), ← Pre.dictDel, Pre.dictDel_of_not_has t k' hnot]
      simp [PyDict.erase]
    · rw [Pre.dictDel, List.filter_cons_of_pos (by simpa using hk), ← Pre.dictDel, ih ((atMostOnce_cons_ne hk).mp h)]
      simp [PyDict.erase, hk]

theorem dictPop_eq (d : Dict κ α) (k : κ) (h : AtMostOnce d k) :
    Pre.dictPop d k = match PyDict.get? d k with
      | some v => .ok (v, PyDict.erase d k)
      | none => .error "KeyError" := by
  unfold Pre.dictPop
  rw [dictGet?_eq, dictDel_eq d k h]
  cases PyDict.get? d k <;> rfl

theorem dictPopD_eq (d : Dict κ α) (k : κ) (x : α) (h : AtMostOnce d k) :
    Pre.dictPopD d k x = ((PyDict.get? d k).getD x, PyDict.erase d k) := by
  unfold Pre.dictPopD
  rw [dictGet?_eq, dictDel_eq d k h]

omit [DecidableEq κ] [BEq κ] [LawfulBEq κ] in
theorem dictPopitem_eq (d : Dict κ α) :
    Pre.dictPopitem d = match PyDict.popitem d with
      | some r => .ok r
      | none => .error "KeyError" := by
  unfold Pre.dictPopitem PyDict.popitem
  cases d.getLast? <;> rfl

theorem nodupKeys_dictSet (d : Dict κ α) (k : κ) (x : α) (hn : NodupKeys d) : NodupKeys (Pre.dictSet d k x) :=
  Pre.nodup_keys_dictSet d k x hn

omit [DecidableEq κ] [LawfulBEq κ] in
theorem nodupKeys_dictDel (d : Dict κ α) (k : κ) (hn : NodupKeys d) : NodupKeys (Pre.dictDel d k) :=
  Pre.nodup_keys_dictDel d k hn

theorem foldl_dictSet_eq (l : List (κ × α)) : ∀ (acc : Dict κ α), NodupKeys acc →
    l.foldl (fun d kv => Pre.dictSet d kv.1 kv.2) acc = Pickle.dictOf acc l ∧
      NodupKeys (Pickle.dictOf acc l) := by
  induction l with
  | nil => intro acc hn; exact ⟨rfl, hn⟩
  | cons e t ih =>
    intro acc hn
    simp only [List.foldl_cons, Pickle.dictOf]
    rw [dictSet_eq acc e.1 e.2 (atMostOnce_of_nodupKeys hn e.1)]
    exact ih _ (nodupKeys_set acc e.1 e.2 hn)

theorem dictOfPairs_eq (l : List (κ × α)) : Pre.dictOfPairs l = Pickle.dictOf [] l :=
  (foldl_dictSet_eq l [] nodupKeys_nil).1

theorem nodupKeys_dictOfPairs (l : List (κ × α)) : NodupKeys (Pre.dictOfPairs l) := by
  rw [dictOfPairs_eq]; exact (foldl_dictSet_eq l [] nodupKeys_nil).2

end prims

example : Pre.dictSet [(1, 10), (1, 20)] 1 7 ≠ PyDict.set [(1, 10), (1, 20)] 1 7 := by decide
example : Pre.dictDel [(1, 10), (1, 20)] 1 ≠ PyDict.erase [(1, 10), (1, 20)] 1 := by decide

end Wz.PyFnsEq.MultiDict

namespace Wz.PyDict
open PyFnsEq.MultiDict
variable {κ α : Type} [DecidableEq κ]

theorem erase_eq_filter (d : Dict κ α) (k : κ) (hn : NodupKeys d) :
    erase d k = d.filter (fun e => !(e.1 == k)) :=
  (dictDel_eq d k (atMostOnce_of_nodupKeys hn k)).symm

theorem nodupKeys_erase (d : Dict κ α) (k : κ) (hn : NodupKeys d) : NodupKeys (erase d k) := by
  rw [erase_eq_filter d k hn]; exact nodupKeys_filter d _ hn

theorem set_of_not_mem (d : Dict κ α) (k : κ) (x : α) (h : k ∉ keys d) : set d k x = d ++ [(k, x)] := by
  rw [← dictSet_eq d k x (atMostOnce_of_not_mem h)]
  exact Pre.dictSet_of_not_has d k x (by rw [dictHas_eq, Bool.eq_false_iff, Ne, has_iff]; exact h)

theorem get?_erase (d : Dict κ α) (hn : NodupKeys d) (k k' : κ) :
    get? (erase d k) k' = if k' = k then none else get? d k' := by
  unfold get?
  rw [erase_eq_filter d k hn]
  split
  · rename_i h
    refine List.lookup_eq_none_iff.2 fun p hp => ?_
    have := (List.mem_filter.1 hp).2
    simp only [Bool.not_eq_true', beq_eq_false_iff_ne] at this
    simpa [h] using Ne.symm this
  · rename_i h
    cases hl : d.lookup k' with
    | none => exact List.lookup_eq_none_iff.2 fun p hp => List.lookup_eq_none_iff.1 hl p (List.mem_filter.1 hp).1
    | some x => exact lookup_of_mem (nodupKeys_filter d _ hn) (List.mem_filter.2 ⟨mem_of_lookup hl, by simpa using h⟩)

theorem lookup_append_self (acc : Dict κ α) (k : κ) (w : α) (hk : k ∉ keys acc) :
    (acc ++ [(k, w)]).lookup k = some w := by
  rw [List.lookup_append, lookup_eq_none hk]
  simp [List.lookup]

theorem set_append_self (acc : Dict κ α) (k : κ) (w w' : α) (hk : k ∉ keys acc) :
    PyDict.set (acc ++ [(k, w)]) k w' = acc ++ [(k, w')] := by
  induction acc with
  | nil => simp [PyDict.set]
  | cons x r ihr =>
    obtain ⟨xk, xv⟩ := x
    have hne : xk ≠ k := by intro e; apply hk; simp [keys, e]
    simp only [List.cons_append, PyDict.set, hne, if_false]
    rw [ihr (fun hm => hk (by simp only [keys, List.map_cons, List.mem_cons]; right; exact hm))]

omit [DecidableEq κ] in
theorem nodup_of_nodupKeys (d : Dict κ α) (hn : NodupKeys d) : d.Nodup := by
  unfold NodupKeys at hn
  exact List.Pairwise.of_map (fun e => e.1) (fun a b hab e => hab (by rw [e])) hn

end Wz.PyDict

namespace Wz.C08L
open Wz PyDict
variable {κ α : Type} [DecidableEq κ]

open Pickle in
theorem dictOf_append (acc : Dict κ α) (ps : List (κ × α)) (hn : NodupKeys (acc ++ ps)) :
    dictOf acc ps = acc ++ ps := by
  unfold NodupKeys at hn
  rw [List.map_append, List.nodup_append] at hn
  obtain ⟨ha, hp, hd⟩ := hn
  rw [← (PyFnsEq.MultiDict.foldl_dictSet_eq ps acc ha).1]
  refine Pre.dictUpdate_of_fresh acc ps hp (fun x hx => Bool.eq_false_iff.2 (fun hh => ?_))
  exact hd _ ((Pre.dictHas_iff_mem acc x.1).1 hh) _ (List.mem_map_of_mem hx) rfl

open Pickle in
theorem dictOf_self (d : Dict κ α) (hn : NodupKeys d) : dictOf [] d = d := by
  simpa using dictOf_append [] d (by simpa using hn)

end Wz.C08L

namespace Wz.PyFnsEq.MultiDict
open Wz Wz.PyDict
variable {κ α : Type} [DecidableEq κ] [BEq κ] [LawfulBEq κ]

theorem dictOfPairs_self_iff (d : Dict κ α) : Pre.dictOfPairs d = d ↔ NodupKeys d := by
  constructor
  · intro h; rw [← h]; exact nodupKeys_dictOfPairs d
  · intro hn; rw [dictOfPairs_eq]; exact C08L.dictOf_self d hn

end Wz.PyFnsEq.MultiDict
