/-
`quote` (C15): the characters it leaves alone (`Fixed`, `fixed_iff`), what it can write (`mem_pct`, `quoteBytes_all`:
`%` and fixed characters), that it is the identity on fixed text and idempotent when `%` is safe; and the latin-1
dances.
-/
import WzVerif.Model.Url
import WzVerif.Lemmas.Utf8Facts
namespace Wz.Url
open Wz

theorem of_ascii_sweep {P : Char → Prop} (key : ∀ n, n < 128 → P (Char.ofNat n)) {c : Char} (h : c.toNat < 128) :
    P c := by
  have := key c.toNat h
  rwa [Char.ofNat_toNat] at this

/-- core's `UInt8.toNat_ofNat_of_lt'` with the bound as a numeral, which `omega` can discharge -/
theorem uint8_toNat_ofNat_lt {n : Nat} (h : n < 256) : (UInt8.ofNat n).toNat = n := UInt8.toNat_ofNat_of_lt' h

/-- a character that `quote(…, safe)` leaves alone -/
def Fixed (safe : Str) (c : Char) : Prop := c.toNat < 128 ∧ isSafe safe (UInt8.ofNat c.toNat) = true

theorem isSafe_lt {safe : Str} {b : UInt8} (h : isSafe safe b = true) : b.toNat < 128 := by
  simp only [isSafe, Bool.and_eq_true, decide_eq_true_eq] at h; exact h.1

theorem fixed_byteChar {safe : Str} {b : UInt8} (h : isSafe safe b = true) : Fixed safe (Char.ofNat b.toNat) := by
  have hb := isSafe_lt h
  rw [Fixed, toNat_ofNat_lt (by omega), UInt8.ofNat_toNat]
  exact ⟨hb, h⟩

theorem fixed_iff {safe : Str} {c : Char} :
    Fixed safe c ↔ c.toNat < 128 ∧ (tbl Gen.UrlTables.alwaysSafe c.toNat = true ∨ c ∈ safe) := by
  refine and_congr_right fun h => ?_
  simp [isSafe, uint8_toNat_ofNat_lt (show c.toNat < 256 by omega), h]

theorem hexVal_bounds {x : Char} {v : Nat} (h : hexVal? x = some v) : x.toNat < 128 ∧ v < 16 := by
  have h9 : '9'.toNat = 57 := by decide
  have hf : 'f'.toNat = 102 := by decide
  have hF : 'F'.toNat = 70 := by decide
  unfold hexVal? at h
  split at h
  · rename_i h1
    cases h
    have : x.toNat ≤ '9'.toNat := h1.2
    omega
  · split at h
    · rename_i h1
      cases h
      have : x.toNat ≤ 'f'.toNat := h1.2
      omega
    · split at h
      · rename_i h1
        cases h
        have : x.toNat ≤ 'F'.toNat := h1.2
        omega
      · cases h

theorem hexVal_ascii {x : Char} {v : Nat} (h : hexVal? x = some v) : x.toNat < 128 := (hexVal_bounds h).1

theorem hexVal_hexU : ∀ d, d < 16 → hexVal? (hexU d) = some d := by decide

theorem hex_alwaysSafe : ∀ n, n < 128 → (hexVal? (Char.ofNat n)).isSome = true →
    tbl Gen.UrlTables.alwaysSafe n = true := by decide +kernel

theorem fixed_of_hex {safe : Str} {x : Char} {v : Nat} (h : hexVal? x = some v) : Fixed safe x :=
  fixed_iff.mpr ⟨hexVal_ascii h, Or.inl (hex_alwaysSafe x.toNat (hexVal_ascii h) (by rw [Char.ofNat_toNat, h]; rfl))⟩

theorem fixed_hexU {safe : Str} (d : Nat) (hd : d < 16) : Fixed safe (hexU d) :=
  fixed_of_hex (hexVal_hexU d hd)

theorem isSafe_pct (safe : Str) : isSafe safe 0x25 = safe.contains '%' := by
  have h : tbl Gen.UrlTables.alwaysSafe (0x25 : UInt8).toNat = false := by decide
  have e : Char.ofNat (0x25 : UInt8).toNat = '%' := rfl
  rw [isSafe, h, e, Bool.false_or, decide_eq_true (by decide), Bool.true_and]

theorem fixed_percent {safe : Str} (hp : safe.contains '%' = true) : Fixed safe '%' :=
  ⟨by decide, (isSafe_pct safe).trans hp⟩

theorem mem_pct {b : UInt8} {c : Char} (h : c ∈ pct b) : c = '%' ∨ ∃ d, d < 16 ∧ c = hexU d := by
  have hb := b.toNat_lt
  simp only [pct, List.mem_cons, List.mem_nil_iff, or_false] at h
  rcases h with rfl | rfl | rfl
  · exact Or.inl rfl
  · exact Or.inr ⟨_, by omega, rfl⟩
  · exact Or.inr ⟨_, Nat.mod_lt _ (by decide), rfl⟩

theorem quoteByte_chars (safe : Str) (b : UInt8) : ∀ c ∈ quoteByte safe b, c = '%' ∨ Fixed safe c := by
  intro c hc
  unfold quoteByte at hc
  split at hc
  · rename_i hs
    simp only [List.mem_singleton] at hc
    exact Or.inr (hc ▸ fixed_byteChar hs)
  · exact (mem_pct hc).imp_right fun ⟨d, hd, e⟩ => e ▸ fixed_hexU d hd

theorem quoteByte_ascii (safe : Str) (b : UInt8) : ∀ c ∈ quoteByte safe b, c.toNat < 128 := by
  intro c hc
  rcases quoteByte_chars safe b c hc with rfl | h
  · decide
  · exact h.1

theorem quoteBytes_all {safe : Str} {P : Char → Prop} (hpct : P '%') (hfix : ∀ c, Fixed safe c → P c) (B : Bytes) :
    ∀ c ∈ quoteBytes safe B, P c := fun c hc =>
  have ⟨b, _, hb⟩ := List.mem_flatMap.mp hc
  (quoteByte_chars safe b c hb).elim (fun e => e ▸ hpct) (hfix c)

theorem quoteBytes_ascii (safe : Str) (bs : Bytes) : ∀ c ∈ quoteBytes safe bs, c.toNat < 128 :=
  quoteBytes_all (by decide) (fun _ h => h.1) bs

theorem quote_fixed {safe : Str} (hp : safe.contains '%' = true) (s : Str) : ∀ c ∈ quote safe s, Fixed safe c :=
  quoteBytes_all (fixed_percent hp) (fun _ h => h) _

theorem quoteBytes_isEmpty (safe : Str) (q : Bytes) : (quoteBytes safe q).isEmpty = q.isEmpty := by
  cases q with
  | nil => rfl
  | cons b t =>
    simp only [quoteBytes, List.flatMap_cons, List.isEmpty_cons]
    unfold quoteByte
    split <;> simp [pct]

theorem quote_ne {safe s : Str} (h : s ≠ []) : quote safe s ≠ [] := by
  intro he
  have := quoteBytes_isEmpty safe (utf8Enc s)
  rw [show quoteBytes safe (utf8Enc s) = quote safe s from rfl, he] at this
  cases s with
  | nil => exact h rfl
  | cons c t =>
    cases hb : String.utf8EncodeChar c with
    | nil => exact String.utf8EncodeChar_ne_nil hb
    | cons b bs => simp [utf8Enc, hb] at this

theorem quote_of_fixed {safe : Str} : ∀ (t : Str), (∀ c ∈ t, Fixed safe c) → quote safe t = t
  | [], _ => by simp [quote, quoteBytes, utf8Enc]
  | c :: t, h => by
    obtain ⟨h1, h2⟩ := h c (by simp)
    have ih := quote_of_fixed t (fun x hx => h x (List.mem_cons_of_mem _ hx))
    simp only [quote, quoteBytes, utf8Enc, List.flatMap_cons, List.flatMap_append] at ih ⊢
    rw [ih, Utf8Facts.utf8EncodeChar_ascii _ h1]
    simp [quoteByte, h2, uint8_toNat_ofNat_lt (show c.toNat < 256 by omega)]

theorem quote_append (safe a b : Str) : quote safe (a ++ b) = quote safe a ++ quote safe b := by
  simp [quote, quoteBytes, Utf8Facts.utf8Enc_append]

theorem quote_append_fixed {safe X : Str} (h : ∀ c ∈ X, Fixed safe c) (t : Str) :
    quote safe (X ++ t) = X ++ quote safe t := by
  rw [quote_append, quote_of_fixed _ h]

theorem quote_cons_fixed {safe : Str} {c : Char} (hc : Fixed safe c) (s : Str) :
    quote safe (c :: s) = c :: quote safe s :=
  quote_append_fixed (X := [c]) (by simpa using hc) s

theorem quote_esc_fixed {safe : Str} {x y : Char} (h : ∀ c ∈ ['%', x, y], Fixed safe c) (t : Str) :
    quote safe ('%' :: x :: y :: t) = '%' :: x :: y :: quote safe t :=
  quote_append_fixed h t

theorem quote_idem {safe : Str} (hp : safe.contains '%' = true) (s : Str) :
    quote safe (quote safe s) = quote safe s :=
  quote_of_fixed _ (quote_fixed hp s)

theorem latin1Enc_encodingDance (s : Str) : Py.latin1Enc (encodingDance s) = some (utf8Enc s) :=
  latin1Enc_latin1Dec _

theorem dance_roundtrip' (s : Str) : decodingDance (encodingDance s) = some s := by
  simp [decodingDance, encodingDance, latin1Enc_latin1Dec, Py.decodeReplace_utf8Enc]

end Wz.Url
