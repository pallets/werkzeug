/-
The lazily parsed attributes of `Request` (C07): the descriptor `header_property` / `environ_property` turns the
`(ValueError, TypeError)` of its load function into the default; every modelled attribute but `host` returns a value for every
environ, `host` may answer `SecurityError` when `trusted_hosts` is set.
-/
import WzVerif.Model.RequestAttrs
import WzVerif.Lemmas.HttpSafeAccept
import WzVerif.Lemmas.HttpAuthNF
import WzVerif.Lemmas.HttpRange
import WzVerif.Lemmas.HttpCRange
namespace Wz.Http
open Wz

theorem headerProperty_safe {α : Type} (load : Str → Except String α) (dflt : α) (hdr : Option Str)
    (h : ∀ v, OnlyRaises ["ValueError", "TypeError"] (load v)) : Safe (headerProperty load dflt hdr) := by
  unfold headerProperty
  cases hdr with
  | none => exact Safe.ok _
  | some v => exact catching_safe (h v)

theorem requestMaxForwards_safe (hdr : Option Str) : Safe (requestMaxForwards hdr) :=
  headerProperty_safe _ _ _ (fun v =>
    onlyRaises_mono (onlyRaises_map _ (pyInt_onlyRaises v)) (by intro e he; simp at he; subst he; simp))

theorem getContentLength_safe (cl te : Option Str) : Safe (getContentLength cl te) := by
  unfold getContentLength
  split
  · exact Safe.ok _
  · cases cl with
    | none => exact Safe.ok _
    | some v => exact catching_safe (onlyRaises_map _ (plainInt_onlyRaises v))

theorem requestAcrh_safe (hdr : Option Str) : Safe (requestAccessControlRequestHeaders hdr) :=
  headerProperty_safe _ _ _ fun _ => onlyRaises_ok _

end Wz.Http

namespace Wz.Req
open Wz Wz.Http

/-- every character is a latin-1 code point (what PEP 3333 guarantees for environ strings) -/
def Latin1 (s : Str) : Bool := s.all fun c => c.toNat < 256

theorem latin1Enc_some (s : Str) (h : Latin1 s = true) : ∃ bs, Py.latin1Enc s = some bs := by
  induction s with
  | nil => exact ⟨[], rfl⟩
  | cons c t ih =>
    simp only [Latin1, List.all_cons, Bool.and_eq_true, decide_eq_true_eq] at h
    obtain ⟨bs, hbs⟩ := ih (by simpa [Latin1] using h.2)
    exact ⟨UInt8.ofNat c.toNat :: bs, by simp [Py.latin1Enc, h.1, hbs]⟩

theorem args_safe (e : Env) (h : Latin1 e.queryString = true) : Safe (args e) := by
  obtain ⟨bs, hbs⟩ := latin1Enc_some _ h
  unfold args queryBytes
  rw [hbs]
  exact ⟨_, rfl⟩

theorem acceptOf_safe {σ : Type} (N : Wz.Accept.Neg σ Wz.Accept.Q) (hdr : Option Str) : Safe (acceptOf N hdr) :=
  (parseAcceptHeader_safe (hdr.getD [])).bind fun _ => Safe.ok _

theorem date_safe (pd : Str → Option Nat) (e : Env) : Safe (date pd e) :=
  headerProperty_safe _ _ _ fun _ => onlyRaises_ok _

theorem mimetype_safe (e : Env) : Safe (mimetype e) := (parseOptionsHeader_safe _).map _
theorem mimetypeParams_safe (e : Env) : Safe (mimetypeParams e) := (parseOptionsHeader_safe _).map _
theorem isJson_safe (e : Env) : Safe (isJson e) := (mimetype_safe e).map _

theorem getHost_spec (idna : Wz.Dbg.Idna) (scheme : Str) (h : Option Str) (srv : Option (Str × Option Nat))
    (tr : Option (List Str)) :
    (∃ v, Wz.Dbg.getHost idna scheme h srv tr = .ok v) ∨
      (tr.isSome = true ∧ Wz.Dbg.getHost idna scheme h srv tr = .error "SecurityError") := by
  unfold Wz.Dbg.getHost
  simp only []
  generalize Wz.Dbg.stripDefaultPort scheme _ = host
  cases tr with
  | none => exact Or.inl ⟨_, rfl⟩
  | some tl =>
    by_cases ht : Wz.Dbg.hostIsTrusted idna (some host) tl = true
    · exact Or.inl ⟨host, if_pos ht⟩
    · exact Or.inr ⟨rfl, if_neg ht⟩

theorem outcome_safe (x : Ext) (e : Env) (a : Attr) (h : Latin1 e.queryString = true) (ha : a ≠ .host) :
    Safe (outcome x e a) := by
  cases a
  case host => exact absurd rfl ha
  case args => exact (args_safe e h).map _
  case cookies | ifMatch | ifNoneMatch | ifModifiedSince | ifUnmodifiedSince | ifRange | pragma | accessRoute =>
    exact Safe.ok _
  case acceptMimetypes | acceptCharsets | acceptEncodings | acceptLanguages => exact (acceptOf_safe _ _).map _
  case cacheControl => exact (parseCacheControl_safe _).map _
  case date => exact (date_safe _ _).map _
  case range => exact (parseRangeHeader_safe _).map _
  case authorization => exact (authorizationFromHeader_returns _).safe.map _
  case mimetype => exact (mimetype_safe e).map _
  case mimetypeParams => exact (mimetypeParams_safe e).map _
  case isJson => exact (isJson_safe e).map _
  case contentLength => exact (getContentLength_safe _ _).map _
  case maxForwards => exact (requestMaxForwards_safe _).map _
  case accessControlRequestHeaders => exact (requestAcrh_safe _).map _

theorem outcome_spec (x : Ext) (e : Env) (a : Attr) (h : Latin1 e.queryString = true) :
    outcome x e a = .ok () ∨ (a = .host ∧ e.trustedHosts.isSome = true ∧ outcome x e a = .error "SecurityError") := by
  by_cases ha : a = .host
  · subst ha
    simp only [outcome, host]
    rcases getHost_spec x.idna e.scheme e.host (some (e.serverName, e.serverPort)) e.trustedHosts with ⟨v, hv⟩ | ⟨h1, h2⟩
    · left; rw [hv]; rfl
    · right; rw [h2]; exact ⟨trivial, h1, rfl⟩
  · obtain ⟨⟨⟩, hu⟩ := outcome_safe x e a h ha
    exact Or.inl hu

end Wz.Req
