/-
The UTF-8 decoder with error spans (`firstItem` / `items` / `decodeQ`) against Lean core's encoder (C15): its
lead-byte classes, a valid sequence is the encoding of its code point (`seq_spec`), the encoding of a character
decodes to that character (`firstItem_encode`), and the decoder on whole byte strings (`its`, `dec`): it is
compositional at every byte that is not a continuation byte, and inverts `utf8Enc`.
-/
import WzVerif.Lemmas.Url
namespace Wz.Url
open Wz

def isCont (b : UInt8) : Bool := Py.inRange b 0x80 0xBF

theorem takeCont_prefix : ∀ (n : Nat) (lo hi : UInt8) (t : Bytes), takeCont n lo hi t <+: t
  | 0, _, _, _ => by simp [takeCont]
  | _ + 1, _, _, [] => by simp [takeCont]
  | n + 1, lo, hi, b :: t => by
    simp only [takeCont]
    split
    · exact List.prefix_cons_inj _ |>.mpr (takeCont_prefix n _ _ t)
    · simp

theorem takeCont_length_le : ∀ (n : Nat) (lo hi : UInt8) (t : Bytes), (takeCont n lo hi t).length ≤ n
  | 0, _, _, _ => by simp [takeCont]
  | _ + 1, _, _, [] => by simp [takeCont]
  | n + 1, lo, hi, b :: t => by
    simp only [takeCont]
    split
    · simp only [List.length_cons]; have := takeCont_length_le n 0x80 0xBF t; omega
    · simp

/-- the decoder never looks past a byte that is not a continuation byte -/
theorem takeCont_append : ∀ (n : Nat) (lo hi : UInt8) (x r : Bytes), 0x80 ≤ lo → hi ≤ 0xBF →
    (∀ b, r.head? = some b → isCont b = false) →
    takeCont n lo hi (x ++ r) = takeCont n lo hi x
  | 0, _, _, _, _, _, _, _ => by simp [takeCont]
  | n + 1, lo, hi, [], r, hlo, hhi, hr => by
    cases r with
    | nil => simp [takeCont]
    | cons b t =>
      have hb := hr b rfl
      simp only [List.nil_append, takeCont]
      rw [if_neg]
      intro h
      simp only [Py.inRange, Bool.and_eq_true, decide_eq_true_eq] at h
      simp only [isCont, Py.inRange, Bool.and_eq_false_iff, decide_eq_false_iff_not] at hb
      rcases hb with hb | hb
      · exact hb (UInt8.le_trans hlo h.1)
      · exact hb (UInt8.le_trans h.2 hhi)
  | n + 1, lo, hi, b :: x, r, hlo, hhi, hr => by
    simp only [List.cons_append, takeCont]
    split
    · rw [takeCont_append n 0x80 0xBF x r (by decide) (by decide) hr]
    · rfl

theorem inRange_iff (b lo hi : UInt8) : Py.inRange b lo hi = true ↔ lo.toNat ≤ b.toNat ∧ b.toNat ≤ hi.toNat := by
  simp [Py.inRange, UInt8.le_iff_toNat_le]

theorem ite_toNat (b k x y : UInt8) :
    (b.toNat = k.toNat → (if b == k then x else y).toNat = x.toNat) ∧
    (b.toNat ≠ k.toNat → (if b == k then x else y).toNat = y.toNat) := by
  by_cases e : b = k
  · simp [e]
  · have : b.toNat ≠ k.toNat := fun h => e (UInt8.toNat_inj.mp h)
    simp [e, this]

/-- `leadInfo` in numbers: the three classes of lead byte, each with the admissible range of the first
continuation byte (the narrowed ranges exclude overlong forms, surrogates and code points above
U+10FFFF) -/
theorem leadInfo_spec {b0 : UInt8} {n : Nat} {lo hi : UInt8} (h : leadInfo b0 = some (n, lo, hi)) :
    (n = 1 ∧ 0xC2 ≤ b0.toNat ∧ b0.toNat ≤ 0xDF ∧ lo.toNat = 0x80 ∧ hi.toNat = 0xBF) ∨
    (n = 2 ∧ 0xE0 ≤ b0.toNat ∧ b0.toNat ≤ 0xEF ∧
      ((b0.toNat = 0xE0 → lo.toNat = 0xA0) ∧ (b0.toNat ≠ 0xE0 → lo.toNat = 0x80)) ∧
      ((b0.toNat = 0xED → hi.toNat = 0x9F) ∧ (b0.toNat ≠ 0xED → hi.toNat = 0xBF))) ∨
    (n = 3 ∧ 0xF0 ≤ b0.toNat ∧ b0.toNat ≤ 0xF4 ∧
      ((b0.toNat = 0xF0 → lo.toNat = 0x90) ∧ (b0.toNat ≠ 0xF0 → lo.toNat = 0x80)) ∧
      ((b0.toNat = 0xF4 → hi.toNat = 0x8F) ∧ (b0.toNat ≠ 0xF4 → hi.toNat = 0xBF))) := by
  unfold leadInfo at h
  split at h
  · rename_i h0
    cases h
    exact Or.inl ⟨rfl, ((inRange_iff _ _ _).mp h0).1, ((inRange_iff _ _ _).mp h0).2, rfl, rfl⟩
  split at h
  · rename_i h0
    cases h
    exact Or.inr (Or.inl ⟨rfl, ((inRange_iff _ _ _).mp h0).1, ((inRange_iff _ _ _).mp h0).2,
      ite_toNat b0 0xE0 0xA0 0x80, ite_toNat b0 0xED 0x9F 0xBF⟩)
  split at h
  · rename_i h0
    cases h
    exact Or.inr (Or.inr ⟨rfl, ((inRange_iff _ _ _).mp h0).1, ((inRange_iff _ _ _).mp h0).2,
      ite_toNat b0 0xF0 0x90 0x80, ite_toNat b0 0xF4 0x8F 0xBF⟩)
  · cases h

theorem leadInfo_range {b0 : UInt8} {n : Nat} {lo hi : UInt8} (h : leadInfo b0 = some (n, lo, hi)) :
    0x80 ≤ lo ∧ hi ≤ 0xBF ∧ 0xC2 ≤ b0 ∧ 1 ≤ n := by
  simp only [UInt8.le_iff_toNat_le]
  have e1 : (0x80 : UInt8).toNat = 0x80 := rfl
  have e2 : (0xBF : UInt8).toNat = 0xBF := rfl
  have e3 : (0xC2 : UInt8).toNat = 0xC2 := rfl
  rw [e1, e2, e3]
  rcases leadInfo_spec h with h | h | h <;> omega

theorem leadInfo_of (b0 : UInt8) :
    (0xC2 ≤ b0.toNat ∧ b0.toNat ≤ 0xDF → leadInfo b0 = some (1, 0x80, 0xBF)) ∧
    (0xE0 ≤ b0.toNat ∧ b0.toNat ≤ 0xEF →
      leadInfo b0 = some (2, if b0 == 0xE0 then 0xA0 else 0x80, if b0 == 0xED then 0x9F else 0xBF)) ∧
    (0xF0 ≤ b0.toNat ∧ b0.toNat ≤ 0xF4 →
      leadInfo b0 = some (3, if b0 == 0xF0 then 0x90 else 0x80, if b0 == 0xF4 then 0x8F else 0xBF)) := by
  have hn : ∀ lo hi : UInt8, ¬ (lo.toNat ≤ b0.toNat ∧ b0.toNat ≤ hi.toNat) → ¬ Py.inRange b0 lo hi = true :=
    fun lo hi h h' => h ((inRange_iff _ _ _).mp h')
  refine ⟨fun h => ?_, fun h => ?_, fun h => ?_⟩
  · simp only [leadInfo, (inRange_iff b0 0xC2 0xDF).mpr h, if_true]
  · simp only [leadInfo, hn 0xC2 0xDF (by simp; omega), (inRange_iff b0 0xE0 0xEF).mpr h, if_true, Bool.false_eq_true, if_false]
  · simp only [leadInfo, hn 0xC2 0xDF (by simp; omega), hn 0xE0 0xEF (by simp; omega),
      (inRange_iff b0 0xF0 0xF4).mpr h, if_true, Bool.false_eq_true, if_false]
theorem firstItem_append (b0 : UInt8) (x r : Bytes) (hr : ∀ b, r.head? = some b → isCont b = false) :
    firstItem b0 (x ++ r) = firstItem b0 x := by
  unfold firstItem
  split
  · rfl
  · cases h : leadInfo b0 with
    | none => rfl
    | some v =>
      obtain ⟨n, lo, hi⟩ := v
      obtain ⟨h1, h2, _, _⟩ := leadInfo_range h
      simp only [takeCont_append n lo hi x r h1 h2 hr]

theorem firstItem_lead {b0 : UInt8} {n : Nat} {lo hi : UInt8} (h0 : ¬ b0 < 0x80)
    (hl : leadInfo b0 = some (n, lo, hi)) (t : Bytes) :
    firstItem b0 t = if (takeCont n lo hi t).length = n
      then .chr (Char.ofNat (codePoint b0 (takeCont n lo hi t))) (b0 :: takeCont n lo hi t)
      else .bad (b0 :: takeCont n lo hi t) := by
  simp only [firstItem, if_neg h0, hl]

theorem firstItem_raw (b0 : UInt8) (t : Bytes) :
    ∃ cs, (firstItem b0 t).raw = b0 :: cs ∧ cs <+: t := by
  unfold firstItem
  split
  · exact ⟨[], rfl, by simp⟩
  · cases h : leadInfo b0 with
    | none => exact ⟨[], rfl, by simp⟩
    | some v =>
      obtain ⟨n, lo, hi⟩ := v
      simp only
      split
      · exact ⟨_, rfl, takeCont_prefix n lo hi t⟩
      · exact ⟨_, rfl, takeCont_prefix n lo hi t⟩

theorem takeCont_bounds : ∀ (n : Nat) (lo hi : UInt8) (t : Bytes),
    (∀ b, (takeCont n lo hi t).head? = some b → lo.toNat ≤ b.toNat ∧ b.toNat ≤ hi.toNat) ∧
    (∀ b ∈ (takeCont n lo hi t).tail, 0x80 ≤ b.toNat ∧ b.toNat ≤ 0xBF)
  | 0, _, _, _ => by simp [takeCont]
  | _ + 1, _, _, [] => by simp [takeCont]
  | n + 1, lo, hi, b :: t => by
    simp only [takeCont]
    split
    · rename_i hb
      have ih := takeCont_bounds n 0x80 0xBF t
      refine ⟨fun x hx => ?_, fun x hx => ?_⟩
      · simp at hx; subst hx; exact (inRange_iff _ _ _).mp hb
      · simp only [List.tail_cons] at hx
        cases hc : takeCont n 0x80 0xBF t with
        | nil => rw [hc] at hx; cases hx
        | cons y ys =>
          rw [hc] at hx ih
          rcases List.mem_cons.mp hx with rfl | hx
          · simpa using ih.1 x rfl
          · exact ih.2 x (by simpa using hx)
    · simp

theorem takeCont_ge (n : Nat) (lo hi : UInt8) (t : Bytes) (hlo : 0x80 ≤ lo) :
    ∀ b ∈ takeCont n lo hi t, 0x80 ≤ b := by
  obtain ⟨g1, g2⟩ := takeCont_bounds n lo hi t
  intro b hb
  rw [UInt8.le_iff_toNat_le] at hlo ⊢
  cases hc : takeCont n lo hi t with
  | nil => rw [hc] at hb; cases hb
  | cons y ys =>
    rw [hc] at hb g1 g2
    rcases List.mem_cons.mp hb with rfl | hb
    · have := (g1 b rfl).1; simp at hlo ⊢; omega
    · have := (g2 b (by simpa using hb)).1; simpa using this

theorem encodeChar_of_nat {v : Nat} (hvalid : v.isValidChar) :
    String.utf8EncodeChar (Char.ofNat v) =
      if v ≤ 0x7f then [UInt8.ofNat v]
      else if v ≤ 0x7ff then [UInt8.ofNat (v / 64 % 0x20 + 0xc0), UInt8.ofNat (v % 0x40 + 0x80)]
      else if v ≤ 0xffff then
        [UInt8.ofNat (v / 4096 % 0x10 + 0xe0), UInt8.ofNat (v / 64 % 0x40 + 0x80), UInt8.ofNat (v % 0x40 + 0x80)]
      else [UInt8.ofNat (v / 262144 % 0x08 + 0xf0), UInt8.ofNat (v / 4096 % 0x40 + 0x80),
        UInt8.ofNat (v / 64 % 0x40 + 0x80), UInt8.ofNat (v % 0x40 + 0x80)] := by
  unfold String.utf8EncodeChar
  simp only [Char.toNat_val, toNat_ofNat_valid hvalid]

/-! The multi-byte forms in digits: `d0` is the payload of the lead byte, the others are six-bit digits.
The side conditions on `d1` are the narrowed ranges of `leadInfo`. Stated over `Nat` so that `omega`
sees no byte and no truncated subtraction. -/

theorem enc2 {d0 d1 v : Nat} (h0 : 2 ≤ d0 ∧ d0 < 32) (h1 : d1 < 64) (hv : v = d0 * 64 + d1) :
    128 ≤ v ∧ v.isValidChar ∧
    String.utf8EncodeChar (Char.ofNat v) = [UInt8.ofNat (d0 + 0xc0), UInt8.ofNat (d1 + 0x80)] := by
  have c : 128 ≤ v ∧ ¬ v ≤ 0x7f ∧ v ≤ 0x7ff := by omega
  have hvalid : v.isValidChar := Or.inl (by omega)
  have q : v / 64 % 32 = d0 ∧ v % 64 = d1 := by omega
  rw [encodeChar_of_nat hvalid, if_neg c.2.1, if_pos c.2.2, q.1, q.2]
  exact ⟨c.1, hvalid, rfl⟩

theorem enc3 {d0 d1 d2 v : Nat} (h0 : d0 < 16) (h1 : d1 < 64) (h2 : d2 < 64) (he0 : d0 = 0 → 0x20 ≤ d1)
    (hed : d0 = 13 → d1 ≤ 0x1F) (hv : v = (d0 * 64 + d1) * 64 + d2) :
    128 ≤ v ∧ v.isValidChar ∧ String.utf8EncodeChar (Char.ofNat v) =
      [UInt8.ofNat (d0 + 0xe0), UInt8.ofNat (d1 + 0x80), UInt8.ofNat (d2 + 0x80)] := by
  have hb : 0x800 ≤ v ∧ v ≤ 0xffff := by omega
  have hvalid : v.isValidChar := by
    by_cases e : d0 ≤ 13
    · exact Or.inl (by omega)
    · exact Or.inr ⟨by omega, by omega⟩
  have c : 128 ≤ v ∧ ¬ v ≤ 0x7f ∧ ¬ v ≤ 0x7ff := by omega
  have q : v / 4096 % 16 = d0 ∧ v / 64 % 64 = d1 ∧ v % 64 = d2 := by omega
  rw [encodeChar_of_nat hvalid, if_neg c.2.1, if_neg c.2.2, if_pos hb.2, q.1, q.2.1, q.2.2]
  exact ⟨c.1, hvalid, rfl⟩

theorem enc4 {d0 d1 d2 d3 v : Nat} (h0 : d0 ≤ 4) (h1 : d1 < 64) (h2 : d2 < 64) (h3 : d3 < 64)
    (he0 : d0 = 0 → 0x10 ≤ d1) (he4 : d0 = 4 → d1 ≤ 0xF) (hv : v = ((d0 * 64 + d1) * 64 + d2) * 64 + d3) :
    128 ≤ v ∧ v.isValidChar ∧ String.utf8EncodeChar (Char.ofNat v) =
      [UInt8.ofNat (d0 + 0xf0), UInt8.ofNat (d1 + 0x80), UInt8.ofNat (d2 + 0x80), UInt8.ofNat (d3 + 0x80)] := by
  have hb : 0x10000 ≤ v ∧ v < 0x110000 := by omega
  have hvalid : v.isValidChar := Or.inr ⟨by omega, hb.2⟩
  have c : 128 ≤ v ∧ ¬ v ≤ 0x7f ∧ ¬ v ≤ 0x7ff ∧ ¬ v ≤ 0xffff := by omega
  have q : v / 262144 % 8 = d0 ∧ v / 4096 % 64 = d1 ∧ v / 64 % 64 = d2 ∧ v % 64 = d3 := by omega
  rw [encodeChar_of_nat hvalid, if_neg c.2.1, if_neg c.2.2.1, if_neg c.2.2.2, q.1, q.2.1, q.2.2.1, q.2.2.2]
  exact ⟨c.1, hvalid, rfl⟩

theorem byte_off {b : UInt8} {d k : Nat} (h : b.toNat = d + k) : UInt8.ofNat (d + k) = b := by
  rw [← h, UInt8.ofNat_toNat]

/-- **A valid multi-byte sequence** (lead byte, continuation bytes as `leadInfo` admits them): its code
point is a scalar value ≥ 128 and the sequence is that character's UTF-8 encoding. -/
theorem seq_spec {b0 : UInt8} {n : Nat} {lo hi : UInt8} (h : leadInfo b0 = some (n, lo, hi))
    {cs : Bytes} (hlen : cs.length = n)
    (hhead : ∀ b, cs.head? = some b → lo.toNat ≤ b.toNat ∧ b.toNat ≤ hi.toNat)
    (htail : ∀ b ∈ cs.tail, 0x80 ≤ b.toNat ∧ b.toNat ≤ 0xBF) :
    128 ≤ codePoint b0 cs ∧ (codePoint b0 cs).isValidChar ∧
    String.utf8EncodeChar (Char.ofNat (codePoint b0 cs)) = b0 :: cs := by
  have dig : ∀ (b : UInt8) (k : Nat), k ≤ b.toNat → ∃ d, b.toNat = d + k := fun b k h =>
    ⟨b.toNat - k, (Nat.sub_add_cancel h).symm⟩
  rcases leadInfo_spec h with ⟨rfl, l1, l2, e1, e2⟩ | ⟨rfl, l1, l2, e1, e2⟩ | ⟨rfl, l1, l2, e1, e2⟩
  · match cs, hlen, hhead with
    | [b1], _, hhead =>
      have h1 := hhead b1 rfl
      obtain ⟨d0, g0⟩ := dig b0 0xc0 (by omega)
      obtain ⟨d1, g1⟩ := dig b1 0x80 (by omega)
      have hs : (2 ≤ d0 ∧ d0 < 32) ∧ d1 < 64 := by omega
      have := enc2 (d0 := d0) (d1 := d1) hs.1 hs.2 rfl
      rw [byte_off g0, byte_off g1] at this
      simpa [codePoint, g0, g1] using this
  · match cs, hlen, hhead, htail with
    | [b1, b2], _, hhead, htail =>
      have h1 := hhead b1 rfl
      have h2 := htail b2 (by simp)
      obtain ⟨d0, g0⟩ := dig b0 0xe0 l1
      obtain ⟨d1, g1⟩ := dig b1 0x80 (by omega)
      obtain ⟨d2, g2⟩ := dig b2 0x80 h2.1
      have hs : d0 < 16 ∧ d1 < 64 ∧ d2 < 64 ∧ (d0 = 0 → 0x20 ≤ d1) ∧ (d0 = 13 → d1 ≤ 0x1F) := by omega
      have := enc3 (d0 := d0) (d1 := d1) (d2 := d2) hs.1 hs.2.1 hs.2.2.1 hs.2.2.2.1 hs.2.2.2.2 rfl
      rw [byte_off g0, byte_off g1, byte_off g2] at this
      simpa [codePoint, g0, g1, g2] using this
  · match cs, hlen, hhead, htail with
    | [b1, b2, b3], _, hhead, htail =>
      have h1 := hhead b1 rfl
      have h2 := htail b2 (by simp)
      have h3 := htail b3 (by simp)
      obtain ⟨d0, g0⟩ := dig b0 0xf0 l1
      obtain ⟨d1, g1⟩ := dig b1 0x80 (by omega)
      obtain ⟨d2, g2⟩ := dig b2 0x80 h2.1
      obtain ⟨d3, g3⟩ := dig b3 0x80 h3.1
      have hs : d0 ≤ 4 ∧ d1 < 64 ∧ d2 < 64 ∧ d3 < 64 ∧ (d0 = 0 → 0x10 ≤ d1) ∧ (d0 = 4 → d1 ≤ 0xF) := by omega
      have := enc4 (d0 := d0) (d1 := d1) (d2 := d2) (d3 := d3) hs.1 hs.2.1 hs.2.2.1 hs.2.2.2.1 hs.2.2.2.2.1
        hs.2.2.2.2.2 rfl
      rw [byte_off g0, byte_off g1, byte_off g2, byte_off g3] at this
      simpa [codePoint, g0, g1, g2, g3] using this

theorem firstItem_cases (b0 : UInt8) (t : Bytes) :
    (b0 < 0x80 ∧ firstItem b0 t = .chr (Char.ofNat b0.toNat) [b0]) ∨
    (∃ span, firstItem b0 t = .bad span ∧ ∀ b ∈ span, 0x80 ≤ b) ∨
    (∃ c raw, firstItem b0 t = .chr c raw ∧ 128 ≤ c.toNat ∧ isCont b0 = false ∧
      (∀ b ∈ raw, 0x80 ≤ b) ∧ String.utf8EncodeChar c = raw) := by
  by_cases h0 : b0 < 0x80
  · left; simp [firstItem, h0]
  · right
    have hge : 0x80 ≤ b0 := by
      rw [UInt8.le_iff_toNat_le]; rw [UInt8.lt_iff_toNat_lt] at h0; simp at h0 ⊢; omega
    cases h : leadInfo b0 with
    | none => left; exact ⟨[b0], by simp [firstItem, h0, h], by simp [hge]⟩
    | some v =>
      obtain ⟨n, lo, hi⟩ := v
      obtain ⟨h1, _, h3, _⟩ := leadInfo_range h
      have hraw : ∀ b ∈ b0 :: takeCont n lo hi t, 0x80 ≤ b := by
        intro b hb
        rcases List.mem_cons.mp hb with rfl | hb
        · exact hge
        · exact takeCont_ge n lo hi t h1 b hb
      rw [firstItem_lead h0 h]
      split
      · rename_i hlen
        right
        obtain ⟨g1, g2⟩ := takeCont_bounds n lo hi t
        obtain ⟨c1, c2, c3⟩ := seq_spec h hlen g1 g2
        refine ⟨_, _, rfl, by rw [toNat_ofNat_valid c2]; exact c1, ?_, hraw, c3⟩
        simp only [isCont, Py.inRange, Bool.and_eq_false_iff, decide_eq_false_iff_not]
        right
        rw [UInt8.le_iff_toNat_le] at h3 ⊢
        simp at h3 ⊢; omega
      · left
        exact ⟨_, rfl, hraw⟩

theorem items_nil (f : Nat) : items f [] = [] := by cases f <;> rfl

theorem items_fuel_eq : ∀ (f1 f2 : Nat) (bs : Bytes), bs.length ≤ f1 → bs.length ≤ f2 →
    items f1 bs = items f2 bs
  | f1, f2, [], _, _ => by rw [items_nil, items_nil]
  | 0, _, _ :: _, h, _ => by simp at h
  | _, 0, _ :: _, _, h => by simp at h
  | f1 + 1, f2 + 1, b0 :: t, h1, h2 => by
    simp only [items]
    congr 1
    have hl : (t.drop ((firstItem b0 t).raw.length - 1)).length ≤ t.length := by simp
    simp only [List.length_cons] at h1 h2
    exact items_fuel_eq f1 f2 _ (by omega) (by omega)

/-- the decoder's items of a byte string -/
def its (bs : Bytes) : List Item := items bs.length bs

theorem items_eq_its {fuel : Nat} {bs : Bytes} (h : bs.length ≤ fuel) : items fuel bs = its bs :=
  items_fuel_eq fuel bs.length bs h (Nat.le_refl _)

theorem its_nil : its [] = [] := rfl

theorem its_cons (b0 : UInt8) (t : Bytes) :
    its (b0 :: t) = firstItem b0 t :: its (t.drop ((firstItem b0 t).raw.length - 1)) := by
  simp only [its, List.length_cons, items]
  congr 1
  exact items_fuel_eq _ _ _ (by simp) (Nat.le_refl _)

/-- `bytes.decode("utf-8", "werkzeug.url_quote")` -/
def dec (bs : Bytes) : Str := (its bs).flatMap render

theorem decodeQ_eq {fuel : Nat} {bs : Bytes} (h : bs.length ≤ fuel) : decodeQ fuel bs = dec bs := by
  simp [decodeQ, dec, items_eq_its h]

theorem firstItem_split (b0 : UInt8) (t : Bytes) :
    b0 :: t = (firstItem b0 t).raw ++ t.drop ((firstItem b0 t).raw.length - 1) := by
  obtain ⟨cs, h1, ⟨r, h2⟩⟩ := firstItem_raw b0 t
  rw [h1]
  simp only [List.length_cons, Nat.add_sub_cancel, List.cons_append, List.cons.injEq, true_and]
  rw [← h2, List.drop_left]

theorem its_raw : ∀ (bs : Bytes), (its bs).flatMap Item.raw = bs
  | [] => rfl
  | b0 :: t => by
    rw [its_cons, List.flatMap_cons, its_raw (t.drop ((firstItem b0 t).raw.length - 1))]
    exact (firstItem_split b0 t).symm
termination_by bs => bs.length
decreasing_by simp; omega

theorem quoteBytes_high (safe : Str) : ∀ (span : Bytes), (∀ b ∈ span, 0x80 ≤ b) →
    quoteBytes safe span = span.flatMap pct
  | [], _ => rfl
  | b :: r, h => by
    have hb := h b (by simp)
    have hn : ¬ b.toNat < 128 := by rw [UInt8.le_iff_toNat_le] at hb; simp at hb; omega
    have ih := quoteBytes_high safe r (fun x hx => h x (List.mem_cons_of_mem _ hx))
    simp only [quoteBytes, List.flatMap_cons] at ih ⊢
    rw [ih]
    simp [quoteByte, isSafe, hn]

theorem requote_bad {span : Bytes} (h : ∀ b ∈ span, 0x80 ≤ b) : requote span = span.flatMap pct :=
  quoteBytes_high _ span h

/-- **what the decoder writes for the front item**, next to the bytes it came from: an ASCII byte as its
character, an undecodable span (bytes ≥ 0x80) as its escapes, a multi-byte character as itself -/
theorem render_firstItem (b0 : UInt8) (t : Bytes) :
    (b0 < 0x80 ∧ render (firstItem b0 t) = [Char.ofNat b0.toNat] ∧ (firstItem b0 t).raw = [b0]) ∨
    (∃ span, render (firstItem b0 t) = span.flatMap pct ∧ (firstItem b0 t).raw = span ∧ span ≠ [] ∧
      ∀ b ∈ span, 0x80 ≤ b) ∨
    (∃ c, render (firstItem b0 t) = [c] ∧ (firstItem b0 t).raw = String.utf8EncodeChar c ∧ 128 ≤ c.toNat ∧
      ∀ b ∈ String.utf8EncodeChar c, 0x80 ≤ b) := by
  rcases firstItem_cases b0 t with ⟨hb, hI⟩ | ⟨span, hI, hs⟩ | ⟨c, raw, hI, hc, _, hraw, henc⟩
  · exact Or.inl ⟨hb, by rw [hI]; rfl, by rw [hI]; rfl⟩
  · obtain ⟨cs, hr, _⟩ := firstItem_raw b0 t
    rw [hI] at hr
    exact Or.inr (Or.inl ⟨span, by rw [hI]; exact requote_bad hs, by rw [hI]; rfl, by rw [show span = _ from hr]; simp, hs⟩)
  · exact Or.inr (Or.inr ⟨c, by rw [hI]; rfl, by rw [hI]; exact henc.symm, hc, henc ▸ hraw⟩)

theorem its_append {B : Bytes} (hB : ∀ b, B.head? = some b → isCont b = false) :
    ∀ (P : Bytes), its (P ++ B) = its P ++ its B
  | [] => by simp [its_nil]
  | p0 :: Pt => by
    obtain ⟨cs, hr, ⟨w, hw⟩⟩ := firstItem_raw p0 Pt
    have hk : (firstItem p0 Pt).raw.length - 1 = cs.length := by rw [hr]; simp
    rw [List.cons_append, its_cons, its_cons, firstItem_append p0 Pt B hB, hk]
    have hd : (Pt ++ B).drop cs.length = Pt.drop cs.length ++ B := by
      rw [← hw]; simp
    rw [hd, its_append hB (Pt.drop cs.length)]
    rfl
termination_by P => P.length
decreasing_by simp; omega

theorem its_ascii_cons {a : UInt8} (ha : a < 0x80) (B : Bytes) :
    its (a :: B) = .chr (Char.ofNat a.toNat) [a] :: its B := by
  rw [its_cons]
  have : firstItem a B = .chr (Char.ofNat a.toNat) [a] := by simp [firstItem, ha]
  rw [this]
  simp [Item.raw]

theorem ascii_not_cont {a : UInt8} (ha : a < 0x80) : isCont a = false := by
  simp only [isCont, Py.inRange, Bool.and_eq_false_iff, decide_eq_false_iff_not]
  left
  rw [UInt8.le_iff_toNat_le]; rw [UInt8.lt_iff_toNat_lt] at ha
  simp at ha ⊢; omega

theorem mem_its {I : Item} : ∀ {B : Bytes}, I ∈ its B → ∃ b0 t, I = firstItem b0 t ∧ b0 ∈ B
  | [], h => by simp [its_nil] at h
  | b0 :: t, h => by
    rw [its_cons] at h
    rcases List.mem_cons.mp h with rfl | h
    · exact ⟨b0, t, rfl, by simp⟩
    · obtain ⟨b1, t1, h1, h2⟩ := mem_its h
      exact ⟨b1, t1, h1, List.mem_cons_of_mem _ (List.mem_of_mem_drop h2)⟩
termination_by B => B.length
decreasing_by simp; omega

theorem takeCont_exact : ∀ (cs : Bytes) (lo hi : UInt8) (rest : Bytes),
    (∀ b, cs.head? = some b → lo.toNat ≤ b.toNat ∧ b.toNat ≤ hi.toNat) →
    (∀ b ∈ cs.tail, 0x80 ≤ b.toNat ∧ b.toNat ≤ 0xBF) →
    takeCont cs.length lo hi (cs ++ rest) = cs
  | [], _, _, _, _, _ => by simp [takeCont]
  | b :: cs, lo, hi, rest, h1, h2 => by
    have hb := (inRange_iff b lo hi).mpr (h1 b rfl)
    simp only [List.length_cons, List.cons_append, takeCont, hb, if_true, List.cons.injEq, true_and]
    apply takeCont_exact cs 0x80 0xBF rest
    · intro x hx
      cases cs with
      | nil => cases hx
      | cons y ys =>
        simp only [List.head?_cons, Option.some.injEq] at hx
        subst hx
        exact h2 y (by simp)
    · intro x hx
      cases cs with
      | nil => cases hx
      | cons y ys => exact h2 x (by simp at hx ⊢; exact Or.inr hx)

theorem not_lt_80 {n : Nat} (h1 : 128 ≤ n) (h2 : n < 256) : ¬ UInt8.ofNat n < 0x80 := by
  rw [UInt8.lt_iff_toNat_lt, uint8_toNat_ofNat_lt h2]; simp; omega

theorem firstItem_multi {b0 : UInt8} {n : Nat} {lo hi : UInt8} (hl : leadInfo b0 = some (n, lo, hi))
    (cs : Bytes) (hlen : cs.length = n)
    (hh : ∀ b, cs.head? = some b → lo.toNat ≤ b.toNat ∧ b.toNat ≤ hi.toNat)
    (ht : ∀ b ∈ cs.tail, 0x80 ≤ b.toNat ∧ b.toNat ≤ 0xBF) (rest : Bytes) :
    firstItem b0 (cs ++ rest) = .chr (Char.ofNat (codePoint b0 cs)) (b0 :: cs) := by
  have hge : ¬ b0 < 0x80 := fun h => by
    have := (leadInfo_range hl).2.2.1
    rw [UInt8.le_iff_toNat_le] at this; rw [UInt8.lt_iff_toNat_lt] at h
    simp at this h; omega
  rw [firstItem_lead hge hl, ← hlen, takeCont_exact cs lo hi rest hh ht, if_pos rfl]

/-! The bytes the encoder writes, as digits (`enc2`–`enc4` read backwards): they form a valid sequence
whose code point is the number the digits spell. -/

theorem dec2 {b0 b1 : UInt8} {d0 d1 : Nat} (h0 : b0.toNat = d0 + 0xc0) (h1 : b1.toNat = d1 + 0x80)
    (hd : 2 ≤ d0 ∧ d0 < 32 ∧ d1 < 64) (rest : Bytes) :
    firstItem b0 ([b1] ++ rest) = .chr (Char.ofNat (d0 * 64 + d1)) [b0, b1] := by
  have hl := (leadInfo_of b0).1 (by omega)
  rw [firstItem_multi hl [b1] rfl (by simp; omega) (by simp) rest]
  simp [codePoint, h0, h1]

theorem dec3 {b0 b1 b2 : UInt8} {d0 d1 d2 : Nat} (h0 : b0.toNat = d0 + 0xe0) (h1 : b1.toNat = d1 + 0x80)
    (h2 : b2.toNat = d2 + 0x80) (hd : d0 < 16 ∧ d1 < 64 ∧ d2 < 64) (he0 : d0 = 0 → 0x20 ≤ d1)
    (hed : d0 = 13 → d1 ≤ 0x1F) (rest : Bytes) :
    firstItem b0 ([b1, b2] ++ rest) = .chr (Char.ofNat ((d0 * 64 + d1) * 64 + d2)) [b0, b1, b2] := by
  have hl := (leadInfo_of b0).2.1 (by omega)
  generalize (if b0 == 0xE0 then (0xA0 : UInt8) else 0x80) = lo at hl
  generalize (if b0 == 0xED then (0x9F : UInt8) else 0xBF) = hi at hl
  rcases leadInfo_spec hl with ⟨e, _⟩ | ⟨_, _, _, e1, e2⟩ | ⟨e, _⟩
  · cases e
  · rw [firstItem_multi hl [b1, b2] rfl (by simp; omega) (by simp; omega) rest]
    simp [codePoint, h0, h1, h2]
  · cases e

theorem dec4 {b0 b1 b2 b3 : UInt8} {d0 d1 d2 d3 : Nat} (h0 : b0.toNat = d0 + 0xf0) (h1 : b1.toNat = d1 + 0x80)
    (h2 : b2.toNat = d2 + 0x80) (h3 : b3.toNat = d3 + 0x80) (hd : d0 ≤ 4 ∧ d1 < 64 ∧ d2 < 64 ∧ d3 < 64)
    (he0 : d0 = 0 → 0x10 ≤ d1) (he4 : d0 = 4 → d1 ≤ 0xF) (rest : Bytes) :
    firstItem b0 ([b1, b2, b3] ++ rest) =
      .chr (Char.ofNat (((d0 * 64 + d1) * 64 + d2) * 64 + d3)) [b0, b1, b2, b3] := by
  have hl := (leadInfo_of b0).2.2 (by omega)
  generalize (if b0 == 0xF0 then (0x90 : UInt8) else 0x80) = lo at hl
  generalize (if b0 == 0xF4 then (0x8F : UInt8) else 0xBF) = hi at hl
  rcases leadInfo_spec hl with ⟨e, _⟩ | ⟨e, _⟩ | ⟨_, _, _, e1, e2⟩
  · cases e
  · cases e
  · rw [firstItem_multi hl [b1, b2, b3] rfl (by simp; omega) (by simp; omega) rest]
    simp [codePoint, h0, h1, h2, h3]

/-- the decoder inverts the encoder: the front item of `utf8(c) ++ rest` is `c` -/
theorem firstItem_encode (c : Char) (rest : Bytes) :
    ∃ b0 cs, String.utf8EncodeChar c = b0 :: cs ∧ firstItem b0 (cs ++ rest) = .chr c (b0 :: cs) := by
  have hvalid : c.toNat < 0xD800 ∨ (0xDFFF < c.toNat ∧ c.toNat < 0x110000) := c.valid
  rw [← Char.ofNat_toNat c]
  generalize c.toNat = v at hvalid
  rw [encodeChar_of_nat hvalid]
  have hn : ∀ d k, d + k < 256 → (UInt8.ofNat (d + k)).toNat = d + k := fun d k h => uint8_toNat_ofNat_lt h
  by_cases h1 : v ≤ 0x7f
  · refine ⟨UInt8.ofNat v, [], by rw [if_pos h1], ?_⟩
    have hlt : UInt8.ofNat v < 0x80 := by
      rw [UInt8.lt_iff_toNat_lt, uint8_toNat_ofNat_lt (by omega)]; simp; omega
    simp [firstItem, hlt, uint8_toNat_ofNat_lt (show v < 256 by omega)]
  rw [if_neg h1]
  -- in each class: name the digits (one `omega` relates them to `v`), then read `dec2` / `dec3` / `dec4`
  by_cases h2 : v ≤ 0x7ff
  · rw [if_pos h2]
    have q : (2 ≤ v / 64 % 32 ∧ v / 64 % 32 < 32 ∧ v % 64 < 64) ∧ v / 64 % 32 * 64 + v % 64 = v := by omega
    generalize v / 64 % 32 = d0 at q ⊢
    generalize v % 64 = d1 at q ⊢
    refine ⟨_, _, rfl, ?_⟩
    rw [dec2 (hn d0 _ (by omega)) (hn d1 _ (by omega)) q.1, q.2]
  rw [if_neg h2]
  by_cases h3 : v ≤ 0xffff
  · rw [if_pos h3]
    have q : (v / 4096 % 16 < 16 ∧ v / 64 % 64 < 64 ∧ v % 64 < 64) ∧ (v / 4096 % 16 = 0 → 0x20 ≤ v / 64 % 64) ∧
        (v / 4096 % 16 = 13 → v / 64 % 64 ≤ 0x1F) ∧ (v / 4096 % 16 * 64 + v / 64 % 64) * 64 + v % 64 = v := by
      omega
    generalize v / 4096 % 16 = d0 at q ⊢
    generalize v / 64 % 64 = d1 at q ⊢
    generalize v % 64 = d2 at q ⊢
    refine ⟨_, _, rfl, ?_⟩
    rw [dec3 (hn d0 _ (by omega)) (hn d1 _ (by omega)) (hn d2 _ (by omega)) q.1 q.2.1 q.2.2.1, q.2.2.2]
  · rw [if_neg h3]
    have q : (v / 262144 % 8 ≤ 4 ∧ v / 4096 % 64 < 64 ∧ v / 64 % 64 < 64 ∧ v % 64 < 64) ∧
        (v / 262144 % 8 = 0 → 0x10 ≤ v / 4096 % 64) ∧ (v / 262144 % 8 = 4 → v / 4096 % 64 ≤ 0xF) ∧
        ((v / 262144 % 8 * 64 + v / 4096 % 64) * 64 + v / 64 % 64) * 64 + v % 64 = v := by omega
    generalize v / 262144 % 8 = d0 at q ⊢
    generalize v / 4096 % 64 = d1 at q ⊢
    generalize v / 64 % 64 = d2 at q ⊢
    generalize v % 64 = d3 at q ⊢
    refine ⟨_, _, rfl, ?_⟩
    rw [dec4 (hn d0 _ (by omega)) (hn d1 _ (by omega)) (hn d2 _ (by omega)) (hn d3 _ (by omega)) q.1 q.2.1
      q.2.2.1, q.2.2.2]

theorem its_utf8Enc : ∀ (s : Str) (rest : Bytes),
    its (utf8Enc s ++ rest) = s.map (fun c => Item.chr c (String.utf8EncodeChar c)) ++ its rest
  | [], rest => by simp [utf8Enc]
  | c :: s, rest => by
    obtain ⟨b0, cs, h1, h2⟩ := firstItem_encode c (utf8Enc s ++ rest)
    have : utf8Enc (c :: s) ++ rest = b0 :: (cs ++ (utf8Enc s ++ rest)) := by
      simp [utf8Enc, h1]
    rw [this, its_cons, h2]
    simp only [Item.raw, List.length_cons, Nat.add_sub_cancel, List.drop_left, List.map_cons, h1,
      List.cons_append]
    rw [its_utf8Enc s rest]

/-- decoding what the encoder produced gives the text back, with either treatment of errors -/
theorem decode_utf8Enc (r : Item → Str) (hr : ∀ c raw, r (.chr c raw) = [c]) (s : Str) :
    (its (utf8Enc s)).flatMap r = s := by
  have := its_utf8Enc s []
  simp only [List.append_nil, its_nil] at this
  rw [this]
  clear this
  induction s with
  | nil => rfl
  | cons c s ih => simp only [List.map_cons, List.flatMap_cons, hr, ih, List.singleton_append]

theorem dec_append {P B : Bytes} (hB : ∀ b, B.head? = some b → isCont b = false) : dec (P ++ B) = dec P ++ dec B := by
  simp only [dec, its_append hB P, List.flatMap_append]

theorem dec_ascii_cons {a : UInt8} (ha : a < 0x80) (B : Bytes) : dec (a :: B) = Char.ofNat a.toNat :: dec B := by
  simp [dec, its_ascii_cons ha, render]

theorem dec_utf8Enc_append (s : Str) (R : Bytes) : dec (utf8Enc s ++ R) = s ++ dec R := by
  simp only [dec, its_utf8Enc, List.flatMap_append, List.flatMap_map, render]
  simp

theorem dec_utf8Enc (s : Str) : dec (utf8Enc s) = s := decode_utf8Enc render (fun _ _ => rfl) s

theorem dec_encodeChar (c : Char) (R : Bytes) : dec (String.utf8EncodeChar c ++ R) = c :: dec R := by
  simpa [utf8Enc] using dec_utf8Enc_append [c] R

theorem utf8EncodeChar_lead (c : Char) : ∃ b0 cs, String.utf8EncodeChar c = b0 :: cs ∧ isCont b0 = false := by
  obtain ⟨b0, cs, h1, h2⟩ := firstItem_encode c []
  refine ⟨b0, cs, h1, ?_⟩
  rcases firstItem_cases b0 (cs ++ []) with ⟨hb, _⟩ | ⟨span, hI, _⟩ | ⟨_, _, _, _, hc, _⟩
  · exact ascii_not_cont hb
  · rw [h2] at hI; cases hI
  · exact hc

theorem render_ne (b0 : UInt8) (t : Bytes) : render (firstItem b0 t) ≠ [] := by
  rcases render_firstItem b0 t with ⟨_, h, _⟩ | ⟨span, h, _, hne, _⟩ | ⟨c, h, _⟩ <;> rw [h]
  · simp
  · cases span with
    | nil => exact absurd rfl hne
    | cons b r => simp [pct]
  · simp

theorem dec_ne {B : Bytes} (h : B ≠ []) : dec B ≠ [] := by
  cases B with
  | nil => exact absurd rfl h
  | cons b0 t =>
    rw [dec, its_cons, List.flatMap_cons]
    exact fun he => render_ne b0 t (List.append_eq_nil_iff.mp he).1

end Wz.Url
