/-
The two hand-written models of `_etag_re` / `parse_etags` against each other. `Model/Conditional.lean` inlines
its own small model (`Cond.etagDelim`, `quotedTag`, `rawTag`, `weakPrefix`, `parseEtags`); on text without LF it
is the same function as C06's (`Http.etagTerm?`, `etagAlt1`, `etagAlt2`, `etagMatch`, `parseEtags` of
`Model/Http.lean`), so what is proved about the one transfers to the other (`cond_parseEtags_eq`). With an LF the
two differ: C06's `$` also matches before a final LF, C11's does not; and after a `W/` prefix whose body does not
match C06 retries without the prefix.
-/
import WzVerif.Lemmas.EtagText
import WzVerif.Model.Http
import WzVerif.Lemmas.HttpEtagNF
namespace Wz.PyFnsEq.Etag
open Wz Wz.Pre

theorem etagDelim_eq (r : Str) (hlf : '\n' ∉ r) : Cond.etagDelim r = Http.etagTerm? r := by
  unfold Cond.etagDelim Http.etagTerm?
  cases r with
  | nil => simp
  | cons c t =>
    have h1 : (c :: t) ≠ ['\n'] := by
      intro h; rw [h] at hlf; simp at hlf
    simp only [List.isEmpty_cons, Bool.false_eq_true, if_false]
    split <;> simp_all

theorem quotedTag_eq (t : Str) : ∀ acc : Str, '\n' ∉ t → Cond.quotedTag t acc = Http.etagAlt1 t acc := by
  induction t with
  | nil => intro acc _; rfl
  | cons c t ih =>
    intro acc hlf
    have hlft : '\n' ∉ t := fun hm => hlf (by simp [hm])
    have hc : c ≠ '\n' := fun h => hlf (by simp [h])
    unfold Cond.quotedTag Http.etagAlt1
    simp only [etagDelim_eq t hlft, ih _ hlft, Http.dotCh]
    have : (c == '\n') = false := by simpa using hc
    simp only [this, bne, Bool.not_false, Bool.false_eq_true, if_true, if_false]
    cases Http.etagTerm? t <;> rfl

theorem rawTag_eq (t : Str) : ∀ acc : Str, '\n' ∉ t → Cond.rawTag t acc = Http.etagAlt2 t acc := by
  induction t with
  | nil => intro acc _; rfl
  | cons c t ih =>
    intro acc hlf
    have hlft : '\n' ∉ t := fun hm => hlf (by simp [hm])
    have hc : c ≠ '\n' := fun h => hlf (by simp [h])
    unfold Cond.rawTag Http.etagAlt2
    simp only [etagDelim_eq (c :: t) hlf, ih _ hlft, Http.dotCh]
    have : (c == '\n') = false := by simpa using hc
    simp only [this, bne, Bool.not_false, Bool.false_eq_true, if_true, if_false]
    cases Http.etagTerm? (c :: t) <;> rfl

theorem etagAlt2_some (t : Str) : ∀ acc : Str, '\n' ∉ t → ∃ x, Http.etagAlt2 t acc = some x := by
  induction t with
  | nil => intro acc _; exact ⟨_, rfl⟩
  | cons c t ih =>
    intro acc hlf
    have hlft : '\n' ∉ t := fun hm => hlf (by simp [hm])
    have hc : c ≠ '\n' := fun h => hlf (by simp [h])
    unfold Http.etagAlt2
    split
    · exact ⟨_, rfl⟩
    · simp only [Http.dotCh, bne_iff_ne, ne_eq, hc, not_false_eq_true, if_true]
      exact ih _ hlft

/-- the branch on the groups, as C11's model takes it, read off C06's `etagBody` -/
def condOfBody (x : Option Str × Option Str × Str) : Option Str × Bool × Str :=
  ((match x.1 with | some t => some t | none => x.2.1), x.2.1 == some ['*'], x.2.2)

theorem etagMatch_body (q : Str) (hlf : '\n' ∉ q) :
    Cond.etagMatch q = (Http.etagBody q).map condOfBody := by
  unfold Cond.etagMatch Http.etagBody Cond.quotedAt
  rw [rawTag_eq q [] hlf]
  obtain ⟨x, hx⟩ := etagAlt2_some q [] hlf
  obtain ⟨b, r⟩ := x
  cases q with
  | nil => simp [hx, condOfBody]
  | cons c t =>
    have hlft : '\n' ∉ t := fun hm => hlf (by simp [hm])
    by_cases hc : c = '"'
    · subst hc
      simp only [quotedTag_eq t [] hlft]
      cases h1 : Http.etagAlt1 t [] with
      | none => simp [hx, condOfBody]
      | some y => obtain ⟨b1, r1⟩ := y; simp [condOfBody]
    · simp [hc, hx, condOfBody]

theorem etagBody_some (q : Str) (hlf : '\n' ∉ q) : ∃ x, Http.etagBody q = some x := by
  unfold Http.etagBody
  obtain ⟨x, hx⟩ := etagAlt2_some q [] hlf
  simp only [hx, Option.map_some]
  split
  · exact ⟨_, rfl⟩
  · exact ⟨_, rfl⟩

theorem http_etagMatch_eq (s : Str) (hlf : '\n' ∉ s) :
    Http.etagMatch s = (Http.etagBody (Cond.weakPrefix s).2).map
      fun x => ((Cond.weakPrefix s).1, x.1, x.2.1, x.2.2) := by
  unfold Http.etagMatch
  match s, hlf with
  | [], _ => simp [Cond.weakPrefix]
  | [a], _ => simp [Cond.weakPrefix]
  | a :: b :: q, hlf =>
    have hlfq : '\n' ∉ q := fun hm => hlf (by simp [hm])
    obtain ⟨x, hx⟩ := etagBody_some q hlfq
    obtain ⟨x1, x2, x3⟩ := x
    by_cases hb : b = '/'
    · subst hb
      by_cases h1 : a = 'W'
      · subst h1; simp [Cond.weakPrefix, hx]
      · by_cases h2 : a = 'w'
        · subst h2; simp [Cond.weakPrefix, hx]
        · simp [Cond.weakPrefix_other (s := a :: '/' :: q) fun t => ⟨by simp [h1], by simp [h2]⟩, h1, h2]
    · rw [Cond.weakPrefix_other (s := a :: b :: q) fun t => ⟨by simp [hb], by simp [hb]⟩]
      split
      · rename_i heq; simp only [List.cons.injEq] at heq; exact absurd heq.2.1 hb
      · rfl

theorem weakPrefix_suffix (s : Str) : (Cond.weakPrefix s).2 <:+ s := by
  unfold Cond.weakPrefix
  split
  · exact (List.suffix_cons _ _).trans (List.suffix_cons _ _)
  · exact (List.suffix_cons _ _).trans (List.suffix_cons _ _)
  · exact List.suffix_refl _

def toCond (e : Http.ETags) : Cond.ETags := ⟨e.strong, e.weak, e.star⟩

theorem parseEtagsLoop_eq : ∀ (fuel : Nat) (s : Str) (st wk : List (Option Str)), '\n' ∉ s →
    Cond.parseEtagsLoop fuel s st wk = toCond (Http.parseEtagsGo fuel s st wk) := by
  intro fuel
  induction fuel with
  | zero => intro s st wk _; rfl
  | succ f ih =>
    intro s st wk hlf
    unfold Cond.parseEtagsLoop Http.parseEtagsGo
    by_cases hs : s.isEmpty = true
    · simp [hs, toCond]
    · have hlfq : '\n' ∉ (Cond.weakPrefix s).2 := fun hm => hlf ((weakPrefix_suffix s).subset hm)
      simp only [hs, Bool.false_eq_true, if_false, http_etagMatch_eq s hlf, etagMatch_body _ hlfq]
      cases hb : Http.etagBody (Cond.weakPrefix s).2 with
      | none => simp [toCond]
      | some x =>
        obtain ⟨q, r, rest⟩ := x
        have hlf' : '\n' ∉ rest := fun hm => hlfq ((Http.etagBody_out hb).2.suffix.subset hm)
        simp only [Option.map_some, condOfBody]
        by_cases hstar : (r == some ['*']) = true
        · simp [hstar, toCond]
        · simp only [hstar, Bool.false_eq_true, if_false]
          cases (Cond.weakPrefix s).1 <;> cases q <;> simp [ih _ _ _ hlf']

theorem cond_parseEtags_eq (v : Str) (hlf : '\n' ∉ v) :
    Cond.parseEtags (some v) = toCond (Http.parseEtags v) := by
  unfold Cond.parseEtags Http.parseEtags
  by_cases he : v = []
  · subst he; rfl
  · have : v.isEmpty = false := by simpa using he
    simp only [this, Bool.false_eq_true, if_false]
    exact parseEtagsLoop_eq _ v [] [] hlf

theorem parseEtagsGo_star : ∀ (fuel : Nat) (s : Str) (st wk : List (Option Str)),
    Http.parseEtagsGo fuel s st wk = ⟨[], [], true⟩ ∨ (Http.parseEtagsGo fuel s st wk).star = false := by
  intro fuel
  induction fuel with
  | zero => intro s st wk; right; rfl
  | succ f ih =>
    intro s st wk
    unfold Http.parseEtagsGo
    split
    · right; rfl
    · split
      · right; rfl
      · split
        · left; rfl
        · simp only []
          split
          · exact ih _ _ _
          · exact ih _ _ _

end Wz.PyFnsEq.Etag
