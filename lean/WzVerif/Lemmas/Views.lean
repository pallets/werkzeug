/-
A live view of a response header (C16) is a `Family`: the property getter, the `on_update` writer, and view mutators that
report whether they notified. `coherent` is the generic argument along a history (`run`) of one response with one held view:
while the view is in sync, re-reading the property gives it back; each family's `*_quiet` lemma says that a mutator which
did not notify left the view as it was (notification completeness).
-/
import WzVerif.Model.Views
import WzVerif.Lemmas.HeaderSet
import WzVerif.Lemmas.HeadersSpec
namespace Wz.C16L
open Wz Hdr

/-- a live view family of a response -/
structure Family (σ ο : Type) where
  /-- the property getter: parse the headers into a fresh view -/
  load : HList → σ
  /-- what the getter does to the headers (identity, except `content_range`) -/
  refetchH : HList → HList
  /-- the `on_update` closure: serialise the view back into the headers -/
  write : HList → σ → HList
  /-- a mutator of the view object: new state, and whether `on_update` was called -/
  vstep : σ → ο → σ × Bool

inductive Ev (ο : Type) where
  /-- a mutator called on the held view object -/
  | view (op : ο)
  /-- the property is read again and the new object is held -/
  | refetch
  /-- anything that only touches the headers: direct edits, whole-property assignment, `del` -/
  | edit (f : HList → HList)

/-- headers, the held view, and whether the held view is known to be in sync with the headers -/
structure S (σ : Type) where
  h : HList
  v : σ
  synced : Bool

variable {σ ο : Type}

def next (F : Family σ ο) (s : S σ) : Ev ο → S σ
  | .view op =>
    let r := F.vstep s.v op
    ⟨if r.2 then F.write s.h r.1 else s.h, r.1, if r.2 then true else s.synced⟩
  | .refetch => ⟨F.refetchH s.h, F.load s.h, true⟩
  | .edit f => ⟨f s.h, s.v, false⟩

def run (F : Family σ ο) (s : S σ) : List (Ev ο) → S σ
  | [] => s
  | e :: t => run F (next F s e) t

/-- plain equality as a view equality -/
def eqB [DecidableEq σ] (a b : σ) : Bool := decide (a = b)

theorem eqB_iff [DecidableEq σ] (a b : σ) : eqB a b = true ↔ a = b := by simp [eqB]

/-- side conditions of a history: every mutator call is admissible, every fetched view satisfies the
family invariant and re-reads equal after the getter's own rewrite, and every view that writes itself
back is in `good` (the domain on which the header codec round-trips; `E` is the equality of views) -/
def okHistGood (F : Family σ ο) (E : σ → σ → Bool) (I : σ → Bool) (adm : σ → ο → Bool) (good : HList → σ → Bool)
    (s : S σ) : List (Ev ο) → Bool
  | [] => true
  | .view op :: t =>
    adm s.v op && (let r := F.vstep s.v op; !r.2 || good s.h r.1) &&
    okHistGood F E I adm good (next F s (.view op)) t
  | .refetch :: t =>
    I (F.load s.h) && E (F.load (F.refetchH s.h)) (F.load s.h) && okHistGood F E I adm good (next F s .refetch) t
  | .edit f :: t => okHistGood F E I adm good (next F s (.edit f)) t

/-- the generic coherence argument: the invariant is kept, and whenever the held view is in sync
re-reading the property gives it back (`hrt`: a written view in `good` round-trips through the codec) -/
theorem coherent (F : Family σ ο) (E : σ → σ → Bool) (I : σ → Bool) (adm : σ → ο → Bool) (good : HList → σ → Bool)
    (hstep : ∀ v op, I v = true → adm v op = true → I (F.vstep v op).1 = true)
    (hquiet : ∀ v op, I v = true → adm v op = true → (F.vstep v op).2 = false → (F.vstep v op).1 = v)
    (hrt : ∀ h v, I v = true → good h v = true → E (F.load (F.write h v)) v = true)
    (evs : List (Ev ο)) (s : S σ) (hI : I s.v = true) (hs : s.synced = true → E (F.load s.h) s.v = true)
    (hok : okHistGood F E I adm good s evs = true) :
    I (run F s evs).v = true ∧
    ((run F s evs).synced = true → E (F.load (run F s evs).h) (run F s evs).v = true) := by
  induction evs generalizing s with
  | nil => exact ⟨hI, hs⟩
  | cons e t ih =>
    cases e with
    | view op =>
      simp only [okHistGood, Bool.and_eq_true, Bool.or_eq_true, Bool.not_eq_true'] at hok
      obtain ⟨⟨hadm, hg⟩, hrest⟩ := hok
      have hI' := hstep _ _ hI hadm
      apply ih (next F s (.view op)) hI' _ hrest
      simp only [next]
      cases hn : (F.vstep s.v op).2 with
      | true =>
        intro _
        rcases hg with h | h
        · rw [hn] at h; cases h
        · exact hrt _ _ hI' h
      | false =>
        intro hsy
        simp only [Bool.false_eq_true, if_false] at hsy ⊢
        rw [hquiet _ _ hI hadm hn]
        exact hs hsy
    | refetch =>
      simp only [okHistGood, Bool.and_eq_true] at hok
      obtain ⟨⟨hi, hrt'⟩, hrest⟩ := hok
      exact ih (next F s .refetch) hi (fun _ => hrt') hrest
    | edit f =>
      simp only [okHistGood] at hok
      exact ih (next F s (.edit f)) hI (fun h => by cases h) hok

/-- `coherent` for families compared with plain equality and no invariant / admissibility side
conditions -/
theorem coherent_eq [DecidableEq σ] (F : Family σ ο) (I : σ → Bool) (adm : σ → ο → Bool) (good : HList → σ → Bool)
    (hI : ∀ v, I v = true)
    (hquiet : ∀ v op, (F.vstep v op).2 = false → (F.vstep v op).1 = v)
    (hrt : ∀ h v, good h v = true → F.load (F.write h v) = v)
    (evs : List (Ev ο)) (s : S σ) (hs : s.synced = true → F.load s.h = s.v)
    (hok : okHistGood F eqB I adm good s evs = true) :
    (run F s evs).synced = true → F.load (run F s evs).h = (run F s evs).v :=
  fun hsy => (eqB_iff _ _).1 ((coherent F eqB I adm good (fun _ _ _ _ => hI _) (fun v op _ _ h => hquiet v op h)
    (fun h v _ hg => (eqB_iff _ _).2 (hrt h v hg)) evs s (hI _) (fun h => (eqB_iff _ _).2 (hs h)) hok).2 hsy)

/-- an effective mutation (the view changed) always notifies, hence the headers are rewritten from
the new view -/
theorem effective_writes (F : Family σ ο) (I : σ → Bool) (adm : σ → ο → Bool)
    (hquiet : ∀ v op, I v = true → adm v op = true → (F.vstep v op).2 = false → (F.vstep v op).1 = v)
    (s : S σ) (op : ο) (hI : I s.v = true) (hadm : adm s.v op = true)
    (hne : (F.vstep s.v op).1 ≠ s.v) :
    (next F s (.view op)).h = F.write s.h (F.vstep s.v op).1 := by
  cases hn : (F.vstep s.v op).2 with
  | false => exact absurd (hquiet _ _ hI hadm hn) hne
  | true => simp [next, hn]

open Views

theorem dstep_quiet {β : Type} (d : PyDict.Dict Str β) (op : DOp β) (h : (dstep d op).notified = false) :
    (dstep d op).st = d := by
  cases op with
  | setitem k v => simp [dstep] at h
  | delitem k => simp only [dstep] at h ⊢; split <;> simp_all
  | clear => simp [dstep] at h
  | popitem => simp only [dstep] at h ⊢; split <;> simp_all
  | update l => simp [dstep] at h
  | setdefault k v => simp only [dstep] at h ⊢; split <;> simp_all
  | pop k dflt =>
    simp only [dstep] at h ⊢
    split
    · simp_all
    · split <;> rfl

theorem cc_quiet (d : ODict) (op : CC.Op) (h : (CC.step d op).notified = false) : (CC.step d op).st = d := by
  cases op with
  | dict op => exact dstep_quiet d op h
  | delattr key => simp only [CC.step, CC.delValue] at h ⊢; split <;> simp_all
  | attr key ty v =>
    simp only [CC.step, CC.setValue] at h ⊢
    repeat' split
    all_goals simp_all

theorem csp_quiet (d : CSP.St) (op : CSP.Op) (h : (CSP.step d op).notified = false) : (CSP.step d op).st = d := by
  cases op with
  | dict op => exact dstep_quiet d op h
  | delattr key => simp only [CSP.step, CSP.delValue] at h ⊢; split <;> simp_all
  | attr key v =>
    simp only [CSP.step, CSP.setValue] at h ⊢
    repeat' split
    all_goals simp_all

theorem cr_quiet (c : CR.St) (op : CR.Op) (h : (CR.step c op).notified = false) : (CR.step c op).st = c := by
  cases op <;> simp only [CR.step] at h ⊢ <;> first | (simp at h) | (split <;> simp_all)

theorem auth_quiet (c : Auth.St) (op : Auth.Op) (h : (Auth.step c op).notified = false) : (Auth.step c op).st = c := by
  cases op with
  | setType s => simp [Auth.step] at h
  | setToken t => simp [Auth.step] at h
  | setParams d => simp [Auth.step] at h
  | setitem k v => cases v <;> simp [Auth.step] at h
  | delitem k => simp only [Auth.step] at h ⊢; split <;> simp_all
  | pdict op =>
    simp only [Auth.step] at h ⊢
    rw [dstep_quiet c.params op h]

theorem updateLoop_quiet (c : HS.St) (hs : List Str) (h : (HS.updateLoop c hs).2 = false) :
    (HS.updateLoop c hs).1 = c := by
  induction hs generalizing c with
  | nil => rfl
  | cons x t ih =>
    cases hc : c.set.contains (lower x) with
    | true =>
      simp only [HS.updateLoop, hc, if_true] at h ⊢
      exact ih c h
    | false =>
      have hm : lower x ∉ c.set := by simpa using hc
      simp [HS.updateLoop, hm] at h

theorem hs_quiet (c : HS.St) (hI : HS.Inv c) (op : HS.Op) (h : (HS.step c op).notified = false) :
    (HS.step c op).st = c := by
  cases op with
  | add x => exact updateLoop_quiet c [x] h
  | update l => exact updateLoop_quiet c l h
  | clear => simp [HS.step] at h
  | remove x => simp only [HS.step, HS.remove] at h ⊢; split <;> simp_all
  | discard x => simp only [HS.step, HS.discard, HS.remove] at h ⊢; split <;> simp_all
  | delitem i =>
    simp only [HS.step, HS.delitem] at h ⊢
    cases hp : pyIdx c.headers.length i with
    | none => rfl
    | some n =>
      simp only [hp] at h ⊢
      cases hg : c.headers[n]? with
      | none => rfl
      | some rv =>
        simp only [hg] at h ⊢
        simp only [C08L.contains_of_getElem? hI hg, if_true] at h
        exact absurd h (by simp)
  | setitem i v =>
    simp only [HS.step, HS.setitem] at h ⊢
    cases hp : pyIdx c.headers.length i with
    | none => rfl
    | some n =>
      simp only [hp] at h ⊢
      cases hg : c.headers[n]? with
      | none => rfl
      | some old =>
        simp only [hg] at h ⊢
        split <;> simp_all

end Wz.C16L
