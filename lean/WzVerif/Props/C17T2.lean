/-
C17T2 — C17T continued: the class-specific parts of content negotiation and the small accessors of
`werkzeug/datastructures/accept.py` *as regenerated from the source* by `tools/py2lean.py`
(`Gen/PyFns_Accept.lean`, rewritten on every check run): `Accept._specificity` / `_value_matches`,
`MIMEAccept._specificity` / `_value_matches` (with `_normalize_mime`), `LanguageAccept._value_matches`
(with `_normalize_lang`), `CharsetAccept._value_matches` (its nested `_normalize`, the codec registry as
a parameter), `values`, `best`, `to_header`, `__getitem__` (str), `accept_html` / `accept_xhtml` /
`accept_json` are equal, for all inputs, to the fields of the model's `Neg` structures (`acceptNeg`,
`mimeNeg`, `langNeg`, `charsetNeg`) and to the model functions of `Model/Accept.lean` that the C17
theorems are instantiated with. The two regexes enter as the model's `mimeSplit` / `splitLang` (their
pattern sources are pinned in the generated file).
Property theorems only; helper lemmas and the longer proofs are in Lemmas/PyFnsEq_Accept.lean.
-/
import WzVerif.Props.C17T
import WzVerif.Lemmas.PyFnsEq_Accept
namespace Wz.Props.C17T2
open Wz Wz.Pre Wz.Accept Wz.Gen.PyFns_Accept Wz.PyFnsEq.Accept

/-- The translation maps `_mime_split_re.split` / `_locale_delim_re.split` to the model's `mimeSplit` /
`splitLang`; this pins the pattern sources and flags of the live regex objects. -/
theorem regexes_pinned :
    Gen.PyFns_Accept.mimeSplitRe = ("/|(?:\\s*;\\s*)", 32) ∧ Gen.PyFns_Accept.localeDelimRe = ("[_-]", 32) :=
  ⟨rfl, rfl⟩

/-- **`Accept._specificity(value)`**, as translated from the current source (`(value != "*",)`), is the
`spec` field `baseSpec` of the model's `acceptNeg` (also used by `langNeg` and `charsetNeg`), for every string. -/
theorem accept_specificity_eq (v : List Char) :
    Gen.PyFns_Accept.accept_specificity v = baseSpec v := rfl

/-- **`Accept._value_matches(value, item)`**, as translated (`item == "*" or item.lower() ==
value.lower()`), is the `matches` field `baseMatches` of the model's `acceptNeg`, for all strings. -/
theorem accept_value_matches_eq (value item : List Char) :
    Gen.PyFns_Accept.accept_value_matches value item = baseMatches value item := rfl

/-- **`_normalize_mime(value)`**, as translated (`_mime_split_re.split(value.lower())`), is the model's
`mimeSplit` of the lowered value: the list `mimeNorm` takes its type, subtype and parameters from. -/
theorem normalize_mime_eq (v : List Char) :
    Gen.PyFns_Accept.normalize_mime v = mimeSplit (lowerA v) :=
  PyFnsEq.Accept.normalize_mime_eq v

/-- **`MIMEAccept._specificity(value)`**, as translated (`tuple(x != "*" for x in
_mime_split_re.split(value))`), is the `spec` field `mimeSpec` of the model's `mimeNeg`. -/
theorem mime_specificity_eq (v : List Char) :
    Gen.PyFns_Accept.mime_specificity v = mimeSpec v :=
  PyFnsEq.Accept.mime_specificity_eq v

/-- **`MIMEAccept._value_matches(value, item)`**, as translated from the current source, in full
(result *and* exceptions), for all strings: it raises `ValueError` exactly when the client item
contains a `/` and the offer `value` is invalid in the model's sense (`mimeOfferInvalid`: no `/`, or
type `*` with a subtype other than `*`), and otherwise returns the model's `mimeMatches value item`.
In particular no other exception is possible: the two unpackings `a, b = normalized[:2]` cannot
fail, because they are only reached for strings containing `/`, which `_mime_split_re` splits into
at least two pieces (`mimeSplit_two`); and the code's comparison of the `sorted` parameter lists is
the model's permutation test (`Pre.sortedStr_beq`). -/
theorem mime_value_matches_eq (value item : List Char) :
    Gen.PyFns_Accept.mime_value_matches value item =
      if hasSlash item && mimeOfferInvalid value then .error "ValueError"
      else .ok (mimeMatches value item) :=
  PyFnsEq.Accept.mime_value_matches_eq value item

/-- the translated `MIMEAccept._value_matches` raises only `ValueError`, and exactly when the item has
a `/` and the offer is invalid -/
theorem mime_value_matches_error (value item : List Char) (e : String) :
    Gen.PyFns_Accept.mime_value_matches value item = .error e ↔
      (e = "ValueError" ∧ hasSlash item = true ∧ mimeOfferInvalid value = true) := by
  rw [mime_value_matches_eq]
  by_cases h : (hasSlash item && mimeOfferInvalid value) = true
  · rw [if_pos h]
    have h' := h
    simp only [Bool.and_eq_true] at h'
    constructor
    · intro he; exact ⟨(Except.error.inj he).symm, h'⟩
    · intro he; rw [he.1]
  · rw [if_neg h]
    constructor
    · intro he; cases he
    · intro he; exact absurd (by simp [he.2.1, he.2.2]) h

/-- the model's raise predicate `mimeRaises self offer` (used by the C17 statements about
`MIMEAccept` lookups) holds exactly when the translated `_value_matches(offer, item)` raises
`ValueError` for some item of `self` -/
theorem mimeRaises_iff (self : List (List Char × Q)) (offer : List Char) :
    mimeRaises self offer = true ↔
      ∃ it ∈ self, Gen.PyFns_Accept.mime_value_matches offer it.1 = .error "ValueError" := by
  simp only [mimeRaises, Bool.and_eq_true, List.any_eq_true, mime_value_matches_error, true_and]
  constructor
  · rintro ⟨h1, it, h2, h3⟩; exact ⟨it, h2, h3, h1⟩
  · rintro ⟨it, h2, h3, h1⟩; exact ⟨h1, it, h2, h3⟩

/-- **`_normalize_lang(value)`**, as translated (`_locale_delim_re.split(value.lower())`), is the
model's `normLang`. -/
theorem normalize_lang_eq (v : List Char) : Gen.PyFns_Accept.normalize_lang v = normLang v :=
  PyFnsEq.Accept.normalize_lang_eq v

/-- **`LanguageAccept._value_matches(value, item)`**, as translated (`item == "*" or
_normalize_lang(value) == _normalize_lang(item)`), is the `matches` field `langMatches` of `langNeg`. -/
theorem lang_value_matches_eq (value item : List Char) :
    Gen.PyFns_Accept.lang_value_matches value item = langMatches value item :=
  PyFnsEq.Accept.lang_value_matches_eq value item

/-- **`CharsetAccept._value_matches(value, item)`**, as translated (the local `_normalize` with its
`try: codecs.lookup(name).name / except LookupError: name.lower()`), is the `matches` field
`charsetMatches aliases` of the model's `charsetNeg aliases`, when the codec registry is the lookup
in the alias table `aliases` (the registry itself is an opaque parameter on both sides). -/
theorem charset_value_matches_eq (aliases : List (List Char × List Char)) (value item : List Char) :
    Gen.PyFns_Accept.charset_value_matches
        (fun n => (aliases.find? (fun p => p.1 == n)).map (·.2)) value item =
      charsetMatches aliases value item :=
  PyFnsEq.Accept.charset_value_matches_eq aliases value item

/-- **`Accept.values()`**, as translated (the generator as the list of its items), yields the model's
`values`: the first components, in order, for every list of pairs. -/
theorem values_eq {κ : Type} (self : List (List Char × κ)) :
    Gen.PyFns_Accept.values self = Accept.values self := by
  unfold Gen.PyFns_Accept.values Accept.values
  simp only [values_loop_eq, List.nil_append]

/-- **`Accept.best`**, as translated (`if self: return self[0][0]`), never raises (the `IndexError` of
`self[0]` is excluded by the guard) and returns the model's `best`: the first item's value, or `None`. -/
theorem best_eq {κ : Type} (self : List (List Char × κ)) :
    Gen.PyFns_Accept.best self = .ok (Accept.best self) := by
  unfold Gen.PyFns_Accept.best Accept.best
  cases self with
  | nil => rfl
  | cons x t => simp [Pre.getItem_zero_cons]

/-- **`Accept.__getitem__(key)`** for a string key, as translated (`self.quality(key)`), is the model's
`getItemStr`: the quality of the first matching item, else `0`, for every class. -/
theorem getitem_str_eq {σ κ : Type} (N : Neg σ κ) (self : List (List Char × κ)) (key : List Char) :
    Gen.PyFns_Accept.getitem_str N self key = getItemStr N self key := by
  unfold Gen.PyFns_Accept.getitem_str Accept.getItemStr
  exact Props.C17T.quality_eq N self key

/-- the translated `Accept.to_header()`, for any class whose quality order is the model's `Q.le` and
any printing function `qstr` for `f"{quality}"`: the `,`-join of the items, `;q=` + `qstr quality`
appended to those whose quality is not 1 -/
theorem to_header_join {σ : Type} (N : Neg σ Q) (hN : N.qle = Q.le) (qstr : Q → List Char)
    (self : List (List Char × Q)) :
    Gen.PyFns_Accept.to_header N Q.one qstr self = [','].intercalate (self.map (hdrItem qstr)) :=
  PyFnsEq.Accept.to_header_join N hN qstr self

/-- **`Accept.to_header()`** (also `__str__`), as translated from the current source and instantiated
with the model's exact decimal qualities (`quality != 1` decided with `Q.le`, `f"{quality}"` printed
by `qstr`), returns the model's `toHeader self`, for every list in which each quality that is printed
(i.e. is not 1) is printed by `qstr` as the model's `qRepr` says. (`qRepr` is partial: it is `none`
below `1e-4`, where Python's float `repr` switches to exponent notation.) -/
theorem to_header_eq {σ : Type} (N : Neg σ Q) (hN : N.qle = Q.le) (qstr : Q → List Char)
    (self : List (List Char × Q))
    (h : ∀ it ∈ self, it.2.isOne = true ∨ qRepr it.2 = some (qstr it.2)) :
    toHeader self = some (Gen.PyFns_Accept.to_header N Q.one qstr self) :=
  PyFnsEq.Accept.to_header_eq N hN qstr self h

/-- the model's `toHeader` is undefined exactly when some quality other than 1 is outside `qRepr`'s
domain (below `1e-4`) -/
theorem toHeader_eq_none_iff (self : List (List Char × Q)) :
    toHeader self = none ↔ ∃ it ∈ self, it.2.isOne = false ∧ qRepr it.2 = none := by
  rw [toHeader, Option.map_eq_none_iff, mapM_eq_none_iff]
  simp only [itemHeader_none_iff]

/-- `to_header_eq` without a side condition on the list: for every *total* printing function `qstr`
that agrees with the model's `qRepr` wherever that is defined, whenever the model's `toHeader` is
defined the translated `Accept.to_header()` returns exactly that text. -/
theorem to_header_eq_of_some {σ : Type} (N : Neg σ Q) (hN : N.qle = Q.le) (qstr : Q → List Char)
    (hq : ∀ q r, qRepr q = some r → qstr q = r)
    (self : List (List Char × Q)) (h : List Char) (hh : toHeader self = some h) :
    Gen.PyFns_Accept.to_header N Q.one qstr self = h := by
  have hall : ∀ it ∈ self, it.2.isOne = true ∨ qRepr it.2 = some (qstr it.2) := by
    intro it hit
    cases h1 : it.2.isOne with
    | true => left; rfl
    | false =>
      right
      cases h2 : qRepr it.2 with
      | none =>
        have := (toHeader_eq_none_iff self).mpr ⟨it, hit, h1, h2⟩
        rw [this] at hh
        cases hh
      | some r => rw [hq _ r h2]
  have := to_header_eq N hN qstr self hall
  rw [hh] at this
  exact (Option.some.inj this).symm

/-- for a valid offer the translated `MIMEAccept._value_matches` never raises and is the `matches`
field of the model's `mimeNeg` (which is why the generic, exception-free methods can be
instantiated with `mimeNeg`) -/
theorem mime_value_matches_valid (value item : List Char) (h : mimeOfferInvalid value = false) :
    Gen.PyFns_Accept.mime_value_matches value item = .ok (mimeNeg.matches value item) := by
  rw [mime_value_matches_eq, h]
  simp only [Bool.and_false, Bool.false_eq_true, if_false]
  rfl

/-- **`MIMEAccept.accept_xhtml`**, as translated (`"application/xhtml+xml" in self or
"application/xml" in self`, with the translated `__contains__`), is the model's `acceptXhtml`. -/
theorem accept_xhtml_eq (self : List (List Char × Q)) :
    Gen.PyFns_Accept.accept_xhtml mimeNeg self = acceptXhtml self := by
  unfold Gen.PyFns_Accept.accept_xhtml acceptXhtml
  simp only [Props.C17T.contains_eq]
  rfl

/-- **`MIMEAccept.accept_html`**, as translated (`"text/html" in self or self.accept_xhtml`), is the
model's `acceptHtml`. -/
theorem accept_html_eq (self : List (List Char × Q)) :
    Gen.PyFns_Accept.accept_html mimeNeg self = acceptHtml self := by
  unfold Gen.PyFns_Accept.accept_html acceptHtml
  simp only [Props.C17T.contains_eq, accept_xhtml_eq]
  rfl

/-- **`MIMEAccept.accept_json`**, as translated (`"application/json" in self`), is the model's
`acceptJson`. -/
theorem accept_json_eq (self : List (List Char × Q)) :
    Gen.PyFns_Accept.accept_json mimeNeg self = acceptJson self := by
  unfold Gen.PyFns_Accept.accept_json acceptJson
  simp only [Props.C17T.contains_eq]
  rfl


end Wz.Props.C17T2
