/-
C20, the model alone (`Model/Debugger.lean`). `DebuggedApplication.__call__` is an `if/elif` chain that selects
a handler, and every handler but `get_resource` begins with the Host check. `respond` is stated as exactly
that (`respond_eq_handler`), the chain as a graph with one constructor per arm (`Arm`, `respond_arm`), and the
gate theorems invert it: an outcome reveals the guard of the one arm that produces it. Each verdict function
(`check_pin_trust`, `pin_auth`, `host_is_trusted`, the cookie a session holds, the cookie's classification) has
one iff saying when it answers yes. The byte counter of failed PIN attempts is related to the unbounded counter
of the property by `Tracks`, a session's cookie to the PIN generations by `Held`. The Host half: `RefMatches` is
the documented relation between a trusted-list entry and a host name, `matchRefs_sound` / `matchRefs_complete`
and `hostIsTrusted_iff` relate the code's loop to it; `_strip_port` has one equation per form of host
(`stripPort_closed`, `stripPort_open`, `stripPort_other`), `get_host` one per kind of trusted list
(`getHost_none`, `getHost_some`).
-/
import WzVerif.Model.Debugger
import WzVerif.Lemmas.Basics
namespace Wz.Dbg
open Wz

theorem Secret.isRight_iff {s : Secret} : s.isRight = true ↔ s = .right := by
  cases s <;> simp [Secret.isRight]

theorem hostGate_eq_iff {r : Req} {k o : Outcome} :
    hostGate r k = o ↔ r.hostTrusted = true ∧ k = o ∨ r.hostTrusted = false ∧ .securityError = o := by
  unfold hostGate
  cases r.hostTrusted <;> simp

theorem Trust.isYes_iff {t : Trust} : t.isYes = true ↔ t = .yes := by
  cases t <;> simp [Trust.isYes]

theorem checkPinTrust_eq_yes {pinOn : Bool} {k : Cookie} :
    checkPinTrust pinOn k = .yes ↔ pinOn = false ∨ k = .valid := by
  cases pinOn <;> cases k <;> simp [checkPinTrust]

theorem evalCond_iff {cfg : Config} {r : Req} : evalCond cfg r = true ↔
    cfg.evalex = true ∧ r.cmd ≠ .none ∧ r.frameKnown = true ∧ r.secret = .right ∧
      (cfg.pinOn = false ∨ r.cookie = .valid) := by
  have h1 : r.cmd.isSome = true ↔ r.cmd ≠ .none := by cases r.cmd <;> simp [Cmd.isSome]
  simp only [evalCond, Bool.and_eq_true, h1, Trust.isYes_iff, checkPinTrust_eq_yes, Secret.isRight_iff, and_assoc]

theorem pinAuthWith_auth {fail : UInt8 → UInt8} {f : UInt8} {t : Trust} {b : Bool} :
    (pinAuthWith fail f t b).1.auth = true ↔ t = .yes ∨ (t = .no ∧ b = true ∧ ¬ f > 10) := by
  cases t <;> simp only [pinAuthWith, reduceCtorEq, false_and, or_false, false_or, true_and, Bool.false_eq_true]
  by_cases h : f > 10 <;> cases b <;> simp [h]

theorem pinAuth_auth {failed : UInt8} {pinOn pinRight : Bool} {k : Cookie}
    (h : (pinAuth failed (checkPinTrust pinOn k) pinRight).1.auth = true) :
    pinOn = false ∨ k = .valid ∨ (pinRight = true ∧ ¬ failed > 10) := by
  rcases pinAuthWith_auth.mp h with h | ⟨-, h⟩
  · exact (checkPinTrust_eq_yes.mp h).imp_right .inl
  · exact .inr (.inr h)

theorem pinAuth_no_auth {f : UInt8} {t : Trust} (ht : t ≠ .yes) : (pinAuth f t false).1.auth = false :=
  Bool.eq_false_iff.mpr fun h => by
    rcases pinAuthWith_auth.mp h with h | ⟨_, h, _⟩
    · exact ht h
    · cases h

end Wz.Dbg

namespace Wz.PyFnsEq.Debug
open Wz

/-! `respond` is: select a handler, then run it. The selection is what the translated `__call__`
is proved to compute (Lemmas/PyFnsEq_Debug.lean, whose namespace these names belong to). -/

/-- The handler `Dbg.respond` selects, by the codes of the translation: 0 = the wrapped
application, 1 = `get_resource`, 2 = `pin_auth`, 3 = `log_pin_request`, 4 = `execute_command`,
5 = `display_console`. This is `respond`'s own branch structure with the handler bodies left out. -/
def handler (cfg : Dbg.Config) (r : Dbg.Req) : Nat :=
  if r.debugger then
    match r.cmd, r.hasArg, r.secret.isRight with
    | .resource, true, _ => 1
    | .pinauth, _, true => 2
    | .printpin, _, true => 3
    | _, _, _ => if Dbg.evalCond cfg r then 4 else 0
  else if cfg.evalex && cfg.consoleOn && r.atConsole then 5 else 0

/-- What the selected handler answers in the model: `get_resource` answers unconditionally, the
other four start with the Host gate. -/
def handlerOutcome (cfg : Dbg.Config) (failed : UInt8) (r : Dbg.Req) : Nat → Dbg.Outcome
  | 1 => .resource
  | 2 => Dbg.hostGate r (.pinauth (Dbg.pinAuth failed (Dbg.checkPinTrust cfg.pinOn r.cookie) r.pinRight).1)
  | 3 => Dbg.hostGate r (.printpin (cfg.pinLogging && cfg.pinOn))
  | 4 => Dbg.hostGate r .evalRan
  | 5 => Dbg.hostGate r .console
  | _ => .app

theorem respond_eq_handler (cfg : Dbg.Config) (failed : UInt8) (r : Dbg.Req) :
    Dbg.respond cfg failed r = handlerOutcome cfg failed r (handler cfg r) := by
  unfold Dbg.respond handler
  generalize r.secret.isRight = s
  cases r.debugger
  · simp only [Bool.false_eq_true, if_false]
    split <;> rfl
  · cases r.cmd <;> cases r.hasArg <;> cases s <;> simp only [if_true] <;> first | rfl | (split <;> rfl)

/-- a request the `pinauth` arm takes: answer and counter are `pinAuth`'s behind the Host gate -/
theorem dispatch_pinauth {cfg : Dbg.Config} {r : Dbg.Req} (failed : UInt8) (h : handler cfg r = 2) :
    Dbg.dispatch cfg failed r =
      if r.hostTrusted = true then
        (.pinauth (Dbg.pinAuth failed (Dbg.checkPinTrust cfg.pinOn r.cookie) r.pinRight).1,
          (Dbg.pinAuth failed (Dbg.checkPinTrust cfg.pinOn r.cookie) r.pinRight).2)
      else (.securityError, failed) := by
  unfold Dbg.dispatch Dbg.nextCounter
  rw [respond_eq_handler, h]
  cases ht : r.hostTrusted <;> simp [handlerOutcome, Dbg.hostGate, ht]

theorem handler_le_five (cfg : Dbg.Config) (r : Dbg.Req) : handler cfg r ≤ 5 := by
  unfold handler
  split
  · split <;> first | omega | (split <;> omega)
  · split <;> omega

/-- Which requests each handler code stands for; `execute_command` (4) is the last `elif`, so its row carries
the negations of the three arms before it. -/
theorem handler_spec (cfg : Dbg.Config) (r : Dbg.Req) :
    (handler cfg r = 1 ↔ r.debugger = true ∧ r.cmd = .resource ∧ r.hasArg = true) ∧
    (handler cfg r = 2 ↔ r.debugger = true ∧ r.cmd = .pinauth ∧ r.secret = .right) ∧
    (handler cfg r = 3 ↔ r.debugger = true ∧ r.cmd = .printpin ∧ r.secret = .right) ∧
    (handler cfg r = 4 ↔ r.debugger = true ∧ Dbg.evalCond cfg r = true ∧ r.cmd ≠ .pinauth
      ∧ r.cmd ≠ .printpin ∧ ¬ (r.cmd = .resource ∧ r.hasArg = true)) ∧
    (handler cfg r = 5 ↔ r.debugger = false ∧ cfg.evalex = true ∧ cfg.consoleOn = true
      ∧ r.atConsole = true) := by
  unfold handler
  split
  · split
    · simp_all
    · simp_all [Dbg.Secret.isRight_iff]
    · simp_all [Dbg.Secret.isRight_iff]
    · split
      · rename_i he
        have hs := (Dbg.evalCond_iff.mp he).2.2.2.1
        simp_all [Dbg.Secret.isRight_iff]
      · simp_all [Dbg.Secret.isRight_iff]
  · split <;> simp_all

/-- the handler an outcome of `respond` was produced by, when the Host is trusted -/
def outcomeHandler : Dbg.Outcome → Nat
  | .app => 0
  | .resource => 1
  | .pinauth _ => 2
  | .printpin _ => 3
  | .evalRan => 4
  | .console => 5
  | .securityError => 6

/-- The `if/elif` chain of `__call__` as a table: each arm with the guard under which it is taken
(`handler_spec`), the handler code and what the handler answers (`handlerOutcome`); the four gated handlers
answer through `hostGate`. -/
inductive Arm (cfg : Dbg.Config) (failed : UInt8) (r : Dbg.Req) : Nat → Dbg.Outcome → Prop
  | resource (hd : r.debugger = true) (hc : r.cmd = .resource) (ha : r.hasArg = true) : Arm cfg failed r 1 .resource
  | pinauth (hd : r.debugger = true) (hc : r.cmd = .pinauth) (hs : r.secret = .right) :
    Arm cfg failed r 2
      (Dbg.hostGate r (.pinauth (Dbg.pinAuth failed (Dbg.checkPinTrust cfg.pinOn r.cookie) r.pinRight).1))
  | printpin (hd : r.debugger = true) (hc : r.cmd = .printpin) (hs : r.secret = .right) :
    Arm cfg failed r 3 (Dbg.hostGate r (.printpin (cfg.pinLogging && cfg.pinOn)))
  | eval (hd : r.debugger = true) (he : Dbg.evalCond cfg r = true) (hp : r.cmd ≠ .pinauth)
      (hq : r.cmd ≠ .printpin) (hr : ¬ (r.cmd = .resource ∧ r.hasArg = true)) :
    Arm cfg failed r 4 (Dbg.hostGate r .evalRan)
  | console (hd : r.debugger = false) (he : cfg.evalex = true) (hc : cfg.consoleOn = true)
      (ha : r.atConsole = true) : Arm cfg failed r 5 (Dbg.hostGate r .console)
  | app : Arm cfg failed r 0 .app

theorem respond_arm (cfg : Dbg.Config) (failed : UInt8) (r : Dbg.Req) :
    Arm cfg failed r (handler cfg r) (Dbg.respond cfg failed r) := by
  obtain ⟨s1, s2, s3, s4, s5⟩ := handler_spec cfg r
  have h5 := handler_le_five cfg r
  rw [respond_eq_handler]
  generalize handler cfg r = n at *
  have hn : n = 0 ∨ n = 1 ∨ n = 2 ∨ n = 3 ∨ n = 4 ∨ n = 5 := by omega
  rcases hn with rfl | rfl | rfl | rfl | rfl | rfl
  · exact .app
  · exact .resource (s1.mp rfl).1 (s1.mp rfl).2.1 (s1.mp rfl).2.2
  · exact .pinauth (s2.mp rfl).1 (s2.mp rfl).2.1 (s2.mp rfl).2.2
  · exact .printpin (s3.mp rfl).1 (s3.mp rfl).2.1 (s3.mp rfl).2.2
  · obtain ⟨a, b, c, d, e⟩ := s4.mp rfl
    exact .eval a b c d e
  · obtain ⟨a, b, c, d⟩ := s5.mp rfl
    exact .console a b c d

/-- With a trusted Host the outcome of `respond` tells which handler ran; it is the one selected. -/
theorem handler_of_respond (cfg : Dbg.Config) (failed : UInt8) (r : Dbg.Req)
    (ht : r.hostTrusted = true) :
    outcomeHandler (Dbg.respond cfg failed r) = handler cfg r := by
  have a := respond_arm cfg failed r
  generalize handler cfg r = n, Dbg.respond cfg failed r = o at a ⊢
  cases a <;> simp [Dbg.hostGate, ht, outcomeHandler]

/-- `respond` answers SecurityError exactly when the Host is untrusted and the selected handler is
one of the four gated ones (C20 `untrusted_host`, as an equivalence). -/
theorem respond_securityError_iff (cfg : Dbg.Config) (failed : UInt8) (r : Dbg.Req) :
    Dbg.respond cfg failed r = .securityError
      ↔ r.hostTrusted = false ∧ 2 ≤ handler cfg r := by
  have a := respond_arm cfg failed r
  generalize handler cfg r = n, Dbg.respond cfg failed r = o at a ⊢
  cases a <;> cases hh : r.hostTrusted <;> simp [Dbg.hostGate, hh]

end Wz.PyFnsEq.Debug

namespace Wz.Dbg
open Wz Wz.PyFnsEq.Debug

theorem respond_arm_of {cfg : Config} {failed : UInt8} {r : Req} {o : Outcome} (h : respond cfg failed r = o) :
    ∃ n, Arm cfg failed r n o := ⟨_, h ▸ respond_arm cfg failed r⟩

theorem respond_evalRan {cfg : Config} {failed : UInt8} {r : Req} (h : respond cfg failed r = .evalRan) :
    r.debugger = true ∧ r.hostTrusted = true ∧ evalCond cfg r = true ∧
      ¬ (r.cmd = .resource ∧ r.hasArg = true) ∧ r.cmd ≠ .pinauth ∧ r.cmd ≠ .printpin := by
  obtain ⟨n, a⟩ := respond_arm_of h
  generalize ho : Outcome.evalRan = o at a
  cases a with
  | eval hd he hp hq hr => exact ⟨hd, by simpa [hostGate_eq_iff] using ho.symm, he, hr, hp, hq⟩
  | _ => simpa [hostGate_eq_iff] using ho.symm

theorem respond_console {cfg : Config} {failed : UInt8} {r : Req} (h : respond cfg failed r = .console) :
    r.debugger = false ∧ r.hostTrusted = true ∧ cfg.evalex = true ∧ cfg.consoleOn = true ∧
      r.atConsole = true := by
  obtain ⟨n, a⟩ := respond_arm_of h
  generalize ho : Outcome.console = o at a
  cases a with
  | console hd he hc ha => exact ⟨hd, by simpa [hostGate_eq_iff] using ho.symm, he, hc, ha⟩
  | _ => simpa [hostGate_eq_iff] using ho.symm

theorem respond_pinauth {cfg : Config} {failed : UInt8} {r : Req} {res : PinResult}
    (h : respond cfg failed r = .pinauth res) :
    r.debugger = true ∧ r.hostTrusted = true ∧ r.cmd = .pinauth ∧ r.secret = .right ∧
      (pinAuth failed (checkPinTrust cfg.pinOn r.cookie) r.pinRight).1 = res := by
  obtain ⟨n, a⟩ := respond_arm_of h
  generalize ho : Outcome.pinauth res = o at a
  cases a with
  | pinauth hd hc hs =>
    have := hostGate_eq_iff.mp ho.symm
    simp only [Outcome.pinauth.injEq, reduceCtorEq, and_false, or_false] at this
    exact ⟨hd, this.1, hc, hs, this.2⟩
  | _ => simpa [hostGate_eq_iff] using ho.symm

theorem respond_printpin {cfg : Config} {failed : UInt8} {r : Req} {b : Bool}
    (h : respond cfg failed r = .printpin b) :
    r.debugger = true ∧ r.hostTrusted = true ∧ r.cmd = .printpin ∧ r.secret = .right := by
  obtain ⟨n, a⟩ := respond_arm_of h
  generalize ho : Outcome.printpin b = o at a
  cases a with
  | printpin hd hc hs => exact ⟨hd, (by simpa [hostGate_eq_iff] using ho.symm : _ ∧ _).1, hc, hs⟩
  | _ => simpa [hostGate_eq_iff] using ho.symm

theorem respond_untrusted (cfg : Config) (failed : UInt8) {r : Req} (h : r.hostTrusted = false) :
    respond cfg failed r = .app ∨ respond cfg failed r = .resource ∨
      respond cfg failed r = .securityError := by
  have a := respond_arm cfg failed r
  generalize handler cfg r = n, respond cfg failed r = o at a ⊢
  cases a <;> simp [hostGate, h]

theorem nextCounter_untrusted (cfg : Config) (failed : UInt8) {r : Req} (h : r.hostTrusted = false) :
    nextCounter cfg failed r = failed := by
  unfold nextCounter
  rcases respond_untrusted cfg failed h with k | k | k <;> rw [k]

/-- `ref` (a trusted-list entry) accepts the encoded host name `hn` -/
def RefMatches (idna : Idna) (hn : List Char) (ref : List Char) : Prop :=
  ∃ rn, idna (stripPort (refParts ref).2) = .ok rn ∧
    (rn = hn ∨ ((refParts ref).1 = true ∧ ('.' :: rn) <:+ hn))

theorem endsWith_iff (s suffix : List Char) : endsWith s suffix = true ↔ suffix <:+ s := by
  simp [endsWith]

/-- the right-hand side is the test in the loop body of `matchRefs` -/
theorem refMatches_iff {idna : Idna} {hn ref rn : List Char} (hr : idna (stripPort (refParts ref).2) = .ok rn) :
    RefMatches idna hn ref ↔ (rn == hn || ((refParts ref).1 && endsWith hn ('.' :: rn))) = true := by
  simp only [RefMatches, hr, Except.ok.injEq, exists_eq_left', Bool.or_eq_true, beq_iff_eq, Bool.and_eq_true,
    endsWith_iff]

theorem matchRefs_sound (idna : Idna) (hn : List Char) : ∀ (trusted : List (List Char)),
    matchRefs idna hn trusted = true → ∃ ref ∈ trusted, RefMatches idna hn ref := by
  intro trusted
  induction trusted with
  | nil => simp [matchRefs]
  | cons ref rest ih =>
    intro h
    unfold matchRefs at h
    cases hr : idna (stripPort (refParts ref).2) with
    | error e => simp [hr] at h
    | ok rn =>
      simp only [hr] at h
      by_cases hm : (rn == hn || ((refParts ref).1 && endsWith hn ('.' :: rn))) = true
      · exact ⟨ref, List.mem_cons_self, (refMatches_iff hr).mpr hm⟩
      · simp only [hm, Bool.false_eq_true, if_false] at h
        obtain ⟨r, hr1, hr2⟩ := ih h
        exact ⟨r, List.mem_cons_of_mem _ hr1, hr2⟩

theorem matchRefs_complete (idna : Idna) (hn : List Char) : ∀ (trusted : List (List Char)),
    (∀ ref ∈ trusted, ∃ rn, idna (stripPort (refParts ref).2) = .ok rn) →
    (∃ ref ∈ trusted, RefMatches idna hn ref) → matchRefs idna hn trusted = true := by
  intro trusted
  induction trusted with
  | nil => intro _ h; obtain ⟨r, hr, _⟩ := h; simp at hr
  | cons ref rest ih =>
    intro henc h
    unfold matchRefs
    obtain ⟨rn, hrn⟩ := henc ref List.mem_cons_self
    simp only [hrn]
    by_cases hm : (rn == hn || ((refParts ref).1 && endsWith hn ('.' :: rn))) = true
    · simp [hm]
    · simp only [hm, Bool.false_eq_true, if_false]
      apply ih (fun r hr => henc r (List.mem_cons_of_mem _ hr))
      obtain ⟨r, hr1, hr2⟩ := h
      rcases List.mem_cons.mp hr1 with rfl | hr1
      · exact absurd ((refMatches_iff hrn).mp hr2) hm
      · exact ⟨r, hr1, hr2⟩

theorem hostIsTrusted_iff {idna : Idna} {host : Option (List Char)} {trusted : List (List Char)} :
    hostIsTrusted idna host trusted = true ↔
    ∃ hst hn, host = some hst ∧ hst ≠ [] ∧ idna (stripPort hst) = .ok hn ∧ matchRefs idna hn trusted = true := by
  unfold hostIsTrusted
  split
  · simp
  · simp
  · rename_i hst hne
    cases hi : idna (stripPort hst) <;> simp [hi, show hst ≠ [] from fun e => hne (e ▸ rfl)]

theorem hostIsTrusted_nil (idna : Idna) (host : Option (List Char)) : hostIsTrusted idna host [] = false :=
  Bool.eq_false_iff.mpr fun h => by
    obtain ⟨_, _, _, _, _, hm⟩ := hostIsTrusted_iff.mp h
    cases hm

theorem hostIsTrusted_sound {idna : Idna} {host : Option (List Char)} {trusted : List (List Char)}
    (h : hostIsTrusted idna host trusted = true) :
    ∃ hst hn, host = some hst ∧ hst ≠ [] ∧ idna (stripPort hst) = .ok hn ∧
      ∃ ref ∈ trusted, RefMatches idna hn ref := by
  obtain ⟨hst, hn, he, hne, hi, hm⟩ := hostIsTrusted_iff.mp h
  exact ⟨hst, hn, he, hne, hi, matchRefs_sound idna hn trusted hm⟩

theorem refParts_plain {r : List Char} (h : r.head? ≠ some '.') : refParts r = (false, r) := by
  rcases r with _ | ⟨c, t⟩
  · rfl
  · unfold refParts
    split
    · rename_i h'; simp only [List.cons.injEq] at h'; exact absurd (by simp [h'.1]) h
    · rfl

/-- the host text `get_host` starts from -/
def hostText (hostHeader : Option (List Char)) (server : Option (List Char × Option Nat)) : List Char :=
  match hostHeader with
  | some h => h
  | none =>
    match server with
    | none => []
    | some (name, port) =>
      let name := if name.contains ':' && name.head? != some '[' then '[' :: name ++ [']'] else name
      match port with
      | some p => name ++ ':' :: (toString p).toList
      | none => name

theorem getHost_none (idna : Idna) (scheme : List Char) (hostHeader : Option (List Char))
    (server : Option (List Char × Option Nat)) :
    getHost idna scheme hostHeader server none = .ok (stripDefaultPort scheme (hostText hostHeader server)) := rfl

theorem getHost_some (idna : Idna) (scheme : List Char) (hostHeader : Option (List Char))
    (server : Option (List Char × Option Nat)) (tl : List (List Char)) :
    getHost idna scheme hostHeader server (some tl) =
      if hostIsTrusted idna (some (stripDefaultPort scheme (hostText hostHeader server))) tl = true
      then .ok (stripDefaultPort scheme (hostText hostHeader server)) else .error "SecurityError" := rfl

theorem stripPort_closed {body : List Char} (post : List Char) (hb : ']' ∉ body) :
    stripPort ('[' :: body ++ ']' :: post) =
      if post = [] ∨ post.head? = some ':' then '[' :: body ++ [']'] else '[' :: body ++ ']' :: post := by
  have h1 := takeWhile_ne_append post hb
  rcases post with _ | ⟨c, t⟩
  · simp [stripPort, h1.2]
  · by_cases hc : c = ':'
    · subst hc
      simp [stripPort, h1.1, h1.2]
    · simp only [List.cons_append, stripPort, h1.1, h1.2, List.head?_cons, Option.some.injEq, hc, or_false,
        reduceCtorEq, if_false]
      split
      · rename_i heq; cases heq
      · rename_i heq; simp only [List.cons.injEq] at heq; exact absurd heq.1 hc
      · rfl

theorem stripPort_open {body : List Char} (hb : ']' ∉ body) : stripPort ('[' :: body) = '[' :: body := by
  have : body.dropWhile (· != ']') = [] :=
    dropWhile_eq_nil_iff.mpr fun x hx => by simpa using fun e : x = ']' => hb (e ▸ hx)
  simp [stripPort, this]

theorem stripPort_other (x : Char) (rest : List Char) (hx : x ≠ '[') :
    stripPort (x :: rest) = beforeColon (x :: rest) := by
  unfold stripPort
  split
  · rename_i h; simp at h; exact absurd h.1 hx
  · rfl

theorem ite_ok {c : Prop} [Decidable c] {α : Type} {s x : α} {e : String}
    (h : (if c then (Except.ok s : Except String α) else .error e) = .ok x) : x = s := by
  split at h
  · cases h; rfl
  · cases h

theorem asciiIdna_ok {s x : List Char} (h : asciiIdna s = .ok x) : x = s := by
  unfold asciiIdna at h
  by_cases h1 : (s.all fun c => decide (c.toNat < 128)) = true
  · simp only [h1, if_true] at h
    exact ite_ok h
  · simp only [h1, Bool.false_eq_true, if_false] at h
    cases h

theorem failPinAuth_toNat (c : UInt8) : (failPinAuth c).toNat = min (c.toNat + 1) 255 := by
  unfold failPinAuth
  have hlt := c.toNat_lt
  by_cases h : c < 255
  · have h' : c.toNat < 255 := by simpa [UInt8.lt_iff_toNat_lt] using h
    simp only [h, if_true, UInt8.toNat_add]
    simp; omega
  · have h' : ¬ c.toNat < 255 := by simpa [UInt8.lt_iff_toNat_lt] using h
    simp only [h, if_false]; omega

theorem gt_ten_iff (c : UInt8) : (c > 10) ↔ 10 < c.toNat := by
  simp [GT.gt, UInt8.lt_iff_toNat_lt]

/-- the byte counter tracks an unbounded counter up to saturation -/
def Tracks (c : UInt8) (n : Nat) : Prop := c.toNat = min n 255

theorem Tracks.gt_ten {c : UInt8} {n : Nat} (h : Tracks c n) : (c > 10) ↔ n > 10 := by
  rw [gt_ten_iff]; unfold Tracks at h; omega

theorem Tracks.fail {c : UInt8} {n : Nat} (h : Tracks c n) : Tracks (failPinAuth c) (n + 1) := by
  unfold Tracks at *; rw [failPinAuth_toNat]; omega

theorem Tracks.zero : Tracks 0 0 := by simp [Tracks]

theorem attemptStep_tracks {c : UInt8} {n : Nat} (h : Tracks c n) (a : Attempt) :
    (attemptStep failPinAuth c a).1 = (idealStep n a).1 ∧
    Tracks (attemptStep failPinAuth c a).2 (idealStep n a).2 := by
  have hg := h.gt_ten
  cases a with
  | right =>
    simp only [attemptStep, pinAuthWith, idealStep]
    by_cases hc : c > 10
    · simp [hc, hg.mp hc, h]
    · have hn : ¬ n > 10 := fun x => hc (hg.mpr x)
      simp [hc, hn, Tracks.zero]
  | wrong =>
    simp only [attemptStep, pinAuthWith, idealStep]
    by_cases hc : c > 10
    · simp [hc, hg.mp hc, h]
    · have hn : ¬ n > 10 := fun x => hc (hg.mpr x)
      simp [hc, hn, h.fail]
  | stale =>
    simp [attemptStep, pinAuthWith, idealStep, h.fail]

theorem runHistory_tracks : ∀ (hist : List Attempt) (c : UInt8) (n : Nat), Tracks c n →
    (runHistory failPinAuth c hist).1 = (runIdeal n hist).1 ∧
    Tracks (runHistory failPinAuth c hist).2 (runIdeal n hist).2 := by
  intro hist
  induction hist with
  | nil => intro c n h; exact ⟨rfl, h⟩
  | cons a rest ih =>
    intro c n h
    have hs := attemptStep_tracks h a
    have := ih _ _ hs.2
    simp only [runHistory, runIdeal]
    exact ⟨by rw [hs.1, this.1], this.2⟩

theorem runIdeal_locked : ∀ (hist : List Attempt) (n : Nat), n > 10 →
    (∀ r ∈ (runIdeal n hist).1, r.auth = false) ∧ (runIdeal n hist).2 > 10 := by
  intro hist
  induction hist with
  | nil => intro n h; exact ⟨by simp [runIdeal], h⟩
  | cons a rest ih =>
    intro n h
    have hstep : (idealStep n a).1.auth = false ∧ (idealStep n a).2 > 10 := by
      cases a <;> simp [idealStep, h] <;> omega
    have := ih _ hstep.2
    simp only [runIdeal]
    refine ⟨?_, this.2⟩
    intro r hr
    simp only [List.mem_cons] at hr
    rcases hr with rfl | hr
    · exact hstep.1
    · exact this.1 r hr

/-- the client's cookie (if any) was issued at least `k` PIN changes ago: `k = 0` for the current or a
former PIN, `k = 1` for a former PIN -/
def Held (k : Nat) (s : Session) : Prop := ∀ g, s.held = some g → g + k ≤ s.gen

/-- a step leaves the cookie alone or, when it authenticates, replaces it by one for the current PIN -/
theorem actStep_held {k : Nat} (s : Session) (a : Act) (h : Held k s)
    (hk : k = 0 ∨ ∀ r, (actStep s a).1 = .pin r → r.auth = false) : Held k (actStep s a).2 := by
  have issue : ∀ {r : PinResult} {g}, (k = 0 ∨ ∀ r', Obs.pin r = .pin r' → r'.auth = false) →
      (if r.auth then some s.gen else s.held) = some g → g + k ≤ s.gen := by
    intro r g hk hg
    split at hg
    · rcases hk with rfl | hk
      · cases hg; exact Nat.le_refl _
      · rename_i ha; rw [hk r rfl] at ha; cases ha
    · exact h g hg
  cases a with
  | right => exact fun g hg => issue hk hg
  | reuse => exact fun g hg => issue hk hg
  | change => exact fun g hg => Nat.le_succ_of_le (h g hg)
  | wrong | stale | eval => exact h

theorem runSession_held : ∀ (acts : List Act) (s : Session), Held 0 s → Held 0 (runSession s acts).2
  | [], _, h => h
  | a :: rest, s, h => runSession_held rest _ (actStep_held s a h (.inl rfl))

theorem heldTrust_eq_yes {s : Session} : heldTrust s = .yes ↔ s.held = some s.gen := by
  unfold heldTrust
  rcases s.held with _ | g
  · simp
  · by_cases hg : g = s.gen <;> simp [hg]

theorem heldTrust_stale {s : Session} (h : Held 1 s) : heldTrust s ≠ .yes := fun hy => by
  have := h _ (heldTrust_eq_yes.mp hy); omega

/-- with a cookie for a former PIN nothing but entering the PIN authenticates or evaluates -/
theorem actStep_stale (s : Session) (a : Act) (ha : a ≠ .right) (h : Held 1 s) :
    Held 1 (actStep s a).2 ∧ (actStep s a).1 ≠ .evalRan true ∧
      ∀ r, (actStep s a).1 = .pin r → r.auth = false := by
  have hno : ∀ r, (actStep s a).1 = .pin r → r.auth = false := by
    intro r hr
    cases a with
    | right => exact absurd rfl ha
    | wrong => exact Obs.pin.inj hr ▸ pinAuth_no_auth (t := .no) nofun
    | stale => exact Obs.pin.inj hr ▸ pinAuth_no_auth (f := s.failed) (t := .bad) nofun
    | reuse => exact Obs.pin.inj hr ▸ pinAuth_no_auth (heldTrust_stale h)
    | change | eval => cases hr
  refine ⟨actStep_held s a h (.inr hno), ?_, hno⟩
  cases a with
  | eval => simpa [actStep, Trust.isYes_iff] using heldTrust_stale h
  | _ => simp [actStep]

theorem runSession_stale : ∀ (acts : List Act) (s : Session), (∀ a ∈ acts, a ≠ .right) → Held 1 s →
    ∀ o ∈ (runSession s acts).1, o ≠ .evalRan true ∧ ∀ r, o = .pin r → r.auth = false := by
  intro acts
  induction acts with
  | nil => intro s _ _ o ho; simp [runSession] at ho
  | cons a rest ih =>
    intro s hno h o ho
    have hstep := actStep_stale s a (hno a List.mem_cons_self) h
    simp only [runSession, List.mem_cons] at ho
    rcases ho with rfl | ho
    · exact ⟨hstep.2.1, hstep.2.2⟩
    · exact ih _ (fun x hx => hno x (List.mem_cons_of_mem _ hx)) hstep.1 o ho

def Attempt.toAct : Attempt → Act
  | .right => .right
  | .wrong => .wrong
  | .stale => .stale

/-- the `let (o, s') := …` bodies of `runSession` / `runHistory` do not rewrite; these equations do -/
theorem runSession_cons (s : Session) (a : Act) (rest : List Act) :
    (runSession s (a :: rest)).1 = (actStep s a).1 :: (runSession (actStep s a).2 rest).1 ∧
    (runSession s (a :: rest)).2 = (runSession (actStep s a).2 rest).2 := ⟨rfl, rfl⟩

theorem runHistory_cons (fail : UInt8 → UInt8) (f : UInt8) (a : Attempt) (rest : List Attempt) :
    (runHistory fail f (a :: rest)).1 = (attemptStep fail f a).1 :: (runHistory fail (attemptStep fail f a).2 rest).1 ∧
    (runHistory fail f (a :: rest)).2 = (runHistory fail (attemptStep fail f a).2 rest).2 := ⟨rfl, rfl⟩

theorem runSession_history : ∀ (hist : List Attempt) (s : Session),
    (runSession s (hist.map Attempt.toAct)).1 = (runHistory failPinAuth s.failed hist).1.map Obs.pin ∧
    (runSession s (hist.map Attempt.toAct)).2.failed = (runHistory failPinAuth s.failed hist).2 := by
  intro hist
  induction hist with
  | nil => intro s; exact ⟨rfl, rfl⟩
  | cons a rest ih =>
    intro s
    have key : (actStep s a.toAct).1 = .pin (attemptStep failPinAuth s.failed a).1 ∧
        (actStep s a.toAct).2.failed = (attemptStep failPinAuth s.failed a).2 := by
      cases a <;> exact ⟨rfl, rfl⟩
    have := ih (actStep s a.toAct).2
    rw [key.2] at this
    simp only [List.map_cons]
    rw [(runSession_cons _ _ _).1, (runSession_cons _ _ _).2, (runHistory_cons _ _ _ _).1,
      (runHistory_cons _ _ _ _).2, this.1, this.2, key.1]
    exact ⟨rfl, rfl⟩

theorem checkPinTrustRaw_classify (intOf : IntOf) (pinTime : Int) (hp : List Char)
    (cookie : Option (List Char)) (now : Int) :
    checkPinTrustRaw intOf pinTime (some hp) cookie now
      = checkPinTrust true (classifyCookie intOf pinTime hp cookie now) := by
  unfold checkPinTrustRaw classifyCookie
  cases cookie with
  | none => rfl
  | some val =>
    simp only
    split
    · rfl
    · cases intOf (splitBar val).1 with
      | none => rfl
      | some ts =>
        simp only
        split
        · rfl
        · split <;> rfl

/-- a cookie is valid exactly when it reads `ts|hash` with the current PIN's hash and a timestamp inside
`PIN_TIME` -/
theorem classifyCookie_valid_iff {intOf : IntOf} {pinTime : Int} {hp : List Char} {cookie : Option (List Char)}
    {now : Int} :
    classifyCookie intOf pinTime hp cookie now = .valid ↔
    ∃ val ts, cookie = some val ∧ val ≠ [] ∧ '|' ∈ val ∧ intOf (splitBar val).1 = some ts ∧
      (splitBar val).2 = hp ∧ now - pinTime < ts := by
  unfold classifyCookie
  rcases cookie with _ | val
  · simp
  · by_cases h1 : (val.isEmpty || !val.contains '|') = true
    · simp only [h1, if_true, reduceCtorEq, false_iff]
      rintro ⟨v, ts, hv, hne, hm, -⟩
      cases hv
      simp_all
    · cases hi : intOf (splitBar val).1 with
      | none => simp [hi]
      | some ts =>
        have : val ≠ [] ∧ '|' ∈ val := by simpa using h1
        by_cases h2 : (splitBar val).2 = hp <;> by_cases h3 : now - pinTime < ts <;> simp [hi, h2, h3, this]

theorem splitBar_issuedCookie {render : Int → List Char} {t0 : Int} (hp : List Char) (hr : '|' ∉ render t0) :
    splitBar (issuedCookie render t0 hp) = (render t0, hp) := by
  have hne : ∀ c ∈ render t0, (c != '|') = true := fun c hc => by simpa using fun e : c = '|' => hr (e ▸ hc)
  simp [splitBar, issuedCookie, List.takeWhile_append_of_pos hne, List.dropWhile_append_of_pos hne]

end Wz.Dbg
