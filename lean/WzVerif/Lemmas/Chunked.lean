/-
Lemmas for C19 about `Model/Chunked.lean`. Size lines: what a client prints with `%x` / `%X` is read back by Python's
`int(line.strip(), 16)`. The de-chunking loop, exactly: one induction over chunks that are followed on the wire by an
arbitrary rest `Z` - every read returns the next bytes of the payload, and one that wants more goes on at `Z`; `Z` is
the zero chunk for a well-formed body (reads behave as on `BytesIO(payload)`) and empty for a body that was cut (the
read that reaches beyond the data raises OSError). The loop on every wire, well-formed or not: only OSError, only
bytes copied from the consumed wire, a short read only after a final chunk.
-/
import WzVerif.Model.Chunked
import WzVerif.Lemmas.Basics
namespace Wz.Chunked
open Wz

def toChar (b : UInt8) : Char := Char.ofNat b.toNat

theorem latin1Dec_eq (bs : Bytes) : Py.latin1Dec bs = bs.map toChar := rfl

/-- what `int(…, 16)`, `strip()` and the line reader see of the hex digit a client prints for `d` -/
structure HexDigitFacts (up : Bool) (d : Nat) : Prop where
  val : hexVal (toChar (hexDigitChar up d)) = some d
  space : Py.isSpace (toChar (hexDigitChar up d)) = false
  under : (toChar (hexDigitChar up d) == '_') = false
  plus : toChar (hexDigitChar up d) ≠ '+'
  minus : toChar (hexDigitChar up d) ≠ '-'
  lx : (toChar (hexDigitChar up d) == 'x') = false
  ux : (toChar (hexDigitChar up d) == 'X') = false
  lf : hexDigitChar up d ≠ 10

theorem hexDigit_facts (up : Bool) (d : Nat) (hd : d < 16) : HexDigitFacts up d := by
  constructor <;> (revert d; cases up <;> decide)

theorem hexNums_lt : ∀ (f n : Nat), ∀ d ∈ hexNums f n, d < 16 := by
  intro f
  induction f with
  | zero => intro n d h; simp [hexNums] at h
  | succ f ih =>
    intro n d h
    unfold hexNums at h
    split at h
    · simp only [List.mem_singleton] at h; omega
    · simp only [List.mem_append, List.mem_singleton] at h
      rcases h with h | h
      · exact ih _ d h
      · omega

theorem hexNums_ne_nil (f n : Nat) : hexNums (f + 1) n ≠ [] := by
  unfold hexNums
  split <;> simp

theorem hexNums_value : ∀ (f n : Nat), n < f → (hexNums f n).foldl (fun a d => 16 * a + d) 0 = n := by
  intro f
  induction f with
  | zero => intro n h; omega
  | succ f ih =>
    intro n h
    unfold hexNums
    split
    · simp
    · rename_i h16
      have : n / 16 < f := by omega
      rw [List.foldl_append, ih _ this]
      simp only [List.foldl_cons, List.foldl_nil]
      omega

/-- digits without underscores are read left to right -/
theorem digitsVal_digits (up : Bool) : ∀ (ds : List Nat) (rest : List Char) (acc : Nat),
    (∀ d ∈ ds, d < 16) →
    digitsVal (ds.map (fun d => toChar (hexDigitChar up d)) ++ rest) false acc
      = digitsVal rest false (ds.foldl (fun a d => 16 * a + d) acc) := by
  intro ds
  induction ds with
  | nil => intro rest acc _; rfl
  | cons d ds ih =>
    intro rest acc h
    have hf := hexDigit_facts up d (h d List.mem_cons_self)
    simp only [List.map_cons, List.cons_append, digitsVal, hf.under, hf.val, Bool.false_eq_true, if_false,
      List.foldl_cons]
    exact ih rest _ (fun x hx => h x (List.mem_cons_of_mem _ hx))

/-- the characters of `"%x" % n` -/
def hexChars (up : Bool) (n : Nat) : List Char := (hexNums (n + 1) n).map (fun d => toChar (hexDigitChar up d))

theorem hexOf_chars (up : Bool) (n : Nat) : (hexOf up n).map toChar = hexChars up n := by
  simp [hexOf, hexChars, List.map_map, Function.comp_def]

theorem hexChars_ne_nil (up : Bool) (n : Nat) : hexChars up n ≠ [] := by
  simp [hexChars, hexNums_ne_nil]

theorem hexChars_mem {up : Bool} {n : Nat} {c : Char} (hc : c ∈ hexChars up n) :
    Py.isSpace c = false ∧ (c == '_') = false ∧ c ≠ '+' ∧ c ≠ '-' ∧ (c == 'x' || c == 'X') = false := by
  obtain ⟨d, hd, rfl⟩ := List.mem_map.mp hc
  have hf := hexDigit_facts up d (hexNums_lt _ _ d hd)
  exact ⟨hf.space, hf.under, hf.plus, hf.minus, by simp [hf.lx, hf.ux]⟩

theorem digitBody_hexChars (up : Bool) (n : Nat) : digitBody (hexChars up n) = some n := by
  have key := digitsVal_digits up (hexNums (n + 1) n) [] 0 (hexNums_lt _ _)
  rw [List.append_nil, hexNums_value (n + 1) n (by omega)] at key
  unfold digitBody
  split
  · next h => exact absurd h (hexChars_ne_nil up n)
  · next t h =>
    have := (hexChars_mem (h ▸ List.mem_cons_self : '_' ∈ hexChars up n)).2.1
    simp at this
  · exact key

theorem unsignedVal_hexChars (up : Bool) (n : Nat) : unsignedVal (hexChars up n) = some n := by
  unfold unsignedVal
  split
  · next x rest h =>
    -- the second character is a hex digit, never `x` / `X`
    have hx : x ∈ hexChars up n := by rw [h]; simp
    simp only [(hexChars_mem hx).2.2.2.2, Bool.false_eq_true, if_false]
    exact digitBody_hexChars up n
  · exact digitBody_hexChars up n

theorem strip_hexChars (up : Bool) (n : Nat) (t : Term) :
    Py.strip (hexChars up n ++ t.bytes.map toChar) = hexChars up n := by
  have hns : ∀ c ∈ hexChars up n, Py.isSpace c = false := fun c hc => (hexChars_mem hc).1
  -- leading: the first character is not a space
  have hhead : (hexChars up n ++ t.bytes.map toChar).dropWhile Py.isSpace = hexChars up n ++ t.bytes.map toChar := by
    apply dropWhile_head_false
    cases hh : hexChars up n with
    | nil => exact absurd hh (hexChars_ne_nil up n)
    | cons c cs => exact fun x hx => by cases hx; exact hns _ (hh ▸ List.mem_cons_self)
  -- trailing: the terminator is whitespace, the last hex digit is not
  have hsp : ∀ c ∈ (t.bytes.map toChar).reverse, Py.isSpace c = true := by cases t <;> decide
  have hlast : ∀ c, (hexChars up n).reverse.head? = some c → Py.isSpace c = false :=
    fun c hc => hns c (by simpa using List.mem_of_mem_head? hc)
  unfold Py.strip Py.rstripBy
  rw [hhead, List.reverse_append, (takeWhile_append_stop hsp hlast).2, List.reverse_reverse]

theorem pyInt16_hexLine (up : Bool) (n : Nat) (t : Term) :
    pyInt16 (Py.latin1Dec (hexOf up n ++ t.bytes)) = some (Int.ofNat n) := by
  rw [latin1Dec_eq, List.map_append, hexOf_chars]
  unfold pyInt16
  rw [strip_hexChars]
  split
  · next tl h => exact absurd rfl (hexChars_mem (h ▸ List.mem_cons_self : '+' ∈ hexChars up n)).2.2.1
  · next tl h => exact absurd rfl (hexChars_mem (h ▸ List.mem_cons_self : '-' ∈ hexChars up n)).2.2.2.1
  · simp [unsignedVal_hexChars up n]

theorem chunkLenOf_hexLine (up : Bool) (n : Nat) (t : Term) :
    chunkLenOf (hexOf up n ++ t.bytes) = .ok n := by
  unfold chunkLenOf
  rw [pyInt16_hexLine]
  simp

theorem chunkLenOf_nil : chunkLenOf [] = .error "OSError" := by rfl

theorem readline_lf : ∀ (a b : Bytes), (∀ x ∈ a, x ≠ 10) → readline (a ++ 10 :: b) = (a ++ [10], b) := by
  intro a
  induction a with
  | nil => intro b _; simp [readline]
  | cons x a ih =>
    intro b h
    have hx : (x == 10) = false := by simpa using h x List.mem_cons_self
    simp only [List.cons_append, readline, hx, Bool.false_eq_true, if_false]
    rw [ih b (fun y hy => h y (List.mem_cons_of_mem _ hy))]

theorem readline_term (t : Term) (a b : Bytes) (h : ∀ x ∈ a, x ≠ 10) :
    readline (a ++ t.bytes ++ b) = (a ++ t.bytes, b) := by
  cases t with
  | lf =>
    have := readline_lf a b h
    simpa [Term.bytes] using this
  | crlf =>
    have := readline_lf (a ++ [13]) b (by
      intro x hx
      simp only [List.mem_append, List.mem_singleton] at hx
      rcases hx with hx | hx
      · exact h x hx
      · rw [hx]; decide)
    simpa [Term.bytes] using this

theorem hexOf_no_lf (up : Bool) (n : Nat) : ∀ x ∈ hexOf up n, x ≠ 10 := by
  intro x hx
  unfold hexOf at hx
  simp only [List.mem_map] at hx
  obtain ⟨d, hd, rfl⟩ := hx
  exact (hexDigit_facts up d (hexNums_lt _ _ d hd)).lf

theorem isTerminator_term (t : Term) : isTerminator t.bytes = true := by
  cases t <;> decide

theorem readline_term_only (t : Term) (b : Bytes) : readline (t.bytes ++ b) = (t.bytes, b) := by
  have := readline_term t [] b (by simp)
  simpa using this

/-- the chunks (data, terminator style, hex case) of an encoded body carry this payload -/
def payload (chunks : List (Bytes × Term × Bool)) : Bytes := chunks.flatMap (·.1)

theorem payload_cons (d : Bytes) (t : Term) (up : Bool) (rest : List (Bytes × Term × Bool)) :
    payload ((d, t, up) :: rest) = d ++ payload rest := by
  simp [payload]

/-- the chunks on the wire, without a terminating zero chunk -/
def openEnc : List (Bytes × Term × Bool) → Bytes
  | [] => []
  | (data, t, upper) :: rest => encodeChunk upper t data ++ openEnc rest

theorem openEnc_cons (d : Bytes) (t : Term) (up : Bool) (rest : List (Bytes × Term × Bool)) (Z : Bytes) :
    openEnc ((d, t, up) :: rest) ++ Z = hexOf up d.length ++ t.bytes ++ (d ++ t.bytes ++ (openEnc rest ++ Z)) := by
  simp [openEnc, encodeChunk, List.append_assoc]

theorem encode_eq_openEnc (chunks : List (Bytes × Term × Bool)) (tf : Term) :
    encode chunks tf = openEnc chunks ++ ([48] ++ tf.bytes ++ tf.bytes) := by
  induction chunks with
  | nil => rfl
  | cons c rest ih => obtain ⟨d, t, up⟩ := c; simp only [encode, openEnc, ih, List.append_assoc]

/-- how `DechunkedInput` stands inside a run of chunks that is followed on the wire by `Z`: `P` is the
payload still to be delivered before `Z` is reached -/
inductive Rep (Z : Bytes) : DState → Bytes → Prop
  | start (rest : List (Bytes × Term × Bool)) (hne : ∀ c ∈ rest, c.1 ≠ []) :
      Rep Z { len := 0, done := false, wire := openEnc rest ++ Z } (payload rest)
  | mid (cur : Bytes) (t : Term) (rest : List (Bytes × Term × Bool)) (hcur : cur ≠ [])
      (hne : ∀ c ∈ rest, c.1 ≠ []) :
      Rep Z { len := cur.length, done := false, wire := cur ++ t.bytes ++ (openEnc rest ++ Z) }
        (cur ++ payload rest)

/-- what a run of the loop (or of the second half of an iteration) that was entered with `acc`, from a
state that represents `P`, has to come to: the buffer filled exactly, with the payload split where the read
ends and a state that represents the rest; or all of `P` copied and the loop as it stands at `Z` -/
def Delivers (Z : Bytes) (size : Nat) (run : Res × DState) (P acc : Bytes) : Prop :=
  (∃ D P' st', P = D ++ P' ∧ (acc ++ D).length = size ∧ run = (.ok (acc ++ D), st') ∧ Rep Z st' P') ∨
  ((acc ++ P).length < size ∧ ∃ g, Z.length < g ∧ run = readLoop g { wire := Z } size (acc ++ P))

/-- what `readLoop_rep` proves by induction on the fuel `f`, and `mid_step` assumes for the rest of the loop -/
def LoopSpec (Z : Bytes) (f : Nat) : Prop :=
  ∀ (st : DState) (P : Bytes) (size : Nat) (acc : Bytes), Rep Z st P → acc.length ≤ size →
    st.wire.length < f → Delivers Z size (readLoop f st size acc) P acc

theorem readLoop_full (f : Nat) (st : DState) {size : Nat} {acc : Bytes} (h : size ≤ acc.length) :
    readLoop f st size acc = (.ok acc, st) := by
  cases f <;> simp [readLoop, h]

theorem afterHeader_mid (k : DState → Bytes → Res × DState) (cur : Bytes) (t : Term) (W : Bytes)
    (size : Nat) (acc : Bytes) (hcur : cur ≠ []) :
    afterHeader k { len := cur.length, done := false, wire := cur ++ t.bytes ++ W } size acc =
      if size - acc.length < cur.length then
        k { len := cur.length - (size - acc.length), done := false,
            wire := cur.drop (size - acc.length) ++ t.bytes ++ W } (acc ++ cur.take (size - acc.length))
      else k { len := 0, done := false, wire := W } (acc ++ cur) := by
  unfold afterHeader
  have hpos : 0 < cur.length := List.length_pos_iff.mpr hcur
  by_cases hlt : size - acc.length < cur.length
  · have hn : min (size - acc.length) cur.length = size - acc.length := by omega
    simp only [hn, hlt, if_true]
    have htake : (cur ++ t.bytes ++ W).take (size - acc.length) = cur.take (size - acc.length) := by
      rw [List.append_assoc, List.take_append_of_le_length (by omega)]
    have hdrop : (cur ++ t.bytes ++ W).drop (size - acc.length) = cur.drop (size - acc.length) ++ t.bytes ++ W := by
      rw [List.append_assoc, List.drop_append_of_le_length (by omega), List.append_assoc]
    have hlen : (cur.take (size - acc.length)).length = size - acc.length := by
      rw [List.length_take]; omega
    simp only [htake, hdrop, hlen, bne_self_eq_false, Bool.false_eq_true, if_false]
    have hne0 : (cur.length - (size - acc.length) == 0) = false := by
      simp only [beq_eq_false_iff_ne, ne_eq]; omega
    simp only [hne0, Bool.false_eq_true, if_false]
  · have hn : min (size - acc.length) cur.length = cur.length := by omega
    simp only [hn, hlt, if_false]
    have htake : (cur ++ t.bytes ++ W).take cur.length = cur := by
      rw [List.append_assoc, List.take_left']
      rfl
    have hdrop : (cur ++ t.bytes ++ W).drop cur.length = t.bytes ++ W := by
      rw [List.append_assoc, List.drop_left']
      rfl
    simp only [htake, hdrop, bne_self_eq_false, Bool.false_eq_true, if_false, Nat.sub_self, beq_self_eq_true,
      if_true, readline_term_only, isTerminator_term]

/-- the copy + terminator half of an iteration, entered inside a chunk of which `cur` is still to come: `afterHeader_mid`
with the loop as continuation `Delivers`, given that the loop with the fuel that is left does (`ih`) -/
theorem mid_step (Z : Bytes) (f : Nat) (ih : LoopSpec Z f)
    (cur : Bytes) (t : Term) (rest : List (Bytes × Term × Bool)) (hcur : cur ≠ [])
    (hne : ∀ c ∈ rest, c.1 ≠ []) (size : Nat) (acc : Bytes) (hacc : acc.length < size)
    (hf : (cur ++ t.bytes ++ (openEnc rest ++ Z)).length ≤ f) :
    Delivers Z size (afterHeader (fun s a => readLoop f s size a)
      { len := cur.length, done := false, wire := cur ++ t.bytes ++ (openEnc rest ++ Z) } size acc)
      (cur ++ payload rest) acc := by
  rw [afterHeader_mid _ cur t _ size acc hcur]
  have hpos : 0 < cur.length := List.length_pos_iff.mpr hcur
  by_cases hlt : size - acc.length < cur.length
  · -- the read ends inside the chunk: the buffer is full, the loop stops
    have hfull : (acc ++ cur.take (size - acc.length)).length = size := by
      rw [List.length_append, List.length_take]; omega
    have hdne : cur.drop (size - acc.length) ≠ [] := fun h => by
      have := congrArg List.length h
      rw [List.length_drop] at this
      simp at this; omega
    have hrep := Rep.mid (Z := Z) (cur.drop (size - acc.length)) t rest hdne hne
    rw [List.length_drop] at hrep
    simp only [hlt, if_true, readLoop_full _ _ (Nat.le_of_eq hfull.symm)]
    exact Or.inl ⟨_, _, _, by rw [← List.append_assoc, List.take_append_drop], hfull, rfl, hrep⟩
  · -- the chunk is used up; the loop goes on at the next size line with `acc ++ cur`
    simp only [hlt, if_false]
    rcases ih _ _ size (acc ++ cur) (Rep.start rest hne) (by rw [List.length_append]; omega)
      (by simp only [List.length_append] at hf ⊢; omega) with ⟨D, P', st', hP, hlen, hrun, hrep⟩ | ⟨hshort, g, hg, hrun⟩
    · exact Or.inl ⟨cur ++ D, P', st', by rw [hP, List.append_assoc], by rw [← List.append_assoc]; exact hlen,
        by rw [hrun, List.append_assoc], hrep⟩
    · exact Or.inr ⟨by rw [← List.append_assoc]; exact hshort, g, hg, by rw [hrun, List.append_assoc]⟩

theorem readLoop_rep (Z : Bytes) : ∀ f, LoopSpec Z f := by
  intro f
  induction f with
  | zero => intro st P size acc _ _ h; omega
  | succ f ih =>
    intro st P size acc hrep hacc hfuel
    by_cases hsz : size ≤ acc.length
    · -- nothing more is wanted
      exact Or.inl ⟨[], P, st, rfl, by simp; omega, by simp [readLoop_full _ _ hsz], hrep⟩
    · cases hrep with
      | start rest hne =>
        cases rest with
        | nil => exact Or.inr ⟨by simp [payload]; omega, f + 1, hfuel, by simp [payload, openEnc]⟩
        | cons c rest' =>
          obtain ⟨d, t, up⟩ := c
          have hd : d ≠ [] := hne (d, t, up) List.mem_cons_self
          have hne' : ∀ c ∈ rest', c.1 ≠ [] := fun c hc => hne c (List.mem_cons_of_mem _ hc)
          have hw := openEnc_cons d t up rest' Z
          have hrl := readline_term t (hexOf up d.length) (d ++ t.bytes ++ (openEnc rest' ++ Z))
            (hexOf_no_lf up d.length)
          have hdl : (d.length == 0) = false := by
            simp only [beq_eq_false_iff_ne, ne_eq]
            exact fun h => hd (List.length_eq_zero_iff.mp h)
          have hf : (d ++ t.bytes ++ (openEnc rest' ++ Z)).length ≤ f := by
            have hfuel : (openEnc ((d, t, up) :: rest') ++ Z).length < f + 1 := hfuel
            rw [hw] at hfuel
            simp only [List.length_append] at hfuel ⊢
            omega
          unfold readLoop
          simp only [hsz, decide_false, Bool.or_false, Bool.false_eq_true, if_false, readHeader, beq_self_eq_true,
            if_true, hw, hrl, chunkLenOf_hexLine up d.length t, markDone, hdl]
          rw [payload_cons]
          exact mid_step Z f ih d t rest' hd hne' size acc (by omega) hf
      | mid cur t rest hcur hne =>
        have hcl : (cur.length == 0) = false := by
          simp only [beq_eq_false_iff_ne, ne_eq]
          exact fun h => hcur (List.length_eq_zero_iff.mp h)
        have hfuel' : (cur ++ t.bytes ++ (openEnc rest ++ Z)).length < f + 1 := hfuel
        unfold readLoop
        simp only [hsz, decide_false, Bool.or_false, Bool.false_eq_true, if_false, readHeader, hcl, markDone]
        exact mid_step Z f ih cur t rest hcur hne size acc (by omega) (by omega)

theorem readinto_rep (Z : Bytes) (st : DState) (P : Bytes) (size : Nat) (h : Rep Z st P) :
    Delivers Z size (readinto st size) P [] :=
  readLoop_rep Z (st.wire.length + 1) st P size [] h (by simp) (by omega)

theorem hexOf_zero (up : Bool) : hexOf up 0 = [48] := by cases up <;> decide

/-- at the zero chunk the loop stops with what it has -/
theorem readLoop_zero (tf : Term) (tail : Bytes) (g : Nat) {size : Nat} {acc : Bytes} (hg : 0 < g)
    (hsz : acc.length < size) :
    readLoop g { wire := [48] ++ tf.bytes ++ tf.bytes ++ tail } size acc
      = (.ok acc, { len := 0, done := true, wire := tail }) := by
  have hsz : ¬ size ≤ acc.length := by omega
  obtain ⟨g, rfl⟩ : ∃ g', g = g' + 1 := ⟨g - 1, by omega⟩
  have hw : [48] ++ tf.bytes ++ tf.bytes ++ tail = hexOf false 0 ++ tf.bytes ++ (tf.bytes ++ tail) := by
    simp [hexOf_zero]
  have hrl := readline_term tf (hexOf false 0) (tf.bytes ++ tail) (hexOf_no_lf false 0)
  unfold readLoop
  simp only [hsz, decide_false, Bool.or_false, Bool.false_eq_true, if_false, readHeader, beq_self_eq_true, if_true,
    hw, hrl, chunkLenOf_hexLine false 0 tf, markDone]
  unfold afterHeader
  simp only [Nat.min_zero, List.take_zero, List.length_nil, bne_self_eq_false, Bool.false_eq_true,
    if_false, Nat.sub_self, beq_self_eq_true, if_true, List.drop_zero, readline_term_only,
    isTerminator_term, List.append_nil]
  cases g <;> simp [readLoop]

/-- at the end of the wire, where a size line is due, the loop raises -/
theorem readLoop_eof (g : Nat) {size : Nat} {acc : Bytes} (hg : 0 < g) (hsz : acc.length < size) :
    (readLoop g { wire := [] } size acc).1 = .error "OSError" := by
  have hsz : ¬ size ≤ acc.length := by omega
  obtain ⟨g, rfl⟩ : ∃ g', g = g' + 1 := ⟨g - 1, by omega⟩
  simp [readLoop, hsz, readHeader, readline, chunkLenOf_nil]

/-- how `DechunkedInput` stands relative to a well-formed body (`tf` / `tail`: terminator of the zero
chunk / whatever follows the body on the wire): inside the chunks, or past the zero chunk -/
inductive RepC (tf : Term) (tail : Bytes) : DState → Bytes → Prop
  | body {st : DState} {P : Bytes} (h : Rep ([48] ++ tf.bytes ++ tf.bytes ++ tail) st P) : RepC tf tail st P
  | fin : RepC tf tail { len := 0, done := true, wire := tail } []

theorem RepC.start (tf : Term) (tail : Bytes) (chunks : List (Bytes × Term × Bool)) (hne : ∀ c ∈ chunks, c.1 ≠ []) :
    RepC tf tail { wire := encode chunks tf ++ tail } (payload chunks) := by
  rw [encode_eq_openEnc, List.append_assoc]
  exact .body (.start chunks hne)

/-- one `readinto(size)` on a body that still owes payload `P` returns exactly the next
`min size |P|` bytes of `P` -/
theorem readinto_repC (tf : Term) (tail : Bytes) (st : DState) (P : Bytes) (size : Nat)
    (h : RepC tf tail st P) :
    ∃ st', readinto st size = (.ok (P.take size), st') ∧ RepC tf tail st' (P.drop size) := by
  cases h with
  | fin => exact ⟨{ len := 0, done := true, wire := tail }, by simp [readinto, readLoop], by simpa using RepC.fin⟩
  | body h =>
    rcases readinto_rep _ st P size h with ⟨D, P', st', rfl, hlen, h1, h2⟩ | ⟨hshort, g, hg, h1⟩
    · simp only [List.nil_append] at hlen h1
      subst hlen
      exact ⟨st', by rw [h1, List.take_left' rfl], by rw [List.drop_left' rfl]; exact .body h2⟩
    · simp only [List.nil_append] at hshort h1
      rw [h1, readLoop_zero tf tail g (by omega) hshort, List.take_of_length_le (by omega),
        List.drop_of_length_le (by omega)]
      exact ⟨_, rfl, .fin⟩

/-- reading from `BytesIO(P)` with the given sizes -/
def slices (P : Bytes) : List Nat → List Bytes
  | [] => []
  | n :: ns => P.take n :: slices (P.drop n) ns

theorem readMany_repC (tf : Term) (tail : Bytes) : ∀ (sizes : List Nat) (st : DState) (P : Bytes),
    RepC tf tail st P → (readMany st sizes).1 = (slices P sizes).map .ok := by
  intro sizes
  induction sizes with
  | nil => intro st P _; rfl
  | cons n ns ih =>
    intro st P h
    obtain ⟨st', h1, h2⟩ := readinto_repC tf tail st P n h
    simp only [readMany, h1, slices, List.map_cons]
    rw [ih st' _ h2]

theorem slices_flatten : ∀ (sizes : List Nat) (P : Bytes), (slices P sizes).flatten = P.take sizes.sum := by
  intro sizes
  induction sizes with
  | nil => intro P; simp [slices]
  | cons n ns ih =>
    intro P
    simp only [slices, List.flatten_cons, ih, List.sum_cons]
    rw [List.take_add]

theorem readinto_cut (st : DState) (P : Bytes) (size : Nat) (h : Rep [] st P) :
    (size ≤ P.length → ∃ st', readinto st size = (.ok (P.take size), st') ∧ Rep [] st' (P.drop size)) ∧
    (P.length < size → (readinto st size).1 = .error "OSError") := by
  rcases readinto_rep [] st P size h with ⟨D, P', st', rfl, hlen, h1, h2⟩ | ⟨hshort, g, hg, h1⟩
  · simp only [List.nil_append] at hlen h1
    subst hlen
    exact ⟨fun _ => ⟨st', by rw [h1, List.take_left' rfl], by rw [List.drop_left' rfl]; exact h2⟩,
      fun hlt => by simp at hlt; omega⟩
  · simp only [List.nil_append] at hshort h1
    exact ⟨fun hle => by omega, fun _ => by rw [h1]; exact readLoop_eof g (by omega) hshort⟩

/-- a body cut before its terminating chunk, which is what a client sees when the development server's application
failed mid-response: reads that stay inside the delivered data return it exactly, and the first read that needs a byte
beyond it raises OSError; it never ends in a short read or a clean end of body -/
theorem readMany_cut : ∀ (sizes : List Nat) (st : DState) (P : Bytes) (n : Nat), Rep [] st P →
    sizes.sum ≤ P.length → P.length < sizes.sum + n →
    (readMany st (sizes ++ [n])).1 = (slices P sizes).map .ok ++ [.error "OSError"] := by
  intro sizes
  induction sizes with
  | nil =>
    intro st P n h _ hn
    have := (readinto_cut st P n h).2 (by simpa using hn)
    simp only [List.nil_append, readMany, slices, List.map_nil]
    rw [← this]
  | cons m ms ih =>
    intro st P n h hsum hn
    simp only [List.sum_cons] at hsum hn
    obtain ⟨st', h1, h2⟩ := (readinto_cut st P m h).1 (by omega)
    simp only [List.cons_append, readMany, h1, slices, List.map_cons, List.cons.injEq, true_and]
    exact ih st' _ n h2 (by rw [List.length_drop]; omega) (by rw [List.length_drop]; omega)

theorem readline_split : ∀ (w : Bytes), (readline w).1 ++ (readline w).2 = w := by
  intro w
  induction w with
  | nil => rfl
  | cons b t ih =>
    unfold readline
    by_cases hb : (b == 10) = true
    · simp [hb]
    · simp only [hb, Bool.false_eq_true, if_false, List.cons_append, ih]

theorem chunkLenOf_error {line : Bytes} {e : String} (h : chunkLenOf line = .error e) : e = "OSError" := by
  unfold chunkLenOf at h
  split at h
  · simp only [Except.error.injEq] at h; exact h.symm
  · split at h
    · simp only [Except.error.injEq] at h; exact h.symm
    · simp at h

theorem isTerminator_ne_nil {l : Bytes} (h : isTerminator l = true) : l ≠ [] := by
  intro he; subst he; simp [isTerminator] at h

theorem readHeader_cases (st : DState) :
    (∃ e, readHeader st = .error e ∧ e = "OSError" ∧ st.len = 0) ∨
    (∃ st1 L, readHeader st = .ok st1 ∧ st.wire = L ++ st1.wire ∧ st1.done = st.done ∧
      ((st.len = 0 ∧ L ≠ [] ∧ chunkLenOf L = .ok st1.len) ∨ (st.len ≠ 0 ∧ st1 = st ∧ L = []))) := by
  unfold readHeader
  by_cases h0 : st.len = 0
  · simp only [h0, beq_self_eq_true, if_true]
    cases hc : chunkLenOf (readline st.wire).1 with
    | error e => exact Or.inl ⟨e, rfl, chunkLenOf_error hc, trivial⟩
    | ok n =>
      right
      refine ⟨_, (readline st.wire).1, rfl, (readline_split st.wire).symm, rfl, Or.inl ⟨trivial, ?_, hc⟩⟩
      intro he
      rw [he, chunkLenOf_nil] at hc
      cases hc
  · have : (st.len == 0) = false := by simpa using h0
    simp only [this, Bool.false_eq_true, if_false]
    exact Or.inr ⟨st, [], rfl, by simp, rfl, Or.inr ⟨h0, rfl, rfl⟩⟩

/-- the copy / terminator phase either fails with OSError or hands `k` a state that is strictly
further along the wire, having copied a piece `D` of the wire -/
theorem afterHeader_cases (k : DState → Bytes → Res × DState) (st : DState) (size : Nat) (acc : Bytes) :
    (∃ st_e pre, afterHeader k st size acc = (.error "OSError", st_e) ∧ st.wire = pre ++ st_e.wire ∧
      st_e.done = st.done) ∨
    (∃ st_n D T, afterHeader k st size acc = k st_n (acc ++ D) ∧ st.wire = D ++ T ++ st_n.wire ∧
      st_n.done = st.done ∧ D.length = min (size - acc.length) st.len ∧
      (st.len ≤ size - acc.length → T ≠ [])) := by
  unfold afterHeader
  by_cases hshort : ((st.wire.take (min (size - acc.length) st.len)).length != min (size - acc.length) st.len) = true
  · simp only [hshort, if_true]
    exact Or.inl ⟨_, st.wire.take (min (size - acc.length) st.len), rfl, by simp, rfl⟩
  · simp only [hshort, Bool.false_eq_true, if_false]
    have hlen : (st.wire.take (min (size - acc.length) st.len)).length = min (size - acc.length) st.len := by
      simpa using hshort
    by_cases hz : (st.len - min (size - acc.length) st.len == 0) = true
    · simp only [hz, if_true]
      by_cases ht : isTerminator (readline (st.wire.drop (min (size - acc.length) st.len))).1 = true
      · simp only [ht, if_true]
        right
        refine ⟨_, st.wire.take (min (size - acc.length) st.len),
          (readline (st.wire.drop (min (size - acc.length) st.len))).1, rfl, ?_, rfl, hlen,
          fun _ => isTerminator_ne_nil ht⟩
        simp only [List.append_assoc, readline_split, List.take_append_drop]
      · simp only [ht, Bool.false_eq_true, if_false]
        left
        refine ⟨_, st.wire.take (min (size - acc.length) st.len)
          ++ (readline (st.wire.drop (min (size - acc.length) st.len))).1, rfl, ?_, rfl⟩
        simp only [List.append_assoc, readline_split, List.take_append_drop]
    · simp only [hz, Bool.false_eq_true, if_false]
      right
      refine ⟨_, st.wire.take (min (size - acc.length) st.len), [], rfl, by simp, rfl, hlen, ?_⟩
      intro hle
      exfalso
      apply hz
      simp only [beq_iff_eq]
      omega

/-- summary of one `readLoop` run on an arbitrary wire -/
structure LoopFacts (st : DState) (acc : Bytes) (size : Nat) (r : Res) (st' : DState) : Prop where
  /-- only OSError escapes -/
  err : ∀ e, r = .error e → e = "OSError"
  /-- the wire is consumed from the front; what is delivered was copied from the consumed part, in order -/
  prov : ∃ pre, st.wire = pre ++ st'.wire ∧ ∀ out, r = .ok out → ∃ d, out = acc ++ d ∧ d.Sublist pre
  /-- never more than asked -/
  le : ∀ out, r = .ok out → acc.length ≤ size → out.length ≤ size
  /-- a short result means the final chunk has been seen -/
  eof : ∀ out, r = .ok out → out.length < size → st'.done = true
  /-- `_done` is only ever set after a size line that reads as 0 -/
  fin : st'.done = true → st.done = true ∨ ∃ a line b, st.wire = a ++ line ++ b ∧ chunkLenOf line = .ok 0

theorem readLoop_facts : ∀ (f : Nat) (st : DState) (size : Nat) (acc : Bytes), st.wire.length < f →
    LoopFacts st acc size (readLoop f st size acc).1 (readLoop f st size acc).2 := by
  intro f
  induction f with
  | zero => intro st size acc h; omega
  | succ f ih =>
    intro st size acc hfuel
    unfold readLoop
    by_cases hstop : (st.done || decide (size ≤ acc.length)) = true
    · simp only [hstop, if_true]
      refine ⟨by simp, ⟨[], by simp, fun out h => ⟨[], by simpa using h.symm, List.Sublist.refl _⟩⟩, ?_, ?_,
        fun h => Or.inl h⟩
      · intro out h _; simp only [Except.ok.injEq] at h; subst h; simp at hstop; omega
      · intro out h hlt
        simp only [Except.ok.injEq] at h; subst h
        simp only [Bool.or_eq_true, decide_eq_true_eq] at hstop
        rcases hstop with h | h
        · exact h
        · omega
    · simp only [hstop, Bool.false_eq_true, if_false]
      simp only [Bool.or_eq_true, decide_eq_true_eq, not_or, Bool.not_eq_true] at hstop
      obtain ⟨hnd, hsz⟩ := hstop
      rcases readHeader_cases st with ⟨e, he, hee, _⟩ | ⟨st1, L, he, hw1, hd1, hcase⟩
      · simp only [he]
        refine ⟨fun e' h => by simp only [Except.error.injEq] at h; rw [← h, hee],
          ⟨(readline st.wire).1, (readline_split st.wire).symm, by simp⟩, by simp, by simp, ?_⟩
        intro h; simp only at h; exact Or.inl h
      · simp only [he]
        -- the state after the header and `markDone`
        have hmd_wire : (markDone st1).wire = st1.wire := by unfold markDone; split <;> rfl
        have hmd_len : (markDone st1).len = st1.len := by unfold markDone; split <;> rfl
        have hfin0 : (markDone st1).done = true →
            st.done = true ∨ ∃ a line b, st.wire = a ++ line ++ b ∧ chunkLenOf line = .ok 0 := by
          intro h
          unfold markDone at h
          split at h
          · rename_i hl0
            have hl0 : st1.len = 0 := by simpa using hl0
            rcases hcase with ⟨_, _, hc⟩ | ⟨hne, hst, _⟩
            · exact Or.inr ⟨[], L, st1.wire, by simpa using hw1, by rw [hc, hl0]⟩
            · rw [hst] at hl0; exact absurd hl0 hne
          · rw [hd1] at h; exact Or.inl h
        rcases afterHeader_cases (fun s a => readLoop f s size a) (markDone st1) size acc with
          ⟨st_e, pre, hr, hw2, hde⟩ | ⟨st_n, D, T, hr, hw2, hdn, hDlen, hT⟩
        · rw [hr]
          refine ⟨by simp, ⟨L ++ pre, by rw [hw1, ← hmd_wire, hw2, List.append_assoc], by simp⟩, by simp,
            by simp, ?_⟩
          intro h
          exact hfin0 (by rw [← hde]; exact h)
        · rw [hr]
          have hwire : st.wire = L ++ D ++ T ++ st_n.wire := by
            rw [hw1, ← hmd_wire, hw2]; simp [List.append_assoc]
          have hprog : 0 < L.length + D.length + T.length := by
            rcases hcase with ⟨_, hL, _⟩ | ⟨hne, hst, _⟩
            · have := List.length_pos_iff.mpr hL; omega
            · rw [hmd_len, hst] at hDlen
              omega
          have hfuel' : st_n.wire.length < f := by
            have := congrArg List.length hwire
            simp only [List.length_append] at this
            omega
          have hrec := ih st_n size (acc ++ D) hfuel'
          have hDle : D.length ≤ size - acc.length := by rw [hDlen]; exact Nat.min_le_left ..
          refine ⟨hrec.err, ?_, ?_, hrec.eof, ?_⟩
          · obtain ⟨pre', hp1, hp2⟩ := hrec.prov
            refine ⟨L ++ D ++ T ++ pre', by rw [hwire, hp1]; simp [List.append_assoc], ?_⟩
            intro out ho
            obtain ⟨d', hd1', hd2'⟩ := hp2 out ho
            refine ⟨D ++ d', by rw [hd1', List.append_assoc], ?_⟩
            have h1 : (D ++ d').Sublist (D ++ (T ++ pre')) :=
              List.Sublist.append (List.Sublist.refl D) (hd2'.trans (List.sublist_append_right T pre'))
            have h2 : (D ++ (T ++ pre')).Sublist (L ++ (D ++ (T ++ pre'))) := List.sublist_append_right L _
            simpa [List.append_assoc] using h1.trans h2
          · intro out ho _
            exact hrec.le out ho (by rw [List.length_append]; omega)
          · intro h
            rcases hrec.fin h with h' | ⟨a, line, b, hw3, hz⟩
            · exact hfin0 (by rw [← hdn]; exact h')
            · exact Or.inr ⟨L ++ D ++ T ++ a, line, b, by rw [hwire, hw3]; simp [List.append_assoc], hz⟩

theorem readinto_facts (st : DState) (size : Nat) :
    LoopFacts st [] size (readinto st size).1 (readinto st size).2 :=
  readLoop_facts (st.wire.length + 1) st size [] (by omega)

theorem readinto_bad_size_line {st : DState} {size : Nat} {e : String} (hsize : 0 < size) (hnd : st.done = false)
    (hl : st.len = 0) (he : chunkLenOf (readline st.wire).1 = .error e) :
    (readinto st size).1 = .error "OSError" := by
  have hs0 : size ≠ 0 := by omega
  cases chunkLenOf_error he
  simp [readinto, readLoop, hnd, hs0, readHeader, hl, he]

theorem readinto_short_chunk {st : DState} {size : Nat} (hsize : 0 < size) (hnd : st.done = false) (hl : 0 < st.len)
    (hshort : st.wire.length < min size st.len) : (readinto st size).1 = .error "OSError" := by
  have hs0 : size ≠ 0 := by omega
  have hl0 : st.len ≠ 0 := by omega
  have hneq : ¬ (min size (min st.len st.wire.length) = min size st.len) := by omega
  simp [readinto, readLoop, hnd, hs0, readHeader, hl0, markDone, afterHeader, hneq]

theorem readinto_missing_terminator {st : DState} {size : Nat} (hnd : st.done = false) (hl : 0 < st.len)
    (hle : st.len ≤ size) (hwl : st.len ≤ st.wire.length)
    (hterm : isTerminator (readline (st.wire.drop st.len)).1 = false) : (readinto st size).1 = .error "OSError" := by
  have hs0 : size ≠ 0 := by omega
  have hl0 : st.len ≠ 0 := by omega
  have hmin : min size st.len = st.len := by omega
  have hmin2 : min st.len st.wire.length = st.len := by omega
  simp [readinto, readLoop, hnd, hs0, readHeader, hl0, markDone, afterHeader, hmin, hmin2, hterm]

end Wz.Chunked
