/-
Routing lemmas: the search `_match` (`dfs`) as a sequence of attempts. `Out.orElse` (the model's name for "the second
attempt runs only when the first returned `None`; the bookkeeping accumulates") is what `dfs` does at a state with input
left (`dfs_cons_eq`); the loop over the dynamic transitions and the loops over `state.rules` are `Out.firstOf` of what each
entry contributes (`dfsDyn_eq`, `scanRules_eq`). The facts about a sequence of attempts — the first that is not `None` wins,
`None` means every attempt was `None`, the bookkeeping of every attempt that ran is included — are proved once, for
`orElse` / `firstOf`; `RoutingSearch` flattens the whole search into one such sequence.
-/
import WzVerif.Lemmas.RoutingTrie
namespace Wz.Routing
open State

namespace Out

/-- the bookkeeping of `a` is part of that of `b` -/
structure le (a b : Out) : Prop where
  ms : ∀ m ∈ a.ms, m ∈ b.ms
  wsm : a.wsm = true → b.wsm = true

theorem le.trans {a b c : Out} (h1 : a.le b) (h2 : b.le c) : a.le c :=
  ⟨fun m hm => h2.ms m (h1.ms m hm), fun h => h2.wsm (h1.wsm h)⟩

theorem orElse_of_ne {a b : Out} (h : a.res ≠ .none) : a.orElse b = a := by
  unfold orElse; cases ha : a.res <;> simp_all

theorem orElse_of_none {a b : Out} (h : a.res = .none) : a.orElse b = ⟨b.res, a.ms ++ b.ms, a.wsm || b.wsm⟩ := by
  unfold orElse; rw [h]

theorem orElse_res_none {a b : Out} : (a.orElse b).res = .none ↔ a.res = .none ∧ b.res = .none := by
  by_cases h : a.res = .none
  · simp [orElse_of_none h, h]
  · simp [orElse_of_ne h, h]

theorem orElse_res (a b : Out) : (a.orElse b).res = a.res ∧ a.res ≠ .none ∨ (a.orElse b).res = b.res ∧ a.res = .none := by
  by_cases h : a.res = .none
  · exact .inr ⟨by rw [orElse_of_none h], h⟩
  · exact .inl ⟨by rw [orElse_of_ne h], h⟩

theorem mem_ms_orElse {a b : Out} {m : Str} (h : m ∈ (a.orElse b).ms) : m ∈ a.ms ∨ m ∈ b.ms := by
  by_cases ha : a.res = .none
  · rw [orElse_of_none ha] at h; exact List.mem_append.1 h
  · rw [orElse_of_ne ha] at h; exact .inl h

theorem le_orElse_left (a b : Out) : a.le (a.orElse b) := by
  by_cases h : a.res = .none
  · rw [orElse_of_none h]; exact ⟨fun m hm => List.mem_append_left _ hm, fun hw => by simp [hw]⟩
  · rw [orElse_of_ne h]; exact ⟨fun _ hm => hm, id⟩

theorem le_orElse_right {a b : Out} (h : a.res = .none) : b.le (a.orElse b) := by
  rw [orElse_of_none h]; exact ⟨fun m hm => List.mem_append_right _ hm, fun hw => by simp [hw]⟩

theorem none_orElse (b : Out) : (⟨.none, [], false⟩ : Out).orElse b = b := by
  simp [orElse]

/-- a sequence of attempts: each runs only when all before it returned `None` -/
def firstOf : List Out → Out
  | [] => ⟨.none, [], false⟩
  | a :: t => a.orElse (firstOf t)

variable {α : Type} {f : α → Out}

theorem firstOf_first : ∀ {l : List α}, (firstOf (l.map f)).res ≠ .none →
    ∃ l1 x l2, l = l1 ++ x :: l2 ∧ (f x).res = (firstOf (l.map f)).res ∧ ∀ y ∈ l1, (f y).res = .none
  | [], h => absurd rfl h
  | x :: t, h => by
    simp only [List.map_cons, firstOf] at h ⊢
    rcases orElse_res (f x) (firstOf (t.map f)) with ⟨he, hn⟩ | ⟨he, hn⟩
    · exact ⟨[], x, t, rfl, he.symm, nofun⟩
    · rw [he] at h ⊢
      obtain ⟨l1, y, l2, hl, hy, h1⟩ := firstOf_first h
      exact ⟨x :: l1, y, l2, by rw [hl]; rfl, hy, fun z hz => (List.mem_cons.1 hz).elim (· ▸ hn) (h1 z)⟩

theorem firstOf_none : ∀ {l : List α}, (firstOf (l.map f)).res = .none →
    ∀ x ∈ l, (f x).res = .none ∧ (f x).le (firstOf (l.map f))
  | [], _, _, hx => nomatch hx
  | y :: t, h, x, hx => by
    simp only [List.map_cons, firstOf] at h ⊢
    obtain ⟨h1, h2⟩ := orElse_res_none.1 h
    rcases List.mem_cons.1 hx with rfl | hx
    · exact ⟨h1, le_orElse_left _ _⟩
    · obtain ⟨hn, hle⟩ := firstOf_none h2 x hx
      exact ⟨hn, hle.trans (le_orElse_right h1)⟩

theorem firstOf_ms : ∀ {l : List α} {m : Str}, m ∈ (firstOf (l.map f)).ms → ∃ x ∈ l, m ∈ (f x).ms
  | [], _, h => nomatch h
  | y :: t, m, h => by
    simp only [List.map_cons, firstOf] at h
    rcases mem_ms_orElse h with h | h
    · exact ⟨y, by simp, h⟩
    · obtain ⟨x, hx, hm⟩ := firstOf_ms h
      exact ⟨x, List.mem_cons_of_mem _ hx, hm⟩

theorem orElse_assoc (a b c : Out) : (a.orElse b).orElse c = a.orElse (b.orElse c) := by
  by_cases ha : a.res = .none
  · by_cases hb : b.res = .none
    · simp [orElse, ha, hb, List.append_assoc, Bool.or_assoc]
    · have : (a.orElse b).res ≠ .none := by rw [orElse_of_none ha]; exact hb
      rw [orElse_of_ne this, orElse_of_ne hb]
  · rw [orElse_of_ne ha, orElse_of_ne ha, orElse_of_ne ha]

theorem firstOf_append (l1 l2 : List Out) : firstOf (l1 ++ l2) = (firstOf l1).orElse (firstOf l2) := by
  induction l1 with
  | nil => exact (none_orElse _).symm
  | cons a t ih => simp only [List.cons_append, firstOf, ih, orElse_assoc]

theorem firstOf_flatMap {α : Type} (f : α → List Out) (l : List α) :
    firstOf (l.flatMap f) = firstOf (l.map fun x => firstOf (f x)) := by
  induction l with
  | nil => rfl
  | cons x t ih => simp only [List.flatMap_cons, List.map_cons, firstOf, firstOf_append, ih]

end Out

/-- what one rule of `state.rules` contributes to a loop of `_match` -/
def ruleOut (q : Req) (sk : Bool) (vals : List Str) (r : Rule) : Out :=
  if sk && r.strict then ⟨.none, [], false⟩
  else if !methodOK q r then ⟨.none, r.methods.getD [], false⟩
  else if r.websocket != q.websocket then ⟨.none, [], true⟩
  else ⟨.found r vals, [], false⟩

theorem scanRules_eq (q : Req) (sk : Bool) (vals : List Str) (rs : List Rule) :
    scanRules q sk vals rs = Out.firstOf (rs.map (ruleOut q sk vals)) := by
  induction rs with
  | nil => rfl
  | cons r t ih =>
    simp only [scanRules, List.map_cons, Out.firstOf, ruleOut, ← ih]
    split
    · rw [Out.none_orElse]
    · split
      · simp [Out.orElse]
      · split
        · simp [Out.orElse]
        · simp [Out.orElse]

theorem ruleOut_cases (q : Req) (sk : Bool) (vals : List Str) (r : Rule) :
    (sk = true ∧ r.strict = true ∧ ruleOut q sk vals r = ⟨.none, [], false⟩) ∨
    ((sk = true → r.strict = false) ∧
      ((methodOK q r = false ∧ ruleOut q sk vals r = ⟨.none, r.methods.getD [], false⟩) ∨
       (methodOK q r = true ∧ r.websocket ≠ q.websocket ∧ ruleOut q sk vals r = ⟨.none, [], true⟩) ∨
       (ruleOK q r = true ∧ ruleOut q sk vals r = ⟨.found r vals, [], false⟩))) := by
  unfold ruleOut
  by_cases hc : (sk && r.strict) = true
  · simp only [Bool.and_eq_true] at hc
    exact .inl ⟨hc.1, hc.2, if_pos (by simp [hc])⟩
  · refine .inr ⟨fun h => by simpa [h] using hc, ?_⟩
    rw [if_neg hc]
    cases hm : methodOK q r with
    | false => exact .inl ⟨rfl, by simp⟩
    | true =>
      by_cases hw : r.websocket = q.websocket
      · exact .inr (.inr ⟨by simp [ruleOK, hm, hw], by simp [hw]⟩)
      · exact .inr (.inl ⟨rfl, hw, by simp [hw]⟩)

theorem dfsStatic_eq (q : Req) (ss : List (Str × State)) (x : Str) (xs vals : List Str) :
    dfsStatic q ss x xs vals =
      match lookupStatic x ss with
      | some s => dfs q s xs vals
      | none => ⟨.none, [], false⟩ := by
  induction ss with
  | nil => simp [dfsStatic, lookupStatic]
  | cons e t ih =>
    obtain ⟨k, s⟩ := e
    simp only [dfsStatic, lookupStatic]
    split <;> simp_all

/-- the third attempt of `_match`: `if parts == [""]: for rule in state.rules: ...` -/
def fallback (q : Req) (rs : List Rule) (x : Str) (xs vals : List Str) : Out :=
  if x :: xs = [[]] then scanRules q true vals rs else ⟨.none, [], false⟩

/-- `_match` at a state with input left: the static transition, else the dynamic ones, else the `parts == [""]` loop -/
theorem dfs_cons_eq (q : Req) (rs ss ds) (x : Str) (xs vals : List Str) :
    dfs q (.node rs ss ds) (x :: xs) vals =
      ((dfsStatic q ss x xs vals).orElse (dfsDyn q ds x xs vals)).orElse (fallback q rs x xs vals) := by
  rw [dfs.eq_2]
  cases h1 : (dfsStatic q ss x xs vals).res with
  | none =>
    rw [Out.orElse_of_none h1]
    cases h2 : (dfsDyn q ds x xs vals).res with
    | none => simp [Out.orElse, h2, fallback]
    | found r vs => simp [Out.orElse, h2]
    | slash => simp [Out.orElse, h2]
  | found r vs =>
    rw [Out.orElse_of_ne (b := dfsDyn q ds x xs vals) (by simp [h1]), Out.orElse_of_ne (by simp [h1])]
  | slash =>
    rw [Out.orElse_of_ne (b := dfsDyn q ds x xs vals) (by simp [h1]), Out.orElse_of_ne (by simp [h1])]

/-- what one entry of `state.dynamic` contributes to `_match`: the sub-search behind it when its pattern matches -/
def dynOut (q : Req) (p : Part) (s : State) (x : Str) (xs vals : List Str) : Out :=
  match p.isDyn, step p (x :: xs) with
  | true, some (a, rem) => dfs q s rem (vals ++ a)
  | _, _ => ⟨.none, [], false⟩

theorem dfsDyn_eq (q : Req) (ds : List (Part × State)) (x : Str) (xs vals : List Str) :
    dfsDyn q ds x xs vals = Out.firstOf (ds.map fun e => dynOut q e.1 e.2 x xs vals) := by
  induction ds with
  | nil => rfl
  | cons e t ih =>
    obtain ⟨p, s⟩ := e
    rw [List.map_cons, Out.firstOf, ← ih]
    cases p with
    | static c => rw [dfsDyn.eq_2]; simp [dynOut, Part.isDyn, Out.none_orElse]
    | dyn pre kind post final suffixed w =>
      rw [dfsDyn.eq_3]
      simp only [dynOut, Part.isDyn]
      cases step (Part.dyn pre kind post final suffixed w) (x :: xs) with
      | none => simp [Out.none_orElse]
      | some ar => rfl

end Wz.Routing
