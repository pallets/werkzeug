/-
C02T — `MultipartEncoder.send_event` *as regenerated from the source* by `tools/py2lean.py`
(`Gen/PyFns_Encoder.lean`, rewritten on every check run; one translation per event class, the
`isinstance` tests being decided by the declared class of `event`) equals, for every boundary, encoder
state and event, the hand-written `Multipart.sendEvent` the C02 round-trip theorems are about
(`view`: new state and returned bytes; the state is unchanged when the call raises). Folding the
translated functions over an event list (`encodeEventsT`) is the model's `encodeEvents`, and the C02
theorems `encoder_writes_disposition` and `decode_encode` are restated on the translated definitions.
-/
import WzVerif.Lemmas.PyFnsEq_Encoder
import WzVerif.Props.C02
namespace Wz.Props.C02T
open Wz Wz.Pre Wz.Multipart Wz.Gen.PyFns_Encoder Wz.PyFnsEq.Encoder

/-- The model on a Field event without a name (`Field(name=None)`, outside the declared type) in a
state that does not allow a part: the state test comes first, the call raises ValueError, not
AttributeError. -/
theorem noname_wrong_state (bnd : Bytes) (hs : Multipart.Headers) (f : List Char) :
    Multipart.sendEvent bnd .dataStart (.field none hs) = .error "ValueError" ∧
    Multipart.sendEvent bnd .dataStart (.file none f hs) = .error "ValueError" ∧
    Multipart.sendEvent bnd .part (.field none hs) = .error "AttributeError" ∧
    Multipart.sendEvent bnd .part (.file none f hs) = .error "AttributeError" :=
  ⟨rfl, rfl, rfl, rfl⟩

/-- The `for name, value in event.headers:` loop of `send_event` for a Field event never returns from
inside and leaves in `data` what it started with followed by one `name: value\r\n` line (UTF-8) for
every header whose lower-cased name is not `content-disposition`, in order: the model's
`filter` / `map` / `flatten`. -/
theorem field_loop_eq (st : Multipart.State) (hs : List (Pre.Str × Pre.Str)) (acc : Bytes) :
    send_event_field.loop1 st hs acc = .fall (acc ++ headerLines hs) := by
  induction hs generalizing acc with
  | nil => simp [send_event_field.loop1, headerLines_nil]
  | cons x t ih =>
    obtain ⟨k, v⟩ := x
    simp only [send_event_field.loop1, ih, headerLines_step]

/-- the same for the header loop of a File event -/
theorem file_loop_eq (st : Multipart.State) (hs : List (Pre.Str × Pre.Str)) (acc : Bytes) :
    send_event_file.loop1 st hs acc = .fall (acc ++ headerLines hs) := by
  induction hs generalizing acc with
  | nil => simp [send_event_file.loop1, headerLines_nil]
  | cons x t ih =>
    obtain ⟨k, v⟩ := x
    simp only [send_event_file.loop1, ih, headerLines_step]

/-- `send_event(Preamble(d))` as translated from the source is the model, in every state: in state
PREAMBLE it returns `d` and moves to PART, in every other state it raises ValueError and leaves the
state alone. -/
theorem send_event_preamble_eq (bnd d : Bytes) (st : Multipart.State) :
    send_event_preamble bnd st d = view st (Multipart.sendEvent bnd st (.preamble d)) := by
  cases st <;> simp [send_event_preamble, Multipart.sendEvent, view]

/-- `send_event(Field(name=n, headers=hs))` as translated from the source is the model at
`some n`, for every boundary, state, name and header list: same bytes (boundary line,
Content-Disposition line, the other headers), same new state, same ValueError in the states that do
not allow a part. -/
theorem send_event_field_eq (bnd : Bytes) (st : Multipart.State) (n : Pre.Str)
    (hs : List (Pre.Str × Pre.Str)) :
    send_event_field bnd st (n, hs) = view st (Multipart.sendEvent bnd st (.field (some n) hs)) := by
  unfold send_event_field
  rw [sendEvent_field_some, ← str_cdName_bytes]
  generalize Multipart.str _ = a
  split
  · simp [field_loop_eq, view, Multipart.crlf, Pre.encodeUtf8]
  · rfl

/-- `send_event(File(name=n, filename=f, headers=hs))` as translated from the source is the model at
`some n`, for every boundary, state, name, file name and header list. -/
theorem send_event_file_eq (bnd : Bytes) (st : Multipart.State) (n f : Pre.Str)
    (hs : List (Pre.Str × Pre.Str)) :
    send_event_file bnd st (n, f, hs) = view st (Multipart.sendEvent bnd st (.file (some n) f hs)) := by
  unfold send_event_file
  rw [sendEvent_file_some, ← str_cdName_bytes, ← str_filename_bytes]
  -- with the two literals opaque what is left is associativity of `++`
  generalize Multipart.str _ = a
  generalize Multipart.str _ = b
  split
  · simp [file_loop_eq, view, Multipart.crlf, Pre.encodeUtf8]
  · rfl

/-- `send_event(Data(data=d, more_data=more))` as translated from the source is the model, for every
state, chunk and flag: in DATA_START a non-empty chunk is written after CRLF and moves to DATA, an
empty chunk writes nothing and moves to DATA exactly when `more_data` is false; in DATA the chunk is
written as is; in every other state ValueError. -/
theorem send_event_data_eq (bnd : Bytes) (st : Multipart.State) (d : Bytes) (more : Bool) :
    send_event_data bnd st (d, more) = view st (Multipart.sendEvent bnd st (.data d more)) := by
  cases d <;> cases more <;> cases st <;>
    simp [send_event_data, Multipart.sendEvent, view, Multipart.crlf]

/-- `send_event(Epilogue(d))` as translated from the source is the model, in every state: the closing
delimiter `\r\n--boundary--\r\n`, then `d`, and the state COMPLETE. -/
theorem send_event_epilogue_eq (bnd : Bytes) (st : Multipart.State) (d : Bytes) :
    send_event_epilogue bnd st d = view st (Multipart.sendEvent bnd st (.epilogue d)) := by
  simp [send_event_epilogue, Multipart.sendEvent, view, Multipart.crlf]

/-- For every boundary, state and event, the translated `send_event` is the model. -/
theorem sendEventT_eq (bnd : Bytes) (st : Multipart.State) (ev : Multipart.Event) :
    sendEventT bnd st ev = view st (Multipart.sendEvent bnd st ev) := by
  cases ev with
  | preamble d => exact send_event_preamble_eq bnd d st
  | field n hs =>
    cases n with
    | some n => exact send_event_field_eq bnd st n hs
    | none => cases st <;> simp [sendEventT, Multipart.sendEvent, view]
  | file n f hs =>
    cases n with
    | some n => exact send_event_file_eq bnd st n f hs
    | none => cases st <;> simp [sendEventT, Multipart.sendEvent, view]
  | data d more => exact send_event_data_eq bnd st d more
  | epilogue d => exact send_event_epilogue_eq bnd st d
  | needData => simp [sendEventT, Multipart.sendEvent, view]

/-- Feeding any list of events through the translated `send_event`, from any state, gives what the
model's `encodeEvents` gives: the same bytes or the same first exception. -/
theorem encodeEventsT_eq (bnd : Bytes) (st : Multipart.State) (evs : List Multipart.Event) :
    encodeEventsT bnd st evs = Multipart.encodeEvents bnd st evs := by
  induction evs generalizing st with
  | nil => rfl
  | cons ev t ih =>
    unfold encodeEventsT Multipart.encodeEvents
    rw [sendEventT_eq]
    cases h : Multipart.sendEvent bnd st ev with
    | error e => rfl
    | ok r =>
      obtain ⟨out, st'⟩ := r
      simp only [view]
      rw [ih]
      cases Multipart.encodeEvents bnd st' t <;> rfl

/-- `Props.C02.encoder_writes_disposition` on the translated code: in state PART,
`send_event(Field(name=n, headers=hs))` as translated from the source returns the boundary line, then
`Content-Disposition: ` followed by the UTF-8 of `dispositionValue n none` (the text
`parse_options_header` is proved to read back as `n`), CRLF, and the lines of the other headers; and
it moves to DATA_START. -/
theorem encoder_writes_disposition_translated (bnd : Bytes) (n : List Char) (hs : Multipart.Headers) :
    send_event_field bnd .part (n, hs) =
      (.dataStart,
       .ok (Multipart.crlf ++ 45 :: 45 :: bnd ++ Multipart.crlf ++
            (Multipart.str "Content-Disposition: " ++ utf8Enc (FormOptions.dispositionValue n none)) ++
            Multipart.crlf ++
            ((hs.filter fun (k, _) => Multipart.lowerAscii k != "content-disposition".toList).map
              fun (k, v) => utf8Enc (k ++ ':' :: ' ' :: v) ++ Multipart.crlf).flatten)) := by
  rw [send_event_field_eq, Props.C02.encoder_writes_disposition]
  rfl

/-- `Props.C02.decode_encode` on the translated code: for every boundary without CR / LF and every
list of parts satisfying `ValidPart .crlf`, sending Preamble(b""), per part Field/File + Data, and
Epilogue(b"") through `send_event` *as translated from the source* succeeds, and decoding the bytes
with `MultipartDecoder` raises nothing and returns exactly the parts, in order, with byte-exact
payloads. -/
theorem decode_encode_translated {bnd : Bytes} (hb : Multipart.BoundaryOk bnd)
    (parts : List Multipart.Part) (hv : ∀ p ∈ parts, Multipart.ValidPart .crlf bnd p) :
    ∃ body,
      encodeEventsT bnd .preamble
        (.preamble [] :: (parts.flatMap Multipart.partEvents ++ [.epilogue []])) = .ok body ∧
      (Multipart.decodeChunks bnd none none [body]).err = none ∧
      Multipart.partsOf (Multipart.decodeChunks bnd none none [body]).events =
        parts.map Multipart.decodedPart := by
  rw [encodeEventsT_eq]
  exact Props.C02.decode_encode hb parts hv

end Wz.Props.C02T
