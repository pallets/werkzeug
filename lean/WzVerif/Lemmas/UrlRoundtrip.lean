/-
`unquote` inverts `quote` (C15: the path given to EnvironBuilder reaches Request.path unchanged): what `quote`
writes spells the UTF-8 bytes of the text unless the text has a `%` that `quote` leaves raw, and text that stands
for the UTF-8 bytes of `s` is unquoted to `s`, with werkzeug's error handler and with `errors="replace"` alike.
Then safe sets that contain `%` (known finding F15f): the round trip holds for every text without a `%XX` escape.
-/
import WzVerif.Lemmas.UrlSpells
namespace Wz.Url
open Wz

theorem unquoteAuxR_ascii : ∀ (a rest : Str) (acc : Bytes), (∀ c ∈ a, c.toNat < 128) →
    unquoteAuxR (a ++ rest) acc = unquoteAuxR rest ((toBytes a).reverse ++ acc)
  | [], _, _, _ => by simp [toBytes]
  | c :: a, rest, acc, h => by
    have hc := h c (by simp)
    simp only [List.cons_append, unquoteAuxR, hc, if_true]
    rw [unquoteAuxR_ascii a rest _ (fun x hx => h x (List.mem_cons_of_mem _ hx))]
    simp [toBytes]

theorem unquoteReplace_ascii {u : Str} (ha : ∀ c ∈ u, c.toNat < 128) :
    unquoteReplace u = (its (den u)).flatMap renderR := by
  have h1 := unquoteAuxR_ascii u [] [] ha
  simp only [List.append_nil] at h1
  rw [unquoteReplace, h1]
  simp only [unquoteAuxR, List.reverse_reverse, unquoteRunR]
  rw [← den_ascii ha, items_eq_its (Nat.le_succ _)]

/-- the shape of every `unquote ∘ quote` round trip: text that stands for the UTF-8 bytes of `s` is unquoted to
`s` (no undecodable span arises) -/
theorem unquote_of_den {u s : Str} (h : den u = utf8Enc s) : unquote u = s := by
  rw [unquote_eq, h, dec_utf8Enc]

/-- the same with `errors="replace"`, for ASCII text (all that `EnvironBuilder` gives it) -/
theorem unquoteReplace_of_den {u s : Str} (ha : ∀ c ∈ u, c.toNat < 128) (h : den u = utf8Enc s) :
    unquoteReplace u = s := by
  rw [unquoteReplace_ascii ha, h]
  exact decode_utf8Enc renderR (fun _ _ => rfl) s

/-- what `quote` writes spells the UTF-8 bytes of the text, unless the text has a `%` that `quote` leaves raw -/
theorem Spells.of_quote_text {safe s : Str} (h : (0x25 : UInt8) ∈ utf8Enc s → isSafe safe 0x25 = false) :
    Spells [] (quote safe s) (utf8Enc s) :=
  Spells.of_quoteBytes fun b hb => ⟨fun hs e => absurd hs (by rw [e, h (e ▸ hb)]; simp), fun _ => rfl⟩

/-- **`unquote` inverts `quote`** on text without `%`, for every safe set: percent-encoding followed
by decoding (with werkzeug's error handler) gives the text back. -/
theorem unquote_quote (safe s : Str) (h : '%' ∉ s) : unquote (quote safe s) = s :=
  unquote_of_den (Spells.of_quote_text fun hm => absurd hm (utf8Enc_no_pct s h)).den_eq

/-- the same with `errors="replace"` (what `EnvironBuilder` uses) -/
theorem unquoteReplace_quote (safe s : Str) (h : '%' ∉ s) : unquoteReplace (quote safe s) = s :=
  unquoteReplace_of_den (quoteBytes_ascii safe _) (Spells.of_quote_text fun hm => absurd hm (utf8Enc_no_pct s h)).den_eq

/-- the PATH_INFO `EnvironBuilder` derives from a path without `%` is the encoding dance of that path:
`unquote(iri_to_uri(path))` gives the path back -/
theorem environPathInfo_of_noPct {p : Str} (hp : '%' ∉ p) : environPathInfo p = encodingDance p :=
  congrArg encodingDance (unquoteReplace_quote _ p hp)

theorem unquote_quote_all {safe : Str} (hp : isSafe safe 0x25 = false) (s : Str) :
    unquote (quote safe s) = s :=
  unquote_of_den (Spells.of_quote_text fun _ => hp).den_eq

/-! ### a raw `%` that starts no escape (known finding F15f)

`quote` with a safe set that contains `%` followed by `unquote` gives the text back whenever no `%` of the text is
followed by two hex digits (`unquoteReplace_quote` asks for no `%` at all). A raw `%` is not a token of the grammar,
so this is a statement about whole texts, not a `Spells` fact. -/

/-- no `%` byte is followed by two hex digits -/
def noEscB : Bytes → Bool
  | [] => true
  | b :: t => !(b == 0x25 && startsHex2 t) && noEscB t

def startsHex2C : Str → Bool
  | x :: y :: _ => (hexVal? x).isSome && (hexVal? y).isSome
  | _ => false

/-- **no `%` of the text is followed by two hex digits**: the text contains no `%XX` escape (a `%` that
starts no escape - `100%`, `%zz`, `%4` - is allowed) -/
def noEscape : Str → Bool
  | [] => true
  | c :: t => !(c == '%' && startsHex2C t) && noEscape t

theorem hexB_safe (safe : Str) {b : UInt8} (h : hexB b = true) : isSafe safe b = true := by
  obtain ⟨v, hv⟩ := Option.isSome_iff_exists.mp h
  have := (fixed_of_hex (safe := safe) hv).2
  rwa [toNat_ofNat_lt b.toNat_lt, UInt8.ofNat_toNat] at this

theorem hexB_unsafe {safe : Str} {b : UInt8} (h : isSafe safe b = false) : hexB b = false := by
  cases hh : hexB b
  · rfl
  · rw [hexB_safe safe hh] at h; cases h

theorem hexB_pct : hexB 0x25 = false := by decide

theorem toBytes_quoteByte_safe {safe : Str} {b : UInt8} (h : isSafe safe b = true) :
    toBytes (quoteByte safe b) = [b] := by
  simp [quoteByte, h, toBytes_byteChar]

theorem toBytes_quoteByte_unsafe {safe : Str} {b : UInt8} (h : isSafe safe b = false) :
    ∃ h1 h2, toBytes (quoteByte safe b) = [0x25, h1, h2] := by
  refine ⟨UInt8.ofNat (hexU (b.toNat / 16)).toNat, UInt8.ofNat (hexU (b.toNat % 16)).toNat, ?_⟩
  simp only [quoteByte, h, Bool.false_eq_true, if_false, pct, toBytes, List.map_cons, List.map_nil]
  congr 1

theorem startsHex2_quote (safe : Str) : ∀ B : Bytes,
    startsHex2 (toBytes (quoteBytes safe B)) = startsHex2 B
  | [] => rfl
  | [x] => by
    simp only [quoteBytes, List.flatMap_cons, List.flatMap_nil, List.append_nil]
    cases hs : isSafe safe x
    · obtain ⟨h1, h2, e⟩ := toBytes_quoteByte_unsafe hs
      rw [e]; simp [startsHex2, hexB_pct]
    · rw [toBytes_quoteByte_safe hs]
  | x :: y :: t => by
    simp only [quoteBytes, List.flatMap_cons, toBytes_append]
    cases hsx : isSafe safe x
    · obtain ⟨h1, h2, e⟩ := toBytes_quoteByte_unsafe hsx
      rw [e]
      simp [startsHex2, hexB_pct, hexB_unsafe hsx]
    · rw [toBytes_quoteByte_safe hsx]
      cases hsy : isSafe safe y
      · obtain ⟨h1, h2, e⟩ := toBytes_quoteByte_unsafe hsy
        rw [e]
        simp [startsHex2, hexB_pct, hexB_unsafe hsy]
      · rw [toBytes_quoteByte_safe hsy]
        simp [startsHex2]

theorem unquoteBytes_quoteBytes_noEsc {safe : Str} (hp : isSafe safe 0x25 = true) : ∀ B : Bytes,
    noEscB B = true → unquoteBytes (toBytes (quoteBytes safe B)) = B
  | [], _ => by simp [quoteBytes, toBytes, unquoteBytes]
  | b :: B, h => by
    simp only [noEscB, Bool.and_eq_true, Bool.not_eq_true'] at h
    have ih := unquoteBytes_quoteBytes_noEsc hp B h.2
    have hq : toBytes (quoteBytes safe (b :: B)) = toBytes (quoteByte safe b) ++ toBytes (quoteBytes safe B) := by
      simp [quoteBytes, toBytes_append]
    rw [hq]
    by_cases hb : b = 0x25
    · subst hb
      have h1 : startsHex2 B = false := by simpa using h.1
      rw [toBytes_quoteByte_safe hp, List.singleton_append,
        unquoteBytes_pct_lit (by rw [startsHex2_quote]; exact h1), ih]
    · have := (Spells.of_quoteByte (keep := []) (safe := safe) (fun _ => hb) (fun _ => rfl)).reads (toBytes (quoteBytes safe B))
      rw [Utf8Facts.utf8Enc_ascii (quoteByte_ascii safe b), ih] at this
      exact this

theorem noEscB_append_nopct : ∀ (X Y : Bytes), (0x25 : UInt8) ∉ X → noEscB (X ++ Y) = noEscB Y
  | [], _, _ => rfl
  | b :: X, Y, h => by
    have hb : (b == 0x25) = false := by
      have : b ≠ 0x25 := fun e => h (by simp [e])
      simpa using this
    simp only [List.cons_append, noEscB, hb, Bool.false_and, Bool.not_false, Bool.true_and]
    exact noEscB_append_nopct X Y (fun m => h (List.mem_cons_of_mem _ m))

theorem utf8Enc_front_hex {x : Char} {t : Str} {b0 : UInt8} {rest : Bytes}
    (he : utf8Enc (x :: t) = b0 :: rest) (hh : hexB b0 = true) :
    (hexVal? x).isSome = true ∧ rest = utf8Enc t := by
  obtain ⟨c0, cs, h1, _⟩ := firstItem_encode x []
  rw [Utf8Facts.utf8Enc_cons, h1] at he
  simp only [List.cons_append, List.cons.injEq] at he
  obtain ⟨e0, e1⟩ := he
  subst e0
  have hlt := hexB_lt hh
  have hx : x = Char.ofNat c0.toNat :=
    ((Utf8Facts.mem_utf8EncodeChar_ascii x c0 (UInt8.lt_iff_toNat_lt.mp hlt)).mp (by rw [h1]; simp)).symm
  have hxa : x.toNat < 128 := by
    rw [hx, toNat_ofNat_lt (by have := c0.toNat_lt; omega)]
    rw [UInt8.lt_iff_toNat_lt] at hlt; simpa using hlt
  have h2 := Utf8Facts.utf8EncodeChar_ascii _ hxa
  rw [h1] at h2
  simp only [List.cons.injEq] at h2
  rw [h2.2] at e1
  refine ⟨?_, by simpa using e1.symm⟩
  rw [hx]; exact hh

theorem startsHex2_utf8Enc {t : Str} (h : startsHex2 (utf8Enc t) = true) : startsHex2C t = true := by
  match t with
  | [] => simp [utf8Enc, startsHex2] at h
  | x :: t1 =>
    cases he : utf8Enc (x :: t1) with
    | nil => rw [he] at h; simp [startsHex2] at h
    | cons b0 rest =>
      rw [he] at h
      cases rest with
      | nil => simp [startsHex2] at h
      | cons b1 rest2 =>
        simp only [startsHex2, Bool.and_eq_true] at h
        obtain ⟨hx, e1⟩ := utf8Enc_front_hex he h.1
        match t1 with
        | [] => simp [utf8Enc] at e1
        | y :: t2 =>
          obtain ⟨hy, _⟩ := utf8Enc_front_hex e1.symm h.2
          simp [startsHex2C, hx, hy]

theorem noEscB_utf8Enc : ∀ (s : Str), noEscape s = true → noEscB (utf8Enc s) = true
  | [], _ => by simp [utf8Enc, noEscB]
  | c :: t, h => by
    simp only [noEscape, Bool.and_eq_true, Bool.not_eq_true'] at h
    have ih := noEscB_utf8Enc t h.2
    rw [Utf8Facts.utf8Enc_cons]
    by_cases hc : c = '%'
    · subst hc
      have henc : String.utf8EncodeChar '%' = [0x25] := by
        rw [Utf8Facts.utf8EncodeChar_ascii _ (by decide)]; rfl
      rw [henc]
      have h1 : startsHex2C t = false := by simpa using h.1
      have h2 : startsHex2 (utf8Enc t) = false := by
        cases hh : startsHex2 (utf8Enc t)
        · rfl
        · rw [startsHex2_utf8Enc hh] at h1; cases h1
      simp [noEscB, h2, ih]
    · rw [noEscB_append_nopct _ _ (utf8EncodeChar_no_pct hc)]
      exact ih

/-- **`unquote` inverts `quote` on every text that contains no `%XX` escape**, for every safe set
that contains `%` (the safe sets of `iri_to_uri`): a literal `%` that starts no escape survives. -/
theorem unquoteReplace_quote_noEscape {safe : Str} (hp : isSafe safe 0x25 = true) (s : Str)
    (h : noEscape s = true) : unquoteReplace (quote safe s) = s :=
  unquoteReplace_of_den (quoteBytes_ascii safe _) (by
    rw [quote, den_ascii (quoteBytes_ascii safe _)]
    exact unquoteBytes_quoteBytes_noEsc hp _ (noEscB_utf8Enc s h))

theorem noEscape_of_no_pct : ∀ (s : Str), '%' ∉ s → noEscape s = true
  | [], _ => rfl
  | c :: t, h => by
    have hc : (c == '%') = false := by
      have : c ≠ '%' := fun e => h (by simp [e])
      simpa using this
    simp only [noEscape, hc, Bool.false_and, Bool.not_false, Bool.true_and]
    exact noEscape_of_no_pct t (fun m => h (List.mem_cons_of_mem _ m))

end Wz.Url

