/-
Routing lemmas (C04, C12): which rule of an endpoint `MapAdapter.build` and `get_default_redirect` take. `_partial_build`
(no host matching) tries the endpoint's rules in `build_compare_key` order — a stable sort, non-alias rules first — and
stops at the first suitable one (`partialBuild1_eq`), so when a non-alias rule is suitable the URL is a non-alias rule's
(`build_prefers_canonical`); `get_default_redirect` redirects on behalf of the first rule that provides defaults.
-/
import WzVerif.Lemmas.RoutingOrder
namespace Wz.Routing

theorem sortRules_eq (l : List Rule) :
    sortRules l = sortBy (fun a b : Rule => keyLt a.buildCompareKey b.buildCompareKey) l := by
  have ins : ∀ x l, insertRule x l = insertBy (fun a b : Rule => keyLt a.buildCompareKey b.buildCompareKey) x l := by
    intro x l
    induction l with
    | nil => rfl
    | cons y t ih => simp only [insertRule, insertBy, ih]
  induction l with
  | nil => rfl
  | cons x t ih => simp only [sortRules, sortBy, ins, ih]

theorem mem_sortRules {y : Rule} {l : List Rule} : y ∈ sortRules l ↔ y ∈ l := by
  rw [sortRules_eq]; exact (sortBy_perm _ l).mem_iff

theorem mem_rulesByEndpoint {r : Rule} {rules : List Rule} {ep : Str} :
    r ∈ rulesByEndpoint rules ep ↔ r ∈ rules ∧ r.endpoint = ep := by
  simp only [rulesByEndpoint, mem_sortRules, List.mem_filter, beq_iff_eq]

def tripleLt1 (a b : Int × Int × Int) : Bool := decide (a.1 < b.1)

def tripleLt2 (a b : Int × Int × Int) : Bool := decide (a.2.1 < b.2.1)

def tripleLt3 (a b : Int × Int × Int) : Bool := decide (a.2.2 < b.2.2)

theorem swo_keyLt : SWO keyLt := by
  have heq : keyLt = lexLt (fun a b => decide (a.1 < b.1))
      (lexLt (fun a b => decide (a.2.1 < b.2.1)) (fun a b => decide (a.2.2 < b.2.2))) := by
    funext a b
    rw [lexLt_int (fun x : Int × Int × Int => x.1), lexLt_int (fun x : Int × Int × Int => x.2.1)]; rfl
  rw [heq]
  exact SWO.lex (SWO.int_key (fun x : Int × Int × Int => x.1)) (SWO.lex (SWO.int_key (fun x : Int × Int × Int => x.2.1)) (SWO.int_key (fun x : Int × Int × Int => x.2.2)))

/-- no later rule has a strictly smaller build key -/
def RulesSorted (l : List Rule) : Prop :=
  l.Pairwise (fun a b => keyLt b.buildCompareKey a.buildCompareKey = false)

theorem sortRules_sorted (l : List Rule) : RulesSorted (sortRules l) := by
  rw [sortRules_eq]; exact sortBy_sorted (swo_keyLt.comap (·.buildCompareKey)) l

theorem sorted_alias_last {l1 l2 : List Rule} {x y : Rule} (h : RulesSorted (l1 ++ x :: l2)) (hy : y ∈ l2)
    (hx : x.alias = true) : y.alias = true := by
  have h2 := (List.pairwise_append.1 h).2.1
  have := (List.pairwise_cons.1 h2).1 y hy
  cases hya : y.alias with
  | true => rfl
  | false =>
    exfalso
    simp [keyLt, Rule.buildCompareKey, hx, hya] at this

theorem partialBuild1_eq {cfg : MapCfg} {a : Adapter} {values : List (Str × Value)} {method : Option Str} {au : Bool}
    (hhm : cfg.hostMatching = false) (cands : List Rule) :
    partialBuild1 cfg a cands values method au none =
      match cands.find? (·.suitableFor values method) with
      | none => .ok none
      | some r => (r.build cfg values au).map fun du => some (du.1, du.2, r.websocket) := by
  induction cands with
  | nil => rfl
  | cons r t ih =>
    rw [partialBuild1, List.find?_cons]
    cases hs : r.suitableFor values method with
    | false => simpa using ih
    | true => cases hb : r.build cfg values au <;> simp [hhm, hb, Except.map]

theorem partialBuild1_first {cfg : MapCfg} {a : Adapter} {values : List (Str × Value)} {method : Option Str} {au : Bool}
    (hhm : cfg.hostMatching = false) {cands : List Rule} {d u : Str} {w : Bool}
    (h : partialBuild1 cfg a cands values method au none = .ok (some (d, u, w))) :
    ∃ l1 r l2, cands = l1 ++ r :: l2 ∧ (∀ x ∈ l1, x.suitableFor values method = false) ∧
      r.suitableFor values method = true ∧ r.build cfg values au = .ok (d, u) ∧ w = r.websocket := by
  rw [partialBuild1_eq hhm] at h
  cases hf : cands.find? (·.suitableFor values method) with
  | none => simp [hf] at h
  | some r =>
    obtain ⟨hs, l1, l2, hl, hl1⟩ := List.find?_eq_some_iff_append.1 hf
    simp only [hf] at h
    cases hb : r.build cfg values au with
    | error e => simp [hb, Except.map] at h
    | ok du =>
      simp only [hb, Except.map, Except.ok.injEq, Option.some.injEq, Prod.mk.injEq] at h
      exact ⟨l1, r, l2, hl, fun x hx => by simpa using hl1 x hx, hs, by rw [hb, ← h.1, ← h.2.1], h.2.2.symm⟩

theorem partialBuild_some {cfg : MapCfg} {a : Adapter} {rules : List Rule} {ep : Str} {values : List (Str × Value)}
    {method : Option Str} {au : Bool} (hhm : cfg.hostMatching = false) {d u : Str} {w : Bool}
    (h : partialBuild cfg a rules ep values method au = .ok (some (d, u, w))) :
    ∃ r ∈ rules, r.endpoint = ep ∧ (∃ mth, r.suitableFor values mth = true) ∧ r.build cfg values au = .ok (d, u) := by
  have lift : ∀ mth, partialBuild1 cfg a (rulesByEndpoint rules ep) values mth au none = .ok (some (d, u, w)) →
      ∃ r ∈ rules, r.endpoint = ep ∧ (∃ mth, r.suitableFor values mth = true) ∧ r.build cfg values au = .ok (d, u) := by
    intro mth h
    obtain ⟨l1, r, l2, hl, _, hs, hb, _⟩ := partialBuild1_first hhm h
    have hr := (mem_rulesByEndpoint (r := r)).1 (by rw [hl]; simp)
    exact ⟨r, hr.1, hr.2, ⟨mth, hs⟩, hb⟩
  simp only [partialBuild] at h
  cases method with
  | some mth => exact lift _ h
  | none =>
    simp only at h
    split at h
    · cases h
    · rename_i rv hrv
      cases h
      exact lift _ hrv
    · exact lift _ h

theorem build_prefers_canonical {cfg : MapCfg} {a : Adapter} {rules : List Rule} {ep : Str} {values : List (Str × Value)}
    {mth : Str} {au : Bool} (hhm : cfg.hostMatching = false) {d u : Str} {w : Bool}
    (h : partialBuild cfg a rules ep values (some mth) au = .ok (some (d, u, w)))
    (hcanon : ∃ rc ∈ rules, rc.endpoint = ep ∧ rc.alias = false ∧ rc.suitableFor values (some mth) = true) :
    ∃ r0 ∈ rules, r0.endpoint = ep ∧ r0.alias = false ∧ r0.suitableFor values (some mth) = true ∧
      r0.build cfg values au = .ok (d, u) := by
  simp only [partialBuild] at h
  obtain ⟨l1, r0, l2, hc, hl1, hs, hb, _⟩ := partialBuild1_first hhm h
  have hmem := (mem_rulesByEndpoint (r := r0)).1 (by rw [hc]; simp)
  refine ⟨r0, hmem.1, hmem.2, ?_, hs, hb⟩
  obtain ⟨rc, hrc, hep, hal, hsu⟩ := hcanon
  have hrcm := mem_rulesByEndpoint.2 ⟨hrc, hep⟩
  rw [hc] at hrcm
  rcases List.mem_append.1 hrcm with hin | hin
  · rw [hl1 rc hin] at hsu; cases hsu
  · rcases List.mem_cons.1 hin with heq | hin
    · rw [← heq]; exact hal
    · cases h0 : r0.alias with
      | false => rfl
      | true =>
        have hsorted : RulesSorted (l1 ++ r0 :: l2) := by rw [← hc]; exact sortRules_sorted _
        have := sorted_alias_last hsorted hin h0
        rw [hal] at this; cases this

/-- rule `r0`, behind the rules `l1` of the endpoint's list, is the one `get_default_redirect` redirects to `url` for:
nothing in front of it is the matched rule or qualifies, it is not the matched rule, provides defaults for it, is suitable
for the values, and `url` is its URL -/
structure FirstProvider (m : RMap) (a : Adapter) (rule : Rule) (meth : Str) (vals : List (Str × Value)) (qa : QueryArgs)
    (l1 : List Rule) (r0 : Rule) (url : Str) : Prop where
  before : ∀ x ∈ l1, x.idx ≠ rule.idx ∧ (providesDefaultsFor m.cfg x rule && x.suitableFor vals (some meth)) = false
  ne_idx : r0.idx ≠ rule.idx
  provides : providesDefaultsFor m.cfg r0 rule = true
  suitable : r0.suitableFor vals (some meth) = true
  built : ∃ dom path, r0.build m.cfg (dictUpdate vals r0.defaults) true = .ok (dom, path) ∧
    url = makeRedirectUrl m.cfg.hostMatching a path qa (some dom)

theorem getDefaultRedirect_first {m : RMap} {a : Adapter} {rule : Rule} {meth : Str} {vals : List (Str × Value)}
    {qa : QueryArgs} {url : Str} : ∀ {l : List Rule},
    getDefaultRedirect m a rule meth vals qa l = .ok (some url) →
    ∃ l1 r0 l2, l = l1 ++ r0 :: l2 ∧ FirstProvider m a rule meth vals qa l1 r0 url := by
  intro l
  induction l with
  | nil => intro h; simp [getDefaultRedirect] at h
  | cons r t ih =>
    intro h
    simp only [getDefaultRedirect] at h
    split at h
    · cases h
    · rename_i hidx
      have hidx : r.idx ≠ rule.idx := by simpa using hidx
      split at h
      · rename_i hcond
        simp only [Bool.and_eq_true] at hcond
        split at h
        · cases h
        · rename_i dom path hb
          cases h
          exact ⟨[], r, t, rfl, by simp, hidx, hcond.1, hcond.2, dom, path, hb, rfl⟩
      · rename_i hcond
        obtain ⟨l1, r0, l2, hl, fp⟩ := ih h
        refine ⟨r :: l1, r0, l2, by simp [hl], { fp with before := ?_ }⟩
        intro x hx
        rcases List.mem_cons.1 hx with rfl | hx
        · exact ⟨hidx, by simpa using hcond⟩
        · exact fp.before x hx

end Wz.Routing
