/-
What the equalities of Props/C08T (translated `Headers` / `HeaderSet` methods = the models of `Model/Headers.lean`,
`Model/Containers.lean`) need about the models and the prelude alone: the `for … else` loop of `Headers.set` cuts the list at the
first pair with the key (`firstSplit`), which is how the translated loop sees it, and the model's index normalisation `pyIdx`
is the prelude's `pyIndex`, so `L[i]` / `L[i] = v` succeed exactly where it is defined.
-/
import WzVerif.Model.Containers
import WzVerif.Lemmas.PyFns_Prelude
open Wz Wz.Hdr

namespace Wz.PyFnsHeaders

theorem newlineReSearch_eq (v : List Char) : (Pre.newlineReSearch v).isSome = hasNL v := by
  unfold Pre.newlineReSearch hasNL
  have : (fun c => c == '\r' || c == '\n') = isNL := rfl
  rw [this]
  cases v.any isNL <;> rfl

theorem lower_eq (s : List Char) : Pre.lower s = Hdr.lower s := rfl

/-- prefix before the first pair whose key matches, and the pairs after it -/
def firstSplit (k : Str) : HList → Option (HList × HList)
  | [] => none
  | p :: t => if keyEq k p then some ([], t) else (firstSplit k t).map fun ab => (p :: ab.1, ab.2)

theorem firstSplit_spec (k : Str) (t a b : HList) (h : firstSplit k t = some (a, b)) :
    ∃ p, t = a ++ p :: b := by
  induction t generalizing a b with
  | nil => simp [firstSplit] at h
  | cons p t ih =>
    unfold firstSplit at h
    by_cases hk : keyEq k p = true
    · simp only [hk, if_true, Option.some.injEq, Prod.mk.injEq] at h
      exact ⟨p, by rw [← h.1, ← h.2]; rfl⟩
    · simp only [hk, Bool.false_eq_true, if_false] at h
      cases hf : firstSplit k t with
      | none => simp [hf] at h
      | some ab =>
        obtain ⟨a', b'⟩ := ab
        simp only [hf, Option.map_some, Option.some.injEq, Prod.mk.injEq] at h
        obtain ⟨q, hq⟩ := ih a' b' hf
        exact ⟨q, by rw [← h.1, ← h.2, hq]; rfl⟩

theorem setLoop_firstSplit (k vs : Str) (t : HList) :
    setLoop k vs t = (firstSplit k t).map fun ab => ab.1 ++ (k, vs) :: ab.2.filter (fun q => !keyEq k q) := by
  induction t with
  | nil => rfl
  | cons p t ih =>
    unfold setLoop firstSplit
    by_cases hk : keyEq k p = true
    · simp [hk]
    · simp only [hk, Bool.false_eq_true, if_false, ih]
      cases firstSplit k t <;> simp

theorem pyIdx_eq (n : Nat) (i : Int) : Hdr.pyIdx n i = Pre.pyIndex n i := by
  unfold Hdr.pyIdx Pre.pyIndex
  by_cases hi : i < 0
  · by_cases h2 : -i ≤ (n : Int)
    · have h3 : ¬ (i + (n : Int) < 0) := by omega
      have h4 : (i + (n : Int)).toNat < n := by omega
      simp only [hi, h2, h3, h4, if_true, if_false]; congr 1; omega
    · have h3 : i + (n : Int) < 0 := by omega
      simp only [hi, h2, h3, if_true, if_false]
  · simp only [hi, if_false]

theorem pyIdx_none {α : Type} (L : List α) (i : Int) (h : Hdr.pyIdx L.length i = none) :
    Pre.getItem L i = .error "IndexError" := by
  rw [Pre.getItem_of_pyIndex, ← pyIdx_eq, h]

theorem pyIdx_some {α : Type} (L : List α) (i : Int) (k : Nat) (h : Hdr.pyIdx L.length i = some k) :
    ∃ hk : k < L.length, Pre.getItem L i = .ok L[k] ∧ ∀ v, Pre.setItem L i v = .ok (L.set k v) := by
  rw [pyIdx_eq] at h
  have hk := Pre.pyIndex_lt h
  refine ⟨hk, ?_, fun v => ?_⟩
  · rw [Pre.getItem_of_pyIndex, h]; simp only [List.getElem?_eq_getElem hk]
  · simp only [Pre.setItem, h]

end Wz.PyFnsHeaders
