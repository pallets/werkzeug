/-
One lexing theorem for the widest grammar C17 needs: elements whose parameters may be preceded by white space
(`SpElem`: `value; key=token;q=0.5`, what `Accept.to_header()` writes for items that carry parameters).
`parseOptionsHeader_spElem` lexes one element — the scan of one parameter is `paramParts_step` —, and
`parseAcceptRaw_spHeader` the comma-separated header. The grammar of the property text (no white space:
`parseAcceptRaw_header`), the single element `value;q=token` and the round trip through `to_header()`
(`toHeader_reparse`) are instances.
-/
import WzVerif.Lemmas.AcceptQRepr
import WzVerif.Lemmas.Outcome
namespace Wz.Accept
open Wz

def AllSpace (ws : Str) : Prop := ∀ c ∈ ws, Py.isSpace c = true

/-- `;<ws>key=value` for every parameter -/
def wsParams (l : List (Str × Param)) : Str :=
  l.flatMap fun x => ';' :: (x.1 ++ (x.2.1 ++ '=' :: x.2.2))

structure WsParam (x : Str × Param) : Prop where
  space : AllSpace x.1
  key : IsToken x.2.1
  value : IsToken x.2.2

def WsOk (l : List (Str × Param)) : Prop := ∀ x ∈ l, WsParam x

theorem wsParams_cons (x : Str × Param) (rest : List (Str × Param)) :
    wsParams (x :: rest) = ';' :: (x.1 ++ (x.2.1 ++ '=' :: (x.2.2 ++ wsParams rest))) := by
  simp [wsParams]

theorem token_head_nonspace {k : Str} (hk : IsToken k) (rest : Str) :
    ∀ c, (k ++ rest).head? = some c → Py.isSpace c = false := by
  intro c hc
  obtain ⟨a, t, rfl⟩ := List.exists_cons_of_ne_nil hk.1
  cases hc
  exact hk.noSpace _ (by simp)

/-- one `key=token` parameter in front of anything that does not continue the token -/
theorem paramParts_step (k val rest : Str) (hk : IsToken k) (hv : IsToken val)
    (hr : ∀ c, rest.head? = some c → isTokChar c = false) (fuel : Nat) :
    paramParts (fuel + 1) (k ++ '=' :: (val ++ rest)) =
      (lowerA k, val) :: (if rest.contains ';' then
        paramParts fuel (((rest.dropWhile (· != ';')).drop 1).dropWhile Py.isSpace) else []) := by
  have tk := takeWhile_all_then (p := isTokChar) k '=' (val ++ rest) hk.2 (by decide)
  have tv := takeWhile_append_stop (p := isTokChar) (a := val) (b := rest) hv.2 hr
  have hke : k.isEmpty = false := List.isEmpty_eq_false_iff.mpr hk.1
  have hve : val.isEmpty = false := List.isEmpty_eq_false_iff.mpr hv.1
  have hvs : ∀ y ∈ val, (y != ';') = true := fun y hy => by
    simpa using fun e : y = ';' => hv.not_mem (d := ';') (by decide) (e ▸ hy)
  have hc : (val ++ rest).contains ';' = rest.contains ';' := by
    have : ';' ∉ val := fun h => by simpa using hvs _ h
    simp [this]
  rw [paramParts]
  simp only [tk.1, tk.2, hke, Bool.not_false, List.head?_cons, BEq.rfl, Bool.and_self, ↓reduceIte,
    List.drop_succ_cons, List.drop_zero, tv.1, hve, hc, List.dropWhile_append_of_pos hvs]
  split <;> simp

theorem paramParts_listW (l : List (Str × Param)) (k val : Str) (hk : IsToken k) (hv : IsToken val)
    (hl : WsOk l) (fuel : Nat) (hf : l.length ≤ fuel) :
    paramParts (fuel + 1) (k ++ '=' :: (val ++ wsParams l)) =
      (lowerA k, val) :: l.map fun x => (lowerA x.2.1, x.2.2) := by
  induction l generalizing k val fuel with
  | nil => rw [paramParts_step k val _ hk hv (by simp [wsParams])]; simp [wsParams]
  | cons x rest ih =>
    have hx := hl x (by simp)
    obtain ⟨f, rfl⟩ : ∃ f, fuel = f + 1 := ⟨fuel - 1, by simp at hf; omega⟩
    rw [wsParams_cons, paramParts_step k val _ hk hv (fun c hc => by cases hc; decide)]
    simp only [List.contains_cons, BEq.rfl, Bool.true_or, ↓reduceIte, List.dropWhile_cons, bne_self_eq_false,
      Bool.false_eq_true, List.drop_succ_cons, List.drop_zero, List.map_cons,
      List.dropWhile_append_of_pos hx.space, dropWhile_head_false (token_head_nonspace hx.key _)]
    rw [ih x.2.1 x.2.2 hx.key hx.value (fun q hq => hl q (by simp [hq])) f (by simpa using hf)]

def LastNonSpace (s : Str) : Prop := ∀ c, s.getLast? = some c → Py.isSpace c = false

theorem lastNonSpace_append {a b : Str} (hb : b ≠ []) (h : LastNonSpace b) : LastNonSpace (a ++ b) := by
  intro c hc
  rw [List.getLast?_append] at hc
  cases hbl : b.getLast? with
  | none => exact absurd (List.getLast?_eq_none_iff.mp hbl) hb
  | some d =>
    rw [hbl] at hc
    simp only [Option.some_or, Option.some.injEq] at hc
    subst hc
    exact h d hbl

theorem lastNonSpace_params (pre : Str) (l : List (Str × Param)) (val : Str)
    (hv : val ≠ [] ∧ ∀ c ∈ val, Py.isSpace c = false) (hl : WsOk l) :
    LastNonSpace (pre ++ (val ++ wsParams l)) := by
  induction l generalizing pre val with
  | nil => simpa [wsParams] using lastNonSpace_append hv.1 (fun c hc => hv.2 c (List.mem_of_getLast? hc))
  | cons x rest ih =>
    have hx := hl x (by simp)
    have e : pre ++ (val ++ wsParams (x :: rest))
        = (pre ++ val ++ ';' :: (x.1 ++ (x.2.1 ++ ['=']))) ++ (x.2.2 ++ wsParams rest) := by
      simp [wsParams_cons]
    rw [e]
    exact ih _ x.2.2 ⟨hx.value.1, hx.value.noSpace⟩ (fun q hq => hl q (by simp [hq]))

theorem strip_ws_body (ws body : Str) (hws : AllSpace ws)
    (hh : ∀ c, body.head? = some c → Py.isSpace c = false) (hl : LastNonSpace body) :
    Py.strip (ws ++ body) = body := by
  rw [Py.strip, List.dropWhile_append_of_pos hws, dropWhile_head_false hh, rstripBy_noop hl]

/-- element text with per-parameter white space after the `;` -/
structure SpElem where
  e : Elem
  /-- white space written after the `;` of each entry of `e.opts` -/
  ws : List Str

def SpElem.wsOpts (s : SpElem) : List (Str × Param) := s.ws.zip s.e.opts

def SpElem.text (s : SpElem) : Str := s.e.v ++ wsParams s.wsOpts

structure SpElem.WF (s : SpElem) : Prop where
  elem : s.e.WF
  len : s.ws.length = s.e.opts.length
  spaces : ∀ w ∈ s.ws, AllSpace w

theorem SpElem.WF.wsOk {s : SpElem} (h : s.WF) : WsOk s.wsOpts := by
  intro x hx
  have h1 : x.1 ∈ s.ws := (List.of_mem_zip hx).1
  have h2 : x.2 ∈ s.e.opts := (List.of_mem_zip hx).2
  have := h.elem.opts_ok x.2 h2
  exact ⟨h.spaces x.1 h1, this.1.token, this.2⟩

theorem SpElem.WF.map_snd {s : SpElem} (h : s.WF) : s.wsOpts.map (·.2) = s.e.opts := by
  unfold SpElem.wsOpts
  rw [List.map_snd_zip]
  rw [h.len]; exact Nat.le_refl _

theorem wsParams_chars (l : List (Str × Param)) (hl : WsOk l) :
    ∀ c ∈ wsParams l, c ≠ ',' ∧ c ≠ '"' := by
  intro c hc
  simp only [wsParams, List.mem_flatMap] at hc
  obtain ⟨x, hx, hc⟩ := hc
  have hxo := hl x hx
  simp only [List.mem_cons, List.mem_append] at hc
  rcases hc with rfl | hc | hc | rfl | hc
  · decide
  · have := hxo.space c hc
    constructor <;> (intro e; subst e; revert this; decide)
  · exact ⟨fun e => hxo.key.not_mem (d := ',') (by decide) (e ▸ hc),
      fun e => hxo.key.not_mem (d := '"') (by decide) (e ▸ hc)⟩
  · decide
  · exact ⟨fun e => hxo.value.not_mem (d := ',') (by decide) (e ▸ hc),
      fun e => hxo.value.not_mem (d := '"') (by decide) (e ▸ hc)⟩

theorem SpElem.WF.text_chars {s : SpElem} (h : s.WF) : ∀ c ∈ s.text, c ≠ ',' ∧ c ≠ '"' := by
  intro c hc
  unfold SpElem.text at hc
  rcases List.mem_append.mp hc with hc | hc
  · exact ⟨(h.elem.value.noDelim c hc).1, (h.elem.value.noDelim c hc).2.1⟩
  · exact wsParams_chars _ h.wsOk c hc

theorem SpElem.WF.text_ne {s : SpElem} (h : s.WF) : s.text ≠ [] := by
  unfold SpElem.text
  cases hv : s.e.v with
  | nil => exact absurd hv h.elem.value.1
  | cons _ _ => simp

theorem SpElem.WF.text_head {s : SpElem} (h : s.WF) :
    ∀ c, s.text.head? = some c → Py.isSpace c = false ∧ c ≠ '"' := by
  intro c hc
  obtain ⟨a, t, hv⟩ := List.exists_cons_of_ne_nil h.elem.value.1
  rw [SpElem.text, hv] at hc
  cases hc
  have hm : c ∈ s.e.v := by rw [hv]; simp
  exact ⟨h.elem.value.noSpace c hm, (h.elem.value.noDelim c hm).2.1⟩

theorem SpElem.WF.text_strip {s : SpElem} (h : s.WF) : Py.strip s.text = s.text :=
  strip_of_ends (fun c hc => (h.text_head c hc).1)
    (lastNonSpace_params [] _ _ ⟨h.elem.value.1, h.elem.value.noSpace⟩ h.wsOk)

theorem wsParams_length (l : List (Str × Param)) : l.length ≤ (wsParams l).length := by
  induction l with
  | nil => simp [wsParams]
  | cons x t ih =>
    rw [wsParams_cons]
    simp only [List.length_cons, List.length_append]
    omega

theorem parseOptionsHeader_spElem (s : SpElem) (h : s.WF) :
    parseOptionsHeader s.text = .ok (s.e.v, s.e.opts) := by
  have hvs : ∀ c ∈ s.e.v, (c != ';') = true := fun c hc => by simpa using (h.elem.value.noDelim c hc).2.2
  have hsv := strip_noSpace (s := s.e.v) h.elem.value.noSpace
  have hve := h.elem.value.isEmpty
  have hms := h.map_snd
  have hwo := h.wsOk
  unfold parseOptionsHeader SpElem.text
  cases ho : s.wsOpts with
  | nil =>
    have hopts : s.e.opts = [] := by rw [← hms, ho]; rfl
    have tw := takeWhile_all (p := fun c => c != ';') s.e.v hvs
    have hs0 : Py.strip [] = [] := by decide
    simp [wsParams, tw.1, tw.2, hsv, hs0, hopts]
  | cons x rest =>
    rw [ho] at hwo hms
    have hx := hwo x (by simp)
    have hok : ∀ p ∈ s.e.opts, IsKey p.1 ∧ IsToken p.2 := h.elem.opts_ok
    have hnd : (s.e.opts.map (·.1)).Nodup := h.elem.opts_nodup
    have e1 := wsParams_cons x rest
    have hsemi : ((';' : Char) != ';') = false := by decide
    have tw := takeWhile_all_then (p := fun c => c != ';') s.e.v ';'
      (x.1 ++ (x.2.1 ++ '=' :: (x.2.2 ++ wsParams rest))) hvs hsemi
    have hbody_last : LastNonSpace (x.2.1 ++ '=' :: (x.2.2 ++ wsParams rest)) := by
      simpa using lastNonSpace_params (x.2.1 ++ ['=']) rest x.2.2 ⟨hx.value.1, hx.value.noSpace⟩
        (fun q hq => hwo q (by simp [hq]))
    have hsr := strip_ws_body x.1 (x.2.1 ++ '=' :: (x.2.2 ++ wsParams rest)) hx.space
      (token_head_nonspace hx.key _) hbody_last
    have hne : (x.2.1 ++ '=' :: (x.2.2 ++ wsParams rest)).isEmpty = false := by
      cases hp1 : x.2.1 <;> simp
    have hfuel : rest.length ≤ (x.2.1 ++ '=' :: (x.2.2 ++ wsParams rest)).length := by
      have := wsParams_length rest
      simp only [List.length_append, List.length_cons]
      omega
    have hpp := paramParts_listW rest x.2.1 x.2.2 hx.key hx.value
      (fun q hq => hwo q (by simp [hq])) _ hfuel
    have hlow : (lowerA x.2.1, x.2.2) :: rest.map (fun q => (lowerA q.2.1, q.2.2)) = s.e.opts := by
      rw [← hms]
      simp only [List.map_cons]
      have hk : ∀ q ∈ x :: rest, IsKey q.2.1 := by
        intro q hq
        have : q.2 ∈ s.e.opts := by rw [← hms]; exact List.mem_map_of_mem (f := (·.2)) hq
        exact (hok q.2 this).1
      rw [(hk x (by simp)).lower]
      congr 1
      have : ∀ (l : List (Str × Param)), (∀ q ∈ l, IsKey q.2.1) →
          l.map (fun q => (lowerA q.2.1, q.2.2)) = l.map (·.2) := by
        intro l
        induction l with
        | nil => intro _; rfl
        | cons a t ih =>
          intro hl
          simp only [List.map_cons]
          rw [(hl a (by simp)).lower, ih (fun q hq => hl q (by simp [hq]))]
      exact this rest (fun q hq => hk q (by simp [hq]))
    rw [e1]
    simp only [tw.1, tw.2, List.drop_succ_cons, List.drop_zero, hsv, hsr, hve, hne, Bool.or_self,
      Bool.false_eq_true, ↓reduceIte, hpp, hlow]
    rw [processParts_simple s.e.opts [] (fun q hq => key_token_simple (hok q hq).1 (hok q hq).2) hnd
      (by intro _ _ a ha; simp at ha)]
    simp

def spHeaderText : List SpElem → Str
  | [] => []
  | [s] => s.text
  | s :: rest => s.text ++ ',' :: spHeaderText rest

theorem spHeaderText_cons₂ (s s2 : SpElem) (rest : List SpElem) :
    spHeaderText (s :: s2 :: rest) = s.text ++ ',' :: spHeaderText (s2 :: rest) := rfl

theorem intercalate_spHeaderText (es : List SpElem) :
    [','].intercalate (es.map SpElem.text) = spHeaderText es := by
  induction es with
  | nil => rfl
  | cons e rest ih =>
    cases rest with
    | nil => simp [spHeaderText, List.intercalate]
    | cons e' rest' =>
      have : [','].intercalate ((e :: e' :: rest').map SpElem.text) =
          e.text ++ ',' :: [','].intercalate ((e' :: rest').map SpElem.text) := by
        simp [List.intercalate]
      rw [this, ih]
      rfl

theorem httpList_spHeader (es : List SpElem) (hne : es ≠ []) (h : ∀ s ∈ es, s.WF) :
    httpList (spHeaderText es) [] false false = es.map SpElem.text := by
  induction es with
  | nil => exact absurd rfl hne
  | cons s rest ih =>
    have hs := h s (by simp)
    cases rest with
    | nil =>
      simp only [spHeaderText, List.map_cons, List.map_nil]
      rw [httpList_plain _ [] hs.text_chars (by simpa using hs.text_ne)]
      simp
    | cons s2 rest2 =>
      rw [spHeaderText_cons₂, httpList_comma _ _ [] hs.text_chars, ih (by simp) (fun x hx => h x (by simp [hx]))]
      simp

theorem parseListHeader_spHeader (es : List SpElem) (hne : es ≠ []) (h : ∀ s ∈ es, s.WF) :
    parseListHeader (spHeaderText es) = es.map SpElem.text := by
  unfold parseListHeader
  rw [httpList_spHeader es hne h, List.map_map]
  apply List.map_congr_left
  intro s hs
  have hw := h s hs
  simp only [Function.comp]
  rw [hw.text_strip]
  have hh : s.text.head? ≠ some '"' := by
    intro e'
    exact (hw.text_head '"' e').2 rfl
  have : (s.text.head? == some '"') = false := by simpa using hh
  simp [this]

theorem lexHeader_spHeader (es : List SpElem) (hne : es ≠ []) (h : ∀ s ∈ es, s.WF) :
    lexHeader (spHeaderText es) = .ok (es.map fun s => (s.e.v, s.e.opts)) := by
  rw [lexHeader, parseListHeader_spHeader es hne h, List.mapM_map]
  exact mapM_ok _ _ es fun s hs => parseOptionsHeader_spElem s (h s hs)

/-- `parse_accept_header` on a header of elements with spaced parameters: as for the unspaced
grammar, the items of the elements in header order -/
theorem parseAcceptRaw_spHeader (es : List SpElem) (hne : es ≠ []) (h : ∀ s ∈ es, s.WF) :
    parseAcceptRaw (spHeaderText es) = .ok (es.filterMap fun s => s.e.item) := by
  have hte : (spHeaderText es).isEmpty = false := by
    cases es with
    | nil => exact absurd rfl hne
    | cons s rest =>
      have := (h s (by simp)).text_ne
      cases rest with
      | nil => simpa [spHeaderText] using this
      | cons s2 r2 =>
        rw [spHeaderText_cons₂]
        cases ht : s.text <;> simp
  unfold parseAcceptRaw
  simp only [hte, Bool.false_eq_true, ↓reduceIte, lexHeader_spHeader es hne h]
  show Except.ok (acceptItems (es.map fun s => (s.e.v, s.e.opts))) = _
  congr 1
  unfold acceptItems
  rw [List.filterMap_map]
  exact filterMap_congr_mem fun s hs => acceptItem_elem s.e (h s hs).elem

def SpElem.plain (e : Elem) : SpElem := ⟨e, List.replicate e.opts.length []⟩

theorem wsParams_replicate (w : Str) (l : List Param) :
    wsParams ((List.replicate l.length w).zip l) = l.flatMap fun p => ';' :: (w ++ (p.1 ++ '=' :: p.2)) := by
  induction l with
  | nil => rfl
  | cons p t ih =>
    simp only [List.length_cons, List.replicate_succ, List.zip_cons_cons, List.flatMap_cons]
    rw [wsParams_cons, ih]
    simp

theorem SpElem.plain_text (e : Elem) : (SpElem.plain e).text = e.text := by
  unfold SpElem.text SpElem.wsOpts SpElem.plain Elem.text
  rw [wsParams_replicate]; rfl

theorem SpElem.plain_wf {e : Elem} (h : e.WF) : (SpElem.plain e).WF where
  elem := h
  len := List.length_replicate ..
  spaces w hw := by
    rw [List.eq_of_mem_replicate hw]
    intro c hc
    cases hc

theorem spHeaderText_plain (es : List Elem) : spHeaderText (es.map SpElem.plain) = headerText es := by
  induction es with
  | nil => rfl
  | cons e rest ih =>
    cases rest with
    | nil => exact SpElem.plain_text e
    | cons e2 r2 =>
      rw [List.map_cons, List.map_cons, spHeaderText_cons₂, ← List.map_cons, ih, SpElem.plain_text]
      rfl

/-- `parse_accept_header` on a well-formed header `value(;key=token)*(;q=token)?,…`: the items of its
elements, in header order -/
theorem parseAcceptRaw_header (es : List Elem) (hne : es ≠ []) (h : ∀ e ∈ es, e.WF) :
    parseAcceptRaw (headerText es) = .ok (es.filterMap Elem.item) := by
  rw [← spHeaderText_plain, parseAcceptRaw_spHeader (es.map SpElem.plain) (by simpa using hne)
    (by
      intro s hs
      obtain ⟨e, he, rfl⟩ := List.mem_map.mp hs
      exact SpElem.plain_wf (h e he)), List.filterMap_map]
  rfl

theorem parseAccept_header {σ : Type} (N : Neg σ Q) (es : List Elem) (hne : es ≠ []) (h : ∀ e ∈ es, e.WF) :
    parseAccept N (headerText es) = .ok (mk N (es.filterMap Elem.item)) := by
  rw [parseAccept, parseAcceptRaw_header es hne h]; rfl

/-- `parse_accept_header` on the single element `value;q=token`: nothing when the q text fails
`_q_value_re` / the range check, else exactly `(value, q)` -/
theorem parseAcceptRaw_qElement (v qs : Str) (hv : IsValueText v) (hq : IsToken qs) :
    parseAcceptRaw (qElement v qs) =
      .ok (match parseQ qs with
        | none => []
        | some q => [(v, q)]) := by
  have h := parseAcceptRaw_header [⟨v, [], some qs⟩] (by simp) (by
    intro e he
    rw [List.mem_singleton.mp he]
    exact { value := hv, params := fun _ hp => (nomatch hp), nodup := List.nodup_nil,
            qtok := fun _ hqs => Option.some.inj hqs ▸ hq })
  have ht : headerText [⟨v, [], some qs⟩] = qElement v qs := by
    simp [headerText, Elem.text, Elem.opts, semiParams, qElement, qKey]
  rw [ht] at h
  rw [h]
  simp only [List.filterMap_cons, List.filterMap_nil, Elem.item, Elem.itemText, List.flatMap_nil,
    List.append_nil]
  cases parseQ qs <;> rfl

/-- A row `(s, r)` of a table of `parse_accept_header("a;q=" + s)` results whose q text is a token:
the lexer is `parseAcceptRaw_qElement`, so the row only has to agree with `parseQ s`. -/
theorem qRow_of_token (s : Str) (r : Option (Nat × Nat))
    (h : (isTokenB s && ((parseQ s).map fun q => (q.norm.num, q.norm.scale)) == r) = true) :
    ((parseAcceptRaw (['a', ';', 'q', '='] ++ s)).toOption.map fun l =>
        l.map fun it => (it.1, it.2.norm.num, it.2.norm.scale)) =
      some (match (generalizing := false) r with
        | none => []
        | some (n, sc) => [(['a'], n, sc)]) := by
  simp only [Bool.and_eq_true, beq_iff_eq] at h
  obtain ⟨ht, hr⟩ := h
  have ha : IsValueText ['a'] := (isValueTextB_iff _).mp (by decide)
  rw [show ['a', ';', 'q', '='] ++ s = qElement ['a'] s from rfl,
    parseAcceptRaw_qElement ['a'] s ha ((isTokenB_iff s).mp ht)]
  cases hp : parseQ s <;> rw [hp] at hr <;> subst hr <;> rfl

/-- an item as `parse_accept_header` rebuilds it: value, parameters (as an `Elem` without q) and
its quality -/
abbrev PItem := Elem × Q

def PItem.toItem (x : PItem) : Str × Q := (x.1.itemText, x.2)

def qTextOf (q : Q) : Option Str := if q.isOne then none else qRepr q

/-- the element `to_header` writes: `value; k=v; …` followed by `;q=<repr>` -/
def spOf (x : PItem) : SpElem :=
  ⟨⟨x.1.v, x.1.ps, qTextOf x.2⟩,
   List.replicate x.1.ps.length [' '] ++ (match qTextOf x.2 with | none => [] | some _ => [[]])⟩

theorem wsParams_append (a b : List (Str × Param)) : wsParams (a ++ b) = wsParams a ++ wsParams b := by
  simp [wsParams]

theorem spOf_text (x : PItem) :
    (spOf x).text = x.1.itemText ++ (match qTextOf x.2 with
      | none => []
      | some r => ';' :: 'q' :: '=' :: r) := by
  unfold SpElem.text SpElem.wsOpts spOf Elem.opts Elem.itemText
  simp only
  rw [List.zip_append (by simp), wsParams_append, wsParams_replicate, List.append_assoc]
  cases qTextOf x.2 with
  | none => simp [wsParams]
  | some r => simp [wsParams, qKey]

theorem itemHeader_spOf (x : PItem) (h : ReprOk x.2 = true) :
    itemHeader x.toItem = some (spOf x).text := by
  rw [spOf_text]
  rcases reprOk_cases h with h1 | ⟨h1, r, q', hr, _, _, _⟩
  · simp [itemHeader, PItem.toItem, qTextOf, h1]
  · simp [itemHeader, PItem.toItem, qTextOf, h1, hr]

theorem spOf_wf (x : PItem) (hwf : x.1.WF) (h : ReprOk x.2 = true) : (spOf x).WF := by
  have helem : (spOf x).e.WF := by
    refine ⟨hwf.value, hwf.params, hwf.nodup, ?_⟩
    intro qs hqs
    rcases reprOk_cases h with h1 | ⟨h1, r, q', hr, htok, _, _⟩
    · simp [spOf, qTextOf, h1] at hqs
    · simp only [spOf, qTextOf, h1, Bool.false_eq_true, ↓reduceIte, hr, Option.some.injEq] at hqs
      subst hqs; exact htok
  refine ⟨helem, ?_, ?_⟩
  · unfold spOf Elem.opts
    simp only
    cases qTextOf x.2 <;> simp
  · intro w hw
    unfold spOf at hw
    simp only at hw
    rcases List.mem_append.mp hw with hw | hw
    · have := List.eq_of_mem_replicate hw
      subst this
      intro c hc
      simp only [List.mem_singleton] at hc
      subst hc; decide
    · cases hq : qTextOf x.2 with
      | none => rw [hq] at hw; simp at hw
      | some r =>
        rw [hq] at hw
        simp only [List.mem_singleton] at hw
        subst hw
        intro c hc; simp at hc

theorem spOf_item (x : PItem) (h : ReprOk x.2 = true) :
    (spOf x).e.item = some (reparsed x.toItem) := by
  rcases reprOk_cases h with h1 | ⟨h1, r, q', hr, _, hp, _⟩
  · simp [spOf, qTextOf, h1, Elem.item, Elem.itemText, reparsed, PItem.toItem]
  · simp [spOf, qTextOf, h1, hr, Elem.item, Elem.itemText, reparsed, PItem.toItem, hp]

theorem toHeader_spHeaderText (its : List PItem) (h : ∀ x ∈ its, ReprOk x.2 = true) :
    toHeader (its.map PItem.toItem) = some (spHeaderText (its.map spOf)) := by
  have hm : (its.map PItem.toItem).mapM itemHeader = some (its.map fun x => (spOf x).text) := by
    rw [List.mapM_map]
    exact mapM_some _ _ _ fun x hx => itemHeader_spOf x (h x hx)
  unfold toHeader
  rw [hm]
  simp only [Option.map_some, Option.some.injEq]
  rw [← intercalate_spHeaderText, List.map_map]
  rfl

theorem filterMap_spOf (its : List PItem) (h : ∀ x ∈ its, ReprOk x.2 = true) :
    (its.map spOf).filterMap (fun s => s.e.item) = (its.map PItem.toItem).map reparsed := by
  induction its with
  | nil => rfl
  | cons x rest ih =>
    simp only [List.map_cons, List.filterMap_cons, spOf_item x (h x (by simp))]
    rw [ih (fun y hy => h y (by simp [hy]))]

/-- `to_header()` followed by `parse_accept_header`: for items as `parse_accept_header` rebuilds them
whose qualities reprint, the written text parses back to the same items in the same order, each with
the quality its printed text denotes -/
theorem toHeader_reparse (its : List PItem) (hne : its ≠ []) (hwf : ∀ x ∈ its, x.1.WF)
    (hq : ∀ x ∈ its, ReprOk x.2 = true) :
    ∃ t, toHeader (its.map PItem.toItem) = some t ∧
      parseAcceptRaw t = .ok ((its.map PItem.toItem).map reparsed) := by
  refine ⟨_, toHeader_spHeaderText its hq, ?_⟩
  rw [parseAcceptRaw_spHeader (its.map spOf) (by simpa using hne)
    (by
      intro s hs
      obtain ⟨x, hx, rfl⟩ := List.mem_map.mp hs
      exact spOf_wf x (hwf x hx) (hq x hx)), filterMap_spOf its hq]

def PItem.ofPlain (it : Str × Q) : PItem := (⟨it.1, [], none⟩, it.2)

theorem PItem.map_toItem_ofPlain (self : List (Str × Q)) :
    (self.map PItem.ofPlain).map PItem.toItem = self := by
  rw [List.map_map]
  refine (List.map_congr_left fun it _ => ?_).trans (List.map_id self)
  show (it.1 ++ [], it.2) = it
  rw [List.append_nil]

theorem PItem.ofPlain_wf {it : Str × Q} (hv : IsValueText it.1) : (PItem.ofPlain it).1.WF where
  value := hv
  params _ hp := nomatch hp
  nodup := List.nodup_nil
  qtok _ hqs := nomatch hqs

end Wz.Accept
