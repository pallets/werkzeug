/-
`parse_accept_header` (C07): `dump_options_header`'s `key[-1]` only ever sees the non-empty names that
`parse_options_header` returns (finding F07g), so rebuilding an item from its options cannot raise.
-/
import WzVerif.Lemmas.HttpSafeOpt
namespace Wz.Http
open Wz

theorem optionSegment_safe (kv : Str × Option Str) (h : kv.1 ≠ []) : Safe (optionSegment kv) := by
  unfold optionSegment
  split
  · exact Safe.ok _
  · refine (last!_safe (by cases hk : kv.1 <;> simp_all)).bind fun l => ?_
    split <;> exact Safe.ok _

theorem dumpOptionsHeader_safe (h : Option Str) (opts : Dict (Option Str)) (hk : ∀ x ∈ opts, x.1 ≠ []) :
    Safe (dumpOptionsHeader h opts) :=
  (mapM_safe_mem optionSegment opts fun a ha => optionSegment_safe a (hk a ha)).bind fun _ => Safe.ok _

theorem acceptItem_safe (item : Str) : Safe (acceptItem item) := by
  unfold acceptItem
  refine (parseOptionsHeader_returns item).bind_safe fun vo hkeys => ?_
  obtain ⟨v, options⟩ := vo
  -- the tail of the item, for the options left after `q` was popped
  have hdump : ∀ (o : Dict Str), (∀ x ∈ o, x.1 ≠ []) → ∀ q : Str,
      Safe (if (!o.isEmpty) = true then do
          let item ← dumpOptionsHeader (some v) (o.map fun (k, x) => (k, some x))
          pure (some (item, q))
        else pure (some (v, q)) : Except String (Option (Str × Str))) := by
    intro o ho q
    split
    · refine (dumpOptionsHeader_safe _ _ fun x hx => ?_).bind fun _ => Safe.ok _
      obtain ⟨y, hy, rfl⟩ := List.mem_map.mp hx
      exact ho y hy
    · exact Safe.ok _
  simp only
  split
  · split
    · exact Safe.ok _
    · split
      · exact Safe.ok _
      · exact hdump _ (fun x hx => hkeys x (List.mem_filter.mp hx).1) _
  · exact hdump _ hkeys _

theorem parseAcceptHeader_safe (s : Str) : Safe (parseAcceptHeader s) := by
  unfold parseAcceptHeader
  split
  · exact Safe.ok _
  · exact (mapM_safe acceptItem _ acceptItem_safe).bind fun _ => Safe.ok _

end Wz.Http
