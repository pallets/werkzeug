/-
The regex kernels of `MultipartDecoder` under extension of the buffer (C01 / C10 / C02). An anchored
delimiter match persists when input is appended (`matchDelimAt_append`), and a position without a match
gets none once the buffer holds a later match: a delimiter line the buffer leaves undecided (`Pending`)
reaches to the end of the buffer (`no_new_match`). Hence the leftmost match of `preamble_re` /
`boundary_re` is stable (`searchDelim_append_stable`), and so is the first blank line. What `_parse_data`
releases without a match is final: no extension has a match that starts in it (`NoMatchBefore`,
`hold_safe`). On these two rest one `_parse_data` call on any prefix of the stream (`dataStep_stream`,
`Released`), the chunked DATA loop against the single-shot semantics `dataSpec` (`dataPhase_spec`), and
the payloads between delimiter lines for the three line-break conventions (`dataSpec_encoded_nl`).

In this order: line breaks (`isNl`, `hasNl`, `lbLen`); the rest of a delimiter line and the anchored
matchers (`matchTail`, `matchDelimAt`, `Pending`); the search for a delimiter (`searchDelim`, `shift`),
`last_newline`, the hold-back and stability; `BLANK_LINE_RE` and its search (`blankLen`, `searchBlank`,
`shift2`); the DATA kernel (`dataCut`, `dataStep`, `dataLoop`, `dataPhase`); the framing for a line-break
convention `Nl` (`NoOther`, `AfterDelimNl`, `PayloadOkNl`) and its CRLF case; `str_ofList`, for the
`example`s that decode a literal.
-/
import WzVerif.Model.Multipart
import WzVerif.Lemmas.TableSweep
import WzVerif.Lemmas.Basics
namespace Wz.Multipart
open Wz

/-- the header name decoder and encoder compare with, as the list of characters (a `simp only` rule: `simp` does not
compute the literal) -/
theorem cdKey : "content-disposition".toList =
    ['c', 'o', 'n', 't', 'e', 'n', 't', '-', 'd', 'i', 's', 'p', 'o', 's', 'i', 't', 'i', 'o', 'n'] :=
  String.toList_ofList

/-- the boundary contains no CR / LF (it comes from a header parameter) -/
def BoundaryOk (bnd : Bytes) : Prop := hasNl bnd = false

instance (bnd : Bytes) : Decidable (BoundaryOk bnd) := by unfold BoundaryOk; infer_instance

theorem isNl_iff {a : UInt8} : isNl a = true ↔ a = 10 ∨ a = 13 := by
  simp [isNl]

theorem isNl_eq_false_iff {a : UInt8} : isNl a = false ↔ a ≠ 10 ∧ a ≠ 13 := by
  simp [isNl]

theorem isHws_eq (b : UInt8) :
    isHws b = (b.toNat == 9 || b.toNat == 11 || b.toNat == 12 || b.toNat == 32) :=
  getD_eq_of_sweep (p := fun n => n == 9 || n == 11 || n == 12 || n == 32) (k := 256) (by decide +kernel)
    b.toNat_lt

theorem isNl_not_hws {a : UInt8} (h : isNl a = true) : isHws a = false := by
  rcases isNl_iff.1 h with h | h <;> subst h <;> decide

theorem dash_not_nl : isNl 45 = false := by decide
theorem dash_not_hws : isHws 45 = false := by decide

theorem hasNl_append (s t : Bytes) : hasNl (s ++ t) = (hasNl s || hasNl t) := by
  simp [hasNl]

theorem hasNl_cons (a : UInt8) (t : Bytes) : hasNl (a :: t) = (isNl a || hasNl t) := by
  simp [hasNl]

@[simp] theorem hasNl_nil : hasNl [] = false := rfl

theorem hasNl_eq_false_iff {l : Bytes} : hasNl l = false ↔ ∀ x ∈ l, isNl x = false := by
  simp [hasNl]

theorem hasNl_iff (d : Bytes) : hasNl d = true ↔ (10 : UInt8) ∈ d ∨ (13 : UInt8) ∈ d := by
  simp only [hasNl, List.any_eq_true, isNl_iff]
  constructor
  · rintro ⟨x, hx, rfl | rfl⟩
    · exact Or.inl hx
    · exact Or.inr hx
  · rintro (h | h)
    · exact ⟨10, h, Or.inl rfl⟩
    · exact ⟨13, h, Or.inr rfl⟩

theorem not_nl_of_mem {l : Bytes} (h : hasNl l = false) {y : UInt8} (hy : y ∈ l) : isNl y = false :=
  hasNl_eq_false_iff.1 h y hy

theorem lbLen_le_two (s : Bytes) : lbLen s ≤ 2 := by
  unfold lbLen; split
  · omega
  · split; · omega
    split
    · split
      · split <;> omega
      · omega
    · omega

theorem lbLen_le_length (s : Bytes) : lbLen s ≤ s.length := by
  unfold lbLen; split
  · simp
  · split; · simp
    split
    · split
      · split <;> simp
      · simp
    · simp

theorem lbLen_cons_not_nl {a : UInt8} {t : Bytes} (h : isNl a = false) : lbLen (a :: t) = 0 := by
  obtain ⟨h10, h13⟩ := isNl_eq_false_iff.1 h
  simp [lbLen, h10, h13]

theorem lbLen_pos_of_nl {a : UInt8} {t : Bytes} (h : isNl a = true) : 0 < lbLen (a :: t) := by
  rcases isNl_iff.1 h with h | h <;> subst h
  · simp [lbLen]
  · simp [lbLen]; cases t with
    | nil => simp
    | cons b t => simp; split <;> omega

theorem lbLen_pos_iff {s : Bytes} : 0 < lbLen s ↔ ∃ a t, s = a :: t ∧ isNl a = true := by
  constructor
  · intro h
    cases s with
    | nil => simp [lbLen] at h
    | cons a t =>
      refine ⟨a, t, rfl, ?_⟩
      cases hn : isNl a with
      | true => rfl
      | false => rw [lbLen_cons_not_nl hn] at h; omega
  · rintro ⟨a, t, rfl, h⟩; exact lbLen_pos_of_nl h

theorem lbLen_pos_of_append {b c : Bytes} (hb : b ≠ []) (h : 0 < lbLen (b ++ c)) : 0 < lbLen b := by
  cases b with
  | nil => exact absurd rfl hb
  | cons y t =>
    obtain ⟨a, t', he, ha⟩ := lbLen_pos_iff.1 h
    injection he with h1 _
    exact lbLen_pos_iff.2 ⟨y, t, rfl, h1 ▸ ha⟩

theorem lbLen_append_of_two_le {s : Bytes} (c : Bytes) (h : 2 ≤ s.length) : lbLen (s ++ c) = lbLen s := by
  match s, h with
  | a :: b :: t, _ => simp [lbLen]

theorem lbLen_append_ge (s c : Bytes) : lbLen s ≤ lbLen (s ++ c) := by
  match s with
  | [] => simp [lbLen]
  | [a] =>
    simp only [lbLen, List.singleton_append]
    split; · omega
    split
    · cases c with
      | nil => simp
      | cons b c => simp; split <;> omega
    · omega
  | a :: b :: t => rw [lbLen_append_of_two_le c (by simp)]; omega

theorem lbLen_lf (t : Bytes) : lbLen (10 :: t) = 1 := by simp [lbLen]
theorem lbLen_crlf (t : Bytes) : lbLen (13 :: 10 :: t) = 2 := by simp [lbLen]
theorem lbLen_cr_not_lf {b : UInt8} (t : Bytes) (h : b ≠ 10) : lbLen (13 :: b :: t) = 1 := by
  simp [lbLen, h]
theorem lbLen_cr_nil : lbLen [13] = 1 := by simp [lbLen]

theorem lbLen_append_cases {s : Bytes} (c : Bytes) (h : 0 < lbLen s) :
    lbLen (s ++ c) = lbLen s ∨ (s = [13] ∧ ∃ c', c = 10 :: c' ∧ lbLen (s ++ c) = 2) := by
  match s with
  | [] => simp [lbLen] at h
  | [a] =>
    rcases lbLen_pos_iff.1 h with ⟨a', t', he, hn⟩
    injection he with h1 h2; subst h1; subst h2
    rcases isNl_iff.1 hn with h | h <;> subst h
    · left; simp [lbLen]
    · cases c with
      | nil => left; simp
      | cons b c =>
        by_cases hb : b = 10
        · subst hb; right; exact ⟨rfl, c, rfl, by simp [lbLen]⟩
        · left; simp [lbLen, hb]
  | a :: b :: t => left; exact lbLen_append_of_two_le c (by simp)

theorem lbLen_eq_two {s : Bytes} (h : lbLen s = 2) : ∃ t, s = 13 :: 10 :: t := by
  match s with
  | [] => simp [lbLen] at h
  | [a] =>
    simp only [lbLen] at h
    split at h; · omega
    split at h <;> omega
  | a :: b :: t =>
    simp only [lbLen] at h
    split at h; · omega
    split at h
    · rename_i ha
      split at h
      · rename_i hb'
        simp at ha hb'; subst ha; subst hb'; exact ⟨t, rfl⟩
      · omega
    · omega

theorem lbLen_last {s : Bytes} (h : 0 < lbLen s) :
    ∃ u a v, s = u ++ a :: v ∧ lbLen s = u.length + 1 ∧ isNl a = true := by
  obtain ⟨a, t, rfl, ha⟩ := lbLen_pos_iff.1 h
  by_cases h2 : lbLen (a :: t) = 2
  · obtain ⟨t', he⟩ := lbLen_eq_two h2
    exact ⟨[13], 10, t', he, h2, by decide⟩
  · exact ⟨[], a, t, rfl, by have := lbLen_le_two (a :: t); simp; omega, ha⟩

theorem isPrefixOf_append_nl {p : Bytes} (u w : Bytes) {a : UInt8} (hp : hasNl p = false)
    (ha : isNl a = true) : p.isPrefixOf (u ++ a :: w) = p.isPrefixOf u := by
  induction p generalizing u with
  | nil => simp
  | cons x p ih =>
    rw [hasNl_cons] at hp
    simp at hp
    cases u with
    | nil =>
      have : x ≠ a := by intro h; subst h; rw [ha] at hp; exact absurd hp.1 (by simp)
      simp [List.isPrefixOf, this]
    | cons y u => simp [List.isPrefixOf, ih u hp.2]

theorem isPrefixOf_append_of_isPrefixOf {p s : Bytes} (c : Bytes) (h : p.isPrefixOf s = true) :
    p.isPrefixOf (s ++ c) = true := by
  rw [List.isPrefixOf_iff_prefix] at *
  exact List.IsPrefix.trans h (List.prefix_append s c)

theorem isPrefixOf_append_of_length_le {p s : Bytes} (c : Bytes) (h : p.length ≤ s.length) :
    p.isPrefixOf (s ++ c) = p.isPrefixOf s := by
  induction p generalizing s with
  | nil => simp
  | cons x p ih =>
    cases s with
    | nil => simp at h
    | cons y s =>
      simp at h
      simp [List.isPrefixOf, ih h]

theorem takeWhile_hws_append_nl (u w : Bytes) {a : UInt8} (ha : isHws a = false) :
    (u ++ a :: w).takeWhile isHws = u.takeWhile isHws := by
  induction u with
  | nil => simp [List.takeWhile, ha]
  | cons y u ih =>
    simp only [List.cons_append, List.takeWhile]
    cases isHws y <;> simp [ih]

theorem takeWhile_length_le (p : UInt8 → Bool) (s : Bytes) : (s.takeWhile p).length ≤ s.length := by
  induction s with
  | nil => simp
  | cons a s ih => simp only [List.takeWhile]; split <;> simp <;> omega

theorem drop_takeWhile_length {α : Type} (p : α → Bool) (s : List α) :
    s.drop (s.takeWhile p).length = s.dropWhile p := by
  induction s with
  | nil => simp
  | cons a s ih =>
    simp only [List.takeWhile, List.dropWhile]
    cases p a <;> simp [ih]

theorem matchTail_final {r : Bytes} (h : [45, 45].isPrefixOf r = true) :
    matchTail r = some (2 + ((r.drop 2).takeWhile isHws).length +
      lbLen ((r.drop 2).drop ((r.drop 2).takeWhile isHws).length), true) := by
  simp [matchTail, h]

theorem matchTail_nonfinal {r : Bytes} (h : [45, 45].isPrefixOf r = false) :
    matchTail r =
      if 0 < lbLen (r.dropWhile isHws) then
        some ((r.takeWhile isHws).length + lbLen (r.dropWhile isHws), false) else none := by
  simp [matchTail, h, drop_takeWhile_length]

theorem matchTail_false_iff {r : Bytes} {m : Nat} :
    matchTail r = some (m, false) ↔
      ∃ hh a t, r = hh ++ a :: t ∧ (∀ x ∈ hh, isHws x = true) ∧ isNl a = true ∧
        m = hh.length + lbLen (a :: t) := by
  constructor
  · intro h
    cases hp : [45, 45].isPrefixOf r with
    | true => rw [matchTail_final hp] at h; simp at h
    | false =>
      rw [matchTail_nonfinal hp] at h
      split at h
      · rename_i hl
        rcases lbLen_pos_iff.1 hl with ⟨a, t, he, hn⟩
        refine ⟨r.takeWhile isHws, a, t, ?_, ?_, hn, ?_⟩
        · rw [← he]; exact (List.takeWhile_append_dropWhile (p := isHws) (l := r)).symm
        · intro x hx; exact mem_takeWhile hx
        · simp at h; rw [← he]; omega
      · simp at h
  · rintro ⟨hh, a, t, rfl, hall, hn, rfl⟩
    have hna : isHws a = false := isNl_not_hws hn
    have hp : [45, 45].isPrefixOf (hh ++ a :: t) = false := by
      cases hh with
      | nil =>
        have : (45 == a) = false := by
          apply beq_false_of_ne; intro h; subst h; exact absurd hn (by decide)
        simp [List.isPrefixOf, this]
      | cons y hh =>
        have : (45 == y) = false := by
          apply beq_false_of_ne; intro h; subst h
          have := hall 45 (by simp)
          exact absurd this (by decide)
        simp [List.isPrefixOf, this]
    have htw : (hh ++ a :: t).takeWhile isHws = hh := by
      rw [List.takeWhile_append_of_pos hall]; simp [List.takeWhile, hna]
    have hdw : (hh ++ a :: t).dropWhile isHws = a :: t := by
      rw [List.dropWhile_append_of_pos hall]; simp [List.dropWhile, hna]
    rw [matchTail_nonfinal hp, htw, hdw]
    simp [lbLen_pos_of_nl hn]

theorem matchTail_true_iff {r : Bytes} {m : Nat} :
    matchTail r = some (m, true) ↔
      ∃ r2, r = 45 :: 45 :: r2 ∧
        m = 2 + (r2.takeWhile isHws).length + lbLen (r2.dropWhile isHws) := by
  constructor
  · intro h
    cases hp : [45, 45].isPrefixOf r with
    | true =>
      rw [matchTail_final hp] at h
      rw [List.isPrefixOf_iff_prefix] at hp
      rcases hp with ⟨r2, rfl⟩
      refine ⟨r2, rfl, ?_⟩
      simp [drop_takeWhile_length] at h
      omega
    | false =>
      rw [matchTail_nonfinal hp] at h
      split at h <;> simp at h
  · rintro ⟨r2, rfl, rfl⟩
    rw [matchTail_final (by simp [List.isPrefixOf])]
    simp [drop_takeWhile_length]

/-- appending input keeps a tail match and its kind; a non-closing match grows by at most the LF
that completes a trailing CR -/
theorem matchTail_append {r : Bytes} {m : Nat} {f : Bool} (c : Bytes) (h : matchTail r = some (m, f)) :
    ∃ m', matchTail (r ++ c) = some (m', f) ∧
      (f = false → m' = m ∨ (m' = m + 1 ∧ r.length = m ∧ ∃ c', c = 10 :: c')) := by
  cases f with
  | true =>
    rcases matchTail_true_iff.1 h with ⟨r2, rfl, _⟩
    exact ⟨_, matchTail_final (by simp [List.isPrefixOf]), by simp⟩
  | false =>
    rcases matchTail_false_iff.1 h with ⟨hh, a, t, rfl, hall, hn, rfl⟩
    refine ⟨hh.length + lbLen (a :: (t ++ c)), ?_, fun _ => ?_⟩
    · exact matchTail_false_iff.2 ⟨hh, a, t ++ c, by simp, hall, hn, rfl⟩
    · rcases lbLen_append_cases (s := a :: t) c (lbLen_pos_of_nl hn) with h1 | ⟨h1, c', h2, h3⟩
      · left; simp at h1; rw [h1]
      · right
        injection h1 with h1a h1b; subst h1a; subst h1b
        refine ⟨?_, ?_, c', h2⟩
        · simp only [List.nil_append]; simp only [List.singleton_append] at h3; rw [h3]; simp [lbLen]
        · simp [lbLen]

/-- a tail that does not match yet but does once more input has arrived is nothing but padding so
far, or the first `-` of a closing delimiter -/
theorem matchTail_undecided {r c : Bytes} {m : Nat} {f : Bool} (h0 : matchTail r = none)
    (h1 : matchTail (r ++ c) = some (m, f)) : (∀ x ∈ r, isHws x = true) ∨ r = [45] := by
  cases f with
  | true =>
    obtain ⟨r2, he, _⟩ := matchTail_true_iff.1 h1
    match r with
    | [] => left; simp
    | [x] => right; simp at he; rw [he.1]
    | x :: y :: t =>
      simp at he
      rw [he.1, he.2.1, matchTail_final (by simp [List.isPrefixOf])] at h0
      simp at h0
  | false =>
    left
    obtain ⟨hh, a, t, he, hall, hn, _⟩ := matchTail_false_iff.1 h1
    rcases List.append_eq_append_iff.1 he with ⟨a', hh', _⟩ | ⟨c', hr, hc'⟩
    · intro x hx
      exact hall x (by rw [hh']; exact List.mem_append_left _ hx)
    · cases c' with
      | nil => intro x hx; rw [hr, List.append_nil] at hx; exact hall x hx
      | cons y t' =>
        exfalso
        simp at hc'
        rw [hr, ← hc'.1, matchTail_false_iff.2 ⟨hh, a, t', rfl, hall, hn, rfl⟩] at h0
        simp at h0

/-- `--boundary` -/
def delim (bnd : Bytes) : Bytes := 45 :: 45 :: bnd

theorem delim_length (bnd : Bytes) : (delim bnd).length = bnd.length + 2 := by simp [delim]

theorem delim_no_nl {bnd : Bytes} (h : BoundaryOk bnd) : hasNl (delim bnd) = false := by
  unfold BoundaryOk at h
  simp [delim, hasNl_cons, h, dash_not_nl]

/-- both delimiter regexes (`o = true`: `preamble_re`, the leading line break is optional) anchored,
in terms of the text after the line break -/
theorem matchDelimAt_iff {bnd s : Bytes} {o : Bool} {n : Nat} {f : Bool} :
    matchDelimAt bnd o s = some (n, f) ↔
      ∃ r m, (o = false → 0 < lbLen s) ∧ s.drop (lbLen s) = delim bnd ++ r ∧ matchTail r = some (m, f) ∧
        n = lbLen s + (bnd.length + 2) + m := by
  unfold matchDelimAt
  dsimp only
  constructor
  · intro h
    split at h
    · simp at h
    · rename_i hl
      split at h
      · rename_i hp
        obtain ⟨r, hr⟩ := List.isPrefixOf_iff_prefix.1 hp
        have hd : (s.drop (lbLen s)).drop (bnd.length + 2) = r := by rw [← hr]; simp
        rw [hd] at h
        cases hm : matchTail r with
        | none => rw [hm] at h; simp at h
        | some v =>
          obtain ⟨m, f'⟩ := v
          rw [hm] at h
          simp at h
          exact ⟨r, m, fun ho => by subst ho; simp at hl; omega, by rw [← hr]; rfl, h.2 ▸ hm, by omega⟩
      · simp at h
  · rintro ⟨r, m, ho, hd, hm, rfl⟩
    have hl : (!o && lbLen s == 0) = false := by
      cases o with
      | true => rfl
      | false => have := ho rfl; simp; omega
    have hp : (45 :: 45 :: bnd).isPrefixOf (s.drop (lbLen s)) = true := by
      rw [hd, List.isPrefixOf_iff_prefix]; exact List.prefix_append _ _
    have hd2 : (s.drop (lbLen s)).drop (bnd.length + 2) = r := by rw [hd]; simp [delim]
    simp only [hl, hp, hd2, hm, if_true, Bool.false_eq_true, if_false]

theorem matchDelimAt_false_iff {bnd s : Bytes} {n : Nat} {f : Bool} :
    matchDelimAt bnd false s = some (n, f) ↔
      ∃ r m, 0 < lbLen s ∧ s.drop (lbLen s) = delim bnd ++ r ∧ matchTail r = some (m, f) ∧
        n = lbLen s + (bnd.length + 2) + m := by
  rw [matchDelimAt_iff]; simp

theorem matchDelimAt_true_of_false {bnd x : Bytes} {n : Nat} {f : Bool}
    (h : matchDelimAt bnd false x = some (n, f)) : matchDelimAt bnd true x = some (n, f) := by
  rcases matchDelimAt_false_iff.1 h with ⟨r, m, hl, hd, hm, hn⟩
  exact matchDelimAt_iff.2 ⟨r, m, by simp, hd, hm, hn⟩

theorem matchDelimAt_lb_pos {bnd s : Bytes} {n : Nat} {f : Bool} (h : matchDelimAt bnd false s = some (n, f)) :
    0 < lbLen s := by
  obtain ⟨_, _, hl, _⟩ := matchDelimAt_false_iff.1 h
  exact hl

theorem matchDelimAt_not_nl {bnd : Bytes} {a : UInt8} {t : Bytes} (h : isNl a = false) :
    matchDelimAt bnd false (a :: t) = none := by
  simp [matchDelimAt, lbLen_cons_not_nl h]

theorem matchDelimAt_nil {bnd : Bytes} : matchDelimAt bnd false [] = none := by
  simp [matchDelimAt, lbLen]

theorem matchDelimAt_append {bnd s : Bytes} {o : Bool} {n : Nat} {f : Bool} (c : Bytes)
    (h : matchDelimAt bnd o s = some (n, f)) :
    ∃ n', matchDelimAt bnd o (s ++ c) = some (n', f) ∧
      (f = false → n' = n ∨ (n' = n + 1 ∧ s.length = n ∧ ∃ c', c = 10 :: c')) := by
  rcases matchDelimAt_iff.1 h with ⟨r, m, hl, hd, hm, rfl⟩
  rcases matchTail_append c hm with ⟨m', hm', hrel⟩
  have hlen : s.length = lbLen s + (bnd.length + 2) + r.length := by
    have := congrArg List.length hd
    simp [delim] at this
    have := lbLen_le_length s
    omega
  have h2 : 2 ≤ s.length := by omega
  have hlb : lbLen (s ++ c) = lbLen s := lbLen_append_of_two_le c h2
  refine ⟨lbLen s + (bnd.length + 2) + m', ?_, ?_⟩
  · apply matchDelimAt_iff.2
    refine ⟨r ++ c, m', by rw [hlb]; exact hl, ?_, hm', by rw [hlb]⟩
    rw [hlb, List.drop_append_of_le_length (lbLen_le_length s), hd]; simp
  · intro hf
    rcases hrel hf with h1 | ⟨h1, h2, h3⟩
    · left; omega
    · right; exact ⟨by omega, by omega, h3⟩

/-- an anchored match of an extension whose `--boundary` lies inside the buffer `x`, in terms of `x`:
only the rest of the delimiter line reaches into the extension -/
theorem matchDelimAt_append_inside {bnd x c : Bytes} {o : Bool} {n : Nat} {f : Bool}
    (h : matchDelimAt bnd o (x ++ c) = some (n, f)) (hin : lbLen (x ++ c) + (bnd.length + 2) ≤ x.length) :
    ∃ r m, (o = false → 0 < lbLen x) ∧ x.drop (lbLen x) = delim bnd ++ r ∧
      matchTail (r ++ c) = some (m, f) ∧ lbLen (x ++ c) = lbLen x ∧ n = lbLen x + (bnd.length + 2) + m := by
  obtain ⟨r', m, ho, hd, hm, hn⟩ := matchDelimAt_iff.1 h
  have hlb : lbLen (x ++ c) = lbLen x := lbLen_append_of_two_le c (by omega)
  rw [hlb] at ho hd hn hin
  rw [List.drop_append_of_le_length (lbLen_le_length x)] at hd
  have hp : (delim bnd).isPrefixOf (x.drop (lbLen x) ++ c) = true := by
    rw [hd, List.isPrefixOf_iff_prefix]; exact List.prefix_append _ _
  rw [isPrefixOf_append_of_length_le c (by rw [delim_length, List.length_drop]; omega),
    List.isPrefixOf_iff_prefix] at hp
  obtain ⟨r, hr⟩ := hp
  rw [← hr, List.append_assoc] at hd
  exact ⟨r, m, ho, hr.symm, List.append_cancel_left hd ▸ hm, hlb, hn⟩

/-- if `X` occurs again at an offset `k ≥ 1` inside `X ++ H` with `H` horizontal white space, then
`X` is horizontal white space (induction on the length of `X`: the overlap repeats in `X.drop k`) -/
theorem self_overlap_hws {H : Bytes} (hH : ∀ x ∈ H, isHws x = true) {X : Bytes} {k : Nat} (hk : 1 ≤ k)
    (hZ : ∃ Z, (X ++ H).drop k = X ++ Z) : ∀ x ∈ X, isHws x = true := by
  induction hn : X.length using Nat.strongRecOn generalizing X with
  | _ n ih =>
    rcases hZ with ⟨Z, hZ⟩
    by_cases hkX : X.length ≤ k
    · -- the second occurrence lies inside `H`
      rw [List.drop_append, List.drop_of_length_le hkX, List.nil_append] at hZ
      intro x hx
      have hmem : x ∈ H.drop (k - X.length) := by rw [hZ]; exact List.mem_append_left _ hx
      exact hH x (List.mem_of_mem_drop hmem)
    · have hklt : k < X.length := by omega
      have hsplit : X = X.take k ++ X.drop k := (List.take_append_drop k X).symm
      have h1 : (X ++ H).drop k = X.drop k ++ H := List.drop_append_of_le_length (by omega)
      rw [h1] at hZ
      -- `X.drop k` occurs at offset `k` in `X.drop k ++ H`
      have h2 : ((X.drop k) ++ H).drop k = X.drop k ++ Z := by
        rw [hZ]
        conv => lhs; rw [hsplit]
        rw [List.append_assoc]
        exact List.drop_left' (by simp; omega)
      have hx2 := ih (X.drop k).length (by simp; omega) ⟨Z, h2⟩ rfl
      -- and `X.take k` is a prefix of `X.drop k ++ H`
      have hpre : X.take k <+: (X.drop k ++ H) := by
        rw [hZ]
        conv => rhs; rw [hsplit]
        rw [List.append_assoc]
        exact List.prefix_append _ _
      intro x hx
      rw [hsplit] at hx
      rcases List.mem_append.1 hx with hm | hm
      · rcases List.mem_append.1 (hpre.subset hm) with hm | hm
        · exact hx2 x hm
        · exact hH x hm
      · exact hx2 x hm
/-- **A pending delimiter line**: `X` begins (after its line break) with `--boundary` + `r`, and `r` does not
decide the line yet -/
structure Pending (bnd X r : Bytes) : Prop where
  tail : X.drop (lbLen X) = delim bnd ++ r
  undecided : matchTail r = none
  /-- what has arrived of the line is transport padding, or the first `-` of a closing `--` -/
  padding : (∀ x ∈ r, isHws x = true) ∨ r = [45]
  /-- `--boundary` does not occur again further on in `X`: an occurrence overlapping the first one would make
  `--boundary` itself padding (`self_overlap_hws`), unless it only overlaps the `-`, at the very end of `X` -/
  last : ∀ {k : Nat} {Z : Bytes}, 1 ≤ k → (delim bnd ++ r).drop k = delim bnd ++ Z → r = [45] ∧ Z = []

/-- an anchored match of an extension of `X` that is no match of `X` and has its `--boundary` inside `X` is a
pending delimiter line of `X` -/
theorem pending_delim {bnd : Bytes} {o : Bool} {X c : Bytes} {n : Nat} {f : Bool}
    (h0 : matchDelimAt bnd o X = none) (hx : matchDelimAt bnd o (X ++ c) = some (n, f))
    (hin : lbLen (X ++ c) + (bnd.length + 2) ≤ X.length) : ∃ r, Pending bnd X r := by
  obtain ⟨r, m', ho, hr, hm', _, _⟩ := matchDelimAt_append_inside hx hin
  have hnone : matchTail r = none := by
    cases hq' : matchTail r with
    | none => rfl
    | some w =>
      obtain ⟨m, g⟩ := w
      rw [matchDelimAt_iff.2 ⟨r, m, ho, hr, hq', rfl⟩] at h0
      cases h0
  have hpad := matchTail_undecided hnone hm'
  refine ⟨r, hr, hnone, hpad, fun {k Z} hk hZ => ?_⟩
  rcases hpad with hall | h45
  · have h45 := self_overlap_hws hall hk ⟨Z, hZ⟩ 45 (by simp [delim])
    rw [dash_not_hws] at h45; cases h45
  · have hl := congrArg List.length hZ
    rw [h45] at hl
    simp only [List.length_drop, List.length_append, delim_length, List.length_singleton] at hl
    exact ⟨h45, List.eq_nil_of_length_eq_zero (by omega)⟩

/-- if the text after the leading line break already contains a line break, an anchored match of
the extended input is an anchored match of the input: the line break lies beyond `--boundary` and
beyond any padding, so the line is not pending -/
theorem matchDelimAt_cut_nl {bnd s c : Bytes} {n : Nat} {f : Bool} (hb : BoundaryOk bnd)
    (hnl : hasNl (s.drop (lbLen s)) = true)
    (h : matchDelimAt bnd false (s ++ c) = some (n, f)) :
    ∃ n', matchDelimAt bnd false s = some (n', f) := by
  cases h0 : matchDelimAt bnd false s with
  | some v =>
    obtain ⟨n', f'⟩ := v
    obtain ⟨n2, hn2, _⟩ := matchDelimAt_append c h0
    rw [h] at hn2
    cases hn2
    exact ⟨n', rfl⟩
  | none =>
    exfalso
    have hlt : lbLen s < s.length := by
      apply Nat.lt_of_not_le; intro hh
      rw [List.drop_eq_nil_of_le hh] at hnl; simp at hnl
    have hlb : lbLen (s ++ c) = lbLen s := by
      apply lbLen_append_of_two_le
      have := lbLen_pos_of_append (fun h0 => by rw [h0] at hlt; simp at hlt) (matchDelimAt_lb_pos h)
      omega
    obtain ⟨r', _, _, hd, _, _⟩ := matchDelimAt_false_iff.1 h
    rw [hlb, List.drop_append_of_le_length (lbLen_le_length s)] at hd
    -- `--boundary` lies inside `s`: a shorter `s` would end inside it, without a line break
    have hin : lbLen (s ++ c) + (bnd.length + 2) ≤ s.length := by
      rcases List.append_eq_append_iff.1 hd with ⟨a', ha', _⟩ | ⟨r, hr, _⟩
      · have : hasNl (s.drop (lbLen s)) = false := hasNl_eq_false_iff.2 fun x hx =>
          not_nl_of_mem (delim_no_nl hb) (by rw [ha']; exact List.mem_append_left _ hx)
        rw [this] at hnl; cases hnl
      · have := congrArg List.length hr
        simp only [List.length_drop, List.length_append, delim_length] at this
        omega
    obtain ⟨r, hp⟩ := pending_delim h0 h hin
    have hrn : hasNl r = false := by
      rcases hp.padding with hall | h45
      · exact hasNl_eq_false_iff.2 fun x hx => by
          cases hn : isNl x with
          | false => rfl
          | true => have := hall x hx; rw [isNl_not_hws hn] at this; cases this
      · rw [h45]; decide
    rw [hp.tail, hasNl_append, delim_no_nl hb, hrn] at hnl
    cases hnl

theorem containsSub_cons {p : Bytes} {a : UInt8} {t : Bytes} (h : containsSub p t = true) :
    containsSub p (a :: t) = true := by
  simp [containsSub, h]

theorem containsSub_append_left {p : Bytes} (x : Bytes) {t : Bytes} (h : containsSub p t = true) :
    containsSub p (x ++ t) = true := by
  induction x with
  | nil => simpa using h
  | cons a x ih => exact containsSub_cons ih

theorem containsSub_of_prefix {p t : Bytes} (h : p.isPrefixOf t = true) : containsSub p t = true := by
  cases t with
  | nil =>
    cases p with
    | nil => rfl
    | cons a p => simp [List.isPrefixOf] at h
  | cons a t => simp [containsSub, h]

theorem containsSub_infix (x p y : Bytes) : containsSub p (x ++ (p ++ y)) = true :=
  containsSub_append_left x (containsSub_of_prefix (by
    rw [List.isPrefixOf_iff_prefix]; exact List.prefix_append _ _))

theorem containsSub_length {p b : Bytes} (h : containsSub p b = true) : p.length ≤ b.length := by
  induction b with
  | nil => cases p with
    | nil => simp
    | cons a p => simp [containsSub] at h
  | cons a t ih =>
    simp only [containsSub, Bool.or_eq_true] at h
    rcases h with h | h
    · rw [List.isPrefixOf_iff_prefix] at h; exact h.length_le
    · have := ih h; simp; omega

theorem containsSub_of_matchDelimAt {bnd s : Bytes} {n : Nat} {f : Bool}
    (h : matchDelimAt bnd false s = some (n, f)) : containsSub (delim bnd) s = true := by
  rcases matchDelimAt_false_iff.1 h with ⟨r, m, _, hd, _, _⟩
  have : s = s.take (lbLen s) ++ (delim bnd ++ r) := by rw [← hd]; simp
  rw [this]; exact containsSub_infix _ _ _

def shift (k : Nat) : Option (Nat × Nat × Bool) → Option (Nat × Nat × Bool)
  | some (s, e, f) => some (s + k, e + k, f)
  | none => none

@[simp] theorem shift_none (k : Nat) : shift k none = none := rfl
@[simp] theorem shift_some (k s e : Nat) (f : Bool) : shift k (some (s, e, f)) = some (s + k, e + k, f) := rfl
@[simp] theorem shift_zero (r : Option (Nat × Nat × Bool)) : shift 0 r = r := by
  cases r with
  | none => rfl
  | some v => rcases v with ⟨s, e, f⟩; rfl

theorem shift_shift (j k : Nat) (r : Option (Nat × Nat × Bool)) : shift j (shift k r) = shift (k + j) r := by
  cases r with
  | none => rfl
  | some v => rcases v with ⟨s, e, f⟩; simp [shift, Nat.add_assoc]

theorem shift_eq_none {k : Nat} {r : Option (Nat × Nat × Bool)} : shift k r = none ↔ r = none := by
  cases r with
  | none => simp
  | some v => rcases v with ⟨s, e, f⟩; simp [shift]

theorem shift_eq_some {k : Nat} {r : Option (Nat × Nat × Bool)} {s e : Nat} {f : Bool}
    (h : shift k r = some (s, e, f)) : ∃ s2 e2, r = some (s2, e2, f) ∧ s = s2 + k ∧ e = e2 + k := by
  cases r with
  | none => simp at h
  | some v =>
    rcases v with ⟨s2, e2, f2⟩
    simp [shift] at h
    exact ⟨s2, e2, by rw [h.2.2], h.1.symm, h.2.1.symm⟩

theorem searchDelimFrom_eq_shift (bnd : Bytes) (o : Bool) (pos : Nat) (buf : Bytes) :
    searchDelimFrom bnd o pos buf = shift pos (searchDelim bnd o (buf.drop pos)) := by
  unfold searchDelimFrom
  cases searchDelim bnd o (buf.drop pos) with
  | none => rfl
  | some v => rcases v with ⟨s, e, f⟩; rfl

theorem searchDelim_cons_none {bnd : Bytes} {o : Bool} {a : UInt8} {t : Bytes}
    (h : matchDelimAt bnd o (a :: t) = none) :
    searchDelim bnd o (a :: t) = shift 1 (searchDelim bnd o t) := by
  simp only [searchDelim, h]
  cases searchDelim bnd o t with
  | none => rfl
  | some v => rcases v with ⟨s, e, f⟩; rfl

theorem searchDelim_cons_some {bnd : Bytes} {o : Bool} {a : UInt8} {t : Bytes} {n : Nat} {f : Bool}
    (h : matchDelimAt bnd o (a :: t) = some (n, f)) :
    searchDelim bnd o (a :: t) = some (0, n, f) := by
  simp only [searchDelim, h]

theorem searchDelim_cons_eq_none {bnd : Bytes} {o : Bool} {a : UInt8} {t : Bytes} :
    searchDelim bnd o (a :: t) = none ↔
      matchDelimAt bnd o (a :: t) = none ∧ searchDelim bnd o t = none := by
  cases hm : matchDelimAt bnd o (a :: t) with
  | none => rw [searchDelim_cons_none hm, shift_eq_none]; simp
  | some v => rcases v with ⟨n, f⟩; rw [searchDelim_cons_some hm]; simp

theorem searchDelim_some_contains {bnd s : Bytes} {r : Nat × Nat × Bool}
    (h : searchDelim bnd false s = some r) : containsSub (delim bnd) s = true := by
  induction s generalizing r with
  | nil => simp [searchDelim] at h
  | cons a t ih =>
    cases hm : matchDelimAt bnd false (a :: t) with
    | some v => rcases v with ⟨n, f⟩; exact containsSub_of_matchDelimAt hm
    | none =>
      rw [searchDelim_cons_none hm] at h
      cases ht : searchDelim bnd false t with
      | none => rw [ht] at h; simp at h
      | some v => exact containsSub_cons (ih ht)

theorem searchDelim_some_spec {bnd : Bytes} {o : Bool} {S : Bytes} {s e : Nat} {f : Bool}
    (h : searchDelim bnd o S = some (s, e, f)) :
    s ≤ S.length ∧ s ≤ e ∧ matchDelimAt bnd o (S.drop s) = some (e - s, f) ∧
      ∀ j, j < s → matchDelimAt bnd o (S.drop j) = none := by
  induction S generalizing s e with
  | nil => simp [searchDelim] at h
  | cons a t ih =>
    cases hm : matchDelimAt bnd o (a :: t) with
    | some v =>
      rcases v with ⟨n, f'⟩
      rw [searchDelim_cons_some hm] at h
      simp at h
      rcases h with ⟨rfl, rfl, rfl⟩
      exact ⟨by simp, by omega, by simpa using hm, by intro j hj; omega⟩
    | none =>
      rw [searchDelim_cons_none hm] at h
      rcases shift_eq_some h with ⟨s2, e2, ht, rfl, rfl⟩
      rcases ih ht with ⟨h1, h2, h3, h4⟩
      refine ⟨by simp; omega, by omega, ?_, ?_⟩
      · have : e2 + 1 - (s2 + 1) = e2 - s2 := by omega
        rw [this]; simpa using h3
      · intro j hj
        cases j with
        | zero => simpa using hm
        | succ j => simpa using h4 j (by omega)

theorem searchDelim_none_drop {bnd : Bytes} {o : Bool} {S : Bytes} (h : searchDelim bnd o S = none)
    (j : Nat) : matchDelimAt bnd o (S.drop j) = none := by
  induction S generalizing j with
  | nil => cases o <;> simp [matchDelimAt, lbLen]
  | cons a t ih =>
    rcases searchDelim_cons_eq_none.1 h with ⟨hm, ht⟩
    cases j with
    | zero => simpa using hm
    | succ j => simpa using ih ht j

theorem searchDelim_skip {bnd : Bytes} {o : Bool} (S : Bytes) (k : Nat)
    (h : ∀ j, j < k → matchDelimAt bnd o (S.drop j) = none) :
    searchDelim bnd o S = shift k (searchDelim bnd o (S.drop k)) := by
  induction k generalizing S with
  | zero => simp
  | succ k ih =>
    cases S with
    | nil => simp [searchDelim]
    | cons a t =>
      have h0 := h 0 (by omega)
      simp only [List.drop_zero] at h0
      rw [searchDelim_cons_none h0, List.drop_succ_cons, ih t (fun j hj => by simpa using h (j + 1) (by omega)),
        shift_shift]

theorem searchDelim_eq_none {bnd : Bytes} {o : Bool} {x : Bytes}
    (h : ∀ j, matchDelimAt bnd o (x.drop j) = none) : searchDelim bnd o x = none := by
  rw [searchDelim_skip x x.length (fun j _ => h j)]; simp [searchDelim]

theorem matchDelimAt_drop_append {bnd : Bytes} {o : Bool} {x : Bytes} (c : Bytes) {j n : Nat} {f : Bool}
    (h : matchDelimAt bnd o (x.drop j) = some (n, f)) :
    ∃ n', matchDelimAt bnd o ((x ++ c).drop j) = some (n', f) := by
  have hj : j ≤ x.length := by
    apply Nat.le_of_not_lt; intro hlt
    rw [List.drop_eq_nil_of_le (Nat.le_of_lt hlt)] at h
    cases o <;> simp [matchDelimAt, lbLen] at h
  rw [List.drop_append_of_le_length hj]
  obtain ⟨n', hn', _⟩ := matchDelimAt_append c h
  exact ⟨n', hn'⟩

theorem searchDelim_none_prefix {bnd : Bytes} {o : Bool} {x c : Bytes} (h : searchDelim bnd o (x ++ c) = none) :
    searchDelim bnd o x = none := by
  apply searchDelim_eq_none
  intro j
  cases hx : matchDelimAt bnd o (x.drop j) with
  | none => rfl
  | some v =>
    obtain ⟨n', hn'⟩ := matchDelimAt_drop_append c hx
    rw [searchDelim_none_drop h j] at hn'; cases hn'

theorem lastNewline_cons_crlf {a : UInt8} {t : Bytes} (h1 : hasNl t = true) (h2 : isLastCrlf a t = true) :
    lastNewline (a :: t) = 0 := by simp [lastNewline, h1, h2]

theorem lastNewline_cons_more {a : UInt8} {t : Bytes} (h1 : hasNl t = true) (h2 : isLastCrlf a t = false) :
    lastNewline (a :: t) = 1 + lastNewline t := by simp [lastNewline, h1, h2]

theorem lastNewline_cons_nl {a : UInt8} {t : Bytes} (h1 : hasNl t = false) (h2 : isNl a = true) :
    lastNewline (a :: t) = 0 := by simp [lastNewline, h1, h2]

theorem lastNewline_cons_none {a : UInt8} {t : Bytes} (h1 : hasNl t = false) (h2 : isNl a = false) :
    lastNewline (a :: t) = 1 + t.length := by simp [lastNewline, h1, h2]

theorem isLastCrlf_iff {a : UInt8} {t : Bytes} :
    isLastCrlf a t = true ↔ a = 13 ∧ ∃ t2, t = 10 :: t2 ∧ hasNl t2 = false := by
  cases t with
  | nil => simp [isLastCrlf]
  | cons b t2 => simp [isLastCrlf, and_assoc]

/-- induction along the four branches of `lastNewline (a :: t)`: further line breaks in `t` (the first byte
then is the CR of the last CRLF, or irrelevant), or none (the first byte then is the last line break, or
there is none at all) -/
theorem lastNewline_induction {P : Bytes → Nat → Prop} (nil : P [] 0)
    (crlf : ∀ {a t}, hasNl t = true → isLastCrlf a t = true → P (a :: t) 0)
    (more : ∀ {a t}, hasNl t = true → isLastCrlf a t = false → P t (lastNewline t) →
      P (a :: t) (1 + lastNewline t))
    (nl : ∀ {a t}, hasNl t = false → isNl a = true → P (a :: t) 0)
    (none : ∀ {a t}, hasNl t = false → isNl a = false → P (a :: t) (1 + t.length))
    (b : Bytes) : P b (lastNewline b) := by
  induction b with
  | nil => exact nil
  | cons a t ih =>
    cases h1 : hasNl t with
    | true =>
      cases h2 : isLastCrlf a t with
      | true => rw [lastNewline_cons_crlf h1 h2]; exact crlf h1 h2
      | false => rw [lastNewline_cons_more h1 h2]; exact more h1 h2 ih
    | false =>
      cases h2 : isNl a with
      | true => rw [lastNewline_cons_nl h1 h2]; exact nl h1 h2
      | false => rw [lastNewline_cons_none h1 h2]; exact none h1 h2

theorem lastNewline_le (b : Bytes) : lastNewline b ≤ b.length := by
  refine lastNewline_induction (P := fun b k => k ≤ b.length) ?_ ?_ ?_ ?_ ?_ b
  · simp
  · intros; omega
  · intro a t _ _ ih; simp; omega
  · intros; omega
  · intros; simp; omega

/-- what is held back starts with a line break and has no other line break -/
theorem lastNewline_tail (b : Bytes) :
    (hasNl b = false ∧ b.drop (lastNewline b) = []) ∨
      ∃ a r, b.drop (lastNewline b) = a :: r ∧ isNl a = true ∧
        hasNl ((a :: r).drop (lbLen (a :: r))) = false := by
  refine lastNewline_induction (P := fun b k => (hasNl b = false ∧ b.drop k = []) ∨
    ∃ a r, b.drop k = a :: r ∧ isNl a = true ∧ hasNl ((a :: r).drop (lbLen (a :: r))) = false)
    (Or.inl ⟨rfl, rfl⟩) ?_ ?_ ?_ ?_ b
  · intro a t _ h2
    rcases isLastCrlf_iff.1 h2 with ⟨rfl, t2, rfl, ht2⟩
    exact Or.inr ⟨13, 10 :: t2, rfl, by decide, by simp [lbLen_crlf, ht2]⟩
  · intro a t h1 _ ih
    have : (a :: t).drop (1 + lastNewline t) = t.drop (lastNewline t) := by
      rw [Nat.add_comm]; rfl
    rw [this]
    rcases ih with ⟨hn, _⟩ | hr
    · rw [hn] at h1; cases h1
    · exact Or.inr hr
  · intro a t h1 h2
    refine Or.inr ⟨a, t, rfl, h2, ?_⟩
    rcases isNl_iff.1 h2 with h | h <;> subst h
    · simp [lbLen_lf, h1]
    · cases t with
      | nil => simp [lbLen_cr_nil]
      | cons b t2 =>
        have hb' : b ≠ 10 := by
          intro h; subst h; rw [hasNl_cons] at h1; simp [isNl] at h1
        rw [lbLen_cr_not_lf t2 hb']; simpa using h1
  · intro a t h1 h2
    left
    have : 1 + t.length = (a :: t).length := by simp; omega
    rw [this]; simp [hasNl_cons, h1, h2]

/-- no extension of the buffer has an anchored match that starts before position `k`. What `_parse_data`
releases (`k` = the hold-back point) and what a retained `_search_position` skips (`NoEarly` is the case of
`preamble_re`) are both this. -/
def NoMatchBefore (bnd : Bytes) (o : Bool) (k : Nat) (buf : Bytes) : Prop :=
  ∀ c j, j < k → matchDelimAt bnd o ((buf ++ c).drop j) = none

theorem NoMatchBefore.zero (bnd : Bytes) (o : Bool) (buf : Bytes) : NoMatchBefore bnd o 0 buf :=
  fun _ _ h => absurd h (Nat.not_lt_zero _)

theorem NoMatchBefore.append {bnd : Bytes} {o : Bool} {k : Nat} {buf : Bytes} (h : NoMatchBefore bnd o k buf)
    (c : Bytes) : NoMatchBefore bnd o k (buf ++ c) := by
  intro c' j hj
  rw [List.append_assoc]
  exact h (c ++ c') j hj

theorem NoMatchBefore.shift {bnd : Bytes} {o : Bool} {k : Nat} {b : Bytes} (h : NoMatchBefore bnd o k b)
    (hk : k ≤ b.length) (c : Bytes) :
    searchDelim bnd o (b ++ c) = shift k (searchDelim bnd o (b.drop k ++ c)) := by
  rw [searchDelim_skip (b ++ c) k (h c), List.drop_append_of_le_length hk]

theorem NoMatchBefore.search {bnd : Bytes} {o : Bool} {k : Nat} {buf : Bytes} (h : NoMatchBefore bnd o k buf) :
    searchDelimFrom bnd o k buf = searchDelim bnd o buf := by
  rw [searchDelimFrom_eq_shift, searchDelim_skip buf k fun j hj => by simpa using h [] j hj]

/-- a line break that starts before the hold-back point ends at or before it: `last_newline` never
points between the CR and the LF of a CRLF -/
theorem lb_le_lastNewline (b : Bytes) {j : Nat} (hj : j < lastNewline b) (hn : 0 < lbLen (b.drop j)) :
    j + lbLen (b.drop j) ≤ lastNewline b := by
  revert j
  refine lastNewline_induction (P := fun b k => ∀ {j : Nat}, j < k → 0 < lbLen (b.drop j) →
    j + lbLen (b.drop j) ≤ k) ?_ ?_ ?_ ?_ ?_ b
  · intro j hj; omega
  · intro a t _ _ j hj; omega
  · intro a t h1 h2 ih j hj hn
    cases j with
    | succ j => have := ih (j := j) (by omega) (by simpa using hn); simp only [List.drop_succ_cons]; omega
    | zero =>
      have h2' := lbLen_le_two (a :: t)
      rcases Nat.lt_or_ge (lbLen (a :: t)) 2 with hlt | hge
      · simp only [List.drop_zero]; omega
      · obtain ⟨t2, he⟩ := lbLen_eq_two (show lbLen (a :: t) = 2 by omega)
        injection he with ha ht
        subst ha; subst ht
        have ht2 : hasNl t2 = true := by
          cases hx : hasNl t2 with
          | true => rfl
          | false => rw [isLastCrlf_iff.2 ⟨rfl, t2, rfl, hx⟩] at h2; cases h2
        have : isLastCrlf 10 t2 = false := by
          cases hx : isLastCrlf 10 t2 with
          | false => rfl
          | true => exact absurd (isLastCrlf_iff.1 hx).1 (by decide)
        rw [lastNewline_cons_more ht2 this]
        simp only [List.drop_zero]; omega
  · intro a t _ _ j hj; omega
  · intro a t h1 h2 j _ hn
    exfalso
    obtain ⟨y, r, hy, hyn⟩ := lbLen_pos_iff.1 hn
    have hmem : y ∈ a :: t := List.mem_of_mem_drop (by rw [hy]; simp)
    rcases List.mem_cons.1 hmem with rfl | hm
    · rw [h2] at hyn; cases hyn
    · rw [not_nl_of_mem h1 hm] at hyn; cases hyn

/-- **Hold-back safety.** When the buffer `b` contains no delimiter match, releasing everything
before `last_newline(b)` cannot lose a delimiter: no extension has a match that starts there. -/
theorem hold_safe {bnd : Bytes} (hb : BoundaryOk bnd) (b : Bytes) (h : searchDelim bnd false b = none) :
    NoMatchBefore bnd false (lastNewline b) b := by
  intro c j hj
  have hk := lastNewline_le b
  rw [List.drop_append_of_le_length (by omega)]
  cases hx : matchDelimAt bnd false (b.drop j ++ c) with
  | none => rfl
  | some v =>
    exfalso
    obtain ⟨n, f⟩ := v
    have hl : 0 < lbLen (b.drop j) :=
      lbLen_pos_of_append (List.ne_nil_of_length_pos (by simp; omega)) (matchDelimAt_lb_pos hx)
    have hle := lb_le_lastNewline b hj hl
    -- the line break at the hold-back point lies after the one at `j`: the line at `j` is complete
    have hnl : hasNl ((b.drop j).drop (lbLen (b.drop j))) = true := by
      rcases lastNewline_tail b with h0 | ⟨a, r, htail, ha, _⟩
      · obtain ⟨y, _, hy, hyn⟩ := lbLen_pos_iff.1 hl
        rw [not_nl_of_mem h0.1 (List.mem_of_mem_drop (by rw [hy]; simp))] at hyn; cases hyn
      · rw [List.drop_drop, ← List.take_append_drop (lastNewline b - (j + lbLen (b.drop j))) (b.drop _),
          hasNl_append, List.drop_drop, show j + lbLen (b.drop j) + (lastNewline b - (j + lbLen (b.drop j))) =
            lastNewline b by omega, htail, hasNl_cons, ha]
        simp
    obtain ⟨n', hn'⟩ := matchDelimAt_cut_nl hb hnl hx
    rw [searchDelim_none_drop h j] at hn'; cases hn'

theorem lb_before_hold (b c : Bytes) {j : Nat} (hj : j < b.length) (h : 0 < lbLen (b.drop j ++ c)) :
    j + lbLen (b.drop j ++ c) ≤ lastNewline b + 2 := by
  have h2 := lbLen_le_two (b.drop j ++ c)
  rcases Nat.lt_or_ge j (lastNewline b) with hjk | hjk
  · omega
  rcases lastNewline_tail b with h0 | ⟨a, r, htail, ha, hrest⟩
  · have := congrArg List.length h0.2
    simp at this; omega
  · -- `j` lies in the held-back tail `a :: r`, whose only line break is at its start
    obtain ⟨i, rfl⟩ : ∃ i, j = lastNewline b + i := ⟨j - lastNewline b, by omega⟩
    rw [← List.drop_drop, htail] at h ⊢
    obtain ⟨y, t, hy, hyn⟩ := lbLen_pos_iff.1 h
    have hi : i < (a :: r).length := by
      have := congrArg List.length htail; simp at this hj ⊢; omega
    have hmem : y ∈ (a :: r).drop i := by
      rw [List.drop_eq_getElem_cons hi] at hy
      simp at hy; rw [← hy.1, List.drop_eq_getElem_cons hi]; simp
    have hlt : i < lbLen (a :: r) := by
      apply Nat.lt_of_not_le; intro hle
      have : y ∈ (a :: r).drop (lbLen (a :: r)) := by
        have e : i = lbLen (a :: r) + (i - lbLen (a :: r)) := by omega
        rw [e, ← List.drop_drop] at hmem
        exact List.mem_of_mem_drop hmem
      have := not_nl_of_mem hrest this
      rw [hyn] at this; simp at this
    have h2' := lbLen_le_two ((a :: r).drop i ++ c)
    match i, hlt with
    | 0, _ => omega
    | 1, hlt =>
      have := lbLen_le_two (a :: r)
      obtain ⟨t', he⟩ := lbLen_eq_two (show lbLen (a :: r) = 2 by omega)
      rw [he]; simp [lbLen_lf]
    | i + 2, hlt => have := lbLen_le_two (a :: r); omega

/-- **Far case.** When `--boundary` does not occur in the buffer at all and more than
`len("\n--boundary")` bytes follow the last line break, everything may be released. -/
theorem hold_safe_far {bnd : Bytes} (b : Bytes) (hc : containsSub (delim bnd) b = false)
    (hfar : b.length - lastNewline b > (delim bnd).length + 1) : NoMatchBefore bnd false b.length b := by
  intro c j hj
  cases hx : matchDelimAt bnd false ((b ++ c).drop j) with
  | none => rfl
  | some v =>
    -- the line break of such a match ends near the hold-back point, so its `--boundary` lies in `b`
    exfalso
    rw [List.drop_append_of_le_length (Nat.le_of_lt hj)] at hx
    obtain ⟨r, m, hl, hd, _, _⟩ := matchDelimAt_false_iff.1 hx
    have hpos := lb_before_hold b c hj hl
    have hle : lbLen (b.drop j ++ c) ≤ (b.drop j).length := by simp; omega
    rw [List.drop_append_of_le_length hle] at hd
    have hp : (delim bnd).isPrefixOf ((b.drop j).drop (lbLen (b.drop j ++ c)) ++ c) = true := by
      rw [hd, List.isPrefixOf_iff_prefix]; exact List.prefix_append _ _
    rw [isPrefixOf_append_of_length_le c (by simp; omega), List.drop_drop] at hp
    have : containsSub (delim bnd) b = true := by
      rw [← List.take_append_drop (j + lbLen (b.drop j ++ c)) b]
      exact containsSub_append_left _ (containsSub_of_prefix hp)
    rw [hc] at this; simp at this

/-- once the buffer holds a match further on, no extension produces a match at a position where
there is none: the delimiter line at that position is complete as far as it matters -/
theorem no_new_match {bnd : Bytes} {o : Bool} {X : Bytes} (c : Bytes) {i n : Nat} {f : Bool} (hi : 1 ≤ i)
    (h0 : matchDelimAt bnd o X = none) (hs : matchDelimAt bnd o (X.drop i) = some (n, f)) :
    matchDelimAt bnd o (X ++ c) = none := by
  cases hx : matchDelimAt bnd o (X ++ c) with
  | none => rfl
  | some v =>
    exfalso
    obtain ⟨n', f'⟩ := v
    obtain ⟨rs, ms, _, hds, hms, _⟩ := matchDelimAt_iff.1 hs
    have hlen := congrArg List.length hds
    simp only [List.length_drop, List.length_append, delim_length] at hlen
    have hl2 := lbLen_le_two X
    -- the later match has its `--boundary` at `q ≥ lbLen X`, so the earlier one has it inside `X`
    have hq : lbLen X ≤ i + lbLen (X.drop i) := by
      rcases Nat.lt_or_ge i (lbLen X) with hlt | hge
      · obtain ⟨t, ht⟩ := lbLen_eq_two (show lbLen X = 2 by omega)
        have : i = 1 := by omega
        subst this
        rw [ht]; simp [lbLen_lf, lbLen_crlf]
      · omega
    obtain ⟨r, hp⟩ := pending_delim h0 hx (by rw [lbLen_append_of_two_le c (by omega)]; omega)
    -- the later `--boundary` inside `--boundary` + `r`
    have hk : (delim bnd ++ r).drop (i + lbLen (X.drop i) - lbLen X) = delim bnd ++ rs := by
      rw [← hp.tail, List.drop_drop, ← hds, List.drop_drop]
      congr 1; omega
    rcases Nat.eq_zero_or_pos (i + lbLen (X.drop i) - lbLen X) with hk0 | hkpos
    · rw [hk0, List.drop_zero] at hk
      have hnone := hp.undecided
      rw [List.append_cancel_left hk, hms] at hnone
      cases hnone
    · obtain ⟨_, rfl⟩ := hp.last hkpos hk
      simp [matchTail, lbLen] at hms

theorem searchDelim_eq_some {bnd : Bytes} {o : Bool} {S : Bytes} {s n : Nat} {f : Bool}
    (hm : matchDelimAt bnd o (S.drop s) = some (n, f))
    (hnone : ∀ j, j < s → matchDelimAt bnd o (S.drop j) = none) :
    searchDelim bnd o S = some (s, s + n, f) := by
  rw [searchDelim_skip S s hnone]
  cases hq : S.drop s with
  | nil => rw [hq] at hm; cases o <;> simp [matchDelimAt, lbLen] at hm
  | cons a t => rw [hq] at hm; rw [searchDelim_cons_some hm]; simp [shift, Nat.add_comm]

/-- **Decision stability.** The leftmost match of either regex found in the buffer is the leftmost
match of every extension of the buffer, with the same kind; only a trailing CR may still be
completed by an LF. -/
theorem searchDelim_append_stable {bnd : Bytes} {o : Bool} {b : Bytes} {s e : Nat} {f : Bool}
    (h : searchDelim bnd o b = some (s, e, f)) (c : Bytes) :
    ∃ e', searchDelim bnd o (b ++ c) = some (s, e', f) ∧
      (f = false → e' = e ∨ (e' = e + 1 ∧ b.length = e ∧ ∃ c', c = 10 :: c')) := by
  obtain ⟨hsl, hse, hm, hnone⟩ := searchDelim_some_spec h
  obtain ⟨n', hn', hrel⟩ := matchDelimAt_append c hm
  refine ⟨s + n', ?_, fun hf => ?_⟩
  · apply searchDelim_eq_some
    · rw [List.drop_append_of_le_length hsl]; exact hn'
    · intro j hj
      rw [List.drop_append_of_le_length (by omega)]
      refine no_new_match c (i := s - j) (n := e - s) (f := f) (by omega) (hnone j hj) ?_
      rw [List.drop_drop, show j + (s - j) = s by omega]; exact hm
  · have hlen : (b.drop s).length = b.length - s := List.length_drop
    rcases hrel hf with h1 | ⟨h1, h2, h3⟩
    · left; omega
    · right; exact ⟨by omega, by omega, h3⟩

theorem matchTail_le {r : Bytes} {m : Nat} {f : Bool} (h : matchTail r = some (m, f)) : m ≤ r.length := by
  cases f with
  | false =>
    rcases matchTail_false_iff.1 h with ⟨hh, a, t, rfl, _, _, rfl⟩
    have := lbLen_le_length (a :: t)
    simp at this ⊢; omega
  | true =>
    rcases matchTail_true_iff.1 h with ⟨r2, rfl, rfl⟩
    have h1 := lbLen_le_length (r2.dropWhile isHws)
    have h2 : (r2.takeWhile isHws).length + (r2.dropWhile isHws).length = r2.length := by
      rw [← List.length_append, List.takeWhile_append_dropWhile]
    simp; omega

theorem matchDelimAt_bounds {bnd s : Bytes} {o : Bool} {n : Nat} {f : Bool}
    (h : matchDelimAt bnd o s = some (n, f)) : 0 < n ∧ n ≤ s.length := by
  rcases matchDelimAt_iff.1 h with ⟨r, m, _, hd, hm, rfl⟩
  have := matchTail_le hm
  have hlen := congrArg List.length hd
  simp [delim] at hlen
  have := lbLen_le_length s
  omega

theorem searchDelim_bounds {bnd b : Bytes} {o : Bool} {s e : Nat} {f : Bool}
    (h : searchDelim bnd o b = some (s, e, f)) : s < e ∧ e ≤ b.length := by
  obtain ⟨hsl, hse, hm, _⟩ := searchDelim_some_spec h
  have := matchDelimAt_bounds hm
  simp only [List.length_drop] at this
  omega

theorem matchDelimAt_restrict_true {bnd x c : Bytes} {o : Bool} {n : Nat}
    (h : matchDelimAt bnd o (x ++ c) = some (n, true))
    (hlen : 2 + (bnd.length + 2) + 2 ≤ x.length) :
    ∃ n', matchDelimAt bnd o x = some (n', true) := by
  have hl2 := lbLen_le_two (x ++ c)
  obtain ⟨r, m, ho, hd, hm, hlb, _⟩ := matchDelimAt_append_inside h (by omega)
  -- the buffer holds the `--` after `--boundary`, which is all a closing match needs
  obtain ⟨r2, he, _⟩ := matchTail_true_iff.1 hm
  have hl := congrArg List.length hd
  simp only [List.length_drop, List.length_append, delim_length] at hl
  match r, he with
  | a :: b :: t, he =>
    simp only [List.cons_append, List.cons.injEq] at he
    rw [he.1, he.2.1] at hd
    exact ⟨_, matchDelimAt_iff.2 ⟨45 :: 45 :: t, _, ho, hd, matchTail_final (by simp [List.isPrefixOf]), rfl⟩⟩
  | [_], _ => simp at hl; omega
  | [], _ => simp at hl; omega

theorem searchExtra_eq : searchExtra = 8 := by decide

/-- the three texts `BLANK_LINE_RE` matches -/
def blankPats : List Bytes := [[13, 10, 13, 10], [13, 13], [10, 10]]

theorem blankPats_length {p : Bytes} (hp : p ∈ blankPats) : p.length = 2 ∨ p.length = 4 := by
  simp only [blankPats, List.mem_cons, List.mem_nil_iff, or_false] at hp
  rcases hp with rfl | rfl | rfl <;> simp

theorem blankLen_spec (s : Bytes) :
    (blankLen s = 0 ∧ ∀ p ∈ blankPats, p.isPrefixOf s = false) ∨
    ∃ p ∈ blankPats, p.isPrefixOf s = true ∧ blankLen s = p.length := by
  unfold blankLen
  split
  · rename_i h; exact Or.inr ⟨_, by simp [blankPats], h, rfl⟩
  split
  · rename_i h; exact Or.inr ⟨_, by simp [blankPats], h, rfl⟩
  split
  · rename_i h; exact Or.inr ⟨_, by simp [blankPats], h, rfl⟩
  · rename_i h1 h2 h3
    refine Or.inl ⟨rfl, fun p hp => ?_⟩
    simp only [blankPats, List.mem_cons, List.mem_nil_iff, or_false] at hp
    rcases hp with rfl | rfl | rfl
    · exact Bool.eq_false_iff.2 h1
    · exact Bool.eq_false_iff.2 h2
    · exact Bool.eq_false_iff.2 h3

/-- no pattern is a prefix of another, so a pattern at the front decides `blankLen` -/
theorem blankLen_of_prefix {p s : Bytes} (hp : p ∈ blankPats) (h : p.isPrefixOf s = true) :
    blankLen s = p.length := by
  obtain ⟨t, rfl⟩ := List.isPrefixOf_iff_prefix.1 h
  simp only [blankPats, List.mem_cons, List.mem_nil_iff, or_false] at hp
  rcases hp with rfl | rfl | rfl <;> simp [blankLen, List.isPrefixOf]

theorem blankLen_cases (s : Bytes) : blankLen s = 0 ∨ blankLen s = 2 ∨ blankLen s = 4 := by
  rcases blankLen_spec s with ⟨h, _⟩ | ⟨p, hp, _, h⟩
  · exact Or.inl h
  · rw [h]; exact Or.inr (blankPats_length hp)

theorem blankLen_le (s : Bytes) : blankLen s ≤ 4 := by
  rcases blankLen_cases s with h | h | h <;> omega

theorem blankLen_le_length (s : Bytes) : blankLen s ≤ s.length := by
  rcases blankLen_spec s with ⟨h, _⟩ | ⟨p, _, hpre, h⟩
  · omega
  · rw [h]; exact (List.isPrefixOf_iff_prefix.1 hpre).length_le

theorem blankLen_restrict {x c : Bytes} (h : blankLen (x ++ c) ≤ x.length) :
    blankLen x = blankLen (x ++ c) := by
  rcases blankLen_spec (x ++ c) with ⟨h0, hall⟩ | ⟨p, hp, hpre, hlen⟩
  · rw [h0]
    rcases blankLen_spec x with ⟨hx, _⟩ | ⟨p, hp, hpre, _⟩
    · exact hx
    · have := hall p hp; rw [isPrefixOf_append_of_isPrefixOf c hpre] at this; cases this
  · rw [hlen] at h ⊢
    rw [isPrefixOf_append_of_length_le c h] at hpre
    exact blankLen_of_prefix hp hpre

theorem blankLen_append_of_pos {x : Bytes} (c : Bytes) (h : 0 < blankLen x) :
    blankLen (x ++ c) = blankLen x := by
  rcases blankLen_spec x with ⟨h0, _⟩ | ⟨p, hp, hpre, hlen⟩
  · omega
  · rw [hlen, blankLen_of_prefix hp (isPrefixOf_append_of_isPrefixOf c hpre)]

def shift2 (k : Nat) : Option (Nat × Nat) → Option (Nat × Nat)
  | some (s, e) => some (s + k, e + k)
  | none => none

@[simp] theorem shift2_zero (r : Option (Nat × Nat)) : shift2 0 r = r := by
  cases r with
  | none => rfl
  | some v => rcases v with ⟨s, e⟩; rfl

theorem shift2_shift2 (j k : Nat) (r : Option (Nat × Nat)) : shift2 j (shift2 k r) = shift2 (k + j) r := by
  cases r with
  | none => rfl
  | some v => rcases v with ⟨s, e⟩; simp [shift2, Nat.add_assoc]

theorem shift2_eq_some {k : Nat} {r : Option (Nat × Nat)} {s e : Nat} (h : shift2 k r = some (s, e)) :
    ∃ s2 e2, r = some (s2, e2) ∧ s = s2 + k ∧ e = e2 + k := by
  cases r with
  | none => simp [shift2] at h
  | some v => rcases v with ⟨s2, e2⟩; simp [shift2] at h; exact ⟨s2, e2, rfl, h.1.symm, h.2.symm⟩

theorem searchBlank_cons_zero {a : UInt8} {t : Bytes} (h : blankLen (a :: t) = 0) :
    searchBlank (a :: t) = shift2 1 (searchBlank t) := by
  simp only [searchBlank, h]
  cases searchBlank t with
  | none => rfl
  | some v => rcases v with ⟨s, e⟩; rfl

theorem searchBlank_none_drop {S : Bytes} (h : searchBlank S = none) (j : Nat) :
    blankLen (S.drop j) = 0 := by
  induction S generalizing j with
  | nil => simp [blankLen]
  | cons a t ih =>
    have h0 : blankLen (a :: t) = 0 := by
      apply Nat.eq_zero_of_not_pos; intro hp
      simp [searchBlank, hp] at h
    rw [searchBlank_cons_zero h0] at h
    have ht : searchBlank t = none := by
      cases hx : searchBlank t with
      | none => rfl
      | some v => rw [hx] at h; rcases v with ⟨s, e⟩; simp [shift2] at h
    cases j with
    | zero => simpa using h0
    | succ j => simpa using ih ht j

theorem searchBlank_skip (S : Bytes) (k : Nat) (h : ∀ j, j < k → blankLen (S.drop j) = 0) :
    searchBlank S = shift2 k (searchBlank (S.drop k)) := by
  induction k generalizing S with
  | zero => simp
  | succ k ih =>
    cases S with
    | nil => simp [searchBlank, shift2]
    | cons a t =>
      have h0 := h 0 (by omega)
      simp only [List.drop_zero] at h0
      rw [searchBlank_cons_zero h0, List.drop_succ_cons,
        ih t (fun j hj => by simpa using h (j + 1) (by omega)), shift2_shift2]

theorem searchBlankFrom_eq_shift (pos : Nat) (buf : Bytes) :
    searchBlankFrom pos buf = shift2 pos (searchBlank (buf.drop pos)) := by
  unfold searchBlankFrom
  cases searchBlank (buf.drop pos) with
  | none => rfl
  | some v => rcases v with ⟨s, e⟩; rfl

theorem searchBlank_bounds {b : Bytes} {s e : Nat} (h : searchBlank b = some (s, e)) :
    s + 2 ≤ e ∧ e ≤ b.length := by
  induction b generalizing s e with
  | nil => simp [searchBlank] at h
  | cons a t ih =>
    by_cases hb : 0 < blankLen (a :: t)
    · simp [searchBlank, hb] at h
      rcases h with ⟨rfl, rfl⟩
      have h1 := blankLen_le_length (a :: t)
      have h2 := blankLen_cases (a :: t)
      omega
    · have h0 : blankLen (a :: t) = 0 := by omega
      rw [searchBlank_cons_zero h0] at h
      rcases shift2_eq_some h with ⟨s2, e2, ht, rfl, rfl⟩
      have := ih ht
      simp; omega

theorem searchBlankFrom_bounds {pos : Nat} {b : Bytes} {s e : Nat}
    (h : searchBlankFrom pos b = some (s, e)) : s + 2 ≤ e ∧ e ≤ b.length := by
  rw [searchBlankFrom_eq_shift] at h
  rcases shift2_eq_some h with ⟨s2, e2, ht, rfl, rfl⟩
  have := searchBlank_bounds ht
  simp [List.length_drop] at this
  omega

theorem searchBlank_some_blankLen {S : Bytes} {s e : Nat} (h : searchBlank S = some (s, e)) :
    blankLen (S.drop s) = e - s ∧ 0 < blankLen (S.drop s) := by
  induction S generalizing s e with
  | nil => simp [searchBlank] at h
  | cons a t ih =>
    by_cases hb : 0 < blankLen (a :: t)
    · simp [searchBlank, hb] at h
      rcases h with ⟨rfl, rfl⟩
      simpa using hb
    · have h0 : blankLen (a :: t) = 0 := by omega
      rw [searchBlank_cons_zero h0] at h
      rcases shift2_eq_some h with ⟨s2, e2, ht, rfl, rfl⟩
      have := ih ht
      simp only [List.drop_succ_cons]
      refine ⟨by omega, this.2⟩

/-- the middle of a blank line is the start of its second line break -/
theorem blank_cut_lb {X : Bytes} (h : 0 < blankLen X) : 0 < lbLen (X.drop (blankLen X / 2)) := by
  rcases blankLen_spec X with ⟨h0, _⟩ | ⟨p, hp, hpre, hlen⟩
  · omega
  · obtain ⟨t, rfl⟩ := List.isPrefixOf_iff_prefix.1 hpre
    rw [hlen]
    simp only [blankPats, List.mem_cons, List.mem_nil_iff, or_false] at hp
    rcases hp with rfl | rfl | rfl <;> exact lbLen_pos_of_nl (by decide)

theorem searchBlankFrom_cut {pos : Nat} {b : Bytes} {s e : Nat} (h : searchBlankFrom pos b = some (s, e)) :
    0 < lbLen (b.drop ((s + e) / 2)) := by
  rw [searchBlankFrom_eq_shift] at h
  rcases shift2_eq_some h with ⟨s2, e2, ht, rfl, rfl⟩
  rcases searchBlank_some_blankLen ht with ⟨h1, h2⟩
  have hb := searchBlank_bounds ht
  have hcut := blank_cut_lb h2
  rw [h1, List.drop_drop, List.drop_drop] at hcut
  have : (s2 + pos + (e2 + pos)) / 2 = pos + (s2 + (e2 - s2) / 2) := by omega
  rw [this]
  exact hcut

theorem searchBlank_append_stable {x : Bytes} {s e : Nat} (c : Bytes) (h : searchBlank x = some (s, e)) :
    searchBlank (x ++ c) = some (s, e) := by
  induction x generalizing s e with
  | nil => simp [searchBlank] at h
  | cons a t ih =>
    by_cases hb : 0 < blankLen (a :: t)
    · simp [searchBlank, hb] at h
      rcases h with ⟨rfl, rfl⟩
      have hr := blankLen_append_of_pos c hb
      simp only [List.cons_append] at hr
      simp [searchBlank, hr, hb]
    · have h0 : blankLen (a :: t) = 0 := by omega
      rw [searchBlank_cons_zero h0] at h
      rcases shift2_eq_some h with ⟨s2, e2, ht, rfl, rfl⟩
      -- no match at the head of the extension either: a blank line at the head of `a :: t ++ c`
      -- that is not one of `a :: t` would have to overlap the match found in `t`
      have hbt := searchBlank_bounds ht
      have h0' : blankLen (a :: (t ++ c)) = 0 := by
        apply Nat.eq_zero_of_not_pos
        intro hp
        by_cases hfit : blankLen (a :: t ++ c) ≤ (a :: t).length
        · have := blankLen_restrict (x := a :: t) (c := c) hfit
          rw [h0] at this
          simp only [List.cons_append] at this
          omega
        · -- the only way not to fit: a four byte blank line over a three byte buffer
          have h4 := blankLen_le (a :: t ++ c)
          simp only [List.cons_append] at hfit h4
          have hlen : t.length = 2 := by simp at hfit; omega
          match t, hlen with
          | [x, y], _ =>
            -- the pattern of length four, whose second half is a blank line of `t`
            obtain ⟨p, hp, hpre, hplen⟩ : ∃ p ∈ blankPats, p.isPrefixOf (a :: ([x, y] ++ c)) = true ∧ p.length = 4 := by
              rcases blankLen_spec (a :: ([x, y] ++ c)) with ⟨h0, _⟩ | ⟨p, hp, hpre, hl⟩
              · rw [h0] at hfit; simp at hfit
              · exact ⟨p, hp, hpre, by rw [hl] at hfit; have := blankPats_length hp; simp at hfit; omega⟩
            simp only [blankPats, List.mem_cons, List.mem_nil_iff, or_false] at hp
            rcases hp with rfl | rfl | rfl <;> simp at hplen
            simp [List.isPrefixOf] at hpre
            rcases hpre with ⟨_, hx, hy, _⟩
            subst hx; subst hy
            simp [searchBlank, blankLen, List.isPrefixOf] at ht
      rw [List.cons_append, searchBlank_cons_zero h0', ih ht]
      rfl

/-- without a match `_parse_data` holds back from the last line break on, or — `--boundary` nowhere in
the buffer and far enough behind that line break — nothing -/
theorem dataCut_none {bnd b : Bytes} (h : searchDelim bnd false b = none) :
    ∃ k, dataCut bnd b = (k, k, none) ∧ k ≤ b.length ∧
      (k = lastNewline b ∨ (k = b.length ∧ containsSub (delim bnd) b = false ∧
        b.length - lastNewline b > (delim bnd).length + 1)) := by
  cases hc : containsSub (45 :: 45 :: bnd) b with
  | true => exact ⟨lastNewline b, by simp [dataCut, hc, h], lastNewline_le b, Or.inl rfl⟩
  | false =>
    by_cases hfar : b.length - lastNewline b > (45 :: 45 :: bnd).length + 1
    · exact ⟨b.length, by simp [dataCut, hc]; intro hh; simp at hfar; omega, Nat.le_refl _,
        Or.inr ⟨rfl, hc, hfar⟩⟩
    · exact ⟨lastNewline b, by simp [dataCut, hc]; intro hh; simp at hfar; omega, lastNewline_le b, Or.inl rfl⟩

theorem dataCut_some_iff {bnd b : Bytes} {s e : Nat} {f : Bool} :
    dataCut bnd b = (s, e, some f) ↔ searchDelim bnd false b = some (s, e, f) := by
  have fwd : ∀ {s e f}, searchDelim bnd false b = some (s, e, f) → dataCut bnd b = (s, e, some f) := fun h => by
    have hc : containsSub (45 :: 45 :: bnd) b = true := searchDelim_some_contains h
    simp [dataCut, hc, h]
  refine ⟨fun h => ?_, fwd⟩
  cases hs : searchDelim bnd false b with
  | none => obtain ⟨k, hk, _⟩ := dataCut_none hs; rw [hk] at h; cases h
  | some v =>
    obtain ⟨s', e', g⟩ := v
    rw [fwd hs] at h; cases h; rfl

theorem dataCut_facts (bnd buf : Bytes) :
    (dataCut bnd buf).1 ≤ (dataCut bnd buf).2.1 ∧ (dataCut bnd buf).2.1 ≤ buf.length ∧
      ((dataCut bnd buf).2.2.isSome = true → 0 < (dataCut bnd buf).2.1) := by
  cases hs : searchDelim bnd false buf with
  | none =>
    obtain ⟨k, hk, hle, _⟩ := dataCut_none hs
    rw [hk]; simpa using hle
  | some v =>
    rcases v with ⟨s, e, f⟩
    have hb := searchDelim_bounds hs
    rw [dataCut_some_iff.2 hs]
    simp; omega

theorem dataCut_none_safe {bnd : Bytes} (hb : BoundaryOk bnd) {b : Bytes}
    (h : searchDelim bnd false b = none) :
    ∃ k, dataCut bnd b = (k, k, none) ∧ k ≤ b.length ∧
      (k = lastNewline b ∨ (k = b.length ∧ 2 ≤ b.length)) ∧ NoMatchBefore bnd false k b := by
  obtain ⟨k, hk, hle, rfl | ⟨rfl, hc, hfar⟩⟩ := dataCut_none h
  · exact ⟨_, hk, hle, Or.inl rfl, hold_safe hb b h⟩
  · exact ⟨_, hk, hle, Or.inr ⟨rfl, by rw [delim_length] at hfar; omega⟩, hold_safe_far b hc hfar⟩

theorem dataCut_undecided {bnd : Bytes} (hb : BoundaryOk bnd) {b : Bytes} {de di : Nat}
    (h : dataCut bnd b = (de, di, none)) : de = di ∧ di ≤ b.length ∧ NoMatchBefore bnd false di b := by
  cases hs : searchDelim bnd false b with
  | some v => obtain ⟨s, e, g⟩ := v; rw [dataCut_some_iff.2 hs] at h; cases h
  | none =>
    obtain ⟨k, hk, hle, _, hsafe⟩ := dataCut_none_safe hb hs
    rw [hk] at h; cases h; exact ⟨rfl, hle, hsafe⟩

theorem dataStep_false (bnd buf : Bytes) :
    dataStep bnd false buf =
      .ok (buf.take (dataCut bnd buf).1, buf.drop (dataCut bnd buf).2.1, false, (dataCut bnd buf).2.2) := by
  simp [dataStep, parseData]

/-- in DATA_START a non-zero hold-back point lies after the leading line break, and that line
break is the same in every extension -/
theorem lb_le_hold {buf : Bytes} {k : Nat} (hl : 0 < lbLen buf) (hk : 0 < k)
    (h : k = lastNewline buf ∨ (k = buf.length ∧ 2 ≤ buf.length)) :
    lbLen buf ≤ k ∧ ∀ c, lbLen (buf ++ c) = lbLen buf := by
  refine ⟨?_, fun c => ?_⟩
  · rcases h with rfl | ⟨rfl, _⟩
    · simpa using lb_le_lastNewline buf (j := 0) hk (by simpa using hl)
    · exact lbLen_le_length buf
  · rcases lbLen_append_cases c hl with h' | ⟨rfl, _⟩
    · exact h'
    · rcases h with rfl | ⟨_, h2⟩
      · simp [lastNewline, isNl] at hk
      · simp at h2

theorem dataStep_true {bnd buf : Bytes} (hl : 0 < lbLen buf) :
    dataStep bnd true buf =
      if (dataCut bnd buf).2.1 = 0 then .ok ([], buf, true, none)
      else .ok ((buf.take (dataCut bnd buf).1).drop (lbLen buf), buf.drop (dataCut bnd buf).2.1, false,
        (dataCut bnd buf).2.2) := by
  have : (lbLen buf == 0) = false := by simp; omega
  simp [dataStep, parseData, this]

/-- `data_start` of `_parse_data`: the line break that ended the headers, in DATA_START -/
def skipLb (start : Bool) (buf : Bytes) : Nat := if start then lbLen buf else 0

@[simp] theorem skipLb_false (buf : Bytes) : skipLb false buf = 0 := rfl
@[simp] theorem skipLb_true (buf : Bytes) : skipLb true buf = lbLen buf := rfl

theorem dataStep_decided {bnd buf : Bytes} {s e : Nat} {f : Bool} (start : Bool)
    (hl : start = true → 0 < lbLen buf) (h : searchDelim bnd false buf = some (s, e, f)) :
    dataStep bnd start buf = .ok ((buf.take s).drop (skipLb start buf), buf.drop e, false, some f) := by
  have he : e ≠ 0 := by have := searchDelim_bounds h; omega
  cases start with
  | false => simp [dataStep_false, dataCut_some_iff.2 h]
  | true => simp [dataStep_true (hl rfl), dataCut_some_iff.2 h, he]

theorem dataStep_held {bnd buf : Bytes} {k : Nat} (start : Bool) (hl : start = true → 0 < lbLen buf)
    (hk : dataCut bnd buf = (k, k, none)) :
    dataStep bnd start buf =
      if start = true ∧ k = 0 then .ok ([], buf, true, none)
      else .ok ((buf.take k).drop (skipLb start buf), buf.drop k, false, none) := by
  cases start with
  | false => simp [dataStep_false, hk]
  | true => by_cases hk0 : k = 0 <;> simp [dataStep_true (hl rfl), hk, hk0]

theorem dataSpec_eq (bnd : Bytes) (start : Bool) (S : Bytes) :
    dataSpec bnd start S =
      (searchDelim bnd false S).map fun r => ((S.take r.1).drop (skipLb start S), r.2.2, S.drop r.2.1) := by
  unfold dataSpec
  cases searchDelim bnd false S with
  | none => rfl
  | some v => rfl

theorem dataSpec_some {bnd : Bytes} {start : Bool} {S P R : Bytes} {f : Bool}
    (h : dataSpec bnd start S = some (P, f, R)) :
    ∃ s e, searchDelim bnd false S = some (s, e, f) ∧ P = (S.take s).drop (skipLb start S) ∧ R = S.drop e := by
  rw [dataSpec_eq] at h
  cases hx : searchDelim bnd false S with
  | none => rw [hx] at h; cases h
  | some r => obtain ⟨s, e, g⟩ := r; rw [hx] at h; cases h; exact ⟨s, e, rfl, rfl, rfl⟩

/-- the single-shot answer for a stream whose first bytes `p` were released safely -/
theorem dataSpec_release {bnd : Bytes} {start : Bool} {p S : Bytes}
    (hsafe : searchDelim bnd false (p ++ S) = shift p.length (searchDelim bnd false S))
    (hds : (skipLb start (p ++ S)) ≤ p.length) :
    dataSpec bnd start (p ++ S) =
      (dataSpec bnd false S).map fun r => (p.drop (skipLb start (p ++ S)) ++ r.1, r.2) := by
  rw [dataSpec_eq, dataSpec_eq, hsafe]
  cases searchDelim bnd false S with
  | none => rfl
  | some v =>
    obtain ⟨s, e, f⟩ := v
    simp only [shift_some, Option.map_some, Nat.add_comm _ p.length, List.take_length_add_append,
      List.drop_length_add_append, skipLb_false, List.drop_zero, List.drop_append_of_le_length hds]

/-- what is left after a delimiter found in the buffer `b`, against what is left after the same
delimiter in the stream `b ++ c`: the same, or — the buffer ended between the CR and the LF of the
delimiter line — with that LF still in front -/
theorem drop_after_split {b c : Bytes} {e e' : Nat} (he : e ≤ b.length)
    (hrel : e' = e ∨ (e' = e + 1 ∧ b.length = e ∧ ∃ c', c = 10 :: c')) :
    b.drop e ++ c = (b ++ c).drop e' ∨ b.drop e ++ c = 10 :: (b ++ c).drop e' := by
  rcases hrel with h1 | ⟨h1, h2, c', h3⟩
  · left; rw [h1, List.drop_append_of_le_length he]
  · right
    rw [h1, h3, ← h2, List.drop_length, List.nil_append, List.drop_length_add_append]; rfl

/-- `Released bnd start S P start' S' nx`: a reader in DATA_START (`start`) / DATA in front of the
stream `S` has delivered the payload bytes `P` and now stands, in DATA_START (`start'`) / DATA, in front
of `S'`; what it has delivered and decided (`nx`: a delimiter and its kind, or nothing yet) is what the
single-shot semantics `dataSpec` says about `S`. With a delimiter, `S'` is the rest of the stream, up to
the LF of a CRLF that the end of the buffer split (still to be consumed, as an empty header line). -/
def Released (bnd : Bytes) (start : Bool) (S P : Bytes) (start' : Bool) (S' : Bytes) : Option Bool → Prop
  | some f => ∃ R, dataSpec bnd start S = some (P, f, R) ∧ (f = false → S' = R ∨ S' = 10 :: R)
  | none => dataSpec bnd start S = (dataSpec bnd start' S').map fun r => (P ++ r.1, r.2)

theorem released_some {bnd : Bytes} {start start' f : Bool} {S P S' : Bytes} :
    Released bnd start S P start' S' (some f) ↔
      ∃ R, dataSpec bnd start S = some (P, f, R) ∧ (f = false → S' = R ∨ S' = 10 :: R) := Iff.rfl

theorem released_none {bnd : Bytes} {start start' : Bool} {S P S' : Bytes} :
    Released bnd start S P start' S' none ↔
      dataSpec bnd start S = (dataSpec bnd start' S').map fun r => (P ++ r.1, r.2) := Iff.rfl

theorem Released.refl (bnd : Bytes) (start : Bool) (S : Bytes) : Released bnd start S [] start S none := by
  rw [released_none]
  cases dataSpec bnd start S <;> rfl

theorem Released.trans {bnd : Bytes} {start s1 s2 : Bool} {S S1 S2 P1 P2 : Bytes} {nx : Option Bool}
    (h1 : Released bnd start S P1 s1 S1 none) (h2 : Released bnd s1 S1 P2 s2 S2 nx) :
    Released bnd start S (P1 ++ P2) s2 S2 nx := by
  rw [released_none] at h1
  cases nx with
  | some f =>
    obtain ⟨R, hR, hrel⟩ := released_some.1 h2
    exact released_some.2 ⟨R, by rw [h1, hR]; rfl, hrel⟩
  | none =>
    rw [released_none] at h2 ⊢
    rw [h1, h2]
    cases dataSpec bnd s2 S2 with
    | none => rfl
    | some r => simp

/-- `dataStep` on the buffer `buf` answered `(p, buf', start', nx)`, and the answer is right in every stream
the buffer is a prefix of -/
structure DataStepOk (bnd : Bytes) (start : Bool) (buf p buf' : Bytes) (start' : Bool) (nx : Option Bool) : Prop where
  eq : dataStep bnd start buf = .ok (p, buf', start', nx)
  waits : start' = true → start = true ∧ p = [] ∧ buf' = buf ∧ nx = none
  undecided_iff : nx = none ↔ searchDelim bnd false buf = none
  released : ∀ c, Released bnd start (buf ++ c) p start' (buf' ++ c) nx

/-- **One `_parse_data` call, on any prefix of the stream.** It succeeds; it recognises a delimiter
exactly when the buffer holds one; in DATA_START it may wait, touching nothing; and in every stream the
buffer is a prefix of, what it releases and decides is right: a delimiter in the buffer is the stream's
(`searchDelim_append_stable`), and what is released without one is final (`dataCut_none_safe`). -/
theorem dataStep_stream {bnd : Bytes} (hb : BoundaryOk bnd) (start : Bool) (buf : Bytes)
    (hl : start = true → 0 < lbLen buf) :
    ∃ p buf' start' nx, DataStepOk bnd start buf p buf' start' nx := by
  cases hs : searchDelim bnd false buf with
  | some v =>
    obtain ⟨s, e, f⟩ := v
    have hbd := searchDelim_bounds hs
    refine ⟨_, _, false, some f, dataStep_decided start hl hs, fun h => (by cases h), by simp [hs],
      fun c => released_some.2 ?_⟩
    obtain ⟨e', hst, hrel⟩ := searchDelim_append_stable hs c
    have hlb : skipLb start (buf ++ c) = skipLb start buf := by
      cases start
      · rfl
      · have := containsSub_length (searchDelim_some_contains hs)
        exact lbLen_append_of_two_le _ (by rw [delim_length] at this; omega)
    refine ⟨(buf ++ c).drop e', ?_, fun hf => drop_after_split hbd.2 (hrel hf)⟩
    rw [dataSpec_eq, hst, hlb]
    simp only [Option.map_some, List.take_append_of_le_length (show s ≤ buf.length by omega)]
  | none =>
    obtain ⟨k, hk, hkle, hkk, hsafe⟩ := dataCut_none_safe hb hs
    have hds := dataStep_held start hl hk
    by_cases hw : start = true ∧ k = 0
    · rw [if_pos hw] at hds
      obtain ⟨rfl, rfl⟩ := hw
      exact ⟨[], buf, true, none, hds, fun _ => ⟨rfl, rfl, rfl, rfl⟩, by simp [hs], fun c => Released.refl ..⟩
    · rw [if_neg hw] at hds
      refine ⟨_, _, false, none, hds, fun h => (by cases h), by simp [hs], fun c => released_none.2 ?_⟩
      have hcat : buf ++ c = buf.take k ++ (buf.drop k ++ c) := by
        rw [← List.append_assoc, List.take_append_drop]
      have hlen : (buf.take k).length = k := by simp [Nat.min_eq_left hkle]
      -- in DATA_START the line break that is skipped lies inside what is released
      have hlb : skipLb start (buf ++ c) = skipLb start buf ∧ skipLb start buf ≤ k := by
        cases start with
        | false => exact ⟨rfl, Nat.zero_le _⟩
        | true =>
          have := lb_le_hold (hl rfl) (Nat.pos_of_ne_zero fun h => hw ⟨rfl, h⟩) hkk
          exact ⟨this.2 c, this.1⟩
      rw [← hlb.1, hcat, dataSpec_release (by rw [← hcat, hlen]; exact hsafe.shift hkle c)
        (by rw [← hcat, hlen, hlb.1]; exact hlb.2)]

theorem dataLoop_decides {bnd buf : Bytes} {s e : Nat} {f : Bool} (start : Bool) (fuel : Nat) (acc : Bytes)
    (hl : start = true → 0 < lbLen buf) (h : searchDelim bnd false buf = some (s, e, f)) :
    dataLoop bnd (fuel + 1) start buf acc =
      .ok (acc ++ (buf.take s).drop (skipLb start buf), buf.drop e, false, some f) := by
  simp only [dataLoop, dataStep_decided start hl h]

/-- `dataLoop` answered `(acc ++ P, buf', start', nx)`, and the answer is right in every stream the buffer
is a prefix of -/
structure DataLoopOk (bnd : Bytes) (fuel : Nat) (start : Bool) (buf acc P buf' : Bytes) (start' : Bool)
    (nx : Option Bool) : Prop where
  eq : dataLoop bnd fuel start buf acc = .ok (acc ++ P, buf', start', nx)
  start_lb : start' = true → 0 < lbLen buf'
  undecided : 0 < fuel → nx = none → searchDelim bnd false buf = none
  released : ∀ c, Released bnd start (buf ++ c) P start' (buf' ++ c) nx

theorem dataLoop_stream {bnd : Bytes} (hb : BoundaryOk bnd) (fuel : Nat) : ∀ (start : Bool) (buf acc : Bytes),
    (start = true → 0 < lbLen buf) → ∃ P buf' start' nx, DataLoopOk bnd fuel start buf acc P buf' start' nx := by
  induction fuel with
  | zero =>
    exact fun start buf acc hl =>
      ⟨[], buf, start, none, by simp [dataLoop], hl, fun h => (by omega), fun c => .refl ..⟩
  | succ fuel ih =>
    intro start buf acc hl
    obtain ⟨p, buf', start', nx, hs⟩ := dataStep_stream hb start buf hl
    cases nx with
    | some f => exact ⟨p, buf', false, some f, by simp [dataLoop, hs.eq], fun h => (by cases h), fun _ h => (by cases h), hs.released⟩
    | none =>
      have hnone := hs.undecided_iff.1 rfl
      cases start' with
      | true =>
        obtain ⟨rfl, rfl, rfl, _⟩ := hs.waits rfl
        exact ⟨[], buf', true, none, by simp [dataLoop, hs.eq], hl, fun _ _ => hnone, hs.released⟩
      | false =>
        by_cases hc : (start || !p.isEmpty) = true
        · obtain ⟨P2, buf2, s2, nx2, h2⟩ := ih false buf' (acc ++ p) (fun h => by cases h)
          exact ⟨p ++ P2, buf2, s2, nx2, by simp [dataLoop, hs.eq, hc, h2.eq], h2.start_lb, fun _ _ => hnone,
            fun c => (hs.released c).trans (h2.released c)⟩
        · have hp : p = [] := by
            cases p with
            | nil => rfl
            | cons a t => simp at hc
          subst hp
          have hst : start = false := by simpa using hc
          subst hst
          exact ⟨[], buf', false, none, by simp [dataLoop, hs.eq], fun h => (by cases h), fun _ _ => hnone,
            hs.released⟩

theorem dataPhase_of_some {bnd : Bytes} {start st' : Bool} {buf acc acc' buf' : Bytes} {f : Bool}
    (chunks : List Bytes)
    (h : dataLoop bnd (buf.length + 1) start buf acc = .ok (acc', buf', st', some f)) :
    dataPhase bnd start buf acc chunks = .ok (acc', some (f, buf' ++ chunks.flatten)) := by
  cases chunks <;> simp [dataPhase, h]

theorem dataPhase_of_none {bnd : Bytes} {start st' : Bool} {buf acc acc' buf' : Bytes}
    (h : dataLoop bnd (buf.length + 1) start buf acc = .ok (acc', buf', st', none)) :
    dataPhase bnd start buf acc [] = .ok (acc', none) ∧
    ∀ c cs, dataPhase bnd start buf acc (c :: cs) = dataPhase bnd st' (buf' ++ c) acc' cs := by
  simp [dataPhase, h]

/-- the chunked loop's payload `P` and decision `res` agree with the single-shot answer: the same
payload and delimiter kind, and the same residual up to the LF of a CRLF that a chunk border split
(it is still to be consumed, as an empty header line) -/
def DataAgree : Option (Bytes × Bool × Bytes) → Bytes → Option (Bool × Bytes) → Prop
  | some (P0, f, R), P, res => P = P0 ∧ ∃ R', res = some (f, R') ∧ (f = false → R' = R ∨ R' = 10 :: R)
  | none, _, res => res = none

theorem dataAgree_some {P0 R P : Bytes} {f : Bool} {res : Option (Bool × Bytes)} :
    DataAgree (some (P0, f, R)) P res ↔ P = P0 ∧ ∃ R', res = some (f, R') ∧ (f = false → R' = R ∨ R' = 10 :: R) :=
  Iff.rfl

theorem dataAgree_none {P : Bytes} {res : Option (Bool × Bytes)} : DataAgree none P res ↔ res = none := Iff.rfl

theorem DataAgree.map {X : Option (Bytes × Bool × Bytes)} {P2 : Bytes} {res : Option (Bool × Bytes)} (P : Bytes)
    (h : DataAgree X P2 res) : DataAgree (X.map fun r => (P ++ r.1, r.2)) (P ++ P2) res := by
  cases X with
  | none => exact h
  | some v => exact ⟨by rw [h.1], h.2⟩

/-- **The chunked DATA loop against the single-shot semantics, every chunk list, both states.** -/
theorem dataPhase_spec {bnd : Bytes} (hb : BoundaryOk bnd) (chunks : List Bytes) :
    ∀ (start : Bool) (buf acc : Bytes), (start = true → 0 < lbLen buf) →
      ∃ P res, dataPhase bnd start buf acc chunks = .ok (acc ++ P, res) ∧
        DataAgree (dataSpec bnd start (buf ++ chunks.flatten)) P res := by
  induction chunks with
  | nil =>
    intro start buf acc hl
    obtain ⟨P, buf', start', nx, h⟩ := dataLoop_stream hb (buf.length + 1) start buf acc hl
    have hrun := h.eq
    have hrel := h.released []
    simp only [List.append_nil] at hrel
    cases nx with
    | some f =>
      obtain ⟨R, hR, hr⟩ := released_some.1 hrel
      exact ⟨P, some (f, buf'), by simp [dataPhase, hrun],
        by simp only [List.flatten_nil, List.append_nil, hR]; exact dataAgree_some.2 ⟨rfl, _, rfl, hr⟩⟩
    | none =>
      refine ⟨P, none, by simp [dataPhase, hrun], ?_⟩
      simp only [List.flatten_nil, List.append_nil, dataSpec_eq, h.undecided (Nat.succ_pos _) rfl]
      exact dataAgree_none.2 rfl
  | cons c cs ih =>
    intro start buf acc hl
    obtain ⟨P, buf', start', nx, h⟩ := dataLoop_stream hb (buf.length + 1) start buf acc hl
    have hrun := h.eq
    have hrel := h.released (c :: cs).flatten
    cases nx with
    | some f =>
      obtain ⟨R, hR, hr⟩ := released_some.1 hrel
      exact ⟨P, _, dataPhase_of_some _ hrun, by rw [hR]; exact dataAgree_some.2 ⟨rfl, _, rfl, hr⟩⟩
    | none =>
      -- the next chunk is appended to what the loop kept
      obtain ⟨P2, res, hrun2, hag⟩ := ih start' (buf' ++ c) (acc ++ P)
        (fun hs => Nat.lt_of_lt_of_le (h.start_lb hs) (lbLen_append_ge _ _))
      refine ⟨P ++ P2, res, by rw [(dataPhase_of_none hrun).2, hrun2, List.append_assoc], ?_⟩
      rw [released_none.1 hrel, List.flatten_cons, ← List.append_assoc]
      exact hag.map P

/-- the chunked loop from an empty accumulator computes `dataSpec` of the stream: the form the run theorems
are read in -/
theorem dataPhase_decodes {bnd : Bytes} (hb : BoundaryOk bnd) (start : Bool) (buf : Bytes) (chunks : List Bytes)
    (hl : start = true → 0 < lbLen buf) {S P : Bytes} {f : Bool} {R : Bytes}
    (hjoin : buf ++ chunks.flatten = S) (h : dataSpec bnd start S = some (P, f, R)) :
    ∃ R', dataPhase bnd start buf [] chunks = .ok (P, some (f, R')) ∧ (f = false → R' = R ∨ R' = 10 :: R) := by
  subst hjoin
  obtain ⟨P', res, hrun, hag⟩ := dataPhase_spec hb chunks start buf [] hl
  rw [h] at hag
  obtain ⟨rfl, R', rfl, hR⟩ := dataAgree_some.1 hag
  exact ⟨R', hrun, hR⟩

/-- some line break in `s` is directly followed by `d` -/
def lineStarts (d : Bytes) : Bytes → Bool
  | [] => false
  | a :: r => (isNl a && d.isPrefixOf r) || lineStarts d r

/-- the line break a body uses for its delimiter lines and header lines -/
inductive Nl where
  | crlf | lf | cr
deriving DecidableEq, Repr

def Nl.bytes : Nl → Bytes
  | .crlf => [13, 10]
  | .lf => [10]
  | .cr => [13]

def Nl.len (nl : Nl) : Nat := nl.bytes.length

/-- "free of the other newline kind": with bare-LF delimiters the text contains no CR, with bare-CR
delimiters no LF; no condition for CRLF -/
def NoOther : Nl → Bytes → Prop
  | .crlf, _ => True
  | .lf, p => 13 ∉ p
  | .cr, p => 10 ∉ p

instance (nl : Nl) (p : Bytes) : Decidable (NoOther nl p) := by
  cases nl <;> simp only [NoOther] <;> infer_instance

theorem Nl.len_pos (nl : Nl) : 0 < nl.len := by cases nl <;> decide

theorem Nl.lbLen_append {nl : Nl} {c : UInt8} (rest : Bytes) (hc : c ≠ 10) :
    lbLen (nl.bytes ++ c :: rest) = nl.len := by
  cases nl
  · exact lbLen_crlf _
  · exact lbLen_lf _
  · exact lbLen_cr_not_lf rest hc

theorem Nl.lbLen_delim (nl : Nl) (bnd x : Bytes) : lbLen (nl.bytes ++ (delim bnd ++ x)) = nl.len := by
  have := Nl.lbLen_append (nl := nl) (c := 45) (45 :: (bnd ++ x)) (by decide)
  simpa [delim] using this

theorem Nl.head_spec (nl : Nl) (x : Bytes) :
    ∃ a t, nl.bytes ++ x = a :: t ∧ isNl a = true ∧ (a = 10 → nl = .lf) := by
  cases nl
  · exact ⟨13, 10 :: x, rfl, by decide, by decide⟩
  · exact ⟨10, x, rfl, by decide, fun _ => rfl⟩
  · exact ⟨13, x, rfl, by decide, by decide⟩

theorem NoOther.append {nl : Nl} {a b : Bytes} : NoOther nl (a ++ b) ↔ NoOther nl a ∧ NoOther nl b := by
  cases nl <;> simp [NoOther]

theorem matchTail_pad_nl {nl : Nl} {pad : Bytes} {c : UInt8} (r : Bytes) (hpad : ∀ x ∈ pad, isHws x = true)
    (hc : c ≠ 10) : matchTail (pad ++ (nl.bytes ++ c :: r)) = some (pad.length + nl.len, false) := by
  rcases nl.head_spec (c :: r) with ⟨a, t, he, ha, _⟩
  apply matchTail_false_iff.2
  exact ⟨pad, a, t, by rw [he], hpad, ha, by rw [← he, Nl.lbLen_append r hc]⟩

/-- what follows `--boundary`: `--` + anything (closing delimiter) or transport padding (horizontal
white space, any amount) + the line break + the header block of the next part (which does not start
with LF) -/
def AfterDelimNl (nl : Nl) (tail : Bytes) (f : Bool) (rest : Bytes) : Prop :=
  (f = true ∧ ∃ x, tail = 45 :: 45 :: x ∧
    rest = x.drop ((x.takeWhile isHws).length + lbLen (x.dropWhile isHws))) ∨
  (f = false ∧ ∃ pad c r, (∀ x ∈ pad, isHws x = true) ∧ c ≠ 10 ∧
    tail = pad ++ (nl.bytes ++ c :: r) ∧ rest = c :: r)

theorem AfterDelimNl.closing (nl : Nl) (x : Bytes) :
    AfterDelimNl nl (45 :: 45 :: x) true (x.drop ((x.takeWhile isHws).length + lbLen (x.dropWhile isHws))) :=
  Or.inl ⟨rfl, x, rfl, rfl⟩

theorem AfterDelimNl.next (nl : Nl) {pad : Bytes} {c : UInt8} (r : Bytes) (hpad : ∀ x ∈ pad, isHws x = true)
    (hc : c ≠ 10) : AfterDelimNl nl (pad ++ (nl.bytes ++ c :: r)) false (c :: r) :=
  Or.inr ⟨rfl, pad, c, r, hpad, hc, rfl, rfl⟩

theorem matchTail_afterDelimNl {nl : Nl} {tail : Bytes} {f : Bool} {rest : Bytes}
    (h : AfterDelimNl nl tail f rest) :
    ∃ m, matchTail tail = some (m, f) ∧ tail.drop m = rest := by
  rcases h with ⟨rfl, x, rfl, rfl⟩ | ⟨rfl, pad, c, r, hpad, hc, rfl, rfl⟩
  · refine ⟨2 + (x.takeWhile isHws).length + lbLen (x.dropWhile isHws), ?_, ?_⟩
    · rw [matchTail_final (by simp [List.isPrefixOf])]
      simp [drop_takeWhile_length]
    · have : 2 + (x.takeWhile isHws).length + lbLen (x.dropWhile isHws) =
          ([45, 45] : Bytes).length + ((x.takeWhile isHws).length + lbLen (x.dropWhile isHws)) := by
        simp; omega
      rw [show (45 :: 45 :: x : Bytes) = [45, 45] ++ x from rfl, this, List.drop_length_add_append]
  · refine ⟨pad.length + nl.len, matchTail_pad_nl r hpad hc, ?_⟩
    rw [List.drop_length_add_append]
    simp [Nl.len]

theorem matchDelimAt_delimNl (nl : Nl) (bnd : Bytes) {tail : Bytes} {m : Nat} {f : Bool}
    (hm : matchTail tail = some (m, f)) :
    matchDelimAt bnd false (nl.bytes ++ (delim bnd ++ tail)) = some (nl.len + (bnd.length + 2) + m, f) := by
  have hl := nl.lbLen_delim bnd tail
  exact matchDelimAt_false_iff.2 ⟨tail, m, by rw [hl]; exact nl.len_pos, by rw [hl]; simp [Nl.len], hm, by rw [hl]⟩

theorem drop_delimNl (nl : Nl) (bnd tail : Bytes) (m : Nat) :
    (nl.bytes ++ (delim bnd ++ tail)).drop (nl.len + (bnd.length + 2) + m) = tail.drop m := by
  have e : nl.len + (bnd.length + 2) + m = nl.bytes.length + ((delim bnd).length + m) := by
    simp [delim, Nl.len]; omega
  rw [e, List.drop_length_add_append, List.drop_length_add_append]

theorem lineStarts_false {d u v : Bytes} {a : UInt8} (h : lineStarts d (u ++ a :: v) = false)
    (ha : isNl a = true) : d.isPrefixOf v = false := by
  induction u with
  | nil => simp only [List.nil_append, lineStarts, ha, Bool.true_and, Bool.or_eq_false_iff] at h; exact h.1
  | cons x u ih => simp only [List.cons_append, lineStarts, Bool.or_eq_false_iff] at h; exact ih h.2

/-- an anchored match of either regex that starts inside `p`, where `p` is followed by a line-break
byte, has its line break and its `--boundary` inside `p` (a CR that ends `p` would merge with a
following LF, hence `hl`) -/
theorem anchor_inside {bnd : Bytes} (hb : BoundaryOk bnd) {o : Bool} {p : Bytes} {y : UInt8} (Y : Bytes)
    (hy : isNl y = true) (hl : y = 10 → p.getLast? ≠ some 13) {j n : Nat} {f : Bool} (hj : j < p.length)
    (h : matchDelimAt bnd o ((p ++ y :: Y).drop j) = some (n, f)) :
    (o = false → 0 < lbLen (p.drop j)) ∧ (delim bnd).isPrefixOf (p.drop (j + lbLen (p.drop j))) = true := by
  rw [List.drop_append_of_le_length (Nat.le_of_lt hj)] at h
  rcases matchDelimAt_iff.1 h with ⟨r, m, ho, hd, _, _⟩
  have hlb : lbLen (p.drop j ++ y :: Y) = lbLen (p.drop j) := by
    match hq : p.drop j with
    | [] => have := congrArg List.length hq; simp at this; omega
    | [a] =>
      by_cases ha : a = 13
      · subst ha
        have hy10 : y ≠ 10 := fun e => hl e (by
          have hg := List.getLast?_drop (l := p) (i := j)
          rw [hq] at hg
          simpa [Nat.not_le.2 hj] using hg.symm)
        exact (lbLen_cr_not_lf Y hy10).trans lbLen_cr_nil.symm
      · by_cases ha2 : a = 10
        · subst ha2; rfl
        · have hn : isNl a = false := by simp [isNl, ha, ha2]
          exact (lbLen_cons_not_nl hn).trans (lbLen_cons_not_nl hn).symm
    | a :: b :: t => exact lbLen_append_of_two_le _ (by simp)
  rw [hlb] at ho hd
  rw [List.drop_append_of_le_length (lbLen_le_length _)] at hd
  have hp : (delim bnd).isPrefixOf ((p.drop j).drop (lbLen (p.drop j)) ++ y :: Y) = true := by
    rw [hd, List.isPrefixOf_iff_prefix]; exact List.prefix_append _ _
  rw [isPrefixOf_append_nl _ Y (delim_no_nl hb) hy, List.drop_drop] at hp
  exact ⟨ho, hp⟩

/-- the payload may be written between the line break and `line break --boundary`: no line of it
(the first included) starts with `--boundary`, and it is free of the other newline kind -/
def PayloadOkNl (nl : Nl) (bnd payload : Bytes) : Prop :=
  lineStarts (delim bnd) (nl.bytes ++ payload) = false ∧ NoOther nl payload

instance (nl : Nl) (bnd payload : Bytes) : Decidable (PayloadOkNl nl bnd payload) := by
  unfold PayloadOkNl; infer_instance

theorem PayloadOkNl.noDelimLine {nl : Nl} {bnd payload : Bytes} (h : PayloadOkNl nl bnd payload) :
    lineStarts (delim bnd) (nl.bytes ++ payload) = false := h.1

theorem PayloadOkNl.noOther {nl : Nl} {bnd payload : Bytes} (h : PayloadOkNl nl bnd payload) :
    NoOther nl payload := h.2

theorem no_match_inside_nl {nl : Nl} {bnd : Bytes} (hb : BoundaryOk bnd) (payload Y : Bytes)
    (hp : PayloadOkNl nl bnd payload) :
    ∀ j, j < (nl.bytes ++ payload).length →
      matchDelimAt bnd false (((nl.bytes ++ payload) ++ (nl.bytes ++ Y)).drop j) = none := by
  intro j hj
  obtain ⟨y, Y', hY, hy, hy10⟩ := nl.head_spec Y
  rw [hY]
  cases hx : matchDelimAt bnd false (((nl.bytes ++ payload) ++ y :: Y').drop j) with
  | none => rfl
  | some v =>
    exfalso
    have hlast : y = 10 → (nl.bytes ++ payload).getLast? ≠ some 13 := by
      intro e hg
      have hm := List.mem_of_getLast? hg
      have hno := hp.noOther
      rw [hy10 e] at hm hno
      simp [Nl.bytes, NoOther] at hm hno
      exact hno hm
    obtain ⟨hpos, hpre⟩ := anchor_inside hb Y' hy hlast hj hx
    obtain ⟨u, a, w, hs, hlen, ha⟩ := lbLen_last (hpos rfl)
    have hsplit : nl.bytes ++ payload = ((nl.bytes ++ payload).take j ++ u) ++ a :: w := by
      rw [List.append_assoc, ← hs, List.take_append_drop]
    have hw : (nl.bytes ++ payload).drop (j + lbLen ((nl.bytes ++ payload).drop j)) = w := by
      rw [← List.drop_drop, hlen]
      conv => lhs; rw [hs]
      simp
    have := hp.noDelimLine
    rw [hsplit] at this
    rw [hw, lineStarts_false this ha] at hpre
    exact absurd hpre (by simp)

/-- `preamble_re` finds nothing that starts inside a preamble without `--boundary` (a preamble that
ends in CR would merge with a bare-LF delimiter, hence `hl`) -/
theorem no_match_in_pre {bnd : Bytes} (hb : BoundaryOk bnd) {pr : Bytes} {c : UInt8} (Y : Bytes)
    (hc : isNl c = true) (h : containsSub (delim bnd) pr = false) (hl : c = 10 → pr.getLast? ≠ some 13) :
    ∀ j, j < pr.length → matchDelimAt bnd true ((pr ++ c :: Y).drop j) = none := by
  intro j hj
  cases hx : matchDelimAt bnd true ((pr ++ c :: Y).drop j) with
  | none => rfl
  | some v =>
    have hp := (anchor_inside hb Y hc hl hj hx).2
    have : containsSub (delim bnd) pr = true := by
      rw [← List.take_append_drop (j + lbLen (pr.drop j)) pr]
      exact containsSub_append_left _ (containsSub_of_prefix hp)
    rw [h] at this; simp at this

theorem Nl.lbLen_data {nl : Nl} (payload X : Bytes) (h2 : NoOther nl payload) :
    lbLen (nl.bytes ++ payload ++ (nl.bytes ++ X)) = nl.len := by
  cases nl with
  | crlf => exact lbLen_crlf _
  | lf => exact lbLen_lf _
  | cr =>
    cases payload with
    | nil => exact lbLen_cr_not_lf _ (by decide)
    | cons a t =>
      have : a ≠ 10 := by intro e; subst e; simp [NoOther] at h2
      exact lbLen_cr_not_lf _ this

/-- **The framing is undone by the DATA kernel, for every line-break convention.** For every payload
none of whose lines starts with `--boundary`: the stream `NL payload NL --boundary tail` decodes (in
state DATA_START, single shot) to exactly `payload`, the right delimiter kind and the right rest. -/
theorem dataSpec_encoded_nl {nl : Nl} {bnd : Bytes} (hb : BoundaryOk bnd) (payload tail : Bytes) {f : Bool}
    {rest : Bytes} (hp : PayloadOkNl nl bnd payload) (ht : AfterDelimNl nl tail f rest) :
    dataSpec bnd true (nl.bytes ++ payload ++ (nl.bytes ++ (delim bnd ++ tail))) = some (payload, f, rest) := by
  rcases matchTail_afterDelimNl ht with ⟨m, hm, hdrop⟩
  let P : Bytes := nl.bytes ++ payload
  have hsearch : searchDelim bnd false (P ++ (nl.bytes ++ (delim bnd ++ tail))) =
      some (P.length, P.length + (nl.len + (bnd.length + 2) + m), f) := by
    rw [searchDelim_skip _ P.length (no_match_inside_nl hb payload (delim bnd ++ tail) hp)]
    have : (P ++ (nl.bytes ++ (delim bnd ++ tail))).drop P.length = nl.bytes ++ (delim bnd ++ tail) := by simp
    rw [this]
    have hmatch := matchDelimAt_delimNl nl bnd hm
    rcases nl.head_spec (delim bnd ++ tail) with ⟨a, t, he, _⟩
    rw [he] at hmatch ⊢
    rw [searchDelim_cons_some hmatch]
    simp [shift, Nat.add_comm]
  rw [dataSpec_eq, hsearch]
  simp only [Option.map_some, skipLb_true, Option.some.injEq, Prod.mk.injEq, true_and]
  constructor
  · have : (P ++ (nl.bytes ++ (delim bnd ++ tail))).take P.length = P := by simp
    rw [this, Nl.lbLen_data payload _ hp.noOther]
    simp [P, Nl.len]
  · rw [List.drop_length_add_append, drop_delimNl, hdrop]

/-- the body-less form (`headers NL NL--boundary`) -/
theorem dataSpec_encoded_empty_nl {nl : Nl} {bnd : Bytes} (tail : Bytes) {f : Bool} {rest : Bytes}
    (ht : AfterDelimNl nl tail f rest) :
    dataSpec bnd true (nl.bytes ++ (delim bnd ++ tail)) = some ([], f, rest) := by
  rcases matchTail_afterDelimNl ht with ⟨m, hm, hdrop⟩
  have hmatch := matchDelimAt_delimNl nl bnd hm
  rcases nl.head_spec (delim bnd ++ tail) with ⟨a, t, he, _⟩
  rw [dataSpec_eq]
  rw [he] at hmatch
  rw [he, searchDelim_cons_some hmatch, ← he]
  simp only [Option.map_some, Option.some.injEq, Prod.mk.injEq, true_and]
  exact ⟨by simp, by rw [drop_delimNl, hdrop]⟩

/-- the payload may be written between `CRLF` and `CRLF--boundary`: neither its first line nor any
later line starts with `--boundary` (near-copies, `--` runs, CR/LF runs are all fine) -/
def PayloadOk (bnd payload : Bytes) : Prop := lineStarts (delim bnd) (13 :: 10 :: payload) = false

instance (bnd payload : Bytes) : Decidable (PayloadOk bnd payload) := by
  unfold PayloadOk; infer_instance

/-- what follows `--boundary` in the encoder's output: `--CRLF…` (closing delimiter) or `CRLF` +
the header block of the next part (which does not start with LF) -/
inductive AfterDelim : Bytes → Bool → Bytes → Prop
  | closing (x : Bytes) : AfterDelim (45 :: 45 :: x) true
      (x.drop ((x.takeWhile isHws).length + lbLen (x.dropWhile isHws)))
  | next (c : UInt8) (rest : Bytes) (hc : c ≠ 10) : AfterDelim (13 :: 10 :: c :: rest) false (c :: rest)

theorem payloadOkNl_crlf {bnd payload : Bytes} : PayloadOkNl .crlf bnd payload ↔ PayloadOk bnd payload := by
  simp [PayloadOkNl, PayloadOk, NoOther, Nl.bytes]

theorem AfterDelim.toNl {tail : Bytes} {f : Bool} {rest : Bytes} (h : AfterDelim tail f rest) :
    AfterDelimNl .crlf tail f rest := by
  cases h with
  | closing x => exact .closing _ x
  | next c rest hc => exact .next (pad := []) .crlf rest (by simp) hc

theorem dataSpec_encoded {bnd : Bytes} (hb : BoundaryOk bnd) (payload tail : Bytes) {f : Bool} {rest : Bytes}
    (hp : PayloadOk bnd payload) (ht : AfterDelim tail f rest) :
    dataSpec bnd true (13 :: 10 :: payload ++ 13 :: 10 :: (delim bnd ++ tail)) = some (payload, f, rest) :=
  dataSpec_encoded_nl (nl := .crlf) hb payload tail (payloadOkNl_crlf.2 hp) ht.toNl

theorem dataSpec_encoded_empty {bnd : Bytes} (tail : Bytes) {f : Bool} {rest : Bytes}
    (ht : AfterDelim tail f rest) :
    dataSpec bnd true (13 :: 10 :: (delim bnd ++ tail)) = some ([], f, rest) :=
  dataSpec_encoded_empty_nl (nl := .crlf) tail ht.toNl

theorem byteArray_toList_loop (bs : ByteArray) (i : Nat) (r : List UInt8) :
    ByteArray.toList.loop bs i r = r.reverse ++ bs.data.toList.drop i := by
  fun_induction ByteArray.toList.loop bs i r with
  | case1 i r h ih =>
    have hi : i < bs.data.toList.length := h
    rw [ih, List.drop_eq_getElem_cons hi, List.reverse_cons, List.append_assoc]
    have : bs.get! i = bs.data.toList[i] := by
      rw [ByteArray.get!, getElem!_pos bs.data i h, Array.getElem_toList]
    rw [this]; rfl
  | case2 i r h =>
    have : bs.data.toList.length ≤ i := Nat.le_of_not_lt h
    rw [List.drop_of_length_le this, List.append_nil]

/-- `rw [str_ofList]` turns `str "…"` into the encoding of the literal's characters by a lemma; left
to the kernel, the literal is first packed into a byte array and then read back byte by byte -/
theorem str_ofList (l : List Char) : str (String.ofList l) = l.flatMap String.utf8EncodeChar := by
  rw [str, String.toUTF8, String.toByteArray_ofList, List.utf8Encode, ByteArray.toList, byteArray_toList_loop,
    List.toList_data_toByteArray]
  rfl

end Wz.Multipart
