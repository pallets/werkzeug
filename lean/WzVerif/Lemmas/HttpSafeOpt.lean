/-
`parse_options_header` (C07): it never indexes an empty string — every part its scanner collects has a non-empty key and a
non-empty value (`PartOk`), percent-decoding keeps a value non-empty, and no option is stored under an empty name (`KeysOk`,
what `dump_options_header`'s `key[-1]` needs afterwards) —, and its `while True` scanner consumes input on every turn, so
the fuel `len(rest) + 1` is never used up.
-/
import WzVerif.Lemmas.HttpSafe
import WzVerif.Lemmas.PyDict
namespace Wz.Http
open Wz

def PartOk (p : Str × Str) : Prop := p.1 ≠ [] ∧ p.2 ≠ []

theorem pyLower_ne_nil {k : Str} (h : k ≠ []) : pyLower k ≠ [] := by
  cases k with
  | nil => exact absurd rfl h
  | cons _ _ => simp [pyLower]

theorem scanQuoted_spec (q acc qs r : Str) (h : scanQuoted q acc = some (qs, r)) :
    qs ≠ [] ∧ r.length < q.length := by
  fun_induction scanQuoted q acc with
  | case1 => cases h
  | case2 t acc ih => exact ⟨(ih h).1, by have := (ih h).2; simp; omega⟩
  | case3 t acc ih => exact ⟨(ih h).1, by have := (ih h).2; simp; omega⟩
  | case4 t acc => cases h; simp
  | case5 c t acc _ _ _ ih => exact ⟨(ih h).1, by have := (ih h).2; simp; omega⟩

theorem optStep_spec (rest : Str) :
    (optStep rest).1.length ≤ rest.length ∧ ∀ p, (optStep rest).2 = some p → PartOk p := by
  unfold optStep
  simp only
  split
  · next rr hk heq =>
    have hkey : rest.takeWhile isKeyCh ≠ [] := by
      intro e; rw [e] at hk; simp at hk
    have hr : rr.length < rest.length := by
      have := (List.dropWhile_sublist isKeyCh (l := rest)).length_le
      rw [heq] at this; simp at this; omega
    split
    · next htv =>
      refine ⟨by simp; omega, fun p hp => ?_⟩
      cases hp
      exact ⟨pyLower_ne_nil hkey, by intro e; simp only at e; rw [e] at htv; simp at htv⟩
    · split
      · next q =>
        split
        · next qs r' hq =>
          have := scanQuoted_spec _ _ _ _ hq
          refine ⟨by simp at hr ⊢; omega, fun p hp => ?_⟩
          cases hp
          exact ⟨pyLower_ne_nil hkey, this.1⟩
        · exact ⟨by simp at hr ⊢; omega, fun p hp => by cases hp⟩
      · exact ⟨by simp; omega, fun p hp => by cases hp⟩
  · exact ⟨by simp, fun p hp => by cases hp⟩

theorem optScan_parts (fuel : Nat) (rest : Str) (acc : List (Str × Str)) (hacc : ∀ p ∈ acc, PartOk p) :
    ∀ p ∈ optScan fuel rest acc, PartOk p := by
  induction fuel generalizing rest acc with
  | zero => intro p hp; simp [optScan] at hp; exact hacc p hp
  | succ f ih =>
    intro p hp
    rw [optScan] at hp
    generalize hs : optStep rest = sr at hp
    obtain ⟨rest1, part⟩ := sr
    simp only at hp
    have hacc1 : ∀ q ∈ (match part with | some p => p :: acc | none => acc), PartOk q := by
      cases part with
      | none => exact hacc
      | some p0 =>
        intro q hq
        simp only [List.mem_cons] at hq
        rcases hq with rfl | hq
        · exact (optStep_spec rest).2 q (by rw [hs])
        · exact hacc q hq
    split at hp
    · simp only [List.mem_reverse] at hp; exact hacc1 p hp
    · exact ih _ _ hacc1 p hp

theorem unquoteToBytes_ne_nil {s : Str} (h : s ≠ []) : unquoteToBytes s ≠ [] := by
  fun_cases unquoteToBytes s <;> simp_all

/-- with fuel left, every branch of the replacing decoder emits a character before it recurses -/
theorem decodeReplaceFuel_ne_nil {f : Nat} {bs : Bytes} (hf : f ≠ 0) (hb : bs ≠ []) :
    Py.decodeReplaceFuel f bs ≠ [] := by
  fun_cases Py.decodeReplaceFuel f bs
  · exact absurd rfl hf
  · exact absurd rfl hb
  all_goals exact List.cons_ne_nil _ _

theorem decodeEnc_ne_nil (enc : Enc) {bs : Bytes} (h : bs ≠ []) : decodeEnc enc bs ≠ [] := by
  cases enc with
  | utf8 => exact decodeReplaceFuel_ne_nil (Nat.succ_ne_zero _) h
  | latin1 => simpa [decodeEnc, Py.latin1Dec] using h
  | ascii => simpa [decodeEnc] using h

theorem pctGo_ne_nil (enc : Enc) (s run : Str) (h : s ≠ [] ∨ run ≠ []) : pctGo enc s run ≠ [] := by
  induction s generalizing run with
  | nil =>
    have hr : run ≠ [] := by rcases h with h | h; exact absurd rfl h; exact h
    have hre : run.isEmpty = false := by cases run <;> simp_all
    simp only [pctGo, pctFlush, hre, Bool.false_eq_true, if_false]
    exact decodeEnc_ne_nil enc (unquoteToBytes_ne_nil (by simpa using hr))
  | cons c t ih =>
    rw [pctGo]
    split
    · exact ih (c :: run) (Or.inr (by simp))
    · simp

theorem pctUnquote_ne_nil (enc : Enc) {s : Str} (h : s ≠ []) : pctUnquote enc s ≠ [] := by
  unfold pctUnquote
  split
  · exact pctGo_ne_nil enc s [] (Or.inl h)
  · exact h

theorem charsetValue_ne_nil {pv e v : Str} (h : charsetValue? pv = some (e, v)) : v ≠ [] := by
  unfold charsetValue? at h
  simp only at h
  split at h
  · split at h
    · split at h
      · simp at h
      · next hne =>
        simp only [Option.some.injEq, Prod.mk.injEq] at h
        rw [← h.2]
        intro e0; rw [e0] at hne; simp at hne
    · simp at h
  · simp at h

theorem optStar_ne_nil (st : OptState) {pv : Str} (h : pv ≠ []) : (optStar st pv).2 ≠ [] := by
  unfold optStar
  simp only
  have hsp : (match charsetValue? pv with
      | some (e, v) => (({ st with encoding := some (pyLower e) } : OptState), v)
      | none => (st, pv)).2 ≠ [] := by
    split
    · next e v hc => exact charsetValue_ne_nil hc
    · exact h
  split
  · exact pctUnquote_ne_nil _ hsp
  · exact hsp

theorem optUnquote_safe {pv : Str} (h : pv ≠ []) : Safe (optUnquote pv) := by
  unfold optUnquote
  refine (first!_safe h).bind fun f => (last!_safe (by cases pv <;> simp_all)).bind fun e => ?_
  split <;> exact Safe.ok _

/-- no stored option has an empty name (what `dump_options_header`'s `key[-1]` needs; F07g) -/
def KeysOk (st : OptState) : Prop := ∀ x ∈ st.options, x.1 ≠ []

theorem dictSet_keys_ne {ν : Type} (d : Dict ν) (k : Str) (v : ν) (hd : ∀ x ∈ d, x.1 ≠ []) (hk : k ≠ []) :
    ∀ x ∈ dictSet d k v, x.1 ≠ [] := by
  intro x hx
  rcases Pre.mem_dictSet (d := d) hx with h | rfl
  · exact hd x h
  · exact hk

theorem optStore_keys (st : OptState) (pk pv : Str) (h : KeysOk st) (hpk : pk ≠ []) :
    KeysOk (optStore st pk pv) := by
  unfold optStore
  split
  · next base _ =>
    split
    · exact h
    · next hb => exact dictSet_keys_ne _ _ _ h (by intro e; rw [e] at hb; simp at hb)
  · exact dictSet_keys_ne _ _ _ h hpk

theorem optStar_options (st : OptState) (pv : Str) : (optStar st pv).1.options = st.options := by
  unfold optStar
  simp only
  split <;> split <;> split <;> rfl

theorem optPart_returns (st : OptState) (pk pv : Str) (hp : PartOk (pk, pv)) (hk : KeysOk st) :
    Returns KeysOk (optPart st pk pv) := by
  unfold optPart
  refine (last!_safe (k := pk) (by have := hp.1; cases pk <;> simp_all)).returns.bind fun l _ => ?_
  split
  · simp only
    split
    · exact .ok hk
    · next hne =>
      refine (optUnquote_safe (optStar_ne_nil st hp.2)).returns.bind fun v _ => .ok ?_
      exact optStore_keys _ _ _ (fun x hx => hk x (optStar_options st pv ▸ hx)) (by intro e; rw [e] at hne; simp at hne)
  · exact (optUnquote_safe hp.2).returns.bind fun v _ => .ok (optStore_keys _ _ _ hk hp.1)

theorem parseOptionsHeader_returns (s : Str) : Returns (fun r => ∀ x ∈ r.2, x.1 ≠ []) (parseOptionsHeader s) := by
  unfold parseOptionsHeader
  generalize partition ';' s = p
  obtain ⟨v0, f, r0⟩ := p
  simp only
  split
  · exact .ok (by simp)
  · exact Returns.bind (Returns.foldlM (I := KeysOk) optFold _ _ (by intro x hx; simp at hx) fun st hst p hp =>
      optPart_returns st p.1 p.2 (optScan_parts _ (strip r0) [] (by simp) p hp) hst) fun st hst => .ok hst

theorem parseOptionsHeader_safe (s : Str) : Safe (parseOptionsHeader s) := (parseOptionsHeader_returns s).safe

theorem parseOptionsHeader_keys (s v : Str) (opts : Dict Str) (h : parseOptionsHeader s = .ok (v, opts)) :
    ∀ x ∈ opts, x.1 ≠ [] :=
  (parseOptionsHeader_returns s).of_eq h

theorem afterSemi_shrinks (s after : Str) (h : afterSemi? s = some after) : after.length < s.length := by
  unfold afterSemi? at h
  split at h
  · simp at h
  · next c r heq =>
    simp only [Option.some.injEq] at h
    have := (List.dropWhile_sublist (· != ';') (l := s)).length_le
    rw [heq] at this; simp at this
    rw [← h]; omega

/-- the text the scanner goes on with after a turn on `rest` is shorter than `rest`: the turn does not lengthen the text,
and the `;` it searched for is gone -/
theorem optStep_next_shorter {rest after : Str} (h : afterSemi? (optStep rest).1 = some after) :
    (lstrip after).length < rest.length := by
  have h1 := (optStep_spec rest).1
  have h2 := afterSemi_shrinks _ _ h
  have h3 : (lstrip after).length ≤ after.length := (List.dropWhile_sublist _).length_le
  omega

theorem optScan_fuel_irrelevant (f1 f2 : Nat) (rest : Str) (acc : List (Str × Str))
    (h1 : rest.length < f1) (h2 : rest.length < f2) : optScan f1 rest acc = optScan f2 rest acc := by
  induction f1 generalizing f2 rest acc with
  | zero => omega
  | succ f ih =>
    cases f2 with
    | zero => omega
    | succ g =>
      rw [optScan, optScan]
      have hsh := @optStep_next_shorter rest
      generalize optStep rest = sr at hsh
      obtain ⟨rest1, part⟩ := sr
      simp only at hsh ⊢
      split
      · rfl
      · next after ha => exact ih g (lstrip after) _ (by have := hsh ha; omega) (by have := hsh ha; omega)

/-- the model conses the parts on a reversed accumulator, the Python loop appends to `parts`: what is already collected can be
taken out in front (used where the translated loop is compared with the scanner) -/
theorem optScan_acc : ∀ (fuel : Nat) (rest : Str) (acc : List (Str × Str)),
    optScan fuel rest acc = acc.reverse ++ optScan fuel rest [] := by
  intro fuel
  induction fuel with
  | zero => intro rest acc; simp [optScan]
  | succ f ih =>
    intro rest acc
    rw [optScan, optScan]
    generalize optStep rest = sr
    obtain ⟨rest1, part⟩ := sr
    simp only []
    cases afterSemi? rest1 with
    | none => cases part <;> simp
    | some after =>
      cases part with
      | none => simp only []; rw [ih _ acc]
      | some p => simp only []; rw [ih _ (p :: acc), ih _ [p]]; simp

end Wz.Http
