/-
`parse_options_header` on the Content-Disposition value the multipart encoder writes
(`dispositionValue`): a name and file name free of `"`, `\` and `%22` (`NameOk`) come back unchanged
(C02): the collecting loop takes one `key="value"` at a time (`collectParts_quoted`), the assigning loop stores
it unquoted (`processParts_quoted`). On every value the model raises at most its UNMODELLED
(`parseOptionsHeader_error`, for the exceptions of C10).
-/
import WzVerif.Model.FormOptions
import WzVerif.Lemmas.Basics
namespace Wz.FormOptions
open Wz

def hasSub (pat : List Char) : List Char → Bool
  | [] => pat.isEmpty
  | c :: t => pat.isPrefixOf (c :: t) || hasSub pat t

/-- the names / filenames the multipart header syntax can carry unescaped: no double quote, no
backslash and not the literal sequence `%22` -/
def NameOk (n : List Char) : Prop :=
  '"' ∉ n ∧ '\\' ∉ n ∧ hasSub ['%', '2', '2'] n = false

instance (n : List Char) : Decidable (NameOk n) := by unfold NameOk; infer_instance

theorem replaceAll_no_sub {pat rep : List Char} (fuel : Nat) (s : List Char)
    (h : hasSub pat s = false) : replaceAll pat rep fuel s = s := by
  induction fuel generalizing s with
  | zero => rfl
  | succ fuel ih =>
    cases s with
    | nil => rfl
    | cons c t =>
      simp only [hasSub, Bool.or_eq_false_iff] at h
      simp only [replaceAll, h.1, Bool.false_eq_true, if_false]
      rw [ih t h.2]

theorem replace_no_sub {pat rep s : List Char} (h : hasSub pat s = false) :
    replace pat rep s = s := replaceAll_no_sub _ s h

theorem hasSub_of_not_mem {a b : Char} {s : List Char} (h : a ∉ s) : hasSub [a, b] s = false := by
  induction s with
  | nil => rfl
  | cons c t ih =>
    simp only [hasSub, Bool.or_eq_false_iff]
    constructor
    · have : (a == c) = false := by
        simp; intro he; subst he; exact h (by simp)
      simp [List.isPrefixOf, this]
    · exact ih (fun hm => h (by simp [hm]))

theorem unquoteValue_quoted {n : List Char} (h : NameOk n) : unquoteValue ('"' :: (n ++ ['"'])) = n := by
  rcases h with ⟨_, h2, h3⟩
  have hh : ('"' :: (n ++ ['"'])).head? = some '"' := rfl
  have hl : ('"' :: (n ++ ['"'])).getLast? = some '"' := by
    have : '"' :: (n ++ ['"']) = ('"' :: n) ++ ['"'] := rfl
    rw [this, List.getLast?_append]; simp
  have hd : (('"' :: (n ++ ['"'])).drop 1).dropLast = n := by simp
  unfold unquoteValue
  rw [hh, hl, hd]
  simp only [beq_self_eq_true, Bool.and_self, if_true]
  rw [replace_no_sub (hasSub_of_not_mem h2), replace_no_sub (hasSub_of_not_mem h2), replace_no_sub h3]

theorem closeQuote_cons (c : Char) (t : List Char) :
    closeQuote (c :: t) =
      if c == '\\' then
        match t with
        | d :: t2 =>
          if d == '\\' || d == '"' then (closeQuote t2).map fun (b, r) => (c :: d :: b, r)
          else (closeQuote t).map fun (b, r) => (c :: b, r)
        | [] => none
      else if c == '"' then some ([], t)
      else (closeQuote t).map fun (b, r) => (c :: b, r) := by
  cases t <;> rfl

theorem closeQuote_plain {n : List Char} (T : List Char) (h1 : '"' ∉ n) (h2 : '\\' ∉ n) :
    closeQuote (n ++ '"' :: T) = some (n, T) := by
  induction n with
  | nil => rw [List.nil_append, closeQuote_cons]; simp
  | cons c t ih =>
    have hc1 : (c == '"') = false := by simp; intro he; subst he; exact h1 (by simp)
    have hc2 : (c == '\\') = false := by simp; intro he; subst he; exact h2 (by simp)
    have ih' := ih (fun hm => h1 (by simp [hm])) (fun hm => h2 (by simp [hm]))
    rw [List.cons_append, closeQuote_cons]
    simp only [hc1, hc2, Bool.false_eq_true, if_false, ih']
    rfl

/-- one iteration of the collecting loop on `key="n"` followed by `T` -/
theorem collectParts_quoted {K n : List Char} (T : List Char) (fuel : Nat) (hK : ∀ c ∈ K, isTokenCh c = true)
    (hKne : K ≠ []) (hn : NameOk n) :
    collectParts (fuel + 1) (K ++ '=' :: '"' :: n ++ '"' :: T) =
      match afterSemi T with
      | none => [(lowerAscii K, '"' :: n ++ ['"'])]
      | some r => (lowerAscii K, '"' :: n ++ ['"']) :: collectParts fuel (lstrip r) := by
  obtain ⟨h1, h2⟩ := takeWhile_append_stop (b := '=' :: ('"' :: n ++ '"' :: T)) hK (by intro c hc; cases hc; decide)
  have hq : isTokenCh '"' = false := by decide
  have htok : ('"' :: n ++ '"' :: T).takeWhile isTokenCh = [] := by simp [hq]
  have hcq := closeQuote_plain T hn.1 hn.2.1
  cases K with
  | nil => exact absurd rfl hKne
  | cons k0 K' =>
    have e1 : ((k0 :: K') ++ '=' :: '"' :: n ++ '"' :: T) = (k0 :: K') ++ '=' :: ('"' :: n ++ '"' :: T) := by simp
    rw [e1]
    simp only [collectParts, h1, h2, htok, List.isEmpty_nil, Bool.not_true, Bool.false_eq_true, if_false]
    have e2 : ('"' :: n ++ '"' :: T) = '"' :: (n ++ '"' :: T) := rfl
    rw [e2]
    simp only [hcq]
    cases afterSemi T with
    | none => rfl
    | some r => rfl

def kFormData : List Char := ['f', 'o', 'r', 'm', '-', 'd', 'a', 't', 'a']
def kName : List Char := ['n', 'a', 'm', 'e']
def kFilename : List Char := ['f', 'i', 'l', 'e', 'n', 'a', 'm', 'e']

/-- `form-data; name="n"` followed by `; filename="f"` when there is a filename -/
def dispositionValue (n : List Char) (f : Option (List Char)) : List Char :=
  kFormData ++ ';' :: ' ' :: (kName ++ '=' :: '"' :: n ++ '"' ::
    (match f with
     | none => []
     | some f => ';' :: ' ' :: (kFilename ++ '=' :: '"' :: f ++ ['"'])))

/-- the section after the first `;`, stripped -/
def dispositionRest (n : List Char) (f : Option (List Char)) : List Char :=
  kName ++ '=' :: '"' :: n ++ '"' ::
    (match f with
     | none => []
     | some f => ';' :: ' ' :: (kFilename ++ '=' :: '"' :: f ++ ['"']))

theorem dispositionValue_eq (n : List Char) (f : Option (List Char)) :
    dispositionValue n f = kFormData ++ ';' :: ' ' :: dispositionRest n f := rfl

theorem dispositionRest_last (n : List Char) (f : Option (List Char)) :
    ∃ xs, dispositionRest n f = xs ++ ['"'] := by
  cases f with
  | none => exact ⟨kName ++ '=' :: '"' :: n, by simp [dispositionRest]⟩
  | some f =>
    exact ⟨kName ++ '=' :: '"' :: n ++ '"' :: ';' :: ' ' :: (kFilename ++ '=' :: '"' :: f), by
      simp [dispositionRest]⟩

theorem disposition_split (n : List Char) (f : Option (List Char)) :
    Py.strip ((dispositionValue n f).takeWhile (· != ';')) = kFormData ∧
    Py.strip (((dispositionValue n f).dropWhile (· != ';')).drop 1) = dispositionRest n f := by
  have hall : ∀ c ∈ kFormData, (c != ';') = true := by decide
  have hsemi : ((';' : Char) != ';') = false := by decide
  rw [dispositionValue_eq, List.takeWhile_append_of_pos hall, List.dropWhile_append_of_pos hall]
  simp only [List.takeWhile, List.dropWhile, hsemi, List.append_nil, List.drop_succ_cons, List.drop_zero]
  refine ⟨by decide, ?_⟩
  -- the section starts with `n` of `name` and ends with a quote: only the leading space goes
  obtain ⟨xs, hxs⟩ := dispositionRest_last n f
  refine strip_space_of_ends (fun c hc => ?_) (fun c hc => ?_)
  · cases hc; decide
  · rw [hxs, List.getLast?_concat] at hc; cases hc; decide

/-- a quoted value under a plain key (no `*`, not a continuation) is stored unquoted -/
theorem processParts_quoted {k n : List Char} (t o : List (List Char × List Char))
    (hs : (k.getLast? == some '*') = false) (hc : continuationKey k = none) (hn : NameOk n) :
    processParts ((k, '"' :: (n ++ ['"'])) :: t) o = processParts t (assign k n o) := by
  simp only [processParts, hs, hc, unquoteValue_quoted hn, Bool.false_eq_true, if_false]

theorem kName_token : ∀ c ∈ kName, isTokenCh c = true := by decide
theorem kFilename_token : ∀ c ∈ kFilename, isTokenCh c = true := by decide

def filenameOpt : Option (List Char) → List (List Char × List Char)
  | none => []
  | some x => [(kFilename, x)]

theorem collectParts_dispositionRest (n : List Char) (f : Option (List Char)) (hn : NameOk n)
    (hf : ∀ x, f = some x → NameOk x) :
    collectParts ((dispositionRest n f).length + 1) (dispositionRest n f) =
      (kName, '"' :: (n ++ ['"'])) :: (filenameOpt f).map fun kv => (kv.1, '"' :: (kv.2 ++ ['"'])) := by
  cases f with
  | none =>
    have := collectParts_quoted (K := kName) (n := n) [] (dispositionRest n none).length kName_token
      (by decide) hn
    simpa [dispositionRest, afterSemi, lowerAscii, kName, filenameOpt] using this
  | some x =>
    rw [show (dispositionRest n (some x)).length + 1 = ((dispositionRest n (some x)).length - 1) + 2 by
      simp [dispositionRest, kName]]
    generalize (dispositionRest n (some x)).length - 1 = fuel
    have s1 := collectParts_quoted (K := kName) (n := n)
      (';' :: ' ' :: (kFilename ++ '=' :: '"' :: x ++ ['"'])) (fuel + 1) kName_token (by decide) hn
    have s2 := collectParts_quoted (K := kFilename) (n := x) [] fuel kFilename_token (by decide) (hf x rfl)
    have hls : lstrip (' ' :: (kFilename ++ '=' :: '"' :: x ++ ['"'])) =
        kFilename ++ '=' :: '"' :: x ++ '"' :: [] := by
      simp [lstrip, List.dropWhile, show Py.isSpace ' ' = true by decide, kFilename,
        show Py.isSpace 'f' = false by decide]
    simp only [afterSemi, beq_self_eq_true, if_true, hls, show lowerAscii kName = kName by decide] at s1
    simp only [afterSemi, show lowerAscii kFilename = kFilename by decide] at s2
    rw [s2] at s1
    simpa [dispositionRest, filenameOpt] using s1

theorem parseOptions_disposition_lemma (n : List Char) (f : Option (List Char)) (hn : NameOk n)
    (hf : ∀ x, f = some x → NameOk x) :
    parseOptionsHeader (dispositionValue n f) = .ok (kFormData, (kName, n) :: filenameOpt f) := by
  rcases disposition_split n f with ⟨h1, h2⟩
  unfold parseOptionsHeader
  simp only [h1, h2]
  have hne1 : kFormData.isEmpty = false := by decide
  have hne2 : (dispositionRest n f).isEmpty = false := by simp [dispositionRest, kName]
  simp only [hne1, hne2, Bool.or_self, Bool.false_eq_true, if_false]
  rw [collectParts_dispositionRest n f hn hf, processParts_quoted _ _ (by decide) (by decide) hn]
  cases f with
  | none => rfl
  | some x =>
    simp only [filenameOpt, List.map]
    rw [processParts_quoted _ _ (by decide) (by decide) (hf x rfl)]
    rfl

theorem processParts_error {ps opts : List (List Char × List Char)} {e : String}
    (h : processParts ps opts = .error e) : e = "UNMODELLED" := by
  induction ps generalizing opts with
  | nil => simp [processParts] at h
  | cons p t ih =>
    rcases p with ⟨pk, pv⟩
    simp only [processParts] at h
    split at h
    · simp at h; exact h.symm
    · split at h
      · split at h
        · exact ih h
        · exact ih h
      · exact ih h

theorem parseOptionsHeader_error {v : List Char} {e : String}
    (h : parseOptionsHeader v = .error e) : e = "UNMODELLED" := by
  unfold parseOptionsHeader at h
  simp only at h
  split at h
  · simp at h
  · cases hp : processParts (FormOptions.collectParts _ _) [] with
    | ok o => rw [hp] at h; simp at h
    | error e' => rw [hp] at h; simp at h; subst h; exact processParts_error hp

end Wz.FormOptions
