/-
PyFnsEq_Decoder — what the comparison of three methods of `werkzeug.sansio.multipart.MultipartDecoder`
(`next_event`, `_parse_headers`, `_parse_data`) *as regenerated from werkzeug's source* by `tools/py2lean.py`
(`Gen/PyFns_Decoder.lean`, rewritten on every check run) with the hand-written model of `Model/Multipart.lean` is
stated with. The equalities themselves are Props/C01T2.lean; this file holds the definitions in their statements
(`dataCutG`, `toSt`, `raisedSt`, `view`, `nextEventT`; the header fold `hdrStep` is in Lemmas/MultipartStep.lean), the
facts relating the prelude's CPython primitives (`find`, `rfind`, slicing, slice deletion, `partition`, `strip`,
`dict.get`, integer `max` / `min` / `//`: `Util/PyPrelude.lean`) to the kernels of the model, and the PREAMBLE case of
`next_event` (`next_event_preamble`; the other states are proved where they are stated).

* The regex calls of the Python code are mapped by the hand-written glue at the top of the generated file to the
  matchers of the model (`lbLen`, `searchDelim`, `searchDelimFrom`, `searchBlankFrom`); a match object is a triple
  `(start, end, closing?)`.
* `parse_data self.state data start self.boundary self.buffer` returns
  `(new self.state, (payload, del_index, more_data) / exception)`; the model's `parseData` returns a record whose
  `next` field (`none` = more data, `some closing`) carries the delimiter decision. `next_event` always calls
  `_parse_data(self.buffer, …)`, so `data` and `self.buffer` are the same object; `dataCutG` keeps the two roles apart
  for the statement about two different arguments.
* The model's `nextEvent : Decoder → Except String (Event × Decoder)` forgets the decoder when the call raises, but the
  real method keeps every attribute it assigned before the `raise` (`del self.buffer[:headers_end]` before "Missing
  Content-Disposition header", the three assignments before `RequestEntityTooLarge`, `_search_position` before the
  final `ValueError`, …). Therefore `raisedSt d` spells out the four attributes after a raising call, and `view d` reads
  a model outcome as a translated outcome (`.ok (ev, d')` ↦ `(toSt d', .ok ev)`, `.error e` ↦ `(raisedSt d, .error e)`);
  `nextEventT d` is the translated function applied to the attributes of `d`, with
  `parse_options := FormOptions.parseOptionsHeader` (the types agree) and `self.max_parts := d.maxParts.map Int.ofNat`.
  The model's `extra` is read with `FormOptions.lookup`, the translation's with `Pre.dictGet?`: `lookup_eq_dictGet?`.

`raisedSt` is trusted to describe the real method after a raising call; the three `example`s at the end
replay such calls (buffer, state, `_search_position` and `_parts_decoded` after the raise).
-/
import WzVerif.Gen.PyFns_Decoder
import WzVerif.Lemmas.PyFns_Prelude
import WzVerif.Lemmas.MultipartStep
namespace Wz.PyFnsEq.Decoder
open Wz Wz.Multipart Wz.Gen.PyFns_Decoder

/-- `sub` occurs somewhere in `buf` (the prelude's `find` found an index) exactly when the model's
`containsSub` says so -/
theorem findIdx?_isSome (sub buf : Bytes) : (Pre.findIdx? sub buf).isSome = containsSub sub buf := by
  induction buf with
  | nil => cases sub <;> simp [Pre.findIdx?, containsSub]
  | cons a t ih =>
    simp only [Pre.findIdx?, containsSub]
    cases h : sub.isPrefixOf (a :: t) <;> simp [← ih]

/-- the test `buf.find(sub) == -1` of `_parse_data` is the negation of the model's `containsSub` -/
theorem find_neg_one (buf sub : Bytes) : (Pre.find buf sub == -1) = !containsSub sub buf := by
  rw [← findIdx?_isSome]
  unfold Pre.find
  cases h : Pre.findIdx? sub buf with
  | none => simp
  | some i =>
    have : ¬ ((i : Int) = -1) := by omega
    simp [this]

/-- `d[a:b]` for two non-negative bounds: the first `b` items without the first `a` -/
theorem slice_nonneg (d : List α) (a b : Int) (ha : 0 ≤ a) (hb : 0 ≤ b) :
    Pre.slice d (some a) (some b) = (d.take b.toNat).drop a.toNat := by
  obtain ⟨i, rfl⟩ : ∃ i : Nat, a = i := ⟨a.toNat, by omega⟩
  obtain ⟨j, rfl⟩ : ∃ j : Nat, b = j := ⟨b.toNat, by omega⟩
  rw [Pre.slice_nat]; simp

/-- `d[:n]` for a non-negative `n`: the first `n` items -/
theorem slice_none_nonneg (d : List α) (n : Int) (hn : 0 ≤ n) :
    Pre.slice d none (some n) = d.take n.toNat := by
  obtain ⟨j, rfl⟩ : ∃ j : Nat, n = j := ⟨n.toNat, by omega⟩
  rw [Pre.slice_none_nat]; simp

/-- `d[0:b]`: the first `b` items -/
theorem slice_zero_nat (d : List α) (b : Nat) :
    Pre.slice d (some 0) (some (b : Int)) = d.take b :=
  Pre.slice_nat d 0 b

/-- `del b[:n]` for a non-negative `n` leaves the list without its first `n` items -/
theorem setSlice_del_prefix (b : List α) (n : Int) (hn : 0 ≤ n) :
    Pre.setSlice b none (some n) [] = b.drop n.toNat := by
  obtain ⟨k, rfl⟩ := Int.eq_ofNat_of_zero_le hn
  exact Pre.setSlice_none_nat b [] k

/-- `del b[:]` leaves the empty list -/
theorem setSlice_del_all (b : List α) : Pre.setSlice b none none [] = [] := by
  simp [Pre.setSlice]

theorem rfindIdx?_nil_of_ne {sub : Bytes} (h : sub ≠ []) : Pre.rfindIdx? sub ([] : Bytes) = none := by
  cases sub with
  | nil => exact absurd rfl h
  | cons x t => simp [Pre.rfindIdx?]

/-- the model's `rfindFrom sub buf i start` (`buf` is the part of the buffer that starts at index `i`,
occurrences before `start` do not count) in terms of the prelude's plain `rfind` on the rest of the
buffer from `start` on -/
theorem rfindFrom_model_eq (sub : Bytes) (hs : sub ≠ []) (buf : Bytes) (i start : Nat) :
    rfindFrom sub buf i start =
      (Pre.rfindIdx? sub (buf.drop (start - i))).map (· + max i start) := by
  induction buf generalizing i with
  | nil => simp [rfindFrom, rfindIdx?_nil_of_ne hs]
  | cons a t ih =>
    unfold rfindFrom
    rw [ih (i + 1)]
    by_cases hle : start ≤ i
    · have e0 : start - i = 0 := by omega
      have e1 : start - (i + 1) = 0 := by omega
      have m0 : max i start = i := by omega
      have m1 : max (i + 1) start = i + 1 := by omega
      rw [e0, e1, m0, m1]
      simp only [List.drop_zero, Pre.rfindIdx?]
      cases h : Pre.rfindIdx? sub t with
      | some j => simp; omega
      | none =>
        cases hp : sub.isPrefixOf (a :: t) <;> simp [hle]
    · obtain ⟨k, hk⟩ : ∃ k, start - i = k + 1 := ⟨start - i - 1, by omega⟩
      have e1 : start - (i + 1) = k := by omega
      have m0 : max i start = start := by omega
      have m1 : max (i + 1) start = start := by omega
      rw [hk, e1, m0, m1, List.drop_succ_cons]
      cases h : Pre.rfindIdx? sub (t.drop k) with
      | some j => simp
      | none => simp [hle]

/-- `buf.rfind(sub, start)` for a non-empty `sub` and a non-negative `start` is the model's
`rfindFrom sub buf 0 start` (with -1 for "not found") -/
theorem rfindFrom_eq (buf sub : Bytes) (hs : sub ≠ []) (start : Int) (h0 : 0 ≤ start) :
    Pre.rfindFrom buf sub start =
      match rfindFrom sub buf 0 start.toNat with
      | some p => (p : Int)
      | none => -1 := by
  rw [rfindFrom_model_eq sub hs]
  unfold Pre.rfindFrom
  have hn : ¬ (start < 0) := by omega
  simp only [hn, if_false, Nat.sub_zero, Nat.zero_max]
  by_cases hgt : start > (buf.length : Int)
  · have : buf.drop start.toNat = [] := List.drop_eq_nil_of_le (by omega)
    simp [hgt, this, rfindIdx?_nil_of_ne hs]
  · simp only [hgt, if_false]
    cases Pre.rfindIdx? sub (buf.drop start.toNat) with
    | none => rfl
    | some j => simp; omega

/-- `name, _, value = s.partition(":")`: `name` and `value` are the two components of the model's
`partitionColon s` -/
theorem partition_colon (s : Pre.Str) :
    (Pre.partition s [':']).1 = (partitionColon s).1 ∧
    (Pre.partition s [':']).2.2 = (partitionColon s).2 := by
  unfold partitionColon
  rcases split_at_first ':' s with ⟨h1, h2, h3⟩ | ⟨pre, post, h1, h2, h3, h4⟩
  · simp [Pre.partition, Pre.findIdx?_singleton_not_mem ':' s h1, h2, h3]
  · rw [h3, h4, h1, Pre.partition_append ':' pre post h2]
    exact ⟨rfl, rfl⟩

/-- the prelude's `str.strip()` is the `Py.strip` that `parseHeaders` applies to name and value -/
theorem strip_eq (s : Pre.Str) : Pre.strip s = Py.strip s := rfl

/-- `max(0, a - b - c)` on Python integers is the truncated subtraction of the model -/
theorem max_zero_sub (a b c : Nat) :
    max (0 : Int) (((a : Int) - (b : Int)) - (c : Int)) = ((a - b - c : Nat) : Int) := by
  omega

/-- `max(0, a - c)` on Python integers is the truncated subtraction of the model -/
theorem max_zero_sub1 (a c : Nat) :
    max (0 : Int) ((a : Int) - (c : Int)) = ((a - c : Nat) : Int) := by
  omega

/-- `(a + b) // 2` on non-negative Python integers is the division of the model -/
theorem fdiv_two_nat (a b : Nat) : Int.fdiv ((a : Int) + (b : Int)) 2 = (((a + b) / 2 : Nat) : Int) := by
  rw [Int.fdiv_eq_ediv_of_nonneg _ (by omega)]
  omega

/-- `extra.get(k)` on the list of pairs of the translation is the model's `FormOptions.lookup` -/
theorem lookup_eq_dictGet? (k : List Char) (l : List (List Char × List Char)) :
    Pre.dictGet? l k = FormOptions.lookup k l := by
  induction l with
  | nil => rfl
  | cons p t ih =>
    rcases p with ⟨k', v⟩
    unfold Pre.dictGet? at ih ⊢
    simp only [List.find?_cons, FormOptions.lookup]
    cases h : k' == k <;> simp [ih]

theorem nameKey : "name".toList = ['n', 'a', 'm', 'e'] := String.toList_ofList

theorem filenameKey : "filename".toList = ['f', 'i', 'l', 'e', 'n', 'a', 'm', 'e'] := String.toList_ofList

/-- `dataCut` of the model with the two roles of the buffer kept apart: `buf` (`self.buffer`) is only
asked whether it contains `--boundary`, everything else is computed on `data` -/
def dataCutG (bnd data buf : Bytes) : Nat × Nat × Option Bool :=
  if !containsSub (45 :: 45 :: bnd) buf then
    let k := lastNewline data
    if data.length - k > bnd.length + 2 + 1 then (data.length, data.length, none) else (k, k, none)
  else
    match searchDelim bnd false data with
    | some (s, e, f) => (s, e, some f)
    | none => let k := lastNewline data; (k, k, none)

theorem dataCutG_self (bnd buf : Bytes) : dataCutG bnd buf buf = dataCut bnd buf := rfl

theorem parseData_ok {bnd buf : Bytes} {start : Bool} {r : DataRes} (h : parseData bnd buf start = .ok r) :
    r.delIndex = (dataCut bnd buf).2.1 ∧ r.next = (dataCut bnd buf).2.2 := by
  unfold parseData at h
  by_cases hb : (start && (if start then lbLen buf else 0) == 0) = true
  · simp [hb] at h
  · simp [hb] at h
    subst h
    exact ⟨rfl, rfl⟩

theorem parseData_next_some {bnd buf : Bytes} {start : Bool} {r : DataRes} {f : Bool}
    (h : parseData bnd buf start = .ok r) (hn : r.next = some f) : 0 < r.delIndex := by
  have ⟨h1, h2⟩ := parseData_ok h
  rw [h1]; exact (dataCut_facts bnd buf).2.2 (by rw [← h2, hn]; rfl)

/-- the four attributes `next_event` assigns: `(buffer, state, _search_position, _parts_decoded)` -/
def toSt (d : Decoder) : Bytes × State × Int × Int :=
  (d.buffer, d.state, (d.searchPos : Int), (d.partsDecoded : Int))

/-- the four attributes after a call of `next_event` that raised: every assignment made before the
`raise` is kept.
* PREAMBLE (only the final `ValueError` is possible): `_search_position` was updated;
* PART: nothing changed when no blank line was found except `_search_position`, nothing at all when
  `_parse_headers` raised; the header block was deleted from the buffer when Content-Disposition is
  missing or `parse_options_header` raised; for `RequestEntityTooLarge` also `state`,
  `_search_position` and `_parts_decoded` were assigned;
* DATA (the final `ValueError`, reached with an empty payload): `del self.buffer[:del_index]` ran;
* DATA_START, EPILOGUE, COMPLETE: nothing changed. -/
def raisedSt (d : Decoder) : Bytes × State × Int × Int :=
  match d.state with
  | .preamble =>
    (d.buffer, .preamble, (nextSearchPos d.boundary d.buffer d.searchPos : Nat), (d.partsDecoded : Int))
  | .part =>
    match searchBlankFrom d.searchPos d.buffer with
    | none => (d.buffer, .part, ((d.buffer.length - searchExtra : Nat) : Int), (d.partsDecoded : Int))
    | some (s, e) =>
      match parseHeaders (d.buffer.take s) with
      | .error _ => toSt d
      | .ok headers =>
        let buf' := d.buffer.drop ((s + e) / 2)
        match headerGet "content-disposition".toList headers with
        | none => (buf', .part, (d.searchPos : Int), (d.partsDecoded : Int))
        | some cd =>
          match FormOptions.parseOptionsHeader cd with
          | .error _ => (buf', .part, (d.searchPos : Int), (d.partsDecoded : Int))
          | .ok _ => (buf', .dataStart, 0, (d.partsDecoded : Int) + 1)
  | .data =>
    (d.buffer.drop (dataCut d.boundary d.buffer).2.1, .data, (d.searchPos : Int), (d.partsDecoded : Int))
  | _ => toSt d

/-- a model outcome read as an outcome of the translated `next_event` called on the decoder `d`:
the attributes after the call and the event / exception -/
def view (d : Decoder) : Except String (Event × Decoder) → (Bytes × State × Int × Int) × Except String Event
  | .ok (ev, d') => (toSt d', .ok ev)
  | .error e => (raisedSt d, .error e)

theorem view_ok_iff {d : Decoder} {r : Except String (Event × Decoder)} {ev : Event} :
    (view d r).2 = .ok ev ↔ ∃ d', r = .ok (ev, d') := by
  cases r with
  | error e => exact ⟨fun h => (by cases h), fun ⟨_, h⟩ => (by cases h)⟩
  | ok p => obtain ⟨ev', d'⟩ := p; exact ⟨fun h => (by cases h; exact ⟨d', rfl⟩), fun ⟨_, h⟩ => (by cases h; rfl)⟩

theorem raisedSt_buffer_le (d : Decoder) : (raisedSt d).1.length ≤ d.buffer.length := by
  unfold raisedSt
  repeat' split
  all_goals simp [toSt]

/-- the translated `next_event` called on a decoder whose attributes are those of `d`, with
`parse_options_header` read as the model `FormOptions.parseOptionsHeader` -/
def nextEventT (d : Decoder) : (Bytes × State × Int × Int) × Except String Event :=
  next_event FormOptions.parseOptionsHeader d.buffer d.state (d.searchPos : Int) (d.partsDecoded : Int)
    d.boundary d.complete (d.maxParts.map Int.ofNat)

/-- the `max` / `rfind` / `min` computation of `_search_position` is the model's `nextSearchPos` -/
theorem nextSearchPos_int (bnd buf : Bytes) (sp : Nat) :
    (if (!(Pre.rfindFrom buf ([45, 45] ++ bnd) sp == -1)) = true then
        min (max 0 (Int.ofNat buf.length - Int.ofNat bnd.length - (searchExtra : Nat)))
          (max 0 (Pre.rfindFrom buf ([45, 45] ++ bnd) sp - 2))
      else max 0 (Int.ofNat buf.length - Int.ofNat bnd.length - (searchExtra : Nat))) =
      (nextSearchPos bnd buf sp : Int) := by
  have hr := rfindFrom_eq buf (45 :: 45 :: bnd) (by simp) (sp : Int) (by omega)
  simp only [Int.toNat_natCast] at hr
  unfold nextSearchPos
  simp only [List.cons_append, List.nil_append, Int.ofNat_eq_natCast, hr]
  cases rfindFrom (45 :: 45 :: bnd) buf 0 sp with
  | none =>
    simp only [beq_self_eq_true, Bool.not_true, Bool.false_eq_true, if_false, max_zero_sub]
  | some p =>
    have hne : ((p : Int) == -1) = false := by rw [beq_eq_false_iff_ne]; omega
    simp only [hne, Bool.not_false, if_true, max_zero_sub]
    generalize buf.length - bnd.length - searchExtra = a
    omega

theorem next_event_preamble (d : Decoder) (hs : d.state = .preamble) :
    nextEventT d = view d (nextEvent d) := by
  rcases d with ⟨bnd, buf, st, cpl, sp, pd, mm, mp⟩
  simp only at hs
  subst hs
  unfold nextEventT next_event nextEvent step
  simp only [isNeedData, preambleReSearch, Int.toNat_natCast]
  cases h : searchDelimFrom bnd true sp buf with
  | none =>
    simp only [Option.map_none]
    have hsp := nextSearchPos_int bnd buf sp
    by_cases hc : (!Pre.rfindFrom buf ([45, 45] ++ bnd) ↑sp == -1) = true
    · rw [if_pos hc] at hsp ⊢; rw [hsp]; cases cpl <;> rfl
    · rw [if_neg hc] at hsp ⊢; rw [hsp]; cases cpl <;> rfl
  | some r =>
    rcases r with ⟨s, e, f⟩
    cases f <;>
      simp [mpClosing, mpEnd, view, toSt, afterDelim, Pre.slice_none_nat,
        setSlice_del_prefix _ _ (Int.natCast_nonneg _)]

/-- state PART, buffer `b"X\r\n\r\na"`, three parts decoded: `ValueError("Missing Content-Disposition
header")` is raised after `del self.buffer[:headers_end]` - the buffer is `b"\r\na"` afterwards
(real code: the same) -/
example :
    let r := next_event FormOptions.parseOptionsHeader [88, 13, 10, 13, 10, 97] .part 0 3 [98] false none
    r.1 = ([13, 10, 97], .part, 0, 3) ∧ r.2.toBool = false := by decide +kernel

/-- state PREAMBLE, buffer `b"x" * 12`, boundary `b"b"`, input complete: the final `ValueError` is
raised after `_search_position` became `12 - 1 - 8 = 3` (real code: the same) -/
example :
    let r := next_event FormOptions.parseOptionsHeader (List.replicate 12 120) .preamble 0 0 [98] true none
    r.1 = (List.replicate 12 120, .preamble, 3, 0) ∧ r.2.toBool = false := by decide +kernel

/-- state PART, buffer `b"content-disposition: form-data; name=a\r\n\r\nz"`, `max_parts = 0`:
`RequestEntityTooLarge` is raised after the header block was deleted, the state became DATA_START and
`_parts_decoded` became 1 (real code: the same) -/
example :
    let r := next_event FormOptions.parseOptionsHeader
      [99, 111, 110, 116, 101, 110, 116, 45, 100, 105, 115, 112, 111, 115, 105, 116, 105, 111, 110, 58, 32,
       102, 111, 114, 109, 45, 100, 97, 116, 97, 59, 32, 110, 97, 109, 101, 61, 97, 13, 10, 13, 10, 122]
      .part 0 0 [98] false (some 0)
    r.1 = ([13, 10, 122], .dataStart, 0, 1) ∧ r.2.toBool = false := by decide +kernel

end Wz.PyFnsEq.Decoder
