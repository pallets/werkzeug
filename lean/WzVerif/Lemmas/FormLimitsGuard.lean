/-
C10, request level: limits are pure guards over every access history. The request without limits is a
function of the request with limits (`freeW`: the raw input in place of a streaming maximum); while the body
fits and no access answers RequestEntityTooLarge, every operation of the access tree commutes with it
(`Guard`: refused under limits, or the same result in corresponding states) — the invariant `Inv` of the
request state supplies what the streams need (`ssim_of_sok`).
-/
import WzVerif.Lemmas.FormLimitsSim
import WzVerif.Lemmas.FormLimitsRequest
namespace Wz.FormReq
open Wz Wz.Multipart

/-- the request of the pure-guard statements: what `c` is compared with -/
def free (c : Cfg) : Cfg := { c with mcl := none, mm := none, mp := none }

/-- on a server-terminated input the body stays strictly below the streaming maximum (at the maximum
the parser's last read is refused; above it `read()` truncates silently: F09b / F10b) -/
def Fits (c : Cfg) (body : Bytes) : Prop :=
  c.terminated = true → ∀ m, c.mcl = some m → body.length < m

/-- the stream of the limited request and the stream of the free request deliver the same bytes -/
def SSim (s s' : Strm) (i : Bytes) : Prop :=
  (s = s' ∧ NoMax s) ∨ ∃ m p, s = .limited m p true ∧ s' = .raw ∧ p + i.length < m

theorem ssim_avail {s s' : Strm} {i : Bytes} (h : SSim s s' i) : avail s i = avail s' i := by
  rcases h with ⟨rfl, _⟩ | ⟨m, p, rfl, rfl, hlt⟩
  · rfl
  · simp only [avail]
    exact List.take_of_length_le (by omega)

theorem ssim_endErr {s s' : Strm} {i : Bytes} (h : SSim s s' i) : endErr s i = endErr s' i := by
  rcases h with ⟨rfl, _⟩ | ⟨m, p, rfl, rfl, hlt⟩
  · rfl
  · have : ¬ (m - p ≤ i.length) := by omega
    simp [endErr, this]

theorem ssim_advance {s s' : Strm} {i : Bytes} {k : Nat} (h : SSim s s' i) (hk : k ≤ (avail s i).length) :
    (advance s i k).2 = (advance s' i k).2 ∧ SSim (advance s i k).1 (advance s' i k).1 (advance s i k).2 := by
  rcases h with ⟨rfl, hn⟩ | ⟨m, p, rfl, rfl, hlt⟩
  · refine ⟨rfl, Or.inl ⟨rfl, ?_⟩⟩
    cases s with
    | limited l p mx => cases mx <;> simp [advance, NoMax] at hn ⊢
    | _ => simp [advance, NoMax]
  · simp only [avail, List.length_take] at hk
    refine ⟨rfl, Or.inr ⟨m, p + k, rfl, rfl, ?_⟩⟩
    simp only [advance, List.length_drop]
    omega

theorem ssim_noMax {s s' : Strm} {i : Bytes} (h : SSim s s' i) :
    (NoMax s ∨ endErr s i = none) ∧ (NoMax s' ∨ endErr s' i = none) := by
  rcases h with ⟨rfl, hn⟩ | ⟨m, p, rfl, rfl, hlt⟩
  · exact ⟨Or.inl hn, Or.inl hn⟩
  · have : ¬ m - p ≤ i.length := by omega
    exact ⟨Or.inr (by simp [endErr, this]), Or.inl trivial⟩

theorem ssim_readAll {s s' : Strm} {i : Bytes} (h : SSim s s' i) :
    (sReadAll s i).1 = (sReadAll s' i).1 ∧ (sReadAll s i).2.2 = (sReadAll s' i).2.2 ∧
      SSim (sReadAll s i).2.1 (sReadAll s' i).2.1 (sReadAll s i).2.2 := by
  have hadv := ssim_advance h (Nat.le_refl (avail s i).length)
  rw [sReadAll_eq i (ssim_noMax h).1, sReadAll_eq i (ssim_noMax h).2, ← ssim_endErr h, ← ssim_avail h]
  exact ⟨rfl, hadv.1, hadv.2⟩

/-- outcome of a parse function under limits vs. without: RequestEntityTooLarge, or the same outcome
with the same bytes consumed -/
def PSim (x x' : Except String FormRes × Strm × Bytes) : Prop :=
  x.1 = .error R413 ∨ (x.1 = x'.1 ∧ x.2.2 = x'.2.2 ∧ SSim x.2.1 x'.2.1 x.2.2)

theorem parseMultipartS_sim (bnd : Bytes) (mm mp : Option Nat) {s s' : Strm} {i : Bytes} (h : SSim s s' i) :
    PSim (parseMultipartS bnd mm mp s i) (parseMultipartS bnd none none s' i) := by
  have ha := ssim_avail h
  have he := ssim_endErr h
  unfold parseMultipartS
  simp only []
  rw [← ha, ← he]
  have hu : unl (mkDecoder bnd mm mp) = mkDecoder bnd none none := rfl
  have hle : ∀ k, lenSum ((readChunks bufferSize (avail s i).length [] (avail s i)).take k) ≤ (avail s i).length :=
    lenSum_take_readChunks_le (avail s i)
  generalize readChunks bufferSize (avail s i).length [] (avail s i) = L at hle ⊢
  cases hee : endErr s i with
  | none =>
    simp only
    rcases formLoopN_unl (m := mm) (L.map some ++ [none])
      (mkDecoder bnd mm mp) (st := {}) (st1 := {}) ⟨rfl, rfl, rfl⟩ with h1 | ⟨h1, h2⟩
    · left; simp [h1, Except.map]
    · right
      rw [hu] at h1 h2
      rw [← h2]
      have hadv := ssim_advance h (hle (formLoopN mm (mkDecoder bnd mm mp) {} (L.map some ++ [none])).2)
      exact ⟨esim_map h1, hadv.1, hadv.2⟩
  | some e =>
    simp only
    rcases formLoopN_unl (m := mm) (L.map some)
      (mkDecoder bnd mm mp) (st := {}) (st1 := {}) ⟨rfl, rfl, rfl⟩ with h1 | ⟨h1, h2⟩
    · left; simp [h1]
    · right
      rw [hu] at h1 h2
      rw [← h2]
      rcases h1.cases with ⟨e1, hr, hr'⟩ | ⟨a, b, hr, hr', _⟩ <;> rw [hr, hr']
      · have hadv := ssim_advance h (hle (formLoopN mm (mkDecoder bnd mm mp) {} (L.map some)).2)
        exact ⟨rfl, hadv.1, hadv.2⟩
      · have hadv := ssim_advance h (Nat.le_refl (avail s i).length)
        exact ⟨rfl, hadv.1, hadv.2⟩

theorem parseUrlencodedS_sim (mm cl : Option Nat) {s s' : Strm} {i : Bytes} (h : SSim s s' i) :
    PSim (parseUrlencodedS mm cl s i) (parseUrlencodedS none cl s' i) := by
  have hra := ssim_readAll h
  cases mm with
  | none =>
    right
    unfold parseUrlencodedS
    simp only []
    rcases h1 : sReadAll s i with ⟨r1, s1, i1⟩
    rcases h2 : sReadAll s' i with ⟨r2, s2, i2⟩
    rw [h1, h2] at hra
    simp only at hra
    rcases hra with ⟨rfl, rfl, hs⟩
    cases r1 with
    | error e => exact ⟨rfl, rfl, hs⟩
    | ok d => exact ⟨rfl, rfl, hs⟩
  | some m =>
    have ha := ssim_avail h
    have he := ssim_endErr h
    -- the free side reads everything with `stream.read()`
    have hfree : parseUrlencodedS none cl s' i =
        (match (sReadAll s' i).1 with
          | .error e => .error e
          | .ok data =>
            match utf8Dec? data with
            | none => .error "UnicodeDecodeError"
            | some t => .ok ((Urlencode.parseQsl true t).map (fun (k, v) => (some k, v)), []),
         (sReadAll s' i).2.1, (sReadAll s' i).2.2) := by
      unfold parseUrlencodedS
      simp only []
      rcases sReadAll s' i with ⟨r2, s2, i2⟩
      cases r2 <;> rfl
    rw [hfree]
    unfold parseUrlencodedS
    simp only []
    split
    · left; rfl
    · split
      · left; rfl
      · right
        -- what `read()` does on the limited side's stream, transported to the free side
        have hlim := sReadAll_eq i (ssim_noMax h).1
        rw [← hra.1, ← hra.2.1, hlim]
        have hadv := ssim_advance h (Nat.le_refl (avail s i).length)
        rw [hlim] at hra
        cases hee : endErr s i with
        | some e => exact ⟨rfl, rfl, by simpa [hee] using hra.2.2⟩
        | none => exact ⟨rfl, rfl, by simpa [hee] using hra.2.2⟩

theorem psim_silent {x x' : Except String FormRes × Strm × Bytes} (h : PSim x x') :
    PSim (silentRes x) (silentRes x') := by
  unfold PSim
  rw [silentRes_snd, silentRes_snd, silentRes_fst, silentRes_fst]
  rcases h with h | ⟨h1, h2, h3⟩
  · left
    rw [h]
    have : isValueError R413 = false := by decide
    simp [silence, this]
  · right
    exact ⟨by rw [h1], h2, h3⟩

theorem parseDispatch_sim (mime : Mime) (mm mp cl : Option Nat) {s s' : Strm} {i : Bytes} (h : SSim s s' i) :
    PSim (parseDispatch mime mm mp cl s i) (parseDispatch mime none none cl s' i) := by
  unfold parseDispatch
  cases mime with
  | multipart bnd =>
    simp only
    split
    · right; exact ⟨rfl, rfl, h⟩
    · exact psim_silent (parseMultipartS_sim bnd mm mp h)
  | urlencoded => exact psim_silent (parseUrlencodedS_sim mm cl h)
  | other => right; exact ⟨rfl, rfl, h⟩
  | absent => right; exact ⟨rfl, rfl, h⟩

/-- the stream the request without limits holds where the limited one holds `s`: the raw input in
place of a streaming maximum -/
def freeS : Strm → Strm
  | .limited _ _ true => .raw
  | s => s

theorem ssim_free {s s' : Strm} {i : Bytes} (h : SSim s s' i) : s' = freeS s := by
  rcases h with ⟨rfl, hn⟩ | ⟨m, p, rfl, rfl, _⟩
  · cases s with
    | limited l p mx => cases mx <;> simp_all [freeS, NoMax]
    | _ => rfl
  · rfl

theorem chooseStream_free {c : Cfg} {s : Strm} (h : chooseStream c = some s) :
    chooseStream (free c) = some (freeS s) := by
  rcases c with ⟨mcl, mm, mp, mime, declared, terminated⟩
  cases mcl <;> cases declared <;> cases terminated <;>
    simp [chooseStream, free] at h ⊢ <;> (try obtain ⟨_, h⟩ := h) <;> (try subst h) <;> simp [freeS]

/-- a stream object consistent with the input delivers, while the body fits, what its counterpart
without limits delivers -/
theorem ssim_of_sok {c : Cfg} {body i : Bytes} {s : Strm} (hf : Fits c body) (h : SOk c body s i) :
    SSim s (freeS s) i := by
  cases s with
  | limited l p mx =>
    cases mx with
    | false => exact Or.inl ⟨rfl, trivial⟩
    | true =>
      obtain ⟨_, _, hc, hp, _⟩ := h
      -- a streaming maximum is only chosen for a terminated input with `max_content_length`
      have : c.terminated = true ∧ c.mcl = some l := by
        rcases c with ⟨mcl, mm, mp, mime, declared, terminated⟩
        cases mcl <;> cases declared <;> cases terminated <;> simp [chooseStream] at hc ⊢ <;>
          (try split at hc) <;> simp_all
      have := hf this.1 l this.2
      exact Or.inr ⟨l, p, rfl, rfl, by omega⟩
  | empty => exact Or.inl ⟨rfl, trivial⟩
  | raw => exact Or.inl ⟨rfl, trivial⟩
  | bio r => exact Or.inl ⟨rfl, trivial⟩

def freeCall (k : ParserCall) : ParserCall := { k with mm := none, mp := none }

/-- the state of the request without limits after the same accesses -/
def freeW (w : RS) : RS := { w with stream := w.stream.map freeS, calls := w.calls.map freeCall }

theorem callOf_free (c : Cfg) (b : Bool) : callOf (free c) b = (callOf c b).map freeCall := by
  unfold callOf
  show (if c.mime.parsed = true then _ else _) = _
  split <;> rfl

/-- outcome of the same operation on the request with limits (`r`) and without (`r'`):
RequestEntityTooLarge (`bad`, in the type of the result) under limits, or the same result with the
states still corresponding -/
def Guard {α : Type} (bad : α) (r r' : α × RS) : Prop := r.1 = bad ∨ r' = (r.1, freeW r.2)

variable {c : Cfg} {body : Bytes}

theorem getStream_free {w : RS} (hi : Inv c body w) :
    getStream c w = .error R413 ∨
      ∃ s, getStream c w = .ok (s, { w with stream := some s }) ∧
        getStream (free c) (freeW w) = .ok (freeS s, freeW { w with stream := some s }) ∧
        SOk c body s w.input := by
  refine getStream_cases (motive := fun r => r = .error R413 ∨
      ∃ s, r = .ok (s, { w with stream := some s }) ∧
        getStream (free c) (freeW w) = .ok (freeS s, freeW { w with stream := some s }) ∧
        SOk c body s w.input) c w (fun s hs => ?_) (fun s hs hc => ?_) (fun _ _ => Or.inl rfl)
  · have hw := (getStream_eq (c := c) (getStream_some hs)).symm
    exact Or.inr ⟨s, by rw [hw], by rw [hw]; exact getStream_some (by simp [freeW, hs]), sok_of_inv hs hi⟩
  · refine Or.inr ⟨s, rfl, ?_, sok_of_inv (w := { w with stream := some s }) rfl
      ((inv_stable c body).create hi hs hc)⟩
    rw [getStream_none (by simp [freeW, hs]), chooseStream_free hc]
    simp [freeW, hs]

theorem parseFrom_free (hf : Fits c body) {s : Strm} {i : Bytes} (h : SOk c body s i) :
    (parseFrom c s i).1 = .error R413 ∨
      parseFrom (free c) (freeS s) i = ((parseFrom c s i).1, freeS (parseFrom c s i).2.1, (parseFrom c s i).2.2) := by
  rcases parseDispatch_sim c.mime c.mm c.mp c.declared (ssim_of_sok hf h) with hp | ⟨h1, h2, h3⟩
  · exact Or.inl hp
  · right
    show parseDispatch c.mime none none c.declared (freeS s) i = _
    rw [Prod.ext_iff, Prod.ext_iff]
    exact ⟨h1.symm, ssim_free h3, h2.symm⟩

theorem sReadAll_free (hf : Fits c body) {s : Strm} {i : Bytes} (h : SOk c body s i) :
    sReadAll (freeS s) i = ((sReadAll s i).1, freeS (sReadAll s i).2.1, (sReadAll s i).2.2) := by
  obtain ⟨h1, h2, h3⟩ := ssim_readAll (ssim_of_sok hf h)
  rw [Prod.ext_iff, Prod.ext_iff]
  exact ⟨h1.symm, ssim_free h3, h2.symm⟩

theorem loadCached_free (hf : Fits c body) {w : RS} (d : Bytes) (hi : Inv c body w) :
    Guard (some R413) (loadCached c w d) (loadCached (free c) (freeW w) d) := by
  have hb := inv_base hi
  rcases parseFrom_free hf (s := .bio d) (i := w.input) ⟨hb.1, hb.2, trivial⟩ with hp | hp
  · left; simp only [loadCached, hp]
  · right
    have hp' : parseFrom (free c) (.bio d) (freeW w).input = _ := hp
    simp only [loadCached, hp']
    cases (parseFrom c (.bio d) w.input).1 with
    | error e => simp [freeW, callOf_free]
    | ok res => simp [freeW, callOf_free]

theorem loadStream_free (hf : Fits c body) {w : RS} (hi : Inv c body w) :
    Guard (some R413) (loadStream c w) (loadStream (free c) (freeW w)) := by
  rcases getStream_free hi with hg | ⟨s, hg, hg', hs⟩
  · left; simp only [loadStream, hg]
  · rcases parseFrom_free hf hs with hp | hp
    · left; simp only [loadStream, hg, hp]
    · right
      have hp' : parseFrom (free c) (freeS s) (freeW { w with stream := some s }).input = _ := hp
      simp only [loadStream, hg, hg', hp']
      cases (parseFrom c s w.input).1 with
      | error e => simp [freeW, callOf_free]
      | ok res => simp [freeW, callOf_free]

theorem loadPlain_free {w : RS} (hi : Inv c body w) :
    Guard (some R413) (loadPlain c w) (loadPlain (free c) (freeW w)) := by
  rcases getStream_free hi with hg | ⟨s, hg, hg', _⟩
  · left; simp only [loadPlain, hg]
  · right; simp only [loadPlain, hg, hg']; rfl

theorem loadForm_free (hf : Fits c body) {w : RS} (hi : Inv c body w) :
    Guard (some R413) (loadForm c w) (loadForm (free c) (freeW w)) :=
  loadForm_cases (motive := fun r => Guard (some R413) r (loadForm (free c) (freeW w))) c w
    (fun r h => by rw [loadForm_loaded (w := freeW w) h]; exact Or.inr rfl)
    (fun d h1 h2 h3 => by rw [loadForm_cached (c := free c) (w := freeW w) h1 h2 h3]; exact loadCached_free hf d hi)
    (fun h1 h2 h3 => by rw [loadForm_stream (c := free c) (w := freeW w) h1 h2 h3]; exact loadStream_free hf hi)
    (fun h1 h2 => by rw [loadForm_plain (c := free c) (w := freeW w) h1 h2]; exact loadPlain_free hi)

theorem streamReadAll_free (hf : Fits c body) {w : RS} (hi : Inv c body w) :
    Guard (.error R413) (streamReadAll c w) (streamReadAll (free c) (freeW w)) := by
  rcases getStream_free hi with hg | ⟨s, hg, hg', hs⟩
  · left; simp only [streamReadAll, hg]
  · right
    have hr : sReadAll (freeS s) (freeW { w with stream := some s }).input = _ := sReadAll_free hf hs
    simp only [streamReadAll, hg, hg', hr]
    simp [freeW]

theorem getData_free (hf : Fits c body) (cache parse : Bool) {w : RS} (hi : Inv c body w) :
    Guard (.error R413) (getData c cache parse w) (getData (free c) cache parse (freeW w)) := by
  unfold getData
  show Guard _ _ (match w.cached with
    | some d => _
    | none => _)
  cases hcd : w.cached with
  | some d => exact Or.inr rfl
  | none =>
    simp only
    -- `_load_form_data()` first, when asked for
    have hl : Guard (some R413) (if parse then loadForm c w else (none, w))
        (if parse then loadForm (free c) (freeW w) else (none, freeW w)) := by
      cases parse with
      | true => exact loadForm_free hf hi
      | false => exact Or.inr rfl
    have hi1 : Inv c body (if parse then loadForm c w else (none, w)).2 := by
      cases parse with
      | true => exact (inv_stable c body).loadForm hi
      | false => exact hi
    rcases hl with hl | hl
    · left; simp only [hl]
    · rw [hl]
      cases he : (if parse then loadForm c w else (none, w)).1 with
      | some e => exact Or.inr rfl
      | none =>
        simp only
        rcases streamReadAll_free hf hi1 with hr | hr
        · left
          rcases hx : streamReadAll c (if parse then loadForm c w else (none, w)).2 with ⟨r, w2⟩
          rw [hx] at hr; cases (show r = .error R413 from hr); rfl
        · right
          rw [hr]
          rcases streamReadAll c (if parse then loadForm c w else (none, w)).2 with ⟨r, w2⟩
          cases r with
          | error e => rfl
          | ok dd => cases cache <;> rfl

theorem Guard.map {α β : Type} {bad : α} {r r' : α × RS} (f : α → β) (h : Guard bad r r') :
    Guard (f bad) (f r.1, r.2) (f r'.1, r'.2) := by
  rcases h with h | h
  · exact Or.inl (congrArg f h)
  · rw [h]; exact Or.inr rfl

theorem afterData_free {g : Bytes → Obs} {u : Bytes → RS → RS} {r r' : Except String Bytes × RS}
    (hu : ∀ d w', u d (freeW w') = freeW (u d w')) (h : Guard (.error R413) r r') :
    Guard (.exc R413) (afterData g u r) (afterData g u r') := by
  obtain ⟨x, w'⟩ := r
  rcases h with h | h
  · cases (show x = .error R413 from h); exact Or.inl rfl
  · rw [h]
    cases x with
    | error e => exact Or.inr rfl
    | ok d => exact Or.inr (by simp only [afterData, hu])

theorem stepOp_free (hf : Fits c body) (op : Op) {w : RS} (hi : Inv c body w) :
    Guard (.exc R413) (stepOp c w op) (stepOp (free c) (freeW w) op) := by
  cases op with
  | getData cache parse => exact (getData_free hf cache parse hi).map obsBytes
  | streamRead => exact (streamReadAll_free hf hi).map obsBytes
  | form | values | files =>
    rw [stepOp_formAccess c w rfl, stepOp_formAccess (free c) (freeW w) rfl]
    rcases loadForm_free hf hi with h | h
    · left; simp only [h]
    · right; rw [h]; rfl
  | data =>
    rw [stepOp_data, stepOp_data]
    show Guard _ _ (match w.dataProp with
      | some d => _
      | none => _)
    cases w.dataProp with
    | some d => exact Or.inr rfl
    | none => exact afterData_free (fun _ _ => rfl) (getData_free hf true true hi)
  | json cache =>
    rw [stepOp_json, stepOp_json]
    show Guard _ _ (if (cache && w.jsonDone) = true then _ else _)
    split
    · exact Or.inr rfl
    · exact afterData_free (fun _ _ => rfl) (getData_free hf cache false hi)

/-- **pure guard over histories**: as long as no access under limits answers RequestEntityTooLarge,
every access shows what it shows on the request without limits, and the two requests stay counterparts -/
theorem run_free (hf : Fits c body) (ops : List Op) : ∀ {w : RS}, Inv c body w →
    (∀ o ∈ (run c w ops).1, o ≠ .exc R413) →
    run (free c) (freeW w) ops = ((run c w ops).1, freeW (run c w ops).2) := by
  induction ops with
  | nil => intro w _ _; rfl
  | cons op t ih =>
    intro w hi hno
    simp only [run] at hno ⊢
    rcases stepOp_free hf op hi with h | h
    · exact absurd h (hno _ (by simp))
    · rw [h, ih ((inv_stable c body).stepOp op hi) (fun o ho => hno o (by simp [ho]))]

end Wz.FormReq
