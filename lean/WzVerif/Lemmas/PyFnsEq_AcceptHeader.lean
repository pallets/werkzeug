/-
PyFnsEq_AcceptHeader — `parse_accept_header` of `werkzeug.http` *as regenerated from the source* by
`tools/py2lean.py` (`Gen/PyFns_HttpOptions.lean`, rewritten on every check run) against the two
hand-written models of Accept-header parsing:
(a) C06/C07's `Http.parseAcceptHeader` (`Model/Http.lean`; quality kept as its text, range check
    `Http.qOutOfRange` = exact comparison against the IEEE rounding thresholds), and
(b) C17's `Accept.parseAcceptRaw` / `Accept.acceptItem` (`Model/Accept.lean`; quality as an exact
    decimal `Q`, own lexical layer) - the model the negotiation theorems are about.

The translation is polymorphic in the quality type `κ` (`float_of` = `float(q_str)`, `qle` = `<=`,
`qzero` / `qone` the literals); `q < 0 or q > 1` is `oor qle qzero qone q`.

The statements are in `Props/C17T3.lean`. First the loop for every quality type (one turn, the whole loop, no exception, the
fuel bound), then the two instantiations. That C17's lexical model agrees with C06's (q texts, token class,
`quote_header_value`, `dump_options_header`) is Lemmas/AcceptLexerModels.lean, which mentions no translated function.

Nothing is weakened for model (a). For model (b) the equality is relative to the hypothesis
`Accept.lexHeader v = (Http.parseListHeader v).mapM Http.parseOptionsHeader` (the C17 lexer answers
`UNSUPPORTED` for RFC 2231 `key*` parameters, so the hypothesis fails on such headers), and it is
about exact decimal comparison: model (b) - by its documented assumption - differs from CPython for
q texts inside the rounding bands (`q=1.0000000000000001`: CPython keeps the item with quality
1.0, model (b) drops it; a negative magnitude ≤ 2^-1075: CPython keeps it as -0.0, (b) drops it).
-/
import WzVerif.Props.C06T
import WzVerif.Lemmas.HttpSafeAccept
import WzVerif.Gen.PyFns_HttpOptions
import WzVerif.Lemmas.PyFnsEq_HttpOptions
import WzVerif.Lemmas.AcceptLexerModels
namespace Wz.PyFnsEq.AcceptHeader
open Wz Wz.Pre Wz.PyFnsHttp Wz.Gen.PyFns_HttpOptions

section generic
variable {κ : Type} (qle : κ → κ → Bool) (qzero qone : κ) (float_of : Str → κ)

/-- `q < 0 or q > 1`, as the translator spells it with the order `qle` and the literals: `not (0 <= q) or not (q <= 1)` -/
def oor (q : κ) : Bool := (!(qle qzero q)) || (!(qle q qone))

/-- the tail of the loop body: `if options: item = dump_options_header(item, options)`, then the pair
`(item, q)` that is appended; the only exception is the one `dump_options_header` raises -/
def finishItem (i : Str) (o : List (Str × Str)) (q : κ) : Except String (Option (Str × κ)) :=
  if o.isEmpty then .ok (some (i, q))
  else
    match Http.dumpOptionsHeader (some i) (o.map fun kv => (kv.1, some kv.2)) with
    | .ok t => .ok (some (t, q))
    | .error e => .error e

/-- what the loop body does with one item whose options are already parsed: `none` = `continue`
(the q text does not match `_q_value_re`, or the value is out of range), `some (item, q)` = appended -/
def itemOf (i : Str) (o : List (Str × Str)) : Except String (Option (Str × κ)) :=
  match Http.dictGet? o ['q'] with
  | some qs =>
    if (Http.qParts? (Py.strip qs)).isNone then .ok none
    else if oor qle qzero qone (float_of (Py.strip qs)) then .ok none
    else finishItem i (Http.dictPop o ['q']) (float_of (Py.strip qs))
  | none => finishItem i o qone

/-- the whole loop body: `parse_options_header(item)` (C06's model), then `itemOf` -/
def itemStep (item : Str) : Except String (Option (Str × κ)) :=
  match Http.parseOptionsHeader item with
  | .ok (i, o) => itemOf qle qzero qone float_of i o
  | .error e => .error e

/-- `options.pop("q")` behind `if "q" in options:` cannot raise `KeyError`: when the
membership test succeeds the translated `dict.pop` returns the value `options.get("q")` finds and
the dict without the key. -/
theorem dictPop_of_has {ν : Type} (o : List (Str × ν)) (k : Str) (h : Pre.dictHas o k = true) :
    ∃ v, Pre.dictGet? o k = some v ∧ Pre.dictPop o k = .ok (v, Pre.dictDel o k) := by
  obtain ⟨v, hv⟩ := Pre.dictGet?_of_has o k h
  exact ⟨v, hv, by rw [Pre.dictPop, hv]⟩

/-- One turn of the `for item in parse_list_header(value):` loop of `parse_accept_header`, as
translated from the current source (`parse_options_header(item)` - itself translated, with the
fuel of its `while` loops -, `"q" in options`, `options.pop("q").strip()`, `_q_value_re.fullmatch`,
`float`, the range check, `dump_options_header` - itself translated - when options remain,
`result.append`), for every quality type, order and `float_of`, and every item that fits the fuel:
the turn either leaves the function with the exception of `parse_options_header` /
`dump_options_header`, or goes on with `result` unchanged (`continue`) or extended by the one pair
`itemStep` computes. No other exception occurs: the `KeyError` arm of `options.pop("q")` is not
reachable behind `"q" in options`, and "out of fuel" does not occur. -/
theorem loop1_step (fuel : Nat) (item : Str) (rest : List Str) (result : List (Str × κ))
    (hf : item.length ≤ fuel) :
    parse_accept_header.loop1 fuel qle qzero qone float_of (item :: rest) result =
      match itemStep qle qzero qone float_of item with
      | .ok none => parse_accept_header.loop1 fuel qle qzero qone float_of rest result
      | .ok (some p) => parse_accept_header.loop1 fuel qle qzero qone float_of rest (result ++ [p])
      | .error e => .ret (.error e) := by
  rw [parse_accept_header.loop1]
  simp only [Wz.PyFnsEq.HttpOptions.parse_options_header_eq fuel item hf,
    Wz.Props.C06T.dump_options_header_eq, itemStep]
  cases hp : Http.parseOptionsHeader item with
  | error e => rfl
  | ok io =>
    obtain ⟨i, o⟩ := io
    simp only [itemOf, dictHas_eq_isSome, Pre.dictPop, qValueReFullmatch, Pre.strip, oor, finishItem]
    have e : Http.dictGet? o ['q'] = Pre.dictGet? o ['q'] := rfl
    rw [e]
    cases hq : Pre.dictGet? o ['q'] with
    | none =>
      simp only [Option.isSome_none, Bool.false_eq_true, if_false]
      by_cases ho : o.isEmpty = true
      · simp [ho]
      · simp only [ho, Bool.not_false, Bool.false_eq_true, if_true, if_false]
        cases Http.dumpOptionsHeader (some i) (o.map fun kv => (kv.1, some kv.2)) <;> rfl
    | some qs =>
      have ed : Pre.dictDel o ['q'] = Http.dictPop o ['q'] := rfl
      simp only [Option.isSome_some, if_true, ed, Option.isNone_map]
      by_cases h1 : (Http.qParts? (Py.strip qs)).isNone = true
      · simp only [h1, if_true]
      · simp only [h1, Bool.false_eq_true, if_false]
        by_cases h2 : (!qle qzero (float_of (Py.strip qs)) || !qle (float_of (Py.strip qs)) qone) = true
        · simp only [h2, if_true]
        · simp only [h2, Bool.false_eq_true, if_false]
          by_cases ho : (Http.dictPop o ['q']).isEmpty = true
          · simp [ho]
          · simp only [ho, Bool.not_false, Bool.false_eq_true, if_true, if_false]
            cases Http.dumpOptionsHeader (some i) ((Http.dictPop o ['q']).map fun kv => (kv.1, some kv.2)) <;> rfl

theorem loop1_eq (fuel : Nat) (items : List Str) : ∀ (result : List (Str × κ)),
    (∀ item ∈ items, item.length ≤ fuel) →
    parse_accept_header.loop1 fuel qle qzero qone float_of items result =
      match items.mapM (itemStep qle qzero qone float_of) with
      | .ok l => .fall (result ++ l.filterMap id)
      | .error e => .ret (.error e) := by
  intro result hf
  rw [Pre.forLoop_mapM (parse_accept_header.loop1 fuel qle qzero qone float_of) (itemStep qle qzero qone float_of) Option.toList
    (fun _ => by simp [parse_accept_header.loop1]) items ?_ result]
  · cases items.mapM (itemStep qle qzero qone float_of) <;> simp only [filterMap_id_eq_flatMap]
  intro item hi rest acc
  rw [loop1_step qle qzero qone float_of fuel item rest acc (hf item hi)]
  cases itemStep qle qzero qone float_of item with
  | error e => rfl
  | ok r => cases r <;> simp

theorem parse_accept_header_gen (fuel : Nat) (v : Str)
    (hf : ∀ item ∈ Http.parseListHeader v, item.length ≤ fuel) :
    parse_accept_header fuel qle qzero qone float_of (some v) () =
      if v.isEmpty then .ok none
      else match (Http.parseListHeader v).mapM (itemStep qle qzero qone float_of) with
        | .ok l => .ok (some (l.filterMap id))
        | .error e => .error e := by
  unfold parse_accept_header
  simp only [Wz.Props.C06T.parse_list_header_eq, loop1_eq qle qzero qone float_of fuel _ [] hf, id,
    List.nil_append]
  by_cases hv : v.isEmpty = true
  · simp [hv]
  · simp only [hv, Bool.false_eq_true, if_false]
    cases (Http.parseListHeader v).mapM (itemStep qle qzero qone float_of) <;> rfl

theorem finishItem_safe (i : Str) (o : List (Str × Str)) (q : κ) (hk : ∀ x ∈ o, x.1 ≠ []) :
    Http.Safe (finishItem i o q) := by
  unfold finishItem
  split
  · exact ⟨_, rfl⟩
  · obtain ⟨w, hw⟩ := Http.dumpOptionsHeader_safe (some i) (o.map fun kv => (kv.1, some kv.2)) (by
      intro x hx
      simp only [List.mem_map] at hx
      obtain ⟨y, hy, rfl⟩ := hx
      exact hk y hy)
    rw [hw]; exact ⟨_, rfl⟩

/-- The loop body never raises, whatever the quality type: `parse_options_header` is total on a
`str` (C07), `float` is only reached behind the regex, and `dump_options_header`'s `key[-1]` only
sees the non-empty parameter names `parse_options_header` produces (C07). -/
theorem itemStep_safe (item : Str) : Http.Safe (itemStep qle qzero qone float_of item) := by
  unfold itemStep
  obtain ⟨⟨i, o⟩, hp⟩ := Http.parseOptionsHeader_safe item
  have hk := Http.parseOptionsHeader_keys item i o hp
  rw [hp]
  simp only [itemOf]
  split
  · split
    · exact ⟨_, rfl⟩
    · split
      · exact ⟨_, rfl⟩
      · exact finishItem_safe i _ _ (fun x hx => hk x (List.mem_filter.mp hx).1)
  · exact finishItem_safe i o qone hk

/-- `parse_accept_header(value, cls)`, as translated from the current source, returns
normally for every value (`None` or any text whose list items fit the fuel), every quality type,
every order and every `float_of`: it raises nothing - in particular not the `KeyError` of
`options.pop("q")`, not the `ValueError` of `float`, not the `IndexError` of `dump_options_header`,
and the translator's "out of fuel" marker does not occur (the real loops terminate). -/
theorem parse_accept_header_total_of_items (fuel : Nat) (v : Str)
    (hf : ∀ item ∈ Http.parseListHeader v, item.length ≤ fuel) :
    ∃ r, parse_accept_header fuel qle qzero qone float_of (some v) () = .ok r := by
  rw [parse_accept_header_gen qle qzero qone float_of fuel v hf]
  split
  · exact ⟨_, rfl⟩
  · obtain ⟨l, hl⟩ := Http.mapM_safe_mem (itemStep qle qzero qone float_of) (Http.parseListHeader v)
      (fun a _ => itemStep_safe qle qzero qone float_of a)
    rw [hl]; exact ⟨_, rfl⟩

end generic

/-- every part `parse_http_list` cuts out is made of characters of the text -/
theorem httpListGo_length (s : Str) : ∀ (e q : Bool) (part p : Str),
    p ∈ Http.httpListGo e q s part → p.length ≤ part.length + s.length := by
  induction s with
  | nil =>
    intro e q part p h
    unfold Http.httpListGo at h
    split at h <;> simp_all
  | cons c t ih =>
    intro e q part p h
    cases e with
    | true =>
      rw [Http.httpListGo] at h
      have := ih _ _ _ _ h
      simp at this ⊢; omega
    | false =>
      cases q with
      | true =>
        rw [Http.httpListGo] at h
        split at h
        · have := ih _ _ _ _ h
          simp at this ⊢; omega
        · split at h <;> (have := ih _ _ _ _ h; simp at this ⊢; omega)
      | false =>
        rw [Http.httpListGo] at h
        split at h
        · rcases List.mem_cons.mp h with rfl | h
          · simp
          · have := ih _ _ _ _ h
            simp at this ⊢; omega
        · split at h <;> (have := ih _ _ _ _ h; simp at this ⊢; omega)

theorem stripDq_length (s : Str) : ((Http.stripDq? s).getD s).length ≤ s.length := by
  unfold Http.stripDq?
  split
  · split <;> simp; omega
  · simp

/-- No item of `parse_list_header(value)` is longer than `value` (a part of the text, stripped,
possibly without its surrounding quotes): `len(value)` units of fuel are enough for every
`parse_options_header(item)` call of the loop. -/
theorem parseListHeader_length (v item : Str) (h : item ∈ Http.parseListHeader v) :
    item.length ≤ v.length := by
  unfold Http.parseListHeader Http.parseHttpList at h
  simp only [List.map_map, List.mem_map, Function.comp] at h
  obtain ⟨p, hp, rfl⟩ := h
  have h1 := httpListGo_length v false false [] p hp
  have h2 := Py.strip_length_le p
  have h3 := stripDq_length (Http.strip p)
  simp only [Http.strip] at h3 ⊢
  simp at h1
  omega

/-- a signed exact decimal: the minus sign (`true` = the text starts with `-`) and the magnitude
`num / 10^scale` (C17's `Accept.Q`); `(true, 0)` is the `-0.0` that `float("-0")` gives -/
abbrev SQ := Bool × Accept.Q

/-- `<=` on signed decimals (`-0 <= 0` and `0 <= -0` both hold, as for floats) -/
def SQ.le : SQ → SQ → Bool
  | (false, x), (false, y) => Accept.Q.le x y
  | (true, x), (true, y) => Accept.Q.le y x
  | (true, _), (false, _) => true
  | (false, x), (true, y) => x.num == 0 && y.num == 0

def sqZero : SQ := (false, Accept.Q.zero)
def sqOne : SQ := (false, Accept.Q.one)

/-- the exact value of a text `_q_value_re` matches (`-?\d+(\.\d+)?`): sign, and all digits over
`10^(number of fraction digits)`; irrelevant (zero) on other texts - the code calls `float` only
behind the regex -/
def exactOf (s : Str) : SQ :=
  match Http.qParts? s with
  | some (neg, ip, fp) => (neg, ⟨Http.digitsVal (ip ++ fp), fp.length⟩)
  | none => sqZero

theorem oor_pos (x : Accept.Q) : oor SQ.le sqZero sqOne (false, x) = !(Accept.Q.le x Accept.Q.one) := by
  simp [oor, SQ.le, sqZero, sqOne, Accept.Q.le, Accept.Q.zero]

theorem oor_neg (x : Accept.Q) : oor SQ.le sqZero sqOne (true, x) = (x.num != 0) := by
  cases h : x.num <;> simp [oor, SQ.le, sqZero, sqOne, Accept.Q.zero, h]

/-- IEEE rounding, as far as comparisons with `0.0` and `1.0` can see it: a negative value of
magnitude at most 2^-1075 becomes `-0.0`, a value in `(1, 1 + 2^-53]` becomes `1.0` (round to
nearest, ties to even), everything else is left alone. `float()` is monotone and fixes 0 and 1, so
`float(x) < 0` iff `snap x < 0` and `float(x) > 1` iff `snap x > 1` for correctly rounded `float()`
(the documented assumption of model (a)). -/
def snap : SQ → SQ
  | (true, q) => if q.num * 2 ^ 1075 > 10 ^ q.scale then (true, q) else (true, Accept.Q.zero)
  | (false, q) =>
    if q.num * 2 ^ 53 > (2 ^ 53 + 1) * 10 ^ q.scale then (false, q)
    else if q.num > 10 ^ q.scale then (false, Accept.Q.one) else (false, q)

theorem oor_snap_neg (num scale : Nat) :
    oor SQ.le sqZero sqOne (snap (true, ⟨num, scale⟩)) = decide (num * 2 ^ 1075 > 10 ^ scale) := by
  have hd : 0 < 10 ^ scale := Nat.pow_pos (by decide)
  simp only [snap]
  generalize 2 ^ 1075 = P
  generalize 10 ^ scale = den at hd
  by_cases h : num * P > den
  · have : num ≠ 0 := by intro e; subst e; simp at h
    simp only [h, if_true, oor_neg, decide_true]; simpa using this
  · simp only [h, if_false, oor_neg, Accept.Q.zero, decide_false]; rfl

theorem oor_snap_pos (num scale : Nat) :
    oor SQ.le sqZero sqOne (snap (false, ⟨num, scale⟩)) = decide (num * 2 ^ 53 > (2 ^ 53 + 1) * 10 ^ scale) := by
  simp only [snap]
  generalize hden : 10 ^ scale = den
  by_cases h : num * 2 ^ 53 > (2 ^ 53 + 1) * den
  · have : ¬ num ≤ den := by
      intro hle
      have := Nat.mul_le_mul_right (2 ^ 53) hle
      simp only [Nat.reducePow] at h this
      omega
    simp only [h, if_true, oor_pos, decide_true]
    simpa [Accept.Q.le, Accept.Q.one, hden] using this
  · by_cases h2 : num > den
    · simp [h, h2, oor_pos, Accept.Q.le, Accept.Q.one]
    · simp only [h, h2, if_false, oor_pos, decide_false]
      simpa [Accept.Q.le, Accept.Q.one, hden] using h2

/-- The order comparison `not (0 <= q) or not (q <= 1)` on the snapped value of a regex match is
exactly C06's `Http.qOutOfRange` on the three groups of the match. -/
theorem oor_snap (neg : Bool) (ip fp : Str) :
    oor SQ.le sqZero sqOne (snap (neg, ⟨Http.digitsVal (ip ++ fp), fp.length⟩)) = Http.qOutOfRange neg ip fp := by
  unfold Http.qOutOfRange
  cases neg with
  | true => simp only [oor_snap_neg, if_true]
  | false => simp only [oor_snap_pos, Bool.false_eq_true, if_false]

/-- the quality type for model (a): what `float(q_str)` remembers for this function - the text it
came from (model (a) reports the quality as its text) and the value as far as `q < 0 or q > 1` can
see it (`snap` of the exact decimal) -/
abbrev FQ := Str × SQ
def FQ.le (a b : FQ) : Bool := SQ.le a.2 b.2
def fqZero : FQ := (['0'], sqZero)
/-- the literal `1` of `q = 1` (model (a) prints the default quality as `"1"`) -/
def fqOne : FQ := (['1'], sqOne)
/-- `float(q_str)`: correctly rounded, as far as the range check can see -/
def floatOf (s : Str) : FQ := (s, snap (exactOf s))
def txt (p : Str × FQ) : Str × Str := (p.1, p.2.1)

/-- With this instantiation the translated range check `q < 0 or q > 1` is `Http.qOutOfRange` on
every text that `_q_value_re` matches. -/
theorem oor_floatOf (s : Str) (neg : Bool) (ip fp : Str) (h : Http.qParts? s = some (neg, ip, fp)) :
    oor FQ.le fqZero fqOne (floatOf s) = Http.qOutOfRange neg ip fp := by
  rw [← oor_snap]
  simp only [floatOf, exactOf, h]
  rfl

/-- the tail of model (a)'s `acceptItem`, as its `do` block elaborates -/
theorem finishItem_txt (i : Str) (o : List (Str × Str)) (q : FQ) :
    (if (!o.isEmpty) = true then do
        let item ← Http.dumpOptionsHeader (some i) (o.map fun (k, x) => (k, some x))
        pure (some (item, q.1))
      else pure (some (i, q.1)) : Except String (Option (Str × Str)))
      = (finishItem i o q).map (Option.map txt) := by
  unfold finishItem
  by_cases ho : o.isEmpty = true
  · simp [ho, txt, Except.map, pure, Except.pure]
  · simp only [ho, Bool.not_false, Bool.false_eq_true, if_true, if_false]
    cases Http.dumpOptionsHeader (some i) (o.map fun kv => (kv.1, some kv.2)) <;> rfl

/-- One item: model (a)'s `Http.acceptItem` is the translated loop body (`itemStep`) at the
instantiation `FQ`, value and exception. -/
theorem acceptItem_eq (item : Str) :
    Http.acceptItem item = (itemStep FQ.le fqZero fqOne floatOf item).map (Option.map txt) := by
  unfold Http.acceptItem itemStep
  cases hp : Http.parseOptionsHeader item with
  | error e => rfl
  | ok io =>
    obtain ⟨i, o⟩ := io
    simp only [ok_bind, itemOf]
    cases hq : Http.dictGet? o ['q'] with
    | none =>
      simp only [ok_bind, pure_eq_ok]
      exact finishItem_txt i o fqOne
    | some qs =>
      simp only [Http.strip]
      cases hqp : Http.qParts? (Py.strip qs) with
      | none => rfl
      | some t =>
        obtain ⟨neg, ip, fp⟩ := t
        simp only [Option.isNone_some, Bool.false_eq_true, if_false, oor_floatOf _ _ _ _ hqp]
        by_cases hr : Http.qOutOfRange neg ip fp = true
        · simp only [hr, if_true]; rfl
        · simp only [hr, Bool.false_eq_true, if_false, ok_bind, pure_eq_ok]
          exact finishItem_txt i (Http.dictPop o ['q']) (floatOf (Py.strip qs))

/-- **Model (a).** `parse_accept_header(value)`, as translated from the current source, at the
instantiation `FQ` (quality = text + correctly rounded value as far as `< 0` / `> 1` can see it),
for every header text whose list items fit the fuel: the items handed to the `Accept` class, with
the quality read back as its text, are exactly the pairs C06/C07's `Http.parseAcceptHeader`
returns, in the same order (the class sorts afterwards); exceptions included (there are none:
`parse_accept_header_total_of_items`). The empty text gives `cls(None)`. Every C06 / C07 / C15 theorem about
`Http.parseAcceptHeader` therefore speaks about the current source. Assumption that stays outside
(validated by the oracle): `float()` of a text matching `_q_value_re` is correctly rounded. -/
theorem parse_accept_header_eq_http_of_items (fuel : Nat) (v : Str)
    (hf : ∀ item ∈ Http.parseListHeader v, item.length ≤ fuel) :
    (parse_accept_header fuel FQ.le fqZero fqOne floatOf (some v) ()).map (Option.map (List.map txt))
      = if v.isEmpty then .ok none else (Http.parseAcceptHeader v).map some := by
  rw [parse_accept_header_gen FQ.le fqZero fqOne floatOf fuel v hf]
  by_cases hv : v.isEmpty = true
  · simp [hv, Except.map]
  · simp only [hv, Bool.false_eq_true, if_false]
    unfold Http.parseAcceptHeader
    have e : Http.acceptItem = fun a => (itemStep FQ.le fqZero fqOne floatOf a).map (Option.map txt) :=
      funext acceptItem_eq
    simp only [hv, Bool.false_eq_true, if_false, e, mapM_map]
    cases (Http.parseListHeader v).mapM (itemStep FQ.le fqZero fqOne floatOf) with
    | error e => rfl
    | ok l =>
      simp only [Except.map, bind, Except.bind, pure, Except.pure, List.filterMap_map, Function.comp_def, id]
      rw [Option.map_some, ← filterMap_id_map]

theorem parse_accept_header_eq_http (fuel : Nat) (v : Str) (hf : v.length ≤ fuel) :
    (parse_accept_header fuel FQ.le fqZero fqOne floatOf (some v) ()).map (Option.map (List.map txt))
      = if v.isEmpty then .ok none else (Http.parseAcceptHeader v).map some :=
  parse_accept_header_eq_http_of_items fuel v (fun item h => Nat.le_trans (parseListHeader_length v item h) hf)

/-! ### model (b), `Accept.acceptItem` / `Accept.parseAcceptRaw`

Instantiation: `κ := SQ` (sign and exact decimal magnitude), `qle := SQ.le`, `qzero := sqZero`,
`qone := sqOne`, `float_of := exactOf` - `float` and float comparison behave like exact decimal
arithmetic, which is the documented assumption of `Model/Accept.lean`. -/

theorem rangeQ_eq (t : Bool × Str × Str) :
    rangeQ t = if oor SQ.le sqZero sqOne (t.1, ⟨Http.digitsVal (t.2.1 ++ t.2.2), t.2.2.length⟩) then none
      else some ⟨Http.digitsVal (t.2.1 ++ t.2.2), t.2.2.length⟩ := by
  obtain ⟨neg, ip, fp⟩ := t
  unfold rangeQ
  cases neg with
  | true =>
    simp only [oor_neg, Bool.true_and]
    by_cases h : Http.digitsVal (ip ++ fp) = 0
    · simp [h, Accept.Q.le, Accept.Q.one]
    · simp [h]
  | false =>
    simp only [oor_pos, Bool.false_and, Bool.false_eq_true, if_false]
    cases Accept.Q.le ⟨Http.digitsVal (ip ++ fp), fp.length⟩ Accept.Q.one <;> rfl

/-- forget the sign (it is only ever in front of a zero): the pair as model (b) reports it -/
def mag (p : Str × SQ) : Str × Accept.Q := (p.1, p.2.2)

theorem finishItem_mag (i : Str) (o : List (Str × Str)) (q : SQ) (hd : o ≠ [] → DumpAgrees i o) :
    finishItem i o q = .ok (some (if o.isEmpty then i else Accept.dumpOptionsHeader i o, q)) := by
  unfold finishItem
  cases o with
  | nil => rfl
  | cons a t =>
    have := hd (by simp)
    unfold DumpAgrees at this
    simp only [List.isEmpty_cons, Bool.false_eq_true, if_false, this]

theorem itemOf_eq_accept (i : Str) (o : List (Str × Str))
    (hd : o.filter (·.1 != Accept.qKey) ≠ [] → DumpAgrees i (o.filter (·.1 != Accept.qKey))) :
    (itemOf SQ.le sqZero sqOne exactOf i o).map (Option.map mag) = .ok (Accept.acceptItem i o) := by
  unfold itemOf Accept.acceptItem
  have e : Accept.dictGet o Accept.qKey = Http.dictGet? o ['q'] := rfl
  rw [e]
  cases hq : Http.dictGet? o ['q'] with
  | none =>
    have hfil' : o.filter (·.1 != Accept.qKey) = o :=
      Pre.dictDel_of_not_has o ['q'] (by rw [Pre.dictHas_eq_isSome]; exact congrArg Option.isSome hq)
    rw [hfil'] at hd
    simp only [finishItem_mag i o sqOne hd]
    rfl
  | some qs =>
    simp only [parseQ_eq]
    cases hqp : Http.qParts? (Py.strip qs) with
    | none => rfl
    | some t =>
      simp only [Option.isNone_some, Bool.false_eq_true, if_false, Option.bind_some, rangeQ_eq]
      have ex : exactOf (Py.strip qs) = (t.1, ⟨Http.digitsVal (t.2.1 ++ t.2.2), t.2.2.length⟩) := by
        simp only [exactOf, hqp]
      rw [ex]
      by_cases hr : oor SQ.le sqZero sqOne (t.1, ⟨Http.digitsVal (t.2.1 ++ t.2.2), t.2.2.length⟩) = true
      · simp only [hr, if_true]; rfl
      · simp only [hr, Bool.false_eq_true, if_false]
        have ep : Http.dictPop o ['q'] = o.filter (·.1 != Accept.qKey) := rfl
        rw [ep, finishItem_mag i _ _ hd]
        rfl

def accOf (io : Str × List (Str × Str)) : Option (Str × Accept.Q) := Accept.acceptItem io.1 io.2

theorem itemStep_eq_accept (item : Str)
    (hd : ∀ i o, Http.parseOptionsHeader item = .ok (i, o) →
      o.filter (·.1 != Accept.qKey) ≠ [] → DumpAgrees i (o.filter (·.1 != Accept.qKey))) :
    (itemStep SQ.le sqZero sqOne exactOf item).map (Option.map mag)
      = (Http.parseOptionsHeader item).map accOf := by
  unfold itemStep
  cases hp : Http.parseOptionsHeader item with
  | error e => rfl
  | ok io =>
    obtain ⟨i, o⟩ := io
    exact itemOf_eq_accept i o (hd i o hp)

theorem acceptItems_eq (l : List (Str × List (Str × Str))) :
    Accept.acceptItems l = (l.map accOf).filterMap id := by
  unfold Accept.acceptItems
  simp only [List.filterMap_map, Function.comp_def, id, accOf]

theorem loop1_cons_accept (fuel : Nat) (item : Str) (rest : List Str) (result : List (Str × SQ))
    (i : Str) (o : List (Str × Str)) (hf : item.length ≤ fuel)
    (hp : Http.parseOptionsHeader item = .ok (i, o)) :
    ∃ c : Option (Str × SQ), c.map mag = Accept.acceptItem i o ∧
      parse_accept_header.loop1 fuel SQ.le sqZero sqOne exactOf (item :: rest) result =
        parse_accept_header.loop1 fuel SQ.le sqZero sqOne exactOf rest (result ++ c.toList) := by
  have hk := Http.parseOptionsHeader_keys item i o hp
  have h := itemOf_eq_accept i o (fun _ => dumpAgrees_of_keys i _
    (fun x hx => hk x (List.mem_filter.mp hx).1))
  rw [loop1_step SQ.le sqZero sqOne exactOf fuel item rest result hf]
  unfold itemStep
  rw [hp]
  cases hc : itemOf SQ.le sqZero sqOne exactOf i o with
  | error e => rw [hc] at h; cases h
  | ok c =>
    rw [hc] at h
    simp only [Except.map, Except.ok.injEq] at h
    refine ⟨c, h, ?_⟩
    cases c <;> simp [hc]

theorem parse_accept_header_eq_raw_of_items (fuel : Nat) (v : Str)
    (hf : ∀ item ∈ Http.parseListHeader v, item.length ≤ fuel)
    (hlex : Accept.lexHeader v = (Http.parseListHeader v).mapM Http.parseOptionsHeader) :
    (parse_accept_header fuel SQ.le sqZero sqOne exactOf (some v) ()).map (Option.map (List.map mag))
      = if v.isEmpty then .ok none else (Accept.parseAcceptRaw v).map some := by
  rw [parse_accept_header_gen SQ.le sqZero sqOne exactOf fuel v hf]
  by_cases hv : v.isEmpty = true
  · simp [hv, Except.map]
  · unfold Accept.parseAcceptRaw
    simp only [hv, Bool.false_eq_true, if_false, hlex]
    have key : ((Http.parseListHeader v).mapM (itemStep SQ.le sqZero sqOne exactOf)).map (List.map (Option.map mag))
        = ((Http.parseListHeader v).mapM Http.parseOptionsHeader).map (List.map accOf) := by
      rw [← mapM_map, ← mapM_map]
      exact mapM_congr_mem _ _ _ (fun a ha => itemStep_eq_accept a fun i o hp _ =>
        dumpAgrees_of_keys i _ fun x hx => Http.parseOptionsHeader_keys a i o hp x (List.mem_filter.mp hx).1)
    -- both sides are a function of one `mapM` result each, and `key` relates the two results
    generalize List.mapM (itemStep SQ.le sqZero sqOne exactOf) _ = X at key ⊢
    generalize List.mapM Http.parseOptionsHeader _ = Y at key ⊢
    rcases X with e | l <;> rcases Y with e' | l' <;>
      simp only [Except.map, Except.ok.injEq, Except.error.injEq, reduceCtorEq] at key ⊢
    · exact key
    · rw [acceptItems_eq, ← key, Option.map_some, List.filterMap_map, ← filterMap_id_map]
      rfl

/-- the lexer hypothesis of the comparison with model (b), on a concrete header -/
example : Accept.lexHeader "text/html;q=0.5, a/b;level=1".toList
    = (Http.parseListHeader "text/html;q=0.5, a/b;level=1".toList).mapM Http.parseOptionsHeader := by
  -- a literal's `toList` is rewritten to the list of its characters: evaluating it decodes the bytes
  repeat rewrite [String.toList_ofList]
  decide +kernel

/-- ... and where it fails: an RFC 2231 parameter (CPython: `[('a; x=A', 0.5)]`, which is what
model (a) and the translation give; C17's lexer is outside its domain) -/
example : Accept.lexHeader "a;x*=utf-8''%41;q=0.5".toList = .error "UNSUPPORTED" := by
  decide +kernel
example : (Http.parseListHeader "a;x*=utf-8''%41;q=0.5".toList).mapM Http.parseOptionsHeader
      = .ok [("a".toList, [("x".toList, "A".toList), ("q".toList, "0.5".toList)])] := by
  repeat rewrite [String.toList_ofList]
  decide +kernel

/-- the rounding band above 1: `q=1.0000000000000001` is in range for the float comparison
(CPython keeps the item with quality 1.0) and out of range for exact decimals (model (b) drops it) -/
example : oor FQ.le fqZero fqOne (floatOf "1.0000000000000001".toList) = false ∧
    oor SQ.le sqZero sqOne (exactOf "1.0000000000000001".toList) = true ∧
    oor FQ.le fqZero fqOne (floatOf "1.0000000000000003".toList) = true := by
  repeat rewrite [String.toList_ofList]
  decide +kernel

/-- `-0` passes both checks; `-0.1` neither -/
example : oor FQ.le fqZero fqOne (floatOf "-0".toList) = false ∧
    oor SQ.le sqZero sqOne (exactOf "-0".toList) = false ∧
    oor FQ.le fqZero fqOne (floatOf "-0.1".toList) = true ∧
    oor SQ.le sqZero sqOne (exactOf "-0.1".toList) = true := by
  repeat rewrite [String.toList_ofList]
  decide +kernel

end Wz.PyFnsEq.AcceptHeader
