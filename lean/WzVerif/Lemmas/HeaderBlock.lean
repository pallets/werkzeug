/-
Header blocks under `BLANK_LINE_RE` and `_parse_headers`. The block `MultipartEncoder` writes is header
lines joined by the line break (`joinNl`, `LineOk`): its first blank line is the one that ends it
(`searchBlank_block`), and `HEADER_CONTINUATION_RE.sub`, `bytes.splitlines` and `strip` give its lines
back (`lines_block`) — C02. Any block preceded by the LF of a CRLF that a chunk boundary split (`lfPre`)
is found and parsed as without that LF (`searchBlank_lf_pre`, `parseHeaders_lf_pre`) — C01.
-/
import WzVerif.Lemmas.Multipart
namespace Wz.Multipart
open Wz

def joinNl (nl : Nl) : List Bytes → Bytes
  | [] => []
  | [l] => l
  | l :: l2 :: t => l ++ (nl.bytes ++ joinNl nl (l2 :: t))

/-- a header line as `MultipartEncoder` writes it -/
structure LineOk (l : Bytes) : Prop where
  ne_nil : l ≠ []
  no_nl : hasNl l = false
  head : isBytesSpace (l.headD 0) = false
  last : isBytesSpace (l.getLastD 0) = false

theorem LineOk.cons {l : Bytes} (h : LineOk l) : ∃ x r, l = x :: r ∧ isBytesSpace x = false := by
  cases l with
  | nil => exact absurd rfl h.ne_nil
  | cons x r => exact ⟨x, r, rfl, h.head⟩

theorem joinNl_cons_cons (nl : Nl) (l l2 : Bytes) (t : List Bytes) :
    joinNl nl (l :: l2 :: t) = l ++ (nl.bytes ++ joinNl nl (l2 :: t)) := rfl

theorem joinNl_head (nl : Nl) (x : UInt8) (l : Bytes) (t : List Bytes) :
    ∃ r, joinNl nl ((x :: l) :: t) = x :: r := by
  cases t with
  | nil => exact ⟨l, rfl⟩
  | cons l2 t => exact ⟨l ++ (nl.bytes ++ joinNl nl (l2 :: t)), rfl⟩

/-- the induction behind `searchBlank_block`, `fold_block`, `split_block`: in the step the rest of the
block starts with a byte that is no white space, so the line break in front of it neither belongs to a
blank line nor starts a folded continuation -/
theorem joinNl_induction (nl : Nl) {P : List Bytes → Bytes → Prop} (nil : P [] [])
    (single : ∀ l, LineOk l → P [l] l)
    (step : ∀ l ls x r, LineOk l → isBytesSpace x = false → joinNl nl ls = x :: r → P ls (x :: r) →
      P (l :: ls) (l ++ (nl.bytes ++ x :: r)))
    (lines : List Bytes) (hok : ∀ l ∈ lines, LineOk l) : P lines (joinNl nl lines) := by
  induction lines with
  | nil => exact nil
  | cons l t ih =>
    have hl := hok l (by simp)
    cases t with
    | nil => exact single l hl
    | cons l2 t =>
      obtain ⟨x, l2', rfl, hx⟩ := (hok l2 (by simp)).cons
      obtain ⟨r, hr⟩ := joinNl_head nl x l2' t
      have ih' := ih fun y hy => hok y (by simp [hy])
      rw [joinNl_cons_cons, hr]
      rw [hr] at ih'
      exact step l _ x r hl hx hr ih'

theorem ne_of_not_space {x c : UInt8} (h : isBytesSpace x = false) (hc : isBytesSpace c = true) : x ≠ c :=
  fun e => by rw [e, hc] at h; cases h

theorem not_nl_of_not_space {x : UInt8} (h : isBytesSpace x = false) : isNl x = false :=
  isNl_eq_false_iff.2 ⟨ne_of_not_space h (by decide), ne_of_not_space h (by decide)⟩

theorem blankLen_not_nl {a : UInt8} (t : Bytes) (h : isNl a = false) : blankLen (a :: t) = 0 := by
  obtain ⟨h10, h13⟩ := isNl_eq_false_iff.1 h
  simp [blankLen, List.isPrefixOf, Ne.symm h10, Ne.symm h13]

theorem blankLen_second_not_nl (a : UInt8) {x : UInt8} (r : Bytes) (h : isNl x = false) :
    blankLen (a :: x :: r) = 0 := by
  obtain ⟨h10, h13⟩ := isNl_eq_false_iff.1 h
  simp [blankLen, List.isPrefixOf, Ne.symm h10, Ne.symm h13]

theorem searchBlank_append_no_nl (l rest : Bytes) (h : hasNl l = false) :
    searchBlank (l ++ rest) = shift2 l.length (searchBlank rest) := by
  induction l with
  | nil => simp
  | cons a t ih =>
    rw [hasNl_cons] at h; simp at h
    rw [List.cons_append, searchBlank_cons_zero (blankLen_not_nl _ h.1), ih h.2, shift2_shift2]
    simp

theorem searchBlank_sep (nl : Nl) {x : UInt8} (r : Bytes) (h : isNl x = false) :
    searchBlank (nl.bytes ++ x :: r) = shift2 nl.len (searchBlank (x :: r)) := by
  cases nl with
  | crlf =>
    -- CR LF `x`: the third byte is no CR
    have b1 : blankLen (13 :: 10 :: x :: r) = 0 := by
      simp [blankLen, List.isPrefixOf, Ne.symm (isNl_eq_false_iff.1 h).2]
    show searchBlank (13 :: 10 :: x :: r) = _
    rw [searchBlank_cons_zero b1, searchBlank_cons_zero (blankLen_second_not_nl 10 r h), shift2_shift2]; rfl
  | lf =>
    show searchBlank (10 :: x :: r) = _
    rw [searchBlank_cons_zero (blankLen_second_not_nl 10 r h)]; rfl
  | cr =>
    show searchBlank (13 :: x :: r) = _
    rw [searchBlank_cons_zero (blankLen_second_not_nl 13 r h)]; rfl

theorem searchBlank_end (nl : Nl) (Z : Bytes) :
    searchBlank (nl.bytes ++ (nl.bytes ++ Z)) = some (0, 2 * nl.len) := by
  cases nl <;> simp [searchBlank, blankLen, List.isPrefixOf, Nl.bytes, Nl.len]

theorem searchBlank_block (nl : Nl) (lines : List Bytes) (Z : Bytes) (hok : ∀ l ∈ lines, LineOk l) :
    searchBlank (joinNl nl lines ++ (nl.bytes ++ (nl.bytes ++ Z))) =
      some ((joinNl nl lines).length, (joinNl nl lines).length + 2 * nl.len) := by
  refine joinNl_induction nl (P := fun _ b => searchBlank (b ++ (nl.bytes ++ (nl.bytes ++ Z))) =
    some (b.length, b.length + 2 * nl.len)) ?_ ?_ ?_ lines hok
  · simpa using searchBlank_end nl Z
  · intro l hl
    rw [searchBlank_append_no_nl _ _ hl.no_nl, searchBlank_end]; simp [shift2]; omega
  · intro l ls x r hl hx _ ih
    rw [List.append_assoc, searchBlank_append_no_nl _ _ hl.no_nl, List.append_assoc, List.cons_append,
      searchBlank_sep nl _ (not_nl_of_not_space hx), ← List.cons_append, ih, shift2_shift2]
    simp [shift2, Nl.len]; omega

theorem foldGo_no_nl (l rest : Bytes) (h : hasNl l = false) :
    foldContinuations.go 0 (l ++ rest) = l ++ foldContinuations.go 0 rest := by
  induction l with
  | nil => rfl
  | cons a t ih =>
    rw [hasNl_cons] at h; simp at h
    simp only [List.cons_append, foldContinuations.go, lbLen_cons_not_nl h.1]
    simp [ih h.2]

/-- `x ≠ 10`: after a bare CR, an LF would make the line break a CRLF -/
theorem foldGo_sep (nl : Nl) {x : UInt8} (r : Bytes) (h32 : x ≠ 32) (h9 : x ≠ 9) (h10 : x ≠ 10) :
    foldContinuations.go 0 (nl.bytes ++ x :: r) = nl.bytes ++ foldContinuations.go 0 (x :: r) := by
  cases nl with
  | crlf => simp [Nl.bytes, foldContinuations.go, lbLen_crlf, lbLen_lf, h32, h9]
  | lf => simp [Nl.bytes, foldContinuations.go, lbLen_lf, h32, h9]
  | cr => simp [Nl.bytes, foldContinuations.go, lbLen_cr_not_lf r h10, h32, h9]

theorem fold_block (nl : Nl) (lines : List Bytes) (hok : ∀ l ∈ lines, LineOk l) :
    foldContinuations (joinNl nl lines) = joinNl nl lines := by
  refine joinNl_induction nl (P := fun _ b => foldContinuations.go 0 b = b) rfl ?_ ?_ lines hok
  · intro l hl; simpa [foldContinuations.go] using foldGo_no_nl l [] hl.no_nl
  · intro l ls x r hl hx _ ih
    rw [foldGo_no_nl _ _ hl.no_nl, foldGo_sep nl r (ne_of_not_space hx (by decide))
      (ne_of_not_space hx (by decide)) (ne_of_not_space hx (by decide)), ih]

theorem splitGo_no_nl (l : Bytes) : ∀ (rest cur : Bytes) (b : Bool), hasNl l = false → l ≠ [] →
    splitLines.go (l ++ rest) cur b = splitLines.go rest (l.reverse ++ cur) false := by
  induction l with
  | nil => intro rest cur b _ h; exact absurd rfl h
  | cons a t ih =>
    intro rest cur b h _
    rw [hasNl_cons, Bool.or_eq_false_iff, isNl_eq_false_iff] at h
    have h10 : (a == 10) = false := by simp [h.1.1]
    have h13 : (a == 13) = false := by simp [h.1.2]
    simp only [List.cons_append, splitLines.go, h10, h13, Bool.false_eq_true, if_false]
    cases t with
    | nil => simp
    | cons a2 t2 =>
      rw [ih rest (a :: cur) false h.2 (by simp)]
      simp

theorem splitGo_sep (nl : Nl) (rest cur : Bytes) :
    ∃ b, splitLines.go (nl.bytes ++ rest) cur false = cur.reverse :: splitLines.go rest [] b := by
  cases nl with
  | crlf => exact ⟨false, by simp [Nl.bytes, splitLines.go]⟩
  | lf => exact ⟨false, by simp [Nl.bytes, splitLines.go]⟩
  | cr => exact ⟨true, by simp [Nl.bytes, splitLines.go]⟩

theorem split_block (nl : Nl) (lines : List Bytes) (hok : ∀ l ∈ lines, LineOk l) :
    splitLines (joinNl nl lines) = lines := by
  refine joinNl_induction nl (P := fun ls b => ∀ f, splitLines.go b [] f = ls) ?_ ?_ ?_ lines hok false
  · intro f; simp [splitLines.go]
  · intro l hl f
    rw [← List.append_nil l, splitGo_no_nl l [] [] f hl.no_nl hl.ne_nil]
    simp [splitLines.go, hl.ne_nil]
  · intro l ls x r hl _ _ ih f
    rw [splitGo_no_nl l _ [] f hl.no_nl hl.ne_nil]
    obtain ⟨f', hf'⟩ := splitGo_sep nl (x :: r) (l.reverse ++ [])
    rw [hf', ih f']
    simp

theorem stripBytes_lineOk {l : Bytes} (h : LineOk l) : stripBytes l = l := by
  unfold stripBytes
  have hhead : ∀ {m : Bytes} {d : UInt8}, isBytesSpace (m.headD d) = false →
      ∀ c, m.head? = some c → isBytesSpace c = false := by
    intro m d hm c hc
    cases m with
    | nil => simp at hc
    | cons a t => simp at hc hm; rw [← hc]; exact hm
  rw [dropWhile_head_false (hhead h.head)]
  have hrh : isBytesSpace (l.reverse.headD 0) = false := by
    rw [List.headD_eq_head?_getD, List.head?_reverse, ← List.getLastD_eq_getLast?]; exact h.last
  rw [dropWhile_head_false (hhead hrh), List.reverse_reverse]

theorem strip_filter_block (lines : List Bytes) (hok : ∀ l ∈ lines, LineOk l) :
    (lines.map stripBytes).filter (fun l => !l.isEmpty) = lines := by
  induction lines with
  | nil => rfl
  | cons l t ih =>
    have hl := hok l (by simp)
    have hne : l.isEmpty = false := by
      cases l with
      | nil => exact absurd rfl hl.ne_nil
      | cons a t => rfl
    simp only [List.map_cons, stripBytes_lineOk hl, List.filter_cons, hne, Bool.not_false, if_true]
    rw [ih (fun y hy => hok y (by simp [hy]))]

theorem lines_block (nl : Nl) (lines : List Bytes) (hok : ∀ l ∈ lines, LineOk l) :
    ((splitLines (foldContinuations (joinNl nl lines))).map stripBytes).filter (fun l => !l.isEmpty) = lines := by
  rw [fold_block nl _ hok, split_block nl _ hok, strip_filter_block _ hok]

def lfPre (lf : Bool) : Bytes := if lf then [10] else []

theorem lfPre_of_or {X R : Bytes} (h : X = R ∨ X = 10 :: R) : ∃ lf, X = lfPre lf ++ R := by
  rcases h with h | h
  · exact ⟨false, h⟩
  · exact ⟨true, h⟩

theorem searchBlank_lf_pre (lf : Bool) {x : UInt8} (r : Bytes) (hx : isNl x = false) :
    searchBlank (lfPre lf ++ x :: r) = shift2 (lfPre lf).length (searchBlank (x :: r)) := by
  cases lf with
  | false => exact (shift2_zero _).symm
  | true => exact searchBlank_sep .lf r hx

/-- in front of a SP / TAB the stray LF is a folded continuation: it becomes one SP and the white space
itself is skipped -/
theorem fold_lf_ws {x : UInt8} (r : Bytes) (h : x = 32 ∨ x = 9) :
    foldContinuations (10 :: x :: r) = 32 :: foldContinuations r := by
  rcases h with rfl | rfl <;> simp [foldContinuations, foldContinuations.go, lbLen_lf]

theorem fold_ws {x : UInt8} (r : Bytes) (h : x = 32 ∨ x = 9) :
    foldContinuations (x :: r) = x :: foldContinuations r := by
  rcases h with rfl | rfl <;> simp [foldContinuations, foldContinuations.go, lbLen]

theorem splitLines_lf (rest : Bytes) : splitLines (10 :: rest) = [] :: splitLines rest := by
  simp [splitLines, splitLines.go]

theorem stripBytes_ws_cons {x : UInt8} (l : Bytes) (h : isBytesSpace x = true) :
    stripBytes (x :: l) = stripBytes l := by
  simp [stripBytes, h]

/-- a white-space byte in front of the text only changes the first line `splitlines` yields, by that
byte, which `strip` removes (a first line consisting of it alone is dropped as empty) -/
theorem splitLinesGo_ws {w : UInt8} (hw : isBytesSpace w = true) : ∀ (t c : Bytes),
    ((splitLines.go t (c ++ [w]) false).map stripBytes).filter (!·.isEmpty) =
      ((splitLines.go t c false).map stripBytes).filter (!·.isEmpty) := by
  intro t
  induction t with
  | nil =>
    intro c
    cases c with
    | nil =>
      have : stripBytes [w] = [] := by rw [stripBytes_ws_cons [] hw]; rfl
      simp [splitLines.go, this]
    | cons a c' =>
      simp only [splitLines.go, List.isEmpty_cons, List.cons_append, Bool.false_eq_true, if_false]
      have : (a :: (c' ++ [w])).reverse = w :: (a :: c').reverse := by simp
      rw [this]
      simp [stripBytes_ws_cons _ hw]
  | cons a t ih =>
    intro c
    have hrev : (c ++ [w]).reverse = w :: c.reverse := by simp
    by_cases h10 : a = 10
    · subst h10
      have e : ((10 : UInt8) == 10) = true := by decide
      simp only [splitLines.go, e, if_true, Bool.false_eq_true, if_false, List.map_cons, hrev,
        stripBytes_ws_cons _ hw]
    · by_cases h13 : a = 13
      · subst h13
        have e1 : ((13 : UInt8) == 10) = false := by decide
        have e2 : ((13 : UInt8) == 13) = true := by decide
        simp only [splitLines.go, e1, e2, Bool.false_eq_true, if_false, if_true, List.map_cons, hrev,
          stripBytes_ws_cons _ hw]
      · have e10 : (a == 10) = false := by simpa using h10
        have e13 : (a == 13) = false := by simpa using h13
        simp only [splitLines.go, e10, e13, Bool.false_eq_true, if_false]
        have := ih (a :: c)
        simpa using this

theorem splitLines_ws_cons {w : UInt8} (hw : isBytesSpace w = true) (hn : isNl w = false) (t : Bytes) :
    ((splitLines (w :: t)).map stripBytes).filter (!·.isEmpty) =
      ((splitLines t).map stripBytes).filter (!·.isEmpty) := by
  obtain ⟨h10, h13⟩ := isNl_eq_false_iff.1 hn
  have e10 : (w == 10) = false := by simpa using h10
  have e13 : (w == 13) = false := by simpa using h13
  have := splitLinesGo_ws hw t []
  simp only [List.nil_append] at this
  simp only [splitLines, splitLines.go, e10, e13, Bool.false_eq_true, if_false]
  exact this

/-- a stray LF in front of the header block (the second half of a split CRLF) is an empty line to
`_parse_headers` — or, in front of SP / TAB, a folded continuation whose white space is stripped -/
theorem parseHeaders_lf_pre (lf : Bool) {x : UInt8} (r : Bytes) (hx : isNl x = false) :
    parseHeaders (lfPre lf ++ x :: r) = parseHeaders (x :: r) := by
  cases lf with
  | false => simp [lfPre]
  | true =>
    simp only [lfPre, if_true, List.cons_append, List.nil_append]
    by_cases hws : x = 32 ∨ x = 9
    · -- LF SP … folds to SP …, SP … stays as it is: the same lines up to the first byte of the first
      -- line, which `strip` removes
      unfold parseHeaders
      rw [fold_lf_ws r hws, fold_ws r hws]
      have hsp : isBytesSpace x = true := by rcases hws with rfl | rfl <;> decide
      have h1 := splitLines_ws_cons (w := 32) (by decide) (by decide) (foldContinuations r)
      have h2 := splitLines_ws_cons hsp hx (foldContinuations r)
      simp only []
      rw [h1, h2]
    · have h32 : x ≠ 32 := fun e => hws (Or.inl e)
      have h9 : x ≠ 9 := fun e => hws (Or.inr e)
      unfold parseHeaders
      rw [show foldContinuations (10 :: x :: r) = 10 :: foldContinuations (x :: r) from
        foldGo_sep .lf r h32 h9 (isNl_eq_false_iff.1 hx).1, splitLines_lf]
      simp only [List.map_cons]
      have hs0 : stripBytes [] = [] := rfl
      rw [hs0]
      simp only [List.filter_cons, List.isEmpty_nil, Bool.not_true, Bool.false_eq_true, if_false]

end Wz.Multipart
