/-
Facts about the CPython primitives of `Util/PyPrelude.lean` alone (no generated definition, no model), on which the equality
proofs between translated functions (`Gen/PyFns_*.lean`) and the hand-written models rest. The translated code speaks in `Int`
positions, slices and `find`; the models in `take` / `drop` / `takeWhile`; each family below says what a primitive is on the form
of input the translated code meets. In this order: slice bounds (`clamp`) and slices; `s[i]`, `s[i] = v`, `del s[i]` through the
index normalisation `pyIndex`; slice assignment and `bytearray(n)`; a text split at a known position (`s = pre ++ suf`,
`pos = len(pre)`); one character searched for or split on (`find`, `rfind`, `in`, `startswith`, `endswith`, `partition`,
`split(c, 1)`, `rsplit(c, 1)`, `split(c)` - all through `split_at_first` / `split_at_last` of Lemmas/Basics.lean); `x in c` and
`strip(c)` for a one-character `c`; `replace` of one character; `join`; `frozenset`; `str(int)` and `_plain_int`; `enumerate` and
`next`; `if not b:`; `sorted()` of `str` (sorted and a permutation of its input, hence equal exactly on permutations); the
`for` loop that returns at its first hit (`forLoop_first`), the one that appends what each item gives or leaves with the item's
exception (`forLoop_mapM`), and the one that only appends (`forLoop_append`): the generated loop function is a parameter, its two
equations are hypotheses, so that a loop proof is its one-turn equation.
What holds of lists or of `Py.strip` alone is in Lemmas/Basics.lean, the dict primitives are in Lemmas/PyDict.lean, that the
translated `_plain_int` is `plainInt` is in Lemmas/PyFnsEq_Internal.lean.
-/
import WzVerif.Util.PyPrelude
import WzVerif.Lemmas.Basics
namespace Wz.Pre

theorem clamp_natCast (n i : Nat) : clamp n (i : Int) = min i n := by
  unfold clamp
  have : ¬ ((i : Int) < 0) := by omega
  simp [this]

theorem clamp_of_nonneg (n : Nat) (i : Int) (h : 0 ≤ i) : clamp n i = min i.toNat n := by
  unfold clamp
  have : ¬ (i < 0) := by omega
  simp [this]

theorem clamp_neg (n k : Nat) (hk : 0 < k) : clamp n (-(k : Int)) = n - k := by
  unfold clamp
  have : (-(k : Int)) < 0 := by omega
  simp only [this, if_true]
  omega

theorem slice_nat (s : List α) (a b : Nat) :
    slice s (some (a : Int)) (some (b : Int)) = (s.take b).drop a := by
  simp only [slice, clamp_natCast]
  rw [← List.take_eq_take_min]
  rcases Nat.le_total a s.length with h | h
  · rw [Nat.min_eq_left h]
  · rw [Nat.min_eq_right h, List.drop_eq_nil_of_le (by simp; omega),
      List.drop_eq_nil_of_le (by simp; omega)]

theorem slice_none_nat (s : List α) (b : Nat) : slice s none (some (b : Int)) = s.take b := by
  simp only [slice, clamp_natCast, List.drop_zero]
  rw [← List.take_eq_take_min]

theorem slice_nat_none (s : List α) (a : Nat) : slice s (some (a : Int)) none = s.drop a := by
  simp only [slice, clamp_natCast, List.take_length]
  rcases Nat.le_total a s.length with h | h
  · rw [Nat.min_eq_left h]
  · rw [Nat.min_eq_right h, List.drop_eq_nil_of_le (by omega), List.drop_eq_nil_of_le (by omega)]

/-- `s[:-k]` -/
theorem slice_none_neg (s : List α) (k : Nat) (hk : 0 < k) :
    slice s none (some (-(k : Int))) = s.take (s.length - k) := by
  simp only [slice, clamp_neg _ _ hk, List.drop_zero]

/-- `s[:-1]` -/
theorem slice_none_neg_one (s : List α) : slice s none (some (-1)) = s.dropLast := by
  rw [List.dropLast_eq_take]; exact slice_none_neg s 1 (by decide)

/-- `s[1:-1]` -/
theorem slice_one_neg_one (s : List α) : slice s (some 1) (some (-1)) = (s.drop 1).dropLast := by
  have h : clamp s.length (-1) = s.length - 1 := clamp_neg s.length 1 (by omega)
  have h1 : clamp s.length 1 = min 1 s.length := clamp_natCast s.length 1
  simp only [slice, h, h1, List.dropLast_eq_take, List.length_drop]
  cases s with
  | nil => rfl
  | cons x t => simp [List.drop_take]

theorem slice_one_neg_one_cons (x : α) (t : List α) :
    slice (x :: t) (some 1) (some (-1)) = t.dropLast :=
  slice_one_neg_one (x :: t)

/-- `s[-1:]`: the last element as a list, or the empty list -/
def lastAsList (s : List α) : List α :=
  match s.getLast? with
  | some c => [c]
  | none => []

theorem slice_neg_one_none (s : List α) : slice s (some (-1)) none = lastAsList s := by
  have h : clamp s.length (-1) = s.length - 1 := clamp_neg s.length 1 (by omega)
  simp only [slice, h, List.take_length, lastAsList]
  cases s with
  | nil => rfl
  | cons x t =>
    rw [List.getLast?_eq_some_getLast (by simp), List.getLast_eq_getElem, List.drop_eq_getElem_cons (by simp)]
    simp

theorem pyIndex_natCast (n k : Nat) : pyIndex n (k : Int) = if k < n then some k else none := by
  unfold pyIndex
  have h1 : ¬ ((k : Int) < 0) := by omega
  simp [h1]

theorem pyIndex_neg (n k : Nat) (hk : 0 < k) : pyIndex n (-(k : Int)) = if k ≤ n then some (n - k) else none := by
  unfold pyIndex
  have h1 : (-(k : Int)) < 0 := by omega
  simp only [h1, if_true]
  by_cases h : k ≤ n
  · have h2 : ¬ (-(k : Int) + (n : Int) < 0) := by omega
    have h3 : (-(k : Int) + (n : Int)).toNat = n - k := by omega
    simp [h, h2, h3]; omega
  · have h2 : -(k : Int) + (n : Int) < 0 := by omega
    simp [h, h2]

theorem pyIndex_lt {n : Nat} {i : Int} {k : Nat} (h : pyIndex n i = some k) : k < n := by
  unfold pyIndex at h
  generalize (if i < 0 then i + (n : Int) else i) = j at h
  by_cases h1 : j < 0
  · simp [h1] at h
  · simp only [h1, if_false] at h
    split at h
    · cases h; assumption
    · cases h

theorem getItem_of_pyIndex (s : List α) (i : Int) :
    getItem s i = match pyIndex s.length i with
      | some k => (match s[k]? with | some x => .ok x | none => .error "IndexError")
      | none => .error "IndexError" := by
  unfold getItem pyIndex
  generalize (if i < 0 then i + (s.length : Int) else i) = j
  by_cases h : j < 0
  · simp [h]
  · by_cases h2 : j.toNat < s.length
    · simp [h, h2]
    · simp [h, h2]

theorem getItem_nat (l : List α) (n : Nat) :
    getItem l (n : Int) = match l[n]? with | some x => .ok x | none => .error "IndexError" := by
  rw [getItem_of_pyIndex, pyIndex_natCast]
  by_cases h : n < l.length
  · rw [if_pos h]
  · rw [if_neg h, List.getElem?_eq_none (Nat.le_of_not_lt h)]

theorem getItem_neg_nat (l : List α) (n : Nat) (h0 : 0 < n) (hn : n ≤ l.length) :
    ∃ x, l[l.length - n]? = some x ∧ getItem l (-(n : Int)) = .ok x := by
  have hlt : l.length - n < l.length := by omega
  refine ⟨l[l.length - n], List.getElem?_eq_getElem hlt, ?_⟩
  rw [getItem_of_pyIndex, pyIndex_neg _ _ h0, if_pos hn]
  simp only [List.getElem?_eq_getElem hlt]

theorem getItem_zero_cons (x : α) (t : List α) : getItem (x :: t) 0 = .ok x := by
  simp [getItem]

theorem getItem_neg_one_cons (x : α) (t : List α) :
    getItem (x :: t) (-1) = .ok ((x :: t).getLast (by simp)) := by
  unfold getItem
  have h1 : ((-1 : Int) < 0) := by omega
  have h2 : ¬ ((-1 : Int) + ((x :: t).length : Nat) < 0) := by simp; omega
  have h3 : ((-1 : Int) + ((x :: t).length : Nat)).toNat = t.length := by simp; omega
  simp only [h1, if_true, h2, if_false, h3]
  rw [List.getLast_eq_getElem]
  simp

theorem getItemStr_zero_cons (x : α) (t : List α) : getItemStr (x :: t) 0 = .ok [x] := by
  simp [getItemStr, getItem]

theorem getItemStr_zero_nil : getItemStr ([] : List α) 0 = .error "IndexError" := by
  simp [getItemStr, getItem]

theorem getItemStr_neg_one_nil : getItemStr ([] : List α) (-1) = .error "IndexError" := by
  simp [getItemStr, getItem]

theorem getItemStr_neg_one_cons (x : α) (t : List α) :
    getItemStr (x :: t) (-1) = .ok [(x :: t).getLast (by simp)] := by
  rw [getItemStr, getItem_neg_one_cons]

theorem getItemStr_neg_one (s : List α) :
    getItemStr s (-1) = match s.getLast? with
      | some c => .ok [c]
      | none => .error "IndexError" := by
  cases s with
  | nil => simp [getItemStr_neg_one_nil]
  | cons x t =>
    rw [getItemStr_neg_one_cons, List.getLast?_eq_some_getLast (by simp)]

theorem setItem_lt (L : List α) (n : Nat) (v : α) (h : n < L.length) :
    setItem L (n : Int) v = .ok (L.set n v) := by
  rw [setItem, pyIndex_natCast, if_pos h]

theorem delItem_lt (L : List α) (n : Nat) (h : n < L.length) :
    delItem L (n : Int) = .ok (L.eraseIdx n) := by
  rw [delItem, pyIndex_natCast, if_pos h]

/-- `xs[a:b] = ys` for `0 ≤ a ≤ b` -/
theorem setSlice_nat (xs ys : List α) {a b : Nat} (h : a ≤ b) :
    setSlice xs (some (a : Int)) (some (b : Int)) ys = xs.take a ++ ys ++ xs.drop b := by
  simp only [setSlice, clamp_natCast]
  rw [← List.take_eq_take_min]
  rcases Nat.le_total b xs.length with hb | hb
  · rw [Nat.min_eq_left hb, Nat.max_eq_right (Nat.le_trans (Nat.min_le_left _ _) h)]
  · rw [Nat.min_eq_right hb, List.drop_eq_nil_of_le hb, List.drop_eq_nil_of_le (Nat.le_max_right _ _)]

/-- `xs[a:] = ys` -/
theorem setSlice_nat_none (xs ys : List α) (a : Nat) :
    setSlice xs (some (a : Int)) none ys = xs.take a ++ ys := by
  simp only [setSlice, clamp_natCast, Nat.max_eq_right (Nat.min_le_right _ _), List.drop_length, List.append_nil,
    ← List.take_eq_take_min]

/-- `xs[:n] = ys` -/
theorem setSlice_none_nat (xs ys : List α) (n : Nat) :
    setSlice xs none (some (n : Int)) ys = ys ++ xs.drop n := by
  simp [setSlice, clamp_natCast]

/-- `len(bytearray(i))` -/
theorem bytearrayZeros_length (i : Int) : (bytearrayZeros i).length = i.toNat := by
  simp [bytearrayZeros]

theorem slice_append_two (pre suf : List α) (n : Nat) (hn : pre.length = n) :
    slice (pre ++ suf) (some (n : Int)) (some ((n : Int) + 2)) = suf.take 2 := by
  subst hn
  have : ((pre.length : Int) + 2) = ((pre.length + 2 : Nat) : Int) := by push_cast; rfl
  rw [this, slice_nat]
  simp [List.take_append]

theorem getItemStr_append (pre : List α) (c : α) (t : List α) (n : Nat) (hn : pre.length = n) :
    getItemStr (pre ++ c :: t) (n : Int) = .ok [c] := by
  subst hn
  rw [getItemStr, getItem_nat]
  simp

theorem slice_to_append (pre : List α) (c : α) (t : List α) (n : Nat) (hn : pre.length = n) :
    slice (pre ++ c :: t) none (some ((n : Int) + 1)) = pre ++ [c] := by
  subst hn
  have : ((pre.length : Int) + 1) = ((pre.length + 1 : Nat) : Int) := by push_cast; rfl
  rw [this, slice_none_nat]
  simp [List.take_append, List.take_of_length_le]

theorem slice_from_append (pre : List α) (c : α) (t : List α) (n : Nat) (hn : pre.length = n) :
    slice (pre ++ c :: t) (some ((n : Int) + 1)) none = t := by
  subst hn
  have : ((pre.length : Int) + 1) = ((pre.length + 1 : Nat) : Int) := by push_cast; rfl
  rw [this, slice_nat_none]
  simp [List.drop_append]

/-- `s[n+1 : n+2]` where `s[n] = c`: the (at most one) element after `c` -/
theorem slice_after_append (pre : List α) (c : α) (t : List α) (n : Nat) (hn : pre.length = n) :
    slice (pre ++ c :: t) (some ((n : Int) + 1)) (some ((n : Int) + 2)) = t.take 1 := by
  subst hn
  have e1 : ((pre.length : Int) + 1) = ((pre.length + 1 : Nat) : Int) := by push_cast; rfl
  have e2 : ((pre.length : Int) + 2) = ((pre.length + 2 : Nat) : Int) := by push_cast; rfl
  rw [e1, e2, slice_nat]
  simp [List.take_append, List.drop_append]

theorem isPrefixOf_singleton [BEq α] (c x : α) (t : List α) :
    [c].isPrefixOf (x :: t) = (c == x) := by
  simp [List.isPrefixOf]

theorem startswith_singleton_cons [BEq α] (c x : α) (t : List α) :
    startswith (x :: t) [c] = (c == x) := by
  simp [startswith, List.isPrefixOf]

theorem startswith_singleton_nil [BEq α] (c : α) : startswith ([] : List α) [c] = false := by
  simp [startswith, List.isPrefixOf]

theorem findIdx?_singleton_cons [BEq α] (c x : α) (t : List α) :
    findIdx? [c] (x :: t) = if c == x then some 0 else (findIdx? [c] t).map (· + 1) := by
  simp only [findIdx?, isPrefixOf_singleton]

theorem findIdx?_singleton_nil [BEq α] (c : α) : findIdx? [c] ([] : List α) = none := by
  simp [findIdx?]

/-- `s.find(c)` for a one-character `c` is core's `findIdx?` -/
theorem findIdx?_singleton [BEq α] (c : α) (s : List α) : findIdx? [c] s = s.findIdx? (c == ·) := by
  induction s with
  | nil => exact findIdx?_singleton_nil c
  | cons x t ih => rw [findIdx?_singleton_cons, ih, List.findIdx?_cons]

theorem rfindIdx?_singleton_cons_some [BEq α] (c a : α) (t : List α) (i : Nat)
    (h : rfindIdx? [c] t = some i) : rfindIdx? [c] (a :: t) = some (i + 1) := by
  simp [rfindIdx?, h]

theorem rfindIdx?_singleton_cons_none [BEq α] (c a : α) (t : List α)
    (h : rfindIdx? [c] t = none) : rfindIdx? [c] (a :: t) = if c == a then some 0 else none := by
  simp [rfindIdx?, h, List.isPrefixOf]

theorem rfind_cons [BEq α] (c a : α) (t : List α) :
    rfind (a :: t) [c] = if 0 ≤ rfind t [c] then rfind t [c] + 1 else if c == a then 0 else -1 := by
  unfold rfind
  cases h : rfindIdx? [c] t with
  | none =>
    rw [rfindIdx?_singleton_cons_none c a t h]
    by_cases hc : (c == a) = true <;> simp [hc]
  | some i =>
    rw [rfindIdx?_singleton_cons_some c a t i h]
    have : (0 : Int) ≤ (i : Int) := by omega
    simp [this]

theorem rfind_ge [BEq α] (c : α) (t : List α) : -1 ≤ rfind t [c] := by
  unfold rfind; cases rfindIdx? [c] t <;> simp <;> omega

section search
variable [BEq α] [LawfulBEq α]

theorem findIdx?_singleton_not_mem (c : α) (s : List α) (h : c ∉ s) : findIdx? [c] s = none := by
  rw [findIdx?_singleton, List.findIdx?_eq_none_iff]
  intro x hx
  simpa using fun e : c = x => h (e ▸ hx)

theorem findIdx?_singleton_append (c : α) (pre post : List α) (h : c ∉ pre) :
    findIdx? [c] (pre ++ c :: post) = some pre.length := by
  rw [findIdx?_singleton, List.findIdx?_append,
    List.findIdx?_eq_none_iff.2 fun x hx => by simpa using fun e : c = x => h (e ▸ hx)]
  simp [List.findIdx?_cons]

theorem find_singleton_not_mem (c : α) (s : List α) (h : c ∉ s) : find s [c] = -1 := by
  simp [find, findIdx?_singleton_not_mem c s h]

theorem find_singleton_append (c : α) (pre post : List α) (h : c ∉ pre) :
    find (pre ++ c :: post) [c] = (pre.length : Int) := by
  simp [find, findIdx?_singleton_append c pre post h]

theorem rfindIdx?_singleton_not_mem (c : α) (s : List α) (h : c ∉ s) : rfindIdx? [c] s = none := by
  induction s with
  | nil => simp [rfindIdx?]
  | cons x t ih =>
    have hx : (c == x) = false := by
      simp only [List.mem_cons, not_or] at h
      simpa using h.1
    have ht : c ∉ t := fun hm => h (List.mem_cons_of_mem _ hm)
    simp [rfindIdx?, ih ht, isPrefixOf_singleton, hx]

theorem rfindIdx?_singleton_append (c : α) (pre post : List α) (h : c ∉ post) :
    rfindIdx? [c] (pre ++ c :: post) = some pre.length := by
  induction pre with
  | nil => simp [rfindIdx?, rfindIdx?_singleton_not_mem c post h]
  | cons x t ih => simp [rfindIdx?, ih]

theorem rfind_neg_iff (c : α) (t : List α) : rfind t [c] = -1 ↔ c ∉ t := by
  constructor
  · intro h hm
    obtain ⟨a, b, rfl, hb⟩ := split_at_last c t hm
    simp only [rfind, rfindIdx?_singleton_append c a b hb] at h
    omega
  · intro h; simp [rfind, rfindIdx?_singleton_not_mem c t h]

theorem partition_append (c : α) (a b : List α) (h : c ∉ a) : partition (a ++ c :: b) [c] = (a, [c], b) := by
  simp [partition, findIdx?_singleton_append c a b h]

/-- `x, y = s.split(c, 1)` at the first `c` -/
theorem splitOnce_append (c : α) (a b : List α) (h : c ∉ a) : splitOnce (a ++ c :: b) [c] = .ok (a, b) := by
  simp [splitOnce, findIdx?_singleton_append c a b h]

/-- `x, y = s.split(c, 1)` under `c in s` -/
theorem splitOnce_singleton_mem (s : List α) (c : α) (h : c ∈ s) :
    splitOnce s [c] = .ok (s.takeWhile (· != c), (s.dropWhile (· != c)).drop 1) := by
  rcases split_at_first c s with ⟨h1, _, _⟩ | ⟨pre, post, h1, h2, h3, h4⟩
  · exact absurd h h1
  · rw [h3, h4, h1, splitOnce_append c pre post h2]; rfl

theorem splitOnce_singleton_not_mem (s : List α) (c : α) (h : c ∉ s) :
    splitOnce s [c] = .error "ValueError" := by
  simp [splitOnce, findIdx?_singleton_not_mem c s h]

/-- `x, y = s.rsplit(c, 1)` at the last `c` -/
theorem rsplitOnce_append (c : α) (a b : List α) (h : c ∉ b) : rsplitOnce (a ++ c :: b) [c] = .ok (a, b) := by
  simp [rsplitOnce, rfindIdx?_singleton_append c a b h]

/-- `s.rsplit(c, 1)` at the last `c` -/
theorem rsplit1_append (c : α) (a b : List α) (h : c ∉ b) : rsplit1 (a ++ c :: b) [c] = [a, b] := by
  simp [rsplit1, rfindIdx?_singleton_append c a b h]

theorem partition_singleton (s : List α) (c : α) :
    partition s [c] =
      (s.takeWhile (· != c), if s.contains c then [c] else [], (s.dropWhile (· != c)).drop 1) := by
  rcases split_at_first c s with ⟨h1, h2, h3⟩ | ⟨pre, post, h1, h2, h3, h4⟩
  · have hc : s.contains c = false := by simpa using h1
    rw [h2, h3, hc]
    simp [partition, findIdx?_singleton_not_mem c s h1]
  · have hc : s.contains c = true := by simp [h1]
    rw [h3, h4, hc, h1, partition_append c pre post h2]
    rfl

theorem partition_singleton_fst (s : List α) (c : α) :
    (partition s [c]).1 = s.takeWhile (· != c) := by
  rw [partition_singleton]

/-- `s.rsplit(c, 1)` for a one-character `c` that occurs in `s`, in terms of the reversed text: the
last item is what precedes the first `c` of `reversed(s)`, the head is what follows it. In
particular the two-way unpacking `a, b = s.rsplit(c, 1)` cannot fail under `c in s`. -/
theorem rsplitOnce_singleton (c : α) (s : List α) (h : c ∈ s) :
    rsplitOnce s [c] = .ok (((s.reverse.dropWhile (· != c)).drop 1).reverse,
      (s.reverse.takeWhile (· != c)).reverse) := by
  rcases split_at_first c s.reverse with ⟨h1, _, _⟩ | ⟨pre, post, h1, h2, h3, h4⟩
  · exact absurd (by simpa using h) h1
  · have hs : s = post.reverse ++ c :: pre.reverse := by
      have := congrArg List.reverse h1
      simpa using this
    rw [h3, h4, hs, rsplitOnce_append c _ _ (by simpa using h2)]
    simp

/-- `s.split(c)` for a one-character separator is any scanner `go` with the two equations of the models'
`splitOnChar` (current piece reversed in `cur`) -/
theorem splitOnAux_singleton_of {c : α} {go : List α → List α → List (List α)}
    (hnil : ∀ cur, go [] cur = [cur.reverse])
    (hcons : ∀ x t cur, go (x :: t) cur = if x == c then cur.reverse :: go t [] else go t (x :: cur))
    (s cur : List α) : splitOnAux [c] s 0 cur = go s cur := by
  induction s generalizing cur with
  | nil => exact (hnil cur).symm
  | cons x t ih =>
    simp only [splitOnAux, isPrefixOf_singleton, List.length_singleton, Nat.sub_self, hcons, ih]
    by_cases h : c = x
    · subst h; simp
    · have h1 : (c == x) = false := by simpa using h
      have h2 : (x == c) = false := by simpa using fun h' => h h'.symm
      simp [h1, h2]

theorem contains_singleton (s : List α) (c : α) :
    contains s [c] = s.contains c := by
  induction s with
  | nil => simp [contains, findIdx?_singleton_nil]
  | cons x t ih =>
    simp only [contains, findIdx?_singleton_cons, List.contains_cons] at ih ⊢
    by_cases h : c = x
    · subst h; simp
    · have h' : (c == x) = false := by simpa using h
      rw [← ih]; simp [h']

theorem startswith_singleton_head (s : List α) (c : α) :
    startswith s [c] = (s.head? == some c) := by
  cases s with
  | nil => simp [startswith_singleton_nil]
  | cons x t =>
    rw [startswith_singleton_cons]
    by_cases h : c = x
    · subst h; simp
    · have h1 : (c == x) = false := by simpa using h
      have h2 : ¬ x = c := fun h' => h h'.symm
      simp [h1, h2]

theorem endswith_singleton (s : List α) (c : α) :
    endswith s [c] = (s.getLast? == some c) := by
  unfold endswith List.isSuffixOf
  rw [← List.head?_reverse]
  cases s.reverse with
  | nil => simp
  | cons x t => simp [isPrefixOf_singleton, BEq.comm]

end search

/-- a text that does not begin with `p` (read off a failed pattern match) fails `startswith(p)` -/
theorem startswith_false {e : List Char} (p : List Char) (h : ∀ t, e ≠ p ++ t) : startswith e p = false :=
  Bool.eq_false_iff.mpr fun hp => by
    obtain ⟨t, rfl⟩ := List.isPrefixOf_iff_prefix.mp hp
    exact h t rfl

theorem contains_singleton_elem [BEq α] [LawfulBEq α] (c x : α) : ([c] : List α).contains x = (x == c) := by
  simp

theorem lstripChars_singleton (c : Char) (s : Str) : lstripChars s [c] = s.dropWhile (· == c) := by
  simp only [lstripChars, contains_singleton_elem]

theorem rstripChars_singleton (c : Char) (s : Str) :
    rstripChars s [c] = (s.reverse.dropWhile (· == c)).reverse := by
  simp only [rstripChars, contains_singleton_elem]

theorem replaceAux_single [BEq α] [LawfulBEq α] (c : α) (r : List α) (s : List α) :
    replaceAux [c] r s 0 = s.flatMap (fun x => if x == c then r else [x]) := by
  induction s with
  | nil => rfl
  | cons x t ih =>
    simp only [replaceAux, isPrefixOf_singleton, List.length_singleton, Nat.sub_self, ih, List.flatMap_cons]
    by_cases h : c = x
    · subst h; simp
    · have h1 : (c == x) = false := by simpa using h
      have h2 : (x == c) = false := by simpa using fun h' => h h'.symm
      simp [h1, h2]

theorem replace_single [BEq α] [LawfulBEq α] (c : α) (r s : List α) :
    replace s [c] r = s.flatMap (fun x => if x == c then r else [x]) := by
  simp [replace, replaceAux_single]

theorem replace_singleton [BEq α] [LawfulBEq α] (c d : α) (s : List α) :
    replace s [c] [d] = s.map (fun x => if x == c then d else x) := by
  rw [replace_single]
  induction s with
  | nil => rfl
  | cons x t ih => rw [List.flatMap_cons, ih, List.map_cons]; split <;> rfl

theorem join_eq_intercalate {α : Type} (sep : List α) (ws : List (List α)) :
    Pre.join sep ws = sep.intercalate ws := by
  induction ws with
  | nil => rfl
  | cons w t ih =>
    cases t with
    | nil => simp [Pre.join, List.intercalate]
    | cons w2 t2 =>
      simp only [Pre.join] at ih ⊢
      rw [ih]
      simp [List.intercalate, List.intersperse]

theorem join_nil_eq_flatten {α : Type} (xs : List (List α)) : join [] xs = xs.flatten := by
  rw [join_eq_intercalate]
  induction xs with
  | nil => rfl
  | cons w t ih =>
    cases t with
    | nil => simp [List.intercalate]
    | cons w' t' => rw [List.intercalate_cons_cons, ih]; simp

section frozenset
variable [BEq α]

theorem setAdd_contains [LawfulBEq α] (s : List α) (y x : α) :
    (setAdd s y).contains x = (s.contains x || x == y) := by
  unfold setAdd
  by_cases h : y ∈ s
  · by_cases hx : x = y
    · subst hx; simp [h]
    · simp [h, hx]
  · by_cases hx : x = y
    · subst hx; simp [h]
    · by_cases hs : x ∈ s <;> simp [h, hx, hs]

theorem foldl_setAdd_contains [LawfulBEq α] (l : List α) : ∀ (acc : List α) (x : α),
    (l.foldl setAdd acc).contains x = (acc.contains x || l.contains x) := by
  induction l with
  | nil => intro acc x; simp
  | cons y t ih =>
    intro acc x
    rw [List.foldl_cons, ih, setAdd_contains, List.contains_cons, Bool.or_assoc]

theorem frozenset_contains [LawfulBEq α] (l : List α) (x : α) :
    (frozenset l).contains x = l.contains x := by
  unfold frozenset
  rw [foldl_setAdd_contains]; simp

theorem frozenset_mem [LawfulBEq α] (l : List α) (x : α) : x ∈ frozenset l ↔ x ∈ l := by
  have := frozenset_contains l x
  simpa using this

theorem foldl_setAdd_isEmpty (l : List α) : ∀ (acc : List α),
    (l.foldl setAdd acc).isEmpty = (acc.isEmpty && l.isEmpty) := by
  induction l with
  | nil => intro acc; simp
  | cons y t ih =>
    intro acc
    rw [List.foldl_cons, ih]
    unfold setAdd
    by_cases h : acc.contains y = true
    · have : acc.isEmpty = false := by cases acc <;> simp_all
      simp [h, this]
    · simp [h]

theorem frozenset_isEmpty (l : List α) : (frozenset l).isEmpty = l.isEmpty := by
  unfold frozenset
  rw [foldl_setAdd_isEmpty]; simp

end frozenset

theorem strOfInt_nat (p : Nat) : strOfInt (p : Int) = (toString p).toList := rfl

theorem strOfInt_ofNat (n : Nat) : strOfInt (Int.ofNat n) = Nat.toDigits 10 n := toString_ofNat_toList n

theorem strOfInt_negSucc (n : Nat) : strOfInt (Int.negSucc n) = '-' :: Nat.toDigits 10 (n + 1) :=
  toString_negSucc_toList n

theorem isDigitA_eq (c : Char) : isDigitA c = c.isDigit := by
  rw [Bool.eq_iff_iff]
  simp only [isDigitA, Char.isDigit, Bool.and_eq_true, decide_eq_true_eq]
  exact ⟨fun h => ⟨h.1, h.2⟩, fun h => ⟨h.1, h.2⟩⟩

theorem plainInt_error (s : Str) (e : String) (h : plainInt s = .error e) : e = "ValueError" := by
  unfold plainInt at h
  simp only [] at h
  split at h <;> cases h
  rfl

/-- `_plain_int(v)` by the shape of the stripped text: `-digits` -/
theorem plainInt_neg {v t : Str} (h : Py.strip v = '-' :: t) :
    plainInt v = if !t.isEmpty && t.all isDigitA then .ok (-(digitsVal t : Int)) else .error "ValueError" := by
  simp [plainInt, isPlainIntText, plainIntVal, h]

/-- … and digits without a sign -/
theorem plainInt_pos {v : Str} (h : (Py.strip v).head? ≠ some '-') :
    plainInt v = if !(Py.strip v).isEmpty && (Py.strip v).all isDigitA then .ok (digitsVal (Py.strip v) : Int)
      else .error "ValueError" := by
  have : ((Py.strip v).head? == some '-') = false := by simpa using h
  simp [plainInt, isPlainIntText, plainIntVal, this]

theorem enumerateFrom_map_snd {α : Type} (t : List α) (i : Int) :
    (enumerateFrom i t).map (fun p_ => p_.2) = t := by
  induction t generalizing i with
  | nil => rfl
  | cons x t ih => simp [enumerateFrom, ih]

/-- `next(x for x in xs if p)` -/
theorem nextOf_filter_map {α β : Type} (p : α → Bool) (g : α → β) (l : List α) :
    nextOf ((l.filter p).map g) =
      match l.find? p with
      | some x => .ok (g x)
      | none => .error "StopIteration" := by
  induction l with
  | nil => rfl
  | cons x t ih =>
    by_cases h : p x = true
    · simp [h, nextOf]
    · have h' : p x = false := by simpa using h
      simp only [List.filter_cons, h', Bool.false_eq_true, if_false, ih, List.find?_cons]

/-- `if not b:` as the translator writes it -/
theorem ite_not_swap {α : Type} (b : Bool) (x y : α) :
    (if (!b) = true then x else y) = if b = true then y else x := by
  cases b <;> rfl

/-- the prelude's `<=` on `str` is the lexicographic order of the code points: the order of `List Char` -/
theorem strLe_iff (a b : Str) : strLe a b = true ↔ a ≤ b := by
  induction a generalizing b with
  | nil => simp [strLe]
  | cons x t ih =>
    cases b with
    | nil => simp [strLe]
    | cons y u =>
      have hlt : ∀ c d : Char, c.toNat < d.toNat ↔ c < d := fun c d => Iff.rfl
      rw [strLe, List.cons_le_cons_iff, ← ih, ← hlt]
      by_cases h1 : x.toNat < y.toNat
      · simp [h1]
      · by_cases h2 : y.toNat < x.toNat
        · have : x ≠ y := fun e => by subst e; omega
          simp [h1, h2, this]
        · have : x = y := Char.toNat_inj.mp (by omega)
          simp [this]

theorem strLe_refl (a : Str) : strLe a a = true := by
  induction a with
  | nil => rfl
  | cons x t ih => simp [strLe, ih]

theorem strLe_total (a b : Str) : strLe a b = true ∨ strLe b a = true := by
  simp only [strLe_iff]
  exact List.le_total a b

theorem strLe_antisymm (a b : Str) (h1 : strLe a b = true) (h2 : strLe b a = true) : a = b :=
  List.le_antisymm ((strLe_iff a b).mp h1) ((strLe_iff b a).mp h2)

theorem strLe_trans (a b c : Str) (h1 : strLe a b = true) (h2 : strLe b c = true) :
    strLe a c = true :=
  (strLe_iff a c).mpr (List.le_trans ((strLe_iff a b).mp h1) ((strLe_iff b c).mp h2))

theorem insertSorted_perm (x : Str) (l : List Str) : (insertSorted x l).Perm (x :: l) := by
  induction l with
  | nil => exact List.Perm.refl _
  | cons y t ih =>
    unfold insertSorted
    by_cases h : strLe y x = true
    · simp only [h, if_true]
      exact ((List.Perm.cons y ih).trans (List.Perm.swap x y t))
    · simp only [h]
      exact List.Perm.refl _

theorem insertSorted_sorted (x : Str) (l : List Str)
    (hl : l.Pairwise (fun a b => strLe a b = true)) :
    (insertSorted x l).Pairwise (fun a b => strLe a b = true) := by
  induction l with
  | nil => simp [insertSorted]
  | cons y t ih =>
    have hy := (List.pairwise_cons.mp hl).1
    have ht := (List.pairwise_cons.mp hl).2
    unfold insertSorted
    by_cases h : strLe y x = true
    · simp only [h, if_true]
      refine List.pairwise_cons.mpr ⟨?_, ih ht⟩
      intro z hz
      rcases List.mem_cons.mp ((insertSorted_perm x t).mem_iff.mp hz) with e | e
      · rw [e]; exact h
      · exact hy z e
    · simp only [h]
      have hxy : strLe x y = true := by
        rcases strLe_total x y with h' | h'
        · exact h'
        · exact absurd h' h
      refine List.pairwise_cons.mpr ⟨?_, hl⟩
      intro z hz
      rcases List.mem_cons.mp hz with e | e
      · rw [e]; exact hxy
      · exact strLe_trans x y z hxy (hy z e)

/-- the insertion loop of `sortedStr`: sorted, and a permutation of accumulator plus input -/
theorem foldl_insertSorted (xs : List Str) : ∀ acc : List Str,
    acc.Pairwise (fun a b => strLe a b = true) →
    (xs.foldl (fun acc x => insertSorted x acc) acc).Pairwise (fun a b => strLe a b = true) ∧
    (xs.foldl (fun acc x => insertSorted x acc) acc).Perm (acc ++ xs) := by
  induction xs with
  | nil => intro acc h; simpa using h
  | cons x t ih =>
    intro acc h
    obtain ⟨h1, h2⟩ := ih (insertSorted x acc) (insertSorted_sorted x acc h)
    refine ⟨h1, h2.trans ?_⟩
    have := (insertSorted_perm x acc).append_right t
    refine this.trans ?_
    simp only [List.cons_append]
    exact (List.perm_middle).symm

theorem sortedStr_sorted (xs : List Str) :
    (sortedStr xs).Pairwise (fun a b => strLe a b = true) :=
  (foldl_insertSorted xs [] List.Pairwise.nil).1

theorem sortedStr_perm (xs : List Str) : (sortedStr xs).Perm xs := by
  have := (foldl_insertSorted xs [] List.Pairwise.nil).2
  simpa [sortedStr] using this

theorem sortedStr_eq_iff (a b : List Str) : sortedStr a = sortedStr b ↔ a.Perm b := by
  constructor
  · intro h
    exact (sortedStr_perm a).symm.trans (h ▸ sortedStr_perm b)
  · intro h
    refine List.Perm.eq_of_pairwise (fun x y _ _ h1 h2 => strLe_antisymm x y h1 h2)
      (sortedStr_sorted a) (sortedStr_sorted b) ?_
    exact (sortedStr_perm a).trans (h.trans (sortedStr_perm b).symm)

theorem sortedStr_beq (a b : List Str) : (sortedStr a == sortedStr b) = a.isPerm b := by
  rw [Bool.eq_iff_iff, beq_iff_eq, List.isPerm_iff]
  exact sortedStr_eq_iff a b

/-- a `for` loop whose body is `if p x: return g x` returns at the first `x` with `p x` -/
theorem forLoop_first {α β : Type} (loop : List α → Loop β Unit) (p : α → Bool) (g : α → β)
    (hnil : loop [] = .fall ()) (hcons : ∀ x rest, loop (x :: rest) = if p x then .ret (g x) else loop rest) (d : List α) :
    loop d = match d.find? p with
      | some x => .ret (g x)
      | none => .fall () := by
  induction d with
  | nil => exact hnil
  | cons x rest ih =>
    rw [hcons, List.find?_cons]
    cases p x
    · exact ih
    · rfl

/-- a `for` loop that appends to a list: one turn appends `g s` for the value `s` of `f x`, or leaves the function with the
exception of `f x`. The loop falls through with everything appended, or returns the first exception -/
theorem forLoop_mapM {α β γ ρ : Type} (loop : List α → List β → Loop (Except String ρ) (List β))
    (f : α → Except String γ) (g : γ → List β) (hnil : ∀ acc, loop [] acc = .fall acc) (d : List α)
    (hcons : ∀ x ∈ d, ∀ rest acc, loop (x :: rest) acc = match f x with
      | .ok s => loop rest (acc ++ g s)
      | .error e => .ret (.error e)) :
    ∀ acc, loop d acc = match d.mapM f with
      | .ok ys => .fall (acc ++ ys.flatMap g)
      | .error e => .ret (.error e) := by
  induction d with
  | nil => intro acc; simp [hnil, pure, Except.pure]
  | cons x rest ih =>
    intro acc
    rw [hcons x (by simp), List.mapM_cons]
    cases f x with
    | error e => rfl
    | ok s =>
      show loop rest (acc ++ g s) = match (rest.mapM f >>= fun ys => pure (s :: ys)) with | .ok ys => _ | .error e => _
      rw [ih fun y hy => hcons y (by simp [hy])]
      cases rest.mapM f with
      | error e => rfl
      | ok ys => simp [bind, Except.bind, pure, Except.pure]

/-- a `for` loop that only appends: one turn appends `g x`. The loop falls through with everything appended -/
theorem forLoop_append {α β ρ : Type} (loop : List α → List β → Loop ρ (List β)) (g : α → List β)
    (hnil : ∀ acc, loop [] acc = .fall acc) (hcons : ∀ x rest acc, loop (x :: rest) acc = loop rest (acc ++ g x))
    (d : List α) : ∀ acc, loop d acc = .fall (acc ++ d.flatMap g) := by
  induction d with
  | nil => intro acc; simp [hnil]
  | cons x rest ih => intro acc; rw [hcons, ih, List.flatMap_cons, List.append_assoc]

end Wz.Pre
