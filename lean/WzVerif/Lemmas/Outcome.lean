/-
How an exception-aware computation (`Except String α`, the error string a Python exception class) ends: `Ends Q E x` says that
`x` returns a value satisfying `Q` or raises an exception satisfying `E`. It is closed under the steps of a `do` block (`ok`,
`error`, `bind`, `map`, `foldlM`) and under weakening (`mono`); `of_ok` / `of_error` read it at a known outcome. The notions the
properties are stated with — "never raises", "returns a value of this shape", "raises only these classes" — are `Ends` for
particular `Q` and `E` (Lemmas/HttpSafe.lean, Lemmas/MultipartSafe.lean).
After `Ends`: the `do` block of `Except String` on a known outcome (`ok_bind`, `error_bind`, `bind_eq_self_of_ok`), and `mapM` /
`foldlM` whose step is known only on the items at hand - the form in which a parser meets the text a dumper wrote.
-/
namespace Wz

/-- `x` returns a value satisfying `Q`, or raises an exception satisfying `E` -/
def Ends {α : Type} (Q : α → Prop) (E : String → Prop) (x : Except String α) : Prop :=
  match x with
  | .ok a => Q a
  | .error e => E e

namespace Ends
variable {α β : Type} {Q Q' : α → Prop} {E E' : String → Prop} {x : Except String α}

theorem ok {a : α} (h : Q a) : Ends Q E (.ok a) := h
theorem error {e : String} (h : E e) : Ends Q E (.error e) := h

theorem of_ok {a : α} (h : Ends Q E x) (hx : x = .ok a) : Q a := by subst hx; exact h
theorem of_error {e : String} (h : Ends Q E x) (hx : x = .error e) : E e := by subst hx; exact h

theorem mono (h : Ends Q E x) (hq : ∀ a, Q a → Q' a) (he : ∀ e, E e → E' e) : Ends Q' E' x := by
  cases x with
  | ok a => exact hq a h
  | error e => exact he e h

theorem and (h : Ends Q E x) (h' : Ends Q' E x) : Ends (fun a => Q a ∧ Q' a) E x := by
  cases x with
  | ok a => exact ⟨h, h'⟩
  | error e => exact h

theorem bind {R : β → Prop} {f : α → Except String β} (h : Ends Q E x) (hf : ∀ a, Q a → Ends R E (f a)) :
    Ends R E (x.bind f) := by
  cases x with
  | ok a => exact hf a h
  | error e => exact h

theorem map {R : β → Prop} (f : α → β) (h : Ends Q E x) (hf : ∀ a, Q a → R (f a)) : Ends R E (x.map f) := by
  cases x with
  | ok a => exact hf a h
  | error e => exact h

theorem foldlM {σ : Type} {I : σ → Prop} (f : σ → α → Except String σ) (l : List α) (init : σ) (h0 : I init)
    (h : ∀ s, I s → ∀ a ∈ l, Ends I E (f s a)) : Ends I E (l.foldlM f init) := by
  induction l generalizing init with
  | nil => exact h0
  | cons a t ih =>
    rw [List.foldlM_cons]
    exact (h init h0 a (by simp)).bind fun s hs => ih s hs fun s' hs' b hb => h s' hs' b (by simp [hb])

end Ends

@[simp] theorem ok_bind {α β : Type} (a : α) (f : α → Except String β) : (Except.ok a >>= f) = f a := rfl
@[simp] theorem error_bind {α β : Type} (e : String) (f : α → Except String β) :
    ((Except.error e : Except String α) >>= f) = Except.error e := rfl
@[simp] theorem pure_eq_ok {α : Type} (a : α) : (pure a : Except String α) = Except.ok a := rfl

/-- a computation that returns `a` is unchanged by a continuation that, at `a`, repeats it -/
theorem bind_eq_self_of_ok {α : Type} {x : Except String α} {a : α} {g : α → Except String α}
    (hx : x = .ok a) (hg : g a = x) : (x >>= g) = x := by
  rw [hx] at hg ⊢; exact hg

theorem mapM_ok {α β : Type} (f : α → Except String β) (g : α → β) (l : List α)
    (h : ∀ x ∈ l, f x = .ok (g x)) : l.mapM f = .ok (l.map g) := by
  induction l with
  | nil => rfl
  | cons a t ih =>
    rw [List.mapM_cons, h a (by simp), ih (fun x hx => h x (by simp [hx]))]
    rfl

theorem mapM_congr_mem {α β : Type} (f g : α → Except String β) (l : List α) (h : ∀ a ∈ l, f a = g a) :
    l.mapM f = l.mapM g := by
  induction l with
  | nil => rfl
  | cons a t ih =>
    simp only [List.mapM_cons, h a (by simp), ih (fun x hx => h x (by simp [hx]))]

theorem mapM_map {α β γ : Type} (f : α → Except String β) (g : β → γ) (l : List α) :
    l.mapM (fun a => (f a).map g) = (l.mapM f).map (List.map g) := by
  induction l with
  | nil => rfl
  | cons a t ih =>
    simp only [List.mapM_cons, ih]
    cases f a with
    | error e => rfl
    | ok b => cases t.mapM f <;> rfl

theorem foldlM_map_ok {α β σ : Type} (f : σ → β → Except String σ) (g : α → β) (h : σ → α → σ) (l : List α)
    (hf : ∀ s, ∀ x ∈ l, f s (g x) = .ok (h s x)) (s : σ) : (l.map g).foldlM f s = .ok (l.foldl h s) := by
  induction l generalizing s with
  | nil => rfl
  | cons x t ih =>
    rw [List.map_cons, List.foldlM_cons, hf s x (by simp)]
    exact ih (fun s y hy => hf s y (by simp [hy])) _

end Wz
