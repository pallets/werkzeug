/-
C13T2 — the test client's `Cookie._matches_request`, `_should_delete` and `_storage_key`
(`werkzeug/test.py`) *as regenerated from the source* by `tools/py2lean.py` (`Gen/PyFns_CookieJar.lean`,
rewritten on every check run) equal the hand-written `JarCookie.matchesRequest` (`domainMatch` /
`pathMatch`), `shouldDelete` and `storageKey` of `Model/CookieJar.lean`, for every cookie, server name
and request path (including the degenerate slices `server_name[:-0]` and `path[len(p) - p.endswith("/"):]`).
-/
import WzVerif.Gen.PyFns_CookieJar
import WzVerif.Lemmas.PyFnsEq_CookieJar
namespace Wz.Props.C13T2
open Wz Wz.Gen.PyFns_CookieJar Wz.PyFnsEq.CookieJar

/-- the first conjunct of the translated `_matches_request` (the test on the server name) is the
model's `domainMatch` -/
theorem cookie_domain_half_eq (d : Wz.Cookie.Str) (oo : Bool) (s : Wz.Cookie.Str) :
    ((s == d) || ((!oo) && (Pre.endswith s d) &&
        (Pre.endswith (Pre.slice s none (some (-(Int.ofNat d.length)))) ['.']))) =
      Wz.Cookie.domainMatch d oo s := by
  unfold Wz.Cookie.domainMatch
  rw [slice_neg_len, endswith_eq, endswith_eq]

/-- the second conjunct of the translated `_matches_request` (the test on the request path) is the
model's `pathMatch` -/
theorem cookie_path_half_eq (c p : Wz.Cookie.Str) :
    ((p == c) || ((Pre.startswith p c) &&
        (Pre.startswith (Pre.slice p (some ((Int.ofNat c.length) -
          (if Pre.endswith c ['/'] then 1 else 0))) none) ['/']))) =
      Wz.Cookie.pathMatch c p := by
  unfold Wz.Cookie.pathMatch
  rw [slice_len_sub_slash, Pre.startswith_singleton_head, Pre.startswith]

/-- the translated `Cookie._matches_request`, applied to the domain, origin-only flag and path of a
jar cookie, decides exactly what the model's `matchesRequest` decides, for every server name and
request path -/
theorem cookie_matches_request_eq (c : Wz.Cookie.JarCookie) (serverName reqPath : Wz.Cookie.Str) :
    cookie_matches_request c.domain c.originOnly c.path serverName reqPath =
      c.matchesRequest serverName reqPath := by
  unfold cookie_matches_request Wz.Cookie.JarCookie.matchesRequest
  rw [cookie_domain_half_eq, cookie_path_half_eq]

/-- the translated `Cookie._should_delete` (max-age is 0, or there is an expiry date whose timestamp
is 0) is the model's `shouldDelete`, for every max-age and expiry timestamp -/
theorem cookie_should_delete_eq (ma ex : Option Int) :
    cookie_should_delete ma ex = Wz.Cookie.shouldDelete ma ex := by
  unfold cookie_should_delete Wz.Cookie.shouldDelete
  cases ex <;> simp

/-- the same for the fields of a jar cookie -/
theorem cookie_should_delete_jar_eq (c : Wz.Cookie.JarCookie) :
    cookie_should_delete c.maxAge c.expires = c.shouldDelete :=
  cookie_should_delete_eq c.maxAge c.expires

/-- the translated `Cookie._storage_key` is the model's key (domain, path, decoded name) -/
theorem cookie_storage_key_eq (c : Wz.Cookie.JarCookie) :
    cookie_storage_key c.domain c.path c.decodedKey = c.storageKey := rfl

end Wz.Props.C13T2
