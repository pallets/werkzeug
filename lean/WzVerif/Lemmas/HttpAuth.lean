/-
`Authorization` / `WWW-Authenticate`: `from_header(to_header(a)) == a` (C06). Basic credentials go through base64 and
UTF-8; every other scheme is written `<Scheme> <body>` with the scheme title-cased, and both `from_header`s read that as
the lower-cased scheme and `authRest` of the body (`fromTitle_roundtrip`): a token (`authRest_token`) or a parameter dict
(`authRest_paramText`, the dict codec at any `allow_token` rule — Digest quotes five of its keys always).
-/
import WzVerif.Lemmas.HttpB64
import WzVerif.Lemmas.HttpCC
namespace Wz.Http
open Wz

/-- the parameters `Authorization.from_header` builds from Basic credentials -/
def basicParams (u p : Str) : Dict (Option Str) := [("username".toList, some u), ("password".toList, some p)]

theorem b64Encode_ne_nil {bs : Bytes} (h : bs ≠ []) : b64Encode bs ≠ [] := by
  fun_cases b64Encode bs <;> simp_all

theorem b64Encode_tight (bs : Bytes) : Tight (b64Encode bs) :=
  tight_of_noSpace fun c hc => (b64Encode_chars bs c hc).2

theorem basic_roundtrip_any (u p : Str) (hu : ':' ∉ u) :
    (authorizationToHeader ⟨"basic".toList, basicParams u p, none⟩ >>= authorizationFromHeader)
      = .ok (some ⟨"basic".toList, basicParams u p, none⟩) := by
  have hdump : authorizationToHeader ⟨"basic".toList, basicParams u p, none⟩
      = .ok ("Basic".toList ++ ' ' :: b64Encode (utf8Enc (u ++ ':' :: p))) := by
    simp [authorizationToHeader, basicParams, dictGet?, optText]
  rw [hdump]
  simp only [ok_bind]
  unfold authorizationFromHeader
  have hne : ("Basic".toList ++ ' ' :: b64Encode (utf8Enc (u ++ ':' :: p))).isEmpty = false := rfl
  have hsp : ' ' ∉ "Basic".toList := by decide
  simp only [hne, Bool.false_eq_true, if_false, partition_found hsp]
  have hl : pyLower "Basic".toList = "basic".toList := by decide
  simp only [hl, strip_tight (b64Encode_tight _), beq_self_eq_true, if_true, b64_roundtrip, ok_bind,
    utf8Strict, utf8Dec_utf8Enc, pure_eq_ok, catching_ok, partition_found hu]
  rfl

/-- a scheme name that survives `.title()` on output and `.lower()` on input, without a space, and
not `basic` (which has its own syntax) -/
def SchemeOk (t : Str) : Bool :=
  !(pyTitle t).contains ' ' && (pyLower (pyTitle t) == t) && (t != "basic".toList)

/-- a token: stripped, and any `=` only trailing -/
def AuthTokenOk (tok : Str) : Bool := (strip tok == tok) && !(Py.rstripBy (· == '=') tok).contains '='

theorem authRest_token (t tok : Str) (htok : AuthTokenOk tok = true) :
    authRest t tok = .ok ⟨t, [], some tok⟩ := by
  simp only [AuthTokenOk, Bool.and_eq_true, beq_iff_eq, Bool.not_eq_true'] at htok
  have h2 : ¬ ('=' ∈ Py.rstripBy (fun x => x == '=') tok) := by simpa using htok.2
  simp [authRest, h2]

/-- what `WWW-Authenticate` asks of a scheme (hence the W): it survives `title()` / `lower()` and its title
has no space; `basic` is an ordinary parameter scheme there, unlike in `SchemeOk` -/
def SchemeOkW (t : Str) : Bool := !(pyTitle t).contains ' ' && (pyLower (pyTitle t) == t)

theorem schemeOkW_of_schemeOk {t : Str} (h : SchemeOk t = true) : SchemeOkW t = true := by
  simp only [SchemeOk, Bool.and_eq_true] at h
  simp only [SchemeOkW, Bool.and_eq_true]
  exact h.1

theorem schemeOk_not_basic {t : Str} (h : SchemeOk t = true) : (t == "basic".toList) = false := by
  simp only [SchemeOk, Bool.and_eq_true, bne_iff_ne, ne_eq] at h
  simpa using h.2

theorem schemeOkW_iff {t : Str} : SchemeOkW t = true ↔ ' ' ∉ pyTitle t ∧ pyLower (pyTitle t) = t := by
  simp [SchemeOkW]

theorem wwwFromHeader_title (t w : Str) (ht : SchemeOkW t = true) :
    wwwFromHeader (pyTitle t ++ ' ' :: w) = (do let a ← authRest t (strip w); pure (some a)) := by
  obtain ⟨hsp, hlow⟩ := schemeOkW_iff.1 ht
  have hne : (pyTitle t ++ ' ' :: w).isEmpty = false := by cases pyTitle t <;> rfl
  simp only [wwwFromHeader, hne, Bool.false_eq_true, if_false, partition_found hsp, hlow]

theorem authorizationFromHeader_title (t w : Str) (ht : SchemeOkW t = true) (hnb : (t == "basic".toList) = false) :
    authorizationFromHeader (pyTitle t ++ ' ' :: w) = (do let a ← authRest t (strip w); pure (some a)) := by
  obtain ⟨hsp, hlow⟩ := schemeOkW_iff.1 ht
  have hne : (pyTitle t ++ ' ' :: w).isEmpty = false := by cases pyTitle t <;> rfl
  simp only [authorizationFromHeader, hne, Bool.false_eq_true, if_false, partition_found hsp, hlow, hnb]

/-- a `from_header` that reads `<Scheme> <rest>` as above inverts a `to_header` that writes `<Scheme> <body>`,
when the tail reads `<body>` back: the round trips of token and parameter schemes, for both headers -/
theorem fromTitle_roundtrip {fromH : Str → Except String (Option Auth)} {toH : Auth → Except String Str}
    {t body : Str} {a : Auth}
    (hfrom : fromH (pyTitle t ++ ' ' :: body) = (do let a ← authRest t (strip body); pure (some a)))
    (hto : toH a = .ok (pyTitle t ++ ' ' :: body)) (hrest : authRest t (strip body) = .ok a) :
    (toH a >>= fromH) = .ok (some a) := by
  rw [hto, ok_bind, hfrom, hrest]; rfl

theorem authorizationToHeader_token (t tok : Str) (hnb : (t == "basic".toList) = false) :
    authorizationToHeader ⟨t, [], some tok⟩ = .ok (pyTitle t ++ ' ' :: tok) := by
  simp only [authorizationToHeader, hnb, Bool.false_eq_true, if_false]
  rfl

theorem authRest_token_strip (t tok : Str) (htok : AuthTokenOk tok = true) :
    authRest t (strip tok) = .ok ⟨t, [], some tok⟩ := by
  have hs : strip tok = tok := by simpa using (Bool.and_eq_true_iff.1 htok).1
  rw [hs, authRest_token t tok htok]

theorem token_auth_roundtrip_any (t tok : Str) (ht : SchemeOk t = true) (htok : AuthTokenOk tok = true) :
    (authorizationToHeader ⟨t, [], some tok⟩ >>= authorizationFromHeader) = .ok (some ⟨t, [], some tok⟩) :=
  fromTitle_roundtrip (authorizationFromHeader_title t tok (schemeOkW_of_schemeOk ht) (schemeOk_not_basic ht))
    (authorizationToHeader_token t tok (schemeOk_not_basic ht)) (authRest_token_strip t tok htok)

theorem www_token_roundtrip_w (t tok : Str) (ht : SchemeOkW t = true) (htok : AuthTokenOk tok = true) :
    (wwwToHeader ⟨t, [], some tok⟩ >>= wwwFromHeader) = .ok (some ⟨t, [], some tok⟩) :=
  fromTitle_roundtrip (wwwFromHeader_title t tok ht) rfl (authRest_token_strip t tok htok)

/-- the wire form of a non-empty parameter dict with at least the first value present is stripped
and has a `=` that is not trailing: `from_header` reads it as parameters, not as a token -/
theorem paramDump_shape (allow : Str → Bool) (x : Str × Option Str) (d : Dict (Option Str))
    (hk : ∀ y ∈ x :: d, KeyOk y.1 = true) (hv : x.2.isSome = true) :
    let w := join ", " ((x :: d).map (paramText allow))
    strip w = w ∧ (Py.rstripBy (· == '=') w).contains '=' = true := by
  intro w
  refine ⟨strip_tight (paramJoin_tight allow x d hk _), ?_⟩
  rw [rstripBy_noop (fun c hc => by
    rcases paramJoin_last allow x d hk _ c hc with rfl | h
    · rfl
    · simpa using isToken_ne_eq h)]
  obtain ⟨k, v⟩ := x
  cases v with
  | none => simp at hv
  | some v =>
    have : '=' ∈ w := by
      show '=' ∈ List.intercalate _ _
      cases d with
      | nil => simp [paramText]
      | cons b t => rw [List.map_cons, List.map_cons, List.intercalate_cons_cons]; simp [paramText]
    simpa using this

theorem authRest_paramText (allow : Str → Bool) (t : Str) (x : Str × Option Str) (d : Dict (Option Str))
    (hk : ∀ y ∈ x :: d, KeyOk y.1 = true) (hnd : ((x :: d).map (·.1)).Nodup) (hv : x.2.isSome = true) :
    authRest t (strip (join ", " ((x :: d).map (paramText allow)))) = .ok ⟨t, x :: d, none⟩ := by
  obtain ⟨h1, h2⟩ := paramDump_shape allow x d hk hv
  rw [h1]
  have h2' : '=' ∈ Py.rstripBy (fun x => x == '=') (join ", " ((x :: d).map (paramText allow))) := by simpa using h2
  have hp := parseDict_params allow (x :: d) hk hnd
  simp only [List.map_cons] at hp h2'
  simp [authRest, h2', hp]

theorem authRest_params (t : Str) (x : Str × Option Str) (d : Dict (Option Str))
    (hk : ∀ y ∈ x :: d, KeyOk y.1 = true) (hnd : ((x :: d).map (·.1)).Nodup) (hv : x.2.isSome = true) :
    authRest t (strip (join ", " ((x :: d).map dictItemText))) = .ok ⟨t, x :: d, none⟩ := by
  rw [dictItemText_eq]
  exact authRest_paramText _ t x d hk hnd hv

theorem param_auth_roundtrip_any (t : Str) (x : Str × Option Str) (d : Dict (Option Str))
    (ht : SchemeOk t = true) (hk : ∀ y ∈ x :: d, KeyOk y.1 = true)
    (hnd : ((x :: d).map (·.1)).Nodup) (hv : x.2.isSome = true) :
    (authorizationToHeader ⟨t, x :: d, none⟩ >>= authorizationFromHeader) = .ok (some ⟨t, x :: d, none⟩) :=
  fromTitle_roundtrip (authorizationFromHeader_title t _ (schemeOkW_of_schemeOk ht) (schemeOk_not_basic ht))
    (by simp only [authorizationToHeader, schemeOk_not_basic ht, Bool.false_eq_true, if_false, dumpHeaderDict_ok _ hk]; rfl)
    (authRest_params t x d hk hnd hv)

theorem www_param_roundtrip_w (t : Str) (x : Str × Option Str) (d : Dict (Option Str))
    (ht : SchemeOkW t = true) (hnd' : (t == "digest".toList) = false)
    (hk : ∀ y ∈ x :: d, KeyOk y.1 = true)
    (hnd : ((x :: d).map (·.1)).Nodup) (hv : x.2.isSome = true) :
    (wwwToHeader ⟨t, x :: d, none⟩ >>= wwwFromHeader) = .ok (some ⟨t, x :: d, none⟩) :=
  fromTitle_roundtrip (wwwFromHeader_title t _ ht)
    (by simp only [wwwToHeader, hnd', Bool.false_eq_true, if_false, dumpHeaderDict_ok _ hk]; rfl)
    (authRest_params t x d hk hnd hv)

/-- wire text of one digest parameter: the always-quoted keys never get token form -/
def digestItemText (kv : Str × Str) : Str := kv.1 ++ '=' :: quoteHeaderValue kv.2 (allowToken := !isDigestQuoted kv.1)

theorem wwwToHeader_digest (l : List (Str × Str)) :
    wwwToHeader ⟨"digest".toList, l.map (fun kv => (kv.1, some kv.2)), none⟩
      = .ok ("Digest ".toList ++ join ", " (l.map digestItemText)) := by
  unfold wwwToHeader
  simp only [beq_self_eq_true, if_true, pure_eq_ok, List.map_map]
  rfl

theorem www_digest_roundtrip_any (x : Str × Str) (d : List (Str × Str))
    (hk : ∀ y ∈ x :: d, KeyOk y.1 = true) (hnd : ((x :: d).map (·.1)).Nodup) :
    (wwwToHeader ⟨"digest".toList, (x :: d).map (fun kv => (kv.1, some kv.2)), none⟩ >>= wwwFromHeader)
      = .ok (some ⟨"digest".toList, (x :: d).map (fun kv => (kv.1, some kv.2)), none⟩) := by
  have hk' : ∀ y ∈ (x :: d).map (fun kv => (kv.1, some kv.2)), KeyOk y.1 = true := by
    simp only [List.mem_map]
    rintro _ ⟨z, hz, rfl⟩
    exact hk z hz
  have hnd' : (((x :: d).map (fun kv => (kv.1, some kv.2))).map (·.1)).Nodup := by
    simpa [List.map_map, Function.comp_def] using hnd
  have hrest : authRest "digest".toList (strip (join ", "
        (((x :: d).map fun kv => (kv.1, some kv.2)).map (paramText fun k => !isDigestQuoted k))))
      = .ok ⟨"digest".toList, (x :: d).map (fun kv => (kv.1, some kv.2)), none⟩ :=
    authRest_paramText _ _ (x.1, some x.2) (d.map fun kv : Str × Str => (kv.1, some kv.2)) hk' hnd' rfl
  have e : "Digest ".toList = pyTitle "digest".toList ++ [' '] := by
    rw [String.toList_ofList, String.toList_ofList]; decide +kernel
  have hitems : (x :: d).map digestItemText
      = ((x :: d).map fun kv => (kv.1, some kv.2)).map (paramText fun k => !isDigestQuoted k) := by
    rw [List.map_map]; rfl
  rw [wwwToHeader_digest, hitems, e, List.append_assoc, List.singleton_append, ok_bind,
    wwwFromHeader_title _ _ (by rw [String.toList_ofList]; decide +kernel), hrest]
  rfl

end Wz.Http
