/-
`Headers` against its documented behaviour, written as lists of three atomic actions (add, set, remove) that run
until the first ValueError: every mutator of `Hdr` is such a list (`HdrSpec.step_refines`; the loops of `Headers`
through `Loop`). What an action list raises, keeps and leaves under a key is proved for the atomic actions and
lifted once (`seqUntil_raises`, `seqUntil_inv`, `seqUntil_getlist`).
-/
import WzVerif.Lemmas.Headers
namespace Wz.C08L
open Wz Hdr HS

/-- `loop` applies `step` to the elements in turn and stops at the first call that raises: the shape of
`addAll`, `addPairs`, `setPairs`, `updateMap`, `updateKeys` -/
def Loop {α : Type} (step : HList → α → Res Unit) (loop : HList → List α → Res Unit) : Prop :=
  ∀ l, loop l [] = (l, .ok ()) ∧
    ∀ x t, loop l (x :: t) = match step l x with
      | (l', .ok _) => loop l' t
      | r => r

theorem addAll_loop (k : Str) : Loop (fun l v => add l k v) (fun l vs => addAll l k vs) :=
  fun _ => ⟨rfl, fun _ _ => rfl⟩

theorem addPairs_loop : Loop (fun l p => add l p.1 p.2) addPairs := fun _ => ⟨rfl, fun _ _ => rfl⟩

theorem setPairs_loop : Loop (fun l p => Hdr.set l p.1 p.2) setPairs := fun _ => ⟨rfl, fun _ _ => rfl⟩

/-- one entry of a mapping argument: a scalar goes through `set`, a list through `setlist` -/
def mapStep (l : HList) (e : Str × MVal) : Res Unit :=
  match e.2 with
  | .one v => Hdr.set l e.1 v
  | .many vs => setlist l e.1 vs

theorem updateMap_loop : Loop mapStep updateMap :=
  fun _ => ⟨rfl, fun x _ => by obtain ⟨k, mv⟩ := x; cases mv <;> rfl⟩

theorem updateKeys_loop (look : Str → List Str) : Loop (fun l k => setlist l k (look k)) (updateKeys look) :=
  fun _ => ⟨rfl, fun _ _ => rfl⟩

theorem addPairs_append (l : Hdr.HList) (ps : List Hdr.Pair) (h : ∀ p ∈ ps, Hdr.hasNL p.2 = false) :
    Hdr.addPairs l ps = (l ++ ps, .ok ()) := by
  induction ps generalizing l with
  | nil => simp [Hdr.addPairs]
  | cons p t ih =>
    obtain ⟨k, v⟩ := p
    have hv := h (k, v) List.mem_cons_self
    simp only [Hdr.addPairs, Hdr.add, Hdr.strHeaderValue, hv, Bool.false_eq_true, if_false]
    rw [ih _ (fun q hq => h q (List.mem_cons_of_mem _ hq))]
    simp

end Wz.C08L

namespace Wz.HdrSpec
open Wz Hdr Wz.C08L

/-- the abstract state: the ordered list of `(key, value)` pairs; keys compare ignoring case -/
abbrev Spec := List (Str × Str)

/-- the three documented atomic actions on the pair list -/
inductive Act where
  /-- append a pair -/
  | add (k v : Str)
  /-- replace the first pair of the key in place, drop its other pairs; append when absent -/
  | set (k v : Str)
  /-- drop every pair of the key -/
  | remove (k : Str)
deriving Repr, DecidableEq

/-- an atomic action; a value containing CR or LF is refused and nothing changes -/
def Act.apply (l : Spec) : Act → Spec × Except String Unit
  | .add k v => if hasNL v then (l, .error "ValueError") else (l ++ [(k, v)], .ok ())
  | .set k v => if hasNL v then (l, .error "ValueError") else (specSet l k v, .ok ())
  | .remove k => (l.filter (fun p => !keyEq k p), .ok ())

/-- perform the actions in order, stopping at the first refusal (what was done stays) -/
def seqUntil (l : Spec) : List Act → Spec × Except String Unit
  | [] => (l, .ok ())
  | a :: t =>
    match a.apply l with
    | (l', .ok _) => seqUntil l' t
    | (l', .error e) => (l', .error e)

/-- `setlist(k, vs)`: the key ends up with exactly the values `vs` -/
def setlistActs (k : Str) : List Str → List Act
  | [] => [.remove k]
  | v :: t => .set k v :: t.map (.add k)

/-- a mapping argument: scalars are `set`, lists are `setlist` -/
def mapActs : MapArg → List Act
  | [] => []
  | (k, .one v) :: t => .set k v :: mapActs t
  | (k, .many vs) :: t => setlistActs k vs ++ mapActs t

/-- `update(arg)`: every key of the argument is *replaced* -/
def updateActs : Option Arg → List Act
  | none => []
  | some (.headers h) => (Hdr.keys h false).flatMap (fun k => setlistActs k (getlist h k))
  | some (.multi m) => (m.map (·.1)).flatMap (fun k => setlistActs k (multiGetlist m k))
  | some (.mapping m) => mapActs m
  | some (.pairs ps) => ps.map (fun p => .set p.1 p.2)

/-- `extend(arg)`: every pair of the argument is *appended* -/
def extendActs (a : Option Arg) : List Act :=
  match a with
  | none => []
  | some a => (iterMultiItems a).map (fun p => .add p.1 p.2)

def unit (r : Spec × Except String Unit) : Spec × Except String Ret := (r.1, r.2.map (fun _ => Ret.none))

/-- the abstract step of every public mutator: keyed mutators are sequences of atomic actions;
index / slice mutators are the list operations themselves -/
def step (l : Spec) : Op → Spec × Except String Ret
  | .add k v => unit (seqUntil l [.add k v])
  | .set k v => unit (seqUntil l [.set k v])
  | .setitemKey k v => unit (seqUntil l [.set k v])
  | .setlist k vs => unit (seqUntil l (setlistActs k vs))
  | .setdefault k v =>
    match getKey l k with
    | .ok x => (l, .ok (.str x))
    | .error _ =>
      let r := seqUntil l [.set k v]
      (r.1, match r.2 with | .ok _ => (getKey r.1 k).map Ret.str | .error e => .error e)
  | .setlistdefault k vs =>
    if contains l k then (l, .ok (.strs (getlist l k)))
    else
      let r := seqUntil l (setlistActs k vs)
      (r.1, match r.2 with | .ok _ => .ok (.strs (getlist r.1 k)) | .error e => .error e)
  | .extend a kw => unit (seqUntil l (extendActs a ++ (mapItems kw).map (fun p => .add p.1 p.2)))
  | .update a kw => unit (seqUntil l (updateActs a ++ mapActs kw))
  | .ior a => unit (seqUntil l (updateActs (some a)))
  | .delitemKey k => unit (seqUntil l [.remove k])
  | .remove k => unit (seqUntil l [.remove k])
  | .popKey k d =>
    match getKey l k with
    | .ok v => ((seqUntil l [.remove k]).1, .ok (.str v))
    | .error e => (l, match d with | some x => .ok (.str x) | none => .error e)
  | .clear => ([], .ok .none)
  -- positional access: Python list semantics on the pair list
  | .setitemIdx i p => retUnit (setIdx l i p)
  | .setitemSlice s ps => retUnit (setSliceOp l s ps)
  | .delitemIdx i => retUnit (delIdx l i)
  | .delitemSlice s => (delSlice l s, .ok .none)
  | .popLast => let r := popIdx l (-1); (r.1, r.2.map Ret.pair)
  | .popIdx i => let r := popIdx l i; (r.1, r.2.map Ret.pair)
  | .popitem => let r := popIdx l (-1); (r.1, r.2.map Ret.pair)

def run (l : Spec) : List Op → Spec
  | [] => l
  | op :: t => run (step l op).1 t

theorem add_eq (l : HList) (k v : Str) : Hdr.add l k v = (Act.add k v).apply l := by
  cases h : hasNL v <;> simp [Hdr.add, Act.apply, strHeaderValue, h]

theorem set_eq (l : HList) (k v : Str) : Hdr.set l k v = (Act.set k v).apply l := by
  cases hv : hasNL v with
  | true => simp [Hdr.set, Act.apply, strHeaderValue, hv]
  | false => rw [set_eq_spec l k v hv]; simp [Act.apply, hv]

theorem seqUntil_single (l : Spec) (a : Act) : seqUntil l [a] = a.apply l := by
  simp only [seqUntil]
  cases a.apply l with
  | mk l' r => cases r <;> rfl

theorem seqUntil_append (l : Spec) (a b : List Act) :
    seqUntil l (a ++ b) = Hdr.andThen (seqUntil l a) (fun l' => seqUntil l' b) := by
  induction a generalizing l with
  | nil => rfl
  | cons x t ih =>
    simp only [List.cons_append, seqUntil]
    cases hx : x.apply l with
    | mk l' res =>
      cases res with
      | ok _ => exact ih l'
      | error e => rfl

theorem _root_.Wz.C08L.Loop.eq_seqUntil {α : Type} {step : HList → α → Res Unit} {loop : HList → List α → Res Unit}
    (H : Loop step loop) (acts : α → List Act) (hs : ∀ l x, step l x = seqUntil l (acts x)) (xs : List α) (l : HList) :
    loop l xs = seqUntil l (xs.flatMap acts) := by
  induction xs generalizing l with
  | nil => exact (H l).1
  | cons x t ih =>
    rw [(H l).2, hs, List.flatMap_cons, seqUntil_append]
    cases seqUntil l (acts x) with
    | mk l' res =>
      cases res with
      | ok _ => exact ih l'
      | error e => rfl

theorem _root_.Wz.C08L.Loop.eq_seqUntil_map {α : Type} {step : HList → α → Res Unit} {loop : HList → List α → Res Unit}
    (H : Loop step loop) (act : α → Act) (hs : ∀ l x, step l x = (act x).apply l) (xs : List α) (l : HList) :
    loop l xs = seqUntil l (xs.map act) := by
  rw [List.map_eq_flatMap]
  exact H.eq_seqUntil _ (fun l x => (hs l x).trans (seqUntil_single l _).symm) xs l

theorem addAll_eq (l : HList) (k : Str) (vs : List Str) : Hdr.addAll l k vs = seqUntil l (vs.map (.add k)) :=
  (addAll_loop k).eq_seqUntil_map _ (fun l v => add_eq l k v) vs l

theorem addPairs_eq (l : HList) (ps : List Pair) :
    Hdr.addPairs l ps = seqUntil l (ps.map (fun p => .add p.1 p.2)) :=
  addPairs_loop.eq_seqUntil_map _ (fun l p => add_eq l p.1 p.2) ps l

theorem setPairs_eq (l : HList) (ps : List Pair) :
    Hdr.setPairs l ps = seqUntil l (ps.map (fun p => .set p.1 p.2)) :=
  setPairs_loop.eq_seqUntil_map _ (fun l p => set_eq l p.1 p.2) ps l

theorem setlist_eq (l : HList) (k : Str) (vs : List Str) :
    Hdr.setlist l k vs = seqUntil l (setlistActs k vs) := by
  cases vs with
  | nil => simp [Hdr.setlist, setlistActs, seqUntil, Act.apply, delKey]
  | cons v t =>
    simp only [Hdr.setlist, setlistActs, seqUntil, set_eq]
    cases hx : (Act.set k v).apply l with
    | mk l' res =>
      cases res with
      | ok _ => exact addAll_eq l' k t
      | error e => rfl

theorem updateMap_eq (l : HList) (m : MapArg) : Hdr.updateMap l m = seqUntil l (mapActs m) := by
  have hm : mapActs m = m.flatMap fun e => mapActs [e] := by
    induction m with
    | nil => rfl
    | cons e t ih => obtain ⟨k, mv⟩ := e; cases mv <;> simp [mapActs, ← ih]
  rw [hm]
  refine updateMap_loop.eq_seqUntil _ (fun l e => ?_) m l
  obtain ⟨k, mv⟩ := e
  cases mv with
  | one v => exact (set_eq l k v).trans (seqUntil_single l _).symm
  | many vs => simpa [mapActs, mapStep] using setlist_eq l k vs

theorem updateKeys_eq (look : Str → List Str) (l : HList) (ks : List Str) :
    Hdr.updateKeys look l ks = seqUntil l (ks.flatMap (fun k => setlistActs k (look k))) :=
  (updateKeys_loop look).eq_seqUntil _ (fun l k => setlist_eq l k (look k)) ks l

theorem updateHead_eq (l : HList) (a : Option Arg) : Hdr.updateHead l a = seqUntil l (updateActs a) := by
  cases a with
  | none => rfl
  | some a =>
    cases a with
    | headers h => exact updateKeys_eq _ l _
    | multi m => exact updateKeys_eq _ l _
    | mapping m => exact updateMap_eq l m
    | pairs ps => exact setPairs_eq l ps

theorem extendHead_eq (l : HList) (a : Option Arg) : Hdr.extendHead l a = seqUntil l (extendActs a) := by
  cases a with
  | none => rfl
  | some a => exact addPairs_eq l _

theorem extend_eq (l : HList) (a : Option Arg) (kw : MapArg) :
    Hdr.extend l a kw = seqUntil l (extendActs a ++ (mapItems kw).map (fun p => .add p.1 p.2)) := by
  rw [Hdr.extend, seqUntil_append, extendHead_eq]
  exact congrArg _ (funext fun l' => addPairs_eq l' _)

theorem construct_eq (arg : Option Arg) :
    Hdr.construct arg = match seqUntil [] (extendActs arg) with
      | (l, .ok _) => .ok l
      | (_, .error e) => .error e := by
  rw [Hdr.construct, extend_eq]
  simp only [mapItems, List.map_nil, List.append_nil]
  rfl

theorem construct_ok {arg : Option Arg} {l : HList} (h : Hdr.construct arg = .ok l) :
    l = (seqUntil [] (extendActs arg)).1 := by
  rw [construct_eq] at h
  split at h <;> cases h
  rename_i he; rw [he]

theorem step_refines (l : HList) (op : Op) : Hdr.step l op = step l op := by
  cases op with
  | add k v => simp only [Hdr.step, step, seqUntil_single, add_eq, retUnit, unit]
  | set k v => simp only [Hdr.step, step, seqUntil_single, set_eq, retUnit, unit]
  | setitemKey k v => simp only [Hdr.step, step, seqUntil_single, set_eq, retUnit, unit]
  | setlist k vs => simp [Hdr.step, step, setlist_eq, retUnit, unit]
  | setdefault k v =>
    simp only [Hdr.step, step, Hdr.setdefault]
    cases getKey l k with
    | ok x => rfl
    | error e =>
      simp only [seqUntil_single, set_eq]
      cases (Act.set k v).apply l with
      | mk l' r => cases r <;> rfl
  | setlistdefault k vs =>
    simp only [Hdr.step, step, Hdr.setlistdefault]
    cases contains l k with
    | true => rfl
    | false =>
      simp only [Bool.false_eq_true, if_false, setlist_eq]
      cases seqUntil l (setlistActs k vs) with
      | mk l' r => cases r <;> rfl
  | extend a kw =>
    simp only [Hdr.step, step, extend_eq, retUnit, unit]
  | update a kw =>
    simp only [Hdr.step, step, Hdr.update, seqUntil_append, updateHead_eq, updateMap_eq, retUnit, unit]
  | ior a =>
    simp only [Hdr.step, step, Hdr.update, updateHead_eq, updateMap_eq, retUnit, unit, mapActs]
    cases seqUntil l (updateActs (some a)) with
    | mk l' r => cases r <;> rfl
  | delitemKey k => simp [Hdr.step, step, seqUntil_single, Act.apply, delKey, unit, Except.map]
  | remove k => simp [Hdr.step, step, seqUntil_single, Act.apply, delKey, unit, Except.map]
  | popKey k d =>
    simp only [Hdr.step, step, Hdr.popKey]
    cases getKey l k with
    | ok v => simp [seqUntil_single, Act.apply, delKey, Except.map]
    | error e => cases d <;> rfl
  | clear => rfl
  | setitemIdx i p => rfl
  | setitemSlice s ps => rfl
  | delitemIdx i => rfl
  | delitemSlice s => rfl
  | popLast => rfl
  | popIdx i => rfl
  | popitem => rfl

theorem run_refines (l : HList) (ops : List Op) : Hdr.run l ops = run l ops := by
  induction ops generalizing l with
  | nil => rfl
  | cons op t ih => simp only [Hdr.run, run, step_refines]; exact ih _

def Act.bad : Act → Bool
  | .add _ v => hasNL v
  | .set _ v => hasNL v
  | .remove _ => false

def Act.key : Act → Str
  | .add k _ => k
  | .set k _ => k
  | .remove k => k

/-- what an accepted action on key `k` makes of the values under `k` -/
def Act.eff (g : List Str) : Act → List Str
  | .add _ v => g ++ [v]
  | .set _ v => [v]
  | .remove _ => []

theorem Act.apply_bad {a : Act} (l : Spec) (h : a.bad = true) : a.apply l = (l, .error "ValueError") := by
  cases a with
  | remove k => cases h
  | _ => exact if_pos h

theorem Act.apply_add (l : Spec) (k : Str) {v : Str} (hv : hasNL v = false) : (Act.add k v).apply l = (l ++ [(k, v)], .ok ()) :=
  if_neg (by rw [hv]; exact Bool.false_ne_true)

theorem Act.apply_set (l : Spec) (k : Str) {v : Str} (hv : hasNL v = false) : (Act.set k v).apply l = (specSet l k v, .ok ()) :=
  if_neg (by rw [hv]; exact Bool.false_ne_true)

theorem Act.apply_ok {a : Act} (l : Spec) (h : a.bad = false) : (a.apply l).2 = .ok () := by
  cases a with
  | add k v => rw [Act.apply_add l k h]
  | set k v => rw [Act.apply_set l k h]
  | remove k => rfl

/-- **a keyed mutator raises exactly when one of the values it carries has CR or LF**, and then it is ValueError -/
theorem seqUntil_raises (l : Spec) (acts : List Act) :
    (seqUntil l acts).2 = if acts.any Act.bad then .error "ValueError" else .ok () := by
  induction acts generalizing l with
  | nil => rfl
  | cons a t ih =>
    rw [seqUntil, List.any_cons]
    cases hb : a.bad with
    | true => rw [Act.apply_bad l hb]; rfl
    | false =>
      have := Act.apply_ok l hb
      cases ha : a.apply l with
      | mk l' r => rw [ha] at this; cases this; exact ih l'

/-- what every atomic action keeps is kept by every action list, completed or cut short -/
theorem seqUntil_inv {P : Spec → Prop} (l : Spec) (acts : List Act) (hP : ∀ l, ∀ a ∈ acts, P l → P (Act.apply l a).1)
    (h : P l) : P (seqUntil l acts).1 := by
  induction acts generalizing l with
  | nil => exact h
  | cons a t ih =>
    have := hP l a List.mem_cons_self h
    rw [seqUntil]
    cases ha : a.apply l with
    | mk l' r =>
      rw [ha] at this
      cases r with
      | ok _ => exact ih l' (fun l b hb => hP l b (List.mem_cons_of_mem _ hb)) this
      | error e => exact this

theorem Act.apply_filter_other (a : Act) (l : Spec) :
    (a.apply l).1.filter (fun p => !keyEq a.key p) = l.filter (fun p => !keyEq a.key p) := by
  cases a with
  | add k v =>
    cases h : hasNL v with
    | true => rw [Act.apply_bad (a := .add k v) l h]
    | false => rw [Act.apply_add l k h]; simp [Act.key, List.filter_append, keyEq_self]
  | set k v =>
    cases h : hasNL v with
    | true => rw [Act.apply_bad (a := .set k v) l h]
    | false => rw [Act.apply_set l k h]; exact specSet_filter_other l k v
  | remove k => simp [Act.apply, Act.key, List.filter_filter]

theorem seqUntil_filter_other (k : Str) (l : Spec) (acts : List Act) (hk : ∀ a ∈ acts, a.key = k) :
    (seqUntil l acts).1.filter (fun p => !keyEq k p) = l.filter (fun p => !keyEq k p) := by
  refine seqUntil_inv (P := fun l' => l'.filter (fun p => !keyEq k p) = l.filter (fun p => !keyEq k p)) l acts
    (fun l' a ha h => ?_) rfl
  rw [← h, ← hk a ha]
  exact a.apply_filter_other l'

theorem Act.apply_getlist (a : Act) (l : Spec) (hb : a.bad = false) :
    getlist (a.apply l).1 a.key = a.eff (getlist l a.key) := by
  cases a with
  | add k v => rw [Act.apply_add l k hb]; simp [Act.key, Act.eff, getlist, List.filter_append, keyEq_self]
  | set k v => rw [Act.apply_set l k hb, Act.key, getlist, specSet_filter_self]; rfl
  | remove k => exact Hdr.delKey_getlist l k

theorem seqUntil_getlist (k : Str) (l : Spec) (acts : List Act) (hk : ∀ a ∈ acts, a.key = k)
    (hb : acts.any Act.bad = false) :
    getlist (seqUntil l acts).1 k = acts.foldl Act.eff (getlist l k) := by
  induction acts generalizing l with
  | nil => rfl
  | cons a t ih =>
    rw [List.any_cons, Bool.or_eq_false_iff] at hb
    have h1 := Act.apply_getlist a l hb.1
    have h2 := Act.apply_ok l hb.1
    rw [hk a List.mem_cons_self] at h1
    rw [seqUntil, List.foldl_cons]
    cases ha : a.apply l with
    | mk l' r =>
      rw [ha] at h1 h2; cases h2
      rw [← h1]
      exact ih l' (fun b hm => hk b (List.mem_cons_of_mem _ hm)) hb.2

theorem key_setlistActs (k : Str) (vs : List Str) : ∀ a ∈ setlistActs k vs, a.key = k := by
  cases vs with
  | nil => intro a ha; rw [List.mem_singleton.1 ha]; rfl
  | cons v t =>
    intro a ha
    rcases List.mem_cons.1 ha with rfl | ha
    · rfl
    · obtain ⟨w, _, rfl⟩ := List.mem_map.1 ha; rfl

theorem bad_setlistActs (k : Str) (vs : List Str) : (setlistActs k vs).any Act.bad = vs.any hasNL := by
  cases vs with
  | nil => rfl
  | cons v t => rw [setlistActs, List.any_cons, List.any_map, List.any_cons]; rfl

theorem bad_mapActs (m : MapArg) : (mapActs m).any Act.bad = (mapItems m).any fun p => hasNL p.2 := by
  induction m with
  | nil => rfl
  | cons e t ih =>
    obtain ⟨k, mv⟩ := e
    cases mv with
    | one v => rw [mapActs, mapItems, List.any_cons, List.any_cons, ih]; rfl
    | many vs => rw [mapActs, mapItems, List.any_append, List.any_append, ih, bad_setlistActs, List.any_map]; rfl

theorem eff_setlistActs (k : Str) (vs g : List Str) : (setlistActs k vs).foldl Act.eff g = vs := by
  cases vs with
  | nil => rfl
  | cons v t =>
    rw [setlistActs, List.foldl_cons, List.foldl_map]
    show t.foldl (fun g w => g ++ [w]) [v] = [v] ++ t
    generalize [v] = acc
    induction t generalizing acc with
    | nil => exact (List.append_nil acc).symm
    | cons w r ih => rw [List.foldl_cons, ih, List.append_assoc]; rfl

end Wz.HdrSpec
