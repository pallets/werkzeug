/-
The model of `ProxyFix.__call__` (C15) stage by stage: the `x_for`, `x_proto` and `x_prefix` stages each set one
environ field (an equation per stage), the `x_host` and `x_port` stages are given by the fields they write
(`applyHost_writes`, `applyPort_writes`); hence what `proxyFix` does to PATH_INFO, SCRIPT_NAME and the scheme
(`proxyFix_writes`). `_get_real_value` counts from the right; stripping the port of an assembled `host[:port]`
gives back the host, which is what `X-Forwarded-Port` relies on.
-/
import WzVerif.Model.UrlProxyFix
import WzVerif.Lemmas.UrlNetloc
namespace Wz.Url
open Wz

theorem applyFor_eq (c : PFConfig) (h : PFHeaders) (e : PFEnviron) :
    applyFor c h e = { e with remoteAddr := (truthyV (realValue c.xFor h.xfor)).or e.remoteAddr } := by
  unfold applyFor; split <;> simp [*]

theorem applyProto_eq (c : PFConfig) (h : PFHeaders) (e : PFEnviron) :
    applyProto c h e = { e with urlScheme := (truthyV (realValue c.xProto h.proto)).getD e.urlScheme } := by
  unfold applyProto; split <;> simp [*]

theorem applyPrefix_eq (c : PFConfig) (h : PFHeaders) (e : PFEnviron) :
    applyPrefix c h e = { e with scriptName := (truthyV (realValue c.xPrefix h.pfx)).getD e.scriptName } := by
  unfold applyPrefix; split <;> simp [*]

/-- the `x_host` stage writes HTTP_HOST, SERVER_NAME and SERVER_PORT only -/
theorem applyHost_writes (c : PFConfig) (h : PFHeaders) (e : PFEnviron) :
    ∃ hh sn sp, applyHost c h e = { e with httpHost := hh, serverName := sn, serverPort := sp } := by
  unfold applyHost
  split
  · split <;> exact ⟨_, _, _, rfl⟩
  · exact ⟨_, _, _, rfl⟩

/-- the `x_port` stage writes HTTP_HOST and SERVER_PORT only -/
theorem applyPort_writes (c : PFConfig) (h : PFHeaders) (e : PFEnviron) :
    ∃ hh sp, applyPort c h e = { e with httpHost := hh, serverPort := sp } := by
  unfold applyPort
  split
  · split <;> exact ⟨_, _, rfl⟩
  · exact ⟨_, _, rfl⟩

theorem applyPort_of_host {c : PFConfig} {h : PFHeaders} {e : PFEnviron} {v host : Str}
    (hv : truthyV (realValue c.xPort h.port) = some v) (hh : truthyV e.httpHost = some host) :
    applyPort c h e = { e with httpHost := some (stripPort host ++ ':' :: v), serverPort := v } := by
  simp only [applyPort, hv, hh]

/-- all five stages: the scheme and SCRIPT_NAME are replaced by a trusted header value, PATH_INFO is kept -/
theorem proxyFix_writes (c : PFConfig) (h : PFHeaders) (e : PFEnviron) :
    ∃ ra hh sn sp, proxyFix c h e =
      { remoteAddr := ra, urlScheme := (truthyV (realValue c.xProto h.proto)).getD e.urlScheme, httpHost := hh,
        serverName := sn, serverPort := sp,
        scriptName := (truthyV (realValue c.xPrefix h.pfx)).getD e.scriptName, pathInfo := e.pathInfo } := by
  obtain ⟨_, _, hp⟩ := applyPort_writes c h (applyHost c h (applyProto c h (applyFor c h e)))
  obtain ⟨_, _, _, hh⟩ := applyHost_writes c h (applyProto c h (applyFor c h e))
  exact ⟨_, _, _, _, by rw [proxyFix, applyPrefix_eq, hp, hh, applyProto_eq, applyFor_eq]⟩

theorem proxyFix_pathInfo (c : PFConfig) (h : PFHeaders) (e : PFEnviron) :
    (proxyFix c h e).pathInfo = e.pathInfo := by
  obtain ⟨_, _, _, _, hw⟩ := proxyFix_writes c h e
  rw [hw]

theorem proxyFix_scriptName (c : PFConfig) (h : PFHeaders) (e : PFEnviron) :
    (proxyFix c h e).scriptName =
      (match truthyV (realValue c.xPrefix h.pfx) with | some v => v | none => e.scriptName) := by
  obtain ⟨_, _, _, _, hw⟩ := proxyFix_writes c h e
  rw [hw]; cases truthyV (realValue c.xPrefix h.pfx) <;> rfl

theorem proxyFix_urlScheme (c : PFConfig) (h : PFHeaders) (e : PFEnviron) :
    (proxyFix c h e).urlScheme =
      (match truthyV (realValue c.xProto h.proto) with | some v => v | none => e.urlScheme) := by
  obtain ⟨_, _, _, _, hw⟩ := proxyFix_writes c h e
  rw [hw]; cases truthyV (realValue c.xProto h.proto) <;> rfl
theorem realValue_spec (n : Nat) (vs : List Str) (v : Str) :
    realValue n (some vs) = some v ↔ 0 < n ∧ vs.reverse[n - 1]? = some v := by
  unfold realValue
  by_cases h0 : n = 0
  · simp [h0]
  · by_cases hl : n ≤ vs.length
    · rw [List.getElem?_reverse (by omega), show vs.length - 1 - (n - 1) = vs.length - n by omega]
      simp [h0, hl, Nat.pos_of_ne_zero h0]
    · rw [List.getElem?_eq_none (by simp; omega)]
      simp [h0, hl]

theorem getLast?_digits (X : Str) (k : Nat) :
    (X ++ ':' :: (toString k).toList).getLast? ≠ some ']' := by
  obtain ⟨dne, ddig, _⟩ := digits_spec k
  rw [List.getLast?_append, List.getLast?_cons, List.getLast?_eq_some_getLast dne]
  intro h
  have hm : ']' ∈ (toString k).toList := by
    simp only [Option.getD_some, Option.some_or, Option.some.injEq] at h
    exact h ▸ List.getLast_mem dne
  exact absurd (ddig _ hm) (by decide)

/-- an assembled host without port has no port attached: either no `:` at all, or the closing bracket last -/
theorem hasPort_hostBr (h : Str) : hasPort (hostBr h) = false := by
  unfold hasPort hostBr endsBracket
  split
  · next hc =>
    rw [show ('[' :: h ++ [']']).getLast? = some ']' by rw [List.getLast?_append]; rfl]
    simp
  · next hc => simp only [Bool.not_eq_true] at hc; rw [hc]; rfl

/-- `host.rsplit(":", 1)[0]` (guarded by `":" in host and not host.endswith("]")`) removes exactly
the port of an assembled `host[:port]` - name, IPv4 or bracketed IPv6 literal alike -/
theorem stripPort_hostport (h : Str) (p : Option Nat) : stripPort (hostBr h ++ portText p) = hostBr h := by
  have noPort : stripPort (hostBr h) = hostBr h := by unfold stripPort; rw [hasPort_hostBr]; rfl
  rcases p with _ | _ | j
  · simpa [portText] using noPort
  · simpa [portText] using noPort
  · have hcj : ':' ∉ (toString (j + 1)).toList := fun hm => (digit_facts ((digits_spec _).2.1 _ hm)).2.1 rfl
    have hp : hasPort (hostBr h ++ ':' :: (toString (j + 1)).toList) = true := by
      unfold hasPort endsBracket
      simp only [Bool.and_eq_true, Bool.not_eq_true', beq_eq_false_iff_ne]
      exact ⟨by simp, getLast?_digits _ _⟩
    show stripPort (hostBr h ++ ':' :: (toString (j + 1)).toList) = _
    unfold stripPort
    rw [if_pos hp, rpartitionChar_append _ _ hcj]
    rfl

end Wz.Url
