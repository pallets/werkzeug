/-
Relations between `Request.url`, `base_url`, `root_url` (`url_root`) and `host_url` (C15): the text
`get_current_url` returns, for all four ways it is called.
-/
import WzVerif.Lemmas.UrlDenote
namespace Wz.Url
open Wz

/-- **The text `get_current_url` returns**: `scheme://` + decoded host with its port + the partially
unquoted path text + (for a non-empty query) `?` + the partially unquoted query text. -/
theorem getCurrentUrl_text {o : UrlOpaque} (laws : HostLaws o)
    {scheme ha hu root path : Str} {port : Option Nat} {q : Bytes}
    (ci : CurInput o scheme ha port root q) (hconv : o.hostToUnicode ha = some hu) :
    getCurrentUrl o scheme (hostBr ha ++ portText port) root path q = .ok
      (scheme ++ "://".toList ++ (hostBr hu ++ portText port)
        ++ unquotePartial Gen.UrlTables.keepPath (curPathText root path)
        ++ (if q.isEmpty then [] else
              '?' :: unquotePartial Gen.UrlTables.keepQuery (quoteBytes Gen.UrlTables.curQuerySafe q))) := by
  obtain ⟨g, h⟩ := getCurrentUrl_tuple laws (path := path) ci hconv
  rw [h, urlunsplit_good g]
  simp only [curSplit, tailOf, unquotePartial_isEmpty, quoteBytes_isEmpty]
  by_cases hqe : q.isEmpty = true <;> simp [hqe, List.append_assoc]

theorem request_url_family {o : UrlOpaque} (laws : HostLaws o)
    (kt : KeepOK Gen.UrlTables.keepPath ∧ KeepOK Gen.UrlTables.keepQuery ∧
      KeepOK Gen.UrlTables.keepFragment ∧ KeepOK Gen.UrlTables.keepUser)
    {scheme ha hu root p qs : Str} {port : Option Nat}
    (ci : CurInput o scheme ha port (rstripSlash root) (utf8Enc qs)) (hconv : o.hostToUnicode ha = some hu)
    (hgh : getHost scheme (hostBr ha ++ portText port) = hostBr ha ++ portText port) :
    requestUrls o (danceEnviron scheme (hostBr ha ++ portText port) root p qs) = .ok
      (scheme ++ "://".toList ++ (hostBr hu ++ portText port)
          ++ unquotePartial Gen.UrlTables.keepPath (curPathText (rstripSlash root) ('/' :: lstripSlash p))
          ++ (if (utf8Enc qs).isEmpty then [] else
                '?' :: unquotePartial Gen.UrlTables.keepQuery (quote Gen.UrlTables.curQuerySafe qs)),
       scheme ++ "://".toList ++ (hostBr hu ++ portText port)
          ++ unquotePartial Gen.UrlTables.keepPath (curPathText (rstripSlash root) ('/' :: lstripSlash p)),
       scheme ++ "://".toList ++ (hostBr hu ++ portText port)
          ++ unquotePartial Gen.UrlTables.keepPath (curPathText (rstripSlash root) []),
       scheme ++ "://".toList ++ (hostBr hu ++ portText port) ++ ['/']) := by
  have h1 := getCurrentUrl_text laws (path := '/' :: lstripSlash p) ci hconv
  have h2 := getCurrentUrl_text laws (path := '/' :: lstripSlash p) ci.no_query hconv
  have h3 := getCurrentUrl_text laws (path := []) ci.no_query hconv
  have h4 := getCurrentUrl_text laws (path := []) ci.no_query.no_root hconv
  have hslash : unquotePartial Gen.UrlTables.keepPath (curPathText [] []) = ['/'] := by decide
  unfold requestUrls danceEnviron
  simp only [dance_roundtrip']
  have hq := latin1Enc_encodingDance qs
  simp only [hq, hgh, ← getCurrentUrl_eq_opt, getCurrentUrlOpt_root, getCurrentUrlOpt_host, h1, h2, h3, h4,
    hslash]
  simp [quote]

/-- **`base_url`'s path text is `root_url`'s path text followed by the path's text**:
`unquote_path(quote(root) + "/" + quote(path)) = unquote_path(quote(root) + "/") + unquote_path(quote(path))` -/
theorem curPathText_split (root path : Str) :
    unquotePartial Gen.UrlTables.keepPath (curPathText root path) =
      unquotePartial Gen.UrlTables.keepPath (curPathText root []) ++
      unquotePartial Gen.UrlTables.keepPath (quote Gen.UrlTables.curPathSafe (lstripSlash path)) := by
  have hw : wellFormed (quote Gen.UrlTables.curRootSafe (rstripSlash root)) = true :=
    (Spells.of_quote_text (s := rstripSlash root) fun _ => cur_no_pct.1).wfk_eq
  have e0 : curPathText root [] = quote Gen.UrlTables.curRootSafe (rstripSlash root) ++ ['/'] := by
    simp [curPathText, lstripSlash, quote, quoteBytes, utf8Enc]
  rw [e0]
  unfold curPathText
  rw [unquotePartial_split_plain _ ⟨by decide, by decide⟩ hw, unquotePartial_split_plain _ ⟨by decide, by decide⟩ hw]
  simp [show unquotePartial Gen.UrlTables.keepPath [] = [] from rfl]

end Wz.Url
