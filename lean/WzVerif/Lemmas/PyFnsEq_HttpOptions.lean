/-
`parse_options_header` of `werkzeug.http` *as regenerated from the source* by `tools/py2lean.py`
(`Gen/PyFns_HttpOptions.lean`, rewritten on every check run) is equal, for every input text and every sufficient amount of
fuel, to the hand-written model `Http.parseOptionsHeader` of `Model/Http.lean` - the function the C06 round-trip theorems and
the C07 totality / termination theorems are about. The equality is exact (values and errors); the only hypothesis is the fuel
bound `len(value) ≤ fuel` (sharper: more fuel than the stripped text after the first `;` has characters). The four regexes
enter as the hand models the generated file names (`parameterKeyReMatch`, … = C06's character classes); `unquote(pv,
encoding=…)` is `Gen.PyFns_HttpDict.unquoteEnc`, whose "encoding outside the model" marker is unreachable behind the
`encoding in {…}` guard. The statements are restated, with what they stand for, in `Props/C06T2`.

Each of the three loops is one turn (`loop#_step`) plus an induction (`loop#_eq`). How a turn's emitted body is compared
with the model: a piece of emitted text that occurs at one level only is the literal left-hand side of one lemma, stated for
arbitrary continuations (`tail_eq` here; `star_step`, `dq_step`, `unquote_guard` in the imported files). The body of the third loop
nests its pieces - the translator inlines the statements after each `if` (the store tail four times, the unquoting idiom four
times, the charset guard three times) -, so there each piece has a name, `…G` = "as the translator emits it, with continuations
`K` (go on) and `E` (raise)", and one equation `…G_eq` to the same step written with the primitives both sides share
(`storeOpts`, `Http.optUnquote`, `finish`, `afterEnc`, `partStep`); the equations chain (`finishG_eq` = `unquoteG_eq` then
`storeG_eq`, …), and `loop3_step` meets the emitted body by congruence, not by simplifying it. The model reaches the same shared
form from its side (`optPart_step`); `thenK K E x` is how the loop looks at the outcome `x` of one part.
-/
import WzVerif.Gen.PyFns_HttpOptions
import WzVerif.Lemmas.PyFnsEq_HttpDict
import WzVerif.Lemmas.HttpSafeOpt
import WzVerif.Lemmas.HttpOptions
namespace Wz.PyFnsEq.HttpOptions
open Wz Wz.Pre Wz.PyFnsHttp Wz.Gen.PyFns_HttpOptions Wz.PyFnsEq.HttpDict

/-- one turn of the nested `while pos < length` loop: `pre` is the text already scanned, `n = len(pre)` the Python index `pos` -/
theorem loop2_step (pk : Str) (parts : List (Str × Str)) {rest pre suf : Str} {fuel n : Nat}
    (hr : rest = pre ++ suf) (hn : pre.length = n) (hf : 0 < fuel) :
    parse_options_header.loop2 pk (rest.length : Int) fuel (n : Int) parts rest =
      match suf with
      | [] => .fall ((n : Int), parts, rest)
      | c :: t =>
        if [['\\', '\\'], ['\\', '"']].contains ((c :: t).take 2) then
          parse_options_header.loop2 pk (rest.length : Int) (fuel - 1) ((n : Int) + 2) parts rest
        else if c = '"' then .fall ((n : Int), parts ++ [(pk, pre ++ ['"'])], t)
        else parse_options_header.loop2 pk (rest.length : Int) (fuel - 1) ((n : Int) + 1) parts rest := by
  obtain ⟨f, rfl⟩ : ∃ f, fuel = f + 1 := ⟨fuel - 1, by omega⟩
  subst hr
  rw [parse_options_header.loop2]
  cases suf with
  | nil => subst hn; simp
  | cons c t =>
    have hlt : ((n : Int) < ((pre ++ c :: t).length : Int)) := by subst hn; simp; omega
    simp only [hlt, decide_true, if_true, slice_append_two pre _ n hn, getItemStr_append pre _ _ n hn,
      slice_to_append pre _ _ n hn, slice_from_append pre _ _ n hn, Nat.add_sub_cancel]
    split
    · rfl
    · by_cases hc : c = '"'
      · subst hc; simp
      · have : (([c] : Str) == ['"']) = false := by simpa using hc
        simp only [this, hc, Bool.false_eq_true, if_false]

/-- what the quoted-string scan leaves behind: the new `parts` and `rest` -/
def quotedOut (pk : Str) (parts : List (Str × Str)) (rest : Str) (r : Option (Str × Str)) :
    List (Str × Str) × Str :=
  match r with
  | some (qs, r') => (parts ++ [(pk, qs)], r')
  | none => (parts, rest)

/-- the nested loop is the model's `scanQuoted`, which carries the scanned text reversed (`acc`); `p` is the index the loop
stops at, which nothing reads afterwards -/
theorem loop2_eq (pk : Str) (parts : List (Str × Str)) (suf acc : Str) :
    ∀ (fuel : Nat) (rest : Str), suf.length < fuel → rest = acc.reverse ++ suf →
    ∃ p : Int, parse_options_header.loop2 pk (rest.length : Int) fuel (acc.length : Int) parts rest
      = .fall (p, quotedOut pk parts rest (Http.scanQuoted suf acc)) := by
  fun_induction Http.scanQuoted suf acc with
  | case1 acc =>
    intro fuel rest hf hr
    exact ⟨_, loop2_step pk parts hr (by simp) (by omega)⟩
  | case2 t acc ih | case3 t acc ih =>
    intro fuel rest hf hr
    obtain ⟨p, hp⟩ := ih (fuel - 1) rest (by simp at hf; omega) (by simp [hr])
    exact ⟨p, by rw [loop2_step pk parts hr (by simp) (by omega), ← hp]; simp only [List.length_cons]; push_cast; rfl⟩
  | case4 t acc =>
    intro fuel rest hf hr
    exact ⟨(acc.length : Int), by rw [loop2_step pk parts hr (by simp) (by omega)]; simp [quotedOut]⟩
  | case5 c t acc h1 h2 h3 ih =>
    intro fuel rest hf hr
    have hs : [['\\', '\\'], ['\\', '"']].contains ((c :: t).take 2) = false := by
      cases t with
      | nil => simp
      | cons d t' =>
        simp only [List.take_succ_cons, List.take_zero, List.contains_cons, List.contains_nil, Bool.or_false,
          Bool.or_eq_false_iff, beq_eq_false_iff_ne, ne_eq]
        exact ⟨fun e => by cases e; exact h1 t' rfl rfl, fun e => by cases e; exact h2 t' rfl rfl⟩
    obtain ⟨p, hp⟩ := ih (fuel - 1) rest (by simp at hf; omega) (by simp [hr])
    refine ⟨p, ?_⟩
    rw [loop2_step pk parts hr (by simp) (by omega), ← hp]
    simp only [hs, Bool.false_eq_true, if_false, show c ≠ '"' from fun e => h3 e, List.length_cons]
    push_cast; rfl

abbrev L1 := Pre.Loop (Except String (Str × List (Str × Str))) (Str × List (Str × Str))

/-- the tail of every path through the body of the `while True` loop -/
def tailM (fuel_ : Nat) (r : Str) (parts : List (Str × Str)) : L1 :=
  match Http.afterSemi? r with
  | none => .fall (r, parts)
  | some after => parse_options_header.loop1 fuel_ (Http.lstrip after) parts

theorem tail_eq (fuel_ : Nat) (r : Str) (parts : List (Str × Str)) :
    (if (Pre.find r [';'] == (-1 : Int)) = true then (Pre.Loop.fall (r, parts) : L1)
     else parse_options_header.loop1 fuel_ (Pre.lstrip (Pre.slice r (some (Pre.find r [';'] + 1)) none)) parts)
    = tailM fuel_ r parts := by
  unfold tailM Http.afterSemi?
  rcases split_at_first ';' r with ⟨h1, _, h3⟩ | ⟨pre, post, h1, h2, _, h4⟩
  · rw [Pre.find_singleton_not_mem _ _ h1, h3]; rfl
  · rw [h4]
    subst h1
    rw [Pre.find_singleton_append _ _ _ h2, slice_from_append pre _ _ _ rfl]
    have : ((pre.length : Int) == -1) = false := by
      rw [beq_eq_false_iff_ne]; omega
    simp only [this, Bool.false_eq_true, if_false]
    rfl

/-- what `optStep` returns once `key=` has been read: the value alternatives -/
def optVal (pk r : Str) : Str × Option (Str × Str) :=
  if !(r.takeWhile Http.isTokValCh).isEmpty then (r, some (pk, r.takeWhile Http.isTokValCh))
  else
    match r with
    | '"' :: q =>
      match Http.scanQuoted q ['"'] with
      | some (qs, r') => (r', some (pk, qs))
      | none => (r, none)
    | _ => (r, none)

/-- `_parameter_key_re.match(rest)` and the model's `optStep` look at the same thing -/
theorem key_cases (rest : Str) :
    (parameterKeyReMatch rest = none ∧ Http.optStep rest = (rest, none)) ∨
    (∃ key r, rest = key ++ '=' :: r ∧ (∀ c ∈ key, Http.isKeyCh c = true) ∧
      parameterKeyReMatch rest = some (key, (key.length : Int) + 1) ∧
      Http.optStep rest = optVal (Http.pyLower key) r) := by
  have hsplit := List.takeWhile_append_dropWhile (p := Http.isKeyCh) (l := rest)
  have hall : ∀ c ∈ rest.takeWhile Http.isKeyCh, Http.isKeyCh c = true := fun c hc =>
    List.all_eq_true.mp List.all_takeWhile c hc
  unfold parameterKeyReMatch Http.optStep optVal
  generalize rest.takeWhile Http.isKeyCh = key at *
  generalize rest.dropWhile Http.isKeyCh = d at *
  cases hk : key.isEmpty with
  | true => left; simp [hk]
  | false =>
    simp only [hk]
    cases d with
    | nil => left; exact ⟨rfl, rfl⟩
    | cons x r =>
      by_cases hx : x = '='
      · subst hx
        right
        exact ⟨key, r, hsplit.symm, hall, rfl, rfl⟩
      · left
        constructor
        · split
          · rename_i h1 h2; cases h2; exact absurd rfl hx
          · rfl
        · split
          · rename_i h1 h2; cases h2; exact absurd rfl hx
          · rfl

/-- a key of `_parameter_key_re` (`[\w!#$%&'*+\-.^`|~]` under `re.ASCII`, table regenerated from the live pattern) lower-cases
the same way in the translation (`Pre.lower`) and in the model (`pyLower`) -/
theorem lower_key (key : Str) (h : ∀ c ∈ key, Http.isKeyCh c = true) : Pre.lower key = Http.pyLower key :=
  lower_of_ascii key fun c hc => by have := (Http.isToken_visible (Http.isKeyCh_eq c ▸ h c hc)).2; omega

/-- One turn of the outer `while True:` scanner loop of `parse_options_header`, as translated from the
current source (`_parameter_key_re.match`, `m.group(1).lower()`, `rest[m.end():]`, the token value
`_parameter_token_value_re.match`, otherwise the quoted value with its nested loop - which runs on
the fuel the outer loop has left -, then `rest.find(";")`, `break` or `rest[end + 1:].lstrip()`), with
at least as much fuel left as `rest` has characters: the part it appends and the text it goes on
with are exactly those of the model's `Http.optStep`, and it stops (`.fall`) or continues
(`loop1 fuel_ …`) exactly as the model's `Http.afterSemi?` says (`tailM`). In particular `str.lower()`
on a key (`Pre.lower`) agrees with the model's table-driven lower-casing on the characters
`_parameter_key_re` allows. -/
theorem loop1_step (fuel_ : Nat) (rest : Str) (parts : List (Str × Str)) (h : rest.length ≤ fuel_) :
    parse_options_header.loop1 (fuel_ + 1) rest parts
      = tailM fuel_ (Http.optStep rest).1 (parts ++ (Http.optStep rest).2.toList) := by
  rw [parse_options_header.loop1]
  simp only [if_true, tail_eq]
  rcases key_cases rest with ⟨h1, h2⟩ | ⟨key, r, hr, hall, h1, h2⟩
  · simp only [h1, h2, Option.toList_none, List.append_nil]
  · simp only [h1, h2]
    subst hr
    simp only [slice_from_append key '=' r _ rfl, lower_key key hall]
    unfold parameterTokenValueReMatch optVal
    by_cases htv : (r.takeWhile Http.isTokValCh).isEmpty = true
    · simp only [htv, if_true, Bool.not_true, Bool.false_eq_true, if_false]
      have hs1 : Pre.slice r none (some 1) = r.take 1 := slice_none_nat r 1
      rw [hs1]
      match r, h with
      | [], _ => simp
      | c :: q, h =>
        by_cases hc : c = '"'
        · subst hc
          obtain ⟨p, hp⟩ := loop2_eq (Http.pyLower key) parts q ['"'] fuel_ ('"' :: q)
            (by simp at h; omega) rfl
          have hp' : parse_options_header.loop2 (Http.pyLower key) (Int.ofNat ('"' :: q).length) fuel_ 1 parts ('"' :: q)
              = .fall (p, quotedOut (Http.pyLower key) parts ('"' :: q) (Http.scanQuoted q ['"'])) := hp
          rw [hp']
          simp only [List.take_succ_cons, List.take_zero, beq_self_eq_true, if_true]
          cases Http.scanQuoted q ['"'] with
          | none => simp [quotedOut]
          | some x => simp [quotedOut]
        · have : (([c] : Str) == ['"']) = false := by simpa using hc
          simp only [List.take_succ_cons, List.take_zero, this, Bool.false_eq_true, if_false]
          split
          · rename_i e; cases e; exact absurd rfl hc
          · simp
    · simp only [htv, if_false, Bool.false_eq_true, id, Bool.not_false, if_true, Option.toList_some]

theorem loop1_eq : ∀ (fuel : Nat) (rest : Str) (parts : List (Str × Str)), rest.length < fuel →
    ∃ rest', parse_options_header.loop1 fuel rest parts = .fall (rest', parts ++ Http.optScan fuel rest []) := by
  intro fuel
  induction fuel with
  | zero => intro rest parts h; omega
  | succ f ih =>
    intro rest parts h
    rw [loop1_step f rest parts (by omega), Http.optScan]
    have hsh := @Http.optStep_next_shorter rest
    generalize Http.optStep rest = sr at hsh
    obtain ⟨rest1, part⟩ := sr
    unfold tailM
    simp only [] at hsh ⊢
    cases ha : Http.afterSemi? rest1 with
    | none => exact ⟨rest1, by cases part <;> simp⟩
    | some after =>
      obtain ⟨rest', hr⟩ := ih (Http.lstrip after) (parts ++ part.toList) (by have := hsh ha; omega)
      refine ⟨rest', ?_⟩
      simp only [hr]
      cases part with
      | none => simp
      | some p => simp only []; rw [Http.optScan_acc f _ [p]]; simp

/-- `pk[: match.start()]` is the key without its `*N` suffix -/
theorem slice_continuation (pk base : Str) (h : Http.continuation? pk = some base) :
    Pre.slice pk none (some (base.length : Int)) = base := by
  obtain ⟨suf, rfl⟩ := Http.continuation?_prefix pk base h
  rw [slice_none_nat]
  simp

/-- the model's `optStore` on the dict alone -/
def storeOpts (options : List (Str × Str)) (pk pv : Str) : List (Str × Str) :=
  (Http.optStore ⟨options, none, none⟩ pk pv).options

theorem optStore_eq (st : Http.OptState) (pk pv : Str) :
    Http.optStore st pk pv = { st with options := storeOpts st.options pk pv } := by
  unfold storeOpts Http.optStore
  cases Http.continuation? pk with
  | none => rfl
  | some base => by_cases hb : base.isEmpty = true <;> simp [hb]

/-- `match = _continuation_re.search(pk)` … `options[pk] = …` followed by anything that uses `options`
(`K`), as the translator emits it -/
def storeG {β : Type} (K : List (Str × Str) → β) (options : List (Str × Str)) (pk pv : Str) : β :=
  match continuationReSearch pk with
  | none => K (Pre.dictSet options pk pv)
  | some m =>
    if (Pre.slice pk none (some m.1)).isEmpty then K options
    else K (Pre.dictSet options (Pre.slice pk none (some m.1))
        (Pre.dictGetD options (Pre.slice pk none (some m.1)) [] ++ pv))

theorem storeG_eq {β : Type} (K : List (Str × Str) → β) (options : List (Str × Str)) (pk pv : Str) :
    storeG K options pk pv = K (storeOpts options pk pv) := by
  unfold storeG continuationReSearch storeOpts Http.optStore
  cases h : Http.continuation? pk with
  | none => rfl
  | some base =>
    simp only [Option.map_some, slice_continuation pk base h]
    by_cases hb : base.isEmpty = true
    · simp [hb]
    · simp only [hb, Bool.false_eq_true, if_false]; rfl

/-- `if pv[0] == pv[-1] == '"': pv = pv[1:-1].replace(…)…` followed by anything that uses `pv` (`f`; `e` = raise),
as the translator emits it -/
def unquoteG {β : Type} (f : Str → β) (e : String → β) (pv : Str) : β :=
  match Pre.getItemStr pv 0 with
  | .error x => e x
  | .ok a =>
    match Pre.getItemStr pv (-1) with
    | .error x => e x
    | .ok b =>
      if (a == b) && (b == ['"']) then
        f (Pre.replace (Pre.replace (Pre.replace (Pre.slice pv (some 1) (some (-1))) ['\\', '\\'] ['\\'])
          ['\\', '"'] ['"']) ['%', '2', '2'] ['"'])
      else f pv

theorem unquoteG_eq {β : Type} (f : Str → β) (e : String → β) (pv : Str) :
    unquoteG f e pv = (match Http.optUnquote pv with
      | .ok pv' => f pv'
      | .error x => e x) := by
  unfold unquoteG Http.optUnquote
  rw [last!_eq]
  cases pv with
  | nil => rfl
  | cons x t =>
    have hl : (x :: t).getLast? = some ((x :: t).getLast (by simp)) := List.getLast?_eq_some_getLast (by simp)
    simp only [getItemStr_zero_cons, getItemStr_neg_one_cons, dq_cmp, hl, Http.first!, slice_one_neg_one_cons,
      replace2_eq, replace3_eq, bind, Except.bind, Http.unescapeDq, List.drop_succ_cons, List.drop_zero]
    generalize (x :: t).getLast (by simp) = z
    by_cases h : x = '"' ∧ z = '"'
    · obtain ⟨rfl, rfl⟩ := h; simp [pure, Except.pure]
    · have : (x == '"' && z == '"') = false := by
        rw [Bool.and_eq_false_iff]; simp only [beq_eq_false_iff_ne]
        by_cases hx : x = '"'
        · right; exact fun hz => h ⟨hx, hz⟩
        · left; exact hx
      simp [h, this, pure, Except.pure]

/-- how the loop looks at the outcome of one part: go on (`K`) in the new state, or leave with the exception (`E`) -/
def thenK {β : Type} (K : Option Str → Option Str → List (Str × Str) → β) (E : String → β) (x : Except String Http.OptState) : β :=
  match x with
  | .ok st' => K st'.encoding st'.continued st'.options
  | .error e => E e

/-- the rest of the loop body once the value is final: unquote, store, go on (`K`) -/
def finish {β : Type} (K : List (Str × Str) → β) (E : String → β) (options : List (Str × Str)) (pk pv : Str) : β :=
  match Http.optUnquote pv with
  | .ok pv' => K (storeOpts options pk pv')
  | .error e => E e

/-- … as the translator emits it -/
def finishG {β : Type} (K : List (Str × Str) → β) (E : String → β) (options : List (Str × Str)) (pk pv : Str) : β :=
  unquoteG (storeG K options pk) E pv

theorem finishG_eq {β : Type} (K : List (Str × Str) → β) (E : String → β) (options : List (Str × Str)) (pk pv : Str) :
    finishG K E options pk pv = finish K E options pk pv := by
  unfold finishG finish
  rw [unquoteG_eq]
  simp only [storeG_eq]

/-- the model's charset step once the effective charset name `enc` is known (`if encoding in {…}:
continued_encoding = encoding; pv = unquote(pv, encoding=encoding)`), then `finish` -/
def afterEnc {β : Type} (K : Option Str → Option Str → List (Str × Str) → β) (E : String → β)
    (options : List (Str × Str)) (pk : Str) (enc cont : Option Str) (pv : Str) : β :=
  match enc.bind Http.encOfName with
  | some e => finish (K enc enc) E options pk (Http.pctUnquote e pv)
  | none => finish (K enc cont) E options pk pv

/-- … as the translator emits it when `encoding` is a `str` -/
def encStrG {β : Type} (K : Option Str → Option Str → List (Str × Str) → β) (E : String → β)
    (options : List (Str × Str)) (pk : Str) (e : Str) (cont : Option Str) (pv : Str) : β :=
  if e == ['a', 's', 'c', 'i', 'i'] || e == ['u', 's', '-', 'a', 's', 'c', 'i', 'i'] || e == ['u', 't', 'f', '-', '8']
      || e == ['i', 's', 'o', '-', '8', '8', '5', '9', '-', '1'] then
    match Gen.PyFns_HttpDict.unquoteEnc pv e with
    | .error e_ => E e_
    | .ok v => finishG (K (some e) (some e)) E options pk v
  else finishG (K (some e) cont) E options pk pv

/-- … and when it is a `str | None` -/
def encOptG {β : Type} (K : Option Str → Option Str → List (Str × Str) → β) (E : String → β)
    (options : List (Str × Str)) (pk : Str) (enc cont : Option Str) (pv : Str) : β :=
  if enc == some ['a', 's', 'c', 'i', 'i'] || enc == some ['u', 's', '-', 'a', 's', 'c', 'i', 'i']
      || enc == some ['u', 't', 'f', '-', '8'] || enc == some ['i', 's', 'o', '-', '8', '8', '5', '9', '-', '1'] then
    match enc with
    | none => E "TypeError"
    | some e =>
      match Gen.PyFns_HttpDict.unquoteEnc pv e with
      | .error e_ => E e_
      | .ok v => finishG (K enc enc) E options pk v
  else finishG (K enc cont) E options pk pv

theorem encStrG_eq {β : Type} (K : Option Str → Option Str → List (Str × Str) → β) (E : String → β)
    (options : List (Str × Str)) (pk : Str) (e : Str) (cont : Option Str) (pv : Str) :
    encStrG K E options pk e cont pv = afterEnc K E options pk (some e) cont pv := by
  refine (unquote_guard ..).trans ?_
  simp only [afterEnc, Option.bind_some, Http.encOfName_eq_dict, finishG_eq]
  cases Http.encOfNameDict e <;> rfl

theorem encOptG_eq {β : Type} (K : Option Str → Option Str → List (Str × Str) → β) (E : String → β)
    (options : List (Str × Str)) (pk : Str) (enc cont : Option Str) (pv : Str) :
    encOptG K E options pk enc cont pv = afterEnc K E options pk enc cont pv := by
  cases enc with
  | none =>
    unfold encOptG afterEnc
    simp only [finishG_eq]
    rfl
  | some e =>
    rw [← encStrG_eq]
    unfold encOptG encStrG
    simp only [Option.some_beq_some]
    rfl

abbrev L3 := Pre.Loop (Except String (Str × List (Str × Str))) (Option Str × Option Str × List (Str × Str))

/-- `if not encoding: encoding = continued_encoding` -/
def effEnc (enc cont : Option Str) : Option Str :=
  match enc with
  | some (c :: t) => some (c :: t)
  | _ => cont

theorem effEnc_none (cont : Option Str) : effEnc none cont = cont := rfl
theorem effEnc_nil (cont : Option Str) : effEnc (some []) cont = cont := rfl
theorem effEnc_cons (c : Char) (t : Str) (cont : Option Str) : effEnc (some (c :: t)) cont = some (c :: t) := rfl

/-- `if not encoding: encoding = continued_encoding` and the charset step, as the translator emits them -/
def encG {β : Type} (K : Option Str → Option Str → List (Str × Str) → β) (E : String → β)
    (options : List (Str × Str)) (pk : Str) (enc cont : Option Str) (pv : Str) : β :=
  match enc with
  | none => encOptG K E options pk cont cont pv
  | some e => if e.isEmpty then encOptG K E options pk cont cont pv else encStrG K E options pk e cont pv

theorem encG_eq {β : Type} (K : Option Str → Option Str → List (Str × Str) → β) (E : String → β)
    (options : List (Str × Str)) (pk : Str) (enc cont : Option Str) (pv : Str) :
    encG K E options pk enc cont pv = afterEnc K E options pk (effEnc enc cont) cont pv := by
  match enc with
  | none => exact encOptG_eq ..
  | some [] => exact encOptG_eq ..
  | some (c :: t) => exact encStrG_eq ..

/-- one turn of the loop, written with the primitives the two sides share; `K` = go on with the next
part in the state (encoding, continued_encoding, options), `E` = raise -/
def partStep {β : Type} (K : Option Str → Option Str → List (Str × Str) → β) (E : String → β)
    (enc cont : Option Str) (options : List (Str × Str)) (pk pv : Str) : β :=
  match pk.getLast? with
  | none => E "IndexError"
  | some l =>
    if l == '*' then
      if pk.dropLast.isEmpty then K enc cont options
      else
        match Http.charsetValue? pv with
        | none => afterEnc K E options pk.dropLast (effEnc enc cont) cont pv
        | some m => afterEnc K E options pk.dropLast (effEnc (some (Pre.lower m.1)) cont) cont m.2
    else finish (K enc cont) E options pk pv

/-- One turn of the `for pk, pv in parts:` loop of `parse_options_header`, as translated from the
current source (`pk[-1] == "*"`, `pk[:-1]`, the `continue` on an empty key, `_charset_value_re.match`,
`encoding.lower()`, `if not encoding: encoding = continued_encoding`, the guarded
`continued_encoding = encoding; pv = unquote(pv, encoding=encoding)`, the unquoting idiom with its
three `replace` calls, `_continuation_re.search`, `pk[: match.start()]`, the second `continue`,
`options[pk] = options.get(pk, "") + pv` / `options[pk] = pv`; the translator shares the statements
after each `if` through local continuations `k1_ … k8_`): it is `partStep` - the step written with the
primitives the two sides share - continuing with the loop on the remaining parts. The translator's
`TypeError` arm (`unquote(pv, encoding=None)`) and the "encoding outside the model" marker of
`unquoteEnc` are unreachable behind the `encoding in {"ascii", "us-ascii", "utf-8", "iso-8859-1"}`
guard; `IndexError` arises exactly for an empty `pk` or (final) `pv`, as in the model. -/
theorem loop3_step (rest_ : List (Str × Str)) (enc cont : Option Str) (options : List (Str × Str)) (pk pv : Str) :
    parse_options_header.loop3 ((pk, pv) :: rest_) enc cont options
      = partStep (parse_options_header.loop3 rest_) (fun e => (.ret (.error e) : L3)) enc cont options pk pv := by
  -- the generated body is large: compare it with `partStep` branch by branch instead of simplifying it
  rw [parse_options_header.loop3]
  refine (star_step pk _ _ _).trans ?_
  unfold partStep
  cases pk.getLast? with
  | none => rfl
  | some l =>
    refine ite_congr rfl (fun _ => ?_) (fun _ => finishG_eq ..)
    rw [slice_none_neg_one]
    refine ite_congr rfl (fun _ => rfl) (fun _ => ?_)
    cases Http.charsetValue? pv with
    | none => exact encG_eq ..
    | some m => exact encG_eq _ _ _ _ (some (Pre.lower m.1)) _ _

theorem finish_model {β : Type} (K : Option Str → Option Str → List (Str × Str) → β) (E : String → β)
    (st : Http.OptState) (pk pv : Str) :
    thenK K E (do let v ← Http.optUnquote pv; pure (Http.optStore st pk v))
      = finish (K st.encoding st.continued) E st.options pk pv := by
  unfold finish thenK
  cases Http.optUnquote pv with
  | error e => rfl
  | ok v => simp only [bind, Except.bind, pure, Except.pure, optStore_eq]

theorem optStar_model {β : Type} (K : Option Str → Option Str → List (Str × Str) → β) (E : String → β)
    (st : Http.OptState) (pk pv : Str) :
    thenK K E (do let v ← Http.optUnquote (Http.optStar st pv).2; pure (Http.optStore (Http.optStar st pv).1 pk v))
    = match Http.charsetValue? pv with
      | none => afterEnc K E st.options pk (effEnc st.encoding st.continued) st.continued pv
      | some m => afterEnc K E st.options pk (effEnc (some (Pre.lower m.1)) st.continued) st.continued m.2 := by
  refine (finish_model K E (Http.optStar st pv).1 pk (Http.optStar st pv).2).trans ?_
  unfold Http.optStar afterEnc
  cases hm : Http.charsetValue? pv with
  | none =>
    simp only []
    obtain ⟨o, enc, cont⟩ := st
    simp only []
    match enc with
    | none => simp only [effEnc_none]; cases cont.bind Http.encOfName <;> rfl
    | some [] => simp only [effEnc_nil]; cases cont.bind Http.encOfName <;> rfl
    | some (c :: t) => simp only [effEnc_cons]; cases (some (c :: t) : Option Str).bind Http.encOfName <;> rfl
  | some m =>
    obtain ⟨e, v⟩ := m
    simp only [charsetValue?_lower pv e v hm]
    obtain ⟨o, enc, cont⟩ := st
    simp only []
    match Pre.lower e with
    | [] => simp only [effEnc_nil]; cases cont.bind Http.encOfName <;> rfl
    | c :: t => simp only [effEnc_cons]; cases (some (c :: t) : Option Str).bind Http.encOfName <;> rfl

/-- the model's `optPart` is the same `partStep` (so the two sides take the same step) -/
theorem optPart_step {β : Type} (K : Option Str → Option Str → List (Str × Str) → β) (E : String → β)
    (st : Http.OptState) (pk pv : Str) :
    thenK K E (Http.optPart st pk pv) = partStep K E st.encoding st.continued st.options pk pv := by
  unfold Http.optPart partStep
  rw [last!_eq]
  cases pk.getLast? with
  | none => rfl
  | some l =>
    simp only [ok_bind]
    by_cases hs : l = '*'
    · subst hs
      simp only [beq_self_eq_true, if_true]
      by_cases hd : pk.dropLast.isEmpty = true
      · simp only [hd, if_true]; rfl
      · simp only [hd, Bool.false_eq_true, if_false]
        exact optStar_model K E st pk.dropLast pv
    · have hs'' : (l == '*') = false := by simpa using hs
      simp only [hs'', Bool.false_eq_true, if_false]
      exact finish_model K E st pk pv

theorem loop3_eq (parts : List (Str × Str)) : ∀ st : Http.OptState,
    parse_options_header.loop3 parts st.encoding st.continued st.options =
      match parts.foldlM Http.optFold st with
      | .ok st' => .fall (st'.encoding, st'.continued, st'.options)
      | .error e => .ret (.error e) := by
  induction parts with
  | nil => intro st; rw [parse_options_header.loop3]; rfl
  | cons p t ih =>
    intro st
    obtain ⟨pk, pv⟩ := p
    rw [loop3_step, ← optPart_step, List.foldlM_cons]
    unfold Http.optFold
    cases Http.optPart st pk pv with
    | error e => rfl
    | ok st' => exact ih st'

/-- the text `parse_options_header` scans for parameters: what follows the first `;`, stripped -/
def optRest (v : Str) : Str := Py.strip ((v.dropWhile (· != ';')).drop 1)

theorem optRest_length (v : Str) (h : optRest v ≠ []) : (optRest v).length < v.length := by
  unfold optRest at h ⊢
  have h1 := Py.strip_length_le ((v.dropWhile (· != ';')).drop 1)
  have h2 : (v.dropWhile (· != ';')).length ≤ v.length := (List.dropWhile_sublist _).length_le
  cases hd : v.dropWhile (· != ';') with
  | nil => rw [hd] at h; exact absurd rfl h
  | cons x t => rw [hd] at h1 h2; simp at h1 h2 ⊢; omega

theorem parse_options_header_eq_of_rest (fuel : Nat) (v : List Char)
    (hf : optRest v ≠ [] → (optRest v).length < fuel) :
    parse_options_header fuel (some v) = Http.parseOptionsHeader v := by
  unfold optRest at hf
  unfold parse_options_header Http.parseOptionsHeader
  simp only [partition_singleton, Http.partition_eq, Pre.strip, Http.strip]
  generalize Py.strip (v.takeWhile (· != ';')) = value at *
  generalize Py.strip ((v.dropWhile (· != ';')).drop 1) = rest at *
  by_cases he : (value.isEmpty || rest.isEmpty) = true
  · simp only [he, if_true]; rfl
  · simp only [he, Bool.false_eq_true, if_false]
    have hne : rest ≠ [] := by
      intro e; apply he; simp [e]
    have hf' := hf hne
    obtain ⟨rest', h1⟩ := loop1_eq fuel rest [] hf'
    rw [h1]
    simp only [List.nil_append]
    rw [Http.optScan_fuel_irrelevant fuel (rest.length + 1) rest [] hf' (by omega)]
    have h3 := loop3_eq (Http.optScan (rest.length + 1) rest []) ({} : Http.OptState)
    simp only [] at h3
    rw [h3]
    cases List.foldlM Http.optFold ({} : Http.OptState) (Http.optScan (rest.length + 1) rest []) with
    | error e => rfl
    | ok st => rfl

theorem parse_options_header_eq (fuel : Nat) (v : List Char) (hf : v.length ≤ fuel) :
    parse_options_header fuel (some v) = Http.parseOptionsHeader v :=
  parse_options_header_eq_of_rest fuel v (fun h => Nat.lt_of_lt_of_le (optRest_length v h) hf)

theorem parse_options_header_ok (fuel : Nat) (v : List Char) (hf : v.length ≤ fuel) :
    ∃ r, parse_options_header fuel (some v) = .ok r := by
  rw [parse_options_header_eq fuel v hf]
  exact Http.parseOptionsHeader_safe v

/-- the fuel hypothesis is satisfiable -/
example : ("text/html; charset=\"UTF-8\"; a*0=x; a*1=y".toList).length ≤ 50 := by
  rw [String.toList_ofList]; decide

example : parse_options_header 50 (some "text/html; charset=\"UTF-8\"; a*0=x; a*1=y".toList)
    = .ok ("text/html".toList, [("charset".toList, "UTF-8".toList), ("a".toList, "xy".toList)]) := by
  repeat rw [String.toList_ofList]
  decide +kernel

/-- the fuel hypothesis cannot be dropped: with too little fuel the translation reports its marker
error (here the nested quoted-string loop, running on the two units the outer loop has left, gives up) -/
example : parse_options_header 3 (some "a; k=\"abc; z=1".toList) = .error "py2lean: out of fuel" := by
  rw [String.toList_ofList]; decide +kernel

end Wz.PyFnsEq.HttpOptions
