/-
C08T — the mutators of `werkzeug.datastructures.Headers` and `HeaderSet` *as regenerated from the
source* by `tools/py2lean.py` (`Gen/PyFns_Headers.lean`, `Gen/PyFns_HeaderSet.lean`, rewritten on
every check run) are equal, for all inputs, to the hand-written model functions of
`Model/Headers.lean` / `Model/Containers.lean` that the C08 theorems are about.
A translated method takes the object's attributes (`_list`; `_headers`, `_set` and the flag
"`on_update` was called") as arguments and returns their final values - for a method that can raise,
the values at the moment of the raise, together with `Except`.
The `Headers` equalities are proved here, loops included (`del_key_loop_eq`, `set_loop_eq`; helper lemmas:
Lemmas/PyFns_Headers.lean, Lemmas/PyFns_Prelude.lean); the `HeaderSet` equalities are proved in
Lemmas/PyFnsEq_HeaderSet.lean, which C06's history theorem (Lemmas/HttpSetHist.lean) needs too.
-/
import WzVerif.Gen.PyFns_Headers
import WzVerif.Gen.PyFns_HeaderSet
import WzVerif.Lemmas.PyFns_Headers
import WzVerif.Lemmas.PyFnsEq_HeaderSet
import WzVerif.Props.C08
namespace Wz.Props.C08T
open Wz Wz.Hdr Wz.PyFnsHeaders

/-- The translation maps `_newline_re.search` to the prelude's test for CR / LF; this pins the
pattern source and flags of the live regex object. -/
theorem newline_re_pinned : Gen.PyFns_Headers.newlineRe = ("[\\r\\n]", 32) := by decide

/-- `_str_header_value(value)` for a `str`, as translated: `ValueError` exactly for CR / LF. -/
theorem str_header_value_eq (v : List Char) :
    Gen.PyFns_Headers.str_header_value v = strHeaderValue v := by
  unfold Gen.PyFns_Headers.str_header_value strHeaderValue
  rw [newlineReSearch_eq]

/-- `Headers.add(key, value)` (no keyword arguments), as translated from the current source,
is the model's `add`: same final `_list`, same outcome. -/
theorem headers_add_eq (l : HList) (k v : List Char) :
    Gen.PyFns_Headers.headers_add l k v = Hdr.add l k v := by
  unfold Gen.PyFns_Headers.headers_add Hdr.add
  rw [str_header_value_eq]
  cases strHeaderValue v <;> rfl

/-- the filtering loop of `Headers._del_key` -/
theorem del_key_loop_eq (L : HList) (key : List Char) (l new : HList) :
    Gen.PyFns_Headers.headers_del_key.loop1 L key l new =
      .fall (new ++ l.filter (fun p => !(Hdr.lower p.1 == key))) := by
  induction l generalizing new with
  | nil => simp [Gen.PyFns_Headers.headers_del_key.loop1]
  | cons p t ih =>
    unfold Gen.PyFns_Headers.headers_del_key.loop1
    by_cases h : (Hdr.lower p.1 == key) = true
    · simp [lower_eq, h, ih]
    · have h' : (Hdr.lower p.1 == key) = false := by simpa using h
      simp [lower_eq, h', ih]

/-- `Headers._del_key(key)`, as translated (lower-cased key, the filtering loop,
`self._list[:] = new`), leaves the model's `delKey`. -/
theorem headers_del_key_eq (l : HList) (key : List Char) :
    Gen.PyFns_Headers.headers_del_key l key = delKey l key := by
  unfold Gen.PyFns_Headers.headers_del_key delKey
  simp only [del_key_loop_eq]
  simp [Pre.setSlice, keyEq, lower_eq]

/-- `Headers.remove(key)` is `_del_key`. -/
theorem headers_remove_eq (l : HList) (key : List Char) :
    Gen.PyFns_Headers.headers_remove l key = delKey l key := by
  unfold Gen.PyFns_Headers.headers_remove
  exact headers_del_key_eq l key

/-- **The `for idx, (old_key, _) in enumerate(iter_list)` loop of `Headers.set`**, as translated
from the current source (the iterator shared with the later comprehension, `self._list[idx] = …`,
`break`, the `else` clause): it either runs to its end (no entry with this key) or breaks at the first
such entry with that entry replaced, handing over the index and the entries not yet consumed. -/
theorem set_loop_eq (k vs : List Char) (t : HList) : ∀ (i : Nat) (L : HList), L.length = i + t.length →
    Gen.PyFns_Headers.headers_set.loop1 k vs (Hdr.lower k) (Pre.enumerateFrom (i : Int) t) L =
      match firstSplit k t with
      | none => .fall L
      | some (a, b) => .brk (L.set (i + a.length) (k, vs), ((i + a.length : Nat) : Int), b) := by
  induction t with
  | nil => intro i L _; rfl
  | cons p t ih =>
    intro i L hL
    unfold Pre.enumerateFrom Gen.PyFns_Headers.headers_set.loop1 firstSplit
    by_cases hk : keyEq k p = true
    · have hk' : (Pre.lower p.1 == Hdr.lower k) = true := hk
      have hi : i < L.length := by simp at hL; omega
      simp only [hk', if_true, Pre.setItem_lt L i (k, vs) hi, hk]
      simp [Pre.enumerateFrom_map_snd]
    · have hk' : (Pre.lower p.1 == Hdr.lower k) = false := by simpa [keyEq, lower_eq] using hk
      have e : ((i : Int) + 1) = ((i + 1 : Nat) : Int) := by omega
      simp only [hk', Bool.false_eq_true, if_false, hk, e]
      rw [ih (i + 1) L (by simp at hL ⊢; omega)]
      cases firstSplit k t with
      | none => rfl
      | some ab =>
        obtain ⟨a, b⟩ := ab
        have e1 : i + 1 + a.length = i + (a.length + 1) := by omega
        simp [e1]

/-- **`Headers.set(key, value)`** (no keyword arguments), as translated from the current source
(value check, the empty-list shortcut, the replace-first loop, the slice assignment that drops the
remaining entries of the key), is the model's `set`: same final `_list`, same outcome, for every
list, key and value. -/
theorem headers_set_eq (l : HList) (k v : List Char) :
    Gen.PyFns_Headers.headers_set l k v = Hdr.set l k v := by
  unfold Gen.PyFns_Headers.headers_set Hdr.set
  rw [str_header_value_eq]
  cases strHeaderValue v with
  | error e => rfl
  | ok vs =>
    simp only []
    by_cases he : l.isEmpty = true
    · have : l = [] := by simpa using he
      subst this; rfl
    · simp only [he, Bool.false_eq_true, if_false, Pre.iterOf, Pre.enumerate, lower_eq]
      have hl := set_loop_eq k vs l 0 l (by simp)
      simp only [Int.natCast_zero] at hl
      rw [hl, setLoop_firstSplit]
      cases hf : firstSplit k l with
      | none => rfl
      | some ab =>
        obtain ⟨a, b⟩ := ab
        obtain ⟨p, hp⟩ := firstSplit_spec k l a b hf
        subst hp
        -- the loop broke at index `|a|`; `self._list[idx+1:] = …` keeps `a` and the new pair
        have hs : (a ++ p :: b).set a.length (k, vs) = a ++ (k, vs) :: b := by simp
        have ht : (a ++ (k, vs) :: b).take (a.length + 1) = a ++ [(k, vs)] := by
          simp [List.take_append, List.take_of_length_le (Nat.le_succ a.length)]
        simp only [Nat.zero_add, hs, ← Int.natCast_succ, Pre.setSlice_nat_none, ht, Option.map_some]
        simp [keyEq]

/-- C08 `headers_set_getlist` on the translated method: after the regenerated `set(k, v)` with a
newline-free `v` the key has exactly the one value `v`. -/
theorem headers_set_getlist_translated (l : HList) (k v : List Char) (hv : hasNL v = false) :
    getlist (Gen.PyFns_Headers.headers_set l k v).1 k = [v] ∧
      (Gen.PyFns_Headers.headers_set l k v).2 = .ok () := by
  rw [headers_set_eq]
  exact Wz.Props.C08.headers_set_getlist l k v hv

section HeaderSet
open Wz.HS

/-- the loop of `HeaderSet.update` -/
theorem hs_update_loop_eq (n : Bool) (it : List (List Char)) : ∀ (h s : List (List Char)) (ia : Bool),
    Gen.PyFns_HeaderSet.hs_update.loop1 n it h s ia =
      .fall ((updateLoop ⟨h, s⟩ it).1.headers, (updateLoop ⟨h, s⟩ it).1.set, ia || (updateLoop ⟨h, s⟩ it).2) :=
  Http.HsT.hs_update_loop_eq n it

/-- `HeaderSet.update(iterable)`, as translated: the model's `update` (final `_headers`, `_set`; the
flag is raised when something was inserted). -/
theorem hs_update_eq (h s : List (List Char)) (n : Bool) (it : List (List Char)) :
    Gen.PyFns_HeaderSet.hs_update h s n it =
      ((HS.update ⟨h, s⟩ it).st.headers, (HS.update ⟨h, s⟩ it).st.set, n || (HS.update ⟨h, s⟩ it).notified) :=
  Http.HsT.hs_update_eq h s n it

/-- `HeaderSet.add(header)` is `update((header,))`. -/
theorem hs_add_eq (h s : List (List Char)) (n : Bool) (x : List Char) :
    Gen.PyFns_HeaderSet.hs_add h s n x =
      ((HS.update ⟨h, s⟩ [x]).st.headers, (HS.update ⟨h, s⟩ [x]).st.set, n || (HS.update ⟨h, s⟩ [x]).notified) :=
  Http.HsT.hs_add_eq h s n x

/-- the `enumerate` loop of `HeaderSet.remove` with its `del self._headers[idx]; break`: whether it
breaks or runs out, the first member equal to `key` ignoring case is gone. -/
theorem hs_remove_loop_eq (s : List (List Char)) (n : Bool) (key : List Char) (t : List (List Char)) :
    ∀ (pre : List (List Char)),
      (Gen.PyFns_HeaderSet.hs_remove.loop1 s n key (Pre.enumerateFrom (pre.length : Int) t) (pre ++ t)
          = .fall (pre ++ dropFirst key t)) ∨
      (Gen.PyFns_HeaderSet.hs_remove.loop1 s n key (Pre.enumerateFrom (pre.length : Int) t) (pre ++ t)
          = .brk (pre ++ dropFirst key t)) :=
  Http.HsT.hs_remove_loop_eq s n key t

/-- `HeaderSet.remove(header)`, as translated (KeyError for a non-member, `_set.remove`, the
deletion loop, `on_update`), is the model's `remove`. -/
theorem hs_remove_eq (h s : List (List Char)) (n : Bool) (x : List Char) :
    Gen.PyFns_HeaderSet.hs_remove h s n x =
      (((remove ⟨h, s⟩ x).st.headers, (remove ⟨h, s⟩ x).st.set, n || (remove ⟨h, s⟩ x).notified),
        (remove ⟨h, s⟩ x).res) :=
  Http.HsT.hs_remove_eq h s n x

/-- `HeaderSet.discard(header)`, as translated (`try: self.remove(header) except KeyError: pass`). -/
theorem hs_discard_eq (h s : List (List Char)) (n : Bool) (x : List Char) :
    Gen.PyFns_HeaderSet.hs_discard h s n x =
      ((HS.discard ⟨h, s⟩ x).st.headers, (HS.discard ⟨h, s⟩ x).st.set, n || (HS.discard ⟨h, s⟩ x).notified) :=
  Http.HsT.hs_discard_eq h s n x

/-- `hs[idx] = value`, as translated (`_headers[idx]` may raise IndexError, `_set.remove` KeyError,
then both containers are updated and `on_update` runs), is the model's `setitem`. -/
theorem hs_setitem_eq (h s : List (List Char)) (n : Bool) (i : Int) (v : List Char) :
    Gen.PyFns_HeaderSet.hs_setitem h s n i v =
      (((setitem ⟨h, s⟩ i v).st.headers, (setitem ⟨h, s⟩ i v).st.set, n || (setitem ⟨h, s⟩ i v).notified),
        (setitem ⟨h, s⟩ i v).res) :=
  Http.HsT.hs_setitem_eq h s n i v

end HeaderSet

example : (Gen.PyFns_Headers.headers_set [("A".toList, "1".toList), ("b".toList, "2".toList), ("a".toList, "3".toList)]
    "a".toList "x".toList).1 = [("a".toList, "x".toList), ("b".toList, "2".toList)] := by decide

end Wz.Props.C08T
