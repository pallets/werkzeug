/-
The character classes the header codecs consult (C06): `_token_chars` and the regex classes built from it as one
readable predicate each (`isTokenNat`, …), and `str.lower()` on U+0000..U+00FF (`lowerNat`). Each generated table is
compared once, row by row, with `(List.range 256).map p`; every other fact about the class follows from `p`.
-/
import WzVerif.Lemmas.HttpText
namespace Wz.Http
open Wz

theorem tbl_tabulate (p : Nat → Bool) (N n : Nat) :
    tbl ((List.range N).map p) n = (decide (n < N) && p n) := by
  by_cases h : n < N <;> simp [tbl, List.getD_eq_getElem?_getD, h]

theorem cls_tabulate {T : List Bool} {p : Nat → Bool} (hT : T = (List.range 256).map p)
    (hp : ∀ n, p n = true → n < 256) (c : Char) : cls T false c = p c.toNat := by
  rw [cls, hT, tbl_tabulate]
  by_cases h : c.toNat < 256
  · simp [h]
  · simpa [h] using fun hc => h (hp _ hc)

/-- RFC 9110 `tchar` -/
def isTokenNat (n : Nat) : Bool :=
  (48 ≤ n && n ≤ 57) || ((65 ≤ n && n ≤ 90) || ((97 ≤ n && n ≤ 122) ||
    [33, 35, 36, 37, 38, 39, 42, 43, 45, 46, 94, 95, 96, 124, 126].contains n))

theorem tokenTbl_eq : Gen.Http.tokenTbl = (List.range 256).map isTokenNat := by decide +kernel

theorem isTokenNat_iff (n : Nat) : isTokenNat n = true ↔
    ((48 ≤ n ∧ n ≤ 57) ∨ (65 ≤ n ∧ n ≤ 90) ∨ (97 ≤ n ∧ n ≤ 122) ∨
      n ∈ [33, 35, 36, 37, 38, 39, 42, 43, 45, 46, 94, 95, 96, 124, 126]) := by
  simp only [isTokenNat, Bool.or_eq_true, Bool.and_eq_true, decide_eq_true_eq, List.contains_iff_mem]

theorem isTokenNat_visible {n : Nat} (h : isTokenNat n = true) : 33 ≤ n ∧ n ≤ 126 := by
  simp only [isTokenNat_iff, List.mem_cons, List.not_mem_nil, or_false] at h
  omega

theorem isToken_nat (c : Char) : isToken c = isTokenNat c.toNat :=
  cls_tabulate tokenTbl_eq (fun _ h => by have := isTokenNat_visible h; omega) c

theorem isToken_visible {c : Char} (h : isToken c = true) : 33 ≤ c.toNat ∧ c.toNat ≤ 126 :=
  isTokenNat_visible (isToken_nat c ▸ h)

theorem paramKeyCls_eq : Gen.Http.paramKeyCls = Gen.Http.tokenTbl := by decide +kernel
theorem paramTokCls_eq : Gen.Http.paramTokCls = Gen.Http.tokenTbl := by decide +kernel

theorem isKeyCh_eq (c : Char) : isKeyCh c = isToken c := by rw [isKeyCh, paramKeyCls_eq]; rfl
theorem isTokValCh_eq (c : Char) : isTokValCh c = isToken c := by rw [isTokValCh, paramTokCls_eq]; rfl

/-- the charset name of an RFC 2231 value, `[\\w!#$%&*+\\-.^`|~]`: the token class without `'` -/
theorem charsetCls_eq : Gen.Http.charsetCls = Gen.Http.tokenTbl.set 39 false := by decide +kernel

theorem tbl_set_false (T : List Bool) (i n : Nat) : tbl (T.set i false) n = (tbl T n && n != i) := by
  simp only [tbl, List.getD_eq_getElem?_getD, List.getElem?_set]
  by_cases h : i = n
  · subst h; rw [if_pos rfl]; split <;> simp
  · have : (n != i) = true := bne_iff_ne.2 (Ne.symm h)
    rw [if_neg h, this, Bool.and_true]

theorem isCharsetCh_eq (c : Char) : isCharsetCh c = (isToken c && c.toNat != 39) := by
  unfold isCharsetCh isToken cls
  rw [charsetCls_eq, tbl_set_false]
  split
  · rfl
  · rfl

theorem isCharsetCh_token {c : Char} (h : isCharsetCh c = true) : isToken c = true :=
  (Bool.and_eq_true_iff.1 (isCharsetCh_eq c ▸ h)).1

/-- `\d` under `re.ASCII` -/
def isDigitNat (n : Nat) : Bool := 48 ≤ n && n ≤ 57

theorem isDigitNat_lt {n : Nat} (h : isDigitNat n = true) : n < 256 := by
  simp only [isDigitNat, Bool.and_eq_true, decide_eq_true_eq] at h
  omega

theorem plainIntDigit_eq : Gen.Http.plainIntDigit = (List.range 256).map isDigitNat := by decide +kernel

theorem isPlainDigit_eq (c : Char) : isPlainDigit c = c.isDigit :=
  (cls_tabulate plainIntDigit_eq (fun _ => isDigitNat_lt) c).trans (isDigit_nat c).symm

/-- `str.lower()` on U+0000..U+00FF: ASCII and the Latin-1 capitals (`×` is not a letter) -/
def lowerNat (n : Nat) : Nat :=
  if (65 ≤ n && n ≤ 90) || (192 ≤ n && n ≤ 222 && n != 215) then n + 32 else n

theorem lowerNat_cases (n : Nat) :
    (((65 ≤ n ∧ n ≤ 90) ∨ (192 ≤ n ∧ n ≤ 222 ∧ n ≠ 215)) ∧ lowerNat n = n + 32) ∨
    (¬ ((65 ≤ n ∧ n ≤ 90) ∨ (192 ≤ n ∧ n ≤ 222 ∧ n ≠ 215)) ∧ lowerNat n = n) := by
  unfold lowerNat
  split
  · next h => exact .inl ⟨by simpa [and_assoc] using h, rfl⟩
  · next h => exact .inr ⟨by simpa [and_assoc] using h, rfl⟩

theorem lowerTbl_eq : Gen.Http.lowerTbl = (List.range 256).map lowerNat := by decide +kernel

theorem lowerChar_nat (c : Char) : lowerChar c = Char.ofNat (lowerNat c.toNat) := by
  unfold lowerChar
  by_cases h : c.toNat < 256
  · simp [h, lowerTbl_eq, List.getD_eq_getElem?_getD]
  · have : lowerNat c.toNat = c.toNat := by rcases lowerNat_cases c.toNat with ⟨hu, _⟩ | ⟨_, e⟩ <;> omega
    simp [h, this]

theorem lowerChar_toNat (c : Char) : (lowerChar c).toNat = lowerNat c.toNat := by
  rw [lowerChar_nat]
  rcases lowerNat_cases c.toNat with ⟨hu, e⟩ | ⟨_, e⟩ <;> rw [e]
  · exact toNat_ofNat_lt (by omega)
  · rw [Char.ofNat_toNat]

theorem lowerChar_ascii {c : Char} (h : c.toNat < 128) : lowerChar c = c.toLower := by
  apply Char.toNat_inj.1
  rw [lowerChar_toNat]
  unfold Char.toLower
  have e1 : c.val ≥ 'A'.val ↔ 65 ≤ c.toNat := UInt32.le_iff_toNat_le
  have e2 : c.val ≤ 'Z'.val ↔ c.toNat ≤ 90 := UInt32.le_iff_toNat_le
  by_cases hu : 65 ≤ c.toNat ∧ c.toNat ≤ 90
  · rw [dif_pos ⟨e1.2 hu.1, e2.2 hu.2⟩]
    have : (c.val + ('a'.val - 'A'.val)).toNat = c.toNat + 32 := by
      rw [UInt32.toNat_add]; show (c.toNat + 32) % 2 ^ 32 = _; omega
    rcases lowerNat_cases c.toNat with ⟨_, e⟩ | ⟨hn, _⟩
    · rw [e]; exact this.symm
    · exact absurd (.inl hu) hn
  · rw [dif_neg (fun h => hu ⟨e1.1 h.1, e2.1 h.2⟩)]
    rcases lowerNat_cases c.toNat with ⟨hn, _⟩ | ⟨_, e⟩
    · omega
    · exact e

theorem not_space_of_visible {c : Char} (h : 33 ≤ c.toNat ∧ c.toNat ≤ 126) : Py.isSpace c = false := by
  simp [Py.isSpace]
  omega

theorem isToken_not_space {c : Char} (h : isToken c = true) : Py.isSpace c = false :=
  not_space_of_visible (isToken_visible h)

theorem isToken_ne_dq {c : Char} (h : isToken c = true) : c ≠ '"' := ne_of_class h (by decide)

theorem token_tight {k : Str} (h : k.all isToken = true) : Tight k :=
  tight_of_noSpace fun c hc => isToken_not_space (List.all_eq_true.1 h c hc)

theorem lowerChar_idem (c : Char) : lowerChar (lowerChar c) = lowerChar c := by
  apply Char.toNat_inj.1
  rw [lowerChar_toNat, lowerChar_toNat]
  -- a lowered capital is no capital
  rcases lowerNat_cases c.toNat with ⟨hu, e⟩ | ⟨_, e⟩ <;> rw [e]
  · rcases lowerNat_cases (c.toNat + 32) with ⟨hu', _⟩ | ⟨_, e'⟩ <;> omega
  · exact e

theorem lowerChar_isSpace (c : Char) : Py.isSpace (lowerChar c) = Py.isSpace c := by
  have hl := lowerChar_toNat c
  rcases lowerNat_cases c.toNat with ⟨h, e⟩ | ⟨_, e⟩ <;> rw [e] at hl
  · -- a letter becomes a letter: neither is white space
    have letter : ∀ d : Char, 65 ≤ d.toNat ∧ d.toNat ≤ 126 ∨ 192 ≤ d.toNat ∧ d.toNat ≤ 255 → Py.isSpace d = false := by
      intro d hd; simp [Py.isSpace]; omega
    rw [letter c (by omega), letter _ (by omega)]
  · rw [Char.toNat_inj.1 hl]

/-- a character that is no lower-case letter has only itself as a pre-image of `str.lower()` -/
theorem eq_of_lowerChar_eq {c d : Char}
    (hd : ¬ ((97 ≤ d.toNat ∧ d.toNat ≤ 122) ∨ (224 ≤ d.toNat ∧ d.toNat ≤ 254))) (he : lowerChar c = d) : c = d := by
  apply Char.toNat_inj.1
  have := congrArg Char.toNat he
  rw [lowerChar_toNat] at this
  rcases lowerNat_cases c.toNat with ⟨h, e⟩ | ⟨_, e⟩ <;> rw [e] at this
  · omega
  · exact this

theorem pyLower_idem (s : Str) : pyLower (pyLower s) = pyLower s := by
  simp [pyLower, List.map_map, Function.comp_def, lowerChar_idem]

theorem isSpace_comp_lower : (Py.isSpace ∘ lowerChar) = Py.isSpace := by
  funext c; exact lowerChar_isSpace c

theorem strip_pyLower (s : Str) : strip (pyLower s) = pyLower (strip s) := by
  unfold strip Py.strip Py.rstripBy pyLower
  rw [List.dropWhile_map, isSpace_comp_lower, ← List.map_reverse, List.dropWhile_map, isSpace_comp_lower,
    ← List.map_reverse]

theorem isToken_ne_comma {c : Char} (h : isToken c = true) : c ≠ ',' := ne_of_class h (by decide)
theorem isToken_ne_eq {c : Char} (h : isToken c = true) : c ≠ '=' := ne_of_class h (by decide)

theorem not_space_of_dq_or_token {c : Char} (h : c = '"' ∨ isToken c = true) : Py.isSpace c = false := by
  rcases h with rfl | h
  · decide
  · exact isToken_not_space h

end Wz.Http
