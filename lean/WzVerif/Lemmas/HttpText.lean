/-
Text facts behind the header codecs of `werkzeug.http`, with nothing of werkzeug in them: what `str.strip()` leaves
(`Tight`: first and last character are not white space; the pieces a dumper writes are tight, so the parser's `strip`
calls do nothing), `str.partition(c)` and `str.split(c)` on text whose pieces are free of `c`, the first and last
character of a joined text, folds that assign fresh keys to a dict, and `Except` steps.
-/
import WzVerif.Model.Http
import WzVerif.Lemmas.Basics
import WzVerif.Lemmas.Outcome
import WzVerif.Lemmas.PyDict
namespace Wz.Http
open Wz

def Tight (x : Str) : Prop :=
  (∀ c, x.head? = some c → Py.isSpace c = false) ∧ (∀ c, x.getLast? = some c → Py.isSpace c = false)

theorem strip_tight {x : Str} (h : Tight x) : strip x = x := strip_of_ends h.1 h.2

theorem strip_space_tight {x : Str} (h : Tight x) : strip (' ' :: x) = x := strip_space_of_ends h.1 h.2

theorem tight_strip (s : Str) : Tight (strip s) := strip_ends s

theorem strip_strip (s : Str) : strip (strip s) = strip s := Py.strip_strip s

theorem getLast?_append_of_ne_nil {a b : Str} (hb : b ≠ []) : (a ++ b).getLast? = b.getLast? := by
  rw [List.getLast?_append]
  cases hq : b.getLast? with
  | none => simp [List.getLast?_eq_none_iff] at hq; exact absurd hq hb
  | some x => simp

theorem head?_append_of_ne_nil {a b : Str} (ha : a ≠ []) : (a ++ b).head? = a.head? := by
  cases a with
  | nil => exact absurd rfl ha
  | cons x t => rfl

theorem tight_append {a b : Str} (ha : a ≠ []) (hb : b ≠ [])
    (h1 : ∀ c, a.head? = some c → Py.isSpace c = false)
    (h2 : ∀ c, b.getLast? = some c → Py.isSpace c = false) : Tight (a ++ b) :=
  ⟨fun c hc => h1 c (by rwa [head?_append_of_ne_nil ha] at hc),
   fun c hc => h2 c (by rwa [getLast?_append_of_ne_nil hb] at hc)⟩

theorem tight_of_noSpace {s : Str} (h : ∀ c ∈ s, Py.isSpace c = false) : Tight s :=
  ⟨fun c hc => h c (List.mem_of_head? hc), fun c hc => h c (List.mem_of_getLast? hc)⟩

/-- two tight pieces around anything: `key=value`, `directive value`, `units range/length` -/
theorem tight_around {a b : Str} (m : Str) (ha : a ≠ []) (hb : b ≠ []) (ta : Tight a) (tb : Tight b) :
    Tight (a ++ (m ++ b)) :=
  tight_append ha (by simp [hb]) ta.1 fun c hc => tb.2 c (by rwa [getLast?_append_of_ne_nil hb] at hc)

theorem commaSpace_toList : ", ".toList = [',', ' '] := by decide

theorem semiSpace_toList : "; ".toList = [';', ' '] := by decide

theorem join_semi_cons (a b : Str) (l : List Str) : join "; " (a :: b :: l) = a ++ ';' :: ' ' :: join "; " (b :: l) := by
  simp [join, List.intercalate_cons_cons, semiSpace_toList]

theorem intercalate_ne_nil (sep a : Str) (l : List Str) (ha : a ≠ []) : List.intercalate sep (a :: l) ≠ [] := by
  cases l with
  | nil => simpa using ha
  | cons b t => rw [List.intercalate_cons_cons]; simp [ha]

theorem intercalate_last (sep a : Str) (l : List Str) (h : ∀ x ∈ a :: l, x ≠ []) :
    ∃ x ∈ a :: l, (List.intercalate sep (a :: l)).getLast? = x.getLast? := by
  induction l generalizing a with
  | nil => exact ⟨a, by simp, by simp⟩
  | cons b t ih =>
    obtain ⟨x, hx, hl⟩ := ih b (fun y hy => h y (by simp at hy ⊢; right; exact hy))
    refine ⟨x, by simp at hx ⊢; right; exact hx, ?_⟩
    rw [List.intercalate_cons_cons, List.getLast?_append]
    have hne := intercalate_ne_nil sep b t (h b (by simp))
    cases hg : (List.intercalate sep (b :: t)).getLast? with
    | none => simp [List.getLast?_eq_none_iff] at hg; exact absurd hg hne
    | some e => rw [← hl, hg]; simp

theorem intercalate_head (sep a : Str) (l : List Str) (ha : a ≠ []) :
    (List.intercalate sep (a :: l)).head? = a.head? := by
  cases a with
  | nil => exact absurd rfl ha
  | cons c t =>
    cases l with
    | nil => simp
    | cons b u => rw [List.intercalate_cons_cons]; simp

theorem tight_intercalate (sep a : Str) (l : List Str) (h : ∀ x ∈ a :: l, x ≠ [] ∧ Tight x) :
    Tight (List.intercalate sep (a :: l)) := by
  refine ⟨fun c hc => (h a (by simp)).2.1 c ?_, fun c hc => ?_⟩
  · rwa [intercalate_head _ _ _ (h a (by simp)).1] at hc
  · obtain ⟨x, hx, hl⟩ := intercalate_last sep a l fun y hy => (h y hy).1
    exact (h x hx).2.2 c (hl ▸ hc)

theorem length_intercalate_ge (sep : Str) (l : List Str) (h : ∀ x ∈ l, x ≠ []) :
    l.length ≤ (List.intercalate sep l).length := by
  induction l with
  | nil => simp
  | cons a t ih =>
    cases t with
    | nil =>
      have := h a (by simp)
      cases a with
      | nil => exact absurd rfl this
      | cons _ _ => simp
    | cons b u =>
      have := ih (fun x hx => h x (by simp at hx ⊢; right; exact hx))
      have ha := h a (by simp)
      have hal : 0 < a.length := by
        cases a with
        | nil => exact absurd rfl ha
        | cons _ _ => simp
      simp only [List.intercalate_cons_cons, List.length_append, List.length_cons] at this ⊢
      omega

theorem splitOnChar_go_noSep (c : Char) (a rest acc : Str) (h : c ∉ a) :
    splitOnChar.go c (a ++ rest) acc = splitOnChar.go c rest (a.reverse ++ acc) := by
  induction a generalizing acc with
  | nil => simp
  | cons x t ih =>
    have hx : x ≠ c := fun e => h (by simp [e])
    simp [splitOnChar.go, hx, ih _ (fun e => h (by simp [e]))]

theorem splitOnChar_join (c : Char) (a : Str) (l : List Str) (h : ∀ x ∈ a :: l, c ∉ x) :
    splitOnChar c (List.intercalate [c] (a :: l)) = a :: l := by
  unfold splitOnChar
  suffices ∀ acc, splitOnChar.go c (List.intercalate [c] (a :: l)) acc = (acc.reverse ++ a) :: l by
    simpa using this []
  induction l generalizing a with
  | nil =>
    intro acc
    have := splitOnChar_go_noSep c a [] acc (h a (by simp))
    simp only [List.append_nil] at this
    simp [this, splitOnChar.go]
  | cons b t ih =>
    intro acc
    rw [List.intercalate_cons_cons, List.append_assoc, splitOnChar_go_noSep c a _ acc (h a (by simp))]
    simp only [List.cons_append, List.nil_append, splitOnChar.go, beq_self_eq_true, if_true]
    rw [ih b (fun x hx => h x (by simp at hx ⊢; right; exact hx)) []]
    simp

theorem mem_dropWhile_of_not {p : Char → Bool} {c : Char} : ∀ {l : Str}, c ∈ l → p c = false → c ∈ l.dropWhile p
  | [], h, _ => by cases h
  | x :: t, h, hp => by
    rw [List.dropWhile_cons]
    split
    · next hx =>
      rcases List.mem_cons.1 h with e | e
      · subst e; rw [hp] at hx; cases hx
      · exact mem_dropWhile_of_not e hp
    · exact h

theorem strip_mem_of_not_space {s : Str} {c : Char} (hc : c ∈ s) (hn : Py.isSpace c = false) : c ∈ strip s := by
  unfold strip Py.strip Py.rstripBy
  rw [List.mem_reverse]
  apply mem_dropWhile_of_not _ hn
  rw [List.mem_reverse]
  exact mem_dropWhile_of_not hc hn

theorem splitOnChar_go_noSep_mem (c : Char) : ∀ (s acc : Str), c ∉ acc → ∀ x ∈ splitOnChar.go c s acc, c ∉ x
  | [], acc, hacc, x, hx => by
    simp only [splitOnChar.go, List.mem_singleton] at hx
    subst hx
    simpa using hacc
  | y :: t, acc, hacc, x, hx => by
    unfold splitOnChar.go at hx
    split at hx
    · rcases List.mem_cons.1 hx with e | e
      · subst e; simpa using hacc
      · exact splitOnChar_go_noSep_mem c t [] (by simp) x e
    · next hy =>
      refine splitOnChar_go_noSep_mem c t (y :: acc) ?_ x hx
      intro hm
      rcases List.mem_cons.1 hm with e | e
      · subst e; simp at hy
      · exact hacc e

theorem splitOnChar_noSep (c : Char) (s : Str) : ∀ x ∈ splitOnChar c s, c ∉ x :=
  splitOnChar_go_noSep_mem c s [] (by simp)

theorem splitOnChar_go_ne_nil (c : Char) : ∀ (s acc : Str), splitOnChar.go c s acc ≠ []
  | [], acc => by simp [splitOnChar.go]
  | x :: t, acc => by
    unfold splitOnChar.go
    split
    · simp
    · exact splitOnChar_go_ne_nil c t (x :: acc)

@[simp] theorem ok_bind {α β : Type} (a : α) (f : α → Except String β) :
    (Except.ok a >>= f) = f a := Wz.ok_bind a f
@[simp] theorem error_bind {α β : Type} (e : String) (f : α → Except String β) :
    ((Except.error e : Except String α) >>= f) = Except.error e := Wz.error_bind e f
@[simp] theorem pure_eq_ok {α : Type} (a : α) : (pure a : Except String α) = Except.ok a := Wz.pure_eq_ok a

theorem last!_of_getLast? {k : Str} {l : Char} (h : k.getLast? = some l) : last! k = .ok l := by
  simp [last!, h]

theorem partition_found {c : Char} {k x : Str} (h : c ∉ k) : partition c (k ++ c :: x) = (k, true, x) := by
  simp only [partition, (takeWhile_ne_append x h).1, (takeWhile_ne_append x h).2]

theorem partition_of_mem {c : Char} {s : Str} (h : c ∈ s) :
    ∃ a b, s = a ++ c :: b ∧ c ∉ a ∧ partition c s = (a, true, b) := by
  obtain ⟨a, b, hs, ha⟩ := List.eq_append_cons_of_mem h
  exact ⟨a, b, hs, ha, hs ▸ partition_found ha⟩

theorem partition_notfound {c : Char} {k : Str} (h : c ∉ k) : partition c k = (k, false, []) := by
  have := takeWhile_append_stop (p := (· != c)) (a := k) (b := [])
    (fun x hx => by simpa using fun e : x = c => h (e ▸ hx)) (by simp)
  simp only [List.append_nil] at this
  simp only [partition, this.1, this.2]

theorem partition_eq (c : Char) (s : Str) :
    partition c s = (s.takeWhile (· != c), s.contains c, (s.dropWhile (· != c)).drop 1) := by
  unfold partition
  rcases split_at_first c s with ⟨h1, _, h3⟩ | ⟨pre, post, h1, _, _, h4⟩
  · simp [h3, h1]
  · have hc : c ∈ s := by simp [h1]
    simp [h4, hc]

theorem partition_eq_of_mem (c : Char) (s : Str) (h : c ∈ s) :
    partition c s = (s.takeWhile (· != c), true, (s.dropWhile (· != c)).drop 1) := by
  rw [partition_eq]; simp [h]

theorem strip_subset (s : Str) : ∀ c ∈ strip s, c ∈ s :=
  fun _ hc => (Py.strip_sublist s).subset hc

theorem not_mem_of_strip {s : Str} {c : Char} (h : c ∉ s) : c ∉ strip s := fun hm => h (strip_subset s c hm)

theorem partition_fst_noSep (c : Char) (s : Str) : c ∉ (partition c s).1 := by
  have : c ∉ s.takeWhile (· != c) := fun h => by simpa using mem_takeWhile h
  unfold partition
  split <;> exact this

theorem foldl_dictSet_fresh {ν : Type} (d acc : Dict ν) (hnd : (d.map (·.1)).Nodup)
    (hdis : ∀ x ∈ d, dictHas acc x.1 = false) : d.foldl (fun a x => dictSet a x.1 x.2) acc = acc ++ d :=
  Pre.dictUpdate_of_fresh acc d hnd hdis

end Wz.Http
