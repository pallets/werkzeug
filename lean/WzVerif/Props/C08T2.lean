/-
C08T2 — twenty methods of `werkzeug.datastructures.structures.MultiDict` *as regenerated
from the source* by `tools/py2lean.py` (`Gen/PyFns_MultiDict.lean`, rewritten on every check run:
`__getitem__`, `__setitem__`, `add`, `getlist` (with and without `type`), `setlist`, `setdefault`,
`setlistdefault`, `items` (both `multi`), `lists`, `values`, `listvalues`, `to_dict` (both `flat`),
`update`, `pop` (with and without default), `popitem`, `poplist`, `popitemlist`) equal the hand-written
model the C08 theorems are about (`Model/Containers.lean`: the reads `MD.getitem` … `MD.toDictFlat`, the
mutators through `MD.step`). The object is its dict of lists, handed over as the insertion-ordered
association list the prelude's dict primitives maintain; where the model replaces / erases the *first*
entry of a key and the prelude every entry, the equality needs the key to occur at most once
(`AtMostOnce`, implied by key uniqueness `NodupKeys`, which every model step and every translated
mutator preserves: `nodupKeys_step`, `md_mutators_nodupKeys`). C08's refinement of the abstract
`MDSpec` is restated on the translated methods (`*_spec`, `md_reads_total`).
Helper lemmas: Lemmas/PyDictModel.lean (prelude dict primitives against `PyDict`), Lemmas/PyFnsEq_MultiDict.lean (the
loops, the `_step` forms of the mutator equalities).
-/
import WzVerif.Props.C08
import WzVerif.Lemmas.PyFnsEq_MultiDict
namespace Wz.Props.C08T2
open Wz Wz.PyDict Wz.Gen.PyFns_MultiDict Wz.PyFnsEq.MultiDict MDSpec
variable {κ ν : Type} [DecidableEq κ]

/-- **`MultiDict.__getitem__`** as translated equals the model's `getitem` on every state: first
value, `BadRequestKeyError` for a missing key or an empty list; the `IndexError` arm of `lst[0]` is
unreachable after the `len(lst) > 0` test -/
theorem md_getitem_eq (d : MD.St Pre.Str ν) (k : Pre.Str) : md_getitem d k = MD.getitem d k :=
  PyFnsEq.MultiDict.md_getitem_eq d k

/-- **`MultiDict.getlist(key)`** (no `type`) as translated equals the model's `getlist`: the key's
list, `[]` when missing -/
theorem md_getlist_eq (d : MD.St Pre.Str ν) (k : Pre.Str) : md_getlist d k () = MD.getlist d k :=
  PyFnsEq.MultiDict.md_getlist_eq d k

/-- **`MultiDict.getlist(key, type)`** as translated equals the model's `getlistTyped conv` when the
model's conversion `conv` is `type` with its errors mapped to `None` (the translator is told that
`type` raises only ValueError / TypeError, so its `except (ValueError, TypeError)` arm takes every
error of `call_type`) -/
theorem md_getlist_typed_eq {τ Conv : Type} (ct : Conv → ν → Except String τ) (t : Conv) (conv : ν → Option τ)
    (hconv : ∀ v, conv v = (ct t v).toOption) (d : MD.St Pre.Str ν) (k : Pre.Str) :
    md_getlist_typed ct d k t = MD.getlistTyped conv d k := by
  have hc : conv = fun v => (ct t v).toOption := funext hconv
  subst hc
  unfold md_getlist_typed MD.getlistTyped MD.getlist
  rw [dictGetItem_eq]
  cases PyDict.get? d k with
  | none => rfl
  | some l => simp [md_getlist_typed_loop_eq]

/-- **`MultiDict.lists()`** as translated is the model's `lists` (the state itself) -/
theorem md_lists_eq (d : MD.St Pre.Str ν) : md_lists d = MD.lists d :=
  PyFnsEq.MultiDict.md_lists_eq d

/-- **`MultiDict.values()`** as translated equals the model's `values`, including `IndexError` for a
key with zero values -/
theorem md_values_eq (d : MD.St Pre.Str ν) : md_values d = MD.values d := by
  simp only [md_values, MD.values, Pre.dictValues, md_values_loop_eq]
  cases MD.itemsFirst d <;> simp [Except.map]

/-- **`MultiDict.listvalues()`** as translated is the model's `listvalues` -/
theorem md_listvalues_eq (d : MD.St Pre.Str ν) : md_listvalues d = MD.listvalues d := rfl

/-- **`MultiDict.items(multi=True)`** as translated never raises and yields the model's `itemsMulti`
-/
theorem md_items_multi_eq (d : MD.St Pre.Str ν) : md_items d true = .ok (MD.itemsMulti d) := by
  simp [md_items, Pre.dictItems, md_items_loop1_multi_eq]

/-- **`MultiDict.items()`** as translated equals the model's `itemsFirst`, including `IndexError`
for a key with zero values -/
theorem md_items_first_eq (d : MD.St Pre.Str ν) : md_items d false = MD.itemsFirst d :=
  PyFnsEq.MultiDict.md_items_first_eq d

/-- `to_dict()` as translated is `dict(...)` of the model's `items()`, on every association list -/
theorem md_to_dict_flat_eq_raw (d : MD.St Pre.Str ν) :
    md_to_dict_flat d true = (MD.toDictFlat d).map Pre.dictOfPairs :=
  PyFnsEq.MultiDict.md_to_dict_flat_eq' d

/-- **`MultiDict.__setitem__`** as translated equals the model step `.setitem`, for a dict that
holds the key at most once -/
theorem md_setitem_eq (d : MD.St Pre.Str ν) (k : Pre.Str) (v : ν) (h : AtMostOnce d k) :
    md_setitem d k v = viewNone (MD.step d (.setitem k v)) := by
  rw [md_setitem_step d k v h, viewNone_wrapNone]

/-- `md.add(key, value)` as translated (`setdefault(key, []).append(value)` as a `dict_set` of the
extended list) is the model's `add` (key at most once) -/
theorem md_add_add (d : MD.St Pre.Str ν) (k : Pre.Str) (v : ν) (h : AtMostOnce d k) :
    md_add d k v = MD.add d k v :=
  PyFnsEq.MultiDict.md_add_add d k v h

/-- **`MultiDict.add`** as translated equals the model step `.add` -/
theorem md_add_eq (d : MD.St Pre.Str ν) (k : Pre.Str) (v : ν) (h : AtMostOnce d k) :
    md_add d k v = viewNone (MD.step d (.add k v)) := by
  rw [md_add_step d k v h, viewNone_wrapNone]

/-- **`MultiDict.setlist`** as translated equals the model step `.setlist` (also for an empty list,
which leaves the key with zero values) -/
theorem md_setlist_eq (d : MD.St Pre.Str ν) (k : Pre.Str) (vs : List ν) (h : AtMostOnce d k) :
    md_setlist d k vs = viewNone (MD.step d (.setlist k vs)) := by
  rw [md_setlist_step d k vs h, viewNone_wrapNone]

/-- **`MultiDict.setdefault`** as translated equals the model step `.setdefault` -/
theorem md_setdefault_eq (d : MD.St Pre.Str ν) (k : Pre.Str) (v : ν) :
    md_setdefault d k v = viewVal (MD.step d (.setdefault k v)) := by
  rw [md_setdefault_step, viewVal_wrapVal]

/-- **`MultiDict.setlistdefault`** as translated equals the model step `.setlistdefault` -/
theorem md_setlistdefault_eq (d : MD.St Pre.Str ν) (k : Pre.Str) (o : Option (List ν)) :
    md_setlistdefault d k o = viewVals (MD.step d (.setlistdefault k (o.getD []))) := by
  rw [md_setlistdefault_step, viewVals_wrapVals]

/-- `md.update(pairs)` as translated is the model's `addAll` -/
theorem md_update_addAll (d : MD.St Pre.Str ν) (l : List (Pre.Str × ν)) (h : ∀ p ∈ l, AtMostOnce d p.1) :
    md_update d l = MD.addAll d l :=
  PyFnsEq.MultiDict.md_update_addAll d l h

/-- **`MultiDict.update`** as translated equals the model step `.update (.pairs l)` -/
theorem md_update_eq (d : MD.St Pre.Str ν) (l : List (Pre.Str × ν)) (h : ∀ p ∈ l, AtMostOnce d p.1) :
    md_update d l = viewNone (MD.step d (.update (.pairs l))) :=
  PyFnsEq.MultiDict.md_update_eq d l h

/-- **`MultiDict.pop(key)`** as translated equals the model step `.pop key none` -/
theorem md_pop_eq (d : MD.St Pre.Str ν) (k : Pre.Str) (h : AtMostOnce d k) :
    md_pop d k () = viewVal (MD.step d (.pop k none)) := by
  rw [md_pop_step d k h, viewVal_wrapVal]

/-- **`MultiDict.pop(key, default)`** as translated equals the model step `.pop key (some default)`
-/
theorem md_pop_default_eq (d : MD.St Pre.Str ν) (k : Pre.Str) (dflt : ν) (h : AtMostOnce d k) :
    md_pop_default d k dflt = viewVal (MD.step d (.pop k (some dflt))) := by
  rw [md_pop_default_step d k dflt h, viewVal_wrapVal]

/-- **`MultiDict.popitem`** as translated equals the model step `.popitem` -/
theorem md_popitem_eq (d : MD.St Pre.Str ν) : md_popitem d = viewItem (MD.step d .popitem) := by
  rw [md_popitem_step, viewItem_wrapItem]

/-- **`MultiDict.poplist`** as translated equals the model step `.poplist`: the key's list (or `[]`)
and the dict without the key -/
theorem md_poplist_eq (d : MD.St Pre.Str ν) (k : Pre.Str) (h : AtMostOnce d k) :
    md_poplist d k = viewValsT (MD.step d (.poplist k)) := by
  rw [md_poplist_step d k h, viewValsT_wrapValsT]

/-- **`MultiDict.popitemlist`** as translated equals the model step `.popitemlist` -/
theorem md_popitemlist_eq (d : MD.St Pre.Str ν) : md_popitemlist d = viewItemlist (MD.step d .popitemlist) := by
  rw [md_popitemlist_step, viewItemlist_wrapItemlist]

/-- **`MultiDict.to_dict()`** (`flat=True`) as translated (`dict(self.items())`) equals the model's
`toDictFlat` for a dict with distinct keys (the rebuilt dict is then the item list itself);
`IndexError` for a key with zero values on both sides. Necessity of the hypothesis: an `example` in
Lemmas/PyFnsEq_MultiDict.lean. -/
theorem md_to_dict_flat_eq (d : MD.St Pre.Str ν) (hn : NodupKeys d) :
    md_to_dict_flat d true = MD.toDictFlat d := by
  rw [md_to_dict_flat_eq']
  unfold MD.toDictFlat
  cases h : MD.itemsFirst d with
  | error e => rfl
  | ok r =>
    have hr : NodupKeys r := by
      have := keys_itemsFirst d r h
      unfold NodupKeys; unfold keys at this; rw [this]; exact hn
    simp [Except.map, (dictOfPairs_self_iff r).mpr hr]

/-- `to_dict(flat=False)` as translated is `dict(...)` of the state, on every association list -/
theorem md_to_dict_lists_eq_raw (d : MD.St Pre.Str ν) : md_to_dict_lists d false = Pre.dictOfPairs d :=
  PyFnsEq.MultiDict.md_to_dict_lists_eq' d

/-- **`MultiDict.to_dict(flat=False)`** as translated (`dict(self.lists())`) is the model's answer
(`lists`) exactly when the keys are distinct -/
theorem md_to_dict_lists_eq_iff (d : MD.St Pre.Str ν) : md_to_dict_lists d false = MD.lists d ↔ NodupKeys d := by
  rw [md_to_dict_lists_eq']; exact dictOfPairs_self_iff d

/-- `md[key]` as translated raises nothing but `BadRequestKeyError` (in particular not the
`IndexError` of `lst[0]`, nor the `KeyError` of `dict.__getitem__`) -/
theorem md_getitem_error (d : MD.St Pre.Str ν) (k : Pre.Str) (e : String) (h : md_getitem d k = .error e) :
    e = "BadRequestKeyError" := by
  rw [md_getitem_eq] at h
  unfold MD.getitem at h
  split at h <;> simp at h
  exact h.symm

/-- `md.pop(key)` as translated raises nothing but `BadRequestKeyError` -/
theorem md_pop_error (d : MD.St Pre.Str ν) (k : Pre.Str) (hk : AtMostOnce d k) (e : String)
    (h : (md_pop d k ()).2 = .error e) : e = "BadRequestKeyError" := by
  have hs : (MD.step d (.pop k none)).2 = .error e := by rw [md_pop_step d k hk, wrapVal, h]; rfl
  exact (C08L.step_error d _ e hs).resolve_right fun ⟨_, _, ho⟩ => by cases ho

/-- `md.popitem()` as translated raises nothing but `BadRequestKeyError` -/
theorem md_popitem_error (d : MD.St Pre.Str ν) (e : String)
    (h : (md_popitem d).2 = .error e) : e = "BadRequestKeyError" := by
  have hs : (MD.step d .popitem).2 = .error e := by rw [md_popitem_step d, wrapItem, h]; rfl
  exact (C08L.step_error d _ e hs).resolve_right fun ⟨_, _, ho⟩ => by cases ho

/-- C08 `md_step_refines` on the translated `__setitem__`: on a well-formed state (distinct keys, no
empty list) it does what the abstract insertion-ordered multimap does -/
theorem md_setitem_spec (d : MD.St Pre.Str ν) (h : WF d) (k : Pre.Str) (v : ν) :
    md_setitem d k v = viewNone (MDSpec.step d (.setitem k v)) := by
  rw [md_setitem_eq d k v (atMostOnce_of_nodupKeys h.1 k), (Props.C08.md_step_refines d h _ rfl).1]

/-- C08 `md_step_refines` on the translated `add` -/
theorem md_add_spec (d : MD.St Pre.Str ν) (h : WF d) (k : Pre.Str) (v : ν) :
    md_add d k v = viewNone (MDSpec.step d (.add k v)) := by
  rw [md_add_eq d k v (atMostOnce_of_nodupKeys h.1 k), (Props.C08.md_step_refines d h _ rfl).1]

/-- C08 `md_step_refines` on the translated `setdefault` -/
theorem md_setdefault_spec (d : MD.St Pre.Str ν) (h : WF d) (k : Pre.Str) (v : ν) :
    md_setdefault d k v = viewVal (MDSpec.step d (.setdefault k v)) := by
  rw [md_setdefault_eq d k v, (Props.C08.md_step_refines d h _ rfl).1]

/-- C08 `md_step_refines` on the translated `pop(key)` -/
theorem md_pop_spec (d : MD.St Pre.Str ν) (h : WF d) (k : Pre.Str) :
    md_pop d k () = viewVal (MDSpec.step d (.pop k none)) := by
  rw [md_pop_eq d k (atMostOnce_of_nodupKeys h.1 k), (Props.C08.md_step_refines d h _ rfl).1]

/-- C08 `md_step_refines` on the translated `popitem` -/
theorem md_popitem_spec (d : MD.St Pre.Str ν) (h : WF d) :
    md_popitem d = viewItem (MDSpec.step d .popitem) := by
  rw [md_popitem_eq d, (Props.C08.md_step_refines d h _ rfl).1]

/-- C08 `md_read_refines` on the translated reads: on a well-formed state `items()`, `values()` and
`to_dict()` as translated never raise `IndexError` and give the first value of every key -/
theorem md_reads_total (d : MD.St Pre.Str ν) (h : WF d) :
    md_items d false = .ok (d.filterMap fun e => e.2.head?.map fun v => (e.1, v)) ∧
    md_values d = .ok (d.filterMap (·.2.head?)) ∧
    md_to_dict_flat d true = .ok (d.filterMap fun e => e.2.head?.map fun v => (e.1, v)) := by
  have h1 := Props.C08.md_read_refines d h (.items false)
  have h2 := Props.C08.md_read_refines d h .values
  have h3 := Props.C08.md_read_refines d h (.toDict true)
  simp only [MD.read, MDSpec.read] at h1 h2 h3
  rw [md_items_first_eq, md_values_eq, md_to_dict_flat_eq d h.1]
  refine ⟨?_, ?_, ?_⟩
  · cases hi : MD.itemsFirst d <;> simp [hi, Except.map] at h1 ⊢; exact h1
  · cases hi : MD.values d <;> simp [hi, Except.map] at h2 ⊢; exact h2
  · cases hi : MD.toDictFlat d <;> simp [hi, Except.map] at h3 ⊢; exact h3

/-- C08 `md_update_getlist` on the translated methods: after `update(pairs)` every key has its old
values followed by the values the argument gives it, in order -/
theorem md_update_getlist (d : MD.St Pre.Str ν) (l : List (Pre.Str × ν)) (h : ∀ p ∈ l, AtMostOnce d p.1)
    (k : Pre.Str) :
    md_getlist (md_update d l) k () = md_getlist d k () ++ (l.filter (fun p => p.1 = k)).map (·.2) :=
  PyFnsEq.MultiDict.md_update_getlist d l h k

/-- C08 `md_mutator_laws` on the translated methods: after `md[k] = v`, `getlist(k)` is `[v]` and
every other key keeps its list -/
theorem md_setitem_getlist (d : MD.St Pre.Str ν) (h : WF d) (k k' : Pre.Str) (v : ν) :
    md_getlist (md_setitem d k v) k' () = if k' = k then [v] else md_getlist d k' () := by
  rw [md_getlist_eq, md_getlist_eq, md_setitem_eq d k v (atMostOnce_of_nodupKeys h.1 k)]
  exact (Props.C08.md_mutator_laws d h k k' v [] none).1

/-- every mutator of the model keeps the keys distinct -/
theorem nodupKeys_step (d : MD.St κ ν) (hn : NodupKeys d) (op : MD.Op κ ν) : NodupKeys (MD.step d op).1 := by
  rw [C08L.step_fst]; exact C08L.nodupKeys_effect d hn op

/-- **every translated mutator keeps the keys of the dict distinct**, so the hypothesis `AtMostOnce`
/ `NodupKeys` of the equalities above holds along every history that starts from a dict -/
theorem md_mutators_nodupKeys {ν : Type} (d : MD.St Pre.Str ν) (hn : NodupKeys d) (k : Pre.Str) (v : ν) (vs : List ν)
    (o : Option (List ν)) (l : List (Pre.Str × ν)) :
    NodupKeys (md_setitem d k v) ∧ NodupKeys (md_add d k v) ∧ NodupKeys (md_setlist d k vs) ∧
    NodupKeys (md_setdefault d k v).1 ∧ NodupKeys (md_setlistdefault d k o).1 ∧ NodupKeys (md_update d l) ∧
    NodupKeys (md_pop d k ()).1 ∧ NodupKeys (md_pop_default d k v).1 ∧ NodupKeys (md_popitem d).1 ∧
    NodupKeys (md_poplist d k).1 ∧ NodupKeys (md_popitemlist d).1 := by
  have hk := atMostOnce_of_nodupKeys hn k
  have hl : ∀ p ∈ l, AtMostOnce d p.1 := fun p _ => atMostOnce_of_nodupKeys hn p.1
  refine ⟨?_, ?_, ?_, ?_, ?_, ?_, ?_, ?_, ?_, ?_, ?_⟩
  · rw [md_setitem_eq d k v hk]; exact nodupKeys_step d hn _
  · rw [md_add_eq d k v hk]; exact nodupKeys_step d hn _
  · rw [md_setlist_eq d k vs hk]; exact nodupKeys_step d hn _
  · rw [md_setdefault_eq d k v]; exact nodupKeys_step d hn _
  · rw [md_setlistdefault_eq d k o]; exact nodupKeys_step d hn _
  · rw [md_update_eq d l hl]; exact nodupKeys_step d hn _
  · rw [md_pop_eq d k hk]; exact nodupKeys_step d hn _
  · rw [md_pop_default_eq d k v hk]; exact nodupKeys_step d hn _
  · rw [md_popitem_eq d]; exact nodupKeys_step d hn _
  · rw [md_poplist_eq d k hk]; exact nodupKeys_step d hn _
  · rw [md_popitemlist_eq d]; exact nodupKeys_step d hn _

end Wz.Props.C08T2
