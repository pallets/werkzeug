/-
The test client's `Cookie._from_response_header` (Model/CookieJar.lean) on a header `dump_cookie` wrote:
the cut at the first `;` and the split of the attribute text; the parameter dict of that text as a slot
list with distinct names (`slots`, `paramGet_slots`, the getters); the pair half of the function stated
once (`fromResponseHeader_of_pair`, with the attribute half as `cookieOfParams`); and what the jar then
files (`fromHeader_dump`).
-/
import WzVerif.Lemmas.CookieRound
import WzVerif.Lemmas.CookieAttrs
import WzVerif.Lemmas.CookieInt
import WzVerif.Model.CookieJar
namespace Wz.Cookie
open Wz

theorem partitionAt_found (sep : Char) (p rest : Str) (hp : ∀ c ∈ p, c ≠ sep) :
    partitionAt sep (p ++ sep :: rest) = (p, true, rest) := by
  obtain ⟨h1, h2⟩ := takeWhile_ne_append rest fun hm => hp _ hm rfl
  simp [partitionAt, h1, h2]

theorem partitionAt_none (sep : Char) (p : Str) (hp : ∀ c ∈ p, c ≠ sep) :
    partitionAt sep p = (p, false, []) := by
  simp [partitionAt, dropWhile_eq_nil_iff.mpr fun c hc => bne_iff_ne.mpr (hp c hc)]

theorem partitionAt_head (sep : Char) {p rest : Str} (hp : ∀ c ∈ p, c ≠ sep)
    (hrest : rest = [] ∨ ∃ r, rest = sep :: r) : ∃ b r, partitionAt sep (p ++ rest) = (p, b, r) := by
  rcases hrest with rfl | ⟨r, rfl⟩
  · exact ⟨false, [], by simpa using partitionAt_none sep p hp⟩
  · exact ⟨true, r, partitionAt_found sep p r hp⟩

theorem splitOn_none (sep : Char) (p : Str) (hp : ∀ c ∈ p, c ≠ sep) : splitOn sep p = [p] := by
  induction p with
  | nil => rfl
  | cons c t ih =>
    have hc : c ≠ sep := hp c (by simp)
    simp [splitOn, hc, ih (fun x hx => hp x (by simp [hx]))]

theorem splitOn_append (sep : Char) (p rest : Str) (hp : ∀ c ∈ p, c ≠ sep) :
    splitOn sep (p ++ sep :: rest) = p :: splitOn sep rest := by
  induction p with
  | nil => simp [splitOn]
  | cons c t ih =>
    have hc : c ≠ sep := hp c (by simp)
    simp [splitOn, hc, ih (fun x hx => hp x (by simp [hx]))]

/-- the attribute string after the pair: `" A; B; C"` splits at `;` into `" A"`, `" B"`, `" C"` -/
theorem splitOn_attrs (parts : List Str) (hne : parts ≠ []) (hp : ∀ p ∈ parts, ∀ c ∈ p, c ≠ ';') :
    splitOn ';' (' ' :: List.intercalate "; ".toList parts) = parts.map (' ' :: ·) := by
  induction parts with
  | nil => exact absurd rfl hne
  | cons p t ih =>
    cases t with
    | nil =>
      have : List.intercalate "; ".toList [p] = p := by simp [List.intercalate]
      rw [this]
      exact splitOn_none ';' (' ' :: p) (List.forall_mem_cons.mpr ⟨by decide, hp p (by simp)⟩)
    | cons q r =>
      rw [intercalate_cons2]
      have : ' ' :: (p ++ ';' :: ' ' :: List.intercalate "; ".toList (q :: r)) =
          (' ' :: p) ++ ';' :: (' ' :: List.intercalate "; ".toList (q :: r)) := by simp
      rw [this, splitOn_append ';' (' ' :: p) _ (List.forall_mem_cons.mpr ⟨by decide, hp p (by simp)⟩)]
      rw [ih (by simp) (fun x hx => hp x (by simp [hx]))]
      rfl

/-- `header.partition(";")` on a dumped header -/
theorem partition_header (pair : Str) (parts : List Str) (hpair : ∀ c ∈ pair, c ≠ ';') :
    partitionAt ';' (List.intercalate "; ".toList (pair :: parts)) =
      (pair, !parts.isEmpty, if parts.isEmpty then [] else ' ' :: List.intercalate "; ".toList parts) := by
  cases parts with
  | nil =>
    have : List.intercalate "; ".toList [pair] = pair := by simp [List.intercalate]
    rw [this, partitionAt_none ';' pair hpair]; rfl
  | cons q r =>
    rw [intercalate_cons2, partitionAt_found ';' pair _ hpair]; rfl

theorem parseItem_kv (name x key : Str) (hn : ∀ c ∈ name, c ≠ '=')
    (hk : lowerAscii (Py.strip (' ' :: name)) = key) :
    parseItem (' ' :: (name ++ '=' :: x)) = (key, some (Py.strip x)) := by
  have : ' ' :: (name ++ '=' :: x) = (' ' :: name) ++ '=' :: x := by simp
  unfold parseItem
  rw [this, partitionAt_found '=' (' ' :: name) x (List.forall_mem_cons.mpr ⟨by decide, hn⟩)]
  simp [hk]

theorem parseItem_flag (name key : Str) (hn : ∀ c ∈ name, c ≠ '=')
    (hk : lowerAscii (Py.strip (' ' :: name)) = key) :
    parseItem (' ' :: name) = (key, none) := by
  unfold parseItem
  rw [partitionAt_none '=' (' ' :: name) (List.forall_mem_cons.mpr ⟨by decide, hn⟩)]
  simp [hk]

/-- one entry per attribute `dump_cookie` can write: the name `_from_response_header` looks up and
what the dict holds for it (`none` = absent, `some none` = present without `=`) -/
def slots (a : Attrs) (ss : Option Str) : List (String × Option (Option Str)) :=
  [("domain", a.domain.map fun x => some (Py.strip x)),
   ("expires", a.expires.map fun x => some (Py.strip x)),
   ("max-age", (a.maxAge.map intText).map fun x => some (Py.strip x)),
   ("secure", if a.secure || a.partitioned then some none else none),
   ("httponly", if a.httponly then some none else none),
   ("path", a.path.map fun x => some (Py.strip x)),
   ("samesite", ss.map fun x => some (Py.strip x)),
   ("partitioned", if a.partitioned then some none else none)]

def slotItems (sl : List (String × Option (Option Str))) : List (Str × Option Str) :=
  sl.flatMap fun s => (s.2.map (s.1.toList, ·)).toList

/-- what `_from_response_header` reads out of the attributes `dump_cookie` wrote -/
def attrParams (a : Attrs) (ss : Option Str) : List (Str × Option Str) := slotItems (slots a ss)

/-- `hK`, `hk` are given as `String.toList_ofList`: the names become character lists by a lemma, so
that the two side conditions are decided on lists, not on string literals -/
theorem kvPart_params (K k : String) (v : Option Str) {Kc kc : Str} (hK : K.toList = Kc) (hk : k.toList = kc)
    (hn : ∀ c ∈ Kc, c ≠ '=') (hl : lowerAscii (Py.strip (' ' :: Kc)) = kc) :
    (kvPart K v).map (fun p => parseItem (' ' :: p)) =
      ((v.map fun x => some (Py.strip x)).map (k.toList, ·)).toList := by
  subst hK hk
  cases v with
  | none => rfl
  | some x => simp [kvPart, parseItem_kv K.toList x k.toList hn hl]

theorem flagPart_params (K k : String) (b : Bool) {Kc kc : Str} (hK : K.toList = Kc) (hk : k.toList = kc)
    (hn : ∀ c ∈ Kc, c ≠ '=') (hl : lowerAscii (Py.strip (' ' :: Kc)) = kc) :
    (flagPart K b).map (fun p => parseItem (' ' :: p)) =
      ((if b then some none else none : Option (Option Str)).map (k.toList, ·)).toList := by
  subst hK hk
  cases b with
  | false => rfl
  | true => simp [flagPart, parseItem_flag K.toList k.toList hn hl]

theorem attrParts_params (a : Attrs) (ss : Option Str) :
    (attrParts a ss).map (fun p => parseItem (' ' :: p)) = attrParams a ss := by
  unfold attrParts attrParams slotItems slots
  simp only [List.map_append, List.append_assoc, List.flatMap_cons, List.flatMap_nil, List.append_nil]
  rw [kvPart_params "Domain" "domain" _ String.toList_ofList String.toList_ofList (by decide) (by decide),
    kvPart_params "Expires" "expires" _ String.toList_ofList String.toList_ofList (by decide) (by decide),
    kvPart_params "Max-Age" "max-age" _ String.toList_ofList String.toList_ofList (by decide) (by decide),
    flagPart_params "Secure" "secure" _ String.toList_ofList String.toList_ofList (by decide) (by decide),
    flagPart_params "HttpOnly" "httponly" _ String.toList_ofList String.toList_ofList (by decide) (by decide),
    kvPart_params "Path" "path" _ String.toList_ofList String.toList_ofList (by decide) (by decide),
    kvPart_params "SameSite" "samesite" _ String.toList_ofList String.toList_ofList (by decide) (by decide),
    flagPart_params "Partitioned" "partitioned" _ String.toList_ofList String.toList_ofList (by decide) (by decide)]

/-- no item of the dict has the name `k` -/
def NoKey (ps : List (Str × Option Str)) (k : String) : Prop := ∀ p ∈ ps, p.1 ≠ k.toList

theorem find_none_of_noKey (ps : List (Str × Option Str)) (k : String) (h : NoKey ps k) :
    ps.reverse.find? (fun p => p.1 == k.toList) = none := by
  apply List.find?_eq_none.mpr
  intro p hp
  have := h p (by simpa using hp)
  simpa using this

theorem paramGet_noKey (ps : List (Str × Option Str)) (k : String) (h : NoKey ps k) : paramGet ps k = none := by
  simp [paramGet, find_none_of_noKey ps k h]

theorem paramGet_skip (A rest : List (Str × Option Str)) (k : String) (h : NoKey A k) :
    paramGet (A ++ rest) k = paramGet rest k := by
  unfold paramGet
  rw [List.reverse_append, List.find?_append]
  cases hf : rest.reverse.find? (fun p => p.1 == k.toList) with
  | some x => simp
  | none => simp [find_none_of_noKey A k h]

theorem paramGet_hit (A rest : List (Str × Option Str)) (k : String) (h : NoKey rest k) :
    paramGet (A ++ rest) k = paramGet A k := by
  unfold paramGet
  rw [List.reverse_append, List.find?_append, find_none_of_noKey rest k h]
  simp

theorem paramGet_slots {sl : List (String × Option (Option Str))}
    (hnd : (sl.map fun s => s.1.toList).Nodup) {k : String} {o : Option (Option Str)} (hm : (k, o) ∈ sl) :
    paramGet (slotItems sl) k = o := by
  induction sl with
  | nil => cases hm
  | cons s t ih =>
    obtain ⟨hs, ht⟩ := List.nodup_cons.mp hnd
    rw [slotItems, List.flatMap_cons]
    rcases List.mem_cons.mp hm with rfl | hm
    · rw [paramGet_hit]
      · cases o <;> simp [paramGet]
      · intro p hp
        obtain ⟨s', hs', hp'⟩ := List.mem_flatMap.mp hp
        obtain ⟨w, _, rfl⟩ := Option.map_eq_some_iff.mp (Option.mem_toList.mp hp')
        exact fun e => hs (List.mem_map.mpr ⟨s', hs', e⟩)
    · rw [paramGet_skip]
      · exact ih ht hm
      · intro p hp
        obtain ⟨w, _, rfl⟩ := Option.map_eq_some_iff.mp (Option.mem_toList.mp hp)
        exact fun e => hs (List.mem_map.mpr ⟨(k, o), hm, e.symm⟩)

theorem slots_nodup (a : Attrs) (ss : Option Str) : ((slots a ss).map fun s => s.1.toList).Nodup := by
  simp only [slots, List.map]
  repeat rw [String.toList_ofList]
  decide

section lookups
variable (a : Attrs) (ss : Option Str)

theorem get_domain : paramGet (attrParams a ss) "domain" = a.domain.map (fun x => some (Py.strip x)) :=
  paramGet_slots (slots_nodup a ss) (by simp [slots])

theorem get_expires : paramGet (attrParams a ss) "expires" = a.expires.map (fun x => some (Py.strip x)) :=
  paramGet_slots (slots_nodup a ss) (by simp [slots])

theorem get_maxage : paramGet (attrParams a ss) "max-age" =
    (a.maxAge.map intText).map (fun x => some (Py.strip x)) :=
  paramGet_slots (slots_nodup a ss) (by simp [slots])

theorem get_secure : paramGet (attrParams a ss) "secure" =
    if (a.secure || a.partitioned) then some none else none :=
  paramGet_slots (slots_nodup a ss) (by simp [slots])

theorem get_httponly : paramGet (attrParams a ss) "httponly" = if a.httponly then some none else none :=
  paramGet_slots (slots_nodup a ss) (by simp [slots])

theorem get_path : paramGet (attrParams a ss) "path" = a.path.map (fun x => some (Py.strip x)) :=
  paramGet_slots (slots_nodup a ss) (by simp [slots])

theorem get_samesite : paramGet (attrParams a ss) "samesite" = ss.map (fun x => some (Py.strip x)) :=
  paramGet_slots (slots_nodup a ss) (by simp [slots])

end lookups

/-- the opaque attribute texts are free of `;` and of surrounding white space -/
structure CleanAttrs (a : Attrs) : Prop where
  dom : ∀ x, a.domain = some x → (∀ c ∈ x, c ≠ ';') ∧ Py.strip x = x
  exp : ∀ x, a.expires = some x → (∀ c ∈ x, c ≠ ';') ∧ Py.strip x = x
  path : ∀ x, a.path = some x → (∀ c ∈ x, c ≠ ';') ∧ Py.strip x = x

/-- Python truthiness of an optional string -/
def truthy (o : Option Str) : Option Str :=
  match o with
  | some x => if x.isEmpty then none else some x
  | none => none

/-- the path the jar files a cookie under: the (IRI form of the) Path attribute, else the
directory of the request path -/
def jarPath (lib : Lib) (reqPath : Str) (pathAttr : Option Str) : Str :=
  match (truthy pathAttr).map lib.iri with
  | some p => if p.isEmpty then defaultPath reqPath else p
  | none => defaultPath reqPath

theorem truthy_none : truthy none = none := rfl

theorem truthy_some (x : Str) : truthy (some x) = if x.isEmpty then none else some x := rfl

theorem jarPath_none (lib : Lib) (reqPath : Str) : jarPath lib reqPath none = defaultPath reqPath := rfl

theorem jarPath_some (lib : Lib) (reqPath : Str) {x : Str} (hx : x.isEmpty = false)
    (hi : (lib.iri x).isEmpty = false) : jarPath lib reqPath (some x) = lib.iri x := by
  simp [jarPath, truthy_some, hx, hi]

/-- The dict `_from_response_header` builds from the attribute string of a dumped header answers like
`attrParams`. Without attributes the string is empty and `"".split(";")` is `[""]`, so the dict holds
the one key `""`: hence `hk`. -/
theorem params_lookup (a : Attrs) (ss : Option Str)
    (hp : ∀ p ∈ attrParts a ss, ∀ c ∈ p, c ≠ ';') (k : String) (hk : k.toList ≠ []) :
    paramGet (parseParams (if (attrParts a ss).isEmpty then []
        else ' ' :: List.intercalate "; ".toList (attrParts a ss))) k = paramGet (attrParams a ss) k := by
  by_cases he : (attrParts a ss).isEmpty = true
  · have hnil : attrParts a ss = [] := by simpa using he
    have hp0 : attrParams a ss = [] := by rw [← attrParts_params, hnil]; rfl
    rw [if_pos he, hp0]
    have : parseParams [] = [([], none)] := by decide
    rw [this]
    simp only [paramGet, List.reverse_cons, List.reverse_nil, List.nil_append, List.find?_cons,
      List.find?_nil]
    have : (([] : Str) == k.toList) = false := by
      cases hkl : k.toList with
      | nil => exact absurd hkl hk
      | cons c t => rfl
    simp [this]
  · rw [if_neg he]
    unfold parseParams
    rw [splitOn_attrs _ (by intro h; simp [h] at he) hp, List.map_map]
    have : (parseItem ∘ fun x => ' ' :: x) = fun p => parseItem (' ' :: p) := rfl
    rw [this, attrParts_params]

/-- cutting a dumped header at its first `;` (what `_from_response_header` and any user agent do
first) leaves the emitted pair and the attribute text -/
theorem dumpCookie_cut {k v h : Str} {a : Attrs} (hk : ValidKey k) (hka : asciiText k = true)
    (hd : dumpCookie k v a = .ok h) :
    ∃ hv ss, dumpValue v = .ok hv ∧ canonSameSite a.samesite = .ok ss ∧
      partitionAt ';' h = (k ++ '=' :: hv, !(attrParts a ss).isEmpty,
        if (attrParts a ss).isEmpty then [] else ' ' :: List.intercalate "; ".toList (attrParts a ss)) := by
  obtain ⟨hv, ss, hdv, hss, rfl⟩ := dumpCookie_ok k v h a hd
  rw [Utf8Facts.latin1Dec_utf8Enc_ascii (asciiText_lt hka)]
  exact ⟨hv, ss, hdv, hss, partition_header _ _ (pair_no_semi hk.no_semi hdv)⟩

/-- the attribute half of `_from_response_header`: the cookie built from the raw pair, the decoded
pair and the parameter dict -/
def cookieOfParams (lib : Lib) (serverName reqPath key value dk dv : Str)
    (ps : List (Str × Option Str)) : Except String JarCookie :=
  let pathParam := (paramTruthy ps "path").map lib.iri
  let expires := match paramGet ps "expires" with
    | some (some v) => lib.parseDate v
    | _ => none
  let maxAge : Except String (Option Int) := match paramGet ps "max-age" with
    | none => .ok none
    | some none => .ok (some 0)
    | some (some v) => if v.isEmpty then .ok (some 0) else
        match pyInt v with
        | some i => .ok (some i)
        | none => .error "ValueError"
  match maxAge with
  | .error e => .error e
  | .ok ma =>
    .ok { key := key, value := value, decodedKey := dk, decodedValue := dv,
          expires := expires, maxAge := ma,
          domain := (paramTruthy ps "domain").getD serverName,
          originOnly := (paramGet ps "domain").isNone,
          path := match pathParam with
            | some p => if p.isEmpty then defaultPath reqPath else p
            | none => defaultPath reqPath,
          secure := (paramGet ps "secure").isSome,
          httpOnly := (paramGet ps "httponly").isSome,
          sameSite := (paramGet ps "samesite").bind id }

/-- the pair half of `_from_response_header`: on a header whose cut at the first `;` is an emitted
pair, key and value are that raw pair, the decoded pair is what was dumped, and everything else is
read from the attribute text -/
theorem fromResponseHeader_of_pair (lib : Lib) (s p : Str) {h k v hv r : Str} {b : Bool}
    (hk : ValidKey k) (hka : asciiText k = true) (hdv : dumpValue v = .ok hv)
    (hp : partitionAt ';' h = (k ++ '=' :: hv, b, r)) :
    fromResponseHeader lib s p h = cookieOfParams lib s p k hv k v (parseParams r) := by
  unfold fromResponseHeader
  rw [hp]
  simp only
  rw [partitionAt_found '=' k hv hk.no_eq, pair_roundtrip_env k v hv hk hka hdv]
  simp only [strip_key k hk.chars, dumpValue_strip v hv hdv]
  rfl

theorem cookieOfParams_pair {lib : Lib} {s p key value dk dv : Str} {ps : List (Str × Option Str)}
    {c : JarCookie} (h : cookieOfParams lib s p key value dk dv ps = .ok c) :
    c.key = key ∧ c.value = value ∧ c.decodedKey = dk ∧ c.decodedValue = dv := by
  unfold cookieOfParams at h
  simp only at h
  split at h
  · cases h
  · cases h; exact ⟨rfl, rfl, rfl, rfl⟩

theorem fromHeader_dump (lib : Lib) (server reqPath k v h : Str) (a : Attrs)
    (hk : ValidKey k) (hka : asciiText k = true) (hc : CleanAttrs a)
    (hd : dumpCookie k v a = .ok h) :
    ∃ hv ss, dumpValue v = .ok hv ∧ canonSameSite a.samesite = .ok ss ∧
      fromResponseHeader lib server reqPath h = .ok {
        key := k, value := hv, decodedKey := k, decodedValue := v,
        expires := a.expires.bind lib.parseDate, maxAge := a.maxAge,
        domain := (truthy a.domain).getD server, originOnly := a.domain.isNone,
        path := jarPath lib reqPath a.path,
        secure := a.secure || a.partitioned, httpOnly := a.httponly, sameSite := ss } := by
  obtain ⟨hv, ss, hdv, hss, hcut⟩ := dumpCookie_cut hk hka hd
  refine ⟨hv, ss, hdv, hss, ?_⟩
  have hclean := canonSameSite_clean hss
  have hparts := attrParts_no_semi a ss (fun x hx => (hclean x hx).1) (fun x hx => (hc.dom x hx).1)
    (fun x hx => (hc.exp x hx).1) (fun x hx => (hc.path x hx).1)
  have L := fun (key : String) {c : Char} {t : Str} (hkey : key.toList = c :: t) =>
    params_lookup a ss hparts key (hkey ▸ List.cons_ne_nil c t)
  rw [fromResponseHeader_of_pair lib server reqPath hk hka hdv hcut, cookieOfParams]
  simp only [paramTruthy, L "path" String.toList_ofList, L "expires" String.toList_ofList, L "max-age" String.toList_ofList,
    L "domain" String.toList_ofList, L "secure" String.toList_ofList, L "httponly" String.toList_ofList, L "samesite" String.toList_ofList,
    get_domain, get_expires, get_maxage, get_secure, get_httponly, get_path, get_samesite]
  have hne : ∀ i : Int, (intText i).isEmpty = false := fun i => by simp [intText_ne_nil]
  cases hm : a.maxAge <;>
    simp only [Option.map_none, Option.map_some, intText_strip, pyInt_intText, hne, Bool.false_eq_true, if_false,
      Except.ok.injEq, JarCookie.mk.injEq, true_and]
  all_goals
    refine ⟨?_, ?_, ?_, ?_, ?_, ?_, ?_⟩
    · cases he : a.expires with
      | none => rfl
      | some x => simp [(hc.exp x he).2]
    · cases hdm : a.domain with
      | none => rfl
      | some x => by_cases hx : x.isEmpty = true <;> simp [truthy_some, (hc.dom x hdm).2, hx]
    · cases a.domain <;> rfl
    · rw [jarPath]
      cases hpm : a.path with
      | none => rfl
      | some x => by_cases hx : x.isEmpty = true <;> simp [truthy_some, (hc.path x hpm).2, hx]
    · cases (a.secure || a.partitioned) <;> rfl
    · cases a.httponly <;> rfl
    · cases ss with
      | none => rfl
      | some x => simp [(hclean x rfl).2]

end Wz.Cookie
