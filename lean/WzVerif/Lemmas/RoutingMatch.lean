/-
Routing lemmas: `StateMachineMatcher.match` (`matchSM`) and `MapAdapter.match` (`matchAdapter`) as relations between what
the searches return and what the function returns (`SMGraph`, `AdGraph`: an inversion is `cases`); `admits` in terms of
`walkVia`, and conversion of the groups when `to_python` takes what the regex takes (`ConvOK`); then what `NotFound` and
`MethodNotAllowed` say about the rules of a map from `mkMap`, and the one rule that admits an input is the one returned.
-/
import WzVerif.Lemmas.RoutingSearch
import WzVerif.Lemmas.RoutingParse
namespace Wz.Routing
open State

/-- the hypothesis under which NotFound / 405 are exact: each converter's `to_python` accepts every
text its regex accepts (F03 is the complement) -/
def ConvOK (rules : List Rule) : Prop :=
  ∀ r ∈ rules, ∀ nc ∈ r.convs, ∀ s, regexAccepts nc.2 s = true → (toPython nc.2 s).isSome = true

theorem convertValues_isSome : ∀ {convs : List (Str × Conv)} {vs : List Str},
    AllAccept (convs.map (·.2.kind)) vs →
    (∀ nc ∈ convs, ∀ s, regexAccepts nc.2 s = true → (toPython nc.2 s).isSome = true) →
    (convertValues convs vs).isSome = true := by
  intro convs
  induction convs with
  | nil => intro vs _ _; cases vs <;> rfl
  | cons nc t ih =>
    intro vs hacc hok
    obtain ⟨n, c⟩ := nc
    cases vs with
    | nil => exact hacc.elim
    | cons v vs =>
      obtain ⟨hv, hrest⟩ := hacc
      simp only [convertValues]
      have := hok (n, c) (by simp) v hv
      obtain ⟨x, hx⟩ := Option.isSome_iff_exists.1 this
      simp only [hx]
      have := ih hrest (fun nc hnc => hok nc (List.mem_cons_of_mem _ hnc))
      obtain ⟨y, hy⟩ := Option.isSome_iff_exists.1 this
      simp [hy]

/-- converters without `fixed_digits` / `min` / `max` convert everything (a fortiori what their
regex accepts): string, any, uuid, path, float, plain int -/
theorem Conv.total_ok {c : Conv} (h : c.total = true) (s : Str) : (toPython c s).isSome = true := by
  cases c with
  | string mn mx ln => rfl
  | any items => rfl
  | uuid => rfl
  | path => rfl
  | int fixed sg mn mx =>
    simp only [Conv.total, Bool.and_eq_true, beq_iff_eq, Option.isNone_iff_eq_none] at h
    obtain ⟨⟨hf, hmn⟩, hmx⟩ := h
    subst hf hmn hmx
    simp [toPython]
  | float sg mn mx =>
    simp only [Conv.total, Bool.and_eq_true, Option.isNone_iff_eq_none] at h
    obtain ⟨hmn, hmx⟩ := h
    subst hmn hmx
    simp [toPython]

theorem convOK_of_total {rules : List Rule} (h : ∀ r ∈ rules, r.convTotal = true) : ConvOK rules := by
  intro r hr nc hnc s _
  have := h r hr
  simp only [Rule.convTotal, List.all_eq_true] at this
  exact Conv.total_ok (this nc hnc) s

theorem Built.convert_isSome {cfg : MapCfg} {m : RMap} (hb : Built cfg m) (hconv : ConvOK m.rules) {r : Rule}
    (hr : r ∈ m.rules) {via : Via} {input vs : List Str} (hw : walkVia via r.parts input = some vs) :
    (convertValues r.convs vs).isSome = true := by
  have hacc := walkVia_accepts hw
  rw [hb.kinds r hr] at hacc
  exact convertValues_isSome hacc (hconv r hr)

theorem admits_of_walkVia {r : Rule} {q : Req} {dom path : Str} {vs : List Str} {via : Via} (hok : ruleOK q r = true)
    (hw : walkVia via r.parts (segments dom path) = some vs) (ha : viaAllowed r via = true) :
    admits r q dom path = (convertValues r.convs vs).map (dictUpdate · r.defaults) := by
  simp only [admits, hok, if_true, admitsGroups_of_walkVia hw ha]

theorem admits_none_of_walks {r : Rule} {q : Req} {dom path : Str}
    (h : ruleOK q r = true → ∀ via, Tried r via → walkVia via r.parts (segments dom path) = none) :
    admits r q dom path = none ∧ (ruleOK q r = true → wantsSlash r dom path = false) := by
  constructor
  · simp only [admits]
    split
    · rename_i hok
      simp only [admitsGroups, h hok .direct (by intro h; cases h), h hok .noslash (by intro h; cases h)]
      cases hs : r.strict with
      | true => simp
      | false => simp [h hok .trailing (fun _ => hs)]
    · rfl
  · intro hok
    simp [wantsSlash, h hok .noslash (by intro h; cases h)]

theorem walks_none_of_admits_none {cfg : MapCfg} {m : RMap} (hb : Built cfg m) (hconv : ConvOK m.rules) {r : Rule}
    (hr : r ∈ m.rules) {q : Req} {dom path : Str} (hok : ruleOK q r = true)
    (hadm : admits r q dom path = none) (hws : wantsSlash r dom path = false) (via : Via)
    (hvia : Tried r via) : walkVia via r.parts (segments dom path) = none := by
  cases hw : walkVia via r.parts (segments dom path) with
  | none => rfl
  | some vs =>
    exfalso
    have hs := hb.convert_isSome hconv hr hw
    have ha : viaAllowed r via = true := by
      cases via with
      | direct => rfl
      | trailing => simp [viaAllowed, hvia rfl]
      | noslash => simpa [wantsSlash, viaAllowed, hw] using hws
    rw [admits_of_walkVia hok hw ha] at hadm
    cases hcv : convertValues r.convs vs <;> simp [hcv] at hadm hs

def Res.isSlash : Res → Bool
  | .slash => true
  | _ => false

theorem Res.isSlash_iff {res : Res} : res.isSlash = true ↔ res = .slash := by
  cases res <;> simp [Res.isSlash]

theorem wantsSlash_iff {r : Rule} {dom path : Str} :
    wantsSlash r dom path = true ↔ r.strict = true ∧ ∃ vs, walkVia .noslash r.parts (segments dom path) = some vs := by
  simp [wantsSlash, Option.isSome_iff_exists]

/-- `StateMachineMatcher.match`, one constructor per way through it: `o1` is the search on the path, `o2` the search on
the merged path (run when `o1` is `None` and slashes are merged); a rule found by `o1` goes through the tail of the
function (a `ValidationError` becomes `NoMatch`, else the converted values with the rule's defaults go to the alias
canonicalisation or are returned) -/
inductive SMGraph (mg rd : Bool) (path : Str) (o1 o2 : Out) : SMResult → Prop
  | slash : o1.res = .slash → SMGraph mg rd path o1 o2 (.requestPath (path ++ ['/']))
  | invalid {r vs} : o1.res = .found r vs → convertValues r.convs vs = none → SMGraph mg rd path o1 o2 (.noMatch o1.ms o1.wsm)
  | alias {r vs res} : o1.res = .found r vs → convertValues r.convs vs = some res → (r.alias && rd) = true →
      SMGraph mg rd path o1 o2 (.aliasRedirect r (dictUpdate res r.defaults))
  | ok {r vs res} : o1.res = .found r vs → convertValues r.convs vs = some res → (r.alias && rd) = false →
      SMGraph mg rd path o1 o2 (.ok r (dictUpdate res r.defaults))
  | none : o1.res = .none → mg = false → SMGraph mg rd path o1 o2 (.noMatch o1.ms o1.wsm)
  | mergedSlash : o1.res = .none → mg = true → o2.res = .slash →
      SMGraph mg rd path o1 o2 (.requestPath (mergeSlashes path ++ ['/']))
  | mergedNone : o1.res = .none → mg = true → o2.res = .none →
      SMGraph mg rd path o1 o2 (.noMatch (o1.ms ++ o2.ms) (o1.wsm || o2.wsm))
  | merged {r vs} : o1.res = .none → mg = true → o2.res = .found r vs → r.merge = true →
      SMGraph mg rd path o1 o2 (.requestPath (mergeSlashes path))
  | mergedOff {r vs} : o1.res = .none → mg = true → o2.res = .found r vs → r.merge = false →
      SMGraph mg rd path o1 o2 (.noMatch (o1.ms ++ o2.ms) (o1.wsm || o2.wsm))

theorem matchSM_graph (root : State) (mg rd : Bool) (q : Req) (dom path : Str) :
    SMGraph mg rd path (dfs q root (segments dom path) []) (dfs q root (segments dom (mergeSlashes path)) [])
      (matchSM root mg rd q dom path) := by
  simp only [matchSM, segments]
  cases h1 : (dfs q root (dom :: splitOn '/' path) []).res with
  | slash => exact .slash h1
  | found r vs =>
    simp only [finishMatch]
    cases hc : convertValues r.convs vs with
    | none => exact .invalid h1 hc
    | some res =>
      cases ha : (r.alias && rd) with
      | true => simpa [ha] using SMGraph.alias h1 hc ha
      | false => simpa [ha] using SMGraph.ok h1 hc ha
  | none =>
    cases mg with
    | false => exact .none h1 rfl
    | true =>
      simp only [if_true]
      cases h2 : (dfs q root (dom :: splitOn '/' (mergeSlashes path)) []).res with
      | slash => exact .mergedSlash h1 rfl h2
      | none => exact .mergedNone h1 rfl h2
      | found r vs =>
        cases hm : r.merge with
        | true => simpa [hm] using SMGraph.merged h1 rfl h2 hm
        | false => simpa [hm] using SMGraph.mergedOff h1 rfl h2 hm

theorem matchSM_ok_inv {root : State} {mg rd : Bool} {q : Req} {dom path : Str} {r : Rule} {vals}
    (h : matchSM root mg rd q dom path = .ok r vals) :
    ∃ vs, (dfs q root (segments dom path) []).res = .found r vs ∧
      ∃ res, convertValues r.convs vs = some res ∧ vals = dictUpdate res r.defaults := by
  have g := matchSM_graph root mg rd q dom path
  rw [h] at g
  cases g with
  | ok h1 hc _ => exact ⟨_, h1, _, hc, rfl⟩

theorem matchSM_of_found {root : State} {mg rd : Bool} {q : Req} {dom path : Str} {r : Rule} {vs : List Str}
    (h : (dfs q root (segments dom path) []).res = .found r vs) :
    matchSM root mg rd q dom path =
      finishMatch rd r vs (dfs q root (segments dom path) []).ms (dfs q root (segments dom path) []).wsm := by
  simp only [segments] at h
  simp only [matchSM, h, segments]

theorem matchSM_of_found_convert {root : State} {mg rd : Bool} {q : Req} {dom path : Str} {r : Rule} {vs : List Str}
    {conv : List (Str × Value)}
    (h : (dfs q root (segments dom path) []).res = .found r vs) (hc : convertValues r.convs vs = some conv) :
    matchSM root mg rd q dom path =
      if r.alias && rd then .aliasRedirect r (dictUpdate conv r.defaults) else .ok r (dictUpdate conv r.defaults) := by
  simp only [matchSM_of_found h, finishMatch, hc]

theorem matchSM_of_none {root : State} {rd : Bool} {q : Req} {dom path : Str}
    (h : (dfs q root (segments dom path) []).res = .none) :
    matchSM root false rd q dom path =
      .noMatch (dfs q root (segments dom path) []).ms (dfs q root (segments dom path) []).wsm := by
  simp only [segments] at h
  simp only [matchSM, h, segments]; rfl

theorem matchSM_of_none_none {root : State} {rd : Bool} {q : Req} {dom path : Str}
    (h1 : (dfs q root (segments dom path) []).res = .none)
    (h2 : (dfs q root (segments dom (mergeSlashes path)) []).res = .none) :
    matchSM root true rd q dom path =
      .noMatch ((dfs q root (segments dom path) []).ms ++ (dfs q root (segments dom (mergeSlashes path)) []).ms)
        ((dfs q root (segments dom path) []).wsm || (dfs q root (segments dom (mergeSlashes path)) []).wsm) := by
  simp only [segments] at h1 h2
  simp only [matchSM, h1, h2, segments, if_true]

theorem matchSM_requestPath_inv {root : State} {mg rd : Bool} {q : Req} {dom path p' : Str}
    (h : matchSM root mg rd q dom path = .requestPath p') :
    ((dfs q root (segments dom path) []).res = .slash ∧ p' = path ++ ['/']) ∨
    ((dfs q root (segments dom path) []).res = .none ∧ mg = true ∧
      (((dfs q root (segments dom (mergeSlashes path)) []).res = .slash ∧ p' = mergeSlashes path ++ ['/']) ∨
       (∃ r vs, (dfs q root (segments dom (mergeSlashes path)) []).res = .found r vs ∧ r.merge = true ∧ p' = mergeSlashes path))) := by
  have g := matchSM_graph root mg rd q dom path
  rw [h] at g
  cases g with
  | slash h1 => exact .inl ⟨h1, rfl⟩
  | mergedSlash h1 hmg h2 => exact .inr ⟨h1, hmg, .inl ⟨h2, rfl⟩⟩
  | merged h1 hmg h2 hm => exact .inr ⟨h1, hmg, .inr ⟨_, _, h2, hm, rfl⟩⟩

/-- `MapAdapter.match` after the matcher returned `sm`, one constructor per way through it: a redirect for `RequestPath`;
for an alias the external `build` (its exception, the assertion, or a redirect); the three `NoMatch` exceptions; for a match
the defaults redirect or the match itself. `qa` are the query arguments in force, `meth` the request method, `dp` / `pp`
domain and path part. -/
inductive AdGraph (m : RMap) (a : Adapter) (qa : QueryArgs) (meth dp pp : Str) (sm : SMResult) : Outcome → Prop
  | requestPath {p'} : sm = .requestPath p' →
      AdGraph m a qa meth dp pp sm (.redirect (makeRedirectUrl m.cfg.hostMatching a (quote pathSafe p') qa none))
  | aliasError {r vals e} : sm = .aliasRedirect r vals →
      adapterBuild m.cfg a m.rules r.endpoint vals (some meth) true false = .error e → AdGraph m a qa meth dp pp sm (.error e)
  | aliasAssert {r vals u} : sm = .aliasRedirect r vals →
      adapterBuild m.cfg a m.rules r.endpoint vals (some meth) true false = .ok u →
      ((if qa.truthy then u ++ '?' :: encodeQueryArgs qa else u) == dp ++ '|' :: pp) = true →
      AdGraph m a qa meth dp pp sm (.error "AssertionError")
  | alias {r vals u} : sm = .aliasRedirect r vals →
      adapterBuild m.cfg a m.rules r.endpoint vals (some meth) true false = .ok u →
      AdGraph m a qa meth dp pp sm (.redirect (if qa.truthy then u ++ '?' :: encodeQueryArgs qa else u))
  | methodNotAllowed {ms wsm} : sm = .noMatch ms wsm → ms ≠ [] → AdGraph m a qa meth dp pp sm (.methodNotAllowed ms.eraseDups)
  | wsMismatch : sm = .noMatch [] true → AdGraph m a qa meth dp pp sm .wsMismatch
  | notFound : sm = .noMatch [] false → AdGraph m a qa meth dp pp sm .notFound
  | defaultsError {r vals e} : sm = .ok r vals → m.cfg.redirectDefaults = true →
      getDefaultRedirect m a r meth vals qa (rulesByEndpoint m.rules r.endpoint) = .error e →
      AdGraph m a qa meth dp pp sm (.error e)
  | defaults {r vals url} : sm = .ok r vals → m.cfg.redirectDefaults = true →
      getDefaultRedirect m a r meth vals qa (rulesByEndpoint m.rules r.endpoint) = .ok (some url) →
      AdGraph m a qa meth dp pp sm (.redirect url)
  | matched {r vals} : sm = .ok r vals → AdGraph m a qa meth dp pp sm (.matched r vals)

theorem matchAdapter_graph (m : RMap) (a : Adapter) (p : Str) (meth : Option Str) (qa : QueryArgs) (ws : Option Bool) :
    AdGraph m a (effQa a qa) (reqOf a meth ws).method (domainPartOf m.cfg a) (pathPart p)
      (matchSM m.root m.cfg.mergeSlashes m.cfg.redirectDefaults (reqOf a meth ws) (domainPartOf m.cfg a) (pathPart p))
      (matchAdapter m a p meth qa ws) := by
  simp only [matchAdapter]
  cases hsm : matchSM m.root m.cfg.mergeSlashes m.cfg.redirectDefaults (reqOf a meth ws) (domainPartOf m.cfg a) (pathPart p) with
  | requestPath p' => exact .requestPath rfl
  | aliasRedirect r vals =>
    dsimp only
    cases hb : adapterBuild m.cfg a m.rules r.endpoint vals (some (reqOf a meth ws).method) true false with
    | error e => exact .aliasError rfl hb
    | ok u =>
      by_cases hq : ((if (effQa a qa).truthy then u ++ '?' :: encodeQueryArgs (effQa a qa) else u) ==
          domainPartOf m.cfg a ++ '|' :: pathPart p) = true
      · simp only [aliasOutcome, hq, if_true]; exact .aliasAssert rfl hb hq
      · simp only [aliasOutcome, hq]; exact .alias rfl hb
  | noMatch ms wsm =>
    cases ms with
    | cons x t => exact .methodNotAllowed rfl (by simp)
    | nil => cases wsm <;> constructor <;> rfl
  | ok r vals =>
    dsimp only
    cases hrd : m.cfg.redirectDefaults with
    | false => exact .matched rfl
    | true =>
      simp only [if_true]
      cases hd : getDefaultRedirect m a r (reqOf a meth ws).method vals (effQa a qa) (rulesByEndpoint m.rules r.endpoint) with
      | error e => exact .defaultsError rfl hrd hd
      | ok ou =>
        cases ou with
        | none => exact .matched rfl
        | some url => exact .defaults rfl hrd hd

theorem matchAdapter_matched_inv {m : RMap} {a : Adapter} {p : Str} {meth : Option Str} {qa : QueryArgs} {ws : Option Bool}
    {r : Rule} {vals} (h : matchAdapter m a p meth qa ws = .matched r vals) :
    matchSM m.root m.cfg.mergeSlashes m.cfg.redirectDefaults (reqOf a meth ws) (domainPartOf m.cfg a) (pathPart p)
      = .ok r vals := by
  have g := matchAdapter_graph m a p meth qa ws
  rw [h] at g
  cases g with
  | matched hsm => exact hsm

theorem matchAdapter_notFound_inv {m : RMap} {a : Adapter} {p : Str} {meth : Option Str} {qa : QueryArgs} {ws : Option Bool}
    (h : matchAdapter m a p meth qa ws = .notFound) :
    matchSM m.root m.cfg.mergeSlashes m.cfg.redirectDefaults (reqOf a meth ws) (domainPartOf m.cfg a) (pathPart p)
      = .noMatch [] false := by
  have g := matchAdapter_graph m a p meth qa ws
  rw [h] at g
  cases g with
  | notFound hsm => exact hsm

theorem matchAdapter_405_inv {m : RMap} {a : Adapter} {p : Str} {meth : Option Str} {qa : QueryArgs} {ws : Option Bool}
    {ms : List Str} (h : matchAdapter m a p meth qa ws = .methodNotAllowed ms) :
    ∃ ms0 wsm, matchSM m.root m.cfg.mergeSlashes m.cfg.redirectDefaults (reqOf a meth ws) (domainPartOf m.cfg a) (pathPart p)
      = .noMatch ms0 wsm ∧ ms0 ≠ [] ∧ ms = ms0.eraseDups := by
  have g := matchAdapter_graph m a p meth qa ws
  rw [h] at g
  cases g with
  | methodNotAllowed hsm hne => exact ⟨_, _, hsm, hne, rfl⟩

theorem matchAdapter_of_requestPath {m : RMap} {a : Adapter} {p : Str} {meth : Option Str} {qa : QueryArgs} {ws : Option Bool}
    {p' : Str} (hsm : matchSM m.root m.cfg.mergeSlashes m.cfg.redirectDefaults (reqOf a meth ws) (domainPartOf m.cfg a) (pathPart p)
      = .requestPath p') :
    matchAdapter m a p meth qa ws =
      .redirect (makeRedirectUrl m.cfg.hostMatching a (quote pathSafe p') (effQa a qa) none) := by
  simp only [matchAdapter, hsm]

theorem matchAdapter_of_noMatch {m : RMap} {a : Adapter} {p : Str} {meth : Option Str} {qa : QueryArgs} {ws : Option Bool}
    {ms0 wsm} (hsm : matchSM m.root m.cfg.mergeSlashes m.cfg.redirectDefaults (reqOf a meth ws) (domainPartOf m.cfg a) (pathPart p)
      = .noMatch ms0 wsm) (hne : ms0 ≠ []) :
    matchAdapter m a p meth qa ws = .methodNotAllowed ms0.eraseDups := by
  simp only [matchAdapter, hsm]
  cases ms0 with
  | nil => exact absurd rfl hne
  | cons x t => simp

/-- rule `r` does not admit the path: not directly or with an extra slash for any method, not in any way for the
request, and no slash redirect is due on its behalf -/
def NotAdmitted (r : Rule) (q : Req) (dom path : Str) : Prop :=
  admitsPath r dom path = false ∧ admits r q dom path = none ∧ (ruleOK q r = true → wantsSlash r dom path = false)

/-- the path has no doubled slash the matcher's second pass would merge, or merging is off -/
def NoMerge (m : RMap) (path : Str) : Prop := m.cfg.mergeSlashes = false ∨ mergeSlashes path = path

/-- rule `r` admits the path for another method: directly or through an extra final slash, and the
request method is not in its method set (what `have_match_for` collects) -/
def AdmitsOtherMethod (r : Rule) (q : Req) (dom path : Str) : Prop :=
  admitsPath r dom path = true ∧ methodOK q r = false

theorem admitsPath_iff {r : Rule} {dom path : Str} :
    admitsPath r dom path = true ↔ ∃ via, Counted r via ∧ (walkVia via r.parts (segments dom path)).isSome = true := by
  simp only [admitsPath, Bool.or_eq_true, Bool.and_eq_true, Bool.not_eq_true']
  constructor
  · rintro (h | ⟨hs, h⟩)
    · exact ⟨.direct, .inl rfl, h⟩
    · exact ⟨.trailing, .inr ⟨rfl, hs⟩, h⟩
  · rintro ⟨via, (rfl | ⟨rfl, hs⟩), h⟩
    · exact .inl h
    · exact .inr ⟨hs, h⟩

/-- what a search that finds nothing has collected in `have_match_for`, in the terms of the 405 statements -/
theorem root_ms_iff {rules : List Rule} {q : Req} {dom path : Str}
    (h : (dfs q (buildRoot rules) (segments dom path) []).res = .none) (x : Str) :
    x ∈ (dfs q (buildRoot rules) (segments dom path) []).ms ↔
      ∃ r ∈ rules, r.spec.buildOnly = false ∧ AdmitsOtherMethod r q dom path ∧ x ∈ r.methods.getD [] := by
  constructor
  · intro hx
    obtain ⟨r, hmem, hbo, hmo, hxm, via, hc, hw⟩ := root_ms hx
    exact ⟨r, hmem, hbo, ⟨admitsPath_iff.2 ⟨via, hc, hw⟩, hmo⟩, hxm⟩
  · rintro ⟨r, hr, hbo, ⟨hadm, hmo⟩, hxm⟩
    obtain ⟨via, hc, hw⟩ := admitsPath_iff.1 hadm
    exact root_ms_of_none h hr hbo hc hw hmo x hxm

theorem exists_method {r : Rule} {q : Req} (hm : r.methodsOK = true) (hmo : methodOK q r = false) :
    ∃ x, x ∈ r.methods.getD [] := by
  simp only [Rule.methodsOK, methodOK] at hm hmo
  cases hmm : r.methods with
  | none => simp [hmm] at hmo
  | some ms =>
    cases ms with
    | nil => simp [hmm] at hm
    | cons x t => exact ⟨x, by simp⟩

theorem notAdmitted_of_none {m : RMap} {cfg} (hb : Built cfg m) {q : Req} {dom path : Str}
    (hmeth : ∀ r ∈ m.rules, r.methodsOK = true)
    (hres : (dfs q m.root (segments dom path) []).res = .none)
    (hms : (dfs q m.root (segments dom path) []).ms = [])
    (hwsm : (dfs q m.root (segments dom path) []).wsm = false) :
    ∀ r ∈ m.rules, r.spec.buildOnly = false → NotAdmitted r q dom path := by
  intro r hr hbo
  rw [hb.root_eq] at hres hms hwsm
  refine ⟨Bool.eq_false_iff.2 fun hadm => ?_, admits_none_of_walks fun hok via hvia => root_none hres hr hbo hok hvia⟩
  -- a counted admission would have left a trace: the rule found, its methods recorded, or the protocol flag set
  obtain ⟨via, hc, hw⟩ := admitsPath_iff.1 hadm
  cases hmo : methodOK q r with
  | false =>
    obtain ⟨x, hx⟩ := exists_method (hmeth r hr) hmo
    have := root_ms_of_none hres hr hbo hc hw hmo x hx
    rw [hms] at this; cases this
  | true =>
    by_cases hws : r.websocket = q.websocket
    · have := root_none hres hr hbo (by simp [ruleOK, hmo, hws]) (via := via)
        hc.tried
      rw [this] at hw; cases hw
    · have := root_wsm_of_none hres hr hbo hc hw hmo hws
      rw [hwsm] at this; cases this

/-- what stands behind a `NoMatch ms wsm` outcome when conversions cannot fail: the search `o` on the path returned `None`,
its bookkeeping is part of the outcome's, and is all of it when the path is not subject to slash merging -/
structure FirstNone (m : RMap) (path : Str) (o : Out) (ms : List Str) (wsm : Bool) : Prop where
  res : o.res = .none
  ms_sub : ∀ x ∈ o.ms, x ∈ ms
  wsm_sub : o.wsm = true → wsm = true
  ms_all : NoMerge m path → ∀ x ∈ ms, x ∈ o.ms

theorem first_search_none {m : RMap} {cfg} (hb : Built cfg m) (hconv : ConvOK m.rules) {q : Req} {dom path : Str}
    {ms wsm} (h : matchSM m.root m.cfg.mergeSlashes m.cfg.redirectDefaults q dom path = .noMatch ms wsm) :
    FirstNone m path (dfs q m.root (segments dom path) []) ms wsm := by
  have g := matchSM_graph m.root m.cfg.mergeSlashes m.cfg.redirectDefaults q dom path
  rw [h] at g
  cases g with
  | invalid hf hc =>
    exfalso
    rw [hb.root_eq] at hf
    obtain ⟨hmem, _, _, via, hw, _⟩ := root_found hf
    have := hb.convert_isSome hconv hmem hw
    rw [hc] at this; cases this
  | none hn _ => exact ⟨hn, fun _ hx => hx, id, fun _ _ hx => hx⟩
  | mergedNone hn hmg _ | mergedOff hn hmg _ _ =>
    refine ⟨hn, fun _ hx => List.mem_append_left _ hx, fun hw => by simp [hw], ?_⟩
    rintro (hnm | hnm) x hx
    · rw [hnm] at hmg; cases hmg
    · rw [hnm] at hx; simpa using hx

theorem matchSM_of_first_none {m : RMap} {q : Req} {dom path : Str} (hnm : NoMerge m path)
    (hres : (dfs q m.root (segments dom path) []).res = .none) :
    ∃ ms wsm, matchSM m.root m.cfg.mergeSlashes m.cfg.redirectDefaults q dom path = .noMatch ms wsm ∧
      ∀ x, x ∈ ms ↔ x ∈ (dfs q m.root (segments dom path) []).ms := by
  cases hmg : m.cfg.mergeSlashes with
  | false => exact ⟨_, _, matchSM_of_none hres, fun x => Iff.rfl⟩
  | true =>
    rcases hnm with h | h
    · rw [hmg] at h; cases h
    · exact ⟨_, _, matchSM_of_none_none hres (by rw [h]; exact hres), fun x => by rw [h]; simp⟩

theorem search_unique {cfg : MapCfg} {specs : List RuleSpec} {m : RMap} (hm : mkMap cfg specs = some m)
    {r : Rule} (hr : r ∈ m.rules) (hbo : r.spec.buildOnly = false) {q : Req} (hok : ruleOK q r = true)
    {input ts : List Str} (hadm : walkVia .direct r.parts input = some ts)
    (hothers : ∀ r' ∈ m.rules, r' ≠ r → ∀ via, walkVia via r'.parts input = none) :
    (dfs q m.root input []).res = .found r ts := by
  rw [(mkMap_built hm).root_eq]
  cases hres : (dfs q (buildRoot m.rules) input []).res with
  | none =>
    have := root_none hres hr hbo hok (via := .direct) (by intro h; cases h)
    rw [hadm] at this; cases this
  | slash =>
    obtain ⟨r2, hm2, _, _, _, vs, hw⟩ := root_slash hres
    by_cases h2 : r2 = r
    · subst h2; cases walkVia_exclusive hw hadm
    · rw [hothers r2 hm2 h2 .noslash] at hw; cases hw
  | found r2 vs =>
    obtain ⟨hm2, _, _, via, hw, _⟩ := root_found hres
    by_cases h2 : r2 = r
    · subst h2
      cases walkVia_exclusive hw hadm
      rw [hadm] at hw
      cases hw; rfl
    · rw [hothers r2 hm2 h2 via] at hw; cases hw

end Wz.Routing
