/-
C11 in three layers. The range wrapper on byte lists: whatever the chunking of the body, both paths of `_RangeWrapper`
deliver exactly `body[start : start + len]` in non-empty chunks (`rangeWrapIter_exact`, `rangeWrapSeek_exact`; after its
first iteration the iterator path is the loop of the seekable path, `rangeWrapIter_eq`). Range specs and dates as text, so
that theorems can speak about the headers a client writes (`item_begin`, `item_suffix_eq`, `parseRangeHeader_single`,
`httpDate_not_etag_like`). And the decision of `make_conditional` as one table: the validators
(`isResourceModified_ignore`, `isResourceModified_ifRange`, the rows `validatorsMatch_im` / `_inm` / `_date`), what a `Range` header selects (`rangeForLength_eq_some_iff`,
`processRangeRequest_eq`), which status for which reason (`makeConditionalStatus_eq`), and the answer for each decided
status (`respond_partial`, `respond_304`, `respond_full`; `respond_inv` reads them backwards; `respond_range_206` for a satisfiable range). `send_file` is an instance
(`sendFile_conditional`). The status and response theorems of Props/C11 each cite the row they use.
-/
import WzVerif.Model.Conditional
import WzVerif.Lemmas.DateText
import WzVerif.Lemmas.IfRange
import WzVerif.Lemmas.Basics
import WzVerif.Util.PyPrelude
namespace Wz.Cond
open Wz

/-- every chunk the wrapper emits is non-empty (what `__next__` guarantees) -/
def AllNonEmpty (l : List Bytes) : Prop := ∀ c ∈ l, c ≠ []

theorem filter_nonEmpty_flatten (chunks : List Bytes) :
    (chunks.filter (!·.isEmpty)).flatten = chunks.flatten := by
  induction chunks with
  | nil => rfl
  | cons c cs ih =>
    simp only [List.filter_cons, List.flatten_cons]
    cases hc : c.isEmpty with
    | true =>
      have : c = [] := by simpa using hc
      simp [this, ih]
    | false => simp [ih]

/-- the iterations after the first one emit exactly the next `endB - rl` bytes of what is left -/
theorem rwRest_flatten (endB : Nat) (cs : List Bytes) (rl : Nat) (h : rl ≤ endB) :
    (rwRest endB cs rl).flatten = cs.flatten.take (endB - rl) := by
  induction cs generalizing rl with
  | nil => simp [rwRest]
  | cons c cs ih =>
    simp only [rwRest, List.flatten_cons]
    split
    · rename_i hge
      have hle : endB - rl ≤ c.length := by omega
      rw [List.take_append_of_le_length hle]
      split
      · rename_i he
        have : List.take (endB - rl) c = [] := by simpa using he
        simp [this]
      · simp
    · rename_i hlt
      have hlt' : rl + c.length < endB := by omega
      have ih' := ih (rl + c.length) (by omega)
      have e1 : endB - rl - c.length = endB - (rl + c.length) := by omega
      rw [List.take_append, List.take_of_length_le (by omega : c.length ≤ endB - rl), e1]
      split
      · rename_i he
        have : c = [] := by simpa using he
        subst this
        simpa using ih'
      · simp [List.flatten_cons, ih']

theorem rwRest_nonEmpty (endB : Nat) (cs : List Bytes) (rl : Nat) :
    AllNonEmpty (rwRest endB cs rl) := by
  induction cs generalizing rl with
  | nil => intro c hc; simp [rwRest] at hc
  | cons c cs ih =>
    intro x hx
    simp only [rwRest] at hx
    split at hx
    · split at hx
      · simp at hx
      · rename_i hne
        simp only [List.mem_singleton] at hx
        subst hx
        exact List.isEmpty_eq_false_iff.mp (by simpa using hne)
    · split at hx
      · exact ih _ x hx
      · rename_i hne
        rcases List.mem_cons.mp hx with rfl | hx
        · exact List.isEmpty_eq_false_iff.mp (by simpa using hne)
        · exact ih _ x hx

/-- the first iteration of the iterator path: the produced chunk followed by the remaining chunks is
the input from byte `start - rl` on, and `read_length` ends `|chunk|` past `start` -/
theorem rwFirst_some (start : Nat) (cs : List Bytes) (rl : Nat) (h : rl ≤ start)
    (c : Bytes) (cs' : List Bytes) (rl' : Nat) (hf : rwFirst start cs rl = some (c, cs', rl')) :
    c ++ cs'.flatten = cs.flatten.drop (start - rl) ∧ rl' = start + c.length ∧ c ≠ [] := by
  induction cs generalizing rl with
  | nil => simp [rwFirst] at hf
  | cons x xs ih =>
    simp only [rwFirst] at hf
    split at hf
    · rename_i hle
      obtain ⟨h1, h2, h3⟩ := ih (rl + x.length) hle hf
      refine ⟨?_, h2, h3⟩
      rw [List.flatten_cons, List.drop_append, List.drop_of_length_le (by omega : x.length ≤ start - rl)]
      have : start - rl - x.length = start - (rl + x.length) := by omega
      rw [this, List.nil_append]
      exact h1
    · rename_i hgt
      simp only [Option.some.injEq, Prod.mk.injEq] at hf
      obtain ⟨rfl, rfl, rfl⟩ := hf
      have e : x.length - (rl + x.length - start) = start - rl := by omega
      rw [e]
      refine ⟨?_, ?_, ?_⟩
      · rw [List.flatten_cons, List.drop_append_of_le_length (by omega : start - rl ≤ x.length)]
      · rw [List.length_drop]; omega
      · intro hc
        have := congrArg List.length hc
        rw [List.length_drop] at this
        simp at this
        omega

theorem rwFirst_none (start : Nat) (cs : List Bytes) (rl : Nat) (h : rl ≤ start)
    (hf : rwFirst start cs rl = none) : rl + cs.flatten.length ≤ start := by
  induction cs generalizing rl with
  | nil => simpa using h
  | cons x xs ih =>
    simp only [rwFirst] at hf
    split at hf
    · rename_i hle
      have := ih (rl + x.length) hle hf
      simp only [List.flatten_cons, List.length_append]
      omega
    · cases hf

theorem blocks_flatten (b : Nat) (hb : 0 < b) (fuel : Nat) (d : Bytes) (h : d.length < fuel) :
    (blocks b fuel d).flatten = d := by
  induction fuel generalizing d with
  | zero => omega
  | succ n ih =>
    simp only [blocks]
    split
    · rename_i he
      have hb' : (b == 0) = false := by simp; omega
      simp only [hb', Bool.or_false] at he
      have : d = [] := by simpa using he
      simp [this]
    · rename_i he
      have hne : d ≠ [] := by
        intro hd; subst hd; simp at he
      have hlen : 0 < d.length := List.length_pos_iff.mpr hne
      rw [List.flatten_cons, ih (d.drop b) (by rw [List.length_drop]; omega)]
      exact List.take_append_drop b d

/-- `FileWrapper` under a short-read schedule (`read(n)` returning 1..n bytes although more follows): the items are
non-empty and concatenate to the remaining bytes -/
theorem fileWrapperItems_exact (b : Nat) (hb : 0 < b) (fuel : Nat) (sched : List Nat) (d : Bytes)
    (h : d.length < fuel) :
    (fileWrapperItems b fuel sched d).flatten = d ∧ AllNonEmpty (fileWrapperItems b fuel sched d) := by
  induction fuel generalizing sched d with
  | zero => omega
  | succ n ih =>
    simp only [fileWrapperItems]
    have hb' : (b == 0) = false := by simp; omega
    cases hd : d.isEmpty with
    | true =>
      have : d = [] := by simpa using hd
      subst this
      exact ⟨by simp, by intro c hc; simp at hc⟩
    | false =>
      simp only [hb', Bool.or_self, Bool.false_eq_true, ↓reduceIte]
      have hne : d ≠ [] := by intro e; subst e; simp at hd
      have hlen : 0 < d.length := List.length_pos_iff.mpr hne
      have hk : 0 < max 1 (min b (sched.headD b)) := by omega
      generalize max 1 (min b (sched.headD b)) = k at hk ⊢
      obtain ⟨h1, h2⟩ := ih sched.tail (d.drop k) (by rw [List.length_drop]; omega)
      refine ⟨by rw [List.flatten_cons, h1]; exact List.take_append_drop _ d, ?_⟩
      intro c hc
      rcases List.mem_cons.mp hc with rfl | hc
      · intro e
        have := congrArg List.length e
        rw [List.length_take, List.length_nil] at this
        omega
      · exact h2 c hc

/-- once `_first_iteration` has found the chunk `c` that reaches past `start`, the iterator path is the ordinary
loop on `c` and the remaining chunks, `read_length` standing at `start` — the loop the seekable path runs -/
theorem rangeWrapIter_eq (chunks : List Bytes) (start len : Nat) (c : Bytes) (cs : List Bytes) (rl : Nat)
    (hf : rwFirst start chunks 0 = some (c, cs, rl)) :
    rangeWrapIter chunks start len = rwRest (start + len) (c :: cs) start := by
  obtain ⟨_, rfl, _⟩ := rwFirst_some start chunks 0 (Nat.zero_le _) c cs rl hf
  simp only [rangeWrapIter, hf, rwRest, Nat.add_sub_cancel_left]
  split
  · rfl
  · split <;> rfl

theorem rangeWrapIter_exact (chunks : List Bytes) (start len : Nat) :
    (rangeWrapIter chunks start len).flatten = (chunks.flatten.drop start).take len ∧
    AllNonEmpty (rangeWrapIter chunks start len) := by
  cases hf : rwFirst start chunks 0 with
  | none =>
    have := rwFirst_none start chunks 0 (Nat.zero_le _) hf
    simp only [rangeWrapIter, hf]
    refine ⟨?_, by intro c hc; simp at hc⟩
    rw [List.drop_of_length_le (by omega)]; simp
  | some p =>
    obtain ⟨c, cs, rl⟩ := p
    obtain ⟨h1, _, _⟩ := rwFirst_some start chunks 0 (Nat.zero_le _) c cs rl hf
    rw [rangeWrapIter_eq chunks start len c cs rl hf]
    refine ⟨?_, rwRest_nonEmpty _ _ _⟩
    rw [rwRest_flatten _ _ _ (by omega), List.flatten_cons, h1]
    simp

theorem rangeWrapSeek_exact (data : Bytes) (b : Nat) (hb : 0 < b) (start len : Nat) :
    (rangeWrapSeek data b start len).flatten = (data.drop start).take len ∧
    AllNonEmpty (rangeWrapSeek data b start len) := by
  unfold rangeWrapSeek
  refine ⟨?_, rwRest_nonEmpty _ _ _⟩
  rw [rwRest_flatten _ _ _ (by omega),
    blocks_flatten b hb _ _ (by rw [List.length_drop]; omega)]
  congr 1
  omega

/-- the chunks `_RangeWrapper` delivers for the range `[start, start + len)`, on either path -/
def rangeBody (chunks : List Bytes) (seekable : Option Nat) (start len : Nat) : List Bytes :=
  match seekable with
  | some bs => rangeWrapSeek chunks.flatten bs start len
  | none => rangeWrapIter chunks start len

theorem rangeBody_flatten (chunks : List Bytes) (seek : Option Nat) (hseek : ∀ bs, seek = some bs → 0 < bs)
    (start len : Nat) : (rangeBody chunks seek start len).flatten = (chunks.flatten.drop start).take len := by
  cases seek with
  | none => exact (rangeWrapIter_exact chunks start len).1
  | some bs => exact (rangeWrapSeek_exact chunks.flatten bs (hseek bs rfl) start len).1

def quoteTag (tag : Str) : Str := '"' :: tag ++ ['"']

def IsDigits (ds : Str) : Prop := ds ≠ [] ∧ ∀ c ∈ ds, isDigitA c = true

theorem plainInt_digits (ds : Str) (h : IsDigits ds) : plainInt ds = some (digitsVal ds : Int) := by
  unfold plainInt
  rw [strip_noSpace (s := ds) (fun c hc => isDigit_not_space (h.2 c hc))]
  cases ds with
  | nil => exact absurd rfl h.1
  | cons c t =>
    have hc : c ≠ '-' := ne_of_class (p := isDigitA) (h.2 c (by simp)) (by decide)
    have hall : (c :: t).all isDigitA = true := List.all_eq_true.mpr h.2
    simp [hc, hall]

theorem plainInt_neg_digits (ds : Str) (h : IsDigits ds) :
    plainInt ('-' :: ds) = some (-(digitsVal ds : Int)) := by
  unfold plainInt
  have hsp : ∀ c ∈ '-' :: ds, Py.isSpace c = false := by
    intro c hc
    rcases List.mem_cons.mp hc with rfl | hc
    · decide
    · exact isDigit_not_space (h.2 c hc)
  rw [strip_noSpace hsp]
  have hall : ds.all isDigitA = true := List.all_eq_true.mpr h.2
  have hne : ds.isEmpty = false := by
    cases ds with
    | nil => exact absurd rfl h.1
    | cons _ _ => rfl
  simp [hall, hne]

theorem splitOnChar_none (d : Char) (s acc : Str) (h : ∀ c ∈ s, c ≠ d) :
    splitOnChar d s acc = [acc.reverse ++ s] := by
  induction s generalizing acc with
  | nil => simp [splitOnChar]
  | cons c t ih =>
    have hc : (c == d) = false := by simpa using h c (by simp)
    simp only [splitOnChar, hc, Bool.false_eq_true, ↓reduceIte]
    rw [ih (c :: acc) (fun x hx => h x (by simp [hx]))]
    simp

/-- `parse_range_header` on an item `<digits>-<digits or nothing>`: the begin is parsed; what is left are the
order tests and the end -/
theorem item_begin (d1 d2 : Str) (h1 : IsDigits d1) (h2 : ∀ c ∈ d2, isDigitA c = true) (lastEnd : Int)
    (rest : List Str) (acc : List (Int × Option Int)) :
    parseRangeItems ((d1 ++ '-' :: d2) :: rest) lastEnd acc =
      if ((digitsVal d1 : Int) < lastEnd || lastEnd < 0) = true then none
      else if (!d2.isEmpty) = true then
        match plainInt d2 with
        | none => none
        | some e =>
          if (digitsVal d1 : Int) ≥ e + 1 then none
          else parseRangeItems rest (e + 1) (((digitsVal d1 : Int), some (e + 1)) :: acc)
      else parseRangeItems rest (-1) (((digitsVal d1 : Int), none) :: acc) := by
  have hsp : ∀ c ∈ d1 ++ '-' :: d2, Py.isSpace c = false := by
    intro c hc
    rcases List.mem_append.mp hc with hc | hc
    · exact isDigit_not_space (h1.2 c hc)
    · rcases List.mem_cons.mp hc with rfl | hc
      · decide
      · exact isDigit_not_space (h2 c hc)
  have htd := takeWhile_ne_append (c := '-') d2 (fun hm => ne_of_class (p := isDigitA) (h1.2 _ hm) (by decide) rfl)
  have hhead : ((d1 ++ '-' :: d2).head? == some '-') = false := by
    cases d1 with
    | nil => exact absurd rfl h1.1
    | cons c t =>
      have hc : c ≠ '-' := ne_of_class (p := isDigitA) (h1.2 c (by simp)) (by decide)
      simpa using hc
  have hcont : (d1 ++ '-' :: d2).contains '-' = true := by simp
  have hs1 := strip_noSpace (s := d1) (fun c hc => isDigit_not_space (h1.2 c hc))
  have hs2 := strip_noSpace (s := d2) (fun c hc => isDigit_not_space (h2 c hc))
  rw [parseRangeItems]
  simp only [strip_noSpace hsp, hcont, Bool.not_true, Bool.false_eq_true, ↓reduceIte, htd.1, htd.2,
    List.drop_succ_cons, List.drop_zero, hs1, hs2, plainInt_digits d1 h1, hhead]
  rfl

theorem item_first_last (d1 d2 : Str) (h1 : IsDigits d1) (h2 : IsDigits d2)
    (hle : digitsVal d1 ≤ digitsVal d2) (lastEnd : Int) (hl : 0 ≤ lastEnd) (hb : lastEnd ≤ digitsVal d1)
    (rest : List Str) (acc : List (Int × Option Int)) :
    parseRangeItems ((d1 ++ '-' :: d2) :: rest) lastEnd acc =
      parseRangeItems rest ((digitsVal d2 : Int) + 1) (((digitsVal d1 : Int), some ((digitsVal d2 : Int) + 1)) :: acc) := by
  have he2 : d2.isEmpty = false := by
    cases d2 with
    | nil => exact absurd rfl h2.1
    | cons _ _ => rfl
  have c2 : (decide ((digitsVal d1 : Int) < lastEnd) || decide (lastEnd < 0)) = false := by
    simp; omega
  have c3 : ¬ ((digitsVal d1 : Int) ≥ (digitsVal d2 : Int) + 1) := by omega
  rw [item_begin d1 d2 h1 h2.2]
  simp [c2, he2, plainInt_digits d2 h2, c3]

theorem item_open (d1 : Str) (h1 : IsDigits d1) (lastEnd : Int) (hl : 0 ≤ lastEnd)
    (hb : lastEnd ≤ digitsVal d1) (rest : List Str) (acc : List (Int × Option Int)) :
    parseRangeItems ((d1 ++ ['-']) :: rest) lastEnd acc =
      parseRangeItems rest (-1) (((digitsVal d1 : Int), none) :: acc) := by
  have c2 : (decide ((digitsVal d1 : Int) < lastEnd) || decide (lastEnd < 0)) = false := by
    simp; omega
  rw [item_begin d1 [] h1 (fun _ hc => nomatch hc)]
  simp [c2]

/-- the item `-<digits>`: refused after an open-ended or suffix item and for a suffix length of zero (84dd3fe:
it selects nothing), else the suffix range of that length -/
theorem item_suffix_eq (d : Str) (h : IsDigits d) (lastEnd : Int)
    (rest : List Str) (acc : List (Int × Option Int)) :
    parseRangeItems (('-' :: d) :: rest) lastEnd acc =
      if lastEnd < 0 ∨ digitsVal d = 0 then none
      else parseRangeItems rest (-1) ((-(digitsVal d : Int), none) :: acc) := by
  have hsp : ∀ c ∈ '-' :: d, Py.isSpace c = false := by
    intro c hc
    rcases List.mem_cons.mp hc with rfl | hc
    · decide
    · exact isDigit_not_space (h.2 c hc)
  rw [parseRangeItems]
  by_cases c0 : lastEnd < 0 <;> by_cases c1 : digitsVal d = 0 <;>
    simp [strip_noSpace hsp, plainInt_neg_digits d h, c0, c1]

/-- after an open-ended or suffix item every further item makes the header unparsable -/
theorem item_after_open (item : Str) (rest : List Str) (acc : List (Int × Option Int)) :
    parseRangeItems (item :: rest) (-1) acc = none := by
  rw [parseRangeItems]
  simp only
  split
  · rfl
  · split
    · simp
    · cases plainInt (Py.strip (List.takeWhile (fun x => x != '-') (Py.strip item))) with
      | none => rfl
      | some b => simp

theorem splitOnChar_cons (d : Char) (s1 s2 acc : Str) (h : ∀ c ∈ s1, c ≠ d) :
    splitOnChar d (s1 ++ d :: s2) acc = (acc.reverse ++ s1) :: splitOnChar d s2 [] := by
  induction s1 generalizing acc with
  | nil => simp [splitOnChar]
  | cons c t ih =>
    have hc : (c == d) = false := by simpa using h c (by simp)
    simp only [List.cons_append, splitOnChar, hc, Bool.false_eq_true, ↓reduceIte]
    rw [ih (c :: acc) (fun x hx => h x (by simp [hx]))]
    simp

def bytesEq : Str := ['b', 'y', 't', 'e', 's', '=']

theorem parseRangeHeader_bytes (specs : Str) :
    parseRangeHeader (some (bytesEq ++ specs)) =
      (parseRangeItems (splitOnChar ',' specs []) 0 []).map fun rs => ⟨bytesUnit, rs⟩ := by
  have hs : Py.strip ['b', 'y', 't', 'e', 's'] = ['b', 'y', 't', 'e', 's'] := by decide
  have hl : lowerA ['b', 'y', 't', 'e', 's'] = bytesUnit := by decide
  simp [parseRangeHeader, bytesEq, hs, hl]

theorem parseRangeHeader_single (spec : Str) (hnc : ∀ c ∈ spec, c ≠ ',') :
    parseRangeHeader (some (bytesEq ++ spec)) =
      (parseRangeItems [spec] 0 []).map fun rs => ⟨bytesUnit, rs⟩ := by
  rw [parseRangeHeader_bytes, splitOnChar_none _ _ _ hnc]; rfl

theorem digits_no_comma {d : Str} (h : ∀ c ∈ d, isDigitA c = true) : ∀ c ∈ d, c ≠ ',' :=
  fun c hc => ne_of_class (p := isDigitA) (h c hc) (by decide)

theorem dash_no_comma {a b : Str} (ha : ∀ c ∈ a, isDigitA c = true) (hb : ∀ c ∈ b, isDigitA c = true) :
    ∀ c ∈ a ++ '-' :: b, c ≠ ',' := by
  intro c hc
  rcases List.mem_append.mp hc with hc | hc
  · exact digits_no_comma ha c hc
  · rcases List.mem_cons.mp hc with rfl | hc
    · decide
    · exact digits_no_comma hb c hc

/-- an instant (seconds from 0001-01-01) that `http_date` writes with a year 0100 … 9999 -/
def InDateRange (t : Nat) : Prop := Date.tMin ≤ t ∧ t ≤ Date.tMax

theorem dateOfText_httpDate (t : Nat) (h : InDateRange t) :
    dateOfText (some (Date.httpDate t)) = some (t : Int) := by
  simp [dateOfText, Date.date_roundtrip_any t h.1 h.2]

/-- the text `http_date` writes starts with a day name (C06's `parse_if_range_header` model tests the same spelling) -/
theorem httpDate_not_etag_like (t : Nat) : looksLikeEtag (Date.httpDate t) = false := by
  rw [show @looksLikeEtag = @Http.looksLikeEtag from rfl]
  exact Http.looksLikeEtag_httpDate t

theorem isByteRangeValid_some (s e l : Int) :
    isByteRangeValid (some s) (some e) (some l) = decide (0 ≤ s ∧ s < e ∧ s < l) := by
  unfold isByteRangeValid
  by_cases h : s ≥ e
  · simp [h]; omega
  · have : s < e := by omega
    simp [h, this]

/-- `range_for_length` selects `[a, b)` exactly for a single byte range that starts inside the resource: the
begin and the end cut at the length; from the begin to the end of the resource for an open range; the last
`-begin` bytes for a suffix range, which must not be longer than the resource -/
theorem rangeForLength_eq_some_iff (r : Range) (l a b : Int) :
    rangeForLength r (some l) = some (a, b) ↔
      r.units = bytesUnit ∧ ∃ s e, r.ranges = [(s, e)] ∧
        match e with
        | some e' => 0 ≤ s ∧ s < e' ∧ s < l ∧ a = s ∧ b = min e' l
        | none => if s < 0 then 0 ≤ l + s ∧ a = l + s ∧ b = l else s < l ∧ a = s ∧ b = l := by
  unfold rangeForLength
  split
  · rename_i l' s e hl hr
    cases hl
    by_cases hu : r.units = bytesUnit
    · -- a single byte range `(s, e)`: what is left is `is_byte_range_valid` on the adjusted bounds
      cases e <;>
        simp only [hu, bne_self_eq_false, Bool.false_eq_true, if_false, true_and, hr, List.cons.injEq,
          Prod.mk.injEq, and_true, isByteRangeValid_some, Option.ite_none_right_eq_some, decide_eq_true_eq,
          Option.some.injEq]
      · constructor
        · intro h; refine ⟨s, none, ⟨rfl, rfl⟩, ?_⟩; simp only; split <;> split at h <;> omega
        · rintro ⟨s', e', ⟨rfl, rfl⟩, h⟩; simp only at h; split at h <;> split <;> omega
      · constructor
        · intro h; exact ⟨s, _, ⟨rfl, rfl⟩, by simp only; omega⟩
        · rintro ⟨s', e', ⟨rfl, rfl⟩, h⟩; simp only at h; omega
    · simp [hu]
  · rename_i hne
    simp only [reduceCtorEq, false_iff, not_and, not_exists]
    intro _ s e hr
    exact absurd hr (fun h => hne l s e rfl h)

theorem rangeForLength_none (r : Range) : rangeForLength r none = none := by
  unfold rangeForLength; rfl

theorem rangeForLength_bounds {r : Range} {l a b : Int} (h : rangeForLength r (some l) = some (a, b)) :
    0 ≤ a ∧ a < b ∧ b ≤ l := by
  obtain ⟨_, s, e, _, h⟩ := (rangeForLength_eq_some_iff r l a b).mp h
  cases e with
  | some e' => simp only at h; omega
  | none => simp only at h; split at h <;> omega

/-- `rangeForLength_eq_some_iff` for a header with the one range `(s, e)` -/
theorem rangeForLength_single_iff (s : Int) (e : Option Int) (l a b : Int) :
    rangeForLength ⟨bytesUnit, [(s, e)]⟩ (some l) = some (a, b) ↔
      match e with
      | some e' => 0 ≤ s ∧ s < e' ∧ s < l ∧ a = s ∧ b = min e' l
      | none => if s < 0 then 0 ≤ l + s ∧ a = l + s ∧ b = l else s < l ∧ a = s ∧ b = l := by
  rw [rangeForLength_eq_some_iff]
  constructor
  · rintro ⟨_, s', e', hr, h⟩; cases hr; exact h
  · exact fun h => ⟨rfl, s, e, rfl, h⟩

theorem rangeForLength_first_last (x y n : Nat) (hle : x ≤ y) (ha : x < n) :
    rangeForLength ⟨bytesUnit, [((x : Int), some ((y : Int) + 1))]⟩ (some (n : Int))
      = some ((x : Int), ((min (y + 1) n : Nat) : Int)) :=
  (rangeForLength_single_iff _ _ _ _ _).mpr ⟨by omega, by omega, by omega, rfl, by omega⟩

theorem rangeForLength_open (x n : Nat) (ha : x < n) :
    rangeForLength ⟨bytesUnit, [((x : Int), none)]⟩ (some (n : Int)) = some ((x : Int), (n : Int)) :=
  (rangeForLength_single_iff _ _ _ _ _).mpr (by rw [if_neg (by omega)]; exact ⟨by omega, rfl, rfl⟩)

theorem rangeForLength_suffix (k n : Nat) (hpos : 0 < k) (hk : k ≤ n) :
    rangeForLength ⟨bytesUnit, [(-(k : Int), none)]⟩ (some (n : Int)) = some ((n : Int) - k, (n : Int)) :=
  (rangeForLength_single_iff _ _ _ _ _).mpr (by rw [if_pos (by omega)]; exact ⟨by omega, by omega, rfl⟩)

/-- range handling is attempted: a known non-zero length, ranges accepted, a processable range request -/
def rangeActive (q : CondReq) (r : RespIn) (cl : Option Int) (ar : Bool) : Bool :=
  match cl with
  | some l => ar && !(l == 0) && rangeProcessable q r
  | none => false

theorem rangeActive_some (q : CondReq) (r : RespIn) (l : Int) (ar : Bool) :
    rangeActive q r (some l) ar = (ar && !(l == 0) && rangeProcessable q r) := rfl

theorem rangeActive_none (q : CondReq) (r : RespIn) (ar : Bool) : rangeActive q r none ar = false := rfl

/-- `_process_range_request` does nothing unless range handling is active; then the `Range` header alone
decides between a 206 for the range `range_for_length` selects and 416 -/
theorem processRangeRequest_eq (q : CondReq) (r : RespIn) (cl : Option Int) (ar : Bool) :
    processRangeRequest q r cl ar =
      if rangeActive q r cl ar then
        match (parseRangeHeader q.range).bind (fun pr => rangeForLength pr cl) with
        | some (a, b) => .partialContent a b
        | none => .unsatisfiable
      else .notRange := by
  unfold processRangeRequest rangeActive
  cases cl with
  | none => rfl
  | some l =>
    by_cases hz : l = 0
    · simp [hz]
    · cases ar <;> cases rangeProcessable q r <;> simp [hz]
      cases parseRangeHeader q.range with
      | none => rfl
      | some pr =>
        simp only [Option.bind_some]
        cases rangeForLength pr (some l) <;> rfl

theorem processRangeRequest_partial_iff {q : CondReq} {r : RespIn} {cl : Option Int} {ar : Bool} {a b : Int} :
    processRangeRequest q r cl ar = .partialContent a b ↔
      rangeActive q r cl ar = true ∧
      (parseRangeHeader q.range).bind (fun pr => rangeForLength pr cl) = some (a, b) := by
  rw [processRangeRequest_eq]
  cases rangeActive q r cl ar
  · simp
  · cases (parseRangeHeader q.range).bind (fun pr => rangeForLength pr cl) with
    | none => simp
    | some p => obtain ⟨x, y⟩ := p; simp

theorem processRangeRequest_unsatisfiable_iff {q : CondReq} {r : RespIn} {cl : Option Int} {ar : Bool} :
    processRangeRequest q r cl ar = .unsatisfiable ↔
      rangeActive q r cl ar = true ∧
      (parseRangeHeader q.range).bind (fun pr => rangeForLength pr cl) = none := by
  rw [processRangeRequest_eq]
  cases rangeActive q r cl ar
  · simp
  · cases (parseRangeHeader q.range).bind (fun pr => rangeForLength pr cl) <;> simp

theorem processRangeRequest_notRange (q : CondReq) (r : RespIn) (cl : Option Int) (ar : Bool)
    (h : cl = none ∨ ar = false ∨ rangeProcessable q r = false) :
    processRangeRequest q r cl ar = .notRange := by
  rw [processRangeRequest_eq, if_neg]
  rcases h with rfl | rfl | h
  · simp [rangeActive_none]
  · cases cl <;> simp [rangeActive_none, rangeActive_some]
  · cases cl <;> simp [rangeActive_none, rangeActive_some, h]

/-- the validators of the request against the response's entity tag `tag` (unquoted) and Last-Modified second
`lm`, `If-Range` aside: `If-Match` (strong comparison) decides if it carries tags, else `If-None-Match` (weak
comparison) if it does, else `If-Modified-Since`; without an entity tag on the response only the date -/
def validatorsMatch (r : CondReq) (tag : Option Str) (lm : Option Int) : Bool :=
  match tag with
  | some e =>
    if (parseEtags r.im).truthy then !(parseEtags r.im).contains e
    else if (parseEtags r.inm).truthy then (parseEtags r.inm).containsWeak e
    else dateUnmodified r.ims lm
  | none => dateUnmodified r.ims lm

/-- the rows of `validatorsMatch`: `If-Match` decides when it carries tags -/
theorem validatorsMatch_im {r : CondReq} (e : Str) (lm : Option Int) (h : (parseEtags r.im).truthy = true) :
    validatorsMatch r (some e) lm = !(parseEtags r.im).contains e := by
  simp only [validatorsMatch, h, if_true]

theorem validatorsMatch_inm {r : CondReq} (e : Str) (lm : Option Int) (him : (parseEtags r.im).truthy = false)
    (h : (parseEtags r.inm).truthy = true) :
    validatorsMatch r (some e) lm = (parseEtags r.inm).containsWeak e := by
  simp only [validatorsMatch, him, h, if_true, Bool.false_eq_true, if_false]

theorem validatorsMatch_date {r : CondReq} (tag : Option Str) (lm : Option Int)
    (h : tag = none ∨ ((parseEtags r.im).truthy = false ∧ (parseEtags r.inm).truthy = false)) :
    validatorsMatch r tag lm = dateUnmodified r.ims lm := by
  unfold validatorsMatch
  rcases h with rfl | ⟨h1, h2⟩
  · rfl
  · cases tag <;> simp only [h1, h2, Bool.false_eq_true, if_false]

/-- `If-Range` is not looked at (`ignore_if_range`, or no `Range` header): modified unless the validators match -/
theorem isResourceModified_ignore (r : CondReq) (etag : Option Str) (lm : Option (Int × Nat)) (ign : Bool)
    (h : ign = true ∨ r.range = none) :
    isResourceModified r etag lm ign =
      !validatorsMatch r ((etag.bind unquoteEtag).map (·.1)) (lm.map (·.1)) := by
  have : (!ign && r.range.isSome) = false := by rcases h with rfl | h <;> simp [*]
  unfold isResourceModified validatorsMatch
  simp only [this, Bool.false_eq_true, if_false]
  cases etag with
  | none => rfl
  | some et =>
    cases hu : unquoteEtag et with
    | none => simp [hu]
    | some p => simp only [Option.bind_some, hu, Option.map_some]

/-- `ignore_if_range=True` answers what the same request without its `Range` header is answered -/
theorem isResourceModified_ignore_eq (r : CondReq) (etag : Option Str) (lm : Option (Int × Nat)) :
    isResourceModified r etag lm true = isResourceModified { r with range := none } etag lm false := by
  rw [isResourceModified_ignore _ _ _ _ (.inl rfl), isResourceModified_ignore _ _ _ _ (.inr rfl)]
  rfl

/-- `If-Range` is evaluated (a `Range` header, `ignore_if_range=False`): an entity tag in it is compared with the
response's and nothing else is asked; a date in it replaces `If-Modified-Since`; without either it changes nothing -/
theorem isResourceModified_ifRange (r : CondReq) (etag : Option Str) (lm : Option (Int × Nat))
    (h : r.range.isSome = true) :
    isResourceModified r etag lm false =
      match parseIfRangeHeader r.ifRange r.ifRangeDate with
      | .none => isResourceModified r etag lm true
      | .date d => isResourceModified { r with ims := some d } etag lm true
      | .etag ie =>
        match etag.bind unquoteEtag with
        | some (e, _) => !(ie == e)
        | none => !dateUnmodified r.ims (lm.map (·.1)) := by
  unfold isResourceModified
  simp only [h, Bool.not_false, Bool.and_self, if_true, Bool.not_true, Bool.false_and, Bool.false_eq_true, if_false]
  cases parseIfRangeHeader r.ifRange r.ifRangeDate <;> cases etag with
  | none => rfl
  | some et => cases hu : unquoteEtag et <;> simp [hu]

theorem parseEtags_none_truthy : (parseEtags none).truthy = false := rfl

theorem parseEtags_star : parseEtags (some ['*']) = ⟨[], [], true⟩ := by decide +kernel

theorem parseIfRangeHeader_tag (v : Str) (hv : v ≠ []) (d : Option Int) (h : looksLikeEtag v = true ∨ d = none) :
    parseIfRangeHeader (some v) d =
      match unquoteEtag v with
      | some (e, _) => .etag e
      | none => .none := by
  have hve : v.isEmpty = false := by simpa using hv
  have hdate : (if looksLikeEtag v = true then none else d) = none := by rcases h with h | h <;> simp [h]
  simp only [parseIfRangeHeader, parseIfRange, Option.map_some, Option.getD_some, hve, hdate, Bool.false_eq_true,
    if_false]
  cases unquoteEtag v with
  | none => rfl
  | some p => rfl

theorem parseIfRangeHeader_date (v : Str) (hv : v ≠ []) (d : Int) (h : looksLikeEtag v = false) :
    parseIfRangeHeader (some v) (some d) = .date d := by
  have hve : v.isEmpty = false := by simpa using hv
  simp [parseIfRangeHeader, parseIfRange, hve, h]

theorem rangeProcessable_noIfRange {q : CondReq} (r : RespIn) (h : q.ifRange = none) :
    rangeProcessable q r = q.range.isSome := by
  simp [rangeProcessable, h]

theorem rangeProcessable_ifRange {q : CondReq} (r : RespIn) (h : q.ifRange.isSome = true)
    (hr : q.range.isSome = true) :
    rangeProcessable q r = !isResourceModified q r.etag (lmOf r) false := by
  cases hq : q.ifRange with
  | none => rw [hq] at h; cases h
  | some v => simp [rangeProcessable, hq, hr]

/-- with an entity tag on the response (and `If-Range` not looked at) -/
theorem isResourceModified_tagged (r : CondReq) {et e : Str} {w : Bool} (hu : unquoteEtag et = some (e, w))
    (lm : Option (Int × Nat)) :
    isResourceModified r (some et) lm true = !validatorsMatch r (some e) (lm.map (·.1)) := by
  rw [isResourceModified_ignore _ _ _ _ (.inl rfl)]
  simp only [Option.bind_some, hu, Option.map_some]

/-- only the date decides: no entity tag on the response, or no tags in `If-Match` / `If-None-Match` -/
theorem isResourceModified_date (r : CondReq) (etag : Option Str) (lm : Option (Int × Nat))
    (h : etag.bind unquoteEtag = none ∨ ((parseEtags r.im).truthy = false ∧ (parseEtags r.inm).truthy = false)) :
    isResourceModified r etag lm true = !dateUnmodified r.ims (lm.map (·.1)) := by
  rw [isResourceModified_ignore _ _ _ _ (.inl rfl), validatorsMatch_date]
  exact h.imp_left fun h => by rw [h]; rfl

theorem isResourceModified_no_tags (q : CondReq) (h2 : q.inm = none) (h3 : q.im = none)
    (etag : Option Str) (lm : Option (Int × Nat)) :
    isResourceModified q etag lm true = !dateUnmodified q.ims (lm.map (·.1)) :=
  isResourceModified_date q etag lm (.inr ⟨by rw [h3]; rfl, by rw [h2]; rfl⟩)

/-- a request carrying `If-Modified-Since: <http_date(t')>` and no entity-tag validators, against a resource last
modified in second `s`, counts as not modified exactly when `s ≤ t'` -/
theorem isResourceModified_ims_text (t' : Nat) (ht : InDateRange t') (etag : Option Str) (s : Int) (m : Nat)
    (range ifRange : Option Str) :
    isResourceModified (mkReqText range ifRange (some (Date.httpDate t')) none none) etag (some (s, m)) true
      = false ↔ s ≤ t' := by
  rw [isResourceModified_no_tags _ rfl rfl]
  unfold mkReqText
  simp [dateOfText_httpDate t' ht, dateUnmodified]

end Wz.Cond

/-- `environ["REQUEST_METHOD"] in ("GET", "HEAD")` as the model spells it. The translation of `make_conditional`
(Lemmas/PyFnsEq_MakeConditional) and the table below are stated with the same test, which is why a definition of
that namespace stands in this file, which both import. -/
def Wz.PyFnsEq.MakeConditional.isGetHead (method : Wz.Pre.Str) : Bool :=
  method == ['G', 'E', 'T'] || method == ['H', 'E', 'A', 'D']

namespace Wz.Cond
open Wz.PyFnsEq.MakeConditional (isGetHead)

theorem isGetHead_iff (method : Str) :
    isGetHead method = true ↔ method = "GET".toList ∨ method = "HEAD".toList := by
  repeat rewrite [String.toList_ofList]
  simp [isGetHead]

/-- what `make_conditional` answers once `_process_range_request` has run -/
def RangeOutcome.answer : RangeOutcome → Option (Nat × RangeOutcome)
  | .unsatisfiable => none
  | .partialContent a b => some (206, .partialContent a b)
  | .notRange => some (200, .notRange)

section decision
variable {method : Str} {q : CondReq} {r : RespIn} {cl : Option Int} {ar : Bool}

/-- The decision of `make_conditional`: other methods are left alone; a GET/HEAD whose validators match is
answered 412 / 304 before the `Range` header is looked at (64fcb6a); any other GET/HEAD is handed to
`_process_range_request`. -/
theorem makeConditionalStatus_eq (method : Str) (q : CondReq) (r : RespIn) (cl : Option Int) (ar : Bool) :
    makeConditionalStatus method q r cl ar =
      if isGetHead method then
        if isResourceModified q r.etag (lmOf r) true then (processRangeRequest q r cl ar).answer
        else some (if (parseEtags q.im).truthy then 412 else 304, .notRange)
      else some (200, .notRange) := by
  unfold makeConditionalStatus
  rw [show (method == ['G', 'E', 'T'] || method == ['H', 'E', 'A', 'D']) = isGetHead method from rfl]
  cases isGetHead method
  · rfl
  · cases isResourceModified q r.etag (lmOf r) true
    · rfl
    · cases processRangeRequest q r cl ar <;> rfl

theorem makeConditionalStatus_other (method : Str) (q : CondReq) (r : RespIn) (cl : Option Int) (ar : Bool)
    (hm : isGetHead method = false) : makeConditionalStatus method q r cl ar = some (200, .notRange) := by
  rw [makeConditionalStatus_eq, hm]; rfl

theorem makeConditionalStatus_values (method : Str) (q : CondReq) (r : RespIn) (cl : Option Int) (ar : Bool) :
    makeConditionalStatus method q r cl ar = none ∨
    makeConditionalStatus method q r cl ar = some (200, .notRange) ∨
    makeConditionalStatus method q r cl ar = some (304, .notRange) ∨
    makeConditionalStatus method q r cl ar = some (412, .notRange) ∨
    ∃ a b, makeConditionalStatus method q r cl ar = some (206, .partialContent a b) := by
  rw [makeConditionalStatus_eq]
  cases isGetHead method
  · simp
  · cases isResourceModified q r.etag (lmOf r) true
    · cases (parseEtags q.im).truthy <;> simp
    · cases processRangeRequest q r cl ar <;> simp [RangeOutcome.answer]

/-- 412 (`b = true`) or 304 exactly for a GET/HEAD whose validators match, according to whether `If-Match`
carries tags -/
theorem status_precondition_iff {o : RangeOutcome} (b : Bool) :
    makeConditionalStatus method q r cl ar = some (if b then 412 else 304, o) ↔
      isGetHead method = true ∧ isResourceModified q r.etag (lmOf r) true = false ∧
      (parseEtags q.im).truthy = b ∧ o = .notRange := by
  rw [makeConditionalStatus_eq]
  cases isGetHead method
  · cases b <;> simp
  · cases isResourceModified q r.etag (lmOf r) true
    · cases (parseEtags q.im).truthy <;> cases b <;> simp [eq_comm]
    · cases processRangeRequest q r cl ar <;> cases b <;> simp [RangeOutcome.answer]

theorem status_304_iff {o : RangeOutcome} :
    makeConditionalStatus method q r cl ar = some (304, o) ↔
      isGetHead method = true ∧ isResourceModified q r.etag (lmOf r) true = false ∧
      (parseEtags q.im).truthy = false ∧ o = .notRange :=
  status_precondition_iff false

theorem status_412_iff {o : RangeOutcome} :
    makeConditionalStatus method q r cl ar = some (412, o) ↔
      isGetHead method = true ∧ isResourceModified q r.etag (lmOf r) true = false ∧
      (parseEtags q.im).truthy = true ∧ o = .notRange :=
  status_precondition_iff true

theorem status_partial_iff {st : Nat} {a b : Int} :
    makeConditionalStatus method q r cl ar = some (st, .partialContent a b) ↔
      isGetHead method = true ∧ isResourceModified q r.etag (lmOf r) true = true ∧ st = 206 ∧
      processRangeRequest q r cl ar = .partialContent a b := by
  rw [makeConditionalStatus_eq]
  cases isGetHead method
  · simp
  · cases isResourceModified q r.etag (lmOf r) true
    · simp
    · cases processRangeRequest q r cl ar <;> simp [RangeOutcome.answer, eq_comm]

theorem status_416_iff :
    makeConditionalStatus method q r cl ar = none ↔
      isGetHead method = true ∧ isResourceModified q r.etag (lmOf r) true = true ∧
      processRangeRequest q r cl ar = .unsatisfiable := by
  rw [makeConditionalStatus_eq]
  cases isGetHead method
  · simp
  · cases isResourceModified q r.etag (lmOf r) true
    · simp
    · cases processRangeRequest q r cl ar <;> simp [RangeOutcome.answer]

theorem makeConditionalStatus_notRange (method : Str) (q : CondReq) (r : RespIn) (cl : Option Int) (ar : Bool)
    (h : processRangeRequest q r cl ar = .notRange) :
    ∃ st, makeConditionalStatus method q r cl ar = some (st, .notRange) ∧ (st = 200 ∨ st = 304 ∨ st = 412) := by
  rw [makeConditionalStatus_eq, h]
  cases isGetHead method
  · exact ⟨200, rfl, Or.inl rfl⟩
  · cases isResourceModified q r.etag (lmOf r) true
    · cases (parseEtags q.im).truthy
      · exact ⟨304, rfl, Or.inr (Or.inl rfl)⟩
      · exact ⟨412, rfl, Or.inr (Or.inr rfl)⟩
    · exact ⟨200, rfl, Or.inl rfl⟩

theorem status_304_ims_text_iff (hm : isGetHead method = true) (t' : Nat) (ht : InDateRange t')
    (range ifRange : Option Str) {s : Int} (hlm : r.lastModified = some s) :
    makeConditionalStatus method (mkReqText range ifRange (some (Date.httpDate t')) none none) r cl ar
      = some (304, .notRange) ↔ s ≤ t' := by
  have him : (parseEtags (mkReqText range ifRange (some (Date.httpDate t')) none none).im).truthy = false := rfl
  rw [status_304_iff, show lmOf r = some (s, 0) by simp [lmOf, hlm],
    isResourceModified_ims_text t' ht r.etag s 0 range ifRange]
  simp [hm, him]

/-- the method test of the answers below, in the spelling of the property statements -/
theorem ite_head_of_ne {α : Type} {method : Str} (h : method ≠ "HEAD".toList) (x y : α) :
    (if method == ['H', 'E', 'A', 'D'] then x else y) = y := if_neg (by simpa using h)

theorem ite_head_of_eq {α : Type} {method : Str} (h : method = "HEAD".toList) (x y : α) :
    (if method == ['H', 'E', 'A', 'D'] then x else y) = x := if_pos (by simpa using h)

theorem respond_partial {st : Nat} {a b : Int}
    (h : makeConditionalStatus method q r cl ar = some (st, .partialContent a b))
    (chunks : List Bytes) (seek : Option Nat) (kind : Nat) :
    respond method q r cl ar chunks seek kind =
      some ⟨206, some (a, b - 1, cl.getD 0), some (b - a),
        if method == ['H', 'E', 'A', 'D'] then [] else rangeBody chunks seek a.toNat (b - a).toNat, true⟩ := by
  unfold respond rangeBody
  simp only [h]
  cases seek <;> rfl

theorem respond_304 (h : makeConditionalStatus method q r cl ar = some (304, .notRange))
    (chunks : List Bytes) (seek : Option Nat) (kind : Nat) :
    respond method q r cl ar chunks seek kind = some ⟨304, none, none, [], false⟩ := by
  unfold respond
  simp only [h, BEq.rfl, if_true]

theorem respond_full {st : Nat} (h : makeConditionalStatus method q r cl ar = some (st, .notRange))
    (hst : st ≠ 304) (chunks : List Bytes) (seek : Option Nat) (kind : Nat) :
    respond method q r cl ar chunks seek kind =
      some ⟨st, none,
        if kind == 0 || (kind == 1 && (method == ['G', 'E', 'T'] || method == ['H', 'E', 'A', 'D']))
          then some ((chunks.flatten.length : Nat) : Int) else none,
        if method == ['H', 'E', 'A', 'D'] then [] else chunks.filter (!·.isEmpty), false⟩ := by
  unfold respond
  have : (st == 304) = false := by simpa using hst
  simp only [h, this, Bool.false_eq_true, if_false]

theorem respond_416 (h : makeConditionalStatus method q r cl ar = none)
    (chunks : List Bytes) (seek : Option Nat) (kind : Nat) :
    respond method q r cl ar chunks seek kind = none := by
  unfold respond
  simp only [h]

theorem respond_notRange {st : Nat} (h : makeConditionalStatus method q r cl ar = some (st, .notRange))
    (chunks : List Bytes) (seek : Option Nat) (kind : Nat) :
    ∃ o, respond method q r cl ar chunks seek kind = some o ∧ o.status = st ∧ o.contentRange = none ∧
      o.acceptRanges = false := by
  by_cases hst : st = 304
  · subst hst; exact ⟨_, respond_304 h chunks seek kind, rfl, rfl, rfl⟩
  · exact ⟨_, respond_full h hst chunks seek kind, rfl, rfl, rfl⟩

/-- every answer is the answer to a decided 206, to a decided 304, or to a decided 200 / 412: the three equations
above read backwards -/
theorem respond_inv {chunks : List Bytes} {seek : Option Nat} {kind : Nat} {o : WsgiOut}
    (h : respond method q r cl ar chunks seek kind = some o) :
    (∃ a b, makeConditionalStatus method q r cl ar = some (206, .partialContent a b) ∧
      o = ⟨206, some (a, b - 1, cl.getD 0), some (b - a),
        if method == ['H', 'E', 'A', 'D'] then [] else rangeBody chunks seek a.toNat (b - a).toNat, true⟩) ∨
    (makeConditionalStatus method q r cl ar = some (304, .notRange) ∧ o = ⟨304, none, none, [], false⟩) ∨
    (∃ st, (st = 200 ∨ st = 412) ∧ makeConditionalStatus method q r cl ar = some (st, .notRange) ∧
      o = ⟨st, none,
        if kind == 0 || (kind == 1 && (method == ['G', 'E', 'T'] || method == ['H', 'E', 'A', 'D']))
          then some ((chunks.flatten.length : Nat) : Int) else none,
        if method == ['H', 'E', 'A', 'D'] then [] else chunks.filter (!·.isEmpty), false⟩) := by
  rcases makeConditionalStatus_values method q r cl ar with hs | hs | hs | hs | ⟨a, b, hs⟩
  · rw [respond_416 hs] at h; cases h
  · rw [respond_full hs (by decide)] at h; cases h; exact .inr (.inr ⟨200, .inl rfl, hs, rfl⟩)
  · rw [respond_304 hs] at h; cases h; exact .inr (.inl ⟨hs, rfl⟩)
  · rw [respond_full hs (by decide)] at h; cases h; exact .inr (.inr ⟨412, .inr rfl, hs, rfl⟩)
  · rw [respond_partial hs] at h; cases h; exact .inl ⟨a, b, hs, rfl⟩

theorem respond_eq_none_iff {chunks : List Bytes} {seek : Option Nat} {kind : Nat} :
    respond method q r cl ar chunks seek kind = none ↔ makeConditionalStatus method q r cl ar = none := by
  refine ⟨fun h => ?_, fun h => respond_416 h chunks seek kind⟩
  rcases makeConditionalStatus_values method q r cl ar with hs | hs | hs | hs | ⟨a, b, hs⟩
  · exact hs
  · rw [respond_full hs (by decide)] at h; cases h
  · rw [respond_304 hs] at h; cases h
  · rw [respond_full hs (by decide)] at h; cases h
  · rw [respond_partial hs] at h; cases h

theorem respond_status {chunks : List Bytes} {seek : Option Nat} {kind : Nat} {o : WsgiOut}
    (h : respond method q r cl ar chunks seek kind = some o) :
    ∃ oc, makeConditionalStatus method q r cl ar = some (o.status, oc) := by
  rcases respond_inv h with ⟨a, b, hs, rfl⟩ | ⟨hs, rfl⟩ | ⟨st, _, hs, rfl⟩ <;> exact ⟨_, hs⟩

/-- with the `accept_ranges` argument in its three forms: the answer of `respond`, and the `Accept-Ranges` value
exactly when it says so -/
theorem makeConditionalFull_eq_some_iff {acc : AcceptArg} {chunks : List Bytes} {seek : Option Nat} {kind : Nat}
    {o : WsgiOut} {h : Option Str} :
    makeConditionalFull method q r cl acc chunks seek kind = some (o, h) ↔
      respond method q r cl acc.truthy chunks seek kind = some o ∧
      h = if o.acceptRanges then some acc.header else none := by
  unfold makeConditionalFull
  cases respond method q r cl acc.truthy chunks seek kind with
  | none => simp
  | some o' =>
    simp only [Option.map_some, Option.some.injEq, Prod.mk.injEq]
    constructor
    · rintro ⟨rfl, rfl⟩; exact ⟨rfl, rfl⟩
    · rintro ⟨rfl, rfl⟩; exact ⟨rfl, rfl⟩

end decision

/-- a GET whose resource counts as modified, with a processable range request that `range_for_length` satisfies for the
known non-zero length: 206, the range headers, and exactly the bytes `[a, b)` of the body whatever its chunking -/
theorem respond_range_206 (q : CondReq) (r : RespIn) (n : Nat) (pr : Range) (a b : Int)
    (hp : parseRangeHeader q.range = some pr) (hrf : rangeForLength pr (some (n : Int)) = some (a, b))
    (hmod : isResourceModified q r.etag (lmOf r) true = true) (hproc : rangeProcessable q r = true)
    (chunks : List Bytes) (seek : Option Nat) (hseek : ∀ bs, seek = some bs → 0 < bs) (kind : Nat) :
    ∃ o, respond "GET".toList q r (some (n : Int)) true chunks seek kind = some o ∧
      o.status = 206 ∧ o.contentRange = some (a, b - 1, (n : Int)) ∧ o.contentLength = some (b - a) ∧
      o.body.flatten = (chunks.flatten.drop a.toNat).take (b - a).toNat := by
  have hn : n ≠ 0 := by have := rangeForLength_bounds hrf; omega
  have hmc : makeConditionalStatus "GET".toList q r (some (n : Int)) true = some (206, .partialContent a b) :=
    status_partial_iff.mpr ⟨(isGetHead_iff _).mpr (Or.inl rfl), hmod, rfl,
      processRangeRequest_partial_iff.mpr ⟨by simpa [rangeActive_some, hproc] using hn, by simp [hp, hrf]⟩⟩
  refine ⟨_, respond_partial hmc chunks seek kind, rfl, rfl, rfl, ?_⟩
  rewrite [String.toList_ofList]
  exact rangeBody_flatten chunks seek hseek _ _

/-- the same for a range given in naturals (what the header-text lemmas produce): the body is `body[a:b]` -/
theorem respond_range_206_nat (q : CondReq) (r : RespIn) (n : Nat) (pr : Range) (a b : Nat)
    (hp : parseRangeHeader q.range = some pr) (hrf : rangeForLength pr (some (n : Int)) = some ((a : Int), (b : Int)))
    (hmod : isResourceModified q r.etag (lmOf r) true = true) (hproc : rangeProcessable q r = true)
    (chunks : List Bytes) (seek : Option Nat) (hseek : ∀ bs, seek = some bs → 0 < bs) (kind : Nat) :
    ∃ o, respond "GET".toList q r (some (n : Int)) true chunks seek kind = some o ∧
      o.status = 206 ∧ o.contentRange = some ((a : Int), (b : Int) - 1, (n : Int)) ∧
      o.contentLength = some ((b : Int) - a) ∧
      o.body.flatten = (chunks.flatten.drop a).take (b - a) := by
  obtain ⟨o, ho, hst, hcr, hcl, hb⟩ := respond_range_206 q r n pr a b hp hrf hmod hproc chunks seek hseek kind
  exact ⟨o, ho, hst, hcr, hcl, by rw [hb, Int.toNat_natCast, show ((b : Int) - (a : Int)).toNat = b - a by omega]⟩

theorem SendFile.etagHeader_auto {a : SendFile} (hp : a.isPath = true) (he : a.etag = .auto) :
    a.etagHeader = .ok (some (quoteTag a.autoTag)) := by
  simp [SendFile.etagHeader, he, hp, quoteTag]

theorem sendFile_conditional (a : SendFile) (hc : a.conditional = true) (et : Option Str)
    (het : a.etagHeader = .ok et) (method : Str) (q : CondReq) (data : Bytes) (seekable : Bool) :
    sendFile a method q data seekable =
      .ok ((respond method q { etag := et, lastModified := a.lastMod } a.clen true
          (blocks fileBufferSize (data.length + 1) data)
          (if seekable then some fileBufferSize else none) 2).map
        fun o => if o.status == 200 || o.status == 412
          then { o with contentLength := a.clen } else o) := by
  simp [sendFile, het, hc]

theorem sendFile_unconditional (a : SendFile) (hc : a.conditional = false) (et : Option Str)
    (het : a.etagHeader = .ok et) (method : Str) (q : CondReq) (data : Bytes) (seekable : Bool) :
    sendFile a method q data seekable =
      .ok (some ⟨200, none, a.clen,
        if method == ['H', 'E', 'A', 'D'] then [] else blocks fileBufferSize (data.length + 1) data, false⟩) := by
  simp [sendFile, het, hc]

theorem sendFile_status_304 {a : SendFile} (hc : a.conditional = true) {et : Option Str}
    (het : a.etagHeader = .ok et) {method : Str} {q : CondReq} {data : Bytes} {seekable : Bool} {o : WsgiOut}
    (h : sendFile a method q data seekable = .ok (some o)) (hs : o.status = 304) :
    makeConditionalStatus method q { etag := et, lastModified := a.lastMod } a.clen true
      = some (304, .notRange) := by
  rw [sendFile_conditional a hc et het] at h
  simp only [Except.ok.injEq, Option.map_eq_some_iff] at h
  obtain ⟨o', hr, rfl⟩ := h
  obtain ⟨oc, hmc⟩ := respond_status hr
  have : o'.status = 304 := by split at hs <;> exact hs
  rw [this] at hmc
  rw [hmc, (status_304_iff.mp hmc).2.2.2]

theorem sendFile_eq_304 {a : SendFile} (hc : a.conditional = true) {et : Option Str}
    (het : a.etagHeader = .ok et) {method : Str} {q : CondReq} (data : Bytes) (seekable : Bool)
    (h : makeConditionalStatus method q { etag := et, lastModified := a.lastMod } a.clen true
      = some (304, .notRange)) :
    sendFile a method q data seekable = .ok (some ⟨304, none, none, [], false⟩) := by
  rw [sendFile_conditional a hc et het, respond_304 h]
  rfl

end Wz.Cond
