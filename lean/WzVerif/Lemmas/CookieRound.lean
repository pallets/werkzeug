/-
What follows from the two forms of an emitted value (`dumpValue_cases`): it is inert, ASCII and free
of `;`; and the round trip through both parsers, for one pair and for a whole `Cookie:` header (the
scanner on the joined pairs, then `parse_cookie`'s loop pair by pair).
-/
import WzVerif.Lemmas.Cookie
namespace Wz.Cookie
open Wz

theorem dumpValue_inert (v out : List Char) (h : dumpValue v = .ok out) :
    out.all inertChar = true := by
  rcases dumpValue_cases h with ⟨ho, rfl⟩ | rfl
  · exact List.all_eq_true.mpr fun c hc => cookieOctet_inert (ho c hc)
  · simp only [List.cons_append, List.all_cons, List.all_append, List.all_nil, Bool.and_true,
      List.all_flatMap, Bool.and_eq_true]
    exact ⟨by decide, List.all_eq_true.mpr fun n hn => escChars_inert n (toNat_lt_of_mem _ n hn), by decide⟩

theorem dumpValue_no_semi (v hv : List Char) (h : dumpValue v = .ok hv) : ∀ c ∈ hv, c ≠ ';' :=
  fun c hc => inertChar_ne_semi (List.all_eq_true.mp (dumpValue_inert v hv h) c hc)

theorem ValidKey.no_semi {k : List Char} (hk : ValidKey k) : ∀ c ∈ k, c ≠ ';' := by
  rintro c hc rfl; exact absurd (keyChar_notSep k hk.chars _ hc) (by decide)

theorem ValidKey.no_eq {k : List Char} (hk : ValidKey k) : ∀ c ∈ k, c ≠ '=' := by
  rintro c hc rfl; exact absurd (keyChar_notSep k hk.chars _ hc) (by decide)

/-- an emitted pair contains no `;`: cutting a header at its first `;` leaves the pair whole -/
theorem pair_no_semi {k v hv : List Char} (hk : ∀ c ∈ k, c ≠ ';') (h : dumpValue v = .ok hv) :
    ∀ c ∈ k ++ '=' :: hv, c ≠ ';' := by
  intro c hc
  rcases List.mem_append.mp hc with hc | hc
  · exact hk c hc
  · rcases List.mem_cons.mp hc with rfl | hc
    · decide
    · exact dumpValue_no_semi v hv h c hc

theorem dumpValue_ascii (v hv : List Char) (h : dumpValue v = .ok hv) : asciiText hv = true :=
  List.all_eq_true.mpr fun c hc =>
    decide_eq_true (inertChar_ascii (List.all_eq_true.mp (dumpValue_inert v hv h) c hc))

theorem dumpValue_total' (v : List Char) : ∃ out, dumpValue v = .ok out := by
  by_cases h : v.all noQuoteChar = true
  · exact ⟨v, by simp [dumpValue, h]⟩
  · exact ⟨_, dumpValue_quoted v (by simpa using h)⟩

theorem postProcess_dumped (items : List (List Char × List Char × List Char))
    (h : ∀ it ∈ items, ValidKey it.1 ∧ dumpValue it.2.1 = .ok it.2.2) :
    postProcess (items.map fun it => (it.1, it.2.2)) = items.map fun it => (it.1, it.2.1) := by
  induction items with
  | nil => rfl
  | cons it t ih =>
    obtain ⟨hk, hd⟩ := h it (by simp)
    rw [List.map_cons, postProcess_cons, pairOf_dumped hk hd, ih fun x hx => h x (by simp [hx])]
    rfl

theorem jarText_roundtrip (items : List (List Char × List Char × List Char)) (hne : items ≠ [])
    (h : ∀ it ∈ items, ValidKey it.1 ∧ dumpValue it.2.1 = .ok it.2.2) :
    parseCookie (jarText (items.map fun it => (it.1, it.2.2))) = items.map fun it => (it.1, it.2.1) := by
  have hg : ∀ p ∈ (items.map fun it => (it.1, it.2.2)), ScanGood p := by
    intro p hp
    obtain ⟨it, hit, rfl⟩ := List.mem_map.mp hp
    exact dumpValue_scanGood (h it hit).1 (h it hit).2
  have hnonempty : (jarText (items.map fun it => (it.1, it.2.2))).isEmpty = false := by
    obtain ⟨it, t, rfl⟩ := List.exists_cons_of_ne_nil hne
    exact jarText_ne_nil _ _ (h it (by simp)).1.ne_nil
  unfold parseCookie
  rw [if_neg (by simp [hnonempty]), findAll_jar _ (by simpa using hne) hg _ (by
    have := jarText_length (items.map fun it => (it.1, it.2.2))
    simp only [List.length_append, List.length_cons, List.length_nil] at this ⊢
    omega)]
  exact postProcess_dumped items h

theorem pair_roundtrip (k v hv : List Char) (hk : ValidKey k) (h : dumpValue v = .ok hv) :
    parseCookie (k ++ '=' :: hv) = [(k, v)] := by
  simpa [jarText] using jarText_roundtrip [(k, v, hv)] (by simp) (by simpa using ⟨hk, h⟩)

theorem pair_roundtrip_env (k v hv : List Char) (hk : ValidKey k) (hka : asciiText k = true)
    (h : dumpValue v = .ok hv) :
    parseCookieEnviron (k ++ '=' :: hv) = some [(k, v)] := by
  have hascii : asciiText (k ++ '=' :: hv) = true := by
    have hin := dumpValue_ascii v hv h
    simp only [asciiText, List.all_append, List.all_cons, Bool.and_eq_true] at hka hin ⊢
    exact ⟨hka, by decide, hin⟩
  unfold parseCookieEnviron
  rw [if_neg (by cases k <;> simp)]
  have hd := dance_asciiText _ hascii
  cases hl : Py.latin1Enc (k ++ '=' :: hv) with
  | none => simp [hl] at hd
  | some bs =>
    simp only [hl, Option.map_some, Option.some.injEq] at hd ⊢
    rw [hd, pair_roundtrip k v hv hk h]

end Wz.Cookie
