/-
C06T2 — C06T continued: `parse_dict_header`, `parse_cache_control_header`, `parse_csp_header`,
`dump_csp_header` of `werkzeug.http` *as regenerated from the source* by `tools/py2lean.py`
(`Gen/PyFns_HttpDict.lean`, rewritten on every check run) are equal, for all inputs, to the
hand-written model functions of `Model/Http.lean` that the C06 / C16 round-trip theorems are about;
likewise `parse_etags` / `ETags.to_header` (`Gen/PyFns_Etag.lean`) and `parse_options_header`
(`Gen/PyFns_HttpOptions.lean`); and C06's dict and options round trips restated on the translated pairs.
Property theorems only: the proofs live in Lemmas/PyFnsEq_HttpDict.lean, Lemmas/PyFnsEq_HttpOptions.lean (which build on
Props/C06T) and Lemmas/PyFnsEq_Etag.lean.
-/
import WzVerif.Props.C06T
import WzVerif.Lemmas.PyFnsEq_HttpDict
import WzVerif.Lemmas.PyFnsEq_Etag
import WzVerif.Lemmas.PyFnsEq_HttpOptions
import WzVerif.Lemmas.HttpOptions
namespace Wz.Props.C06T2
open Wz Wz.Pre Wz.PyFnsHttp Wz.PyFnsEq.HttpDict

/-- The `for item in parse_list_header(value)` loop of `parse_dict_header`, as translated from the
current source (`item.partition("=")`, the two `continue`s, `key[-1] == "*"`, `key[:-1]`,
`_charset_value_re.match`, `encoding.lower()`, the guarded `unquote(value, encoding=encoding)`, the
quote-stripping idiom, `result[key] = value`), against the model's own fold `Http.dictStep`: the
loop falls through with the model's dict (the re-assigned parameter `value` is dead afterwards),
for every list of items, every incoming `value` and every dict. -/
theorem parse_dict_header_loop_eq (items : List (List Char)) (value : List Char) (result : List (List Char × Option (List Char))) :
    ∃ value', Gen.PyFns_HttpDict.parse_dict_header.loop1 items value result =
      match items.foldlM Http.dictStep result with
      | .ok r => .fall (value', r)
      | .error e => .ret (.error e) :=
  PyFnsEq.HttpDict.parse_dict_header_loop_eq items value result

/-- `parse_dict_header(value)`, as translated from the current source (`parse_list_header` - itself
translated -, then the loop above; a Python dict is its item list in insertion order), equals the
model's `parseDictHeader` for every text. -/
theorem parse_dict_header_eq (v : List Char) :
    Gen.PyFns_HttpDict.parse_dict_header v = Http.parseDictHeader v :=
  PyFnsEq.HttpDict.parse_dict_header_eq v

/-- `parse_dict_header` never raises on a `str`: no IndexError from `key[-1]` / `value[0]` /
`value[-1]`, and `unquote()` is only reached with one of the four encodings behind the guard. -/
theorem parse_dict_header_total (v : List Char) :
    ∃ d, Gen.PyFns_HttpDict.parse_dict_header v = .ok d :=
  ⟨_, PyFnsEq.HttpDict.parse_dict_header_ok v⟩

/-- C06 `parseDict_dump` on the translated pair: parsing what the regenerated `dump_header` printed
for a dict gives the dict back, for every dict with distinct non-empty token keys without `*`. -/
theorem parse_dict_dump_translated (d : Http.Dict (Option (List Char)))
    (hk : ∀ x ∈ d, Http.KeyOk x.1 = true) (hnd : (d.map (·.1)).Nodup) :
    (Gen.PyFns_Http.dump_header_dict d >>= Gen.PyFns_HttpDict.parse_dict_header) = .ok d := by
  have h := Http.parseDict_dump_any d hk hnd
  rw [C06T.dump_header_dict_eq]
  have : Gen.PyFns_HttpDict.parse_dict_header = Http.parseDictHeader := funext parse_dict_header_eq
  rw [this]; exact h

/-- `parse_cache_control_header(value)`, as translated from the current source (a missing or empty
value gives the empty object, anything else `cls(parse_dict_header(value))`; the result is the dict
handed to the constructor), equals the model's `parseCacheControl` for every value including `None`. -/
theorem parse_cache_control_header_eq (value : Option (List Char)) :
    Gen.PyFns_HttpDict.parse_cache_control_header value () () =
      match value with
      | none => .ok []
      | some v => Http.parseCacheControl v :=
  PyFnsEq.HttpDict.parse_cache_control_header_eq value

/-- The `for policy in value.split(";")` loop of `parse_csp_header`, as translated from the current
source: never raises (`split(" ", 1)` is only reached when a space occurs), appends the stripped
`(directive, value)` pair of every policy that contains a space. -/
theorem parse_csp_header_loop_eq (ps : List (List Char)) : ∀ (items : List (List Char × List Char)) (value : List Char),
    Gen.PyFns_HttpDict.parse_csp_header.loop1 ps items value
      = .fall (items ++ ps.filterMap cspItem, ps.foldl cspValue value) :=
  PyFnsEq.HttpDict.parse_csp_header_loop_eq ps

/-- `parse_csp_header(value)`, as translated from the current source (the result is the item list
handed to the `ContentSecurityPolicy` constructor): never raises, and the dict built from the items
is exactly the model's `parseCsp`, for every text; `None` gives the empty policy. -/
theorem parse_csp_header_eq (v : List Char) :
    (Gen.PyFns_HttpDict.parse_csp_header (some v) () ()).map dictOf = .ok (Http.parseCsp v) ∧
    Gen.PyFns_HttpDict.parse_csp_header none () () = .ok [] :=
  ⟨PyFnsEq.HttpDict.parse_csp_header_eq v, rfl⟩

/-- `dump_csp_header(header)`, as translated from the current source, prints exactly the model's
`dumpCsp`, for every policy dict. -/
theorem dump_csp_header_eq (d : List (List Char × List Char)) :
    Gen.PyFns_HttpDict.dump_csp_header d = Http.dumpCsp d :=
  PyFnsEq.HttpDict.dump_csp_header_eq d

/-- `ETags.to_header()`, as translated from the current source (`"*"` for the wildcard object, else
every strong tag as `"tag"`, then every weak tag as `W/"tag"`, joined with `", "`), prints exactly
what C06's model `etagsToHeader` prints for the same elements in the same iteration order. -/
theorem etags_to_header_eq (s w : List (List Char)) (star : Bool) :
    Gen.PyFns_Etag.etags_to_header s w star = Http.etagsToHeader ⟨s.map some, w.map some, star⟩ :=
  PyFnsEq.Etag.etags_to_header_eq s w star

/-- `parse_etags(value)`, as translated from the current source of `werkzeug/http.py` (a `while`
loop, translated with explicit fuel: one unit per iteration; `_etag_re.match(value, pos)` is C06's
regex model; the `ETags` constructor is translated too), for every header text without a line feed
and every amount of fuel `≥ len(value) + 1`: the function terminates normally and returns exactly
`ETags(strong, weak, star_tag)` for the lists and the flag that C06's model `Http.parseEtags`
computes (`objOfHttp`: the constructor's `frozenset` applied). `None` gives the empty object. -/
theorem parse_etags_eq (fuel : Nat) (v : List Char) (hlf : '\n' ∉ v) (hf : v.length + 1 ≤ fuel) :
    Gen.PyFns_Etag.parse_etags fuel (some v) = .ok (PyFnsEq.Etag.objOfHttp (Http.parseEtags v)) ∧
    Gen.PyFns_Etag.parse_etags fuel none = .ok ([], [], false) :=
  ⟨PyFnsEq.Etag.parse_etags_eq fuel v hlf hf, PyFnsEq.Etag.parse_etags_none fuel⟩

example : '\n' ∉ "\"a\", W/\"b\"".toList ∧ "\"a\", W/\"b\"".toList.length + 1 ≤ 20 := by decide

/-- Why `parse_etags_eq` excludes line feeds: on `"a\n"` the translated loop exhausts every amount
of fuel - and the real `werkzeug.http.parse_etags("a\n")` does not return either
(`_etag_re.match("a\n", 1)` matches the empty text before the final LF: `pos` never advances while
`strong` grows; replayed on CPython). A header value that reaches the function through WSGI cannot
contain a bare LF; a direct caller can pass one. -/
theorem parse_etags_lf_spins (fuel : Nat) :
    Gen.PyFns_Etag.parse_etags fuel (some ['a', '\n']) = .error "py2lean: out of fuel" :=
  PyFnsEq.Etag.parse_etags_lf_spins fuel

section options
open Wz.Gen.PyFns_HttpOptions Wz.PyFnsEq.HttpOptions

/-- The inner `while pos < length:` loop of `parse_options_header` (the search for the closing quote
of a quoted parameter value), as translated from the current source (`rest[pos : pos + 2] in
{"\\\\", '\\"'}` skips an escaped backslash or quote as a pair, `rest[pos] == '"'` appends
`(pk, rest[: pos + 1])`, cuts `rest = rest[pos + 1 :]` and `break`s, anything else advances by one),
started at the position of any split `rest = acc.reverse ++ suf` of the text, with more fuel than
`suf` has characters: it never leaves the function (no `IndexError` from `rest[pos]`, no
"out of fuel") and falls through with exactly what C06's model scanner `Http.scanQuoted suf acc`
finds - the quoted text including both quotes as a new part and the text after the closing quote as
the new `rest`, or `parts` and `rest` untouched when there is no closing quote. (The final value of
`pos` is not used by the function.) -/
theorem parse_options_header_loop2_eq (pk : Str) (parts : List (Str × Str)) (suf acc : Str) :
    ∀ (fuel : Nat) (rest : Str), suf.length < fuel → rest = acc.reverse ++ suf →
    ∃ p : Int, parse_options_header.loop2 pk (rest.length : Int) fuel (acc.length : Int) parts rest
      = .fall (p, quotedOut pk parts rest (Http.scanQuoted suf acc)) :=
  PyFnsEq.HttpOptions.loop2_eq pk parts suf acc

/-- The outer `while True:` scanner loop of `parse_options_header`, as translated from the current
source, started on any text `rest` with any list `parts` and more fuel than `rest` has characters:
it never returns from the function and never runs out of fuel - neither itself nor the nested
quoted-string loop, which gets the fuel the outer loop has left and needs fewer iterations than
`rest` has characters - and falls through with `parts` extended by exactly the raw `(key, value)`
parts the model scanner `Http.optScan` collects. Every turn consumes at least one character (the
`;`), which is why `len(rest) + 1` units of fuel suffice. -/
theorem parse_options_header_loop1_eq : ∀ (fuel : Nat) (rest : Str) (parts : List (Str × Str)), rest.length < fuel →
    ∃ rest', parse_options_header.loop1 fuel rest parts = .fall (rest', parts ++ Http.optScan fuel rest []) :=
  PyFnsEq.HttpOptions.loop1_eq

/-- The `for pk, pv in parts:` loop of `parse_options_header`, as translated from the current source,
for every list of parts and every state (`options`, `encoding`, `continued_encoding`): it ends with
exactly the state the model's fold `foldlM Http.optFold` reaches, or leaves the function with the
model's error (`IndexError` for an empty key or value - which the scanner never produces, see C07's
`parseOptions_total_safe`). -/
theorem parse_options_header_loop3_eq (parts : List (Str × Str)) : ∀ st : Http.OptState,
    parse_options_header.loop3 parts st.encoding st.continued st.options =
      match parts.foldlM Http.optFold st with
      | .ok st' => .fall (st'.encoding, st'.continued, st'.options)
      | .error e => .ret (.error e) :=
  PyFnsEq.HttpOptions.loop3_eq parts

/-- `parse_options_header(None)` is `("", {})`; no fuel is used. -/
theorem parse_options_header_none (fuel : Nat) :
    parse_options_header fuel none = .ok ([], []) :=
  rfl

/-- `parse_options_header(value)` equals the model with the sharp fuel bound: more fuel than the
stripped text after the first `;` (`optRest value`) has characters - and no fuel at all when that
text is empty (the function returns before its loops). -/
theorem parse_options_header_eq_of_rest (fuel : Nat) (v : List Char)
    (hf : optRest v ≠ [] → (optRest v).length < fuel) :
    parse_options_header fuel (some v) = Http.parseOptionsHeader v :=
  PyFnsEq.HttpOptions.parse_options_header_eq_of_rest fuel v hf

/-- **`parse_options_header(value)`**, as translated from the current source of `werkzeug/http.py`
(`value.partition(";")`, the two `strip`s, the early `return value, {}`, the `while True` scanner
with its nested quoted-string loop, the `for pk, pv in parts` pass with RFC 2231 charsets and
continuations, `return value, options`), for every header text `value` and every amount of fuel
`≥ len(value)`: the marker error "py2lean: out of fuel" does not occur - the real loops terminate -,
and the function returns exactly what C06's model `Http.parseOptionsHeader` returns: the same main
value, the same options in the same insertion order, and (in principle) the same errors. All C06 /
C07 theorems about `Http.parseOptionsHeader` (`parseOptions_dump`, `parseOptions_total_safe`,
`parseOptions_scanner_terminates`, `parseOptions_keys_nonempty`) therefore speak about the current
source. -/
theorem parse_options_header_eq (fuel : Nat) (v : List Char) (hf : v.length ≤ fuel) :
    parse_options_header fuel (some v) = Http.parseOptionsHeader v :=
  PyFnsEq.HttpOptions.parse_options_header_eq fuel v hf

/-- `parse_options_header` never raises on a `str` (C07's totality theorem, transported to the
translated source). -/
theorem parse_options_header_ok (fuel : Nat) (v : List Char) (hf : v.length ≤ fuel) :
    ∃ r, parse_options_header fuel (some v) = .ok r :=
  PyFnsEq.HttpOptions.parse_options_header_ok fuel v hf

/-- C06 `parseOptions_dump` on the translated pair: parsing what the regenerated `dump_options_header`
printed gives header and options back (fuel = the length of the header text). -/
theorem parse_options_dump_translated (h : List Char) (opts : List (List Char × List Char)) (hh : Http.HdrOk h = true)
    (hk : ∀ x ∈ opts, Http.OptKeyOk x.1 = true) (hv : ∀ x ∈ opts, Http.hasPct22 x.2 = false)
    (hnd : (opts.map (·.1)).Nodup) :
    (Gen.PyFns_Http.dump_options_header (some h) (opts.map fun kv => (kv.1, some kv.2)) >>= fun t =>
      parse_options_header t.length (some t)) = .ok (h, opts) := by
  rw [C06T.dump_options_header_eq]
  exact (bind_congr fun t => PyFnsEq.HttpOptions.parse_options_header_eq t.length t (Nat.le_refl _)).trans
    (Http.parseOptions_dump_any h opts hh hk hv hnd)

end options

example : Gen.PyFns_HttpDict.parse_dict_header "a=b, c=\"d, e\", f".toList
    = .ok [("a".toList, some "b".toList), ("c".toList, some "d, e".toList), ("f".toList, none)] := by decide

end Wz.Props.C06T2
