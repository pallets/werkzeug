/-
Routing lemmas: what `_parse_rule` (`parseToks`), `Rule.bind` + `compile` (`bindRule`) and `Map.__init__` (`mkMap`) produce:
the dynamic parts of a rule carry the regex kinds of its converters, in order (`parseToks_kinds`, `Built`); the converters are
the variable tokens, in order (`parseToks_convs`); slash-consuming parts come last (`parseToks_finalShape`); a bound rule
is domain rule then path rule (`bindRule_inv`), starting with the empty static domain part when there is no subdomain /
host rule (`bindRule_nodomain`); the rules of a map are bound specs (`mkMap_rules`).
-/
import WzVerif.Lemmas.RoutingWalk
namespace Wz.Routing

/-- the converter `_parse_rule` has read for the part it is assembling, if any, with its variable name -/
def pendingConvs (p : PState) : List (Str × Conv) := match p.conv with | some (c, n) => [(n, c)] | none => []

theorem emit_kinds (p : PState) (sfx : Bool) : dynKinds [p.emit sfx] = (pendingConvs p).map (·.2.kind) := by
  simp only [PState.emit, pendingConvs]
  cases p.conv <;> rfl

/- The equations of `parseToks`, as `fun_induction` numbers them (also in `parseToks_finalShape`,
`parseToks_convs`): 1 end of the tokens; 2 / 3 literal text in front of / behind the part's converter; 4 a second
converter in one part (`none`); 5 the part's converter; 6 a slash inside a slash-consuming part; 7 / 8 a slash at a part
boundary, the rest failing / parsing. In cases 2, 3, 5, 6 the result is that of the recursive call: the hypothesis goes
to the induction hypothesis as it is. -/
theorem parseToks_kinds (toks : List Tok) (p : PState) : ∀ {parts convs},
    parseToks toks p = some (parts, convs) → dynKinds parts = convs.map (·.2.kind) := by
  fun_induction parseToks toks p <;> intro parts convs h
  case case1 p sfx p' last cv =>
    cases h
    have hp' : p'.conv = p.conv := by
      show (if sfx = true then _ else p).conv = _
      split <;> rfl
    have hk : dynKinds [last] = cv.map (·.2.kind) := by
      show dynKinds [p'.emit sfx] = (pendingConvs p).map (·.2.kind)
      rw [emit_kinds, pendingConvs, pendingConvs, hp']
    split
    · rw [show [last, Part.static []] = [last] ++ [Part.static []] from rfl, dynKinds_append, hk]
      exact List.append_nil _
    · exact hk
  case case4 => cases h
  case case7 => cases h
  case case8 t p _ parts' convs' hrec ih =>
    cases h
    rw [show p.emit false :: parts' = [p.emit false] ++ parts' from rfl, dynKinds_append, emit_kinds, ih hrec,
      List.map_append]
    rfl
  all_goals (rename_i ih; exact ih h)

theorem bindRule_inv {cfg : MapCfg} {i : Nat} {s : RuleSpec} {r : Rule} (h : bindRule cfg i s = some r) :
    r.spec = s ∧ ∃ dp dc pp pc,
      (if (r.domToks cfg).isEmpty then some ([Part.static []], []) else parseRule (r.domToks cfg)) = some (dp, dc) ∧
      parseRule r.pathToks = some (pp, pc) ∧ r.parts = dp ++ pp ∧ r.convs = dc ++ pc := by
  simp only [bindRule] at h
  split at h
  · rename_i dp dc pp pc hdom hpath
    cases h
    exact ⟨rfl, dp, dc, pp, pc, hdom, hpath, rfl, rfl⟩
  · cases h

theorem bindRule_kinds {cfg : MapCfg} {i : Nat} {s : RuleSpec} {r : Rule} (h : bindRule cfg i s = some r) :
    dynKinds r.parts = r.convs.map (·.2.kind) := by
  obtain ⟨_, dp, dc, pp, pc, hdom, hpath, hp, hc⟩ := bindRule_inv h
  rw [hp, hc, dynKinds_append, List.map_append, parseToks_kinds _ _ hpath]
  congr 1
  split at hdom
  · cases hdom; rfl
  · exact parseToks_kinds _ _ hdom

theorem bindRulesFrom_mem {cfg : MapCfg} : ∀ {specs : List RuleSpec} {i : Nat} {rules : List Rule},
    bindRulesFrom cfg i specs = some rules → ∀ r ∈ rules, ∃ j s, s ∈ specs ∧ bindRule cfg j s = some r := by
  intro specs
  induction specs with
  | nil => intro i rules h r hr; simp [bindRulesFrom] at h; subst h; cases hr
  | cons s t ih =>
    intro i rules h r hr
    simp only [bindRulesFrom] at h
    split at h
    · rename_i r0 rs h0 hrest
      cases h
      rcases List.mem_cons.1 hr with rfl | hr
      · exact ⟨i, s, by simp, h0⟩
      · obtain ⟨j, s', hs', hb⟩ := ih hrest r hr
        exact ⟨j, s', List.mem_cons_of_mem _ hs', hb⟩
    · cases h

/-- what `mkMap` guarantees about the map it returns -/
structure Built (cfg : MapCfg) (m : RMap) : Prop where
  cfg_eq : m.cfg = cfg
  root_eq : m.root = buildRoot m.rules
  kinds : ∀ r ∈ m.rules, dynKinds r.parts = r.convs.map (·.2.kind)

theorem mkMap_rules {cfg : MapCfg} {specs : List RuleSpec} {m : RMap} (h : mkMap cfg specs = some m) :
    m.cfg = cfg ∧ m.root = buildRoot m.rules ∧ ∀ r ∈ m.rules, ∃ j s, s ∈ specs ∧ bindRule cfg j s = some r := by
  simp only [mkMap, Option.map_eq_some_iff] at h
  obtain ⟨rules, hb, rfl⟩ := h
  exact ⟨rfl, rfl, bindRulesFrom_mem hb⟩

theorem mkMap_built {cfg : MapCfg} {specs : List RuleSpec} {m : RMap} (h : mkMap cfg specs = some m) : Built cfg m := by
  obtain ⟨h1, h2, h3⟩ := mkMap_rules h
  refine ⟨h1, h2, fun r hr => ?_⟩
  obtain ⟨j, s, _, hbr⟩ := h3 r hr
  exact bindRule_kinds hbr

theorem emit_shape (p : PState) (hf : p.final = false) (t : List Part)
    (ht : FinalShape t) : FinalShape (p.emit false :: t) := by
  simp only [PState.emit]
  cases hc : p.conv with
  | none => exact ht
  | some cn => simp [FinalShape, hf, ht]

theorem parseToks_finalShape (toks : List Tok) (p : PState) : (p.final = true → p.conv.isSome = true) →
    ∀ {parts convs}, parseToks toks p = some (parts, convs) → FinalShape parts := by
  fun_induction parseToks toks p <;> intro hinv parts convs h
  case case1 p sfx p' last cv =>
    cases h
    show FinalShape (if sfx = true then [p'.emit sfx, .static []] else [p'.emit sfx])
    cases hf : p.final with
    | false =>
      have : sfx = false := by show (p.final && _) = false; rw [hf]; rfl
      have hp' : p' = p := by show (if sfx = true then _ else p) = p; rw [this]; rfl
      simp only [this, hp', Bool.false_eq_true, if_false, PState.emit]
      cases hc : p.conv with
      | none => trivial
      | some cn => simp [FinalShape, hf]
    | true =>
      obtain ⟨cn, hc⟩ := Option.isSome_iff_exists.1 (hinv hf)
      cases hs : endsWithChar p.post '/' <;> simp [sfx, p', hf, hs, PState.emit, hc, FinalShape]
  case case4 => cases h
  case case7 => cases h
  case case8 t p hf parts' convs' hrec ih =>
    cases h
    exact emit_shape p (by simpa using hf) parts' (ih (by simp) hrec)
  case case5 => rename_i ih; exact ih (fun _ => rfl) h
  all_goals (rename_i ih; exact ih hinv h)

theorem bindRule_domToks_nil {cfg : MapCfg} {i : Nat} {s : RuleSpec} {r : Rule} (h : bindRule cfg i s = some r)
    (hdom : (if cfg.hostMatching then s.domain.getD [] else s.domain.getD cfg.defaultSubdomain) = []) :
    r.domToks cfg = [] := by
  rw [Rule.domToks, (bindRule_inv h).1]; exact hdom

theorem bindRule_nodomain {cfg : MapCfg} {i : Nat} {s : RuleSpec} {r : Rule} (h : bindRule cfg i s = some r)
    (hdom : (if cfg.hostMatching then s.domain.getD [] else s.domain.getD cfg.defaultSubdomain) = []) :
    ∃ pp pc, r.parts = .static [] :: pp ∧ parseRule r.pathToks = some (pp, pc) ∧ r.convs = pc := by
  obtain ⟨_, dp, dc, pp, pc, hd, hpath, hp, hc⟩ := bindRule_inv h
  rw [bindRule_domToks_nil h hdom] at hd
  cases hd
  exact ⟨pp, pc, hp, hpath, hc⟩

theorem bindRule_finalShape {cfg : MapCfg} {i : Nat} {s : RuleSpec} {r : Rule} (h : bindRule cfg i s = some r)
    (hdom : (if cfg.hostMatching then s.domain.getD [] else s.domain.getD cfg.defaultSubdomain) = []) :
    FinalShape r.parts := by
  obtain ⟨pp, pc, hp, hparse, _⟩ := bindRule_nodomain h hdom
  rw [hp]
  exact parseToks_finalShape _ {} (by intro h; cases h) (parts := pp) hparse

theorem mkMap_finalShape {cfg : MapCfg} {specs : List RuleSpec} {m : RMap} (h : mkMap cfg specs = some m)
    (hsub : cfg.defaultSubdomain = []) (hdom : ∀ s ∈ specs, s.domain = none) :
    ∀ r ∈ m.rules, FinalShape r.parts := by
  intro r hr
  obtain ⟨j, s, hs, hbr⟩ := (mkMap_rules h).2.2 r hr
  exact bindRule_finalShape hbr (by simp [hdom s hs, hsub])

/-- what `_parse_rule` collects as `Rule._converters`: name and converter of each variable, in order -/
def tokVars : List Tok → List (Str × Conv)
  | [] => []
  | .var c n :: t => (n, c) :: tokVars t
  | _ :: t => tokVars t

theorem parseToks_convs (toks : List Tok) (p : PState) : ∀ {parts convs},
    parseToks toks p = some (parts, convs) → convs = pendingConvs p ++ tokVars toks := by
  fun_induction parseToks toks p <;> intro parts convs h
  case case1 => cases h; exact (List.append_nil _).symm
  case case4 => cases h
  case case7 => cases h
  case case8 t p _ parts' convs' hrec ih =>
    cases h
    rw [ih hrec]; rfl
  all_goals (rename_i hc ih; rw [ih h]; simp [pendingConvs, hc, tokVars])

theorem parseRule_convs {toks : List Tok} {pp : List Part} {pc : List (Str × Conv)}
    (h : parseRule toks = some (pp, pc)) : pc = tokVars toks :=
  parseToks_convs toks {} h

end Wz.Routing
