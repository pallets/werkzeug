/-
C06 on *reachable* header sets: a `HeaderSet` that was reached through a mutation history
(`add`, `update`, `remove`, `discard`, `clear`, `del hs[i]`, `hs[i] = v`) is serialised by
`to_header()` from `_headers` alone, while `len`, `in`, `bool`, `as_set()` read the case-folded
index `_set`. `parse_set_header(hs.to_header())` equals `hs` exactly when the two agree — which is
C08's invariant `HS.Inv`, which every admissible history keeps (`C08L.hs_run_refines`).

The mutators are taken in the form regenerated from `structures.py` by `tools/py2lean.py`
(`Gen/PyFns_HeaderSet.lean`): `stepT` runs the *translated* `update` / `add` / `remove` / `discard` /
`__setitem__`, which Lemmas/PyFnsEq_HeaderSet.lean proves equal to C08's hand model — a re-ordering of
the statements of a mutator changes the generated definition and breaks that proof.
-/
import WzVerif.Lemmas.Http
import WzVerif.Lemmas.HttpSet
import WzVerif.Model.HeaderSetCtor
import WzVerif.Lemmas.HeaderSet
import WzVerif.Lemmas.PyFnsEq_HeaderSet
namespace Wz.Http
open Wz

/-! ### the two transcriptions of `quote_header_value` (C08's and C06's) agree -/

theorem hsTokenChars_eq : Gen.Containers.tokenChars = (List.range 256).filter isTokenNat := by decide +kernel

theorem hsTokenChar_eq (c : Char) : Gen.Containers.tokenChars.contains c.toNat = isToken c := by
  rw [isToken_nat, hsTokenChars_eq, Bool.eq_iff_iff, List.contains_iff_mem, List.mem_filter, List.mem_range]
  exact ⟨fun h => h.2, fun h => ⟨by have := isTokenNat_visible h; omega, h⟩⟩

theorem hsIsToken_eq (s : Str) : HS.isToken s = s.all isToken := by
  unfold HS.isToken
  congr 1
  funext c
  exact hsTokenChar_eq c

theorem hsEscape_eq (s : Str) :
    (s.flatMap fun ch => if ch == '\\' then ['\\', '\\'] else if ch == '"' then ['\\', '"'] else [ch]) = escapeDq s := by
  simp only [escapeDq_eq, beq_iff_eq]
  rfl

theorem hsQuote_eq (s : Str) : HS.quoteHeaderValue s = quoteHeaderValue s true := by
  unfold HS.quoteHeaderValue quoteHeaderValue
  rw [hsIsToken_eq, hsEscape_eq]
  simp

theorem hsToHeader_eq (c : HS.St) : HS.toHeader c = headerSetToHeader c.headers := by
  unfold HS.toHeader headerSetToHeader join
  congr 1
  apply List.map_congr_left
  intro s _
  exact hsQuote_eq s

/-- the list `parse_set_header(to_header())` hands to the constructor is the `_headers` list — for
every state, consistent or not -/
theorem parseSet_hsToHeader (c : HS.St) : parseSetHeader (HS.toHeader c) = c.headers := by
  rw [hsToHeader_eq]
  exact parseSet_list_dump_any c.headers

open Gen.PyFns_HeaderSet in
/-- the state after one mutator; `update`, `add`, `remove`, `discard`, `__setitem__` are the
*translated* methods (`on_update` flag dropped), `clear` / `__delitem__` are C08's hand model -/
def stepT (c : HS.St) : HS.Op → HS.St
  | .add h => let r := hs_add c.headers c.set false h; ⟨r.1, r.2.1⟩
  | .remove h => let r := (hs_remove c.headers c.set false h).1; ⟨r.1, r.2.1⟩
  | .discard h => let r := hs_discard c.headers c.set false h; ⟨r.1, r.2.1⟩
  | .update hs => let r := hs_update c.headers c.set false hs; ⟨r.1, r.2.1⟩
  | .setitem i v => let r := (hs_setitem c.headers c.set false i v).1; ⟨r.1, r.2.1⟩
  | .clear => ⟨[], []⟩
  | .delitem i => (HS.delitem c i).st

def runT (c : HS.St) : List HS.Op → HS.St
  | [] => c
  | op :: t => runT (stepT c op) t

theorem stepT_eq (c : HS.St) (op : HS.Op) : stepT c op = (HS.step c op).st := by
  cases op with
  | add h => simp [stepT, HS.step, HsT.hs_add_eq]
  | remove h => simp [stepT, HS.step, HsT.hs_remove_eq]
  | discard h => simp [stepT, HS.step, HsT.hs_discard_eq]
  | update hs => simp [stepT, HS.step, HsT.hs_update_eq]
  | setitem i v => simp [stepT, HS.step, HsT.hs_setitem_eq]
  | clear => rfl
  | delitem i => rfl

theorem runT_eq (c : HS.St) (ops : List HS.Op) : runT c ops = HS.run c ops := by
  induction ops generalizing c with
  | nil => rfl
  | cons op t ih => simp only [runT, HS.run, stepT_eq, ih]

/-- two `HeaderSet` objects are equal as values: same members in the same order (what iteration,
indexing, `find`, `to_header` and `as_set(preserve_casing=True)` see) and the same case-folded index
(what `len`, `in`, `bool`, `as_set()` see; a Python `set`, so order and multiplicity do not count) -/
def HsEquiv (a b : HS.St) : Prop :=
  a.headers = b.headers ∧ (∀ x, x ∈ a.set ↔ x ∈ b.set) ∧ HS.len a = HS.len b

/-- the constructor used here is C08's model of the repaired constructor -/
theorem hsCtor_eq_construct (l : List Str) : hsCtor l = HS.construct l := rfl

/-- the repaired constructor establishes the invariant for **every** input -/
theorem hsCtor_inv (l : List Str) : HS.Inv (hsCtor l) := C08L.hs_construct_inv_any l

theorem hsCtor_headers_of_nodup (l : List Str) (h : (l.map Hdr.lower).Nodup) : (hsCtor l).headers = l :=
  congrArg HS.St.headers (C08L.construct_of_nodup l h)

theorem construct_equiv_of_inv (c : HS.St) (h : HS.Inv c) : HsEquiv (hsCtor c.headers) c := by
  have hi := hsCtor_inv c.headers
  have hh := hsCtor_headers_of_nodup c.headers h.nodup_headers
  refine ⟨hh, ?_, ?_⟩
  · intro x
    rw [hi.mem_set_iff x, h.mem_set_iff x, hh]
  · rw [C08L.hs_len_eq _ hi, C08L.hs_len_eq _ h, hh]

theorem parseSetObj_toHeader (c : HS.St) : parseSetObj (HS.toHeader c) = hsCtor c.headers :=
  congrArg hsCtor (parseSet_hsToHeader c)

theorem parseSet_toHeader_of_inv (c : HS.St) (h : HS.Inv c) : HsEquiv (parseSetObj (HS.toHeader c)) c :=
  parseSetObj_toHeader c ▸ construct_equiv_of_inv c h

instance (a b : HS.St) : Decidable (HsEquiv a b) := by
  unfold HsEquiv
  have : Decidable (∀ x, x ∈ a.set ↔ x ∈ b.set) :=
    decidable_of_iff ((∀ x ∈ a.set, x ∈ b.set) ∧ (∀ x ∈ b.set, x ∈ a.set))
      ⟨fun h x => ⟨h.1 x, h.2 x⟩, fun h => ⟨fun x hx => (h x).1 hx, fun x hx => (h x).2 hx⟩⟩
  exact inferInstance

end Wz.Http
