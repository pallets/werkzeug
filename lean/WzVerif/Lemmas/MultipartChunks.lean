/-
Chunk independence of the decoder on whole bodies (C01): preamble, raw parts with arbitrary header
blocks, epilogue; CRLF / bare-LF / bare-CR line breaks. The run is followed phase by phase (`Phase`,
`Good`: what the buffer and the bytes still to come hold). One `next_event` from a good configuration
(`good_step`) asks for more input or delivers the event that continues a chunked rendering of the
parts (`Renders`), because what the regexes find in the buffer is what they find in the whole stream
(stability); `drain` and `feedAll` are inductions over that step (`decode_events_raw`). What `partsOf`
and `MultiPartParser.parse` make of the events is read off the rendering (`Renders.parts`,
`Renders.form`, `formLoop_feedAll`).
-/
import WzVerif.Lemmas.MultipartRaw
import WzVerif.Lemmas.SearchPos
import WzVerif.Lemmas.FormLimits
namespace Wz.Multipart
open Wz

variable {nl : Nl} {ep pr : Bytes} {lead : Bool}

/-! ### draining with enough fuel

`drain` counts its events down from a bound. The run theorems use `DrainsOk` (a drain that succeeds, with the
events it appended) and `drain_enough` (the fuel `feed` gives it suffices). `Drains d acc r` is the general
answer, failing runs included, once the bound suffices: it does not depend on the bound (`Drains.unique`,
`Drains.of_fuel`). -/

/-- a successful drain needs no more fuel than one unit per buffered byte, plus one -/
theorem drain_enough (f0 : Nat) : ∀ (d : Decoder) (acc : List Event) (r : Run),
    drain f0 d acc = r → r.err = none → ∀ fuel, d.buffer.length < fuel → drain fuel d acc = r := by
  induction f0 with
  | zero => intro d acc r h he; rw [← h] at he; simp [drain] at he
  | succ f0 ih =>
    intro d acc r h he fuel hf
    cases fuel with
    | zero => omega
    | succ k =>
      rw [drain_succ] at h ⊢
      cases hn : nextEvent d with
      | error e => rw [hn] at h; rw [← h] at he; simp at he
      | ok v =>
        rcases v with ⟨ev, d'⟩
        rw [hn] at h
        cases ev with
        | needData => exact h
        | epilogue x => exact h
        | _ => exact ih d' _ r h he k (by have := nextEvent_consumes hn (by simp) (by simp); omega)

theorem drain_fuel_mono (fuel : Nat) : ∀ (d : Decoder) (acc : List Event),
    (drain fuel d acc).err ≠ some "FUEL" → drain (fuel + 1) d acc = drain fuel d acc := by
  induction fuel with
  | zero => intro d acc h; simp [drain] at h
  | succ fuel ih =>
    intro d acc h
    rw [drain_succ fuel] at h
    rw [drain_succ (fuel + 1), drain_succ fuel]
    cases hn : nextEvent d with
    | error e => rfl
    | ok v =>
      rcases v with ⟨ev, d'⟩
      rw [hn] at h
      cases ev with
      | needData => rfl
      | epilogue x => rfl
      | _ => exact ih d' _ h

theorem drain_fuel_add (fuel k : Nat) (d : Decoder) (acc : List Event)
    (h : (drain fuel d acc).err ≠ some "FUEL") : drain (fuel + k) d acc = drain fuel d acc := by
  induction k with
  | zero => rfl
  | succ k ih =>
    rw [← Nat.add_assoc, drain_fuel_mono (fuel + k) d acc (by rw [ih]; exact h), ih]

def Drains (d : Decoder) (acc : List Event) (r : Run) : Prop :=
  ∃ fuel, drain fuel d acc = r ∧ r.err ≠ some "FUEL"

theorem Drains.unique {d : Decoder} {acc : List Event} {r1 r2 : Run}
    (h1 : Drains d acc r1) (h2 : Drains d acc r2) : r1 = r2 := by
  rcases h1 with ⟨f1, e1, n1⟩
  rcases h2 with ⟨f2, e2, n2⟩
  have a := drain_fuel_add f1 f2 d acc (by rw [e1]; exact n1)
  have b := drain_fuel_add f2 f1 d acc (by rw [e2]; exact n2)
  rw [Nat.add_comm] at b
  rw [← e1, ← e2, ← a, b]

theorem Drains.of_fuel {d : Decoder} {acc : List Event} {r : Run} (h : Drains d acc r) (fuel : Nat)
    (hf : (drain fuel d acc).err ≠ some "FUEL") : drain fuel d acc = r :=
  Drains.unique ⟨fuel, rfl, hf⟩ h

theorem Drains.stop {d d' : Decoder} (acc : List Event) (h : nextEvent d = .ok (.needData, d')) :
    Drains d acc { events := acc.reverse, dec := d' } :=
  ⟨1, by simp [drain, h], by simp⟩

theorem Drains.step {d d' : Decoder} {ev : Event} {acc : List Event} {r : Run}
    (h : nextEvent d = .ok (ev, d')) (hne : ev ≠ .needData) (hep : ∀ x, ev ≠ .epilogue x)
    (hr : Drains d' (ev :: acc) r) : Drains d acc r := by
  rcases hr with ⟨fuel, e, n⟩
  exact ⟨fuel + 1, by rw [drain_step _ _ h hne hep, e], n⟩

theorem partHeadEvent_ne (q : Part) : partHeadEvent q ≠ .needData ∧ ∀ x, partHeadEvent q ≠ .epilogue x := by
  unfold partHeadEvent; split <;> simp

theorem Drains.step_data {d d' : Decoder} {x : Bytes} {m : Bool} {acc : List Event} {r : Run}
    (h : nextEvent d = .ok (.data x m, d')) (hr : Drains d' (.data x m :: acc) r) : Drains d acc r :=
  Drains.step h (by simp) (by simp) hr

theorem Drains.step_head {d d' : Decoder} {q : Part} {acc : List Event} {r : Run}
    (h : nextEvent d = .ok (partHeadEvent q, d')) (hr : Drains d' (partHeadEvent q :: acc) r) :
    Drains d acc r :=
  Drains.step h (partHeadEvent_ne q).1 (partHeadEvent_ne q).2 hr

def DrainsOk (d : Decoder) (acc evs : List Event) (d' : Decoder) : Prop :=
  ∃ fuel, drain fuel d acc = { events := acc.reverse ++ evs, err := none, dec := d' }

theorem drainsOk_iff {d d' : Decoder} {acc evs : List Event} :
    DrainsOk d acc evs d' ↔ Drains d acc { events := acc.reverse ++ evs, err := none, dec := d' } :=
  ⟨fun ⟨fuel, e⟩ => ⟨fuel, e, by simp⟩, fun ⟨fuel, e, _⟩ => ⟨fuel, e⟩⟩

theorem DrainsOk.toFeed {d d1 d' : Decoder} {c : Option Bytes} {evs : List Event}
    (hr : receive d c = .ok d1) (h : DrainsOk d1 [] evs d') :
    Multipart.feed d c = { events := evs, err := none, dec := d' } := by
  rcases h with ⟨f0, h0⟩
  rw [feed_of_ok hr, drain_enough f0 d1 [] _ h0 rfl (drainFuel d1) (by simp [drainFuel])]
  simp

theorem DrainsOk.stop {d d' : Decoder} (acc : List Event) (h : nextEvent d = .ok (.needData, d')) :
    DrainsOk d acc [] d' :=
  ⟨1, by simp [drain, h]⟩

theorem DrainsOk.epilogue {d d' : Decoder} {x : Bytes} (acc : List Event)
    (h : nextEvent d = .ok (.epilogue x, d')) : DrainsOk d acc [.epilogue x] d' :=
  ⟨1, by simp [drain, h]⟩

theorem DrainsOk.step {d d1 d' : Decoder} {ev : Event} {acc evs : List Event}
    (h : nextEvent d = .ok (ev, d1)) (hne : ev ≠ .needData) (hep : ∀ x, ev ≠ .epilogue x)
    (hr : DrainsOk d1 (ev :: acc) evs d') : DrainsOk d acc (ev :: evs) d' := by
  obtain ⟨fuel, e⟩ := hr
  exact ⟨fuel + 1, by rw [drain_step _ _ h hne hep, e]; simp⟩

/-- the whole body: preamble bytes `pr`, then either `NL--boundary…` (`lead = true`) or — only
without a preamble — `--boundary…` directly, as browsers send it (`lead = false`); `nl` is the line
break of the delimiter lines -/
def bodyOfR (nl : Nl) (bnd ep pr : Bytes) (lead : Bool) (ps : List RawPart) : Bytes :=
  pr ++ (if lead then rawBody nl bnd ep ps else (rawBody nl bnd ep ps).drop nl.len)

/-- the most general admissible preamble (decidable): `preamble_re` matches nowhere inside it when the
whole body is searched, i.e. the first delimiter the decoder can find is the intended one. The
preamble may contain `--boundary` as long as the occurrence is not a delimiter line (`--boundaryX`,
`--boundary junk`). -/
def PreFreeR (nl : Nl) (bnd ep pr : Bytes) (lead : Bool) (ps : List RawPart) : Prop :=
  if lead then ∀ j, j < pr.length → matchDelimAt bnd true ((pr ++ rawBody nl bnd ep ps).drop j) = none
  else pr = []

instance (nl : Nl) (bnd ep pr : Bytes) (lead : Bool) (ps : List RawPart) :
    Decidable (PreFreeR nl bnd ep pr lead ps) := by
  unfold PreFreeR; split <;> infer_instance

/-- where the decoder stands in the body: in front of the first delimiter (parts `ps` to come); in front
of the header block of `p`, behind the LF of a split CRLF if `lf`; inside the data of `p`; behind the closing
delimiter -/
inductive Phase where
  | pre (ps : List RawPart)
  | hdr (lf : Bool) (p : RawPart) (ps : List RawPart)
  /-- inside the data of part `p`: still in DATA_START (`start`), or in DATA with the payload `E`
  delivered so far -/
  | data (start : Bool) (p : RawPart) (ps : List RawPart) (E : Bytes)
  | epi

/-- a decoder for boundary `bnd` without limits that has not seen the end of the input. (A conjunction, not
a structure: it then holds of `{ d with buffer := …, state := … }` by the same proof as of `d`.) -/
def Plain (bnd : Bytes) (d : Decoder) : Prop :=
  d.boundary = bnd ∧ d.complete = false ∧ d.maxMem = none ∧ d.maxParts = none

theorem Plain.incomplete {bnd : Bytes} {d : Decoder} (h : Plain bnd d) : d.complete = false := h.2.1

theorem Plain.mkDecoder (bnd : Bytes) : Plain bnd (mkDecoder bnd none none) := ⟨rfl, rfl, rfl, rfl⟩

theorem Plain.mkD (bnd buf : Bytes) (st : State) (k : Nat) : Plain bnd (mkD bnd buf st k) := ⟨rfl, rfl, rfl, rfl⟩

/-- the configuration is on track in phase `ph`: `fut` are the bytes of the body still to come. In PREAMBLE
and PART, buffer and `fut` together are the concrete rest of the body and the search position hides nothing;
in DATA_START / DATA the single-shot semantics `dataSpec` of buffer and `fut` together delivers what is
still missing of the payload. That the parts are `RawOk` is kept apart (`PhaseValid`): it does not change
along the run. -/
def Good (nl : Nl) (bnd ep pr : Bytes) (lead : Bool) (d : Decoder) (fut : Bytes) : Phase → Prop
  | .pre ps =>
    Plain bnd d ∧ d.state = .preamble ∧ d.buffer ++ fut = bodyOfR nl bnd ep pr lead ps ∧
      PreFreeR nl bnd ep pr lead ps ∧ NoEarly bnd d.searchPos d.buffer
  | .hdr lf p ps =>
    Plain bnd d ∧ d.state = .part ∧ d.buffer ++ fut = lfPre lf ++ rAfterOf nl bnd ep (p :: ps) ∧
      NoEarlyBlank d.searchPos d.buffer
  | .data start p ps E =>
    Plain bnd d ∧ d.state = (if start then .dataStart else .data) ∧ d.searchPos = 0 ∧
      (start = true → 0 < lbLen d.buffer) ∧
      ∃ P, dataSpec bnd start (d.buffer ++ fut) = some (P, ps.isEmpty, rAfterOf nl bnd ep ps) ∧
        E ++ P = p.payload
  | .epi => Plain bnd d ∧ d.state = .epilogue

theorem Good.plain {bnd : Bytes} {d : Decoder} {fut : Bytes} {ph : Phase} (h : Good nl bnd ep pr lead d fut ph) :
    Plain bnd d := by
  cases ph <;> exact h.1

theorem Good.epi_state {bnd : Bytes} {d : Decoder} {fut : Bytes} (h : Good nl bnd ep pr lead d fut .epi) :
    d.state = .epilogue := h.2

theorem good_start {bnd : Bytes} {ps : List RawPart} (hpre : PreFreeR nl bnd ep pr lead ps) :
    Good nl bnd ep pr lead (mkDecoder bnd none none) (bodyOfR nl bnd ep pr lead ps) (.pre ps) :=
  ⟨.mkDecoder bnd, rfl, rfl, hpre, NoEarly.zero _ _⟩

theorem good_hdr {bnd : Bytes} {d : Decoder} {fut : Bytes} {lf : Bool} {p : RawPart} {ps : List RawPart}
    (hpl : Plain bnd d) (hst : d.state = .part) (hsp : d.searchPos = 0)
    (hcat : d.buffer ++ fut = lfPre lf ++ rAfterOf nl bnd ep (p :: ps)) :
    Good nl bnd ep pr lead d fut (.hdr lf p ps) :=
  ⟨hpl, hst, hcat, hsp ▸ NoEarlyBlank.zero _⟩

theorem good_epi {bnd : Bytes} {d : Decoder} {fut : Bytes} (hpl : Plain bnd d) (hst : d.state = .epilogue) :
    Good nl bnd ep pr lead d fut .epi := ⟨hpl, hst⟩

theorem good_step_hdr {bnd : Bytes} (hb : BoundaryOk bnd) {d : Decoder} {fut : Bytes} {lf : Bool} {p : RawPart}
    {ps : List RawPart} (hv : RawOk nl bnd p) (hvs : ∀ q ∈ ps, RawOk nl bnd q)
    (hg : Good nl bnd ep pr lead d fut (.hdr lf p ps)) :
    (∃ d', nextEvent d = .ok (.needData, d') ∧ Good nl bnd ep pr lead d' fut (.hdr lf p ps) ∧ fut ≠ []) ∨
    (∃ d', nextEvent d = .ok (partHeadEvent p.out, d') ∧ Good nl bnd ep pr lead d' fut (.data true p ps [])) := by
  rcases hg with ⟨⟨hbn, hcomp, hmm, hmp⟩, hst, hcat, hearly⟩
  rcases rawOk_head hv with ⟨x, t, hx, hsp⟩
  have hxn : isNl x = false := hsp
  have hev := rawOk_event hv
  rcases rAfterOf_cons_blank (nl := nl) (ep := ep) bnd p ps with ⟨Z, hZ, hdZ⟩
  -- the whole stream and its first blank line
  have hW : d.buffer ++ fut = lfPre lf ++ (p.hdr ++ (nl.bytes ++ (nl.bytes ++ Z))) := by
    rw [hcat, hZ]
  let L := (lfPre lf).length + p.hdr.length
  have hsb0 : searchBlank (p.hdr ++ (nl.bytes ++ (nl.bytes ++ Z))) =
      some (p.hdr.length, p.hdr.length + 2 * nl.len) := by
    have := searchBlank_append_stable Z hv.blank
    simpa [List.append_assoc] using this
  have hsbW : searchBlank (d.buffer ++ fut) = some (L, L + 2 * nl.len) := by
    rw [hW]
    have e1 : p.hdr ++ (nl.bytes ++ (nl.bytes ++ Z)) = x :: (t ++ (nl.bytes ++ (nl.bytes ++ Z))) := by
      rw [hx]; rfl
    rw [e1, searchBlank_lf_pre lf _ hxn, ← e1, hsb0]
    simp [shift2, L]; omega
  -- the retained search position does not matter
  have hfrom : searchBlankFrom d.searchPos d.buffer = searchBlank d.buffer := hearly.search
  cases hq : searchBlank d.buffer with
  | some v =>
    -- by stability it is the blank line that ends the header block
    right
    have hsb : searchBlank d.buffer = some (L, L + 2 * nl.len) := by
      obtain ⟨s, e⟩ := v
      rw [← hsbW, searchBlank_append_stable fut hq]; exact hq
    have hlen := (searchBlank_bounds hsb).2
    have htake : d.buffer.take L = lfPre lf ++ p.hdr := by
      have : (d.buffer ++ fut).take L = lfPre lf ++ p.hdr := by
        rw [hW, ← List.append_assoc]; exact List.take_left' (by simp [L])
      rw [List.take_append_of_le_length (by omega)] at this
      exact this
    have hevL : headEvent (lfPre lf ++ p.hdr) = .ok (partHeadEvent p.out) := by
      rw [hx, headEvent_congr (parseHeaders_lf_pre lf t hsp), ← hx]; exact hev
    have hdropW : (d.buffer ++ fut).drop (L + nl.len) = rDataOf nl bnd ep p ps := by
      rw [hW, ← List.append_assoc, hdZ]
      have : L + nl.len = (lfPre lf ++ p.hdr).length + nl.len := by simp [L]
      rw [this, List.drop_length_add_append]; simp [Nl.len]
    have hdrop : d.buffer.drop (L + nl.len) ++ fut = rDataOf nl bnd ep p ps := by
      rw [← hdropW, List.drop_append_of_le_length (by omega)]
    have hhalf : (L + (L + 2 * nl.len)) / 2 = L + nl.len := by omega
    let d' : Decoder := { d with buffer := d.buffer.drop (L + nl.len), state := .dataStart, searchPos := 0,
                                 partsDecoded := d.partsDecoded + 1 }
    have hstep : step d = .ok (partHeadEvent p.out, d') := by
      have := step_part_of_headEvent hst hmp (by rw [hfrom, hsb]) (by rw [htake]; exact hevL)
      rw [hhalf] at this
      exact this
    refine ⟨d', nextEvent_of_step hcomp hstep, ?_⟩
    have hlbW : lbLen (d'.buffer ++ fut) = nl.len := by
      simp only [d']; rw [hdrop]; exact lbLen_rDataOf p ps hv
    have hnp := nl.len_pos
    refine ⟨⟨hbn, hcomp, hmm, hmp⟩, rfl, rfl, fun _ => ?_, p.payload, ?_, rfl⟩
    · exact lbLen_pos_of_append (List.ne_nil_of_length_pos (by simp [d']; omega)) (by rw [hlbW]; exact hnp)
    · simp only [d']; rw [hdrop]; exact dataSpec_rDataOf hb p ps hv hvs
  | none =>
    left
    refine ⟨{ d with searchPos := d.buffer.length - searchExtra },
      nextEvent_of_step hcomp (by rw [step_part_eq hst, hfrom, hq]),
      ⟨⟨hbn, hcomp, hmm, hmp⟩, hst, hcat, noEarlyBlank_next hq⟩, ?_⟩
    intro hfe
    rw [hfe, List.append_nil, hq] at hsbW
    simp at hsbW

theorem lbLen_of_crlf_prefix {b fut Z : Bytes} (h : b ++ fut = 13 :: 10 :: Z) (h2 : 2 ≤ b.length) :
    lbLen b = 2 := by
  match b, h2 with
  | x :: y :: t, _ =>
    simp at h
    rw [h.1, h.2.1]; simp [lbLen]

theorem rawBody_match {bnd : Bytes} (ps : List RawPart) (hvs : ∀ q ∈ ps, RawOk nl bnd q) :
    ∃ m, matchDelimAt bnd false (rawBody nl bnd ep ps) = some (nl.len + (bnd.length + 2) + m, ps.isEmpty) ∧
      (rawBody nl bnd ep ps).drop (nl.len + (bnd.length + 2) + m) = rAfterOf nl bnd ep ps := by
  rcases matchTail_afterDelimNl (rAfterDelim_tailOf (nl := nl) (ep := ep) ps hvs) with ⟨m, hm, hdrop⟩
  refine ⟨m, ?_, ?_⟩
  · rw [rawBody_eq]; exact matchDelimAt_delimNl nl bnd hm
  · rw [rawBody_eq, drop_delimNl, hdrop]

/-- what comes after the delimiter that ends a part -/
def GoodNext (nl : Nl) (bnd ep pr : Bytes) (lead : Bool) (d : Decoder) (fut : Bytes) : List RawPart → Prop
  | [] => Good nl bnd ep pr lead d fut .epi
  | p :: ps => ∃ lf, Good nl bnd ep pr lead d fut (.hdr lf p ps)

/-- after a delimiter of kind `f` the run is in EPILOGUE, or in front of the next header block (behind
the LF of a CRLF that a chunk border split, if any) -/
theorem goodNext_after {bnd : Bytes} {d' : Decoder} {fut : Bytes} {ps : List RawPart} {f : Bool}
    (hpl : Plain bnd d') (hst : d'.state = afterDelim f) (hsp : d'.searchPos = 0) (hf : f = ps.isEmpty)
    (hrest : f = false → ∃ lf, d'.buffer ++ fut = lfPre lf ++ rAfterOf nl bnd ep ps) :
    GoodNext nl bnd ep pr lead d' fut ps := by
  cases ps with
  | nil => subst hf; exact (good_epi hpl hst : Good nl bnd ep pr lead d' fut .epi)
  | cons p' ps' =>
    subst hf
    obtain ⟨lf, hl⟩ := hrest rfl
    exact ⟨lf, good_hdr hpl hst hsp hl⟩

theorem body_search {bnd : Bytes} {ps : List RawPart} (hvs : ∀ q ∈ ps, RawOk nl bnd q)
    (hpre : PreFreeR nl bnd ep pr lead ps) :
    ∃ e, searchDelim bnd true (bodyOfR nl bnd ep pr lead ps) = some (pr.length, e, ps.isEmpty) ∧
      (bodyOfR nl bnd ep pr lead ps).drop e = rAfterOf nl bnd ep ps := by
  rcases rawBody_match (nl := nl) (ep := ep) ps hvs with ⟨m, hM, hMdrop⟩
  cases lead with
  | true =>
    simp only [PreFreeR, if_true] at hpre
    simp only [bodyOfR, if_true]
    refine ⟨_, searchDelim_eq_some (by rw [List.drop_left]; exact matchDelimAt_true_of_false hM) hpre, ?_⟩
    rw [List.drop_length_add_append, hMdrop]
  | false =>
    simp only [PreFreeR, Bool.false_eq_true, if_false] at hpre
    subst hpre
    simp only [bodyOfR, Bool.false_eq_true, if_false, List.nil_append, List.length_nil]
    obtain ⟨r, m', _, hd, hm', hn⟩ := matchDelimAt_false_iff.1 hM
    have hl : lbLen (rawBody nl bnd ep ps) = nl.len := by rw [rawBody_eq]; exact nl.lbLen_delim bnd _
    rw [hl] at hd hn
    have hl0 : lbLen (delim bnd ++ r) = 0 := lbLen_cons_not_nl (by decide)
    refine ⟨_, searchDelim_eq_some (s := 0) (n := (bnd.length + 2) + m') ?_
      (fun j hj => absurd hj (Nat.not_lt_zero j)), ?_⟩
    · rw [List.drop_zero, hd]
      exact matchDelimAt_iff.2 ⟨r, m', by simp, by rw [hl0]; rfl, hm', by rw [hl0]; omega⟩
    · rw [List.drop_drop, ← hMdrop]; congr 1; omega

theorem good_step_pre {bnd : Bytes} {d : Decoder} {fut : Bytes}
    {ps : List RawPart} (hvs : ∀ q ∈ ps, RawOk nl bnd q) (hg : Good nl bnd ep pr lead d fut (.pre ps)) :
    (∃ d', nextEvent d = .ok (.needData, d') ∧ Good nl bnd ep pr lead d' fut (.pre ps) ∧ fut ≠ []) ∨
    (∃ x d', nextEvent d = .ok (.preamble x, d') ∧ GoodNext nl bnd ep pr lead d' fut ps) := by
  rcases hg with ⟨hpl, hst, hcat, hpre, hearly⟩
  have hpl' := hpl
  rcases hpl with ⟨hbn, hcomp, hmm, hmp⟩
  obtain ⟨e0, hB, hB0⟩ := body_search (nl := nl) (ep := ep) hvs hpre
  -- the retained search position does not matter
  have hfrom : searchDelimFrom d.boundary true d.searchPos d.buffer = searchDelim bnd true d.buffer := by
    rw [hbn]; exact hearly.search
  cases hsb : searchDelim bnd true d.buffer with
  | none =>
    left
    refine ⟨{ d with searchPos := nextSearchPos d.boundary d.buffer d.searchPos },
      nextEvent_of_step hcomp (by rw [step_of_preamble hst, hfrom, hsb]),
      ⟨hpl', hst, hcat, hpre, ?_⟩, ?_⟩
    · rw [hbn]; exact noEarly_next hearly hsb
    · intro hfe
      rw [hfe, List.append_nil] at hcat
      rw [hcat, hB] at hsb; simp at hsb
  | some v =>
    -- by stability it is the first delimiter of the body
    obtain ⟨s, e, f⟩ := v
    right
    obtain ⟨e', hst', hrel⟩ := searchDelim_append_stable hsb fut
    rw [hcat, hB] at hst'
    simp only [Option.some.injEq, Prod.mk.injEq] at hst'
    obtain ⟨rfl, rfl, hf⟩ := hst'
    have hbd := searchDelim_bounds hsb
    refine ⟨_, { d with buffer := d.buffer.drop e, state := afterDelim f, searchPos := 0 },
      nextEvent_of_step hcomp (by rw [step_of_preamble hst, hfrom, hsb]), ?_⟩
    refine goodNext_after hpl' rfl rfl hf.symm fun h => ?_
    rw [← hB0, ← hcat]
    exact lfPre_of_or (drop_after_split hbd.2 (hrel h))

theorem nextEvent_data_eq {d : Decoder} (hc : d.complete = false) (hst : d.state = .data) :
    nextEvent d = stepData d false ∨ ∃ d', stepData d false = .ok (.needData, d') ∧ nextEvent d = .ok (.needData, d') :=
  Or.inl ((nextEvent_eq_step hc).trans (step_of_data (start := false) hst))

theorem good_step_data {bnd : Bytes} (hb : BoundaryOk bnd) {d : Decoder} {fut : Bytes} {start : Bool} {p : RawPart}
    {ps : List RawPart} {E : Bytes} (hg : Good nl bnd ep pr lead d fut (.data start p ps E)) :
    (∃ d', nextEvent d = .ok (.needData, d') ∧ Good nl bnd ep pr lead d' fut (.data start p ps E) ∧ fut ≠ []) ∨
    (∃ x d', nextEvent d = .ok (.data x true, d') ∧ Good nl bnd ep pr lead d' fut (.data false p ps (E ++ x))) ∨
    (∃ x d', E ++ x = p.payload ∧ nextEvent d = .ok (.data x false, d') ∧ GoodNext nl bnd ep pr lead d' fut ps) := by
  obtain ⟨hpl, hst, hsp, hl, P, hP, hE⟩ := hg
  obtain ⟨hbn, hcomp, hmm, hmp⟩ := id hpl
  obtain ⟨x, buf', start', nx, hs⟩ := dataStep_stream hb start d.buffer hl
  have hrel := hs.released fut
  have hds := hs.eq
  rw [← hbn] at hds
  have hnext := nextEvent_of_step hcomp ((step_of_data hst).trans (stepData_of hds))
  cases nx with
  | some f =>
    -- the delimiter is the stream's: the part is complete
    obtain ⟨R, hR, hrest⟩ := released_some.1 hrel
    rw [hP] at hR
    injection hR with hR; injection hR with h1 hR; injection hR with h2 h3
    subst h1 h2 h3
    cases start' with
    | true => exact absurd (hs.waits rfl).2.2.2 (by simp)
    | false =>
      rw [if_neg (by simp), if_pos (by simp)] at hnext
      exact Or.inr (Or.inr ⟨P, _, hE, hnext, goodNext_after hpl rfl hsp rfl fun h => lfPre_of_or (hrest h)⟩)
  | none =>
    have hfut : fut ≠ [] := fun h0 => by
      rw [h0, List.append_nil, dataSpec_eq, hs.undecided_iff.1 rfl] at hP; cases hP
    -- what is released is the front of the payload still expected
    obtain ⟨P', hP', rfl⟩ : ∃ P', dataSpec bnd start' (buf' ++ fut) = some (P', ps.isEmpty, rAfterOf nl bnd ep ps) ∧
        P = x ++ P' := by
      rw [released_none.1 hrel] at hP
      cases hq : dataSpec bnd start' (buf' ++ fut) with
      | none => rw [hq] at hP; cases hP
      | some r => obtain ⟨P', r2⟩ := r; rw [hq] at hP; cases hP; exact ⟨P', rfl, rfl⟩
    cases start' with
    | true =>
      obtain ⟨rfl, rfl, rfl, _⟩ := hs.waits rfl
      rw [if_pos rfl] at hnext
      exact Or.inl ⟨_, hnext, ⟨hpl, rfl, hsp, hl, _, hP', hE⟩, hfut⟩
    | false =>
      rw [if_neg (by simp)] at hnext
      by_cases hx : (start || !x.isEmpty || (none : Option Bool).isSome) = true
      · rw [if_pos hx] at hnext
        exact Or.inr (Or.inl ⟨x, _, hnext,
          ⟨hpl, rfl, hsp, fun h => (by cases h), P', hP', by rw [← hE, List.append_assoc]⟩⟩)
      · rw [if_neg hx] at hnext
        have hx' : start = false ∧ x = [] := by cases start <;> cases x <;> simp at hx ⊢
        obtain ⟨rfl, rfl⟩ := hx'
        exact Or.inl ⟨_, hnext, ⟨hpl, rfl, hsp, fun h => (by cases h), P', hP', hE⟩, hfut⟩

theorem good_step_epi {bnd : Bytes} {d : Decoder} {fut : Bytes} (hg : Good nl bnd ep pr lead d fut .epi) :
    nextEvent d = .ok (.needData, d) := by
  have hcomp := hg.plain.incomplete
  rw [nextEvent_eq_step hcomp, step_of_epilogue hg.epi_state, hcomp]
  rfl

/-- where a rendering stands: in front of the first delimiter; behind a delimiter, in front of the
parts `ps`; inside part `p`, the payload `E` delivered so far -/
inductive Pos where
  | start (ps : List Part)
  | between (ps : List Part)
  | inside (p : Part) (E : Bytes) (ps : List Part)

/-- `Renders pos evs`: from `pos` on, `evs` is what a decoder may deliver for the parts: a Preamble
event, per part its Field / File event and Data events whose payloads concatenate to the part's payload
(the last one, and only it, final), then the Epilogue event. The run theorems below establish this of
every chunking; what `partsOf` and `MultiPartParser.parse` make of the events are two readings of it. -/
inductive Renders : Pos → List Event → Prop
  | pre {ps x t} : Renders (.between ps) t → Renders (.start ps) (.preamble x :: t)
  | head {p ps t} : p.isFile = p.filename.isSome → Renders (.inside p [] ps) t →
      Renders (.between (p :: ps)) (partHeadEvent p :: t)
  | more {p E x ps t} : Renders (.inside p (E ++ x) ps) t → Renders (.inside p E ps) (.data x true :: t)
  | last {p E x ps t} : E ++ x = p.payload → Renders (.between ps) t →
      Renders (.inside p E ps) (.data x false :: t)
  | epi {y} : Renders (.between []) [.epilogue y]

theorem partsGo_head (cur : Option Part) {p : Part} (hf : p.isFile = p.filename.isSome) (t : List Event) :
    partsGo cur (partHeadEvent p :: t) = cur.toList ++ partsGo (some { p with payload := [] }) t := by
  obtain ⟨isFile, name, filename, headers, payload⟩ := p
  cases filename <;> simp only [Option.isSome] at hf <;> subst hf <;> rfl

theorem Renders.parts {pos : Pos} {evs : List Event} (h : Renders pos evs) :
    match pos with
    | .start ps | .between ps => ∀ cur, partsGo cur evs = cur.toList ++ ps
    | .inside p E ps => partsGo (some { p with payload := E }) evs = p :: ps := by
  induction h with
  | pre _ ih => intro cur; cases cur <;> exact ih _
  | head hf _ ih => intro cur; rw [partsGo_head cur hf, ih]
  | more _ ih => exact ih
  | @last p E x ps t hx _ ih =>
    have : ({ p with payload := E ++ x } : Part) = p := by rw [hx]
    show partsGo (some { p with payload := E ++ x }) t = p :: ps
    rw [this, ih]; rfl
  | epi => intro cur; cases cur <;> rfl

abbrev FormOut := List (Option Str × Str) × List FileItem

/-- what `MultiPartParser.parse` does when a part is complete -/
def finishP (acc : FormOut) (q : Part) : Except String FormOut :=
  if q.isFile then .ok (acc.1, acc.2 ++ [⟨q.name, q.filename.getD [], q.headers, q.payload⟩])
  else
    match partCharset q.headers with
    | .error e => .error e
    | .ok cs => .ok (acc.1 ++ [(q.name, decodeCharset cs q.payload)], acc.2)

/-- the fields and files of a list of decoded parts, in order -/
def formOfParts (acc : FormOut) : List Part → Except String FormOut
  | [] => .ok acc
  | q :: t =>
    match finishP acc q with
    | .error e => .error e
    | .ok a => formOfParts a t

def outOf (st : FormState) : FormOut := (st.fields, st.files)

theorem formEvent_head (st : FormState) {p : Part} (hf : p.isFile = p.filename.isSome) :
    ∃ fs, formEvent none st (partHeadEvent p) =
      .ok { st with cur := some { p with payload := [] }, fieldSize := fs } := by
  obtain ⟨isFile, name, filename, headers, payload⟩ := p
  cases filename <;> simp only [Option.isSome] at hf <;> subst hf <;> exact ⟨_, rfl⟩

/-- what `MultiPartParser.parse` makes of a rendering: a field or file per part, or the first charset
error -/
theorem Renders.form {pos : Pos} {evs : List Event} (h : Renders pos evs) :
    match pos with
    | .start ps | .between ps => ∀ st, (formEvents none st evs).map outOf = formOfParts (outOf st) ps
    | .inside p E ps => ∀ st, st.cur = some { p with payload := E } →
        (formEvents none st evs).map outOf = formOfParts (outOf st) (p :: ps) := by
  induction h with
  | pre _ ih => exact fun st => ih st
  | @head p ps t hf _ ih =>
    intro st
    obtain ⟨fs, hfs⟩ := formEvent_head st hf
    rw [formEvents_cons, hfs]
    exact ih _ rfl
  | @more p E x ps t _ ih =>
    intro st hcur
    rw [formEvents_cons, formEvent_data, hcur]
    exact ih _ rfl
  | @last p E x ps t hx _ ih =>
    intro st hcur
    have hq : ({ p with payload := E ++ x } : Part) = p := by rw [hx]
    rw [formEvents_cons, formEvent_data, hcur]
    dsimp only [fieldSizeStep]
    rw [hq]
    -- the part is stored the way `finishP` stores it
    simp only [storeData, formOfParts, finishP, Bool.false_eq_true, if_false]
    cases p.isFile with
    | true => exact ih _
    | false =>
      simp only [Bool.false_eq_true, if_false]
      cases partCharset p.headers with
      | error e => rfl
      | ok cs => exact ih _
  | epi => exact fun st => rfl

/-- `MultiPartParser.parse` consumes the decoder's events in order: when the decoder raises nothing,
its result is `formEvents` over all events of the run -/
theorem formLoop_feedAll (m : Option Nat) (chunks : List Bytes) : ∀ (d : Decoder) (st : FormState),
    (feedAll d chunks).err = none →
    formLoop m d st (chunks.map some ++ [none]) = formEvents m st (feedAll d chunks).events := by
  induction chunks with
  | nil =>
    intro d st h
    simp only [feedAll] at h
    simp only [List.map_nil, List.nil_append, formLoop, feedAll, h]
    cases formEvents m st (feed d none).events <;> rfl
  | cons c cs ih =>
    intro d st h
    simp only [feedAll] at h ⊢
    cases he : (feed d (some c)).err with
    | some e => rw [he] at h; simp only [he] at h; cases h
    | none =>
      rw [he] at h
      simp only [List.map_cons, List.cons_append, formLoop, he, formEvents_append]
      cases formEvents m st (feed d (some c)).events with
      | error e => rfl
      | ok st' => exact ih _ st' h

/-- where the rendering of the parts stands in a phase of the run -/
def Phase.pos : Phase → Pos
  | .pre ps => .start (ps.map RawPart.out)
  | .hdr _ p ps => .between ((p :: ps).map RawPart.out)
  | .data _ p ps E => .inside p.out E (ps.map RawPart.out)
  | .epi => .between []

/-- the parts of the phase, the current one included, are `RawOk` -/
def PhaseValid (nl : Nl) (bnd : Bytes) : Phase → Prop
  | .pre ps => ∀ q ∈ ps, RawOk nl bnd q
  | .hdr _ p ps => RawOk nl bnd p ∧ ∀ q ∈ ps, RawOk nl bnd q
  | .data _ p ps _ => RawOk nl bnd p ∧ ∀ q ∈ ps, RawOk nl bnd q
  | .epi => True

theorem goodNext_phase {bnd : Bytes} {d : Decoder} {fut : Bytes} {ps : List RawPart}
    (h : GoodNext nl bnd ep pr lead d fut ps) (hv : ∀ q ∈ ps, RawOk nl bnd q) :
    ∃ ph', Good nl bnd ep pr lead d fut ph' ∧ PhaseValid nl bnd ph' ∧ ph'.pos = .between (ps.map RawPart.out) := by
  cases ps with
  | nil => exact ⟨.epi, h, trivial, rfl⟩
  | cons p' ps' =>
    obtain ⟨lf, hg⟩ := h
    exact ⟨.hdr lf p' ps', hg, ⟨hv p' (by simp), fun q hq => hv q (by simp [hq])⟩, rfl⟩

/-- **one `next_event` from a good configuration**: it asks for more data and the configuration
stays good (in a phase other than EPILOGUE only while something is still to come), or it delivers an
event that continues the rendering of the parts and the configuration is good for the next phase -/
theorem good_step {bnd : Bytes} (hb : BoundaryOk bnd) {d : Decoder} {fut : Bytes} {ph : Phase}
    (hg : Good nl bnd ep pr lead d fut ph) (hv : PhaseValid nl bnd ph) :
    (∃ d', nextEvent d = .ok (.needData, d') ∧ Good nl bnd ep pr lead d' fut ph ∧ (fut = [] → ph = .epi)) ∨
    (∃ ev d' ph', nextEvent d = .ok (ev, d') ∧ ev ≠ .needData ∧ (∀ x, ev ≠ .epilogue x) ∧
      Good nl bnd ep pr lead d' fut ph' ∧ PhaseValid nl bnd ph' ∧
      ∀ t, Renders ph'.pos t → Renders ph.pos (ev :: t)) := by
  cases ph with
  | epi => exact Or.inl ⟨d, good_step_epi hg, hg, fun _ => rfl⟩
  | pre ps =>
    rcases good_step_pre hv hg with ⟨d', h1, h2, h3⟩ | ⟨x, d', h1, h2⟩
    · exact Or.inl ⟨d', h1, h2, fun h => absurd h h3⟩
    · obtain ⟨ph1, hg1, hv1, hn1⟩ := goodNext_phase h2 hv
      exact Or.inr ⟨_, d', ph1, h1, by simp, by simp, hg1, hv1, fun t h => .pre (hn1 ▸ h)⟩
  | hdr lf p ps =>
    rcases good_step_hdr hb hv.1 hv.2 hg with ⟨d', h1, h2, h3⟩ | ⟨d', h1, h2⟩
    · exact Or.inl ⟨d', h1, h2, fun h => absurd h h3⟩
    · exact Or.inr ⟨_, d', _, h1, (partHeadEvent_ne _).1, (partHeadEvent_ne _).2, h2, hv,
        fun t h => .head p.out_isFile h⟩
  | data start p ps E =>
    rcases good_step_data hb hg with ⟨d', h1, h2, h3⟩ | ⟨x, d', h1, h2⟩ | ⟨x, d', hx, h1, h2⟩
    · exact Or.inl ⟨d', h1, h2, fun h => absurd h h3⟩
    · exact Or.inr ⟨_, d', _, h1, by simp, by simp, h2, hv, fun t h => .more h⟩
    · obtain ⟨ph1, hg1, hv1, hn1⟩ := goodNext_phase h2 hv.2
      exact Or.inr ⟨_, d', ph1, h1, by simp, by simp, hg1, hv1, fun t h => .last hx (hn1 ▸ h)⟩

/-- **draining keeps the run on track**: from any good configuration, `drain` delivers events that
continue the rendering and stops in a good configuration; when nothing more is to come it stops after
the closing delimiter. (Induction on a bound for the buffer: every event consumes a byte. Not an instance of
`drain_rule`: that the run stands in EPILOGUE when nothing is to come holds at the NEED_DATA answer only, not
after every event.) -/
theorem drain_good {bnd : Bytes} (hb : BoundaryOk bnd) (fut : Bytes) :
    ∀ (n : Nat) (d : Decoder) (ph : Phase) (acc : List Event), d.buffer.length < n →
      Good nl bnd ep pr lead d fut ph → PhaseValid nl bnd ph →
      ∃ evs d' ph', DrainsOk d acc evs d' ∧ Good nl bnd ep pr lead d' fut ph' ∧ PhaseValid nl bnd ph' ∧
        (∀ t, Renders ph'.pos t → Renders ph.pos (evs ++ t)) ∧ (fut = [] → ph' = .epi) := by
  intro n
  induction n with
  | zero => intro d ph acc hlt; omega
  | succ n ih =>
    intro d ph acc hlt hg hv
    rcases good_step hb hg hv with ⟨d', h1, h2, h3⟩ | ⟨ev, d', ph', h1, hne, hep, hg', hv', hr⟩
    · exact ⟨[], d', ph, DrainsOk.stop acc h1, h2, hv, fun t h => h, h3⟩
    · have := nextEvent_consumes h1 hne hep
      obtain ⟨evs, d2, ph2, hd, hg2, hv2, hr2, hf⟩ := ih d' ph' (ev :: acc) (by omega) hg' hv'
      exact ⟨ev :: evs, d2, ph2, DrainsOk.step h1 hne hep hd, hg2, hv2, fun t h => hr _ (hr2 t h), hf⟩

theorem good_receive {bnd : Bytes} {d : Decoder} {c fut : Bytes} {ph : Phase}
    (hg : Good nl bnd ep pr lead d (c ++ fut) ph) :
    ∃ d1, receive d (some c) = .ok d1 ∧ Good nl bnd ep pr lead d1 fut ph := by
  have hpl := hg.plain
  rcases hpl with ⟨hbn, hcomp, hmm, hmp⟩
  refine ⟨_, receive_some_of_fits fun m hm => (by rw [hmm] at hm; cases hm), ?_⟩
  cases ph with
  | epi => exact ⟨⟨hbn, hcomp, hmm, hmp⟩, hg.2⟩
  | pre ps =>
    rcases hg with ⟨_, hst, hcat, hfree, hearly⟩
    exact ⟨⟨hbn, hcomp, hmm, hmp⟩, hst, by simpa using hcat, hfree, hearly.append c⟩
  | hdr lf p ps =>
    rcases hg with ⟨_, hst, hcat, hearly⟩
    exact ⟨⟨hbn, hcomp, hmm, hmp⟩, hst, by simpa using hcat, hearly.append c⟩
  | data start p ps E =>
    rcases hg with ⟨_, hst, hsp, hl, P, hP, hE⟩
    exact ⟨⟨hbn, hcomp, hmm, hmp⟩, hst, hsp, fun h => Nat.lt_of_lt_of_le (hl h) (lbLen_append_ge _ _), P,
      by simpa using hP, hE⟩

theorem feed_none_epi {bnd : Bytes} {d : Decoder} (hg : Good nl bnd ep pr lead d [] .epi) :
    feed d none = { events := [.epilogue d.buffer], err := none,
                    dec := { d with complete := true, buffer := [], state := .complete } } := by
  -- `receive_data(None)` marks the input complete; EPILOGUE then hands over the whole buffer
  have hn : nextEvent { d with complete := true } =
      .ok (.epilogue d.buffer, { d with complete := true, buffer := [], state := .complete }) := by
    rw [nextEvent_of_ok ((step_of_epilogue (d := { d with complete := true }) hg.epi_state).trans (if_pos rfl))]
    rfl
  simp [feed_of_ok (receive_none d), drainFuel, drain_succ, hn]

theorem feedAll_good {bnd : Bytes} (hb : BoundaryOk bnd) (chunks : List Bytes) :
    ∀ (d : Decoder) (ph : Phase), Good nl bnd ep pr lead d chunks.flatten ph → PhaseValid nl bnd ph →
      (chunks.flatten = [] → ph = .epi) →
      (feedAll d chunks).err = none ∧ Renders ph.pos (feedAll d chunks).events := by
  induction chunks with
  | nil =>
    intro d ph hg hv hepi
    have := hepi rfl
    subst this
    simp only [feedAll, List.flatten_nil] at hg ⊢
    rw [feed_none_epi hg]
    exact ⟨rfl, .epi⟩
  | cons c cs ih =>
    intro d ph hg hv hepi
    simp only [List.flatten_cons] at hg
    obtain ⟨d1, hr, hg1⟩ := good_receive hg
    obtain ⟨evs, d2, ph2, hd, hg2, hv2, hre, hf⟩ :=
      drain_good hb cs.flatten (d1.buffer.length + 1) d1 ph [] (Nat.lt_succ_self _) hg1 hv
    obtain ⟨herr, hrest⟩ := ih d2 ph2 hg2 hv2 hf
    simp only [feedAll, DrainsOk.toFeed hr hd]
    exact ⟨herr, hre _ hrest⟩

theorem bodyOfR_nonempty (nl : Nl) (bnd ep pr : Bytes) (lead : Bool) (ps : List RawPart) : bodyOfR nl bnd ep pr lead ps ≠ [] := by
  unfold bodyOfR
  rw [rawBody_eq]
  cases lead
  · simp [delim, Nl.len]
  · simp [delim]

/-- **chunk independence from the first header block on** (raw parts, no preamble) -/
theorem decode_chunks_lemma {bnd : Bytes} (hb : BoundaryOk bnd) (ps : List RawPart)
    (hv : ∀ p ∈ ps, RawOk nl bnd p) (chunks : List Bytes) (hjoin : chunks.flatten = rAfterOf nl bnd ep ps) :
    (feedAll (mkD bnd [] (afterDelim ps.isEmpty) 0) chunks).err = none ∧
    partsOf (feedAll (mkD bnd [] (afterDelim ps.isEmpty) 0) chunks).events = ps.map RawPart.out := by
  cases ps with
  | nil =>
    have hg : Good nl bnd ep [] true (mkD bnd [] (afterDelim ([] : List RawPart).isEmpty) 0) chunks.flatten .epi :=
      good_epi (.mkD ..) rfl
    have := feedAll_good hb chunks _ .epi hg trivial (fun _ => rfl)
    exact ⟨this.1, this.2.parts none⟩
  | cons p ps =>
    have hg : Good nl bnd ep [] true (mkD bnd [] (afterDelim (p :: ps).isEmpty) 0) chunks.flatten
        (.hdr false p ps) :=
      good_hdr (.mkD ..) rfl rfl (by simp [mkD, lfPre, hjoin])
    have hne : chunks.flatten = [] → Phase.hdr false p ps = .epi := by
      intro h0
      rw [hjoin] at h0
      rcases rawOk_head (hv p (by simp)) with ⟨x, r, hr, _⟩
      rw [rAfterOf_cons, hr] at h0
      simp at h0
    have := feedAll_good hb chunks _ (.hdr false p ps) hg
      ⟨hv p (by simp), fun q hq => hv q (by simp [hq])⟩ hne
    exact ⟨this.1, this.2.parts none⟩

/-- **every chunking of the body delivers a rendering of its parts**, from the first byte, with
preamble and epilogue -/
theorem decode_events_raw {bnd : Bytes} (hb : BoundaryOk bnd) (ps : List RawPart)
    (hpre : PreFreeR nl bnd ep pr lead ps) (hv : ∀ p ∈ ps, RawOk nl bnd p) (chunks : List Bytes)
    (hjoin : chunks.flatten = bodyOfR nl bnd ep pr lead ps) :
    (decodeChunks bnd none none chunks).err = none ∧
      Renders (.start (ps.map RawPart.out)) (decodeChunks bnd none none chunks).events :=
  feedAll_good hb chunks _ (.pre ps) (hjoin ▸ good_start hpre) hv
    (fun h0 => absurd (hjoin ▸ h0) (bodyOfR_nonempty nl bnd ep pr lead ps))

theorem decode_chunks_full_raw {bnd : Bytes} (hb : BoundaryOk bnd) (ps : List RawPart)
    (hpre : PreFreeR nl bnd ep pr lead ps) (hv : ∀ p ∈ ps, RawOk nl bnd p) (chunks : List Bytes)
    (hjoin : chunks.flatten = bodyOfR nl bnd ep pr lead ps) :
    (decodeChunks bnd none none chunks).err = none ∧
    partsOf (decodeChunks bnd none none chunks).events = ps.map RawPart.out :=
  have h := decode_events_raw hb ps hpre hv chunks hjoin
  ⟨h.1, h.2.parts none⟩

theorem formParse_raw {bnd : Bytes} (hb : BoundaryOk bnd) (ps : List RawPart)
    (hpre : PreFreeR nl bnd ep pr lead ps)
    (hv : ∀ p ∈ ps, RawOk nl bnd p) (bufSize : Nat) (sched : List Nat) :
    formParse bnd none none bufSize sched (bodyOfR nl bnd ep pr lead ps) =
      formOfParts ([], []) (ps.map RawPart.out) := by
  obtain ⟨herr, hren⟩ := decode_events_raw hb ps hpre hv (readChunks bufSize _ sched _)
    (readChunks_flatten _ _ _ _ (Nat.le_refl _))
  have := hren.form {}
  unfold decodeChunks at herr this
  unfold formParse
  simp only
  rw [formLoop_feedAll _ _ _ _ herr, ← show _ = formOfParts ([], []) _ from this]
  cases formEvents none {} _ <;> rfl

def bodyOf (nl : Nl) (bnd ep pr : Bytes) (lead : Bool) (ps : List Part) : Bytes :=
  pr ++ (if lead then encBody nl bnd ep ps else (encBody nl bnd ep ps).drop nl.len)

/-- the preamble does not contain `--boundary` (it may contain anything else, line breaks and dashes
included) and, for bare-LF bodies, does not end in CR (which would merge with the LF of the first
delimiter); without the leading line break there is no preamble -/
def PreOk (nl : Nl) (bnd pr : Bytes) (lead : Bool) : Prop :=
  if lead then containsSub (delim bnd) pr = false ∧ (nl = .lf → pr.getLast? ≠ some 13) else pr = []

instance (nl : Nl) (bnd pr : Bytes) (lead : Bool) : Decidable (PreOk nl bnd pr lead) := by
  unfold PreOk; split <;> infer_instance

def PreFree (nl : Nl) (bnd ep pr : Bytes) (lead : Bool) (ps : List Part) : Prop :=
  if lead then ∀ j, j < pr.length → matchDelimAt bnd true ((pr ++ encBody nl bnd ep ps).drop j) = none
  else pr = []

instance (nl : Nl) (bnd ep pr : Bytes) (lead : Bool) (ps : List Part) : Decidable (PreFree nl bnd ep pr lead ps) := by
  unfold PreFree; split <;> infer_instance

theorem bodyOf_raw (bnd : Bytes) (ps : List Part) :
    bodyOfR nl bnd ep pr lead (ps.map (rawOf nl)) = bodyOf nl bnd ep pr lead ps := by
  simp only [bodyOfR, bodyOf, rawBody_map]

theorem preFree_raw {bnd : Bytes} {ps : List Part} (h : PreFree nl bnd ep pr lead ps) :
    PreFreeR nl bnd ep pr lead (ps.map (rawOf nl)) := by
  simpa only [PreFreeR, PreFree, rawBody_map] using h

theorem preFreeR_of_preOk {bnd : Bytes} (hb : BoundaryOk bnd) (ps : List RawPart) (hpre : PreOk nl bnd pr lead) :
    PreFreeR nl bnd ep pr lead ps := by
  cases lead with
  | false => simpa [PreOk, PreFreeR] using hpre
  | true =>
    simp only [PreOk, if_true] at hpre
    simp only [PreFreeR, if_true]
    rcases nl.head_spec (delim bnd ++ rTailOf nl bnd ep ps) with ⟨c, Y, hcY, hcn, hc10⟩
    rw [rawBody_eq, hcY]
    exact no_match_in_pre hb Y hcn hpre.1 (fun e => hpre.2 (hc10 e))

theorem preFree_of_preOk {bnd : Bytes} (hb : BoundaryOk bnd) (ps : List Part) (hpre : PreOk nl bnd pr lead) :
    PreFree nl bnd ep pr lead ps := by
  have := preFreeR_of_preOk (nl := nl) (ep := ep) hb (ps.map (rawOf nl)) hpre
  simpa only [PreFreeR, PreFree, rawBody_map] using this

theorem preFree_trivial (nl : Nl) (bnd ep : Bytes) (ps : List Part) : PreFree nl bnd ep [] true ps := by
  simp [PreFree]

theorem rawOk_map {bnd : Bytes} {ps : List Part} (hv : ∀ p ∈ ps, ValidPart nl bnd p) :
    ∀ q ∈ ps.map (rawOf nl), RawOk nl bnd q := by
  intro q hq
  rcases List.mem_map.1 hq with ⟨p, hp, rfl⟩
  exact rawOk_of_validPart (hv p hp)

theorem decode_chunks_full_lemma {bnd : Bytes} (hb : BoundaryOk bnd) (ps : List Part)
    (hpre : PreFree nl bnd ep pr lead ps) (hv : ∀ p ∈ ps, ValidPart nl bnd p) (chunks : List Bytes)
    (hjoin : chunks.flatten = bodyOf nl bnd ep pr lead ps) :
    (decodeChunks bnd none none chunks).err = none ∧
    partsOf (decodeChunks bnd none none chunks).events = ps.map decodedPart := by
  have := decode_chunks_full_raw (nl := nl) (ep := ep) hb (ps.map (rawOf nl)) (preFree_raw hpre) (rawOk_map hv)
    chunks (by rw [hjoin, bodyOf_raw])
  rw [map_rawOf_out ps hv] at this
  exact this

theorem formParse_lemma {bnd : Bytes} (hb : BoundaryOk bnd) (ps : List Part)
    (hpre : PreFree nl bnd ep pr lead ps)
    (hv : ∀ p ∈ ps, ValidPart nl bnd p) (bufSize : Nat) (sched : List Nat) :
    formParse bnd none none bufSize sched (bodyOf nl bnd ep pr lead ps) =
      formOfParts ([], []) (ps.map decodedPart) := by
  have := formParse_raw (nl := nl) (ep := ep) hb (ps.map (rawOf nl)) (preFree_raw hpre) (rawOk_map hv)
    bufSize sched
  rw [map_rawOf_out ps hv, bodyOf_raw] at this
  exact this

theorem bodyOf_nil_true (nl : Nl) (bnd ep : Bytes) (ps : List Part) :
    bodyOf nl bnd ep [] true ps = encBody nl bnd ep ps := by simp [bodyOf]

theorem decode_chunks_encBody {nl : Nl} {ep bnd : Bytes} (hb : BoundaryOk bnd) (ps : List Part)
    (hv : ∀ p ∈ ps, ValidPart nl bnd p) (chunks : List Bytes) (hjoin : chunks.flatten = encBody nl bnd ep ps) :
    (decodeChunks bnd none none chunks).err = none ∧
    partsOf (decodeChunks bnd none none chunks).events = ps.map decodedPart :=
  decode_chunks_full_lemma hb ps (preFree_trivial nl bnd ep ps) hv chunks (hjoin.trans (bodyOf_nil_true ..).symm)

theorem formParse_encBody {nl : Nl} {ep bnd : Bytes} (hb : BoundaryOk bnd) (ps : List Part)
    (hv : ∀ p ∈ ps, ValidPart nl bnd p) (bufSize : Nat) (sched : List Nat) :
    formParse bnd none none bufSize sched (encBody nl bnd ep ps) = formOfParts ([], []) (ps.map decodedPart) :=
  bodyOf_nil_true nl bnd ep ps ▸ formParse_lemma hb ps (preFree_trivial nl bnd ep ps) hv bufSize sched

end Wz.Multipart
