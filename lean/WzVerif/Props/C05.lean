/-
C05 — responses are well-formed WSGI output.
Property theorems (helper lemmas: Lemmas/HeadersSpec.lean - the mutators of `Headers` as lists of atomic actions -,
Lemmas/Response.lean, Lemmas/ResponseHist.lean; models: Model/Headers.lean, Model/Response.lean; generated tables:
Gen/Response.lean).
-/
import WzVerif.Lemmas.Response
import WzVerif.Lemmas.ResponseHist
namespace Wz.Props.C05
open Wz Hdr Resp Wz.C05L

/-- For EVERY sequence of public mutators (`add`, `set`, `setlist`, `setdefault`,
`setlistdefault`, `extend`, `update`, `|=`, `h[k]=`, `h[i]=`, `h[a:b]=`, `del`, `remove`, `pop…`,
`clear`; the keyword forms reach the same code after the options header was dumped), applied to an
empty `Headers`, every stored value is free of CR and LF — whether the individual calls succeeded
or raised. No bound on the length of the history. -/
theorem headers_newline_free (ops : List Hdr.Op) : Clean (Hdr.run [] ops) :=
  run_clean [] ops clean_nil

/-- the same from any constructor input: `Headers(defaults)` either raises or yields clean values -/
theorem headers_construct_newline_free (arg : Option Arg) (l : HList) (h : Hdr.construct arg = .ok l)
    (ops : List Hdr.Op) : Clean (Hdr.run l ops) := by
  apply run_clean
  rw [HdrSpec.construct_ok h]
  exact seqUntil_clean [] _ clean_nil

example : Hdr.construct (some (.pairs [("X".toList, "a\nb".toList)])) = .error "ValueError" := by rfl

def isErr {α : Type} (r : Except String α) : Prop := ∃ e, r = .error e

/-- the single-value mutators refuse a value containing CR or LF with ValueError and leave the
list unchanged: `add`, `set`, `h[k] = v`, `h[i] = (k, v)`; so does slice assignment when any of
its values is bad (all values are checked before the list is touched) -/
theorem atomic_mutator_refuses (l : HList) (k v : Str) (i : Int) (s : Slice) (ps : List Pair)
    (hv : hasNL v = true) (hps : ∃ p ∈ ps, hasNL p.2 = true) :
    Hdr.step l (.add k v) = (l, .error "ValueError") ∧
    Hdr.step l (.set k v) = (l, .error "ValueError") ∧
    Hdr.step l (.setitemKey k v) = (l, .error "ValueError") ∧
    Hdr.step l (.setitemIdx i (k, v)) = (l, .error "ValueError") ∧
    Hdr.step l (.setitemSlice s ps) = (l, .error "ValueError") := by
  -- the first three are one refused atomic action
  have one : ∀ (op : Hdr.Op) (a : HdrSpec.Act), a.bad = true → HdrSpec.step l op = HdrSpec.unit (HdrSpec.seqUntil l [a]) →
      Hdr.step l op = (l, .error "ValueError") :=
    fun op a ha h => by rw [HdrSpec.step_refines, h, HdrSpec.seqUntil_single, HdrSpec.Act.apply_bad l ha]; rfl
  refine ⟨one _ (.add k v) hv rfl, one _ (.set k v) hv rfl, one _ (.set k v) hv rfl, ?_, ?_⟩
  · simp [Hdr.step, retUnit, Hdr.setIdx, strHeaderValue, hv, Except.map]
  · have : cleanPairs ps = .error "ValueError" := by rw [cleanPairs_eq, List.any_eq_true.2 hps]; rfl
    simp [Hdr.step, retUnit, setSliceOp, this, Except.map]

example : hasNL "v\r\nSet-Cookie: evil=1".toList = true := by decide

/-- the multi-value mutators (`setlist`, `extend`, `update` / `|=` with pairs or a mapping) fail
as soon as they reach a value with CR or LF: the call raises (what was stored before that point
stays, and by `headers_newline_free` it is clean) -/
theorem compound_mutator_refuses (l : HList) (k : Str) (vs : List Str) (ps : List Pair) (m : MapArg)
    (hvs : ∃ v ∈ vs, hasNL v = true) (hps : ∃ p ∈ ps, hasNL p.2 = true)
    (hm : ∃ p ∈ mapItems m, hasNL p.2 = true) :
    isErr (Hdr.step l (.setlist k vs)).2 ∧
    isErr (Hdr.step l (.extend (some (.pairs ps)) [])).2 ∧
    isErr (Hdr.step l (.extend none m)).2 ∧
    isErr (Hdr.step l (.update (some (.pairs ps)) [])).2 ∧
    isErr (Hdr.step l (.update (some (.mapping m)) [])).2 := by
  -- each is an action list, and one of the values it carries is refused
  have raises : ∀ acts : List HdrSpec.Act, acts.any HdrSpec.Act.bad = true →
      isErr (HdrSpec.unit (HdrSpec.seqUntil l acts)).2 :=
    fun acts hb => ⟨"ValueError", by rw [HdrSpec.unit, HdrSpec.seqUntil_raises, hb]; rfl⟩
  have hps' : (ps.map fun p => HdrSpec.Act.add p.1 p.2).any HdrSpec.Act.bad = true ∧
      (ps.map fun p => HdrSpec.Act.set p.1 p.2).any HdrSpec.Act.bad = true := by
    rw [List.any_map, List.any_map]; exact ⟨List.any_eq_true.2 hps, List.any_eq_true.2 hps⟩
  simp only [HdrSpec.step_refines]
  refine ⟨raises _ ?_, raises _ ?_, raises _ ?_, raises _ ?_, raises _ ?_⟩
  · rw [HdrSpec.bad_setlistActs]; exact List.any_eq_true.2 hvs
  · rw [List.any_append]; exact Bool.or_eq_true_iff.2 (Or.inl hps'.1)
  · rw [List.any_append, List.any_map]; exact Bool.or_eq_true_iff.2 (Or.inr (List.any_eq_true.2 hm))
  · rw [List.any_append]; exact Bool.or_eq_true_iff.2 (Or.inl hps'.2)
  · rw [List.any_append, show HdrSpec.updateActs (some (.mapping m)) = HdrSpec.mapActs m from rfl, HdrSpec.bad_mapActs]
    exact Bool.or_eq_true_iff.2 (Or.inl (List.any_eq_true.2 hm))

example : ∃ p ∈ mapItems [("a".toList, MVal.many ["1".toList, "2\n".toList])], hasNL p.2 = true :=
  ⟨("a".toList, "2\n".toList), by decide, by decide⟩

/-- the headers handed to the WSGI server are clean when the response headers are (the converted
Location / Content-Location values come from `iri_to_uri`, which escapes control characters — C15 —
hence the hypotheses on them) -/
theorem wsgi_headers_newline_free (r : R) (lo co : Str) (h : Clean r.headers)
    (hlo : hasNL lo = false) (hco : hasNL co = false) : Clean (getWsgiHeaders r lo co) := by
  rw [getWsgiHeaders_eq]
  have h2 := locStored_clean r lo co h
  simp only
  refine clean_ite (set_clean _ _ _ ?_) ?_ <;>
    exact clean_ite (delKey_clean _ _ h2) (clean_ite (clean_filter _ h2) h2)

def rowStatus (key : Nat) : Nat := key / 12
def rowMethod (key : Nat) : Nat := key % 12 / 4
def rowPreset (key : Nat) : Bool := key % 4 / 2 == 1
def rowStream (key : Nat) : Bool := key % 2 == 1
def rowBytes (val : Nat) : Nat := val % 100
/-- 0 = no Content-Length, else its value + 1 -/
def rowCL (val : Nat) : Nat := val / 100 % 1000

/-- walk the table checking that the keys are consecutive from `n`; answers the next key -/
def scanKeys : Nat → List (Nat × Nat) → Option Nat
  | n, [] => some n
  | n, (k, _) :: t => if k == n then scanKeys (n + 1) t else none

/-- the table covers every status 100..599 × method × preset × body kind exactly once
(keys 100·12 … 599·12+11 in order) -/
theorem table_exhaustive : scanKeys 1200 Gen.Response.wsgiTable = some 7200 := by
  have keys : ∀ (t : List (Nat × Nat)) (n m : Nat), graphFrom wsgiKeyRow n t = some m → scanKeys n t = some m := by
    intro t
    induction t with
    | nil => exact fun _ _ h => h
    | cons p t ih =>
      intro n m h
      simp only [graphFrom] at h
      split at h
      · rename_i hq
        rw [scanKeys, if_pos (Bool.and_eq_true_iff.1 hq).1]
        exact ih _ _ h
      · cases h
  exact keys _ _ _ wsgiTable_graph

/-- On the real code, for every status 100..599, method GET/HEAD/POST, preset or absent
Content-Length and sequence or streamed body: no body byte is produced iff the method is HEAD or
the status is 1xx, 204 or 304 (otherwise all 5 bytes of the test body are). -/
theorem bodyless_iff :
    Gen.Response.wsgiTable.all (fun (k, v) =>
      let s := rowStatus k
      let nobody := rowMethod k == 1 || (100 ≤ s && s < 200) || s == 204 || s == 304
      rowBytes v == (if nobody then 0 else 5)) = true :=
  wsgiTable_all _ fun _ => beq_iff_eq.2 (wsgiRow_bytes _ _ _ _)

/-- ... and no Content-Length is sent with 1xx / 204 (nor with 304, where all entity headers are
stripped), a preset Content-Length is otherwise kept, and an absent one is computed exactly for
sequence bodies (5 = bytes of the encoded items) and left absent for streamed bodies. -/
theorem content_length_table :
    Gen.Response.wsgiTable.all (fun (k, v) =>
      let s := rowStatus k
      let stripped := (100 ≤ s && s < 200) || s == 204 || s == 304
      rowCL v == (if stripped then 0 else if rowPreset k then 100 else if rowStream k then 0 else 6)) = true :=
  wsgiTable_all _ fun _ => beq_iff_eq.2 (wsgiRow_cl _ _ _ _)

/-- the model's decision, computed by running Model.Response on the same 6000 inputs -/
def modelRow (key : Nat) : Nat :=
  let m : Str := if rowMethod key == 0 then "GET".toList else if rowMethod key == 1 then "HEAD".toList else "POST".toList
  let body : Body := ⟨if rowStream key then .stream true else .seq, [.bytes [97, 98], .text ['c', 'é']]⟩
  match construct [] (.code (rowStatus key)) body none false with
  | .error _ => 0
  | .ok r0 =>
    let r := if rowPreset key then { r0 with headers := (Hdr.set r0.headers "Content-Length".toList "99".toList).1 } else r0
    let h := getWsgiHeaders r [] []
    let n := (getAppIter r m).chunks.flatten.length
    let cl := match (getlist h "content-length".toList).head? with
      | none => 0
      | some v => (Views.CC.digitsVal v).getD 0 + 1
    n + 100 * cl + 100000 * (if Hdr.contains h "content-type".toList then 1 else 0)

/-- the hand-written model of `get_wsgi_headers` / `get_app_iter` agrees with the real code on
the whole table (so the general theorems below speak about the code's decisions) -/
theorem model_matches_table :
    Gen.Response.wsgiTable.all (fun (k, v) => modelRow k == v) = true :=
  wsgiTable_all _ fun k => beq_iff_eq.2
    (model_row (rowStatus k) (rowMethod k) (Nat.div_lt_of_lt_mul (Nat.mod_lt _ (by decide))) _ _)

/-- general form in the model: the iterable handed to the server yields nothing iff HEAD / 1xx /
204 / 304 — for every response, status (any int) and method -/
theorem model_bodyless (r : R) (method : Str) :
    (bodyless r.status method = true → (getAppIter r method).chunks = []) ∧
    (bodyless r.status method = false → (getAppIter r method).chunks = r.body.items.map Item.encode) := by
  rw [getAppIter_chunks]
  exact ⟨fun h => by rw [h]; rfl, fun h => by rw [h]; rfl⟩

/-- a Content-Length that werkzeug computes equals the number of bytes the iterable produces:
for every sequence body (text items count their UTF-8 length), when no Content-Length was preset
and the response may carry a body -/
theorem auto_length_exact (r : R) (method : Str) (lo co : Str)
    (hseq : r.body.kind = .seq) (hnone : getlist r.headers "content-length".toList = [])
    (hb : bodyless r.status method = false) :
    getlist (getWsgiHeaders r lo co) "content-length".toList
      = [Views.CC.natText (getAppIter r method).chunks.flatten.length] := by
  have hlen : (getAppIter r method).chunks.flatten.length = totalLen r.body.items := by
    rw [(model_bodyless r method).2 hb, List.length_flatten, List.map_map]
    rfl
  rw [hlen]
  rw [bodyless_eq, Bool.or_eq_false_iff] at hb
  rw [wsgi_content_length, if_neg (by rw [hb.2]; exact Bool.false_ne_true), if_pos (by rw [hseq, hnone]; rfl)]

example : totalLen [.bytes [97, 98], .text ['c', 'é'], .bytes []] = 5 := by decide +kernel

/-- F05 excluded: unless the response is in direct passthrough *and* carries a body, closing the
returned iterable runs the wrapped iterable's `close` (when it has one) and every registered
callback exactly once, in registration order — whatever prefix was iterated (the close actions do
not depend on it). -/
theorem close_exactly_once_partial (r : R) (method : Str)
    (h : ¬ (r.directPassthrough = true ∧ bodyless r.status method = false)) :
    closeLog r method = expectedClose r := by
  unfold closeLog getAppIter expectedClose respClose
  cases hb : bodyless r.status method with
  | true => simp
  | false =>
    cases hd : r.directPassthrough with
    | true => exact absurd ⟨hd, hb⟩ h
    | false => simp

example : ¬ ((⟨[], [], 200, ⟨.stream true, []⟩, false, [.cb 0]⟩ : R).directPassthrough = true ∧
    bodyless 200 "GET".toList = false) := by decide

/-- F05: the full statement is false — with `direct_passthrough=True`, status 200, GET, a closable
body and one registered callback, closing the returned iterable runs the body's `close` but never
the callback. -/
theorem close_exactly_once_full_false :
    ¬ (∀ (r : R) (method : Str), closeLog r method = expectedClose r) := by
  intro h
  exact absurd (h ⟨[], [], 200, ⟨.stream true, []⟩, true, [.cb 0]⟩ "GET".toList) (by decide)

/-- registering callbacks and calling `get_data()` (which turns a streamed body into a sequence
and hands the original `close` over to the callbacks) before the WSGI call do not lose or duplicate
any close action: every event is logged as often as it was expected before -/
theorem close_counts_after_make_sequence (r : R) (method : Str) (e : CloseEv)
    (h : ¬ (r.directPassthrough = true ∧ bodyless r.status method = false)) :
    (closeLog (makeSequence r) method).count e = (expectedClose r).count e := by
  have hm : ¬ ((makeSequence r).directPassthrough = true ∧ bodyless (makeSequence r).status method = false) := by
    unfold makeSequence; split <;> exact h
  rw [close_exactly_once_partial _ _ hm]
  exact expected_makeSequence r e

/-- `call_on_close` adds exactly one expected run of the new callback -/
theorem close_counts_after_call_on_close (r : R) (n : Nat) (e : CloseEv) :
    (expectedClose (callOnClose r n)).count e = (expectedClose r).count e + (if e = .cb n then 1 else 0) :=
  expected_callOnClose r n e

/-! ## close callbacks over whole histories of a response object

`Resp.St` / `REv` (Model/Response.lean): registering callbacks, `get_data()`, `make_sequence()`,
`freeze()`, `set_data()`, explicit `close()` / `with`, `get_wsgi_response`, the server pulling
chunks (any prefix, also none) and closing the iterable. -/

/-- **Exactly once, over histories.** Start from any response (any body shape, status, headers,
callbacks already registered, either setting of `implicit_sequence_conversion` /
`automatically_set_content_length`). Let any sequence `pre` of callback registrations, `get_data()`,
`make_sequence()` happen, then `get_wsgi_response` for any method, then any sequence `mid` of the
server pulling chunks (generator bodies closed early included), FURTHER callback registrations
(`call_on_close` after `get_app_iter`), `get_data()` / `make_sequence()` on the side; then the server
closes the iterable (`freeze()` may occur among these events too). Unless the response is in direct passthrough with a body to send (F05), every
close action - the wrapped iterable's own `close` when it has one, every callback registered before
or after - has run exactly as often as it was registered: once. -/
theorem close_exactly_once_history (r : R) (cfg : Cfg) (pre mid : List REv) (m lo co : Str)
    (hq : (pre ++ mid).all quiet = true)
    (h : ¬ (r.directPassthrough = true ∧ bodyless r.status m = false)) (e : CloseEv) :
    (runEvs (initSt r cfg) (pre ++ [.getWsgi m lo co] ++ mid ++ [.iterClose])).log.count e
      = (expectedClose r).count e + regs (pre ++ mid) e := by
  simp only [List.all_append, Bool.and_eq_true] at hq
  rw [runEvs_append, runEvs_append, runEvs_append]
  have p := quiet_run pre (initSt r cfg) hq.1
  generalize runEvs (initSt r cfg) pre = s1 at p
  have hheld : isClosing (runEvs s1 [.getWsgi m lo co]).held = true :=
    getWsgi_closing s1 m lo co (by rw [p.status, p.passthrough]; exact h)
  have hs2 : (runEvs s1 [.getWsgi m lo co]).log = s1.log ∧ (runEvs s1 [.getWsgi m lo co]).r = s1.r := ⟨rfl, rfl⟩
  generalize runEvs s1 [.getWsgi m lo co] = s2 at hheld hs2
  have q := quiet_run mid s2 hq.2
  generalize runEvs s2 mid = s3 at q
  rw [show (runEvs s3 [.iterClose]).log = s3.log ++ respClose s3.r from iterClose_log s3 (q.closing hheld), q.log, hs2.1, p.log]
  rw [show respClose s3.r = expectedClose s3.r from rfl, List.count_append, q.due e, hs2.2, p.due e, regs_append]
  simp only [initSt, List.count_nil]
  omega

example : ([REv.callOnClose 0, .getData, .freeze []] ++ [REv.take 1, .callOnClose 1, .makeSequence]).all quiet = true := by decide

/-- every close event - the server closing a `ClosingIterator`, `response.close()`, leaving a `with`
block - runs exactly the actions due at that moment, once each; so closing twice (explicitly and by
the server) runs them twice: "exactly once" is per close of the returned iterable -/
theorem each_close_runs_each_action_once (s : St) :
    (nextEv s .close).1.log = s.log ++ expectedClose s.r ∧
    (isClosing s.held = true → (nextEv s .iterClose).1.log = s.log ++ expectedClose s.r) ∧
    (runEvs s [.close, .close]).log = s.log ++ expectedClose s.r ++ expectedClose s.r := by
  exact ⟨rfl, iterClose_log s, by simp [runEvs, nextEv, expectedClose, respClose]⟩

/-- **`Response.from_app(inner, environ)` / `force_type(app, environ)`** (`run_wsgi_app`): the outer
response's body is the inner response's WSGI iterable - a streamed body whose `close` is the inner
`ClosingIterator.close`. Whatever happens to the outer response before and while it is served (as in
`close_exactly_once_history`), the server closing the outer iterable closes the inner iterable
exactly once, and that one close runs every close action of the inner response - its callbacks and
its own body's `close` - exactly once, however many chunks were pulled. -/
theorem from_app_close_exactly_once (rI rO : R) (cfgI cfgO : Cfg) (mI mO : Str) (pre mid : List REv) (n : Nat)
    (hq : (pre ++ mid).all quiet = true)
    (hO : rO.body.kind = .stream true) (hOn : rO.onClose.count .wrapped = 0)
    (hdO : rO.directPassthrough = false) (hdI : rI.directPassthrough = false) :
    (runEvs (initSt rO cfgO) (pre ++ [.getWsgi mO [] []] ++ mid ++ [.iterClose])).log.count .wrapped = 1 ∧
    ∀ e, (runEvs (initSt rI cfgI) [.getWsgi mI [] [], .take n, .iterClose]).log.count e = (expectedClose rI).count e := by
  constructor
  · rw [close_exactly_once_history rO cfgO pre mid mO [] [] hq (by simp [hdO]) .wrapped, regs_wrapped]
    simp [expectedClose, hO, hOn]
  · intro e
    have := close_exactly_once_history rI cfgI [] [.take n] mI [] [] rfl (by simp [hdI]) e
    simpa [regs] using this

/-- the F05b regression (repaired by 41b0631): `freeze()` on a closable iterator body, then
`get_wsgi_response` and the server closing - the iterator's own `close` and the callback each run
exactly once (before the repair the iterator's close never ran) -/
theorem freeze_keeps_wrapped_close_regression :
    (runEvs (initSt ⟨[], [], 200, ⟨.stream true, [.bytes [97]]⟩, false, [.cb 0]⟩ {})
      [.freeze [], .getWsgi "GET".toList [] [], .iterClose]).log = [.cb 0, .wrapped] := by
  decide

/-- **`freeze()` at full strength** (it is one of the quiet events of `close_exactly_once_history`,
so it may occur anywhere before or after `get_wsgi_response`): for every body shape it leaves a
sequence body whose Content-Length header is exactly the number of body bytes, and every close
action still runs exactly once when the server closes the response. -/
theorem freeze_full (r : R) (cfg : Cfg) (etag m : Str) (e : CloseEv)
    (h : ¬ (r.directPassthrough = true ∧ bodyless r.status m = false)) :
    (runEvs (initSt r cfg) [.freeze etag, .getWsgi m [] [], .iterClose]).log.count e = (expectedClose r).count e ∧
    (nextEv (initSt r cfg) (.freeze etag)).1.r.body.kind = .seq ∧
    getlist (nextEv (initSt r cfg) (.freeze etag)).1.r.headers "content-length".toList
      = [Views.CC.natText (allBytes r.body.items).length] := by
  have hlen : totalLen (r.body.items.map fun i => Item.bytes i.encode) = (allBytes r.body.items).length := by
    simp [totalLen, allBytes, List.length_flatten, Item.encode, Function.comp_def]
  refine ⟨?_, rfl, ?_⟩
  · have := close_exactly_once_history r cfg [.freeze etag] [] m [] [] rfl h e
    simpa [regs] using this
  · rw [← hlen]
    simp only [nextEv]
    split
    · exact Hdr.set_getlist' _ _ _ _ (by decide) (C16L.natText_noNL _)
    · rw [Hdr.set_getlist_ne _ _ _ _ (by decide)]
      exact Hdr.set_getlist' _ _ _ _ (by decide) (C16L.natText_noNL _)

/-- `response.stream.write(b)` on a sequence body appends `b` and leaves NO Content-Length header
behind - on every write, whatever happened in between (`set_data`, `freeze`, … may have stored one
again) - so that `get_wsgi_response` computes the length of the body that is actually sent
(`auto_length_exact`) -/
theorem stream_write_drops_length (s : St) (b : Bytes) (hk : s.r.body.kind = .seq) :
    (nextEv s (.streamWrite b)).1.r.body = ⟨.seq, s.r.body.items ++ [.bytes b]⟩ ∧
    getlist (nextEv s (.streamWrite b)).1.r.headers "content-length".toList = [] := by
  simp only [nextEv, ensureSequence_seq hk, true_and]
  exact Hdr.popKey_getlist _ _ _ _ (by decide)

/-- `set_data(value)` replaces the body by the one byte string and (with
`automatically_set_content_length`) stores its exact length; `get_data()` on a streamed body is
refused with RuntimeError - leaving the response as it was - in direct passthrough mode or when
`implicit_sequence_conversion` is off, and otherwise returns exactly the bytes the body yields -/
theorem set_data_get_data (s : St) (b : Bytes) :
    (nextEv s (.setData b)).1.r.body = ⟨.seq, [.bytes b]⟩ ∧
    (s.cfg.autoLength = true →
      getlist (nextEv s (.setData b)).1.r.headers "content-length".toList = [Views.CC.natText b.length]) ∧
    ((∃ c, s.r.body.kind = .stream c) → (s.r.directPassthrough = true ∨ s.cfg.implicitConv = false) →
      nextEv s .getData = (s, .error "RuntimeError")) ∧
    (s.r.directPassthrough = false → s.cfg.implicitConv = true →
      (nextEv s .getData).2 = .ok (.data (allBytes s.r.body.items))) := by
  refine ⟨rfl, fun ha => ?_, fun ⟨c, hc⟩ hor => ?_, fun hd hi => ?_⟩
  · simp only [nextEv, ha, if_true]
    exact Hdr.set_getlist' _ _ _ _ (by decide) (C16L.natText_noNL _)
  · simp only [nextEv, ensureSequence_refused hc hor]
  · cases hk : s.r.body.kind with
    | seq => simp only [nextEv, ensureSequence_seq hk]
    | stream c => simp only [nextEv, ensureSequence_converts hk hd hi, allBytes_makeSequence]

open Wz.C16L Wz.C08L
/-- all characters are ASCII -/
def Ascii (s : Str) : Prop := ∀ c ∈ s, c.toNat < 128

/-- the assumed laws of the opaque URL primitives: `urlsplit` yields an ASCII scheme and (after
IDNA) an ASCII host; `urlunsplit` and `urljoin` only rearrange the characters they are given plus
ASCII delimiters, so ASCII inputs give ASCII output -/
structure UrlLaws (U : UrlOps) : Prop where
  split_scheme : ∀ url, Ascii (U.split url).scheme
  split_host : ∀ url, Ascii (U.split url).host
  unsplit_ascii : ∀ sp : Url.Split, Ascii sp.scheme → Ascii sp.netloc → Ascii sp.path → Ascii sp.query →
    Ascii sp.fragment → Ascii (U.unsplit sp)
  join_ascii : ∀ a b, Ascii a → Ascii b → Ascii (U.join a b)

theorem iriToUriStr_ascii (U : UrlOps) (hU : UrlLaws U) (url : Str) : Ascii (iriToUriStr U url) := by
  obtain ⟨h1, h2, h3, h4, h5⟩ := C05L.iriToUri_ascii (U.split url) (hU.split_scheme url) (hU.split_host url)
  exact hU.unsplit_ascii _ h1 h2 h3 h4 h5

theorem locationOut_ascii (U : UrlOps) (hU : UrlLaws U) (ac : Bool) (cur loc : Str) :
    Ascii (locationOut U ac cur loc) := by
  unfold locationOut
  cases ac with
  | false => exact iriToUriStr_ascii U hU loc
  | true => exact hU.join_ascii _ _ (iriToUriStr_ascii U hU cur) (iriToUriStr_ascii U hU loc)

/-- **Location is an ASCII URI**: the value `get_wsgi_headers` computes for Location is ASCII for
every Location text, every current URL and both settings of `autocorrect_location_header`; the same
for Content-Location. (`iri_to_uri` = opaque `urlsplit`/IDNA, C15's `iriToUri`, opaque `urlunsplit`;
with autocorrection both arguments of the opaque `urljoin` went through `iri_to_uri` first.) -/
theorem location_ascii (U : UrlOps) (hU : UrlLaws U) (autocorrect : Bool) (currentUrl location : Str) :
    Ascii (locationOut U autocorrect currentUrl location) ∧ Ascii (iriToUriStr U location) :=
  ⟨locationOut_ascii U hU autocorrect currentUrl location, iriToUriStr_ascii U hU location⟩

/-- the IDNA law (`split_host`: the host that `hostname.encode("idna").decode("ascii")` leaves in the
split URL is ASCII - the codec either produces ASCII labels or raises, and then nothing is handed to
the server) is NEEDED: with a host conversion that lets a refused label through unchanged, the same
composition hands a non-ASCII Location to the server. The harness checks this law on the real call
path for every case (`urlsplit(iri_to_uri(u)).hostname.isascii()`). -/
theorem location_ascii_needs_idna_law :
    let U : UrlOps := ⟨fun url => { host := url }, fun sp => sp.netloc, fun _ b => b⟩
    ¬ Ascii (locationOut U false [] ['א', 'a']) := by
  intro U h
  have := h 'א' (by decide +kernel)
  exact absurd this (by decide)

/-- non-vacuity of the assumed laws: they hold e.g. for primitives that only concatenate (`urlsplit` puts the whole text into
the path, leaving scheme and host empty; `urlunsplit` and `urljoin` append their arguments) -/
example : UrlLaws ⟨fun url => { path := url },
    fun sp => sp.scheme ++ sp.netloc ++ sp.path ++ sp.query ++ sp.fragment, fun a b => a ++ b⟩ where
  split_scheme := fun _ c hc => (by cases hc)
  split_host := fun _ c hc => (by cases hc)
  unsplit_ascii := fun _ h1 h2 h3 h4 h5 c hc => (by
    simp only [List.mem_append] at hc
    rcases hc with (((h | h) | h) | h) | h
    · exact h1 c h
    · exact h2 c h
    · exact h3 c h
    · exact h4 c h
    · exact h5 c h)
  join_ascii := fun _ _ ha hb c hc => (by
    rcases List.mem_append.1 hc with h | h
    · exact ha c h
    · exact hb c h)

/-- ... and that value is what the server receives: when the response has a Location header, the
WSGI header list carries exactly one Location entry, the converted ASCII value (all duplicates
replaced); none otherwise. If the converted text contained CR/LF `Headers.__setitem__` would raise
and nothing is handed to the server - hence the hypothesis. Same for Content-Location. -/
theorem location_handed_to_server (U : UrlOps) (hU : UrlLaws U) (autocorrect : Bool) (currentUrl : Str) (r : R)
    (hnl : hasNL (locationOut U autocorrect currentUrl
      (((getlist r.headers "location".toList).getLast?).getD [])) = false)
    (hnl' : hasNL (iriToUriStr U (((getlist r.headers "content-location".toList).getLast?).getD [])) = false) :
    (∀ v ∈ getlist (getWsgiHeadersU U autocorrect currentUrl r) "location".toList, Ascii v) ∧
    (∀ v ∈ getlist (getWsgiHeadersU U autocorrect currentUrl r) "content-location".toList, Ascii v) ∧
    ((getlist r.headers "location".toList).isEmpty = false →
      getlist (getWsgiHeadersU U autocorrect currentUrl r) "location".toList
        = [locationOut U autocorrect currentUrl (((getlist r.headers "location".toList).getLast?).getD [])]) := by
  unfold getWsgiHeadersU
  simp only
  generalize hlo : locationOut U autocorrect currentUrl (((getlist r.headers "location".toList).getLast?).getD []) = lo at hnl
  generalize hco : iriToUriStr U (((getlist r.headers "content-location".toList).getLast?).getD []) = co at hnl'
  have alo : Ascii lo := hlo ▸ locationOut_ascii U hU _ _ _
  have aco : Ascii co := hco ▸ iriToUriStr_ascii U hU _
  have hL := wsgi_getlist_of r lo co "location".toList (by decide) (Or.inl (by decide))
  have hC := wsgi_getlist_of r lo co "content-location".toList (by decide) (Or.inr (Or.inr (by decide)))
  refine ⟨?_, ?_, ?_⟩
  · rw [hL, locStored_location r lo co hnl]
    intro v hv
    split at hv
    · cases hv
    · rw [List.mem_singleton.1 hv]; exact alo
  · rw [hC, locStored_contentLocation r lo co hnl']
    intro v hv
    split at hv
    · cases hv
    · rw [List.mem_singleton.1 hv]; exact aco
  · intro hne
    rw [hL, locStored_location r lo co hnl, hne]; rfl


end Wz.Props.C05
