/-
Routing lemmas (C04): what a rule renders, its own parts admit.
`parse_render_admits_gram`: for a rule of the property's grammar (isolating converters, literals without '/',
optionally one path converter followed by literal text and slashes only) the rendered path splits at '/' into exactly
the rule's parts, and each part's anchored pattern decomposes its segment in the one possible way.
`parse_render_admits` is the case without a path converter (`IsoToks`). The Bool-valued forms of the hypotheses at the end
serve concrete examples (those of C04 use the forms for the whole grammar, `gramToksB`, `isoNoSlashB`, `pathTailOKB`).
-/
import WzVerif.Lemmas.RoutingWalk
namespace Wz.Routing

/-- the decoded path a rule renders from value texts (one per variable, in order) -/
def renderToks : List Tok → List Str → Option Str
  | [], [] => some []
  | [], _ :: _ => none
  | .slash :: t, vs => (renderToks t vs).map ('/' :: ·)
  | .lit s :: t, vs => (renderToks t vs).map (s ++ ·)
  | .var _ _ :: t, v :: vs => (renderToks t vs).map (v ++ ·)
  | .var _ _ :: _, [] => none

/-- the tokens use isolating converters only, literals contain no '/' -/
def IsoToks : List Tok → Prop
  | [] => True
  | .slash :: t => IsoToks t
  | .lit s :: t => noSlash s ∧ IsoToks t
  | .var c _ :: t => c.partIsolating = true ∧ IsoToks t

/-- the converters of the variables, in order: the second components of `tokVars` (`tokVars_map`) -/
def tokConvs : List Tok → List Conv
  | [] => []
  | .var c _ :: t => c :: tokConvs t
  | _ :: t => tokConvs t

theorem matchCore_render (pre : Str) (kind : RKind) (post v : Str) (h : kind.accepts v = true) :
    matchCore pre kind post (pre ++ v ++ post) = some v := by
  simp [matchCore, List.append_assoc, stripPrefix_append, stripSuffix_append, h]

theorem matchDyn_render (pre : Str) (kind : RKind) (post v : Str) (h : kind.accepts v = true) :
    matchDyn pre kind post false (pre ++ v ++ post) = some (v, false) :=
  matchDyn_of_core (matchCore_render pre kind post v h) rfl

/-- pending text of the accumulator: literal prefix, the pending variable's text, literal suffix -/
def pendText (p : PState) (pv : Option Str) : Str := p.pre ++ (pv.getD []) ++ p.post

/-- accumulator invariant: not slash-consuming, the pending value belongs to the pending converter and
is accepted by it, no '/' anywhere, no suffix text without a converter -/
structure PendOK (p : PState) (pv : Option Str) : Prop where
  notFinal : p.final = false
  conv_iff : p.conv.isSome = pv.isSome
  accepts : ∀ c n v, p.conv = some (c, n) → pv = some v → c.kind.accepts v = true
  pre_ns : noSlash p.pre
  post_ns : noSlash p.post
  pv_ns : ∀ v, pv = some v → noSlash v
  post_nil : p.conv = none → p.post = []

theorem PendOK.init : PendOK {} none :=
  ⟨rfl, rfl, fun _ _ _ h => (nomatch h), fun h => (nomatch h), fun h => (nomatch h), fun _ h => (nomatch h), fun _ => rfl⟩

theorem PendOK.pv_none {p : PState} {pv : Option Str} (h : PendOK p pv) (hc : p.conv = none) : pv = none := by
  have := h.conv_iff
  rw [hc] at this
  cases pv with
  | none => rfl
  | some v => cases this

theorem PendOK.lit_pre {p : PState} {pv : Option Str} (h : PendOK p pv) {s : Str} (hs : noSlash s) (sw : List (Int × Int)) :
    PendOK { p with pre := p.pre ++ s, staticWeights := sw } pv :=
  ⟨h.notFinal, h.conv_iff, h.accepts, noSlash_append h.pre_ns hs, h.post_ns, h.pv_ns, h.post_nil⟩

theorem PendOK.lit_post {p : PState} {pv : Option Str} (h : PendOK p pv) {s : Str} (hs : noSlash s) {cn} (hc : p.conv = some cn)
    (sw : List (Int × Int)) : PendOK { p with post := p.post ++ s, staticWeights := sw } pv :=
  ⟨h.notFinal, h.conv_iff, h.accepts, h.pre_ns, noSlash_append h.post_ns hs, h.pv_ns, fun h' => by rw [hc] at h'; cases h'⟩

theorem PendOK.var {p : PState} {pv : Option Str} (h : PendOK p pv) {c : Conv} (hiso : c.partIsolating = true) (n : Str)
    {v : Str} (hacc : c.kind.accepts v = true) (hv : noSlash v) (aw : List Int) :
    PendOK { p with conv := some (c, n), final := p.final || !c.partIsolating, argWeights := aw } (some v) := by
  refine ⟨by simp [h.notFinal, hiso], rfl, ?_, h.pre_ns, h.post_ns, ?_, ?_⟩
  · intro c' n' v' h1 h2; cases h1; cases h2; exact hacc
  · intro v' h'; cases h'; exact hv
  · intro h'; cases h'

theorem pendText_noSlash {p : PState} {pv : Option Str} (h : PendOK p pv) : noSlash (pendText p pv) := by
  refine noSlash_append (noSlash_append h.pre_ns ?_) h.post_ns
  cases pv with
  | none => intro h; cases h
  | some v => exact h.pv_ns v rfl

theorem step_emit {p : PState} {pv : Option Str} (h : PendOK p pv) (rest : List Str) :
    step (p.emit false) (pendText p pv :: rest) = some (pv.toList, rest) := by
  simp only [PState.emit]
  cases hc : p.conv with
  | none =>
    obtain rfl := h.pv_none hc
    simp [step_static, pendText, h.post_nil hc]
  | some cn =>
    obtain ⟨c, n⟩ := cn
    have hpv : ∃ v, pv = some v := by
      have := h.conv_iff; rw [hc] at this
      cases pv with
      | none => cases this
      | some v => exact ⟨v, rfl⟩
    obtain ⟨v, rfl⟩ := hpv
    have hacc := h.accepts c n v hc rfl
    simp only [step_dyn, h.notFinal, Bool.false_eq_true, if_false, pendText, Option.getD_some,
      matchDyn_render p.pre c.kind p.post v hacc, Bool.false_and, Option.toList_some, Option.map_some]

/-- what may follow a path converter in the property's grammar: literal text and slashes, no further variable -/
def TailToks : List Tok → Prop
  | [] => True
  | .slash :: t => TailToks t
  | .lit _ :: t => TailToks t
  | .var .. :: _ => False

/-- the property's grammar: isolating converters, literals without '/', optionally one path converter
after which only literal text and slashes follow -/
def GramToks : List Tok → Prop
  | [] => True
  | .slash :: t => GramToks t
  | .lit s :: t => noSlash s ∧ GramToks t
  | .var c _ :: t => (c.partIsolating = true ∧ GramToks t) ∨ (c = .path ∧ TailToks t)

/-- after a slash-consuming converter, `_parse_rule` only extends the part's literal suffix -/
theorem parseToks_final : ∀ (toks : List Tok) (p : PState) (c : Conv) (n : Str) {parts convs text},
    p.final = true → p.conv = some (c, n) →
    parseToks toks p = some (parts, convs) → renderToks toks [] = some text →
    ∃ w, parts = (if endsWithChar (p.post ++ text) '/'
                  then [.dyn p.pre c.kind (p.post ++ text).dropLast true true w, .static []]
                  else [.dyn p.pre c.kind (p.post ++ text) true false w]) := by
  intro toks
  induction toks with
  | nil =>
    intro p c n parts convs text hf hc hparse hrender
    simp only [renderToks, Option.some.injEq] at hrender
    subst hrender
    simp only [parseToks, hf, Bool.true_and, Option.some.injEq, Prod.mk.injEq] at hparse
    obtain ⟨rfl, _⟩ := hparse
    simp only [List.append_nil]
    cases hs : endsWithChar p.post '/' with
    | true =>
      refine ⟨?_, ?_⟩
      rotate_left -- the equation first: `rfl` finds the weight `w` by unification (here and below)
      · simp only [PState.emit, hc, if_true]; rfl
    | false =>
      refine ⟨?_, ?_⟩
      rotate_left
      · simp only [PState.emit, hc, hf, Bool.false_eq_true, if_false]; rfl
  | cons t toks ih =>
    intro p c n parts convs text hf hc hparse hrender
    cases t with
    | lit s =>
      simp only [renderToks, Option.map_eq_some_iff] at hrender
      obtain ⟨text', hr', rfl⟩ := hrender
      simp only [parseToks, hc] at hparse
      obtain ⟨w, hw⟩ := ih _ c n (by simpa using hf) (by simp) hparse hr'
      exact ⟨w, by simpa [List.append_assoc] using hw⟩
    | slash =>
      simp only [renderToks, Option.map_eq_some_iff] at hrender
      obtain ⟨text', hr', rfl⟩ := hrender
      simp only [parseToks, hf, if_true] at hparse
      obtain ⟨w, hw⟩ := ih _ c n (by simp) (by simpa using hc) hparse hr'
      exact ⟨w, by simpa [List.append_assoc] using hw⟩
    | var c' n' =>
      simp [parseToks, hc] at hparse

/-- the slash-consuming part (and the empty part after it, for a branch rule) admits the rest of the
path: `pre ++ value ++ literal rest` -/
theorem final_part_admits (pre : Str) (kind : RKind) (post v : Str) (w : Weighting)
    (hacc : kind.accepts v = true)
    (hsfx : endsWithChar post '/' = true → endsWithChar (pre ++ v ++ post.dropLast) '/' = false) :
    walkVia .direct
      (if endsWithChar post '/' then [.dyn pre kind post.dropLast true true w, .static []]
       else [.dyn pre kind post true false w])
      (splitOn '/' (pre ++ v ++ post)) = some [v] := by
  cases hsp : splitOn '/' (pre ++ v ++ post) with
  | nil => exact absurd hsp (splitOn_ne_nil _ _)
  | cons x xs =>
    have hj : joinWith '/' (x :: xs) = pre ++ v ++ post := by rw [← hsp, joinWith_splitOn]
    cases he : endsWithChar post '/' with
    | false =>
      simp only [Bool.false_eq_true, if_false]
      have hs : step (.dyn pre kind post true false w) (x :: xs) = some ([v], []) := by
        simp only [step_dyn, if_true, hj, matchDyn_render pre kind post v hacc, Bool.false_and, Bool.false_eq_true, if_false,
          Option.map_some]
      have := walkVia_cons_of_step (via := .direct) (ps := []) hs walkVia_direct_nil
      simpa using this
    | true =>
      simp only [if_true]
      have hpost : post = post.dropLast ++ ['/'] := by
        cases hr : post.reverse with
        | nil => simp [List.reverse_eq_nil_iff] at hr; subst hr; simp [endsWithChar] at he
        | cons c t =>
          have hp : post = t.reverse ++ [c] := by
            have := congrArg List.reverse hr
            simpa using this
          have hc : c = '/' := by
            rw [hp] at he
            simpa [endsWithChar] using he
          subst hc
          rw [hp]; simp
      have hm : matchDyn pre kind post.dropLast true (pre ++ v ++ post) = some (v, true) := by
        have hfull : pre ++ v ++ post = (pre ++ v ++ post.dropLast) ++ ['/'] := by
          rw [List.append_assoc (pre ++ v), ← hpost]
        rw [hfull]
        exact matchDyn_slash (matchCore_render pre kind post.dropLast v hacc) (hsfx he)
      have hs : step (.dyn pre kind post.dropLast true true w) (x :: xs) = some ([v], [[]]) := by
        simp only [step_dyn, if_true, hj, hm, Bool.and_self, Option.map_some]
      have := walkVia_cons_of_step (via := .direct) hs walkVia_direct_slash
      simpa using this

/-- the condition on a path value: when the rule goes on after the path converter and ends in '/',
the text in front of that final slash must not end in '/' itself (werkzeug's `(?<!/)`) -/
def PathTailOK : List Tok → List Str → Prop
  | [], _ => True
  | .slash :: t, vs => PathTailOK t vs
  | .lit _ :: t, vs => PathTailOK t vs
  | .var c _ :: t, v :: vs =>
    if c = .path then
      ∀ post, renderToks t [] = some post → endsWithChar post '/' = true → endsWithChar (v ++ post.dropLast) '/' = false
    else PathTailOK t vs
  | .var _ _ :: _, [] => True

/-- values of isolating converters contain no '/' (a path value may) -/
def IsoNoSlash : List Tok → List Str → Prop
  | [], _ => True
  | .slash :: t, vs => IsoNoSlash t vs
  | .lit _ :: t, vs => IsoNoSlash t vs
  | .var c _ :: t, v :: vs => (c.partIsolating = true → noSlash v) ∧ IsoNoSlash t vs
  | .var _ _ :: _, [] => True

theorem tail_render_nil : ∀ (toks : List Tok) (vs : List Str) {text}, TailToks toks → renderToks toks vs = some text → vs = []
  | [], [], _, _, _ => rfl
  | [], _ :: _, _, _, h => by simp [renderToks] at h
  | .slash :: t, vs, _, ht, h => by
    simp only [renderToks, Option.map_eq_some_iff] at h
    obtain ⟨_, h', _⟩ := h
    exact tail_render_nil t vs ht h'
  | .lit _ :: t, vs, _, ht, h => by
    simp only [renderToks, Option.map_eq_some_iff] at h
    obtain ⟨_, h', _⟩ := h
    exact tail_render_nil t vs ht h'
  | .var .. :: _, _, _, ht, _ => ht.elim

theorem parse_render_admits_gram : ∀ (toks : List Tok) (p : PState) (pv : Option Str) (vs : List Str)
    {parts convs text}, PendOK p pv → GramToks toks → PathTailOK toks vs →
    parseToks toks p = some (parts, convs) → renderToks toks vs = some text →
    IsoNoSlash toks vs → AllAccept ((tokConvs toks).map Conv.kind) vs →
    walkVia .direct parts (splitOn '/' (pendText p pv ++ text)) = some (pv.toList ++ vs) := by
  intro toks
  induction toks with
  | nil =>
    intro p pv vs parts convs text hp _ _ hparse hrender _ _
    cases vs with
    | cons v vs => simp [renderToks] at hrender
    | nil =>
      simp only [renderToks, Option.some.injEq] at hrender
      subst hrender
      simp only [parseToks, hp.notFinal, Bool.false_and, Bool.false_eq_true, if_false, Option.some.injEq, Prod.mk.injEq] at hparse
      obtain ⟨rfl, _⟩ := hparse
      rw [List.append_nil, splitOn_noSlash _ (pendText_noSlash hp)]
      have := walkVia_cons_of_step (via := .direct) (step_emit hp []) walkVia_direct_nil
      simpa using this
  | cons t toks ih =>
    intro p pv vs parts convs text hp hiso htail hparse hrender hns hacc
    cases t with
    | lit s =>
      simp only [GramToks] at hiso
      simp only [renderToks, Option.map_eq_some_iff] at hrender
      obtain ⟨text', hr', rfl⟩ := hrender
      simp only [parseToks] at hparse
      split at hparse
      · rename_i hc
        have hpv := hp.pv_none hc
        have := ih _ pv vs (hp.lit_pre hiso.1 _) hiso.2 (by simpa [PathTailOK] using htail) hparse hr' (by simpa [IsoNoSlash] using hns) (by simpa [tokConvs] using hacc)
        subst hpv
        simpa [pendText, hp.post_nil hc, List.append_assoc] using this
      · rename_i cn hc
        have := ih _ pv vs (hp.lit_post hiso.1 hc _) hiso.2 (by simpa [PathTailOK] using htail) hparse hr' (by simpa [IsoNoSlash] using hns) (by simpa [tokConvs] using hacc)
        simpa [pendText, List.append_assoc] using this
    | var c n =>
      simp only [GramToks] at hiso
      cases vs with
      | nil => simp [renderToks] at hrender
      | cons v vs' =>
        simp only [renderToks, Option.map_eq_some_iff] at hrender
        obtain ⟨text', hr', rfl⟩ := hrender
        simp only [parseToks] at hparse
        split at hparse
        · cases hparse
        · rename_i hc
          obtain rfl := hp.pv_none hc
          simp only [tokConvs, List.map_cons, AllAccept] at hacc
          simp only [IsoNoSlash] at hns
          rcases hiso with ⟨hisoc, hiso'⟩ | ⟨hpath, htailt⟩
          · have hp' := hp.var hisoc n hacc.1 (hns.1 hisoc) (p.argWeights ++ [(c.weight : Int)])
            have hnp : c ≠ .path := by intro h; subst h; cases hisoc
            have htail' : PathTailOK toks vs' := by simpa [PathTailOK, hnp] using htail
            have := ih _ (some v) vs' hp' hiso' htail' hparse hr' hns.2 hacc.2
            simpa [pendText, hp.post_nil hc, List.append_assoc] using this
          · subst hpath
            have hvs' : vs' = [] := tail_render_nil toks vs' htailt hr'
            subst hvs'
            have hpost : p.post = [] := hp.post_nil hc
            obtain ⟨w, hw⟩ := parseToks_final toks _ .path n (by simp [Conv.partIsolating]) rfl hparse hr'
            simp only [hpost, List.nil_append] at hw
            subst hw
            simp only [PathTailOK, if_true] at htail
            have hv1 : v ≠ [] := by
              intro hv; subst hv
              have := hacc.1; simp [Conv.kind, RKind.accepts] at this
            have hsfx : endsWithChar text' '/' = true → endsWithChar (p.pre ++ v ++ text'.dropLast) '/' = false := by
              intro he
              have := htail text' hr' he
              rw [List.append_assoc, endsWithChar_append_right _ _ _ (by simp [hv1])]
              exact this
            have := final_part_admits p.pre (Conv.kind .path) text' v w hacc.1 hsfx
            simpa [pendText, hpost, List.append_assoc] using this
    | slash =>
      simp only [GramToks] at hiso
      simp only [renderToks, Option.map_eq_some_iff] at hrender
      obtain ⟨text', hr', rfl⟩ := hrender
      simp only [parseToks, hp.notFinal, Bool.false_eq_true, if_false] at hparse
      cases hrec : parseToks toks {} with
      | none => simp [hrec] at hparse
      | some pc =>
        obtain ⟨parts', convs'⟩ := pc
        simp only [hrec, Option.some.injEq, Prod.mk.injEq] at hparse
        obtain ⟨rfl, _⟩ := hparse
        have hrest := ih {} none vs PendOK.init hiso (by simpa [PathTailOK] using htail) hrec hr' (by simpa [IsoNoSlash] using hns) (by simpa [tokConvs] using hacc)
        simp only [pendText, List.nil_append, Option.getD_none, List.append_nil, Option.toList_none] at hrest
        rw [splitOn_append_slash _ _ (pendText_noSlash hp)]
        exact walkVia_cons_of_step (step_emit hp _) hrest

theorem IsoToks.gram : ∀ toks, IsoToks toks → GramToks toks
  | [], _ => trivial
  | .slash :: t, h => IsoToks.gram t h
  | .lit _ :: t, h => ⟨h.1, IsoToks.gram t h.2⟩
  | .var _ _ :: t, h => .inl ⟨h.1, IsoToks.gram t h.2⟩

theorem IsoToks.pathTailOK : ∀ toks vs, IsoToks toks → PathTailOK toks vs
  | [], _, _ => trivial
  | .slash :: t, vs, h => IsoToks.pathTailOK t vs h
  | .lit _ :: t, vs, h => IsoToks.pathTailOK t vs h.2
  | .var _ _ :: _, [], _ => trivial
  | .var c _ :: t, v :: vs, h => by
    simp only [PathTailOK]
    rw [if_neg (by rintro rfl; cases h.1)]
    exact IsoToks.pathTailOK t vs h.2

theorem isoNoSlash_of_noSlash : ∀ toks vs, (∀ v ∈ vs, noSlash v) → IsoNoSlash toks vs
  | [], _, _ => trivial
  | .slash :: t, vs, h => isoNoSlash_of_noSlash t vs h
  | .lit _ :: t, vs, h => isoNoSlash_of_noSlash t vs h
  | .var _ _ :: _, [], _ => trivial
  | .var _ _ :: t, v :: vs, h =>
    ⟨fun _ => h v (by simp), isoNoSlash_of_noSlash t vs (fun x hx => h x (List.mem_cons_of_mem _ hx))⟩

/-- `parse_render_admits_gram` for rules without a path converter -/
theorem parse_render_admits : ∀ (toks : List Tok) (p : PState) (pv : Option Str) (vs : List Str)
    {parts convs text}, PendOK p pv → IsoToks toks →
    parseToks toks p = some (parts, convs) → renderToks toks vs = some text →
    (∀ v ∈ vs, noSlash v) → AllAccept ((tokConvs toks).map Conv.kind) vs →
    walkVia .direct parts (splitOn '/' (pendText p pv ++ text)) = some (pv.toList ++ vs) :=
  fun toks p pv vs _ _ _ hp hiso hparse hrender hns hacc =>
    parse_render_admits_gram toks p pv vs hp (IsoToks.gram toks hiso) (IsoToks.pathTailOK toks vs hiso) hparse hrender
      (isoNoSlash_of_noSlash toks vs hns) hacc

def isoToksB : List Tok → Bool
  | [] => true
  | .slash :: t => isoToksB t
  | .lit s :: t => !s.contains '/' && isoToksB t
  | .var c _ :: t => c.partIsolating && isoToksB t

theorem isoToksB_sound (toks) : isoToksB toks = true → IsoToks toks := by
  fun_induction isoToksB toks <;> simp_all [IsoToks, noSlash]

def tailToksB : List Tok → Bool
  | [] => true
  | .slash :: t => tailToksB t
  | .lit _ :: t => tailToksB t
  | .var .. :: _ => false

theorem tailToksB_sound (toks) : tailToksB toks = true → TailToks toks := by
  fun_induction tailToksB toks <;> simp_all [TailToks]

def gramToksB : List Tok → Bool
  | [] => true
  | .slash :: t => gramToksB t
  | .lit s :: t => !s.contains '/' && gramToksB t
  | .var c _ :: t => (c.partIsolating && gramToksB t) || (c == .path && tailToksB t)

theorem gramToksB_sound (toks) : gramToksB toks = true → GramToks toks := by
  fun_induction gramToksB toks <;> simp_all [GramToks, noSlash]
  rename_i ih
  rintro (⟨h1, h2⟩ | ⟨h1, h2⟩)
  · exact .inl ⟨h1, ih h2⟩
  · exact .inr ⟨h1, tailToksB_sound _ h2⟩

def pathTailOKB : List Tok → List Str → Bool
  | [], _ => true
  | .slash :: t, vs => pathTailOKB t vs
  | .lit _ :: t, vs => pathTailOKB t vs
  | .var c _ :: t, v :: vs =>
    if c = .path then
      (match renderToks t [] with
       | some post => !endsWithChar post '/' || !endsWithChar (v ++ post.dropLast) '/'
       | none => true)
    else pathTailOKB t vs
  | .var _ _ :: _, [] => true

theorem pathTailOKB_sound (toks vs) : pathTailOKB toks vs = true → PathTailOK toks vs := by
  fun_induction pathTailOKB toks vs <;> simp_all [PathTailOK]
  rintro (h | h) he
  · rw [he] at h; cases h
  · exact h

def isoNoSlashB : List Tok → List Str → Bool
  | [], _ => true
  | .slash :: t, vs => isoNoSlashB t vs
  | .lit _ :: t, vs => isoNoSlashB t vs
  | .var c _ :: t, v :: vs => (!c.partIsolating || !v.contains '/') && isoNoSlashB t vs
  | .var _ _ :: _, [] => true

theorem isoNoSlashB_sound (toks vs) : isoNoSlashB toks vs = true → IsoNoSlash toks vs := by
  fun_induction isoNoSlashB toks vs <;> simp_all [IsoNoSlash, noSlash]
  rintro (h | h) _ hc
  · rw [hc] at h; cases h
  · exact h

end Wz.Routing
