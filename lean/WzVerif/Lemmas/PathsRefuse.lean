/-
`safe_join` (`checkComp` / `checkAll` / `safeJoinWith` of Model/Paths.lean): exactly what it refuses, what
it returns otherwise, and that the result lies lexically inside the directory (`Inside`).
-/
import WzVerif.Lemmas.Paths
namespace Wz.Paths

/-- the component is refused by `safe_join`: it is not the empty string and it is absolute, or its
normal form climbs (first segment `..`), or its normal form contains an alternative separator -/
def Refused (alts : List Char) (f : Str) : Prop :=
  f ≠ [] ∧ (isabs f = true ∨ (normSegs f).head? = some dotdot ∨ ∃ a ∈ alts, a ∈ normpath f)

instance (alts : List Char) (f : Str) : Decidable (Refused alts f) := by
  unfold Refused; infer_instance

/-- what `safe_join` appends for an accepted component -/
def normOrEmpty (f : Str) : Str := if f = [] then f else normpath f

theorem isabs_normpath (f : Str) : isabs (normpath f) = isabs f := by
  rw [Bool.eq_iff_iff, isabs_iff, isabs_iff, initialSlashes_normpath]

theorem climbs_iff {f : Str} (hf : f ≠ []) (hrel : isabs f = false) :
    (normpath f = dotdot ∨ (['.', '.', '/'] : Str).isPrefixOf (normpath f) = true) ↔
      (normSegs f).head? = some dotdot := by
  have h0 : initialSlashes f = 0 := by
    by_cases h : initialSlashes f = 0
    · exact h
    · have := (isabs_iff f).mpr h; rw [hrel] at this; cases this
  have hseg := seg_of_normSegs f
  have hnp : normpath f = if joinSep (normSegs f) = [] then dot else joinSep (normSegs f) := by
    simp [normpath_eq_render hf, render, h0]
  cases hs : normSegs f with
  | nil =>
    rw [hs] at hnp
    simp only [joinSep, if_true] at hnp
    rw [hnp]
    simp [dot, dotdot]
  | cons c t =>
    rw [hs] at hseg
    obtain ⟨hc1, _, hc3⟩ := hseg c (by simp)
    have hne : joinSep (c :: t) ≠ [] := by
      cases c with
      | nil => exact absurd rfl hc1
      | cons x y => cases t <;> simp [joinSep]
    rw [hs, if_neg hne] at hnp
    rw [hnp]
    simp only [List.head?_cons, Option.some.injEq]
    -- splitting the text at `/` gives the segments back, and `..` or `../…` splits into `..` first
    have hsplit : splitSep (joinSep (c :: t)) = c :: t :=
      splitSep_joinSep _ (by simp) fun x hx => (hseg x hx).2.2
    constructor
    · rintro (h | h)
      · rw [h] at hsplit
        exact (List.cons.inj hsplit).1.symm
      · obtain ⟨r, hr⟩ := List.isPrefixOf_iff_prefix.mp h
        rw [← hr, show (['.', '.', '/'] : Str) ++ r = dotdot ++ sep :: r from rfl, splitSep_append_sep] at hsplit
        exact (List.cons.inj hsplit).1.symm
    · rintro rfl
      cases t with
      | nil => left; simp [joinSep]
      | cons d t' => right; simp [joinSep, dotdot, sep, List.isPrefixOf]

/-- `Refused` on the text `safe_join` looks at, the normalised component: it contains an alternative
separator, is absolute, is `..`, or starts with `../` -/
theorem refused_iff_text (alts : List Char) (f : Str) :
    Refused alts f ↔ ((∃ a ∈ alts, a ∈ normOrEmpty f) ∨ isabs (normOrEmpty f) = true ∨
      normOrEmpty f = dotdot ∨ (['.', '.', '/'] : Str).isPrefixOf (normOrEmpty f) = true) := by
  unfold Refused normOrEmpty
  by_cases hf : f = []
  · subst hf; simp [isabs, dotdot]
  · rw [if_neg hf, isabs_normpath]
    constructor
    · rintro ⟨_, h | h | h⟩
      · exact .inr (.inl h)
      · cases hab : isabs f with
        | true => exact .inr (.inl rfl)
        | false => exact .inr (.inr ((climbs_iff hf hab).mpr h))
      · exact .inl h
    · intro h
      refine ⟨hf, ?_⟩
      rcases h with h | h | h
      · exact .inr (.inr h)
      · exact .inl h
      · cases hab : isabs f with
        | true => exact .inl rfl
        | false => exact .inr (.inl ((climbs_iff hf hab).mp h))

theorem checkComp_eq (alts : List Char) (f : Str) :
    checkComp alts f = if Refused alts f then none else some (normOrEmpty f) := by
  simp only [refused_iff_text]
  unfold checkComp normOrEmpty
  dsimp only
  generalize (if f = [] then f else normpath f) = g
  -- the source tests five things; `isabs g` and `g.startswith("/")` are the same test
  by_cases h : (∃ a ∈ alts, a ∈ g) ∨ isabs g = true ∨ g = dotdot ∨ (['.', '.', '/'] : Str).isPrefixOf g = true
  · rw [if_pos h, if_pos]
    rcases h with ⟨a, ha, hg⟩ | h | h | h
    · simp [List.any_eq_true, hasChar, show ∃ a ∈ alts, a ∈ g from ⟨a, ha, hg⟩]
    all_goals simp [h]
  · rw [if_neg h, if_neg]
    simpa [List.any_eq_true, hasChar, isabs, or_assoc] using h

theorem checkComp_none_iff (alts : List Char) (f : Str) :
    checkComp alts f = none ↔ Refused alts f := by
  rw [checkComp_eq]
  split <;> simp [*]

theorem checkAll_eq (alts : List Char) (ps : List Str) :
    checkAll alts ps = if ∃ f ∈ ps, Refused alts f then none else some (ps.map normOrEmpty) := by
  induction ps with
  | nil => simp [checkAll]
  | cons g t ih =>
    rw [checkAll, checkComp_eq, ih]
    by_cases hg : Refused alts g
    · simp [hg]
    · by_cases ht : ∃ f ∈ t, Refused alts f <;> simp [hg, ht]

theorem safeJoinWith_eq (alts : List Char) (d : Str) (ps : List Str) :
    safeJoinWith alts d ps = if ∃ f ∈ ps, Refused alts f then none
      else some (join (if d = [] then dot else d) (ps.map normOrEmpty)) := by
  rw [safeJoinWith, checkAll_eq]
  by_cases h : ∃ f ∈ ps, Refused alts f
  · rw [if_pos h, if_pos h]; rfl
  · rw [if_neg h, if_neg h]; rfl

theorem accepted_spec {alts : List Char} {f : Str} (hnr : ¬ Refused alts f) :
    (normOrEmpty f).head? ≠ some sep ∧ ∀ c ∈ segments (normOrEmpty f), Clean c := by
  unfold normOrEmpty
  by_cases hf : f = []
  · subst hf; simp [segments, splitSep, splitAux]
  · rw [if_neg hf]
    have hrel : isabs f = false := by
      cases hab : isabs f with
      | false => rfl
      | true => exact absurd ⟨hf, .inl hab⟩ hnr
    refine ⟨?_, ?_⟩
    · have := isabs_normpath f
      rw [hrel] at this
      simpa [isabs] using this
    · rw [segments_normpath]
      obtain ⟨k, rest, hs, _, hr⟩ := normSegs_shape f
      cases k with
      | zero => simpa [hs] using hr
      | succ k => exact absurd ⟨hf, .inr (.inl (by rw [hs]; rfl))⟩ hnr

/-- `p` is lexically inside directory `d`: the normalised segments of `d` are a prefix of those of
`p`, what follows is clean (no `..`), and the root class is the same -/
def Inside (d p : Str) : Prop :=
  ∃ extra, segments (normpath p) = segments (normpath d) ++ extra ∧ (∀ c ∈ extra, Clean c) ∧
    initialSlashes (normpath p) = initialSlashes (normpath d)

theorem inside_iff (d p : Str) : Inside d p ↔
    ∃ extra, normSegs p = normSegs d ++ extra ∧ (∀ c ∈ extra, Clean c) ∧
      initialSlashes p = initialSlashes d := by
  unfold Inside
  rw [segments_normpath, segments_normpath, initialSlashes_normpath, initialSlashes_normpath]

theorem inside_refl (d : Str) : Inside d d := ⟨[], by simp, by simp, rfl⟩

/-- the containment argument on segments: same leading slashes, the directory's segments first, then
only clean components (which the stack machine only pushes) -/
theorem contained_of_segments {d p : Str} {extra : List Str} (hl : lead p = lead d)
    (hs : segments p = segments d ++ extra) (hc : ∀ c ∈ extra, Clean c) : Inside d p := by
  have hi := initialSlashes_of_lead hl
  refine (inside_iff d p).mpr ⟨extra, ?_, hc, hi⟩
  rw [normSegs_eq_segments, normSegs_eq_segments d, hs, hi, List.foldl_append, foldl_step_clean _ _ hc]
  simp

theorem safeJoinWith_join {alts : List Char} {d : Str} {ps : List Str} {p : Str}
    (h : safeJoinWith alts d ps = some p) :
    ∃ fs, p = join (if d = [] then dot else d) fs ∧ (∀ f ∈ fs, f.head? ≠ some sep) ∧
      ∀ c ∈ (fs.map segments).flatten, Clean c := by
  rw [safeJoinWith_eq] at h
  split at h
  · cases h
  · rename_i hr
    cases h
    have hacc : ∀ f ∈ ps.map normOrEmpty, f.head? ≠ some sep ∧ ∀ c ∈ segments f, Clean c := by
      intro f hf
      obtain ⟨g, hg, rfl⟩ := List.mem_map.mp hf
      exact accepted_spec fun h => hr ⟨g, hg, h⟩
    refine ⟨_, rfl, fun f hf => (hacc f hf).1, fun c hc => ?_⟩
    obtain ⟨l, hl, hcl⟩ := List.mem_flatten.mp hc
    obtain ⟨f, hf, rfl⟩ := List.mem_map.mp hl
    exact (hacc f hf).2 c hcl

theorem safeJoinWith_contained {alts : List Char} {d : Str} {ps : List Str} {p : Str}
    (h : safeJoinWith alts d ps = some p) : Inside d p := by
  obtain ⟨fs, rfl, hrel, hclean⟩ := safeJoinWith_join h
  have key := fun d' => let ⟨hl, hs⟩ := join_rel fs hrel d'; contained_of_segments hl hs hclean
  by_cases hd : d = []
  · -- the empty directory is read as `"."`, which has the same normal form: `exact` checks that by
    -- evaluating `normpath []` and `normpath "."`
    subst hd; exact key dot
  · simpa [hd] using key d

end Wz.Paths
