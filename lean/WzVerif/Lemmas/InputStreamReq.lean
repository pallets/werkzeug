/-
Lemmas about the `Request` glue (Model/InputStreamReq.lean) for C09: an invariant `RInv` of the request object that
ties `wsgi.input` to the stream object over it and to the limit `get_input_stream` chose; every step of an access
history keeps it (`Keeps`, composed with `Keeps.trans`); cached data is never overwritten; a history that neither
caches nor parses is a history of the one `LimitedStream`.
-/
import WzVerif.Model.InputStreamReq
import WzVerif.Lemmas.LimitedStream
namespace Wz.RB
open Wz Wz.LS

/-- the number of bytes the chosen wrapper may take from a `wsgi.input` that will deliver `data` -/
def limitFor (c : Choice) (data : Bytes) : Nat :=
  match c with
  | .limited n _ => n
  | .raw => data.length
  | _ => 0

/-- the choice `get_input_stream` makes for this request (constant over the object's life) -/
def choiceOf (r : RSt) : Choice := getInputStream r.cl r.chunked r.terminated r.max true

/-- invariant of a `Request` object whose `wsgi.input` was created holding `data0` -/
structure RInv (data0 : Bytes) (r : RSt) : Prop where
  orig : r.input.taken ++ r.input.data = data0
  bound : r.input.taken.length ≤ limitFor (choiceOf r) data0
  log : ∀ p ∈ r.input.log, p.1 + p.2 ≤ limitFor (choiceOf r) data0
  live : ∀ st, r.stream = some (true, st) →
    st.u = r.input ∧ Inv st ∧ st.limit = limitFor (choiceOf r) data0
  unborn : r.stream = none → r.input.taken = [] ∧ r.input.log = []

/-- the invariant speaks only of the input, the stream object and the configuration -/
theorem RInv.congr {data0 : Bytes} {r r' : RSt} (h : RInv data0 r) (hi : r'.input = r.input)
    (hs : r'.stream = r.stream) (hc : choiceOf r' = choiceOf r) : RInv data0 r' := by
  constructor
  · rw [hi]; exact h.orig
  · rw [hi, hc]; exact h.bound
  · rw [hi, hc]; exact h.log
  · rw [hs, hi, hc]; exact h.live
  · rw [hs, hi]; exact h.unborn

/-- a stream object over private bytes (`BytesIO`) in `__dict__` leaves the invariant of the input alone -/
theorem RInv.ofPrivate {data0 : Bytes} {r r' : RSt} {st : St} (h : RInv data0 r) (hi : r'.input = r.input)
    (hs : r'.stream = some (false, st)) (hc : choiceOf r' = choiceOf r) : RInv data0 r' := by
  constructor
  · rw [hi]; exact h.orig
  · rw [hi, hc]; exact h.bound
  · rw [hi, hc]; exact h.log
  · intro x hx; rw [hs] at hx; cases hx
  · intro hn; rw [hs] at hn; cases hn

theorem freshReq_inv (cl : Option (List Char)) (chunked terminated : Bool) (max : Option Nat)
    (ri wantForm : Bool) (data : Bytes) (script : List Beh) :
    RInv data (freshReq cl chunked terminated max ri wantForm data script) := by
  constructor <;> simp [freshReq]

/-- facts every step keeps: the invariant and the configuration -/
structure Keeps (data0 : Bytes) (r r' : RSt) : Prop where
  inv : RInv data0 r'
  choice : choiceOf r' = choiceOf r
  want : r'.wantForm = r.wantForm

theorem Keeps.refl {data0 : Bytes} {r : RSt} (h : RInv data0 r) : Keeps data0 r r := ⟨h, rfl, rfl⟩

theorem Keeps.trans {data0 : Bytes} {r r' r'' : RSt} (h1 : Keeps data0 r r') (h2 : Keeps data0 r' r'') :
    Keeps data0 r r'' :=
  ⟨h2.inv, h2.choice.trans h1.choice, h2.want.trans h1.want⟩

/-- ... and a state that differs from `r'` only in `_cached_data` / `"form" in __dict__` keeps them too -/
theorem Keeps.congr {data0 : Bytes} {r r' r'' : RSt} (h : Keeps data0 r r') (hi : r''.input = r'.input)
    (hs : r''.stream = r'.stream) (hc : choiceOf r'' = choiceOf r') (hw : r''.wantForm = r'.wantForm) :
    Keeps data0 r r'' :=
  ⟨h.inv.congr hi hs hc, hc.trans h.choice, hw.trans h.want⟩

/-- `get_input_stream` as `Request.stream` calls it, by the choice it makes -/
theorem makeStream_eq (r : RSt) : makeStream r = match choiceOf r with
    | .tooLarge => .error "RequestEntityTooLarge"
    | .limited n m => .ok (true, { limit := n, isMax := m, hasReadinto := r.ri, u := r.input })
    | .raw => .ok (true, { limit := r.input.data.length, isMax := false, hasReadinto := r.ri, u := r.input })
    | .empty => .ok (false, memStream []) := rfl

theorem accessStream_of_some {r : RSt} {p : Bool × St} (h : r.stream = some p) : accessStream r = (.ok p, r) := by
  simp only [accessStream, h]

theorem accessStream_error {r : RSt} {e : String} (hs : r.stream = none) (hm : makeStream r = .error e) :
    accessStream r = (.error e, r) := by
  simp only [accessStream, hs, hm]

theorem accessStream_new {r : RSt} {p : Bool × St} (hs : r.stream = none) (hm : makeStream r = .ok p) :
    accessStream r = (.ok p, { r with stream := some p }) := by
  simp only [accessStream, hs, hm]

theorem accessStream_keeps {data0 : Bytes} {r r' : RSt} {res : Except String (Bool × St)} (h : RInv data0 r)
    (hacc : accessStream r = (res, r')) : Keeps data0 r r' ∧ ∀ p, res = .ok p → r'.stream = some p := by
  cases hs : r.stream with
  | some st =>
    rw [accessStream_of_some hs] at hacc
    cases hacc
    exact ⟨Keeps.refl h, fun p hp => by cases hp; exact hs⟩
  | none =>
    cases hm : makeStream r with
    | error e => rw [accessStream_error hs hm] at hacc; cases hacc; exact ⟨Keeps.refl h, by simp⟩
    | ok p =>
      rw [accessStream_new hs hm] at hacc
      cases hacc
      refine ⟨⟨?_, rfl, rfl⟩, fun q hq => by cases hq; rfl⟩
      obtain ⟨ht, hl⟩ := h.unborn hs
      have hd : r.input.data = data0 := by have := h.orig; rw [ht] at this; simpa using this
      refine ⟨h.orig, h.bound, h.log, ?_, fun hn => by simp at hn⟩
      intro st hst
      simp only [Option.some.injEq] at hst
      subst hst
      rw [makeStream_eq] at hm
      have hc : choiceOf { r with stream := some (true, st) } = choiceOf r := rfl
      rw [hc]
      cases hg : choiceOf r with
      | tooLarge => simp [hg] at hm
      | empty => simp [hg, memStream] at hm
      | limited n m =>
        simp only [hg, Except.ok.injEq, Prod.mk.injEq, true_and] at hm
        subst hm
        refine ⟨rfl, ?_, rfl⟩
        constructor <;> simp [ht, hl]
      | raw =>
        simp only [hg, Except.ok.injEq, Prod.mk.injEq, true_and] at hm
        subst hm
        refine ⟨rfl, ?_, by simp [limitFor, hd]⟩
        constructor <;> simp [ht, hl]

theorem putStream_keeps {data0 : Bytes} {r : RSt} {live : Bool} {st st' : St} {d : Bytes}
    (h : RInv data0 r) (hs : r.stream = some (live, st)) (ha : Adv st st' d) :
    Keeps data0 r (putStream r live st') := by
  have hc : choiceOf (putStream r live st') = choiceOf r := rfl
  refine ⟨?_, hc, rfl⟩
  cases live with
  | false => exact h.ofPrivate rfl rfl rfl
  | true =>
    obtain ⟨hu, hi, hl⟩ := h.live st hs
    have hi' := ha.inv hi
    have hlim : st'.limit = limitFor (choiceOf r) data0 := by rw [ha.limit_eq, hl]
    constructor
    · show st'.u.taken ++ st'.u.data = data0
      rw [ha.taken_eq, List.append_assoc, ← ha.data_eq, hu]; exact h.orig
    · rw [hc]
      show st'.u.taken.length ≤ _
      rw [hi'.consumed, ← hlim]; exact hi'.pos_le
    · rw [hc]
      intro p hp
      have := hi'.no_overread p hp
      rw [hlim] at this; exact this
    · intro x hx
      simp only [putStream, Option.some.injEq, Prod.mk.injEq, true_and] at hx
      subst hx
      exact ⟨rfl, hi', by rw [hc]; exact hlim⟩
    · intro hn; simp [putStream] at hn

theorem runParser_adv : ∀ (ops : List Op) (st : St), ∃ d, Adv st (runParser st ops).2 d := by
  intro ops
  induction ops with
  | nil => intro st; exact ⟨[], Adv.refl st⟩
  | cons op ops ih =>
    intro st
    obtain ⟨d1, h1, _⟩ := runOp_spec st op
    rcases hr : runOp st op with ⟨r, st'⟩
    rw [hr] at h1
    cases r with
    | error e => exact ⟨d1, by simpa [runParser, hr] using h1⟩
    | ok bs =>
      obtain ⟨d2, h2⟩ := ih st'
      exact ⟨d1 ++ d2, by simpa [runParser, hr] using h1.trans h2⟩

theorem loadForm_keeps {data0 : Bytes} {r : RSt} (h : RInv data0 r) (pops : List Op) :
    Keeps data0 r (loadForm r pops).2 := by
  unfold loadForm
  by_cases hf : r.formLoaded = true
  · simp only [hf, if_true]; exact Keeps.refl h
  · simp only [hf, Bool.false_eq_true, if_false]
    by_cases hw : r.wantForm = true
    · simp only [hw, if_true]
      cases hc : r.cached with
      | some c =>
        simp only
        rcases runParser (memStream c) pops with ⟨e, st'⟩
        cases e with
        | some e => exact Keeps.refl h
        | none => exact ⟨h.ofPrivate rfl rfl rfl, rfl, hw.symm ▸ rfl⟩
      | none =>
        simp only
        rcases hacc : accessStream r with ⟨res, r'⟩
        obtain ⟨hk, hok⟩ := accessStream_keeps h hacc
        cases res with
        | error e => exact hk
        | ok p =>
          obtain ⟨live, st⟩ := p
          simp only
          obtain ⟨d, hadv⟩ := runParser_adv pops st
          rcases hp : runParser st pops with ⟨e, st'⟩
          rw [hp] at hadv
          have hput := hk.trans (putStream_keeps hk.inv (hok _ rfl) hadv)
          cases e with
          | some e => exact hput
          | none => exact hput.congr rfl rfl rfl rfl
    · simp only [hw, Bool.false_eq_true, if_false]
      rcases hacc : accessStream r with ⟨res, r'⟩
      obtain ⟨hk, _⟩ := accessStream_keeps h hacc
      cases res with
      | error e => exact hk
      | ok p => exact hk.congr rfl rfl rfl rfl

theorem getData_keeps {data0 : Bytes} {r : RSt} (h : RInv data0 r) (cache parse : Bool) (pops : List Op) :
    Keeps data0 r (getData r cache parse pops).2 := by
  unfold getData
  cases hc : r.cached with
  | some c => exact Keeps.refl h
  | none =>
    simp only
    have h1 : Keeps data0 r (if parse = true then loadForm r pops else (none, r)).2 := by
      cases parse with
      | true => exact loadForm_keeps h pops
      | false => exact Keeps.refl h
    rcases hl : (if parse = true then loadForm r pops else (none, r)) with ⟨e, r1⟩
    rw [hl] at h1
    cases e with
    | some e => exact h1
    | none =>
      simp only
      rcases hacc : accessStream r1 with ⟨res, r2⟩
      obtain ⟨hk, hok⟩ := accessStream_keeps h1.inv hacc
      cases res with
      | error e => exact h1.trans hk
      | ok p =>
        obtain ⟨live, st⟩ := p
        simp only
        obtain ⟨d, ⟨hadv, _, _⟩⟩ := readall_spec st
        rcases hra : readall st with ⟨res2, st'⟩
        rw [hra] at hadv
        have hput := (h1.trans hk).trans (putStream_keeps hk.inv (hok _ rfl) hadv)
        cases res2 with
        | error e => exact hput
        | ok b =>
          simp only
          cases cache with
          | false => exact hput
          | true => exact hput.congr rfl rfl rfl rfl

theorem getData_ok {r r' : RSt} {cache parse : Bool} {pops : List Op} {b : Bytes}
    (h : getData r cache parse pops = (.ok b, r')) :
    (r.cached = some b ∧ r' = r) ∨
    (r.cached = none ∧ ∃ r3 : RSt, r' = if cache then { r3 with cached := some b } else r3) := by
  unfold getData at h
  cases hc : r.cached with
  | some c => rw [hc] at h; cases h; exact Or.inl ⟨rfl, rfl⟩
  | none =>
    rw [hc] at h
    simp only at h
    split at h
    · cases h
    · split at h
      · cases h
      · split at h
        · cases h
        · cases h; exact Or.inr ⟨rfl, _, rfl⟩

theorem runROp_keeps {data0 : Bytes} {r : RSt} (h : RInv data0 r) (op : ROp) :
    Keeps data0 r (runROp r op).2 := by
  cases op with
  | close => exact Keeps.refl h
  | form pops =>
    have := loadForm_keeps h pops
    simp only [runROp]
    rcases hl : loadForm r pops with ⟨e, r'⟩
    rw [hl] at this
    cases e <;> exact this
  | getData cache parse pops =>
    have := getData_keeps h cache parse pops
    simp only [runROp]
    rcases hl : getData r cache parse pops with ⟨res, r'⟩
    rw [hl] at this
    cases res <;> exact this
  | stream op =>
    simp only [runROp]
    rcases hacc : accessStream r with ⟨res, r'⟩
    obtain ⟨hk, hok⟩ := accessStream_keeps h hacc
    cases res with
    | error e => exact hk
    | ok p =>
      obtain ⟨live, st⟩ := p
      simp only
      obtain ⟨d, hadv, _⟩ := runOp_spec st op
      exact hk.trans (putStream_keeps hk.inv (hok _ rfl) hadv)

theorem runROps_keeps {data0 : Bytes} : ∀ (ops : List ROp) (r : RSt), RInv data0 r →
    Keeps data0 r (runROps r ops).2 := by
  intro ops
  induction ops with
  | nil => intro r h; exact Keeps.refl h
  | cons op ops ih =>
    intro r h
    have h1 := runROp_keeps h op
    simp only [runROps]
    exact h1.trans (ih _ h1.inv)

theorem accessStream_frame (r : RSt) :
    (accessStream r).2.input = r.input ∧ (accessStream r).2.cached = r.cached := by
  cases hs : r.stream with
  | some p => rw [accessStream_of_some hs]; exact ⟨rfl, rfl⟩
  | none =>
    cases hm : makeStream r with
    | error e => rw [accessStream_error hs hm]; exact ⟨rfl, rfl⟩
    | ok p => rw [accessStream_new hs hm]; exact ⟨rfl, rfl⟩

/-- with cached data the form parser reads a private copy: the cache and the input stay as they are -/
theorem loadForm_of_cached {r : RSt} {c : Bytes} (hc : r.cached = some c) (pops : List Op) :
    (loadForm r pops).2.cached = some c ∧ (loadForm r pops).2.input = r.input := by
  unfold loadForm
  by_cases hf : r.formLoaded = true
  · rw [if_pos hf]; exact ⟨hc, rfl⟩
  · by_cases hw : r.wantForm = true
    · simp only [hf, hw, hc, Bool.false_eq_true, if_false, if_true]
      rcases runParser (memStream c) pops with ⟨e, st'⟩
      cases e with
      | some e => exact ⟨hc, rfl⟩
      | none => exact ⟨rfl, rfl⟩
    · simp only [hf, hw, Bool.false_eq_true, if_false]
      have := accessStream_frame r
      generalize accessStream r = p at this ⊢
      obtain ⟨res, r'⟩ := p
      cases res <;> exact ⟨this.2.trans hc, this.1⟩

theorem getData_of_cached {r : RSt} {c : Bytes} (hc : r.cached = some c) (cache parse : Bool) (pops : List Op) :
    getData r cache parse pops = (.ok c, r) := by
  simp only [getData, hc]

theorem runROp_cached {r : RSt} {c : Bytes} (hc : r.cached = some c) (op : ROp) :
    (runROp r op).2.cached = some c := by
  cases op with
  | close => exact hc
  | stream op =>
    have := (accessStream_frame r).2
    simp only [runROp]
    generalize accessStream r = p at this ⊢
    obtain ⟨res, r'⟩ := p
    cases res <;> exact this.trans hc
  | getData cache parse pops => rw [runROp, getData_of_cached hc]; exact hc
  | form pops =>
    have := (loadForm_of_cached hc pops).1
    simp only [runROp]
    generalize loadForm r pops = p at this ⊢
    obtain ⟨e, r'⟩ := p
    cases e <;> exact this

theorem runROps_cached {c : Bytes} : ∀ (hist : List ROp) {r : RSt}, r.cached = some c →
    (runROps r hist).2.cached = some c
  | [], _, h => h
  | op :: ops, _, h => runROps_cached ops (runROp_cached h op)

theorem loadForm_of_access_error {r : RSt} {e : String} (hc : r.cached = none) (hf : r.formLoaded = false)
    (ha : accessStream r = (.error e, r)) (pops : List Op) : loadForm r pops = (some e, r) := by
  unfold loadForm
  cases r.wantForm <;> simp only [hf, hc, ha, Bool.false_eq_true, if_false, if_true]

theorem getData_of_access_error {r : RSt} {e : String} (hc : r.cached = none) (hf : r.formLoaded = false)
    (ha : accessStream r = (.error e, r)) (cache parse : Bool) (pops : List Op) :
    getData r cache parse pops = (.error e, r) := by
  unfold getData
  cases parse <;> simp only [hc, ha, loadForm_of_access_error hc hf ha, Bool.false_eq_true, if_false, if_true]

/-- a step that neither caches nor parses -/
inductive Plain where
  | s (op : Op)      -- `request.stream.<op>`
  | d                -- `request.get_data(cache=False)`

def Plain.toR : Plain → ROp
  | .s op => .stream op
  | .d => .getData false false []

def Plain.toOp : Plain → Op
  | .s op => op
  | .d => .readall

theorem runROp_plain {r : RSt} {live : Bool} {st : St} (hs : r.stream = some (live, st))
    (hc : r.cached = none) (p : Plain) :
    (runROp r p.toR).1 = (runOp st p.toOp).1 ∧
    (runROp r p.toR).2.stream = some (live, (runOp st p.toOp).2) ∧ (runROp r p.toR).2.cached = none := by
  cases p with
  | s op =>
    simp [Plain.toR, Plain.toOp, runROp, accessStream_of_some hs, putStream, hc]
  | d =>
    simp only [Plain.toR, Plain.toOp, runROp, getData, hc, accessStream_of_some hs, Bool.false_eq_true, if_false,
      runOp]
    rcases readall st with ⟨res, st'⟩
    cases res with
    | error e => exact ⟨rfl, rfl, hc⟩
    | ok b => exact ⟨rfl, rfl, hc⟩

theorem runROps_plain : ∀ (ps : List Plain) (r : RSt) (live : Bool) (st : St),
    r.stream = some (live, st) → r.cached = none →
    (runROps r (ps.map Plain.toR)).1 = (runOps st (ps.map Plain.toOp)).1 := by
  intro ps
  induction ps with
  | nil => intro r live st _ _; rfl
  | cons p ps ih =>
    intro r live st hs hc
    obtain ⟨h1, h2, h3⟩ := runROp_plain hs hc p
    simp only [List.map_cons, runROps, runOps]
    rw [h1, ih _ live _ h2 h3]

/-- the first access creates the stream object; afterwards the step is the same -/
theorem runROp_plain_unborn {r : RSt} {p0 : Bool × St} (hs : r.stream = none) (hc : r.cached = none)
    (hm : makeStream r = .ok p0) (p : Plain) : runROp r p.toR = runROp { r with stream := some p0 } p.toR := by
  cases p with
  | s op => simp [Plain.toR, runROp, accessStream_new hs hm, accessStream_of_some]
  | d => simp [Plain.toR, runROp, getData, accessStream_new hs hm, accessStream_of_some, hc]

theorem runROps_plain_unborn (ps : List Plain) {r : RSt} {live : Bool} {st : St} (hs : r.stream = none)
    (hc : r.cached = none) (hm : makeStream r = .ok (live, st)) :
    (runROps r (ps.map Plain.toR)).1 = (runOps st (ps.map Plain.toOp)).1 := by
  cases ps with
  | nil => rfl
  | cons p ps =>
    rw [List.map_cons, runROps, runROp_plain_unborn hs hc hm p]
    exact runROps_plain (p :: ps) { r with stream := some (live, st) } live st rfl hc

end Wz.RB
