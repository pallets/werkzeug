/-
Lemmas for C19 about `make_environ` and the simple response writer (Model/DevServer.lean, and the header folding of
Model/Chunked.lean). The header loop: what the folded environ holds under `HTTP_<NAME>` (`foldl_foldHeader_get`,
`valuesFor`). The request target: a client's percent-encoding as one choice per byte (`PEnc`, `ValidEnc`) and its
inverse; `urlsplit` on the two target forms (origin, absolute); what `make_environ` answers (`makeEnviron_of_split`).
The writer: `runWsgi` in closed form, head once and then the framed body (`runWsgi_closed`), and a reader of a response
head with its inverse (`parseHead_lines`, `splitHeaderLine_render`).
-/
import WzVerif.Model.DevServer
import WzVerif.Lemmas.Chunked
import WzVerif.Lemmas.Utf8Facts
namespace Wz.Chunked
open Wz

theorem Env.get_set_same : ∀ (env : Env) (k v : Str), (env.set k v).get k = some v := by
  intro env
  induction env with
  | nil => intro k v; simp [Env.set, Env.get]
  | cons p rest ih =>
    intro k v
    obtain ⟨k', v'⟩ := p
    unfold Env.set
    by_cases h : (k' == k) = true
    · simp [h, Env.get]
    · simp only [h, Bool.false_eq_true, if_false]
      have := ih k v
      simp only [Env.get, List.find?_cons, h] at this ⊢
      exact this

theorem Env.get_set_other : ∀ (env : Env) (k k' v : Str), k' ≠ k → (env.set k v).get k' = env.get k' := by
  intro env
  induction env with
  | nil =>
    intro k k' v h
    have : (k == k') = false := by simpa using fun e => h e.symm
    simp [Env.set, Env.get, this]
  | cons p rest ih =>
    intro k k' v h
    obtain ⟨k0, v0⟩ := p
    unfold Env.set
    by_cases h0 : (k0 == k) = true
    · have e : k0 = k := by simpa using h0
      have : (k0 == k') = false := by rw [e]; simpa using fun x => h x.symm
      simp [h0, Env.get, this]
    · simp only [h0, Bool.false_eq_true, if_false]
      have := ih k k' v h
      by_cases h1 : (k0 == k') = true
      · simp [Env.get, h1]
      · simp only [Env.get, List.find?_cons, h1] at this ⊢
        exact this

/-- the values (with `\r\n` removed) of the dash-named headers whose environ name is `k`, in order -/
def valuesFor (k : Str) (hs : List (Str × Str)) : List Str :=
  (hs.filter fun h => !h.1.contains '_' && envName h.1 == k).map fun h => dropCrlf h.2

/-- comma-joining onto an optional previous value -/
def joinStep (o : Option Str) (v : Str) : Option Str :=
  match o with
  | some x => some (x ++ ',' :: v)
  | none => some v

def joinFrom (o : Option Str) (vs : List Str) : Option Str := vs.foldl joinStep o

theorem joinFrom_some (x : Str) : ∀ vs : List Str, joinFrom (some x) vs = some (x ++ vs.flatMap (fun v => ',' :: v)) := by
  intro vs
  induction vs generalizing x with
  | nil => simp [joinFrom]
  | cons v vs ih =>
    simp only [joinFrom, List.foldl_cons, joinStep] at ih ⊢
    rw [ih]
    simp [List.append_assoc]

theorem http_ne_content (k key : Str) (h : isContentKey key = true) : "HTTP_".toList ++ k ≠ key := by
  intro e
  subst e
  simp [isContentKey] at h

theorem foldl_foldHeader_get (k : Str) (hk : isContentKey k = false) : ∀ (hs : List (Str × Str)) (env : Env),
    (hs.foldl foldHeader env).get ("HTTP_".toList ++ k)
      = joinFrom (env.get ("HTTP_".toList ++ k)) (valuesFor k hs) := by
  intro hs
  induction hs with
  | nil => intro env; rfl
  | cons h t ih =>
    intro env
    simp only [List.foldl_cons]
    rw [ih]
    by_cases hu : h.1.contains '_' = true
    · have hm : '_' ∈ h.1 := by simpa using hu
      simp [foldHeader, hm, valuesFor]
    · have hu' : h.1.contains '_' = false := by simpa using hu
      have hm : '_' ∉ h.1 := by simpa using hu
      by_cases hc : isContentKey (envName h.1) = true
      · have hne : envName h.1 ≠ k := by intro e; rw [e, hk] at hc; cases hc
        have hb : (envName h.1 == k) = false := by simpa using hne
        simp only [foldHeader, hu', Bool.false_eq_true, if_false, hc, if_true]
        rw [Env.get_set_other _ _ _ _ (http_ne_content k _ hc)]
        simp [valuesFor, hm, hb]
      · have hc' : isContentKey (envName h.1) = false := by simpa using hc
        simp only [foldHeader, hu', Bool.false_eq_true, if_false, hc']
        by_cases hkey : envName h.1 = k
        · have hb : (envName h.1 == k) = true := by simpa using hkey
          have hv : valuesFor k (h :: t) = dropCrlf h.2 :: valuesFor k t := by
            simp [valuesFor, hm, hkey]
          rw [hv, hkey]
          cases hg : env.get ("HTTP_".toList ++ k) with
          | none => simp [Env.get_set_same, joinFrom, joinStep]
          | some old => simp [Env.get_set_same, joinFrom, joinStep]
        · have hb : (envName h.1 == k) = false := by simpa using hkey
          have hv : valuesFor k (h :: t) = valuesFor k t := by simp [valuesFor, hm, hkey]
          have hne : "HTTP_".toList ++ k ≠ "HTTP_".toList ++ envName h.1 := by
            intro e; exact hkey (List.append_cancel_left e).symm
          rw [hv]
          cases hg : env.get ("HTTP_".toList ++ envName h.1) with
          | none => simp only; rw [Env.get_set_other _ _ _ _ hne]
          | some old => simp only; rw [Env.get_set_other _ _ _ _ hne]

theorem foldl_foldHeader_filter : ∀ (hs : List (Str × Str)) (env : Env),
    hs.foldl foldHeader env = (hs.filter fun h => !h.1.contains '_').foldl foldHeader env := by
  intro hs
  induction hs with
  | nil => intro env; rfl
  | cons h t ih =>
    intro env
    by_cases hu : h.1.contains '_' = true
    · simp only [List.foldl_cons, List.filter_cons, hu, Bool.not_true, Bool.false_eq_true, if_false]
      rw [← ih]
      have hm : '_' ∈ h.1 := by simpa using hu
      simp [foldHeader, hm]
    · have hu' : h.1.contains '_' = false := by simpa using hu
      simp only [List.foldl_cons, List.filter_cons, hu', Bool.not_false, if_true]
      exact ih _

end Wz.Chunked

namespace Wz.DevServer
open Wz Wz.Chunked

/-- how a client writes one byte: literally, or as `%XY` with a hex case per digit -/
inductive PEnc where
  | lit
  | pct (upHi upLo : Bool)

/-- bytes that may be written literally inside a path: printable ASCII except `%`, `?`, `#` -/
def litOk (b : UInt8) : Bool := 0x21 ≤ b.toNat && b.toNat ≤ 0x7E && b != 37 && b != 63 && b != 35

def encByte (b : UInt8) : PEnc → Str
  | .lit => [toChar b]
  | .pct u1 u2 => ['%', toChar (hexDigitChar u1 (b.toNat / 16)), toChar (hexDigitChar u2 (b.toNat % 16))]

/-- a percent-encoding of a byte string: one choice per byte -/
def pctEncode (l : List (UInt8 × PEnc)) : Str := l.flatMap fun p => encByte p.1 p.2

def ValidEnc (l : List (UInt8 × PEnc)) : Prop := ∀ p ∈ l, (match p.2 with | .lit => litOk p.1 = true | .pct _ _ => True)

theorem lit_char_facts : ∀ n, n < 256 → (0x21 ≤ n && n ≤ 0x7E && n != 37 && n != 63 && n != 35) = true →
    Char.ofNat n ≠ '%' ∧ Char.ofNat n ≠ '?' ∧ Char.ofNat n ≠ '#' ∧
    (0x21 ≤ (Char.ofNat n).toNat && (Char.ofNat n).toNat ≤ 0x7E) = true := by
  decide +kernel

theorem litOk_facts {b : UInt8} (h : litOk b = true) :
    toChar b ≠ '%' ∧ toChar b ≠ '?' ∧ toChar b ≠ '#' ∧ (0x21 ≤ (toChar b).toNat && (toChar b).toNat ≤ 0x7E) = true := by
  apply lit_char_facts b.toNat b.toNat_lt
  unfold litOk at h
  have e1 : (b != 37) = (b.toNat != 37) := by
    rw [Bool.eq_iff_iff]; simp [← UInt8.toNat_inj]
  have e2 : (b != 63) = (b.toNat != 63) := by
    rw [Bool.eq_iff_iff]; simp [← UInt8.toNat_inj]
  have e3 : (b != 35) = (b.toNat != 35) := by
    rw [Bool.eq_iff_iff]; simp [← UInt8.toNat_inj]
  rw [e1, e2, e3] at h
  exact h

theorem pctDecode_lit (c : Char) (t : Str) (h : c ≠ '%') :
    pctDecode (c :: t) = UInt8.ofNat c.toNat :: pctDecode t := by
  conv => lhs; unfold pctDecode
  split
  · rename_i heq; simp only [List.cons.injEq] at heq; exact absurd heq.1 h
  · rename_i heq; simp only [List.cons.injEq] at heq; rw [heq.1, heq.2]
  · rename_i heq; cases heq

theorem pctDecode_pct (a b : Char) (x y : Nat) (t : Str) (ha : hexVal a = some x) (hb : hexVal b = some y) :
    pctDecode ('%' :: a :: b :: t) = UInt8.ofNat (16 * x + y) :: pctDecode t := by
  simp [pctDecode, ha, hb]

/-- one byte is read back, whatever follows -/
theorem pctDecode_encByte (b : UInt8) (e : PEnc) (rest : Str)
    (h : match e with | .lit => litOk b = true | .pct _ _ => True) :
    pctDecode (encByte b e ++ rest) = b :: pctDecode rest := by
  cases e with
  | lit =>
    have hf := litOk_facts h
    simp only [encByte, List.cons_append, List.nil_append]
    rw [pctDecode_lit _ _ hf.1]
    simp [toChar, toNat_ofNat_lt b.toNat_lt]
  | pct u1 u2 =>
    have h1 := (hexDigit_facts u1 (b.toNat / 16) (by have := b.toNat_lt; omega)).val
    have h2 := (hexDigit_facts u2 (b.toNat % 16) (by omega)).val
    simp only [encByte, List.cons_append, List.nil_append]
    rw [pctDecode_pct _ _ _ _ _ h1 h2]
    have : 16 * (b.toNat / 16) + b.toNat % 16 = b.toNat := by omega
    rw [this, UInt8.ofNat_toNat]

/-- **percent-decoding inverts every percent-encoding** (any mix of literal and `%XY` bytes, any hex case) -/
theorem pctDecode_pctEncode (l : List (UInt8 × PEnc)) (rest : Str) (hv : ValidEnc l) :
    pctDecode (pctEncode l ++ rest) = l.map (·.1) ++ pctDecode rest :=
  flatMap_decode (fun p hp rest => pctDecode_encByte p.1 p.2 rest (hv p hp)) rest

def domChar (c : Char) : Bool := 0x21 ≤ c.toNat && c.toNat ≤ 0x7E

theorem pctEncode_chars {l : List (UInt8 × PEnc)} (hv : ValidEnc l) :
    ∀ c ∈ pctEncode l, c ≠ '?' ∧ c ≠ '#' ∧ domChar c = true := by
  intro c hc
  simp only [pctEncode, List.mem_flatMap] at hc
  obtain ⟨⟨b, e⟩, hp, hce⟩ := hc
  cases e with
  | lit =>
    have hf := litOk_facts (hv (b, .lit) hp)
    simp only [encByte, List.mem_singleton] at hce
    subst hce
    exact ⟨hf.2.1, hf.2.2.1, hf.2.2.2⟩
  | pct u1 u2 =>
    have key : ∀ (u : Bool) (d : Nat), d < 16 → toChar (hexDigitChar u d) ≠ '?' ∧ toChar (hexDigitChar u d) ≠ '#' ∧
        domChar (toChar (hexDigitChar u d)) = true := by
      intro u
      cases u <;> decide
    simp only [encByte, List.mem_cons, List.not_mem_nil, or_false] at hce
    rcases hce with rfl | rfl | rfl
    · decide
    · exact key u1 _ (by have := b.toNat_lt; omega)
    · exact key u2 _ (by omega)

/-- path + optional query, as both target forms end: made of printable ASCII, no `?`/`#` in the path and
no `#` in the query, it splits into exactly that path and query -/
theorem pathQuery_split (p' q : Str) (hasQ : Bool) (hp : ∀ c ∈ p', c ≠ '?' ∧ c ≠ '#' ∧ domChar c = true)
    (hq : ∀ c ∈ q, c ≠ '#' ∧ domChar c = true) :
    (('/' :: p' ++ (if hasQ then '?' :: q else [])).takeWhile (· != '#')).takeWhile (· != '?') = '/' :: p' ∧
    ((('/' :: p' ++ (if hasQ then '?' :: q else [])).takeWhile (· != '#')).dropWhile (· != '?')).drop 1
      = (if hasQ then q else []) ∧
    ∀ c ∈ '/' :: p' ++ (if hasQ then '?' :: q else []), domChar c = true := by
  have hQ : ∀ c ∈ (if hasQ then '?' :: q else []), c ≠ '#' ∧ domChar c = true := by
    cases hasQ with
    | false => simp
    | true =>
      intro c hc
      rcases List.mem_cons.mp hc with rfl | hc
      · exact ⟨by decide, by decide⟩
      · exact hq c hc
  have hnohash : '#' ∉ ('/' :: p' ++ (if hasQ then '?' :: q else [])) := by
    simp only [List.cons_append, List.mem_cons, List.mem_append, not_or]
    exact ⟨by decide, fun h => (hp _ h).2.1 rfl, fun h => (hQ _ h).1 rfl⟩
  have hnoq : '?' ∉ ('/' :: p') := by
    simp only [List.mem_cons, not_or]
    exact ⟨by decide, fun h => (hp _ h).1 rfl⟩
  rw [(takeWhile_ne_not_mem hnohash).1]
  refine ⟨?_, ?_, ?_⟩
  · cases hasQ with
    | false => rw [if_neg (by decide), List.append_nil, (takeWhile_ne_not_mem hnoq).1]
    | true => exact (takeWhile_ne_append q hnoq).1
  · cases hasQ with
    | false => rw [if_neg (by decide), List.append_nil, (takeWhile_ne_not_mem hnoq).2]; rfl
    | true => rw [if_pos rfl, (takeWhile_ne_append q hnoq).2]; rfl
  · intro c hc
    rcases List.mem_append.mp hc with hc | hc
    · rcases List.mem_cons.mp hc with rfl | hc
      · decide
      · exact (hp c hc).2.2
    · exact (hQ c hc).2

/-- an origin-form target `/p'` (not starting with `//`) with an optional `?query` splits into exactly
that path and query, with no scheme and no authority -/
theorem urlsplit_origin (p' q : Str) (hasQ : Bool)
    (hp : ∀ c ∈ p', c ≠ '?' ∧ c ≠ '#' ∧ domChar c = true) (hp0 : p'.head? ≠ some '/')
    (hq : ∀ c ∈ q, c ≠ '#' ∧ domChar c = true) :
    urlsplit ('/' :: p' ++ (if hasQ then '?' :: q else [])) =
      some { scheme := [], netloc := [], path := '/' :: p', query := if hasQ then q else [] } := by
  obtain ⟨hpath, hquery, hdom⟩ := pathQuery_split p' q hasQ hp hq
  have hdom' : inDomain ('/' :: p' ++ (if hasQ then '?' :: q else [])) = true := List.all_eq_true.mpr hdom
  have hsch : splitScheme ('/' :: p' ++ (if hasQ then '?' :: q else []))
      = ([], '/' :: p' ++ (if hasQ then '?' :: q else [])) := by
    unfold splitScheme
    have : headIsAlpha (('/' :: p' ++ (if hasQ then '?' :: q else [])).takeWhile (· != ':')) = false := by
      simp [headIsAlpha, show isAlphaAscii '/' = false by decide]
    simp only [this, Bool.and_false, Bool.false_and, Bool.false_eq_true, if_false]
  -- no `//`: the second character is not a slash
  have hrest : splitNetloc ('/' :: p' ++ (if hasQ then '?' :: q else []))
      = (([] : Str), '/' :: p' ++ (if hasQ then '?' :: q else [])) := by
    cases p' with
    | nil => cases hasQ <;> rfl
    | cons c t =>
      have : c ≠ '/' := by simpa using hp0
      simp only [List.cons_append]
      unfold splitNetloc
      split
      · rename_i heq; simp only [List.cons.injEq, true_and] at heq; exact absurd heq.1 this
      · rfl
  unfold urlsplit
  simp only [hdom', Bool.not_true, Bool.false_eq_true, if_false, hsch, hrest, List.contains_nil, Bool.or_self,
    hpath, hquery]

/-- characters allowed in the authority of the modelled domain -/
def netlocChar (c : Char) : Bool := domChar c && !isNetlocEnd c && c != '[' && c != ']'

theorem scheme_char_facts (c : Char) (hc : isSchemeChar c = true) : domChar c = true ∧ c ≠ ':' := by
  have hle : ∀ x y : Char, x ≤ y ↔ x.toNat ≤ y.toNat := by
    intro x y
    show x.val ≤ y.val ↔ x.val.toNat ≤ y.val.toNat
    exact UInt32.le_iff_toNat_le
  simp only [isSchemeChar, isAlphaAscii, Bool.or_eq_true, Bool.and_eq_true, decide_eq_true_eq, beq_iff_eq,
    hle, Char.reduceToNat] at hc
  have hcases : (33 ≤ c.toNat ∧ c.toNat ≤ 126 ∧ c.toNat ≠ 58) := by
    rcases hc with ((((⟨h1, h2⟩ | ⟨h1, h2⟩) | ⟨h1, h2⟩) | h) | h) | h
    · omega
    · omega
    · omega
    · subst h; decide
    · subst h; decide
    · subst h; decide
  refine ⟨by simp [domChar]; omega, ?_⟩
  intro e; subst e; simp at hcases

theorem urlsplit_abs_core (sch n P : Str)
    (hs0 : headIsAlpha sch = true)
    (hs : sch.all isSchemeChar = true) (hn : ∀ c ∈ n, netlocChar c = true)
    (hP0 : P.head? = some '/') (hPdom : ∀ c ∈ P, domChar c = true) :
    urlsplit (sch ++ ':' :: ('/' :: '/' :: (n ++ P))) =
      some { scheme := sch.map lowerAscii, netloc := n,
             path := (P.takeWhile (· != '#')).takeWhile (· != '?'),
             query := ((P.takeWhile (· != '#')).dropWhile (· != '?')).drop 1 } := by
  have hschar : ∀ c ∈ sch, isSchemeChar c = true := by simpa [List.all_eq_true] using hs
  have hnc : ∀ c ∈ n, domChar c = true ∧ isNetlocEnd c = false ∧ c ≠ '[' ∧ c ≠ ']' := by
    intro c hc
    have := hn c hc
    simp only [netlocChar, Bool.and_eq_true, Bool.not_eq_true', bne_iff_ne, ne_eq] at this
    exact ⟨this.1.1.1, this.1.1.2, this.1.2, this.2⟩
  have hne : sch ≠ [] := by intro e; subst e; simp [headIsAlpha] at hs0
  have hcolon : ':' ∉ sch := fun h => (scheme_char_facts _ (hschar _ h)).2 rfl
  have hdom : inDomain (sch ++ ':' :: ('/' :: '/' :: (n ++ P))) = true := by
    simp only [inDomain, List.all_eq_true, List.mem_append, List.mem_cons]
    intro c hc
    have hd : ∀ c, domChar c = true → (decide (33 ≤ c.toNat) && decide (c.toNat ≤ 126)) = true := fun c h => h
    rcases hc with hc | rfl | rfl | rfl | hc | hc
    · exact hd _ (scheme_char_facts _ (hschar _ hc)).1
    · decide
    · decide
    · decide
    · exact hd _ (hnc _ hc).1
    · exact hd _ (hPdom _ hc)
  have hsch : splitScheme (sch ++ ':' :: ('/' :: '/' :: (n ++ P))) = (sch.map lowerAscii, '/' :: '/' :: (n ++ P)) := by
    unfold splitScheme
    have htw := takeWhile_ne_append ('/' :: '/' :: (n ++ P)) hcolon
    simp only [htw.1]
    have hemp : sch.isEmpty = false := by cases sch with | nil => exact absurd rfl hne | cons => rfl
    rw [if_pos (by simp [hemp, hs0, hs])]
    simp
  have hnl : splitNetloc ('/' :: '/' :: (n ++ P)) = (n, P) := by
    have := takeWhile_append_stop (p := fun c => !isNetlocEnd c) (a := n) (b := P)
      (fun x hx => by simp [(hnc x hx).2.1]) (by simp [hP0, isNetlocEnd])
    simp only [splitNetloc, this.1, this.2]
  have hbr : (n.contains '[' || n.contains ']') = false := by
    simp only [Bool.or_eq_false_iff, List.contains_eq_mem, decide_eq_false_iff_not]
    exact ⟨fun h => (hnc _ h).2.2.1 rfl, fun h => (hnc _ h).2.2.2 rfl⟩
  unfold urlsplit
  simp only [hdom, Bool.not_true, Bool.false_eq_true, if_false, hsch, hnl, hbr]

/-- an absolute-form target `scheme://netloc/path?query` splits into exactly these parts
(scheme lower-cased); the path may itself start with `//` -/
theorem urlsplit_absolute (sch n p' q : Str) (hasQ : Bool)
    (hs0 : headIsAlpha sch = true)
    (hs : sch.all isSchemeChar = true) (hn : ∀ c ∈ n, netlocChar c = true)
    (hp : ∀ c ∈ p', c ≠ '?' ∧ c ≠ '#' ∧ domChar c = true) (hq : ∀ c ∈ q, c ≠ '#' ∧ domChar c = true) :
    urlsplit (sch ++ ':' :: ('/' :: '/' :: (n ++ ('/' :: p' ++ (if hasQ then '?' :: q else []))))) =
      some { scheme := sch.map lowerAscii, netloc := n, path := '/' :: p', query := if hasQ then q else [] } := by
  obtain ⟨hpath, hquery, hdom⟩ := pathQuery_split p' q hasQ hp hq
  rw [urlsplit_abs_core sch n _ hs0 hs hn (by simp) hdom, hpath, hquery]

/-- the path of a target whose percent-encoded bytes are the UTF-8 of `cs`, through `unquote` and the
encoding dance: the UTF-8 bytes of `"/" + cs`, presented as latin-1 text -/
theorem unquoteDance_pctEncode (cs : List Char) (l : List (UInt8 × PEnc)) (hv : ValidEnc l)
    (hl : l.map (·.1) = utf8Enc cs) :
    unquoteDance ('/' :: pctEncode l) = Py.latin1Dec (utf8Enc ('/' :: cs)) := by
  have hdec : pctDecode ('/' :: pctEncode l) = utf8Enc ('/' :: cs) := by
    rw [pctDecode_lit _ _ (by decide)]
    have := pctDecode_pctEncode l [] hv
    simp only [List.append_nil, pctDecode] at this
    rw [this, hl]
    rfl
  unfold unquoteDance
  rw [hdec, Py.decodeReplace_utf8Enc]

/-- what the application's `PATH_INFO.encode("latin-1")` is -/
theorem latin1Enc_unquoteDance_pctEncode (cs : List Char) (l : List (UInt8 × PEnc)) (hv : ValidEnc l)
    (hl : l.map (·.1) = utf8Enc cs) :
    Py.latin1Enc (unquoteDance ('/' :: pctEncode l)) = some (utf8Enc ('/' :: cs)) := by
  rw [unquoteDance_pctEncode cs l hv hl, latin1Enc_latin1Dec]

theorem httpServerPath_single {t : Str} (h : t.head? ≠ some '/') : httpServerPath ('/' :: t) = '/' :: t := by
  cases t with
  | nil => rfl
  | cons c t =>
    have : c ≠ '/' := by simpa using h
    unfold httpServerPath
    split
    · rename_i heq; simp only [List.cons.injEq, true_and] at heq; exact absurd heq.1 this
    · rfl

theorem dance_query (q : Str) (hq : ∀ c ∈ q, c ≠ '#' ∧ domChar c = true) : dance q = q := by
  refine Utf8Facts.latin1Dec_utf8Enc_ascii fun c hc => ?_
  have := (hq c hc).2
  simp only [domChar, Bool.and_eq_true, decide_eq_true_eq] at this
  omega

/-- `make_environ` answers exactly when `urlsplit` accepts the target; what it answers then -/
theorem makeEnviron_of_split {cmd path ver : Str} {hs : List (Str × Str)} {u : Split} (h : urlsplit path = some u) :
    makeEnviron cmd path ver hs = some
      { method := cmd,
        pathInfo := unquoteDance (if u.scheme.isEmpty && !u.netloc.isEmpty then '/' :: u.netloc ++ u.path else u.path),
        query := dance u.query, protocol := ver, rawUri := dance path,
        headers := if !u.scheme.isEmpty && !u.netloc.isEmpty then (foldHeaders hs).set "HTTP_HOST".toList u.netloc
          else foldHeaders hs,
        terminated := isChunkedRequest (foldHeaders hs) } := by
  simp only [makeEnviron, h]

theorem makeEnviron_some {cmd path ver : Str} {hs : List (Str × Str)} {e : Environ}
    (h : makeEnviron cmd path ver hs = some e) : ∃ u, urlsplit path = some u := by
  unfold makeEnviron at h
  cases hu : urlsplit path with
  | none => rw [hu] at h; cases h
  | some u => exact ⟨u, rfl⟩

theorem makeEnviron_terminated {cmd path ver : Str} {hs : List (Str × Str)} {e : Environ}
    (h : makeEnviron cmd path ver hs = some e) : e.terminated = isChunkedRequest (foldHeaders hs) := by
  obtain ⟨u, hu⟩ := makeEnviron_some h
  rw [makeEnviron_of_split hu] at h
  cases h; rfl

/-- the header entries of the environ are the folded request headers, except that an absolute-form target
overrides `HTTP_HOST` -/
theorem makeEnviron_headers_get {cmd path ver : Str} {hs : List (Str × Str)} {e : Environ}
    (h : makeEnviron cmd path ver hs = some e) {k : Str} (hk : k ≠ "HTTP_HOST".toList) :
    e.headers.get k = (foldHeaders hs).get k := by
  obtain ⟨u, hu⟩ := makeEnviron_some h
  rw [makeEnviron_of_split hu] at h
  cases h
  dsimp only
  split
  · exact Env.get_set_other _ _ _ _ hk
  · rfl

/-- the framing decision depends on protocol, Content-Length and method only through one conjunction; the rest is a
function of the status -/
theorem chunkedDecision_eq (p cl hd : Bool) (code : Nat) :
    chunkedDecision p cl hd code = (p && !cl && !hd && chunkedDecision true false false code) := by
  cases p with
  | false => simp [chunkedDecision]
  | true => cases cl <;> cases hd <;> rfl

/-- the body bytes one `write(data)` adds -/
def framedPiece (chunked : Bool) (d : Bytes) : Bytes :=
  if d.isEmpty then [] else if chunked then hexOf false d.length ++ [13, 10] ++ d ++ [13, 10] else d

theorem bodyWire_eq (chunked : Bool) (pieces : List Bytes) :
    bodyWire chunked pieces = pieces.flatMap (framedPiece chunked) ++ (if chunked then [48, 13, 10, 13, 10] else []) := by
  unfold bodyWire framedPiece
  cases chunked <;> simp

theorem writeStep_sent (r : Resp) (st : WState) (d : Bytes) (h : st.sent = true) :
    writeStep r st d = { sent := true, wire := st.wire ++ framedPiece r.chunked d } := by
  unfold writeStep framedPiece
  simp only [h, if_true]
  by_cases hd : d.isEmpty = true
  · cases st; simp_all
  · by_cases hc : r.chunked = true
    · cases st; simp_all [crlf, List.append_assoc]
    · cases st; simp_all

theorem foldl_writeStep_sent (r : Resp) : ∀ (ps : List Bytes) (st : WState), st.sent = true →
    ps.foldl (writeStep r) st = { sent := true, wire := st.wire ++ ps.flatMap (framedPiece r.chunked) } := by
  intro ps
  induction ps with
  | nil => intro st h; cases st; simp_all
  | cons d ps ih =>
    intro st h
    simp only [List.foldl_cons, writeStep_sent r st d h]
    rw [ih _ rfl]
    simp [List.append_assoc]

theorem writeStep_fresh (r : Resp) (d : Bytes) :
    writeStep r {} d = { sent := true, wire := r.head ++ framedPiece r.chunked d } := by
  unfold writeStep framedPiece
  by_cases hd : d.isEmpty = true
  · simp [hd]
  · by_cases hc : r.chunked = true
    · simp [hd, hc, crlf, List.append_assoc]
    · simp [hd, hc]

theorem runWsgi_closed (r : Resp) (written yielded : List Bytes) :
    runWsgi r written yielded = r.head ++ bodyWire r.chunked (written ++ yielded) := by
  unfold runWsgi
  rw [bodyWire_eq]
  cases hps : written ++ yielded with
  | nil =>
    simp only [List.foldl_nil, Bool.false_and, Bool.false_eq_true, if_false, writeStep_fresh, List.flatMap_nil,
      List.nil_append]
    cases r.chunked <;> simp [framedPiece]
  | cons d ps =>
    simp only [List.foldl_cons, writeStep_fresh]
    rw [foldl_writeStep_sent r ps _ rfl]
    simp only [Bool.true_and, List.flatMap_cons]
    by_cases he : r.headers.isEmpty = true
    · simp only [he, Bool.not_true, Bool.false_eq_true, if_false]
      rw [writeStep_sent r _ [] rfl]
      cases r.chunked <;> simp [framedPiece, List.append_assoc]
    · simp only [he, Bool.not_false, if_true]
      cases r.chunked <;> simp [List.append_assoc]

/-- the bytes up to the first CRLF, and what follows it -/
def readCrlfLine : Bytes → Option (Bytes × Bytes)
  | [] => none
  | 13 :: 10 :: t => some ([], t)
  | b :: t => (readCrlfLine t).map fun p => (b :: p.1, p.2)

/-- lines up to the first empty line, and the body after it -/
def parseHead : Nat → Bytes → Option (List Bytes × Bytes)
  | 0, _ => none
  | f + 1, w =>
    match readCrlfLine w with
    | none => none
    | some (l, rest) =>
      if l.isEmpty then some ([], rest)
      else (parseHead f rest).map fun p => (l :: p.1, p.2)

/-- `name: value` → (name, value) -/
def splitHeaderLine (l : Bytes) : Bytes × Bytes := (l.takeWhile (· != 58), (l.dropWhile (· != 58)).drop 2)

theorem readCrlfLine_line : ∀ (l rest : Bytes), 13 ∉ l → readCrlfLine (l ++ 13 :: 10 :: rest) = some (l, rest) := by
  intro l
  induction l with
  | nil => intro rest _; rfl
  | cons b l ih =>
    intro rest h
    have hb : b ≠ 13 := fun e => h (by rw [e]; exact List.mem_cons_self)
    have := ih rest (fun hm => h (List.mem_cons_of_mem _ hm))
    simp only [List.cons_append]
    unfold readCrlfLine
    split
    · rename_i heq; cases heq
    · rename_i heq; simp only [List.cons.injEq] at heq; exact absurd heq.1 hb
    · rename_i heq
      simp only [List.cons.injEq] at heq
      rw [← heq.1, ← heq.2, this]; rfl

theorem parseHead_lines : ∀ (lines : List Bytes) (body : Bytes), (∀ l ∈ lines, 13 ∉ l ∧ l ≠ []) →
    parseHead (lines.length + 1) (lines.flatMap (· ++ crlf) ++ crlf ++ body) = some (lines, body) := by
  intro lines
  induction lines with
  | nil => intro body _; rfl
  | cons l ls ih =>
    intro body h
    have hl := h l List.mem_cons_self
    have ih' := ih body (fun x hx => h x (List.mem_cons_of_mem _ hx))
    have hw : (l :: ls).flatMap (· ++ crlf) ++ crlf ++ body
        = l ++ 13 :: 10 :: (ls.flatMap (· ++ crlf) ++ crlf ++ body) := by
      simp [crlf, List.append_assoc]
    have hne : l.isEmpty = false := by
      cases l with
      | nil => exact absurd rfl hl.2
      | cons => rfl
    rw [hw]
    simp only [List.length_cons, parseHead, readCrlfLine_line l _ hl.1, hne, Bool.false_eq_true, if_false, ih',
      Option.map_some]

theorem splitHeaderLine_render (k v : Bytes) (hk : 58 ∉ k) :
    splitHeaderLine (k ++ [58, 32] ++ v) = (k, v) := by
  unfold splitHeaderLine
  have := takeWhile_ne_append (32 :: v) hk
  have e : k ++ [58, 32] ++ v = k ++ 58 :: (32 :: v) := by simp
  rw [e, this.1, this.2]
  rfl

end Wz.DevServer
