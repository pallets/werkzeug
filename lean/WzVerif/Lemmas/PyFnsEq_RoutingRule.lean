/-
Helper lemmas for `Props/C12T2.lean`: `Rule.suitable_for` and `Rule.build_compare_key` (`werkzeug/routing/rules.py`) as
translated (`Gen/PyFns_RoutingRule.lean`) against `Rule.suitableFor` and `Rule.buildCompareKey` (`Model/RoutingBuild.lean`).

The model keeps `self.defaults` as a list (empty = `None` or `{}`); the translation keeps Python's
`None | dict`. Every statement is therefore about any `d : Option (List (Str × Value))` with
`d.getD [] = r.defaults`, which covers `None`, `{}` (both when `r.defaults = []`) and a non-empty dict.

`suitable_for` is taken apart the way the source is written: the method test (`methodOk`), the loop over `self.arguments`
(`loop1_eq`, the model's `argsOk`) and the loop over the defaults (`loop2_eq`, `dfltOk`), put together again in
`rule_suitable_for_unfold` and `suitableBody_eq`. Neither loop raises, whatever the type of the values and whatever `==`
does (`suitableBody_ok`: `values[key]` is guarded by `key in values`); `==` is applied in the same order on both sides
(`default == given value`); `values[key]` and the model's `lookupVal` both take the first entry of a repeated key
(`dictGetItem_eq_lookupVal`).
-/
import WzVerif.Gen.PyFns_RoutingRule
import WzVerif.Lemmas.RoutingDict
namespace Wz.PyFnsEq.RoutingRule
open Wz Wz.Routing Wz.Gen.PyFns_RoutingRule

theorem dictHas_eq_any {ν : Type} (d : List (Str × ν)) (k : Str) :
    Pre.dictHas d k = d.any (·.1 == k) := rfl

theorem dictGetItem_eq_lookupVal (values : List (Str × Value)) (k : Str) :
    Pre.dictGetItem values k =
      (match lookupVal k values with | some v => .ok v | none => .error "KeyError") := by
  rw [lookupVal_eq_dictGet?, Pre.dictGetItem]; cases Pre.dictGet? values k <;> rfl

/-- the `for key in self.arguments` loop: falls through when every argument is a key of `defaults` or
of `values`, otherwise returns `False` -/
theorem loop1_eq {V : Type} (veq : V → V → Bool) (values defaults : List (Str × V)) (l : List Str) :
    rule_suitable_for.loop1 veq values defaults l =
      bif l.all (fun k => Pre.dictHas defaults k || Pre.dictHas values k) then .fall ()
      else .ret (.ok false) := by
  induction l with
  | nil => rfl
  | cons k t ih =>
    cases h1 : Pre.dictHas defaults k <;> cases h2 : Pre.dictHas values k <;>
      simp [rule_suitable_for.loop1, h1, h2, ih]

/-- the `for key, value in defaults.items()` loop: falls through when every default whose key is in
`values` equals (`veq default given`) the given value, otherwise returns `False`; it never raises (`values[key]` is guarded
by `key in values`) -/
theorem loop2_eq {V : Type} (veq : V → V → Bool) (values l : List (Str × V)) :
    rule_suitable_for.loop2 veq values l =
      bif l.all (fun p => match Pre.dictGet? values p.1 with | some v => veq p.2 v | none => true)
      then .fall () else .ret (.ok false) := by
  induction l with
  | nil => rfl
  | cons p t ih =>
    have hh := Pre.dictHas_eq_isSome values p.1
    cases hlk : Pre.dictGet? values p.1 with
    | none => simp [rule_suitable_for.loop2, hh, hlk, ih]
    | some v =>
      have h2 : Pre.dictGetItem values p.1 = .ok v := by rw [Pre.dictGetItem, hlk]
      cases h3 : veq p.2 v <;> simp [rule_suitable_for.loop2, hh, h2, h3, hlk, ih]

/-- `self.defaults or ()` for a dict that is present: the dict itself (an empty dict and `()` are both
the empty list) -/
theorem defaults_or_empty {α : Type} (l : List α) : (if (!l.isEmpty) = true then l else []) = l := by
  cases l <;> rfl

/-- the model's test for the first loop of `suitable_for` -/
def argsOk (r : Routing.Rule) (values : List (Str × Value)) : Bool :=
  r.arguments.all (fun k => r.defaults.any (·.1 == k) || values.any (·.1 == k))

/-- the model's test for the second loop of `suitable_for` -/
def dfltOk (r : Routing.Rule) (values : List (Str × Value)) : Bool :=
  r.defaults.all (fun (k, d) => match lookupVal k values with | some v => d.pyEq v | none => true)

/-- the model's method test of `suitable_for` -/
def methodOk (r : Routing.Rule) (method : Option Str) : Bool :=
  match method, r.methods with
  | some m, some ms => ms.contains m
  | _, _ => true

theorem suitableFor_split (r : Routing.Rule) (values : List (Str × Value)) (method : Option Str) :
    r.suitableFor values method = (methodOk r method && argsOk r values && dfltOk r values) := rfl

theorem loop1_rule (veq : Value → Value → Bool) (r : Routing.Rule) (values : List (Str × Value)) :
    rule_suitable_for.loop1 veq values r.defaults r.arguments =
      bif argsOk r values then .fall () else .ret (.ok false) := by
  rw [loop1_eq]; rfl

theorem loop2_rule (r : Routing.Rule) (values : List (Str × Value)) :
    rule_suitable_for.loop2 (fun a b : Value => a.pyEq b) values r.defaults =
      bif dfltOk r values then .fall () else .ret (.ok false) := by
  rw [loop2_eq]; congr 2; funext ⟨k, d⟩
  show _ = match lookupVal k values with | some v => d.pyEq v | none => true
  rw [lookupVal_eq_dictGet?]; cases Pre.dictGet? values k <;> rfl

theorem dfltOk_nil (r : Routing.Rule) (values : List (Str × Value)) (h : r.defaults = []) :
    dfltOk r values = true := by
  unfold dfltOk; rw [h]; rfl

/-- `suitable_for` after the method test: the two loops over `defaults` -/
def suitableBody {V : Type} (veq : V → V → Bool) (args : List Str) (values defaults : List (Str × V)) : Except String Bool :=
  match rule_suitable_for.loop1 veq values defaults args with
  | .ret r_ => r_
  | .fall () =>
    if !defaults.isEmpty then
      match rule_suitable_for.loop2 veq values (Pre.dictItems defaults) with
      | .ret r_ => r_
      | .fall () => .ok true
    else .ok true

/-- the translation of `suitable_for` in one piece: the method test, then the loops over `self.defaults or ()` -/
theorem rule_suitable_for_unfold {V : Type} (veq : V → V → Bool) (ms : Option (List Str))
    (d : Option (List (Str × V))) (args : List Str) (values : List (Str × V)) (method : Option Str) :
    rule_suitable_for veq ms d args values method =
      if (match method, ms with | some m, some l => !l.contains m | _, _ => false) = true then .ok false
      else suitableBody veq args values (d.getD []) := by
  unfold rule_suitable_for suitableBody
  cases d <;> cases method <;> cases ms <;> simp only [defaults_or_empty, Option.getD_none, Option.getD_some] <;> rfl

theorem suitableBody_eq (r : Routing.Rule) (values : List (Str × Value)) :
    suitableBody (fun a b => a.pyEq b) r.arguments values r.defaults = .ok (argsOk r values && dfltOk r values) := by
  unfold suitableBody
  rw [loop1_rule]
  cases argsOk r values
  · rfl
  · cases hl : r.defaults.isEmpty
    · simp only [Pre.dictItems, loop2_rule, cond_true, Bool.not_false, if_true, Bool.true_and]
      cases dfltOk r values <;> rfl
    · simp [dfltOk_nil r values (List.isEmpty_iff.mp hl)]

theorem rule_build_compare_key_eq (r : Routing.Rule) (d : Option (List (Str × Value)))
    (hd : d.getD [] = r.defaults) :
    rule_build_compare_key r.alias r.arguments d = r.buildCompareKey := by
  unfold rule_build_compare_key Rule.buildCompareKey
  cases d with
  | none =>
    simp only [Option.getD_none] at hd
    rw [← hd]; rfl
  | some l =>
    simp only [Option.getD_some] at hd
    subst hd
    simp only [defaults_or_empty]; rfl

theorem suitableBody_ok {V : Type} (veq : V → V → Bool) (args : List Str) (values defaults : List (Str × V)) :
    ∃ b, suitableBody veq args values defaults = .ok b := by
  unfold suitableBody
  rw [loop1_eq, loop2_eq]
  cases args.all (fun k => Pre.dictHas defaults k || Pre.dictHas values k) <;>
    cases (Pre.dictItems defaults).all _ <;> cases defaults.isEmpty <;> simp

end Wz.PyFnsEq.RoutingRule
