/-
The translated `DechunkedInput.read_chunk_len` / `readinto` (`Gen/PyFns_Chunked.lean`) against the model of
`Model/Chunked.lean`: the explicit `strip()` before `int(…, 16)` changes nothing; `Agrees`, how an outcome of the
translated `while` loop is compared with an outcome of the model's `readLoop` (same `_done`, `_len`, wire; the buffer is
what was copied followed by its untouched rest); the `Int` bookkeeping of one copy (`copy_len`, `setSlice_acc`); and the
two kinds of iteration of the translated loop, each as one equation: the one that reads a size line (`loop1_header`) and the
one that starts inside a chunk (`loop1_chunk`, in the shape of the model's `afterHeader`). The equalities themselves are
Props/C19T.
-/
import WzVerif.Model.Chunked
import WzVerif.Lemmas.Chunked
import WzVerif.Lemmas.PyFns_Prelude
import WzVerif.Gen.PyFns_Chunked
open Wz Wz.Chunked

namespace Wz.PyFnsChunked

theorem pyInt16_strip (s : List Char) : pyInt16 (Py.strip s) = pyInt16 s := by
  unfold pyInt16; rw [Py.strip_strip]

/-- the attributes of the translated method: `_done`, `_len`, the bytes `_rfile` still holds, and
the caller's buffer -/
abbrev TState := Bool × Int × Bytes × Bytes

/-- An outcome of the translated `while` loop agrees with an outcome of the model's `readLoop`, for
a call whose buffer was `buf0`: the same `_done`, `_len` and remaining wire in both; an exception in
both or in neither, the same one; and when the loop ends normally with `acc'` copied by the model,
the translated loop has `read = len(acc')` and its buffer is `acc'` followed by the untouched rest
of `buf0`. (The model drops what was copied when an exception escapes; the buffer is then not
compared.) -/
def Agrees (buf0 : Bytes) : Pre.Loop (TState × Except String Int) (Bool × Int × Bytes × Bytes × Int) → Res × DState → Prop
  | .ret (s, r), (mr, st') => s.1 = st'.done ∧ s.2.1 = (st'.len : Int) ∧ s.2.2.1 = st'.wire ∧ ∃ e, r = .error e ∧ mr = .error e
  | .fall (d, l, w, b, rd), (mr, st') => d = st'.done ∧ l = (st'.len : Int) ∧ w = st'.wire ∧
      ∃ acc', mr = .ok acc' ∧ rd = (acc'.length : Int) ∧ b = acc' ++ buf0.drop acc'.length ∧ acc'.length ≤ buf0.length

/-- both leave the loop in the same state with `acc` copied -/
theorem Agrees.fell (buf0 : Bytes) (st' : DState) {acc : Bytes} (h : acc.length ≤ buf0.length) :
    Agrees buf0 (.fall (st'.done, (st'.len : Int), st'.wire, acc ++ buf0.drop acc.length, (acc.length : Int)))
      (.ok acc, st') :=
  ⟨rfl, rfl, rfl, acc, rfl, rfl, rfl, h⟩

/-- what agreement says when the translated loop returned from inside -/
theorem Agrees.of_ret {buf0 : Bytes} {s : TState} {r : Except String Int} {mr : Res} {st' : DState}
    (h : Agrees buf0 (.ret (s, r)) (mr, st')) :
    s.1 = st'.done ∧ s.2.1 = (st'.len : Int) ∧ s.2.2.1 = st'.wire ∧ ∃ e, r = .error e ∧ mr = .error e := h

/-- what agreement says when the translated loop was left -/
theorem Agrees.of_fall {buf0 : Bytes} {d : Bool} {l : Int} {w b : Bytes} {rd : Int} {mr : Res} {st' : DState}
    (h : Agrees buf0 (.fall (d, l, w, b, rd)) (mr, st')) :
    d = st'.done ∧ l = (st'.len : Int) ∧ w = st'.wire ∧
      ∃ acc', mr = .ok acc' ∧ rd = (acc'.length : Int) ∧ b = acc' ++ buf0.drop acc'.length := by
  obtain ⟨h1, h2, h3, acc', h4, h5, h6, _⟩ := h
  exact ⟨h1, h2, h3, acc', h4, h5, h6⟩

theorem natCast_beq_zero (k : Nat) : ((k : Int) == 0) = (k == 0) := by
  rw [Bool.eq_iff_iff]; simp

/-- `n = min(len(buf), self._len); if read + n > len(buf): n = len(buf) - read` is the model's
`min (size - read) len` -/
theorem copy_len (B a L : Nat) (h : a ≤ B) :
    (if decide ((a : Int) + min (B : Int) (L : Int) > (B : Int)) = true then (B : Int) - (a : Int)
      else min (B : Int) (L : Int)) = ((min (B - a) L : Nat) : Int) := by
  rw [Lean.Omega.Int.ofNat_min, Int.ofNat_sub h]
  simp only [decide_eq_true_eq]
  omega

theorem setSlice_acc (acc rest data : Bytes) (n : Nat) :
    Pre.setSlice (acc ++ rest) (some (acc.length : Int)) (some ((acc.length : Int) + (n : Int))) data
      = (acc ++ data) ++ rest.drop n := by
  rw [← Int.natCast_add, Pre.setSlice_nat _ _ (Nat.le_add_right _ _)]
  simp [List.drop_append]

theorem readline_length (w : Bytes) : (readline w).1.length + (readline w).2.length = w.length := by
  have := congrArg List.length (readline_split w)
  simpa using this

open Wz.Gen.PyFns_Chunked in
/-- an iteration that starts between chunks (`_len == 0`, not done, room in the buffer): the size line is
read; an unreadable one raises, `0` sets `_done` and only the terminator follows, anything else is the
iteration that starts inside a chunk of that size -/
theorem loop1_header (f : Nat) (wire buf : Bytes) (rd : Int) (hrd : decide (rd < Int.ofNat buf.length) = true) :
    readinto.loop1 (f + 1) false 0 wire buf rd =
      match (read_chunk_len wire).2 with
      | .error e => .ret ((false, 0, (read_chunk_len wire).1, buf), .error e)
      | .ok v =>
        if v == 0 then
          if isTerminator (readline (read_chunk_len wire).1).1 then
            readinto.loop1 f true 0 (readline (read_chunk_len wire).1).2 buf rd
          else .ret ((true, 0, (readline (read_chunk_len wire).1).2, buf), .error "OSError")
        else readinto.loop1 (f + 1) false v (read_chunk_len wire).1 buf rd := by
  have ht : ∀ l : Bytes, (l == [10] || l == [13, 10] || l == [13]) = isTerminator l := fun _ => rfl
  rw [readinto.loop1]
  simp only [Bool.not_false, Bool.true_and, hrd, if_true, BEq.rfl]
  cases (read_chunk_len wire).2 with
  | error e => rfl
  | ok v =>
    simp only []
    by_cases hv : (v == 0) = true
    · have : v = 0 := by simpa using hv
      subst this
      simp only [BEq.rfl, if_true, (by decide : decide ((0 : Int) > 0) = false), Bool.false_eq_true, if_false, ht]
      cases isTerminator (readline (read_chunk_len wire).1).1 <;> rfl
    · simp only [hv, Bool.false_eq_true, if_false]
      rw [readinto.loop1]
      simp only [Bool.not_false, Bool.true_and, hrd, if_true, hv, Bool.false_eq_true, if_false]

open Wz.Gen.PyFns_Chunked in
/-- an iteration that starts inside a chunk (`_len > 0`, not done, room in the buffer) as one equation, in the shape of the
model's `afterHeader`; the buffer keeps the form `acc ++ buf0.drop acc.length` -/
theorem loop1_chunk (f : Nat) (buf0 : Bytes) (st : DState) (acc : Bytes)
    (hacc : acc.length < buf0.length) (hnd : st.done = false) (hlen : st.len ≠ 0) :
    readinto.loop1 (f + 1) st.done (st.len : Int) st.wire (acc ++ buf0.drop acc.length) (acc.length : Int) =
      let n := min (buf0.length - acc.length) st.len
      let acc' := acc ++ st.wire.take n
      if (st.wire.take n).length != n then
        .ret ((st.done, (st.len : Int), st.wire.drop n, acc ++ buf0.drop acc.length), .error "OSError")
      else if st.len - n == 0 then
        if isTerminator (readline (st.wire.drop n)).1 then
          readinto.loop1 f st.done ((st.len - n : Nat) : Int) (readline (st.wire.drop n)).2
            (acc' ++ buf0.drop acc'.length) (acc'.length : Int)
        else .ret ((st.done, ((st.len - n : Nat) : Int), (readline (st.wire.drop n)).2, acc' ++ buf0.drop acc'.length),
          .error "OSError")
      else readinto.loop1 f st.done ((st.len - n : Nat) : Int) (st.wire.drop n)
        (acc' ++ buf0.drop acc'.length) (acc'.length : Int) := by
  have hbl : (acc ++ buf0.drop acc.length).length = buf0.length := by simp; omega
  have hL : ((st.len : Int) == 0) = false := by simpa using hlen
  have hL' : decide ((st.len : Int) > 0) = true := by simp; omega
  have hc : ((!st.done) && decide ((acc.length : Int) < (buf0.length : Int))) = true := by simp [hnd]; omega
  rw [readinto.loop1]
  simp only [Int.ofNat_eq_natCast, hbl, hc, hL, hL', if_true, Bool.false_eq_true, if_false,
    copy_len _ _ _ (Nat.le_of_lt hacc), rfileRead, Int.toNat_natCast]
  generalize hnn : min (buf0.length - acc.length) st.len = n
  have hn3 : n ≤ st.len := by omega
  by_cases hshort : (st.wire.take n).length = n
  · have hrd : (acc.length : Int) + (n : Int) = ((acc ++ st.wire.take n).length : Int) := by
      rw [List.length_append, hshort, Int.natCast_add]
    have hbuf : Pre.setSlice (acc ++ buf0.drop acc.length) (some (acc.length : Int)) (some ((acc.length : Int) + (n : Int)))
          (st.wire.take n) = (acc ++ st.wire.take n) ++ buf0.drop (acc ++ st.wire.take n).length := by
      rw [setSlice_acc acc _ _ n, List.drop_drop, List.length_append, hshort]
    have ht : ∀ l : Bytes, (l == [10] || l == [13, 10] || l == [13]) = isTerminator l := fun _ => rfl
    rw [hrd] at hbuf
    simp only [hshort, BEq.rfl, Bool.not_true, Bool.false_eq_true, if_false, bne_self_eq_false, hbuf, hrd,
      ← Int.ofNat_sub hn3, natCast_beq_zero, ht]
    cases (st.len - n == 0) <;> cases isTerminator (readline (st.wire.drop n)).1 <;> rfl
  · have e1 : (!((((st.wire.take n).length : Nat) : Int) == (n : Int))) = true := by
      rw [Bool.not_eq_true', beq_eq_false_iff_ne]; exact fun h => hshort (Int.ofNat.inj h)
    have e2 : ((st.wire.take n).length != n) = true := by simpa using hshort
    simp only [e1, e2, if_true]

end Wz.PyFnsChunked
