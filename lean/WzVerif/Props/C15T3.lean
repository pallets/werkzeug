/-
C15T3 — `EnvironBuilder._make_base_url` (`werkzeug/test.py`) *as regenerated from the
source* by `tools/py2lean.py` (`Gen/PyFns_BaseUrl.lean`, rewritten on every check run) equals the
hand-written `Url.makeBaseUrl` of `Model/UrlBuilder.lean`; `urlunsplit` (urllib) is a parameter,
instantiated with the model's.
-/
import WzVerif.Gen.PyFns_BaseUrl
import WzVerif.Model.UrlBuilder
import WzVerif.Lemmas.PyFns_Prelude
namespace Wz.Props.C15T3
open Wz Wz.Gen.PyFns_BaseUrl

/-- `s.rstrip("/")` of the prelude is the model's `rstripSlash` -/
theorem rstrip_slash_eq (s : List Char) : Pre.rstripChars s ['/'] = Url.rstripSlash s :=
  Pre.rstripChars_singleton '/' s

/-- `_make_base_url(scheme, host, script_root)`, as translated from the current source
(`urlunsplit((scheme, host, script_root, "", "")).rstrip("/") + "/"`), is the model's `makeBaseUrl`. -/
theorem make_base_url_eq (scheme host scriptRoot : List Char) :
    make_base_url (fun a b c d e => Url.urlunsplit { scheme := a, netloc := b, path := c, query := d, fragment := e })
        scheme host scriptRoot = Url.makeBaseUrl scheme host scriptRoot := by
  simp [make_base_url, Url.makeBaseUrl, rstrip_slash_eq]

end Wz.Props.C15T3
