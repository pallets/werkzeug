/-
The view model's `int()` and `str(int)`: the decimal text of an int is read back by `int()` (`pyInt_intText`), a
text that does not begin with a sign is read digit by digit (`pyInt_unsigned`), and decimal texts contain no CR / LF.
-/
import WzVerif.Model.Views
import WzVerif.Lemmas.Basics
namespace Wz.C16L
open Wz Hdr Views

theorem digitsVal_natText (n : Nat) : CC.digitsVal (CC.natText n) = some n := by
  unfold CC.digitsVal CC.natText
  have h1 : (Nat.toDigits 10 n).isEmpty = false := by
    cases h : Nat.toDigits 10 n with
    | nil => exact absurd h Nat.toDigits_ne_nil
    | cons _ _ => rfl
  have h2 : (Nat.toDigits 10 n).all Char.isDigit = true := List.all_eq_true.mpr (toDigits_isDigit n)
  simp [h1, h2, Nat.ofDigitChars_ten_toDigits]

theorem natText_head_digit (n : Nat) : ∃ c t, CC.natText n = c :: t ∧ c.isDigit = true := by
  unfold CC.natText
  cases h : Nat.toDigits 10 n with
  | nil => exact absurd h Nat.toDigits_ne_nil
  | cons c t =>
    exact ⟨c, t, rfl, toDigits_isDigit n c (by rw [h]; exact List.mem_cons_self)⟩

theorem pyInt_unsigned (x : Char) (d : Str) (h1 : x ≠ '-') (h2 : x ≠ '+') :
    CC.pyInt (x :: d) = (CC.digitsVal (x :: d)).map (fun n => (n : Int)) := by
  unfold CC.pyInt
  split
  · next r heq => exact absurd (List.cons.inj heq).1 h1
  · next r heq => exact absurd (List.cons.inj heq).1 h2
  · rfl

theorem pyInt_natText (n : Nat) : CC.pyInt (CC.natText n) = some (n : Int) := by
  obtain ⟨c, t, he, hd⟩ := natText_head_digit n
  rw [he, pyInt_unsigned c t (fun e => by subst e; cases hd) (fun e => by subst e; cases hd), ← he, digitsVal_natText]
  rfl

theorem pyInt_none_of_head (c : Char) (r : Str) (h1 : c ≠ '-') (h2 : c ≠ '+') (h3 : c.isDigit = false) :
    CC.pyInt (c :: r) = none := by
  rw [pyInt_unsigned c r h1 h2]; simp [CC.digitsVal, h3]

theorem pyInt_intText (i : Int) : CC.pyInt (CC.intText i) = some i := by
  cases i with
  | ofNat n => exact pyInt_natText n
  | negSucc n =>
    simp only [CC.intText, CC.pyInt, digitsVal_natText]
    rfl

theorem natText_noNL (n : Nat) : hasNL (CC.natText n) = false := by
  unfold hasNL CC.natText
  rw [Bool.eq_false_iff]
  intro hc
  rw [List.any_eq_true] at hc
  obtain ⟨c, hm, hnl⟩ := hc
  have hd := toDigits_isDigit n c hm
  simp only [isNL, Bool.or_eq_true, beq_iff_eq] at hnl
  rcases hnl with e | e <;> (subst e; simp [Char.isDigit] at hd)

theorem intText_noNL (i : Int) : hasNL (CC.intText i) = false := by
  cases i with
  | ofNat n => exact natText_noNL n
  | negSucc n =>
    have := natText_noNL (n + 1)
    simp only [CC.intText, hasNL, List.any_cons] at this ⊢
    simp [isNL, this]

end Wz.C16L
