/-
C15T2 — `werkzeug.middleware.proxy_fix.ProxyFix._get_real_value` and `ProxyFix.__call__`
(up to the call of the wrapped application) *as regenerated from the source* by `tools/py2lean.py`
(`Gen/PyFns_ProxyFix.lean`, rewritten on every check run) against the hand-written model the C15
theorems are about (`Model/UrlProxyFix.lean`). `_get_real_value` calls the translated
`parse_list_header`; the environ is a dict of texts (the bookkeeping entry `werkzeug.proxy_fix.orig`
is left out). For every trust configuration and every environ: the translated `__call__` never raises,
the environ it hands on reads (`readEnv`) as the model's `proxyFix` of what the given environ reads as,
only the six keys REMOTE_ADDR, wsgi.url_scheme, HTTP_HOST, SERVER_NAME, SERVER_PORT, SCRIPT_NAME are
written (in particular PATH_INFO and the X-Forwarded-* headers are untouched), no key disappears.
Helper lemmas live in Lemmas/PyFnsEq_ProxyFix.lean.
-/
import WzVerif.Gen.PyFns_ProxyFix
import WzVerif.Lemmas.PyFnsEq_ProxyFix
import WzVerif.Lemmas.UrlProxyFix
namespace Wz.Props.C15T2
open Wz Wz.Pre Gen.PyFns_ProxyFix Wz.PyFnsEq.ProxyFix

/-- the key constants are the environ keys of the Python source -/
theorem keys_spelled :
    kRemoteAddr = "REMOTE_ADDR".toList ∧ kScheme = "wsgi.url_scheme".toList ∧ kHost = "HTTP_HOST".toList ∧
    kServerName = "SERVER_NAME".toList ∧ kServerPort = "SERVER_PORT".toList ∧
    kScriptName = "SCRIPT_NAME".toList ∧ kPathInfo = "PATH_INFO".toList ∧
    kXFor = "HTTP_X_FORWARDED_FOR".toList ∧ kXProto = "HTTP_X_FORWARDED_PROTO".toList ∧
    kXHost = "HTTP_X_FORWARDED_HOST".toList ∧ kXPort = "HTTP_X_FORWARDED_PORT".toList ∧
    kXPrefix = "HTTP_X_FORWARDED_PREFIX".toList := by
  repeat rw [String.toList_ofList]
  exact ⟨rfl, rfl, rfl, rfl, rfl, rfl, rfl, rfl, rfl, rfl, rfl, rfl⟩

/-- **the dict handed to the app agrees with the incoming environ on every key other than the six
written ones** (REMOTE_ADDR, wsgi.url_scheme, HTTP_HOST, SERVER_NAME, SERVER_PORT, SCRIPT_NAME): in
particular on PATH_INFO, QUERY_STRING and the `X-Forwarded-*` headers themselves -/
theorem fixDict_frame (c : Url.PFConfig) (d : Env) : Frame (fixDict c d) d :=
  (sim_fixDict c d).1.frame

/-- no key of the incoming environ is missing in the dict handed to the app -/
theorem fixDict_keeps (c : Url.PFConfig) (d : Env) : Keeps (fixDict c d) d :=
  (sim_fixDict c d).1.keeps

/-- the dict handed to the app has distinct keys when the incoming environ has -/
theorem fixDict_nodup (c : Url.PFConfig) (d : Env) (hn : (d.map (·.1)).Nodup) :
    ((fixDict c d).map (·.1)).Nodup :=
  (sim_fixDict c d).1.nodup hn

/-- **the dict-level stages read as the model**: the record of the dict handed to the app is the
model's `proxyFix` of the record and the parsed headers of the incoming environ - for every environ
(no uniqueness of keys needed) and all trust counts. Each stage reads its `X-Forwarded-*` header from
the dict the previous stages have already written to; that makes no difference because the header
keys are not among the written keys. -/
theorem readEnv_fixDict (c : Url.PFConfig) (d : Env) :
    readEnv (fixDict c d) = Url.proxyFix c (hdrsOf d) (readEnv d) :=
  (sim_fixDict c d).2

/-- **`ProxyFix._get_real_value(trusted, value)` for `trusted ≥ 0`**, as translated from the current
source (`if not (trusted and value)`, `parse_list_header` - itself translated, see C06T -,
`len(values) >= trusted`, `values[-trusted]`), never raises (the IndexError of `values[-trusted]` is
unreachable behind the length test) and returns exactly the model's `realValue` of the parsed header,
for every trust count and every header value (absent, empty or any text). -/
theorem proxy_get_real_value_eq (trusted : Nat) (value : Option Str) :
    proxy_get_real_value (trusted : Int) value = .ok (Url.realValue trusted (hdr value)) := by
  rw [proxy_get_real_value_hdr]
  unfold Url.realValue
  rcases hdr value with _ | vs
  · rfl
  · simp only [Int.natCast_eq_zero, Int.ofNat_le]
    -- behind the length test `values[-trusted]` is there: no IndexError
    by_cases h0 : trusted = 0
    · rw [if_pos h0, if_pos h0]
    · by_cases hl : trusted ≤ vs.length
      · obtain ⟨x, hx1, hx2⟩ := getItem_neg_nat vs trusted (by omega) hl
        rw [if_neg h0, if_neg h0, if_pos hl, if_pos hl, hx1, hx2]; rfl
      · rw [if_neg h0, if_neg h0, if_neg hl, if_neg hl]

/-- **`_get_real_value` for a negative trust count** `trusted = -(n+1)` (outside the model, whose
counts are naturals; the constructor does not refuse it): `len(values) >= trusted` always holds and
`values[-trusted]` is `values[n+1]`, counted from the FRONT - the value after the first `n+1` ones -
and raises IndexError when the header has at most `n+1` values. An absent or empty header gives
`None` as before. -/
theorem proxy_get_real_value_neg (n : Nat) (value : Option Str) :
    proxy_get_real_value (-((n + 1 : Nat) : Int)) value =
      match hdr value with
      | none => .ok none
      | some vs =>
        match vs[n + 1]? with
        | some x => .ok (some x)
        | none => .error "IndexError" := by
  rw [proxy_get_real_value_hdr]
  rcases hdr value with _ | vs
  · rfl
  · -- a negative count is never 0 and never above `len(values)`; `-trusted` is the index `n + 1` from the front
    simp only
    rw [if_neg (by omega), if_pos (by omega), Int.neg_neg, getItem_nat]
    cases vs[n + 1]? <;> rfl

/-- **`ProxyFix.__call__` never raises before it calls the app and hands it `fixDict c d`**: the
translated function (the five `_get_real_value` calls, the `if x_…:` blocks with their environ
assignments, `x_host.rsplit(":", 1)` unpacked into two names, `host.rsplit(":", 1)[0]`) returns, for
every environ dict and all trust counts, the dict the five dict-level stages produce. In particular
the ValueError of the two-name unpacking and the IndexError of `[0]` are unreachable behind the
`":" in …` tests. -/
theorem proxy_fix_environ_run (c : Url.PFConfig) (d : Env) :
    proxy_fix_environ c.xFor c.xProto c.xHost c.xPort c.xPrefix d () = .ok (fixDict c d) := by
  unfold proxy_fix_environ
  simp (config := { zeta := false }) only [proxy_get_real_value_eq, hasPort_eq]
  -- the translation names the rest of the function after each `if` block `k1_ … k8_` (k8: call the app,
  -- k5: prefix, k3 = k4: port, k2: host, k1: proto); each is shown to be "the stage, then the next one"
  extract_lets xfor k8 k5 k3 k4 k2 k1
  have hk5 : ∀ e, k5 e = .ok (sPrefix c e) := fun e => setIf_cps _ e _ _
  clear_value k5
  have hk3 : ∀ e, k3 e = k5 (sPort c e) := fun e => stPort_cps k5 e _
  clear_value k3
  have hk2 : ∀ e, k2 e = k3 (sHost c e) := fun e => stHost_cps k3 e _
  clear_value k2
  have hk1 : ∀ e, k1 e = k2 (sProto c e) := fun e => setIf_cps _ e _ _
  clear_value k1
  refine (setIf_cps k1 d kRemoteAddr xfor).trans ?_
  show k1 (sFor c d) = _
  rw [hk1, hk2, hk3, hk5]
  rfl

/-- **`ProxyFix.__call__`, as translated from the current source, is the model's `proxyFix`**: for
every config (the five trust counts) and every environ dict `d` - no hypothesis, not even distinct
keys - the translated function does not raise and hands the app a dict `d'` such that
* the record of `d'` (REMOTE_ADDR, wsgi.url_scheme, HTTP_HOST, SERVER_NAME, SERVER_PORT, SCRIPT_NAME,
  PATH_INFO) is the model's `proxyFix` applied to the record of `d` and the parsed `X-Forwarded-*`
  headers of `d`;
* every key other than the six written ones has the same value in `d'` as in `d` (PATH_INFO, the
  `X-Forwarded-*` headers, everything else): C15's "ProxyFix does not disturb PATH_INFO";
* no key of `d` is missing in `d'`, and `d'` has distinct keys when `d` has. -/
theorem proxy_fix_environ_eq (c : Url.PFConfig) (d : Env) :
    ∃ d', proxy_fix_environ c.xFor c.xProto c.xHost c.xPort c.xPrefix d () = .ok d' ∧
      readEnv d' = Url.proxyFix c (hdrsOf d) (readEnv d) ∧
      (∀ k, k ∉ writtenKeys → dictGet? d' k = dictGet? d k) ∧
      (∀ k, (dictGet? d k).isSome = true → (dictGet? d' k).isSome = true) ∧
      ((d.map (·.1)).Nodup → (d'.map (·.1)).Nodup) :=
  ⟨fixDict c d, proxy_fix_environ_run c d, readEnv_fixDict c d, fixDict_frame c d, fixDict_keeps c d,
    fixDict_nodup c d⟩

/-- `ProxyFix.__call__` never raises on its way to the wrapped app -/
theorem proxy_fix_environ_never_raises (c : Url.PFConfig) (d : Env) (e : String) :
    proxy_fix_environ c.xFor c.xProto c.xHost c.xPort c.xPrefix d () ≠ .error e := by
  rw [proxy_fix_environ_run]; intro h; cases h

/-- **C15 `proxyfix_preserves_path_info` on the translated `__call__`**: the environ handed to the app
has the PATH_INFO entry of the incoming environ (same value, or absent in both), whatever the trust
counts and the forwarded headers - and likewise every `X-Forwarded-*` header. -/
theorem proxy_fix_environ_preserves_path_info (c : Url.PFConfig) (d d' : Env)
    (h : proxy_fix_environ c.xFor c.xProto c.xHost c.xPort c.xPrefix d () = .ok d') :
    dictGet? d' kPathInfo = dictGet? d kPathInfo ∧ (readEnv d').pathInfo = (readEnv d).pathInfo ∧
    hdrsOf d' = hdrsOf d := by
  rw [proxy_fix_environ_run] at h
  cases h
  have hf := fixDict_frame c d
  refine ⟨hf kPathInfo (by decide), ?_, hf.hdrsOf⟩
  rw [readEnv_fixDict, Url.proxyFix_pathInfo]

/-- **C15 `proxyfix_prefix_replaces_script_name` on the translated `__call__`**: SCRIPT_NAME of the
environ handed to the app is the trusted non-empty `X-Forwarded-Prefix` value when there is one (it
REPLACES the old SCRIPT_NAME), otherwise the entry is the incoming one. -/
theorem proxy_fix_environ_prefix_replaces_script_name (c : Url.PFConfig) (d d' : Env)
    (h : proxy_fix_environ c.xFor c.xProto c.xHost c.xPort c.xPrefix d () = .ok d') :
    (readEnv d').scriptName =
      (match Url.truthyV (Url.realValue c.xPrefix (hdr (dictGet? d kXPrefix))) with
        | some v => v
        | none => (readEnv d).scriptName) := by
  rw [proxy_fix_environ_run] at h
  cases h
  rw [readEnv_fixDict]
  exact Url.proxyFix_scriptName c (hdrsOf d) (readEnv d)

/-- **C15 `proxyfix_scheme` on the translated `__call__`**: wsgi.url_scheme of the environ handed to
the app is the trusted non-empty `X-Forwarded-Proto` value when there is one, otherwise the incoming
one. -/
theorem proxy_fix_environ_scheme (c : Url.PFConfig) (d d' : Env)
    (h : proxy_fix_environ c.xFor c.xProto c.xHost c.xPort c.xPrefix d () = .ok d') :
    (readEnv d').urlScheme =
      (match Url.truthyV (Url.realValue c.xProto (hdr (dictGet? d kXProto))) with
        | some v => v
        | none => (readEnv d).urlScheme) := by
  rw [proxy_fix_environ_run] at h
  cases h
  rw [readEnv_fixDict]
  exact Url.proxyFix_urlScheme c (hdrsOf d) (readEnv d)

end Wz.Props.C15T2
