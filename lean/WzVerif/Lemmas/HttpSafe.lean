/-
The vocabulary in which C07 ("no client-controlled text can crash request parsing") and C06's "what a parser returns" are
stated about the exception-aware model of `Model/Http.lean`. All four notions are `Ends Q E` (Lemmas/Outcome.lean: returns a
value in `Q` or raises an exception in `E`) for particular `Q`, `E` - `Returns` by definition, `Safe` and `RaisesOnly`, whose
definitions are spelled out, by `safe_iff_ends` / `raisesOnly_iff_ends` -, and their `bind` / `map` / `mono` lemmas are `Ends`'s:
  `Safe x`          = `Ends ⊤ ⊥`: `x` returns a value, no exception of any class escapes;
  `Returns Q x`     = `Ends Q ⊥`: `x` returns a value satisfying `Q`; a parser's `_returns` theorem is read by C07 through
                    `.safe` and by C06 through `.of_eq` as the shape of what comes out;
  `Req.RaisesOnly P x` = `Ends ⊤ P`: every exception of `x` satisfies `P` (the request layer: "only HTTP exceptions");
  `OnlyRaises cls x` = `RaisesOnly (· ∈ cls)` (by unfolding): every exception of `x` is of a class in the list `cls`, what
                    `try: x except cls: h` (`catching`) needs to be `Safe`.
Then the partial primitives of the model: which class `_plain_int`, `int`, the two-field `split` raise, and when `s[0]` / `s[-1]`
do not.
-/
import WzVerif.Model.Http
import WzVerif.Lemmas.Outcome
namespace Wz.Http
open Wz

def Safe {α : Type} (x : Except String α) : Prop := ∃ a, x = .ok a

theorem safe_iff_ends {α : Type} {x : Except String α} : Safe x ↔ Ends (fun _ => True) (fun _ => False) x := by
  cases x with
  | ok a => exact ⟨fun _ => trivial, fun _ => ⟨a, rfl⟩⟩
  | error e => exact ⟨fun ⟨_, h⟩ => (nomatch h), False.elim⟩

theorem Safe.ok {α : Type} (a : α) : Safe (Except.ok a : Except String α) := ⟨a, rfl⟩

theorem Safe.bind {α β : Type} {x : Except String α} {f : α → Except String β}
    (hx : Safe x) (hf : ∀ a, Safe (f a)) : Safe (x >>= f) :=
  safe_iff_ends.2 ((safe_iff_ends.1 hx).bind fun a _ => safe_iff_ends.1 (hf a))

theorem Safe.map {α β : Type} {x : Except String α} (f : α → β) (h : Safe x) : Safe (x.map f) :=
  safe_iff_ends.2 ((safe_iff_ends.1 h).map f fun _ _ => trivial)

theorem Safe.of_map {α β : Type} {x : Except String α} {f : α → β} {b : β} (h : x.map f = .ok b) : Safe x := by
  cases x with
  | ok a => exact ⟨a, rfl⟩
  | error e => cases h

def Returns {α : Type} (Q : α → Prop) (x : Except String α) : Prop := Ends Q (fun _ => False) x

namespace Returns
variable {α β : Type} {Q : α → Prop} {x : Except String α}

theorem ok {a : α} (h : Q a) : Returns Q (.ok a) := h

theorem safe (h : Returns Q x) : Safe x := safe_iff_ends.2 (Ends.mono h (fun _ _ => trivial) fun _ => id)

theorem of_eq {a : α} (h : Returns Q x) (e : x = .ok a) : Q a := Ends.of_ok h e

theorem mono {R : α → Prop} (h : Returns Q x) (hqr : ∀ a, Q a → R a) : Returns R x := Ends.mono h hqr fun _ => id

theorem bind {R : β → Prop} {f : α → Except String β} (hx : Returns Q x) (hf : ∀ a, Q a → Returns R (f a)) :
    Returns R (x >>= f) :=
  Ends.bind hx hf

theorem bind_safe {f : α → Except String β} (hx : Returns Q x) (hf : ∀ a, Q a → Safe (f a)) : Safe (x >>= f) :=
  safe_iff_ends.2 (Ends.bind hx fun a ha => safe_iff_ends.1 (hf a ha))

theorem foldlM {σ : Type} {I : σ → Prop} (f : σ → α → Except String σ) (l : List α) (init : σ) (h0 : I init)
    (h : ∀ s, I s → ∀ a ∈ l, Returns I (f s a)) : Returns I (l.foldlM f init) :=
  Ends.foldlM f l init h0 h

end Returns

theorem Safe.returns {α : Type} {x : Except String α} (h : Safe x) : Returns (fun a => x = .ok a) x := by
  obtain ⟨a, rfl⟩ := h
  exact rfl

theorem mapM_safe_mem {α β : Type} (f : α → Except String β) (l : List α) (h : ∀ a ∈ l, Safe (f a)) :
    Safe (l.mapM f) := by
  induction l with
  | nil => exact ⟨[], rfl⟩
  | cons x t ih =>
    rw [List.mapM_cons]
    exact (h x (by simp)).bind fun b => (ih fun a ha => h a (by simp [ha])).bind fun bs => Safe.ok _

theorem mapM_safe {α β : Type} (f : α → Except String β) (l : List α) (h : ∀ a, Safe (f a)) :
    Safe (l.mapM f) :=
  mapM_safe_mem f l fun a _ => h a

end Wz.Http

namespace Wz.Req
open Wz Wz.Http

def RaisesOnly {α : Type} (P : String → Prop) (x : Except String α) : Prop := ∀ e, x = .error e → P e

theorem raisesOnly_iff_ends {α : Type} {P : String → Prop} {x : Except String α} :
    RaisesOnly P x ↔ Ends (fun _ => True) P x := by
  cases x with
  | ok a => exact ⟨fun _ => trivial, fun _ _ h => (nomatch h)⟩
  | error e => exact ⟨fun h => h e rfl, fun h _ he => by cases he; exact h⟩

theorem raisesOnly_ok {α : Type} {P : String → Prop} (a : α) : RaisesOnly P (.ok a : Except String α) :=
  raisesOnly_iff_ends.2 trivial

theorem raisesOnly_error {α : Type} {P : String → Prop} {e : String} (h : P e) :
    RaisesOnly P (.error e : Except String α) :=
  raisesOnly_iff_ends.2 h

theorem raisesOnly_bind {α β : Type} {P : String → Prop} {x : Except String α} {f : α → Except String β}
    (hx : RaisesOnly P x) (hf : ∀ a, RaisesOnly P (f a)) : RaisesOnly P (x >>= f) :=
  raisesOnly_iff_ends.2 ((raisesOnly_iff_ends.1 hx).bind fun a _ => raisesOnly_iff_ends.1 (hf a))

theorem raisesOnly_map {α β : Type} {P : String → Prop} {x : Except String α} (f : α → β)
    (hx : RaisesOnly P x) : RaisesOnly P (x.map f) :=
  raisesOnly_iff_ends.2 ((raisesOnly_iff_ends.1 hx).map f fun _ _ => trivial)

theorem raisesOnly_of_safe {α : Type} {P : String → Prop} {x : Except String α} (h : Safe x) : RaisesOnly P x :=
  raisesOnly_iff_ends.2 ((safe_iff_ends.1 h).mono (fun _ => id) fun _ => False.elim)

theorem raisesOnly_mono {α : Type} {P Q : String → Prop} {x : Except String α} (h : RaisesOnly P x)
    (hpq : ∀ e, P e → Q e) : RaisesOnly Q x :=
  raisesOnly_iff_ends.2 ((raisesOnly_iff_ends.1 h).mono (fun _ => id) hpq)

theorem RaisesOnly.ok_or {P : String → Prop} {x : Except String Unit} (h : RaisesOnly P x) :
    x = .ok () ∨ ∃ e, x = .error e ∧ P e := by
  cases x with
  | ok u => exact Or.inl rfl
  | error e => exact Or.inr ⟨e, rfl, h e rfl⟩

end Wz.Req

namespace Wz.Http
open Wz

def OnlyRaises {α : Type} (cls : List String) (x : Except String α) : Prop :=
  ∀ e, x = .error e → e ∈ cls

/-- `try: x except cls: h`: the value of `x`, or the handler's -/
theorem catching_returns {α : Type} {cls : List String} {x : Except String α} {h : α} {Q : α → Prop}
    (hx : OnlyRaises cls x) (hq : ∀ a, x = .ok a → Q a) (hh : Q h) : Returns Q (catching cls x h) := by
  cases x with
  | ok a => exact hq a rfl
  | error e =>
    have hc : cls.contains e = true := by simpa using hx e rfl
    simp only [catching, hc, if_true]
    exact hh

theorem catching_safe {α : Type} {cls : List String} {x : Except String α} {h : α}
    (hx : OnlyRaises cls x) : Safe (catching cls x h) :=
  (catching_returns (Q := fun _ => True) hx (fun _ _ => trivial) trivial).safe

theorem onlyRaises_map {α β : Type} {cls : List String} {x : Except String α} (f : α → β)
    (hx : OnlyRaises cls x) : OnlyRaises cls (x.map f) :=
  Req.raisesOnly_map f hx

theorem onlyRaises_bind {α β : Type} {cls : List String} {x : Except String α} {f : α → Except String β}
    (hx : OnlyRaises cls x) (hf : ∀ a, OnlyRaises cls (f a)) : OnlyRaises cls (x >>= f) :=
  Req.raisesOnly_bind hx hf

theorem onlyRaises_ok {α : Type} {cls : List String} (a : α) : OnlyRaises cls (.ok a : Except String α) :=
  Req.raisesOnly_ok a

theorem onlyRaises_mono {α : Type} {c1 c2 : List String} {x : Except String α}
    (h : OnlyRaises c1 x) (hs : ∀ e ∈ c1, e ∈ c2) : OnlyRaises c2 x :=
  Req.raisesOnly_mono h hs

theorem plainInt_onlyRaises (s : Str) : OnlyRaises ["ValueError"] (plainInt s) := by
  unfold plainInt
  simp only []
  split
  · exact onlyRaises_ok _
  · intro e he; cases he; simp

theorem catching_plainInt_safe (s : Str) : Safe (catching ["ValueError"] ((plainInt s).map some) none) :=
  catching_safe (onlyRaises_map _ (plainInt_onlyRaises s))

theorem pyInt_onlyRaises (s : Str) : OnlyRaises ["ValueError"] (pyInt s) := by
  unfold pyInt
  simp only []
  split
  · exact onlyRaises_ok _
  · intro e he; cases he; simp

theorem splitWs2_onlyRaises (s : Str) : OnlyRaises ["ValueError"] (splitWs2 s) := by
  intro e he
  unfold splitWs2 at he
  simp only at he
  split at he
  · simp at he; subst he; simp
  · simp at he

theorem last!_safe {k : Str} (h : k.isEmpty = false) : Safe (last! k) := by
  cases k with
  | nil => simp at h
  | cons a t =>
    unfold last!
    cases hg : (a :: t).getLast? with
    | none => simp at hg
    | some c => exact ⟨c, rfl⟩

theorem first!_safe {k : Str} (h : k ≠ []) : Safe (first! k) := by
  cases k with
  | nil => exact absurd rfl h
  | cons a t => exact ⟨a, rfl⟩

end Wz.Http
