/-
C07T2 — C07T continued: `Request.want_form_data_parsed` (`wrappers/request.py`) *as regenerated from the
source* by `tools/py2lean.py` (`Gen/PyFns_FormGlue.lean`, rewritten on every check run) is the model's
`Req.wantFormDataParsed` (`Model/RequestBody.lean`) on the environ's `CONTENT_TYPE` entry.
-/
import WzVerif.Gen.PyFns_FormGlue
import WzVerif.Model.RequestBody
namespace Wz.Props.C07T2
open Wz Wz.Gen.PyFns_FormGlue

/-- `Request.want_form_data_parsed`, as translated from the current source
(`bool(self.environ.get("CONTENT_TYPE"))`): true exactly for a non-empty `CONTENT_TYPE` entry - the
model's `wantFormDataParsed` on an environment whose content type is that entry. -/
theorem want_form_data_parsed_eq (environ : List (List Char × List Char)) (e : Req.Env)
    (h : e.contentType = Pre.dictGet? environ "CONTENT_TYPE".toList) :
    want_form_data_parsed environ = Req.wantFormDataParsed e := by
  unfold want_form_data_parsed Req.wantFormDataParsed
  rw [h, String.toList_ofList]
  cases Pre.dictGet? environ _ <;> rfl

end Wz.Props.C07T2
