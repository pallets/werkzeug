/-
Helper lemmas for `Props/C12T.lean`: the URL glue of `werkzeug.routing.map.MapAdapter` as translated
(`Gen/PyFns_RoutingUrl.lean`) against the model (`Model/RoutingUrl.lean`; the alias arm of `matchAdapter`). Four things: the
prelude's strips and `join` in the model's spelling for one character (`lstripChars_singleton`, `stripChars_singleton`,
`join_slash_pair`, `scheme_or_http`); why the `assert url != path` of `make_alias_redirect_url` cannot fire from
`MapAdapter.match` when the domain part contains no `/` (`alias_url_ne_path`, from the shape of an external `build`,
`adapterBuild_external_shape`); what the translated `make_alias_redirect_url` is once `self.build` has answered: the model's
alias text behind that `assert` (`make_alias_redirect_url_str_of_built`, `make_alias_redirect_url_pairs_of_built`); and `qaStr`
/ `qaPairs`, which read the model's one sum type `QueryArgs` as the argument of the translation for a `str` / for a mapping
handed over as its list of pairs (the translation has one definition per class of `query_args`, each possibly `None`).
-/
import WzVerif.Gen.PyFns_RoutingUrl
import WzVerif.Lemmas.RoutingRedirect
import WzVerif.Lemmas.PyFns_Prelude
namespace Wz.PyFnsEq.RoutingUrl
open Wz Wz.Routing
open Gen.PyFns_RoutingUrl

theorem lstripChars_singleton (c : Char) (s : Str) : Pre.lstripChars s [c] = lstripChar c s :=
  Pre.lstripChars_singleton c s

theorem rstripChars_singleton (c : Char) (s : Str) : Pre.rstripChars s [c] = rstripChar c s :=
  Pre.rstripChars_singleton c s

theorem stripChars_singleton (c : Char) (s : Str) : Pre.stripChars s [c] = stripChar c s := by
  simp only [Pre.stripChars, stripChar, lstripChars_singleton, rstripChars_singleton]

theorem join_pair (sep x y : List α) : Pre.join sep [x, y] = x ++ sep ++ y := by
  simp [Pre.join]

theorem join_slash_pair (x y : Str) : Pre.join ['/'] [x, y] = x ++ '/' :: y := by
  rw [join_pair]; simp

theorem http_lit : "http".toList = ['h', 't', 't', 'p'] := rfl

/-- `self.url_scheme or "http"` as the translation and as the model spell it -/
theorem scheme_or_http (us : Str) :
    (if !us.isEmpty then us else ['h', 't', 't', 'p']) = (if us.isEmpty then "http".toList else us) := by
  cases us <;> rfl

/-! ### the assertion seen from `MapAdapter.match`

`match` calls `make_alias_redirect_url(f"{domain_part}|{path_part}", ...)` and `build(...,
force_external=True)` returns `[scheme:]//host...`. If `domain_part` (the bound subdomain, or the server
name) contains no `/`, the first `/` of the URL comes before any `|`, while `path` has a `|` before any
`/`: the assertion cannot fire and the translated function is the model's alias arm. -/

theorem ne_of_sep_before (pre rest dom pp : Str) (hd : '/' ∉ dom) (hp : '|' ∉ pre) :
    pre ++ '/' :: rest ≠ dom ++ '|' :: pp := by
  induction pre generalizing dom with
  | nil =>
    cases dom with
    | nil => simp
    | cons d ds => intro h; simp at h; simp [← h.1] at hd
  | cons x xs ih =>
    cases dom with
    | nil => intro h; simp at h; simp [h.1] at hp
    | cons d ds =>
      intro h
      simp at h
      simp at hd hp
      exact ih ds hd.2 hp.2 h.2

/-- the model's `MapAdapter.build(..., force_external=True)`, when it succeeds, returns a text of the
form `pre + "/" + rest` where `pre` (empty or `"http:"`, `"https:"`, `"ws:"`, `"wss:"`) contains no `|` -/
theorem adapterBuild_external_shape {cfg : MapCfg} {a : Routing.Adapter} {rules : List Rule} {ep : Str}
    {vals : List (Str × Value)} {method : Option Str} {au : Bool} {url : Str}
    (h : adapterBuild cfg a rules ep vals method true au = .ok url) :
    ∃ pre rest, url = pre ++ '/' :: rest ∧ '|' ∉ pre := by
  obtain ⟨d, path, w, hp⟩ := adapterBuild_ok_inv h
  rcases adapterBuild_forms (fe := true) hp with ⟨hfe, _⟩ | hu
  · cases hfe
  · rw [h] at hu
    injection hu with hu
    refine ⟨if (buildScheme a w).isEmpty then [] else buildScheme a w ++ [':'],
      '/' :: getHost cfg.hostMatching a (some d) ++ a.scriptName.dropLast ++ '/' :: lstripChar '/' path, by rw [hu]; simp, ?_⟩
    rcases buildScheme_cases a w with ⟨h0, _, _⟩ | ⟨hmem, hemp⟩
    · rw [h0]; simp
    · rw [hemp]
      simp only [List.mem_cons, List.mem_nil_iff, or_false] at hmem
      rcases hmem with h' | h' | h' | h' <;> rw [h'] <;> decide

/-- the redirect target of the model's alias arm (`build(..., force_external=True)` plus the query
string) differs from `f"{domain_part}|{path_part}"` whenever `domain_part` contains no `/` -/
theorem alias_url_ne_path {cfg : MapCfg} {a : Routing.Adapter} {rules : List Rule} {ep : Str}
    {vals : List (Str × Value)} {method : Option Str} {au : Bool} {url : Str}
    (hb : adapterBuild cfg a rules ep vals method true au = .ok url)
    (qa : Routing.QueryArgs) (dom pp : Str) (hd : '/' ∉ dom) :
    (if qa.truthy then url ++ '?' :: Routing.encodeQueryArgs qa else url) ≠ dom ++ '|' :: pp := by
  obtain ⟨pre, rest, rfl, hp⟩ := adapterBuild_external_shape hb
  split
  · have := ne_of_sep_before pre (rest ++ '?' :: Routing.encodeQueryArgs qa) dom pp hd hp
    simpa using this
  · exact ne_of_sep_before pre rest dom pp hd hp

/-- `make_alias_redirect_url` once `self.build(...)` has answered `url`: the model's alias text (`url`, plus the query string
when there is one), behind the `assert url != path`. For `str` query arguments; `make_alias_redirect_url_pairs_of_built` for a
mapping. -/
theorem make_alias_redirect_url_str_of_built (url path s : Str) (en va me : Unit) :
    make_alias_redirect_url_str (.ok url) path en va me s =
      if (if (QueryArgs.text s).truthy then url ++ '?' :: encodeQueryArgs (.text s) else url) == path
      then .error "AssertionError"
      else .ok (if (QueryArgs.text s).truthy then url ++ '?' :: encodeQueryArgs (.text s) else url) := rfl

theorem make_alias_redirect_url_pairs_of_built (url path : Str) (l : List (Str × Str)) (en va me : Unit) :
    make_alias_redirect_url_pairs (.ok url) urlencode path en va me l =
      if (if (QueryArgs.pairs l).truthy then url ++ '?' :: encodeQueryArgs (.pairs l) else url) == path
      then .error "AssertionError"
      else .ok (if (QueryArgs.pairs l).truthy then url ++ '?' :: encodeQueryArgs (.pairs l) else url) := rfl

/-- a `QueryArgs` as the argument of the `str` translations: `None`, or a `str`; not a mapping -/
def qaStr : Routing.QueryArgs → Option (Option Str)
  | .none => some none
  | .text s => some (some s)
  | .pairs _ => none

/-- a `QueryArgs` as the argument of the mapping translations: `None`, or the list of pairs; not a `str` -/
def qaPairs : Routing.QueryArgs → Option (Option (List (Str × Str)))
  | .none => some none
  | .text _ => none
  | .pairs l => some (some l)

end Wz.PyFnsEq.RoutingUrl
