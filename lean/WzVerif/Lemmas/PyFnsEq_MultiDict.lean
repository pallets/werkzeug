/-
The methods of `MultiDict` (`datastructures/structures.py`) *as regenerated from the source* by `tools/py2lean.py`
(`Gen/PyFns_MultiDict.lean`, rewritten on every check run) against the hand-written model `Wz.MD` the C08 theorems are about.
A translated method takes the object's state (the underlying dict of lists, as an insertion-ordered association list) and
returns the new state and/or the result; one that can raise returns `Except String` with the Python exception class name.
The translation is written with the prelude's dict primitives, which rewrite every entry of a key where the model rewrites the
first (Lemmas/PyDictModel.lean): reads agree on every state (`to_dict` rebuilds a dict and needs distinct keys), a mutator agrees
when the key it touches occurs at most once (`AtMostOnce`, implied by the dict invariant `NodupKeys`). A mutator equality is
stated through the shape of what the method returns, `MD.step d op = wrap (translated …)`, error strings included; the
`IndexError` arm of `lst[0]` after a length test is unreachable and disappears inside the equalities. Props/C08T2.lean states
the equalities method by method on top of these.
-/
import WzVerif.Gen.PyFns_MultiDict
import WzVerif.Lemmas.MultiDictLaws
import WzVerif.Lemmas.PyFns_Prelude
import WzVerif.Lemmas.PyDict
namespace Wz.PyFnsEq.MultiDict
open Wz Wz.PyDict

section prims
variable {α : Type}

theorem int_len_beq_zero (l : List α) : ((Int.ofNat l.length) == 0) = l.isEmpty := by
  cases l with
  | nil => rfl
  | cons x t =>
    have : ¬ ((t.length : Int) + 1 = 0) := by omega
    simp [this]

theorem int_len_pos (l : List α) : decide (Int.ofNat l.length > 0) = !l.isEmpty := by
  cases l with
  | nil => rfl
  | cons x t =>
    have : (0 : Int) < (t.length : Int) + 1 := by omega
    simp [this]

end prims

section reads
open Wz.Gen.PyFns_MultiDict
variable {ν : Type}

theorem md_getitem_eq (d : MD.St Pre.Str ν) (k : Pre.Str) : md_getitem d k = MD.getitem d k := by
  unfold md_getitem MD.getitem
  rw [dictHas_eq, dictGetItem_eq, has_eq_isSome]
  simp only [int_len_pos]
  cases h : PyDict.get? d k with
  | none => simp
  | some l => cases l <;> simp [Pre.getItem_zero_cons]

theorem md_getlist_eq (d : MD.St Pre.Str ν) (k : Pre.Str) : md_getlist d k () = MD.getlist d k := by
  unfold md_getlist MD.getlist
  rw [dictGetItem_eq]
  cases PyDict.get? d k <;> rfl

/-- the `for item in rv` loop of `getlist(key, type)`: appends the converted items for which
`type(item)` succeeded -/
theorem md_getlist_typed_loop_eq {τ Conv : Type} (ct : Conv → ν → Except String τ) (t : Conv) (l : List ν) :
    ∀ acc : List τ, md_getlist_typed.loop1 ct t l acc = .fall (acc ++ l.filterMap fun v => (ct t v).toOption) := by
  induction l with
  | nil => intro acc; simp [md_getlist_typed.loop1]
  | cons x r ih =>
    intro acc
    unfold md_getlist_typed.loop1
    cases h : ct t x <;> simp [h, ih, Except.toOption]

theorem md_lists_loop_eq (l acc : List (Pre.Str × List ν)) : md_lists.loop1 l acc = .fall (acc ++ l) :=
  (Pre.forLoop_append md_lists.loop1 (fun x => [x]) (fun _ => rfl) (fun _ _ _ => rfl) l acc).trans
    (by rw [List.flatMap_singleton'])

theorem md_lists_eq (d : MD.St Pre.Str ν) : md_lists d = MD.lists d := by
  simp [md_lists, md_lists_loop_eq, Pre.dictItems, MD.lists]

/-- the loop of `MultiDict.values` over `dict.values()`: the first values, or `IndexError` at the
first empty list -/
theorem md_values_loop_eq (c : MD.St Pre.Str ν) : ∀ acc : List ν,
    md_values.loop1 (c.map (·.2)) acc =
      match MD.itemsFirst c with
      | .ok r => .fall (acc ++ r.map (·.2))
      | .error e => .ret (.error e) := by
  induction c with
  | nil => intro acc; simp [md_values.loop1, MD.itemsFirst]
  | cons x r ih =>
    intro acc
    obtain ⟨k, vs⟩ := x
    cases vs with
    | nil => simp [md_values.loop1, MD.itemsFirst, Pre.getItem]
    | cons v vs' =>
      simp only [List.map_cons, md_values.loop1, Pre.getItem_zero_cons, MD.itemsFirst, ih]
      cases MD.itemsFirst r <;> simp

/-- the inner `for value in values` loop of `items(multi=True)`: yields `(key, value)` for each
value and never returns -/
theorem md_items_loop2_eq (k : Pre.Str) (vs : List ν) : ∀ acc : List (Pre.Str × ν),
    md_items.loop2 k vs acc = .fall (acc ++ vs.map fun v => (k, v)) := by
  intro acc
  rw [List.map_eq_flatMap]
  exact Pre.forLoop_append (md_items.loop2 k) (fun v => [(k, v)]) (fun _ => rfl) (fun _ _ _ => rfl) vs acc

theorem md_items_loop1_multi_eq (c : MD.St Pre.Str ν) : ∀ acc : List (Pre.Str × ν),
    md_items.loop1 true c acc = .fall (acc ++ MD.itemsMulti c) := by
  refine Pre.forLoop_append (md_items.loop1 true) (fun x => x.2.map fun v => (x.1, v)) (fun _ => rfl) (fun x r acc => ?_) c
  rw [md_items.loop1]
  simp only [if_true, md_items_loop2_eq]

/-- the outer loop of `items()` (`multi=False`): `(key, values[0])` for each key, or `IndexError` at
the first empty list -/
theorem md_items_loop1_first_eq (c : MD.St Pre.Str ν) : ∀ acc : List (Pre.Str × ν),
    md_items.loop1 false c acc =
      match MD.itemsFirst c with
      | .ok r => .fall (acc ++ r)
      | .error e => .ret (.error e) := by
  induction c with
  | nil => intro acc; simp [md_items.loop1, MD.itemsFirst]
  | cons x r ih =>
    intro acc
    obtain ⟨k, vs⟩ := x
    cases vs with
    | nil => simp [md_items.loop1, MD.itemsFirst, Pre.getItem]
    | cons v vs' =>
      simp only [md_items.loop1, Bool.false_eq_true, if_false, Pre.getItem_zero_cons, MD.itemsFirst, ih]
      cases MD.itemsFirst r <;> simp

theorem md_items_first_eq (d : MD.St Pre.Str ν) : md_items d false = MD.itemsFirst d := by
  simp only [md_items, Pre.dictItems, md_items_loop1_first_eq]
  cases MD.itemsFirst d <;> simp

theorem md_to_dict_flat_eq' (d : MD.St Pre.Str ν) :
    md_to_dict_flat d true = (MD.toDictFlat d).map Pre.dictOfPairs := by
  unfold md_to_dict_flat MD.toDictFlat
  rw [md_items_first_eq]
  cases MD.itemsFirst d <;> rfl

end reads

section views
variable {κ ν : Type}

/-- the value of a `Ret.val`; any other shape is an error string no translated method produces -/
def unVal : MD.Ret κ ν → Except String ν
  | .val v => .ok v
  | _ => .error "view: the model's result is not Ret.val"
def unVals : MD.Ret κ ν → Except String (List ν)
  | .vals vs => .ok vs
  | _ => .error "view: the model's result is not Ret.vals"
def unItem : MD.Ret κ ν → Except String (κ × ν)
  | .item k v => .ok (k, v)
  | _ => .error "view: the model's result is not Ret.item"
def unItemlist : MD.Ret κ ν → Except String (κ × List ν)
  | .itemlist k vs => .ok (k, vs)
  | _ => .error "view: the model's result is not Ret.itemlist"

/-! Two vocabularies for one equality. Props/C08T2.lean states a mutator equality in the `view` form, `translated … =
viewX (MD.step d op)`: the model step seen through the shape of what the method returns - the new state, and `None`, one
value, a list of values, a `(key, value)` or `(key, values)` pair, or the exception. It is proved here in the `wrap` form,
`MD.step d op = wrapX (translated …)` (the `_step` lemmas), which loses nothing of the model's answer; `viewX (wrapX r) = r`
takes the second to the first. -/

def viewNone (r : MD.Res κ ν (MD.Ret κ ν)) : MD.St κ ν := r.1
def viewVal (r : MD.Res κ ν (MD.Ret κ ν)) : MD.St κ ν × Except String ν := (r.1, r.2.bind unVal)
def viewVals (r : MD.Res κ ν (MD.Ret κ ν)) : MD.St κ ν × Except String (List ν) := (r.1, r.2.bind unVals)
/-- view of a model step for a method returning a list of values that cannot raise (`poplist`);
lossless together with the `_step` form -/
def viewValsT (r : MD.Res κ ν (MD.Ret κ ν)) : MD.St κ ν × List ν :=
  (r.1, match r.2 with | .ok (.vals vs) => vs | _ => [])
def viewItem (r : MD.Res κ ν (MD.Ret κ ν)) : MD.St κ ν × Except String (κ × ν) := (r.1, r.2.bind unItem)
def viewItemlist (r : MD.Res κ ν (MD.Ret κ ν)) : MD.St κ ν × Except String (κ × List ν) :=
  (r.1, r.2.bind unItemlist)

def wrapNone (c : MD.St κ ν) : MD.Res κ ν (MD.Ret κ ν) := (c, .ok .none)
def wrapVal (r : MD.St κ ν × Except String ν) : MD.Res κ ν (MD.Ret κ ν) := (r.1, r.2.map .val)
def wrapVals (r : MD.St κ ν × Except String (List ν)) : MD.Res κ ν (MD.Ret κ ν) := (r.1, r.2.map .vals)
def wrapValsT (r : MD.St κ ν × List ν) : MD.Res κ ν (MD.Ret κ ν) := (r.1, .ok (.vals r.2))
def wrapItem (r : MD.St κ ν × Except String (κ × ν)) : MD.Res κ ν (MD.Ret κ ν) :=
  (r.1, r.2.map fun p => .item p.1 p.2)
def wrapItemlist (r : MD.St κ ν × Except String (κ × List ν)) : MD.Res κ ν (MD.Ret κ ν) :=
  (r.1, r.2.map fun p => .itemlist p.1 p.2)

theorem viewNone_wrapNone (c : MD.St κ ν) : viewNone (wrapNone c) = c := rfl
theorem viewVal_wrapVal (r : MD.St κ ν × Except String ν) : viewVal (wrapVal r) = r := by
  obtain ⟨c, e⟩ := r; cases e <;> rfl
theorem viewVals_wrapVals (r : MD.St κ ν × Except String (List ν)) : viewVals (wrapVals r) = r := by
  obtain ⟨c, e⟩ := r; cases e <;> rfl
theorem viewValsT_wrapValsT (r : MD.St κ ν × List ν) : viewValsT (wrapValsT r) = r := rfl
theorem viewItem_wrapItem (r : MD.St κ ν × Except String (κ × ν)) : viewItem (wrapItem r) = r := by
  obtain ⟨c, e⟩ := r; cases e <;> rfl
theorem viewItemlist_wrapItemlist (r : MD.St κ ν × Except String (κ × List ν)) :
    viewItemlist (wrapItemlist r) = r := by
  obtain ⟨c, e⟩ := r; cases e <;> rfl

end views

section mutators
open Wz.Gen.PyFns_MultiDict
variable {ν : Type}

theorem md_setitem_set (d : MD.St Pre.Str ν) (k : Pre.Str) (v : ν) (h : AtMostOnce d k) :
    md_setitem d k v = PyDict.set d k [v] := by
  unfold md_setitem; exact dictSet_eq d k [v] h

theorem md_setitem_step (d : MD.St Pre.Str ν) (k : Pre.Str) (v : ν) (h : AtMostOnce d k) :
    MD.step d (.setitem k v) = wrapNone (md_setitem d k v) := by
  rw [md_setitem_set d k v h]; rfl

theorem md_add_add (d : MD.St Pre.Str ν) (k : Pre.Str) (v : ν) (h : AtMostOnce d k) :
    md_add d k v = MD.add d k v := by
  unfold md_add MD.add
  rw [dictGetD_eq, dictSet_eq d k _ h]
  cases PyDict.get? d k <;> rfl

theorem md_add_step (d : MD.St Pre.Str ν) (k : Pre.Str) (v : ν) (h : AtMostOnce d k) :
    MD.step d (.add k v) = wrapNone (md_add d k v) := by
  rw [md_add_add d k v h]; rfl

theorem md_setlist_step (d : MD.St Pre.Str ν) (k : Pre.Str) (vs : List ν) (h : AtMostOnce d k) :
    MD.step d (.setlist k vs) = wrapNone (md_setlist d k vs) := by
  unfold md_setlist
  simp only [id, dictSet_eq d k vs h]; rfl

/-- **`MultiDict.setdefault`**: the model step is the translated method's result, on every
association list (a present key is not written, a missing one is appended): state, returned value,
and `BadRequestKeyError` for a present key with zero values -/
theorem md_setdefault_step (d : MD.St Pre.Str ν) (k : Pre.Str) (v : ν) :
    MD.step d (.setdefault k v) = wrapVal (md_setdefault d k v) := by
  unfold md_setdefault
  rw [dictHas_eq]
  cases hh : PyDict.has d k with
  | true =>
    simp only [MD.step, hh, if_true, Bool.not_true, Bool.false_eq_true, if_false, md_getitem_eq, wrapVal]
    cases MD.getitem d k <;> rfl
  | false =>
    have hk : k ∉ keys d := fun hm => by simp [(has_iff d k).mpr hm] at hh
    simp only [MD.step, hh, Bool.false_eq_true, if_false, Bool.not_false, if_true,
      md_setitem_set d k v (atMostOnce_of_not_mem hk), md_getitem_eq, wrapVal]
    cases MD.getitem (PyDict.set d k [v]) k <;> rfl

/-- **`MultiDict.setlistdefault(key, default_list)`**: the model step (with `None` read as the empty
list, as `list(default_list or ())` does) is the translated method's result, on every association
list; the `KeyError` arm of the final `dict.__getitem__` is unreachable -/
theorem md_setlistdefault_step (d : MD.St Pre.Str ν) (k : Pre.Str) (o : Option (List ν)) :
    MD.step d (.setlistdefault k (o.getD [])) = wrapVals (md_setlistdefault d k o) := by
  unfold md_setlistdefault
  rw [dictHas_eq]
  cases hh : PyDict.has d k with
  | true =>
    simp only [MD.step, hh, if_true, Bool.not_true, Bool.false_eq_true, if_false, dictGetItem_eq, wrapVals,
      MD.getlist]
    rw [has_eq_isSome] at hh
    cases hg : PyDict.get? d k with
    | none => simp [hg] at hh
    | some l => rfl
  | false =>
    have hk : k ∉ keys d := fun hm => by simp [(has_iff d k).mpr hm] at hh
    have hs : ∀ x : List ν, Pre.dictSet d k x = PyDict.set d k x :=
      fun x => dictSet_eq d k x (atMostOnce_of_not_mem hk)
    cases o with
    | none =>
      simp only [MD.step, hh, Bool.false_eq_true, if_false, Bool.not_false, if_true, id, hs, dictGetItem_eq,
        get?_set_self, wrapVals, MD.getlist, Option.getD]
      rfl
    | some l =>
      have hl : (if !l.isEmpty then l else []) = l := by cases l <;> rfl
      simp only [MD.step, hh, Bool.false_eq_true, if_false, Bool.not_false, if_true, id, hs, dictGetItem_eq,
        get?_set_self, wrapVals, MD.getlist, Option.getD, hl]
      rfl

theorem atMostOnce_add {d : MD.St Pre.Str ν} {k' : Pre.Str} (h : AtMostOnce d k') (k : Pre.Str) (v : ν) :
    AtMostOnce (MD.add d k v) k' := by
  unfold MD.add; cases PyDict.get? d k <;> exact atMostOnce_set h k _

/-- the `for key, value in iter_multi_items(mapping): self.add(key, value)` loop is the model's
`addAll`, when every key of the argument occurs at most once in the dict -/
theorem md_update_loop_eq (l : List (Pre.Str × ν)) : ∀ (d : MD.St Pre.Str ν), (∀ p ∈ l, AtMostOnce d p.1) →
    md_update.loop1 l d = .fall (MD.addAll d l) := by
  induction l with
  | nil => intro d _; rfl
  | cons p t ih =>
    intro d h
    obtain ⟨k, v⟩ := p
    simp only [md_update.loop1, MD.addAll]
    rw [md_add_add d k v (h (k, v) List.mem_cons_self)]
    exact ih _ fun q hq => atMostOnce_add (h q (List.mem_cons_of_mem _ hq)) k v

theorem md_update_addAll (d : MD.St Pre.Str ν) (l : List (Pre.Str × ν)) (h : ∀ p ∈ l, AtMostOnce d p.1) :
    md_update d l = MD.addAll d l := by
  simp only [md_update, id, md_update_loop_eq l d h]

theorem md_update_step (d : MD.St Pre.Str ν) (l : List (Pre.Str × ν)) (h : ∀ p ∈ l, AtMostOnce d p.1) :
    MD.step d (.update (.pairs l)) = wrapNone (md_update d l) := by
  rw [md_update_addAll d l h]; rfl

theorem md_update_eq (d : MD.St Pre.Str ν) (l : List (Pre.Str × ν)) (h : ∀ p ∈ l, AtMostOnce d p.1) :
    md_update d l = viewNone (MD.step d (.update (.pairs l))) := by
  rw [md_update_step d l h, viewNone_wrapNone]

/-- **`MultiDict.pop(key)`**: the model step `.pop key none` is the translated method's result: the
popped state, the first value, `BadRequestKeyError` for a missing key and for a key with zero values
(which is removed all the same); the `IndexError` arm of `lst[0]` is unreachable -/
theorem md_pop_step (d : MD.St Pre.Str ν) (k : Pre.Str) (h : AtMostOnce d k) :
    MD.step d (.pop k none) = wrapVal (md_pop d k ()) := by
  unfold md_pop
  rw [dictPop_eq d k h]
  simp only [MD.step, wrapVal, int_len_beq_zero]
  cases PyDict.get? d k with
  | none => rfl
  | some l => cases l <;> simp [Pre.getItem_zero_cons, Except.map]

/-- **`MultiDict.pop(key, default)`**: the model step `.pop key (some default)` is the translated
method's result (the default for a missing key and for a key with zero values, which is removed) -/
theorem md_pop_default_step (d : MD.St Pre.Str ν) (k : Pre.Str) (dflt : ν) (h : AtMostOnce d k) :
    MD.step d (.pop k (some dflt)) = wrapVal (md_pop_default d k dflt) := by
  unfold md_pop_default
  rw [dictPop_eq d k h]
  simp only [MD.step, wrapVal, int_len_beq_zero]
  cases PyDict.get? d k with
  | none => rfl
  | some l => cases l <;> simp [Pre.getItem_zero_cons, Except.map]

/-- **`MultiDict.popitem`**: the model step is the translated method's result on every association
list: last entry removed, `(key, first value)`, `BadRequestKeyError` for an empty dict and for a
last key with zero values -/
theorem md_popitem_step (d : MD.St Pre.Str ν) : MD.step d .popitem = wrapItem (md_popitem d) := by
  unfold md_popitem
  rw [dictPopitem_eq]
  simp only [MD.step, wrapItem, int_len_beq_zero]
  cases PyDict.popitem d with
  | none => rfl
  | some r =>
    obtain ⟨⟨k, vs⟩, c'⟩ := r
    cases vs <;> simp [Pre.getItem_zero_cons, Except.map]

/-- **`MultiDict.poplist`**: the model step is the translated method's result (lossless form: the
model answers `.ok (.vals …)` always) -/
theorem md_poplist_step (d : MD.St Pre.Str ν) (k : Pre.Str) (h : AtMostOnce d k) :
    MD.step d (.poplist k) = wrapValsT (md_poplist d k) := by
  unfold md_poplist
  simp only [dictPopD_eq d k [] h, MD.step, wrapValsT]
  cases hg : PyDict.get? d k with
  | none =>
    simp [erase_of_not_mem d k ((get?_eq_none_iff d k).mp hg)]
  | some l => rfl

theorem md_popitemlist_step (d : MD.St Pre.Str ν) : MD.step d .popitemlist = wrapItemlist (md_popitemlist d) := by
  unfold md_popitemlist
  rw [dictPopitem_eq]
  simp only [MD.step, wrapItemlist]
  cases PyDict.popitem d with
  | none => rfl
  | some r => obtain ⟨⟨k, vs⟩, c'⟩ := r; rfl

end mutators

section todict
open Wz.Gen.PyFns_MultiDict
variable {ν : Type}

theorem keys_itemsFirst (d : MD.St Pre.Str ν) (r : List (Pre.Str × ν)) (h : MD.itemsFirst d = .ok r) :
    keys r = keys d := by
  induction d generalizing r with
  | nil => simp [MD.itemsFirst] at h; subst h; rfl
  | cons e t ih =>
    obtain ⟨k, vs⟩ := e
    cases vs with
    | nil => simp [MD.itemsFirst] at h
    | cons v vs' =>
      simp only [MD.itemsFirst] at h
      cases ht : MD.itemsFirst t with
      | error e => simp [ht] at h
      | ok r' =>
        simp [ht] at h
        subst h
        simp [keys] at *
        exact ih r' ht

/-- `to_dict()` needs distinct keys to equal the model's `toDictFlat` (`Props.C08T2.md_to_dict_flat_eq`): with a key twice
the rebuilt dict differs from the item list -/
example : md_to_dict_flat [(['a'], [1]), (['a'], [2])] true ≠ MD.toDictFlat [(['a'], [1]), (['a'], [2])] :=
  fun h => absurd (congrArg Except.toOption h) (by decide)

theorem md_to_dict_lists_eq' (d : MD.St Pre.Str ν) : md_to_dict_lists d false = Pre.dictOfPairs d := by
  unfold md_to_dict_lists; rw [md_lists_eq]; rfl

end todict

/-! ## necessity of `AtMostOnce` in the mutator equalities: on a list holding the key twice the
translation (prelude: all entries) and the model (first entry) differ. Not reachable from Python. -/
section witnesses
open Wz.Gen.PyFns_MultiDict

/-- an association list that is not a dict: the key `a` twice -/
def dup : MD.St Pre.Str Nat := [(['a'], [1]), (['a'], [2])]

example : md_setitem dup ['a'] 9 ≠ viewNone (MD.step dup (.setitem ['a'] 9)) := by decide
example : md_add dup ['a'] 9 ≠ viewNone (MD.step dup (.add ['a'] 9)) := by decide
example : md_setlist dup ['a'] [9] ≠ viewNone (MD.step dup (.setlist ['a'] [9])) := by decide
example : md_update dup [(['a'], 9)] ≠ viewNone (MD.step dup (.update (.pairs [(['a'], 9)]))) := by decide
example : md_pop dup ['a'] () ≠ viewVal (MD.step dup (.pop ['a'] none)) :=
  fun h => absurd (congrArg Prod.fst h) (by decide)
example : md_pop_default dup ['a'] 0 ≠ viewVal (MD.step dup (.pop ['a'] (some 0))) :=
  fun h => absurd (congrArg Prod.fst h) (by decide)
example : md_poplist dup ['a'] ≠ viewValsT (MD.step dup (.poplist ['a'])) := by decide

end witnesses

section c08
open Wz.Gen.PyFns_MultiDict MDSpec
variable {ν : Type}

theorem md_update_getlist (d : MD.St Pre.Str ν) (l : List (Pre.Str × ν)) (h : ∀ p ∈ l, AtMostOnce d p.1)
    (k : Pre.Str) :
    md_getlist (md_update d l) k () = md_getlist d k () ++ (l.filter (fun p => p.1 = k)).map (·.2) := by
  rw [md_getlist_eq, md_getlist_eq, md_update_eq d l h]
  exact C08L.getlist_addAll d _ k

end c08

end Wz.PyFnsEq.MultiDict
