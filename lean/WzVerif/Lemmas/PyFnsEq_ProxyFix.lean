/-
What Props/C15T2 rests on when it compares the translated `ProxyFix._get_real_value` / `ProxyFix.__call__`
(`Gen/PyFns_ProxyFix.lean`) with `Url.realValue` / `Url.proxyFix` of `Model/UrlProxyFix.lean`.

The translated `__call__` works on the WSGI environ as a dict of texts (`List (Str × Str)`, read with
`Pre.dictGet?`, written with `Pre.dictSet`); the model works on a record of the seven environ entries
it cares about (`Url.PFEnviron`) and receives the `X-Forwarded-*` headers already parsed
(`Url.PFHeaders`). `readEnv` / `hdrsOf` read that record / those headers off a dict.

Held here: the Python text primitives against the model's; `_get_real_value` for every integer trust count in
terms of the parsed header (`proxy_get_real_value_hdr`); each `if x_…:` block of the translation followed by
the rest of the function as a dict-level stage (`setIf_cps`, `stHost_cps`, `stPort_cps`; `fixDict` is the five
stages); what every stage preserves (`Pres`); `readEnv` after a write to each key; and `Sim` (a dict stage
simulates a model stage; closed under composition), of which `sim_fixDict` is the composition of the five.
-/
import WzVerif.Gen.PyFns_ProxyFix
import WzVerif.Props.C06T
import WzVerif.Model.UrlProxyFix
import WzVerif.Model.Http
import WzVerif.Lemmas.PyFns_Prelude
import WzVerif.Lemmas.PyDict
import WzVerif.Lemmas.UrlSplit
namespace Wz.PyFnsEq.ProxyFix
open Wz Wz.Pre

section text
open Wz.Url

theorem hasPort_eq (s : Pre.Str) : (Pre.contains s [':'] && !Pre.endswith s [']']) = hasPort s := by
  rw [contains_singleton, endswith_singleton]; rfl

theorem hasPort_mem (s : Pre.Str) (h : hasPort s = true) : ':' ∈ s := by
  unfold hasPort at h
  simp only [Bool.and_eq_true] at h
  simpa using h.1

/-- `a, b = s.rsplit(c, 1)` under `c in s`, in the model's `rpartitionChar` -/
theorem rsplitOnce_rpartition (c : Char) (s : Pre.Str) (h : c ∈ s) :
    Pre.rsplitOnce s [c] = .ok (((rpartitionChar c s).1).getD s, (rpartitionChar c s).2) := by
  obtain ⟨a, b, rfl, hb⟩ := split_at_last c s h
  rw [rsplitOnce_append _ _ _ hb, rpartitionChar_append _ _ hb]
  rfl

/-- `s.rsplit(c, 1)[0]` under `c in s` -/
theorem rsplit1_rpartition_head (c : Char) (s : Pre.Str) (h : c ∈ s) :
    Pre.getItem (Pre.rsplit1 s [c]) 0 = .ok (((rpartitionChar c s).1).getD s) := by
  obtain ⟨a, b, rfl, hb⟩ := split_at_last c s h
  rw [rsplit1_append _ _ _ hb, rpartitionChar_append _ _ hb]
  rfl

end text

/-- the WSGI environ as the translated code sees it: a dict of texts -/
abbrev Env := List (Str × Str)

abbrev kRemoteAddr : Str := ['R', 'E', 'M', 'O', 'T', 'E', '_', 'A', 'D', 'D', 'R']
abbrev kScheme : Str := ['w', 's', 'g', 'i', '.', 'u', 'r', 'l', '_', 's', 'c', 'h', 'e', 'm', 'e']
abbrev kHost : Str := ['H', 'T', 'T', 'P', '_', 'H', 'O', 'S', 'T']
abbrev kServerName : Str := ['S', 'E', 'R', 'V', 'E', 'R', '_', 'N', 'A', 'M', 'E']
abbrev kServerPort : Str := ['S', 'E', 'R', 'V', 'E', 'R', '_', 'P', 'O', 'R', 'T']
abbrev kScriptName : Str := ['S', 'C', 'R', 'I', 'P', 'T', '_', 'N', 'A', 'M', 'E']
abbrev kPathInfo : Str := ['P', 'A', 'T', 'H', '_', 'I', 'N', 'F', 'O']
abbrev kXFor : Str :=
  ['H', 'T', 'T', 'P', '_', 'X', '_', 'F', 'O', 'R', 'W', 'A', 'R', 'D', 'E', 'D', '_', 'F', 'O', 'R']
abbrev kXProto : Str :=
  ['H', 'T', 'T', 'P', '_', 'X', '_', 'F', 'O', 'R', 'W', 'A', 'R', 'D', 'E', 'D', '_', 'P', 'R', 'O', 'T', 'O']
abbrev kXHost : Str :=
  ['H', 'T', 'T', 'P', '_', 'X', '_', 'F', 'O', 'R', 'W', 'A', 'R', 'D', 'E', 'D', '_', 'H', 'O', 'S', 'T']
abbrev kXPort : Str :=
  ['H', 'T', 'T', 'P', '_', 'X', '_', 'F', 'O', 'R', 'W', 'A', 'R', 'D', 'E', 'D', '_', 'P', 'O', 'R', 'T']
abbrev kXPrefix : Str :=
  ['H', 'T', 'T', 'P', '_', 'X', '_', 'F', 'O', 'R', 'W', 'A', 'R', 'D', 'E', 'D', '_', 'P', 'R', 'E', 'F', 'I', 'X']

/-- the six environ keys `ProxyFix.__call__` assigns -/
def writtenKeys : List Str := [kRemoteAddr, kScheme, kHost, kServerName, kServerPort, kScriptName]

/-- what a field of the model's `PFHeaders` stands for: `parse_list_header(environ.get(key))`, `none`
for an absent or empty header -/
def hdr (value : Option Str) : Option (List Str) :=
  match value with
  | none => none
  | some v => if v.isEmpty then none else some (Http.parseListHeader v)

/-- `_get_real_value`, as translated, for every integer trust count: it looks at the header through `hdr` only
(`parse_list_header` is the translated one, equal to the model's by `C06T.parse_list_header_eq`); what is left is
the comparison `len(values) >= trusted` and the index `values[-trusted]` -/
theorem proxy_get_real_value_hdr (t : Int) (value : Option Str) :
    Gen.PyFns_ProxyFix.proxy_get_real_value t value =
      match hdr value with
      | none => .ok none
      | some vs =>
        if t = 0 then .ok none
        else if t ≤ vs.length then (getItem vs (-t)).map some else .ok none := by
  unfold Gen.PyFns_ProxyFix.proxy_get_real_value hdr
  rcases value with _ | v
  · rfl
  · by_cases hv : v.isEmpty = true
    · simp [hv]
    · by_cases ht : t = 0
      · simp [hv, ht]
      · have ht' : (t == 0) = false := by simpa using ht
        simp only [hv, ht, ht', Props.C06T.parse_list_header_eq, Int.ofNat_eq_natCast, ge_iff_le, decide_eq_true_eq,
          Bool.not_false, Bool.and_self, Bool.not_true, Bool.false_eq_true, if_false, Except.map]
        split
        · cases getItem (Http.parseListHeader v) (-t) <;> rfl
        · rfl

/-- the model's record of an environ dict (absent non-optional entries read as the empty text) -/
def readEnv (d : Env) : Url.PFEnviron where
  remoteAddr := dictGet? d kRemoteAddr
  urlScheme := (dictGet? d kScheme).getD []
  httpHost := dictGet? d kHost
  serverName := (dictGet? d kServerName).getD []
  serverPort := (dictGet? d kServerPort).getD []
  scriptName := (dictGet? d kScriptName).getD []
  pathInfo := (dictGet? d kPathInfo).getD []

/-- the model's parsed `X-Forwarded-*` headers of an environ dict -/
def hdrsOf (d : Env) : Url.PFHeaders where
  xfor := hdr (dictGet? d kXFor)
  proto := hdr (dictGet? d kXProto)
  host := hdr (dictGet? d kXHost)
  port := hdr (dictGet? d kXPort)
  pfx := hdr (dictGet? d kXPrefix)

/-- `self._get_real_value(t, environ_get(key))` in the model's terms -/
def rv (t : Nat) (d : Env) (key : Str) : Option Str := Url.realValue t (hdr (dictGet? d key))

/-- `if o: environ[key] = o` -/
def setIf (d : Env) (key : Str) (o : Option Str) : Env :=
  match Url.truthyV o with
  | some v => dictSet d key v
  | none => d

/-- the translated `if x: environ[key] = x` followed by the rest of the function `K` -/
theorem setIf_cps {β : Type} (K : Env → β) (d : Env) (key : Str) (o : Option Str) :
    (match o with
      | none => K d
      | some x => if (!x.isEmpty) = true then K (dictSet d key x) else K d) = K (setIf d key o) := by
  rcases o with _ | (_ | ⟨x, t⟩) <;> rfl

/-- the `x_host` stage on the dict, given the real value `o` -/
def stHost (o : Option Str) (d : Env) : Env :=
  match Url.truthyV o with
  | some v =>
    if Url.hasPort v then
      dictSet (dictSet (dictSet (dictSet d kHost v) kServerName v) kServerName
        (((Url.rpartitionChar ':' v).1).getD v)) kServerPort (Url.rpartitionChar ':' v).2
    else dictSet (dictSet d kHost v) kServerName v
  | none => d

/-- the `x_port` stage on the dict, given the real value `o` -/
def stPort (o : Option Str) (d : Env) : Env :=
  match Url.truthyV o with
  | some v =>
    match Url.truthyV (dictGet? d kHost) with
    | some host => dictSet (dictSet d kHost (Url.stripPort host ++ ':' :: v)) kServerPort v
    | none => dictSet d kServerPort v
  | none => d

/-- the translated `if x_port:` block (`host = environ.get("HTTP_HOST")`, `host.rsplit(":", 1)[0]` behind
its guard, the two assignments) followed by the rest of the function `K`; the IndexError of `[0]` is
unreachable behind `":" in host` -/
theorem stPort_cps {β : Type} (K : Env → Except String β) (d : Env) (o : Option Str) :
    (match o with
      | none => K d
      | some x =>
        if (!x.isEmpty) = true then
          match dictGet? d kHost with
          | none => K (dictSet d kServerPort x)
          | some host =>
            if (!host.isEmpty) = true then
              if Url.hasPort host = true then
                match Pre.getItem (Pre.rsplit1 host [':']) 0 with
                | .error e => .error e
                | .ok h => K (dictSet (dictSet d kHost (h ++ [':'] ++ x)) kServerPort x)
              else K (dictSet (dictSet d kHost (host ++ [':'] ++ x)) kServerPort x)
            else K (dictSet d kServerPort x)
        else K d) = K (stPort o d) := by
  rcases o with _ | (_ | ⟨x, t⟩)
  · rfl
  · rfl
  · simp only [stPort, Url.truthyV]
    rcases dictGet? d kHost with _ | (_ | ⟨y, u⟩)
    · rfl
    · rfl
    · simp only [List.isEmpty_cons, Bool.not_false, if_true]
      unfold Url.stripPort
      by_cases hp : Url.hasPort (y :: u) = true
      · simp [hp, rsplit1_rpartition_head ':' _ (hasPort_mem _ hp)]
      · simp [hp]

/-- the translated `if x_host:` block (the chained assignment, `SERVER_NAME, SERVER_PORT = x_host.rsplit(":", 1)`
behind its guard) followed by `K`; the ValueError of the two-name unpacking is unreachable -/
theorem stHost_cps {β : Type} (K : Env → Except String β) (d : Env) (o : Option Str) :
    (match o with
      | none => K d
      | some x =>
        if (!x.isEmpty) = true then
          if Url.hasPort x = true then
            match Pre.rsplitOnce x [':'] with
            | .error e => .error e
            | .ok p => K (dictSet (dictSet (dictSet (dictSet d kHost x) kServerName x) kServerName p.1) kServerPort p.2)
          else K (dictSet (dictSet d kHost x) kServerName x)
        else K d) = K (stHost o d) := by
  rcases o with _ | (_ | ⟨x, t⟩)
  · rfl
  · rfl
  · simp only [stHost, Url.truthyV, List.isEmpty_cons, Bool.not_false, if_true]
    by_cases hp : Url.hasPort (x :: t) = true
    · simp [hp, rsplitOnce_rpartition ':' _ (hasPort_mem _ hp)]
    · simp [hp]

def sFor (c : Url.PFConfig) (d : Env) : Env := setIf d kRemoteAddr (rv c.xFor d kXFor)
def sProto (c : Url.PFConfig) (d : Env) : Env := setIf d kScheme (rv c.xProto d kXProto)
def sHost (c : Url.PFConfig) (d : Env) : Env := stHost (rv c.xHost d kXHost) d
def sPort (c : Url.PFConfig) (d : Env) : Env := stPort (rv c.xPort d kXPort) d
def sPrefix (c : Url.PFConfig) (d : Env) : Env := setIf d kScriptName (rv c.xPrefix d kXPrefix)

/-- the environ dict `ProxyFix.__call__` hands to the wrapped app (without the bookkeeping entry
`werkzeug.proxy_fix.orig`): the five stages in the order of the source, each reading its header from
the dict the previous stage left -/
def fixDict (c : Url.PFConfig) (d : Env) : Env := sPrefix c (sPort c (sHost c (sProto c (sFor c d))))

/-- the stage writes to the six written keys only -/
def Frame (d' d : Env) : Prop := ∀ k, k ∉ writtenKeys → dictGet? d' k = dictGet? d k

/-- the stage deletes no key -/
def Keeps (d' d : Env) : Prop := ∀ k, (dictGet? d k).isSome = true → (dictGet? d' k).isSome = true

/-- what every stage preserves. `Sim.comp` needs `frame` only (the header keys read the same after a stage);
`keeps` and `nodup` ride along because `C15T2.proxy_fix_environ_eq` states them of the dict handed to the app -/
structure Pres (d' d : Env) : Prop where
  frame : Frame d' d
  keeps : Keeps d' d
  nodup : (d.map (·.1)).Nodup → (d'.map (·.1)).Nodup

theorem Pres.refl (d : Env) : Pres d d := ⟨fun _ _ => rfl, fun _ h => h, id⟩

theorem Pres.trans {a b c : Env} (h1 : Pres a b) (h2 : Pres b c) : Pres a c :=
  ⟨fun k hk => (h1.frame k hk).trans (h2.frame k hk), fun k hk => h1.keeps k (h2.keeps k hk),
    fun hn => h1.nodup (h2.nodup hn)⟩

theorem Frame.hdrsOf {d' d : Env} (h : Frame d' d) : hdrsOf d' = hdrsOf d := by
  unfold ProxyFix.hdrsOf
  rw [h kXFor (by decide), h kXProto (by decide), h kXHost (by decide), h kXPort (by decide), h kXPrefix (by decide)]

theorem pres_dictSet (d : Env) (key v : Str) (hk : key ∈ writtenKeys) : Pres (dictSet d key v) d where
  frame k hn := by
    have : (k == key) = false := beq_false_of_ne fun e => hn (e ▸ hk)
    rw [dictGet?_dictSet, this]; rfl
  keeps k h := by rw [← dictHas_eq_isSome] at h ⊢; rw [dictHas_dictSet, h, Bool.or_true]
  nodup := nodup_keys_dictSet _ _ _

theorem pres_setIf (d : Env) (key : Str) (o : Option Str) (hk : key ∈ writtenKeys) : Pres (setIf d key o) d := by
  unfold setIf
  split
  · exact pres_dictSet _ _ _ hk
  · exact .refl d

theorem pres_stHost (o : Option Str) (d : Env) : Pres (stHost o d) d := by
  unfold stHost
  split
  · split
    · exact (pres_dictSet _ _ _ (by decide)).trans ((pres_dictSet _ _ _ (by decide)).trans
        ((pres_dictSet _ _ _ (by decide)).trans (pres_dictSet _ _ _ (by decide))))
    · exact (pres_dictSet _ _ _ (by decide)).trans (pres_dictSet _ _ _ (by decide))
  · exact .refl d

theorem pres_stPort (o : Option Str) (d : Env) : Pres (stPort o d) d := by
  unfold stPort
  split
  · split
    · exact (pres_dictSet _ _ _ (by decide)).trans (pres_dictSet _ _ _ (by decide))
    · exact pres_dictSet _ _ _ (by decide)
  · exact .refl d

/-! `readEnv` after a write to each of the six keys: the field the model's stage sets. (`rfl` evaluates the
comparisons of the key constants that `dictGet?_dictSet` leaves.) -/

theorem readEnv_set_remoteAddr (d : Env) (v : Str) :
    readEnv (dictSet d kRemoteAddr v) = { readEnv d with remoteAddr := some v } := by
  simp only [readEnv, dictGet?_dictSet]; rfl

theorem readEnv_set_scheme (d : Env) (v : Str) :
    readEnv (dictSet d kScheme v) = { readEnv d with urlScheme := v } := by
  simp only [readEnv, dictGet?_dictSet]; rfl

theorem readEnv_set_host (d : Env) (v : Str) :
    readEnv (dictSet d kHost v) = { readEnv d with httpHost := some v } := by
  simp only [readEnv, dictGet?_dictSet]; rfl

theorem readEnv_set_serverName (d : Env) (v : Str) :
    readEnv (dictSet d kServerName v) = { readEnv d with serverName := v } := by
  simp only [readEnv, dictGet?_dictSet]; rfl

theorem readEnv_set_serverPort (d : Env) (v : Str) :
    readEnv (dictSet d kServerPort v) = { readEnv d with serverPort := v } := by
  simp only [readEnv, dictGet?_dictSet]; rfl

theorem readEnv_set_scriptName (d : Env) (v : Str) :
    readEnv (dictSet d kScriptName v) = { readEnv d with scriptName := v } := by
  simp only [readEnv, dictGet?_dictSet]; rfl

/-- `if x: environ[key] = x` on the record, for a key whose write sets one field -/
theorem readEnv_setIf {key : Str} {upd : Url.PFEnviron → Str → Url.PFEnviron}
    (hupd : ∀ d v, readEnv (dictSet d key v) = upd (readEnv d) v) (d : Env) (o : Option Str) :
    readEnv (setIf d key o) = match Url.truthyV o with | some v => upd (readEnv d) v | none => readEnv d := by
  unfold setIf; cases Url.truthyV o <;> simp only [hupd]

/-- the dict stage `s` simulates the model stage `A`: it preserves what every stage preserves, and the
record of its result is `A` of the record and the parsed headers of its argument -/
def Sim (s : Env → Env) (A : Url.PFHeaders → Url.PFEnviron → Url.PFEnviron) : Prop :=
  ∀ d, Pres (s d) d ∧ readEnv (s d) = A (hdrsOf d) (readEnv d)

/-- The second stage reads its header from the dict the first one wrote to; that makes no difference because
the header keys are not among the written keys (`Frame.hdrsOf`). -/
theorem Sim.comp {s t : Env → Env} {A B : Url.PFHeaders → Url.PFEnviron → Url.PFEnviron}
    (hs : Sim s A) (ht : Sim t B) : Sim (fun d => t (s d)) (fun h e => B h (A h e)) := by
  intro d
  obtain ⟨p1, r1⟩ := hs d
  obtain ⟨p2, r2⟩ := ht (s d)
  exact ⟨p2.trans p1, by rw [r2, p1.frame.hdrsOf, r1]⟩

theorem sim_sFor (c : Url.PFConfig) : Sim (sFor c) (Url.applyFor c) := fun d =>
  ⟨pres_setIf _ _ _ (by decide), readEnv_setIf (upd := fun e v => { e with remoteAddr := some v }) readEnv_set_remoteAddr d _⟩

theorem sim_sProto (c : Url.PFConfig) : Sim (sProto c) (Url.applyProto c) := fun d =>
  ⟨pres_setIf _ _ _ (by decide), readEnv_setIf (upd := fun e v => { e with urlScheme := v }) readEnv_set_scheme d _⟩

/-- the `x_host` stage (HTTP_HOST and SERVER_NAME, SERVER_NAME / SERVER_PORT again when a port is
attached) is the model's `applyHost` -/
theorem sim_sHost (c : Url.PFConfig) : Sim (sHost c) (Url.applyHost c) := fun d => by
  refine ⟨pres_stHost _ _, ?_⟩
  simp only [sHost, stHost, rv, Url.applyHost, hdrsOf]
  cases Url.truthyV (Url.realValue c.xHost (hdr (dictGet? d kXHost))) with
  | none => rfl
  | some v =>
    dsimp only
    split <;> simp only [readEnv_set_host, readEnv_set_serverName, readEnv_set_serverPort]

/-- the `x_port` stage - which reads `environ.get("HTTP_HOST")` from the dict the `x_host` stage may
have written - is the model's `applyPort` -/
theorem sim_sPort (c : Url.PFConfig) : Sim (sPort c) (Url.applyPort c) := fun d => by
  refine ⟨pres_stPort _ _, ?_⟩
  simp only [sPort, stPort, rv, Url.applyPort, hdrsOf]
  cases Url.truthyV (Url.realValue c.xPort (hdr (dictGet? d kXPort))) with
  | none => rfl
  | some v =>
    show readEnv (match Url.truthyV (dictGet? d kHost) with | some host => _ | none => _) =
      match Url.truthyV (dictGet? d kHost) with | some host => _ | none => _
    cases Url.truthyV (dictGet? d kHost) <;> simp only [readEnv_set_host, readEnv_set_serverPort]

theorem sim_sPrefix (c : Url.PFConfig) : Sim (sPrefix c) (Url.applyPrefix c) := fun d =>
  ⟨pres_setIf _ _ _ (by decide), readEnv_setIf (upd := fun e v => { e with scriptName := v }) readEnv_set_scriptName d _⟩

theorem sim_fixDict (c : Url.PFConfig) : Sim (fixDict c) (Url.proxyFix c) :=
  ((((sim_sFor c).comp (sim_sProto c)).comp (sim_sHost c)).comp (sim_sPort c)).comp (sim_sPrefix c)

end Wz.PyFnsEq.ProxyFix
