/-
C19T — `DechunkedInput.read_chunk_len` and `DechunkedInput.readinto` of `werkzeug.serving` *as
regenerated from the source* by `tools/py2lean.py` (`Gen/PyFns_Chunked.lean`, rewritten on every
check run) agree, for all inputs, with the hand-written model of `Model/Chunked.lean` that the C19
theorems are about.
The translated methods take the object's attributes as arguments - `_done`, `_len`, and for the
collaborator `_rfile` the bytes it still holds (`readline` / `read` are the model's primitives) - and
the caller's buffer as a list of bytes, and return their final values together with `Except`.
The `while` loop is a recursion on an explicit `fuel`; every iteration that does not end the call
consumes at least one byte of the wire (measure: `len(wire)`), so `len(wire) + 1` units suffice
and the result does not depend on the fuel beyond that.
-/
import WzVerif.Gen.PyFns_Chunked
import WzVerif.Lemmas.PyFns_Chunked
import WzVerif.Props.C19
namespace Wz.Props.C19T
open Wz Wz.Chunked Wz.PyFnsChunked Wz.Gen.PyFns_Chunked

/-- `read_chunk_len()`, as translated from the current source (readline, latin-1 decode, `strip`,
`int(…, 16)`, ValueError -> OSError, negative -> OSError), is the model's `chunkLenOf` on the line
read; the line is consumed in every case. -/
theorem read_chunk_len_eq (wire : Bytes) :
    read_chunk_len wire = ((readline wire).2, (chunkLenOf (readline wire).1).map Int.ofNat) := by
  unfold read_chunk_len chunkLenOf int16 Pre.strip
  simp only [pyInt16_strip]
  cases pyInt16 (Py.latin1Dec (readline wire).1) with
  | none => rfl
  | some i =>
    by_cases h : i < 0
    · simp [h, Except.map]
    · simp [h, Except.map]; omega

/-- One iteration of the translated loop that starts inside a chunk (`_len > 0`, not done, room in
the buffer) agrees with the model's copy / terminator phase `afterHeader`, given the agreement of
the remaining iterations (`ih`). -/
theorem readinto_step_eq (buf0 : Bytes) (f g : Nat)
    (ih : ∀ (g : Nat) (st : DState) (acc : Bytes), st.wire.length < f → st.wire.length < g → acc.length ≤ buf0.length →
      Agrees buf0 (readinto.loop1 f st.done (st.len : Int) st.wire (acc ++ buf0.drop acc.length) (acc.length : Int))
        (readLoop g st buf0.length acc))
    (st : DState) (acc : Bytes) (hf : st.wire.length < f + 1) (hg : st.wire.length < g + 1)
    (hacc : acc.length < buf0.length) (hnd : st.done = false) (hlen : st.len ≠ 0) :
    Agrees buf0 (readinto.loop1 (f + 1) st.done (st.len : Int) st.wire (acc ++ buf0.drop acc.length) (acc.length : Int))
      (afterHeader (fun s a => readLoop g s buf0.length a) st buf0.length acc) := by
  rw [loop1_chunk f buf0 st acc hacc hnd hlen]
  unfold afterHeader
  generalize hnn : min (buf0.length - acc.length) st.len = n
  have hn1 : 1 ≤ n := by omega
  by_cases hshort : ((st.wire.take n).length != n) = true
  · simp only [hshort, if_true]
    exact ⟨rfl, rfl, rfl, _, rfl, rfl⟩
  · -- `n` bytes were copied: both go on, with the same state, on a wire that is at least `n` bytes shorter
    have hn : (st.wire.take n).length = n := by simpa using hshort
    have hwn : (st.wire.drop n).length < st.wire.length := by
      rw [List.length_take] at hn; rw [List.length_drop]; omega
    have hacc' : (acc ++ st.wire.take n).length ≤ buf0.length := by rw [List.length_append, hn]; omega
    have hrl := readline_length (st.wire.drop n)
    simp only [hshort, Bool.false_eq_true, if_false]
    split
    · split
      · exact ih g ⟨st.len - n, st.done, (readline (st.wire.drop n)).2⟩ _ (by simp only; omega) (by simp only; omega) hacc'
      · exact ⟨rfl, rfl, rfl, _, rfl, rfl⟩
    · exact ih g ⟨st.len - n, st.done, st.wire.drop n⟩ _ (by simp only; omega) (by simp only; omega) hacc'

/-- The translated `while not self._done and read < len(buf)` loop agrees with the model's
`readLoop`, from every state with `_len >= 0`, for every buffer and every number `len(acc)` of bytes
already copied - whenever both have more fuel than the wire has bytes. -/
theorem readinto_loop_eq (buf0 : Bytes) : ∀ (f g : Nat) (st : DState) (acc : Bytes),
    st.wire.length < f → st.wire.length < g → acc.length ≤ buf0.length →
    Agrees buf0 (readinto.loop1 f st.done (st.len : Int) st.wire (acc ++ buf0.drop acc.length) (acc.length : Int))
      (readLoop g st buf0.length acc) := by
  intro f
  induction f with
  | zero => intro g st acc h; omega
  | succ f ih =>
    intro g st acc hf hg hacc
    obtain ⟨g, rfl⟩ : ∃ g', g = g' + 1 := ⟨g - 1, by omega⟩
    have hbl : (acc ++ buf0.drop acc.length).length = buf0.length := by simp; omega
    by_cases hstop : (st.done || decide (buf0.length ≤ acc.length)) = true
    · have hc : ((!st.done) && decide ((acc.length : Int) < (buf0.length : Int))) = false := by
        cases hd : st.done <;> simp [hd] at hstop ⊢; omega
      unfold readinto.loop1 readLoop
      simp only [Int.ofNat_eq_natCast, hbl, hc, hstop, if_true, Bool.false_eq_true, if_false]
      exact Agrees.fell buf0 st hacc
    · have hnd : st.done = false := by cases hd : st.done <;> simp [hd] at hstop ⊢
      have hsz : acc.length < buf0.length := by simpa [hnd] using hstop
      have hstop' : (st.done || decide (buf0.length ≤ acc.length)) = false := by simpa using hstop
      rw [readLoop]
      simp only [hstop', Bool.false_eq_true, if_false]
      by_cases hl : st.len = 0
      · -- a size line is read first
        obtain ⟨len, done, wire⟩ := st
        simp only at hl hnd hf hg ⊢
        subst hl hnd
        have hrd : decide ((acc.length : Int) < Int.ofNat (acc ++ buf0.drop acc.length).length) = true := by
          rw [hbl]; simp; omega
        have hrl := readline_length wire
        rw [show ((0 : Nat) : Int) = 0 from rfl, loop1_header f wire _ _ hrd, read_chunk_len_eq]
        simp only [readHeader, BEq.rfl, if_true]
        cases hcl : chunkLenOf (readline wire).1 with
        | error e => exact ⟨rfl, rfl, rfl, _, rfl, rfl⟩
        | ok n =>
          have hne : (readline wire).1 ≠ [] := by
            intro he; rw [he, chunkLenOf_nil] at hcl; cases hcl
          have hpos : 0 < (readline wire).1.length := List.length_pos_iff.mpr hne
          simp only [Except.map, Int.ofNat_eq_natCast, natCast_beq_zero]
          by_cases hn0 : n = 0
          · -- the final chunk: `_done` is set, only the terminator is read
            subst hn0
            simp only [BEq.rfl, if_true, markDone, afterHeader, Nat.min_zero, List.take_zero, List.drop_zero,
              List.length_nil, bne_self_eq_false, Bool.false_eq_true, if_false, Nat.sub_zero, List.append_nil]
            have hrl2 := readline_length (readline wire).2
            cases isTerminator (readline (readline wire).2).1
            · exact ⟨rfl, rfl, rfl, _, rfl, rfl⟩
            · exact ih g ⟨0, true, (readline (readline wire).2).2⟩ acc (by simp only; omega) (by simp only; omega) hacc
          · -- from here the iteration is the one that starts inside a chunk of `n` bytes
            have hn0' : (n == 0) = false := by simpa using hn0
            simp only [hn0', Bool.false_eq_true, if_false, markDone]
            exact readinto_step_eq buf0 f g ih ⟨n, false, (readline wire).2⟩ acc (by simp only; omega) (by simp only; omega)
              hsz rfl hn0
      · have h1 : readHeader st = .ok st := by simp [readHeader, hl]
        have h2 : markDone st = st := by simp [markDone, hl]
        rw [h1]; simp only [h2]
        exact readinto_step_eq buf0 f g ih st acc hf hg hsz hnd hl

/-- **`readinto(buf)`, as translated, is the model's `readinto`** — from every state (`_len >= 0`),
every wire and every buffer, given at least `len(wire) + 1` units of fuel: the same `_done`, `_len`
and remaining wire afterwards; the same exception or none; and on a normal return of the bytes
`out`, the translated method returns `len(out)` and has written `out` over the start of the buffer,
leaving the rest of it untouched. -/
theorem readinto_eq (fuel : Nat) (st : DState) (buf : Bytes) (hf : st.wire.length < fuel) :
    let t := Gen.PyFns_Chunked.readinto fuel st.done (st.len : Int) st.wire buf
    let m := Chunked.readinto st buf.length
    t.1.1 = m.2.done ∧ t.1.2.1 = (m.2.len : Int) ∧ t.1.2.2.1 = m.2.wire ∧
    t.2 = m.1.map (fun out => (out.length : Int)) ∧
    ∀ out, m.1 = .ok out → t.1.2.2.2 = out ++ buf.drop out.length := by
  have h := readinto_loop_eq buf fuel (st.wire.length + 1) st [] hf (by omega) (by simp)
  simp only [List.length_nil, List.drop_zero, List.nil_append, Int.natCast_zero] at h
  unfold Gen.PyFns_Chunked.readinto Chunked.readinto
  simp only
  generalize readinto.loop1 fuel st.done (st.len : Int) st.wire buf 0 = r at h
  generalize readLoop (st.wire.length + 1) st buf.length [] = m at h
  obtain ⟨mr, st'⟩ := m
  cases r with
  | ret x =>
    obtain ⟨s, r⟩ := x
    obtain ⟨h1, h2, h3, e, h4, h5⟩ := h.of_ret
    subst h4 h5
    exact ⟨h1, h2, h3, rfl, fun out ho => by cases ho⟩
  | fall x =>
    obtain ⟨d, l, w, b, rd⟩ := x
    obtain ⟨h1, h2, h3, acc, h4, h5, h6⟩ := h.of_fall
    subst h4 h5
    refine ⟨h1, h2, h3, rfl, fun out ho => ?_⟩
    simp only [Except.ok.injEq] at ho
    subst ho
    exact h6

/-- The result of the translated `readinto` does not depend on the fuel once it exceeds the
length of the wire: the marker error "out of fuel" never appears. -/
theorem readinto_fuel_irrelevant (f1 f2 : Nat) (st : DState) (buf : Bytes)
    (h1 : st.wire.length < f1) (h2 : st.wire.length < f2) :
    (Gen.PyFns_Chunked.readinto f1 st.done (st.len : Int) st.wire buf).2
      = (Gen.PyFns_Chunked.readinto f2 st.done (st.len : Int) st.wire buf).2 := by
  rw [(readinto_eq f1 st buf h1).2.2.2.1, (readinto_eq f2 st buf h2).2.2.2.1]

/-- **`dechunk_safety`, for the translated method**: on *every* wire (well-formed or not), from
every state, the code as it is today raises nothing but OSError, returns at most `len(buf)`, and
returns less than `len(buf)` only once the final chunk was seen. -/
theorem dechunk_safety_translated (fuel : Nat) (st : DState) (buf : Bytes) (hf : st.wire.length < fuel) :
    let t := Gen.PyFns_Chunked.readinto fuel st.done (st.len : Int) st.wire buf
    (∀ e, t.2 = .error e → e = "OSError") ∧
    (∀ n, t.2 = .ok n → 0 ≤ n ∧ n ≤ buf.length ∧ (n < buf.length → t.1.1 = true)) := by
  obtain ⟨hd, _, _, hr, _⟩ := readinto_eq fuel st buf hf
  obtain ⟨herr, ⟨pre, _, hsub⟩, heof, _⟩ := Props.C19.dechunk_safety st buf.length
  simp only at hd hr ⊢
  rw [hr, hd]
  cases hm : (Chunked.readinto st buf.length).1 with
  | error e =>
    refine ⟨fun e' h => ?_, fun n h => by cases h⟩
    simp only [Except.map, Except.error.injEq] at h
    exact h ▸ herr e hm
  | ok out =>
    refine ⟨fun e h => (by cases h), fun n h => ?_⟩
    simp only [Except.map, Except.ok.injEq] at h
    subst h
    have := (hsub out hm).2
    refine ⟨by omega, by omega, fun hlt => heof out hm (by omega)⟩

/-- **`dechunk_roundtrip`, for the translated method** (one read on a fresh stream): for every list
of non-empty chunks, terminator styles, hex case and trailing bytes on the connection, reading into a
buffer of any size returns `min(len(buf), len(payload))` and puts exactly that prefix of the payload
at the start of the buffer. -/
theorem dechunk_roundtrip_translated (chunks : List (Bytes × Term × Bool)) (hne : ∀ c ∈ chunks, c.1 ≠ [])
    (tf : Term) (tail buf : Bytes) (fuel : Nat) (hf : (encode chunks tf ++ tail).length < fuel) :
    let t := Gen.PyFns_Chunked.readinto fuel false 0 (encode chunks tf ++ tail) buf
    let out := (payload chunks).take buf.length
    t.2 = .ok (out.length : Int) ∧ t.1.2.2.2 = out ++ buf.drop out.length := by
  have hrt := Props.C19.dechunk_roundtrip chunks hne tf tail [buf.length]
  have h1 : (Chunked.readinto { wire := encode chunks tf ++ tail } buf.length).1
      = .ok ((payload chunks).take buf.length) := by
    simp only [readMany, slices, List.map_cons, List.map_nil, List.cons.injEq, and_true] at hrt
    exact hrt
  obtain ⟨_, _, _, hr, hb⟩ := readinto_eq fuel { wire := encode chunks tf ++ tail } buf hf
  simp only at hr hb ⊢
  refine ⟨?_, hb _ h1⟩
  rw [show ((0 : Nat) : Int) = 0 from rfl] at hr
  rw [hr, h1]; rfl

end Wz.Props.C19T
