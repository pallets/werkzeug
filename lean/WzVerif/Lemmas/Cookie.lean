/-
The value half of C13. Each regenerated cookie table is characterised once by a readable predicate
(`cookieOctet`, `plainByte`, `expectedEscape`), which turns `dump_cookie`'s escaping pass into the closed
formula `esc1N`; its escapes are described by shape (`esc1N_cases`). On that rest: an emitted value has
one of two forms (`dumpValue_cases`); the `_cookie_re` scanner returns an emitted pair whole (`ScanGood`,
and `findAll_jar` for a whole `Cookie:` header); strip and unquote give the value back (`pairOf_dumped`).
At the end two tools of other files: ASCII text through the latin-1 / UTF-8 dance of the environ-level
parser (`dance_asciiText`), and `splitSemi`, a user agent's split of a `Set-Cookie` header at `"; "`, which
undoes the join of parts free of `;` (`splitSemi_intercalate`; `splitOn_attrs` of Lemmas/CookieJar is
the same fact for the jar's `split(";")`).
-/
import WzVerif.Model.Cookie
import WzVerif.Lemmas.TableSweep
import WzVerif.Lemmas.Utf8Facts
import WzVerif.Lemmas.Basics
namespace Wz.Cookie
open Wz

/-- RFC 6265 cookie-octet: %x21 / %x23-2B / %x2D-3A / %x3C-5B / %x5D-7E -/
def cookieOctet (n : Nat) : Bool :=
  n == 0x21 || (0x23 ≤ n && n ≤ 0x2B) || (0x2D ≤ n && n ≤ 0x3A) || (0x3C ≤ n && n ≤ 0x5B) ||
  (0x5D ≤ n && n ≤ 0x7E)

/-- bytes `dump_cookie` leaves unescaped inside quotes -/
def plainByte (n : Nat) : Bool := cookieOctet n || n == 0x20

def octDigit (n : Nat) : UInt8 := UInt8.ofNat (48 + n)

/-- the escape werkzeug documents for byte `n`: `\"`, `\\`, or backslash + three octal digits -/
def expectedEscape (n : Nat) : Bytes :=
  if n == 0x22 then [0x5C, 0x22] else if n == 0x5C then [0x5C, 0x5C]
  else [0x5C, octDigit (n / 64), octDigit (n / 8 % 8), octDigit (n % 8)]

theorem cookieOctet_iff (n : Nat) : cookieOctet n = true ↔
    0x21 ≤ n ∧ n ≤ 0x7E ∧ n ≠ 0x22 ∧ n ≠ 0x2C ∧ n ≠ 0x3B ∧ n ≠ 0x5C := by
  simp only [cookieOctet, Bool.or_eq_true, Bool.and_eq_true, beq_iff_eq, decide_eq_true_eq]
  omega

theorem noQuote_eq {n : Nat} (hn : n < 256) : tbl Gen.Cookie.noQuote n = cookieOctet n :=
  getD_eq_of_sweep (by decide +kernel) hn

/-- `_cookie_no_quote_re` accepts exactly the cookie-octets -/
theorem noQuoteChar_eq (c : Char) : noQuoteChar c = cookieOctet c.toNat := by
  unfold noQuoteChar
  split
  · exact noQuote_eq ‹_›
  · have : ¬ cookieOctet c.toNat = true := fun h => by have := (cookieOctet_iff _).mp h; omega
    rw [Bool.eq_false_iff.mpr this]; rfl

/-- `_cookie_slash_re` selects exactly the bytes outside cookie-octet ∪ {SP} -/
theorem inSlashSet_eq (b : UInt8) : inSlashSet b = !plainByte b.toNat :=
  getD_eq_of_sweep (t := Gen.Cookie.slashSet) (p := fun n => !plainByte n) (by decide +kernel) b.toNat_lt

/-- `_cookie_slash_map` has the documented escape for each byte the regex selects, and no other key -/
theorem slashEntry_eq (b : UInt8) :
    slashEntry b = if plainByte b.toNat then none else some (expectedEscape b.toNat) :=
  getD_eq_of_sweep (t := Gen.Cookie.slashMap) (p := fun n => if plainByte n then none else some (expectedEscape n))
    (by decide +kernel) b.toNat_lt

def toCh (b : UInt8) : Char := Char.ofNat b.toNat

/-- closed form of what the live tables do to one byte -/
def esc1N (n : Nat) : Bytes := if plainByte n then [UInt8.ofNat n] else expectedEscape n

def escChars (n : Nat) : List Char := (esc1N n).map toCh

theorem escapeBytes_eq (bs : Bytes) : escapeBytes bs = some ((bs.map UInt8.toNat).flatMap esc1N) := by
  induction bs with
  | nil => rfl
  | cons b t ih =>
    simp only [escapeBytes, ih, inSlashSet_eq, slashEntry_eq, esc1N, List.map_cons, List.flatMap_cons]
    cases plainByte b.toNat <;> simp

def oct1 (b : UInt8) : Bool := byteTbl Gen.Cookie.unslashOct1 b
def oct23 (b : UInt8) : Bool := byteTbl Gen.Cookie.unslashOct23 b
def dotOK (b : UInt8) : Bool := byteTbl Gen.Cookie.unslashDot b

/-- a character that cannot end the pair or separate attributes: printable ASCII other than `;` `,` -/
def inertChar (c : Char) : Bool := 0x20 ≤ c.toNat && c.toNat ≤ 0x7E && c != ';' && c != ','

theorem inertChar_iff (c : Char) : inertChar c = true ↔
    0x20 ≤ c.toNat ∧ c.toNat ≤ 0x7E ∧ c ≠ ';' ∧ c ≠ ',' := by
  simp only [inertChar, Bool.and_eq_true, decide_eq_true_eq, bne_iff_ne, and_assoc]

theorem inertChar_ne_semi {c : Char} (h : inertChar c = true) : c ≠ ';' := ((inertChar_iff c).mp h).2.2.1

theorem inertChar_ascii {c : Char} (h : inertChar c = true) : c.toNat < 128 :=
  Nat.lt_of_le_of_lt ((inertChar_iff c).mp h).2.1 (by decide)

theorem reSpace_isSpace (c : Char) (h : Py.isSpace c = false) : Py.isReSpaceA c = false := by
  simp only [Py.isSpace, Py.isReSpaceA, Bool.or_eq_false_iff, Bool.and_eq_false_iff,
    decide_eq_false_iff_not, beq_eq_false_iff_ne] at *
  omega

theorem cookieOctet_inert {c : Char} (h : cookieOctet c.toNat = true) : inertChar c = true := by
  have hr := (cookieOctet_iff _).mp h
  exact (inertChar_iff c).mpr ⟨Nat.le_of_succ_le hr.1, hr.2.1, by rintro rfl; exact hr.2.2.2.2.1 rfl,
    by rintro rfl; exact hr.2.2.2.1 rfl⟩

theorem cookieOctet_ne_dquote {c : Char} (h : cookieOctet c.toNat = true) : c ≠ '"' := by
  rintro rfl; exact ((cookieOctet_iff _).mp h).2.2.1 rfl

theorem cookieOctet_notSpace {c : Char} (h : cookieOctet c.toNat = true) : Py.isSpace c = false := by
  have hr := (cookieOctet_iff _).mp h
  simp only [Py.isSpace, Bool.or_eq_false_iff, Bool.and_eq_false_iff, decide_eq_false_iff_not,
    beq_eq_false_iff_ne]
  omega

theorem plainByte_range {n : Nat} (h : plainByte n = true) :
    0x20 ≤ n ∧ n ≤ 0x7E ∧ n ≠ 0x22 ∧ n ≠ 0x2C ∧ n ≠ 0x3B ∧ n ≠ 0x5C := by
  rcases Bool.or_eq_true_iff.mp h with h | h
  · have := (cookieOctet_iff n).mp h
    exact ⟨Nat.le_of_succ_le this.1, this.2⟩
  · obtain rfl : n = 0x20 := beq_iff_eq.mp h
    decide

theorem esc1N_cases (n : Nat) (hn : n < 256) :
    (plainByte n = true ∧ esc1N n = [UInt8.ofNat n]) ∨
    esc1N n = [0x5C, 0x22] ∧ n = 0x22 ∨ esc1N n = [0x5C, 0x5C] ∧ n = 0x5C ∨
    ∃ a b c, esc1N n = [0x5C, octDigit a, octDigit b, octDigit c] ∧ a < 4 ∧ b < 8 ∧ c < 8 ∧
      n = a * 64 + b * 8 + c := by
  unfold esc1N expectedEscape
  by_cases hp : plainByte n = true
  · exact .inl ⟨hp, if_pos hp⟩
  · rw [if_neg hp]
    split
    · exact .inr (.inl ⟨rfl, beq_iff_eq.mp ‹_›⟩)
    · split
      · exact .inr (.inr (.inl ⟨rfl, beq_iff_eq.mp ‹_›⟩))
      · exact .inr (.inr (.inr ⟨_, _, _, rfl, by omega⟩))

/-- the eight octal digits as bytes: `_cookie_unslash_re` reads each back as its value (and the first
three as a leading digit) -/
theorem octDigit_byte : ∀ d, d < 8 →
    (octDigit d).toNat - 48 = d ∧ oct23 (octDigit d) = true ∧ (d < 4 → oct1 (octDigit d) = true) := by
  decide

theorem octDigit_char : ∀ d, d < 8 →
    '0' ≤ toCh (octDigit d) ∧ toCh (octDigit d) ≤ '7' ∧ (d < 4 → toCh (octDigit d) ≤ '3') := by
  decide

theorem octDigit_toNat {d : Nat} (hd : d < 8) :
    48 ≤ (toCh (octDigit d)).toNat ∧ (toCh (octDigit d)).toNat ≤ 55 :=
  ⟨(octDigit_char d hd).1, (octDigit_char d hd).2.1⟩

/-- a digit is not newline, `"` or `\\`: the quoted-string scanner steps over it -/
theorem octDigit_scan {d : Nat} (hd : d < 8) :
    toCh (octDigit d) ≠ '\n' ∧ toCh (octDigit d) ≠ '"' ∧ toCh (octDigit d) ≠ '\\' := by
  have h := octDigit_toNat hd
  refine ⟨?_, ?_, ?_⟩ <;> (intro e; rw [e] at h; revert h; decide)

theorem octDigit_inert {d : Nat} (hd : d < 8) : inertChar (toCh (octDigit d)) = true := by
  have h := octDigit_toNat hd
  have ne : ∀ x : Char, x.toNat < 48 ∨ 55 < x.toNat → toCh (octDigit d) ≠ x := by
    intro x hx e; rw [e] at h; omega
  exact (inertChar_iff _).mpr ⟨by omega, by omega, ne _ (.inr (by decide)), ne _ (.inl (by decide))⟩

theorem toCh_toNat (b : UInt8) : (toCh b).toNat = b.toNat := toNat_ofNat_lt b.toNat_lt

theorem plainCh_toNat {n : Nat} (hn : n < 256) : (toCh (UInt8.ofNat n)).toNat = n := by
  rw [toCh_toNat, UInt8.toNat_ofNat_of_lt' hn]

theorem plainCh_ne {n : Nat} (hn : n < 256) (d : Char) (hd : n ≠ d.toNat) : toCh (UInt8.ofNat n) ≠ d :=
  fun e => hd (by rw [← e, plainCh_toNat hn])

theorem plainByte_ne_backslash {n : Nat} (hn : n < 256) (hp : plainByte n = true) : UInt8.ofNat n ≠ 0x5C :=
  fun e => (plainByte_range hp).2.2.2.2.2 (by rw [← UInt8.toNat_ofNat_of_lt' hn, e]; rfl)

/-- a plain byte is neither `"` nor `\\`: the quoted-string scanner steps over it -/
theorem plainCh_scan {n : Nat} (hn : n < 256) (hp : plainByte n = true) :
    toCh (UInt8.ofNat n) ≠ '"' ∧ toCh (UInt8.ofNat n) ≠ '\\' :=
  ⟨plainCh_ne hn _ (plainByte_range hp).2.2.1, plainCh_ne hn _ (plainByte_range hp).2.2.2.2.2⟩

theorem plainCh_inert {n : Nat} (hn : n < 256) (hp : plainByte n = true) :
    inertChar (toCh (UInt8.ofNat n)) = true := by
  have h := plainByte_range hp
  have hc := plainCh_toNat hn
  exact (inertChar_iff _).mpr ⟨hc.symm ▸ h.1, hc.symm ▸ h.2.1, plainCh_ne hn _ h.2.2.2.2.1, plainCh_ne hn _ h.2.2.2.1⟩

theorem escChars_inert (n : Nat) (hn : n < 256) : (escChars n).all inertChar = true := by
  unfold escChars
  rcases esc1N_cases n hn with ⟨hp, h⟩ | ⟨h, _⟩ | ⟨h, _⟩ | ⟨a, b, c, h, ha, hb, hc, _⟩ <;> rw [h]
  · simp [plainCh_inert hn hp]
  · decide
  · decide
  · simp [octDigit_inert (show a < 8 by omega), octDigit_inert hb, octDigit_inert hc,
      show inertChar (toCh 0x5C) = true from rfl]

theorem esc1N_ascii (n : Nat) (hn : n < 256) : (esc1N n).all (· < 0x80) = true :=
  List.all_eq_true.mpr fun b hb => by
    -- an inert character is ASCII
    have := inertChar_ascii (List.all_eq_true.mp (escChars_inert n hn) (toCh b) (List.mem_map_of_mem hb))
    exact decide_eq_true (UInt8.lt_iff_toNat_lt.mpr (toCh_toNat b ▸ this))

theorem toNat_lt_of_mem (bs : Bytes) : ∀ n ∈ bs.map UInt8.toNat, n < 256 := by
  intro n hn
  obtain ⟨b, _, rfl⟩ := List.mem_map.mp hn
  exact b.toNat_lt

theorem asciiDec_of_all (bs : Bytes) (h : bs.all (· < 0x80) = true) :
    asciiDec bs = some (bs.map toCh) := by
  induction bs with
  | nil => rfl
  | cons b t ih =>
    simp only [List.all_cons, Bool.and_eq_true, decide_eq_true_eq] at h
    simp [asciiDec, h.1, ih h.2, toCh]

theorem all_flatMap_esc1N (ns : List Nat) (hns : ∀ n ∈ ns, n < 256) :
    (ns.flatMap esc1N).all (· < 0x80) = true := by
  rw [List.all_flatMap]
  exact List.all_eq_true.mpr fun n hn => esc1N_ascii n (hns n hn)

theorem quotedBody_plain (c : Char) (rest : List Char) (h1 : c ≠ '"') (h2 : c ≠ '\\') :
    quotedBody (c :: rest) = (quotedBody rest).map (fun p => (c :: p.1, p.2)) := by
  conv => lhs; unfold quotedBody
  split
  · simp_all
  · simp_all
  · simp_all
  · simp_all
  · rename_i c' rest' _ _ heq
    simp only [List.cons.injEq] at heq
    obtain ⟨rfl, rfl⟩ := heq
    cases quotedBody rest <;> simp

theorem quotedBody_pair (a : Char) (rest : List Char) (h : a ≠ '\n') :
    quotedBody ('\\' :: a :: rest) = (quotedBody rest).map (fun p => ('\\' :: a :: p.1, p.2)) := by
  conv => lhs; unfold quotedBody
  have h' : (a == '\n') = false := by simpa using h
  cases hq : quotedBody rest <;> simp [h', hq]

theorem quotedBody_esc (n : Nat) (hn : n < 256) (rest : List Char) :
    quotedBody (escChars n ++ rest) = (quotedBody rest).map (fun p => (escChars n ++ p.1, p.2)) := by
  unfold escChars
  rcases esc1N_cases n hn with ⟨hp, h⟩ | ⟨h, _⟩ | ⟨h, _⟩ | ⟨a, b, c, h, ha, hb, hc, _⟩ <;> rw [h]
  · exact quotedBody_plain _ rest (plainCh_scan hn hp).1 (plainCh_scan hn hp).2
  · exact quotedBody_pair '"' rest (by decide)
  · exact quotedBody_pair '\\' rest (by decide)
  · have A := octDigit_scan (show a < 8 by omega)
    have B := octDigit_scan hb
    have C := octDigit_scan hc
    simp only [List.map_cons, List.map_nil, List.cons_append, List.nil_append]
    rw [show toCh 0x5C = '\\' from rfl, quotedBody_pair _ _ A.1, quotedBody_plain _ _ B.2.1 B.2.2,
      quotedBody_plain _ _ C.2.1 C.2.2]
    cases quotedBody rest <;> rfl

theorem quotedBody_flatMap (ns : List Nat) (hns : ∀ n ∈ ns, n < 256) (rest : List Char) :
    quotedBody (ns.flatMap escChars ++ '"' :: rest) = some (ns.flatMap escChars, rest) := by
  induction ns with
  | nil => simp [quotedBody]
  | cons n t ih =>
    have hn : n < 256 := hns n (by simp)
    have ht : ∀ m ∈ t, m < 256 := fun m hm => hns m (by simp [hm])
    simp only [List.flatMap_cons, List.append_assoc]
    rw [quotedBody_esc n hn, ih ht]
    rfl

theorem unslash_plain (b : UInt8) (rest : Bytes) (h : b ≠ 0x5C) :
    unslash (b :: rest) = b :: unslash rest := by
  conv => lhs; unfold unslash
  split <;> simp_all

theorem unslash_pair (a : UInt8) (rest : Bytes) (h1 : oct1 a = false) (h2 : dotOK a = true) :
    unslash (0x5C :: a :: rest) = a :: unslash rest := by
  simp only [oct1, dotOK] at h1 h2
  rcases rest with _ | ⟨b, _ | ⟨c, t⟩⟩ <;> simp [unslash, h1, h2]

theorem unslash_oct (a x y : UInt8) (rest : Bytes) (h1 : oct1 a = true) (h2 : oct23 x = true)
    (h3 : oct23 y = true) :
    unslash (0x5C :: a :: x :: y :: rest) =
      UInt8.ofNat ((a.toNat - 48) * 64 + (x.toNat - 48) * 8 + (y.toNat - 48)) :: unslash rest := by
  conv => lhs; unfold unslash
  simp only [oct1, oct23] at h1 h2 h3
  simp [h1, h2, h3]

theorem unslash_esc (n : Nat) (hn : n < 256) (rest : Bytes) :
    unslash (esc1N n ++ rest) = UInt8.ofNat n :: unslash rest := by
  rcases esc1N_cases n hn with ⟨hp, h⟩ | ⟨h, rfl⟩ | ⟨h, rfl⟩ | ⟨a, b, c, h, ha, hb, hc, rfl⟩ <;> rw [h]
  · exact unslash_plain _ rest (plainByte_ne_backslash hn hp)
  · exact unslash_pair 0x22 rest (by decide) (by decide)
  · exact unslash_pair 0x5C rest (by decide) (by decide)
  · have A := octDigit_byte a (by omega)
    have B := octDigit_byte b hb
    have C := octDigit_byte c hc
    have := unslash_oct _ _ _ rest (A.2.2 ha) B.2.1 C.2.1
    rwa [A.1, B.1, C.1] at this

theorem unslash_flatMap (ns : List Nat) (hns : ∀ n ∈ ns, n < 256) :
    unslash (ns.flatMap esc1N) = ns.map UInt8.ofNat := by
  simpa [unslash] using flatMap_decode (dec := unslash) (fun n hn => unslash_esc n (hns n hn)) []

/-- a character of a name in `ValidKey` -/
def keyChar (c : Char) : Bool := !isSep c && !Py.isSpace c

theorem matchOne_key (k w : List Char) (hk : k.all keyChar = true)
    (hw : ∀ c, w.head? = some c → Py.isReSpaceA c = false) :
    matchOne (k ++ '=' :: w) = matchValue k w := by
  obtain ⟨h1, h2⟩ := takeWhile_append_stop (p := fun c => !isSep c) (a := k) (b := '=' :: w)
    (fun a ha => by have := List.all_eq_true.mp hk a ha; simp_all [keyChar]) (by simp [isSep])
  rw [matchOne, h1, h2]
  exact congrArg (matchValue k) (dropWhile_head_false hw)

theorem matchValue_quoted (key b after rest q : List Char) (h1 : quotedBody q = some (b, after))
    (h2 : after.dropWhile Py.isReSpaceA = ';' :: rest) :
    matchValue key ('"' :: q) = some (key, '"' :: b ++ ['"'], rest.dropWhile Py.isReSpaceA) := by
  simp only [matchValue, h1, h2]

theorem matchValue_noquote (key : List Char) (c : Char) (t : List Char) (hc : c ≠ '"') :
    matchValue key (c :: t) = alt2 key (c :: t) := by
  unfold matchValue
  split
  · rename_i q heq
    simp only [List.cons.injEq] at heq
    exact absurd heq.1 hc
  · rfl

theorem matchOne_quoted_gen (k : List Char) (ns : List Nat) (rest : List Char) (hk : k.all keyChar = true)
    (hns : ∀ n ∈ ns, n < 256) :
    matchOne (k ++ '=' :: ('"' :: ns.flatMap escChars ++ ['"']) ++ ';' :: rest) =
      some (k, '"' :: ns.flatMap escChars ++ ['"'], rest.dropWhile Py.isReSpaceA) := by
  have hs : k ++ '=' :: ('"' :: ns.flatMap escChars ++ ['"']) ++ ';' :: rest =
      k ++ '=' :: ('"' :: (ns.flatMap escChars ++ '"' :: ';' :: rest)) := by simp
  rw [hs, matchOne_key k _ hk (by rintro c ⟨⟩; decide),
    matchValue_quoted k _ _ rest _ (quotedBody_flatMap ns hns (';' :: rest))
      (List.dropWhile_cons_of_neg (by decide))]

theorem matchOne_quoted (k : List Char) (ns : List Nat) (hk : k.all keyChar = true)
    (hns : ∀ n ∈ ns, n < 256) :
    matchOne (k ++ '=' :: ('"' :: ns.flatMap escChars ++ ['"']) ++ [';']) =
      some (k, '"' :: ns.flatMap escChars ++ ['"'], []) := by
  simpa using matchOne_quoted_gen k ns [] hk hns

theorem matchOne_plain_gen (k v rest : List Char) (hk : k.all keyChar = true)
    (hsemi : ∀ c ∈ v, c ≠ ';')
    (hhead : ∀ c, v.head? = some c → c ≠ '"' ∧ Py.isReSpaceA c = false)
    (hlast : ∀ c, v.getLast? = some c → Py.isReSpaceA c = false) :
    matchOne (k ++ '=' :: v ++ ';' :: rest) = some (k, v, rest.dropWhile Py.isReSpaceA) := by
  have hs : k ++ '=' :: v ++ ';' :: rest = k ++ '=' :: (v ++ ';' :: rest) := by simp
  obtain ⟨h3, h4⟩ := takeWhile_ne_append rest fun hm => hsemi _ hm rfl
  have halt : alt2 k (v ++ ';' :: rest) = some (k, v, rest.dropWhile Py.isReSpaceA) := by
    unfold alt2
    rw [h4, h3, rstripBy_noop hlast]
  rw [hs, ← halt]
  cases v with
  | nil =>
    exact (matchOne_key k (';' :: rest) hk (by rintro c ⟨⟩; decide)).trans
      (matchValue_noquote k ';' rest (by decide))
  | cons c t =>
    exact (matchOne_key k (c :: (t ++ ';' :: rest)) hk (by rintro _ ⟨⟩; exact (hhead c rfl).2)).trans
      (matchValue_noquote k c _ (hhead c rfl).1)

theorem matchOne_plain (k v : List Char) (hk : k.all keyChar = true)
    (hsemi : ∀ c ∈ v, c ≠ ';')
    (hhead : ∀ c, v.head? = some c → c ≠ '"' ∧ Py.isReSpaceA c = false)
    (hlast : ∀ c, v.getLast? = some c → Py.isReSpaceA c = false) :
    matchOne (k ++ '=' :: v ++ [';']) = some (k, v, []) := by
  simpa using matchOne_plain_gen k v [] hk hsemi hhead hlast

theorem dumpValue_quoted (v : List Char) (h : v.all noQuoteChar = false) :
    dumpValue v = .ok ('"' :: ((utf8Enc v).map UInt8.toNat).flatMap escChars ++ ['"']) := by
  unfold dumpValue
  rw [if_neg (by simp [h]), escapeBytes_eq]
  simp only [asciiDec_of_all _ (all_flatMap_esc1N _ (toNat_lt_of_mem _)), List.map_flatMap]
  rfl

theorem unquote_quoted (bs : Bytes) :
    unquoteValue ('"' :: (bs.map UInt8.toNat).flatMap escChars ++ ['"']) = Py.decodeReplace bs := by
  have hmap : (bs.map UInt8.toNat).flatMap escChars = ((bs.map UInt8.toNat).flatMap esc1N).map toCh :=
    List.map_flatMap.symm
  unfold unquoteValue
  simp only [List.cons_append, List.reverse_append, List.reverse_cons, List.reverse_nil,
    List.nil_append, List.reverse_reverse]
  have hascii := List.all_eq_true.mp (all_flatMap_esc1N _ (toNat_lt_of_mem (bs := bs)))
  rw [hmap, show ∀ l : Bytes, l.map toCh = l.map fun b => Char.ofNat b.toNat from fun _ => rfl,
    Utf8Facts.utf8Enc_map_ofNat fun b hb => of_decide_eq_true (hascii b hb),
    unslash_flatMap _ (toNat_lt_of_mem _), List.map_map]
  simp [Function.comp_def]

theorem unquote_plain (v : List Char) (h : ∀ c ∈ v, c ≠ '"') : unquoteValue v = v := by
  unfold unquoteValue
  cases v with
  | nil => rfl
  | cons c t =>
    have : c ≠ '"' := h c (by simp)
    split
    · rename_i rest heq
      simp only [List.cons.injEq] at heq
      exact absurd heq.1 this
    · rfl

theorem findAll_nil (fuel : Nat) : findAll fuel [] = [] := by cases fuel <;> rfl

theorem findAll_step (fuel : Nat) {s k val rest : List Char} (hs : s ≠ [])
    (h : matchOne s = some (k, val, rest)) : findAll (fuel + 1) s = (k, val) :: findAll fuel rest := by
  cases s with
  | nil => exact absurd rfl hs
  | cons c t => simp [findAll, h]

/-- Names for which the round trip is claimed: non-empty, without `=`, `;` or white space
(a superset of RFC 6265 tokens). -/
def ValidKey (k : List Char) : Prop := k ≠ [] ∧ k.all keyChar = true

theorem ValidKey.ne_nil {k : List Char} (h : ValidKey k) : k ≠ [] := h.1

theorem ValidKey.chars {k : List Char} (h : ValidKey k) : k.all keyChar = true := h.2

theorem keyChar_notSpace (k : List Char) (hk : k.all keyChar = true) (c : Char) (hc : c ∈ k) :
    Py.isSpace c = false := by
  have := List.all_eq_true.mp hk c hc
  simp only [keyChar, Bool.and_eq_true, Bool.not_eq_true'] at this
  exact this.2

theorem keyChar_notSep (k : List Char) (hk : k.all keyChar = true) (c : Char) (hc : c ∈ k) :
    isSep c = false := by
  have := List.all_eq_true.mp hk c hc
  simp only [keyChar, Bool.and_eq_true, Bool.not_eq_true'] at this
  exact this.1

theorem strip_key (k : List Char) (hk : k.all keyChar = true) : Py.strip k = k :=
  strip_noSpace (keyChar_notSpace k hk)

theorem dumpValue_cases {v out : List Char} (h : dumpValue v = .ok out) :
    ((∀ c ∈ v, cookieOctet c.toNat = true) ∧ out = v) ∨
      out = '"' :: ((utf8Enc v).map UInt8.toNat).flatMap escChars ++ ['"'] := by
  by_cases hq : v.all noQuoteChar = true
  · rw [dumpValue, if_pos hq] at h
    exact .inl ⟨fun c hc => noQuoteChar_eq c ▸ List.all_eq_true.mp hq c hc, (Except.ok.inj h).symm⟩
  · rw [dumpValue_quoted v (by simpa using hq)] at h
    exact .inr (Except.ok.inj h).symm

theorem dumpValue_strip (v hv : List Char) (h : dumpValue v = .ok hv) : Py.strip hv = hv := by
  rcases dumpValue_cases h with ⟨ho, rfl⟩ | rfl
  · exact strip_noSpace fun c hc => cookieOctet_notSpace (ho c hc)
  · exact strip_first_last _ (by decide) (by decide)

/-- what `parse_cookie` does to an emitted value after the scanner: strip and unquote give the value back -/
theorem dumpValue_unquote {v hv : List Char} (h : dumpValue v = .ok hv) :
    unquoteValue (Py.strip hv) = v := by
  rw [dumpValue_strip v hv h]
  rcases dumpValue_cases h with ⟨ho, rfl⟩ | rfl
  · exact unquote_plain _ fun c hc => cookieOctet_ne_dquote (ho c hc)
  · rw [unquote_quoted, Py.decodeReplace_utf8Enc]

/-- what one pair of `_cookie_re.findall` contributes to `parse_cookie`'s result -/
def pairOf (p : List Char × List Char) : Option (List Char × List Char) :=
  if (Py.strip p.1).isEmpty then none else some (Py.strip p.1, unquoteValue (Py.strip p.2))

theorem postProcess_eq (l : List (List Char × List Char)) : postProcess l = l.filterMap pairOf := rfl

theorem postProcess_cons (p : List Char × List Char) (ps : List (List Char × List Char)) :
    postProcess (p :: ps) = (pairOf p).toList ++ postProcess ps := by
  rw [postProcess_eq, List.filterMap_cons]
  cases pairOf p <;> rfl

theorem pairOf_dumped {k v hv : List Char} (hk : ValidKey k) (h : dumpValue v = .ok hv) :
    pairOf (k, hv) = some (k, v) := by
  obtain ⟨c, t, rfl⟩ := List.exists_cons_of_ne_nil hk.ne_nil
  simp [pairOf, strip_key _ hk.chars, dumpValue_unquote h]

structure ScanGood (p : List Char × List Char) : Prop where
  key : ValidKey p.1
  scan : ∀ rest, matchOne (p.1 ++ '=' :: p.2 ++ ';' :: rest) = some (p.1, p.2, rest.dropWhile Py.isReSpaceA)

theorem dumpValue_scanGood {k v hv : List Char} (hk : ValidKey k) (h : dumpValue v = .ok hv) :
    ScanGood (k, hv) := by
  refine ⟨hk, fun rest => ?_⟩
  rcases dumpValue_cases h with ⟨ho, rfl⟩ | rfl
  · have hsp := fun c hc => reSpace_isSpace c (cookieOctet_notSpace (ho c hc))
    exact matchOne_plain_gen k _ rest hk.chars (fun c hc => inertChar_ne_semi (cookieOctet_inert (ho c hc)))
      (fun c hc => ⟨cookieOctet_ne_dquote (ho c (List.mem_of_mem_head? hc)), hsp c (List.mem_of_mem_head? hc)⟩)
      (fun c hc => hsp c (List.mem_of_getLast? hc))
  · exact matchOne_quoted_gen k _ rest hk.chars (toNat_lt_of_mem _)

theorem jarText_head (p : List Char × List Char) (t : List (List Char × List Char)) (hp : ValidKey p.1)
    (tail : List Char) :
    (jarText (p :: t) ++ tail).dropWhile Py.isReSpaceA = jarText (p :: t) ++ tail := by
  obtain ⟨k, hv⟩ := p
  obtain ⟨c, kt, rfl⟩ := List.exists_cons_of_ne_nil hp.ne_nil
  have hc : Py.isReSpaceA c = false :=
    reSpace_isSpace c (keyChar_notSpace (c :: kt) hp.chars c (by simp))
  cases t <;> exact List.dropWhile_cons_of_neg (by simp [hc])

theorem findAll_jar (l : List (List Char × List Char)) (hne : l ≠ []) (hg : ∀ p ∈ l, ScanGood p)
    (fuel : Nat) (hf : l.length ≤ fuel) : findAll fuel (jarText l ++ [';']) = l := by
  induction l generalizing fuel with
  | nil => exact absurd rfl hne
  | cons p t ih =>
    obtain ⟨k, hv⟩ := p
    have hp := hg (k, hv) (by simp)
    cases fuel with
    | zero => simp at hf
    | succ f =>
      cases t with
      | nil =>
        rw [show jarText [(k, hv)] ++ [';'] = k ++ '=' :: hv ++ ';' :: [] by simp [jarText],
          findAll_step f (by cases k <;> simp) (hp.scan [])]
        simp [findAll_nil]
      | cons p2 t2 =>
        rw [show jarText ((k, hv) :: p2 :: t2) ++ [';'] =
            k ++ '=' :: hv ++ ';' :: (' ' :: (jarText (p2 :: t2) ++ [';'])) by simp [jarText],
          findAll_step f (by cases k <;> simp) (hp.scan _), List.dropWhile_cons_of_pos (by decide),
          jarText_head p2 t2 (hg p2 (by simp)).key [';'],
          ih (by simp) (fun q hq => hg q (by simp [hq])) f (by simp at hf ⊢; omega)]

theorem jarText_ne_nil (p : List Char × List Char) (t : List (List Char × List Char)) (hp : p.1 ≠ []) : (jarText (p :: t)).isEmpty = false := by
  obtain ⟨k, hv⟩ := p
  cases k with
  | nil => exact absurd rfl hp
  | cons c r => cases t <;> simp [jarText]

theorem jarText_length (l : List (List Char × List Char)) : l.length ≤ (jarText l).length + 1 := by
  induction l with
  | nil => simp
  | cons p t ih =>
    obtain ⟨k, hv⟩ := p
    cases t with
    | nil => simp [jarText]
    | cons p2 t2 =>
      simp only [jarText, List.length_cons, List.length_append] at ih ⊢
      omega

def asciiText (s : List Char) : Bool := s.all (fun c => c.toNat < 128)

theorem asciiText_lt {s : List Char} (h : asciiText s = true) : ∀ c ∈ s, c.toNat < 128 :=
  fun c hc => of_decide_eq_true (List.all_eq_true.mp h c hc)

/-- `cookie.encode("latin1").decode(errors="replace")` hands ASCII text through unchanged -/
theorem dance_asciiText (s : List Char) (h : asciiText s = true) :
    (Py.latin1Enc s).map Py.decodeReplace = some s := by
  conv => lhs; rw [← Utf8Facts.latin1Dec_utf8Enc_ascii (asciiText_lt h)]
  simp [latin1Enc_latin1Dec, Py.decodeReplace_utf8Enc]

/-- what a user agent does first with a `Set-Cookie` header: split it at `; ` -/
def splitSemi : List Char → List (List Char)
  | [] => [[]]
  | ';' :: ' ' :: t => [] :: splitSemi t
  | c :: t =>
    match splitSemi t with
    | [] => [[c]]
    | h :: r => (c :: h) :: r

theorem splitSemi_ne_nil (s : List Char) : splitSemi s ≠ [] := by
  fun_induction splitSemi s <;> simp_all

theorem splitSemi_cons (c : Char) (t : List Char) (hc : c ≠ ';') :
    splitSemi (c :: t) = (match splitSemi t with
      | [] => [[c]]
      | h :: r => (c :: h) :: r) := by
  conv => lhs; unfold splitSemi
  split
  · simp_all
  · rename_i heq; simp only [List.cons.injEq] at heq; exact absurd heq.1 hc
  · rename_i c' t' _ heq
    simp only [List.cons.injEq] at heq
    obtain ⟨rfl, rfl⟩ := heq
    rfl

theorem splitSemi_noSemi (p : List Char) (hp : ∀ c ∈ p, c ≠ ';') : splitSemi p = [p] := by
  induction p with
  | nil => rfl
  | cons c t ih =>
    have := ih (fun x hx => hp x (by simp [hx]))
    rw [splitSemi_cons c t (hp c (by simp)), this]

theorem splitSemi_append (p rest : List Char) (hp : ∀ c ∈ p, c ≠ ';') :
    splitSemi (p ++ ';' :: ' ' :: rest) = p :: splitSemi rest := by
  induction p with
  | nil => simp [splitSemi]
  | cons c t ih =>
    have := ih (fun x hx => hp x (by simp [hx]))
    simp only [List.cons_append]
    rw [splitSemi_cons c _ (hp c (by simp)), this]

theorem intercalate_cons2 (p q : List Char) (r : List (List Char)) :
    List.intercalate "; ".toList (p :: q :: r) = p ++ ';' :: ' ' :: List.intercalate "; ".toList (q :: r) := by
  simp [List.intercalate, List.intersperse]

theorem splitSemi_intercalate (parts : List (List Char)) (hne : parts ≠ [])
    (hp : ∀ p ∈ parts, ∀ c ∈ p, c ≠ ';') :
    splitSemi (List.intercalate "; ".toList parts) = parts := by
  induction parts with
  | nil => exact absurd rfl hne
  | cons p t ih =>
    cases t with
    | nil => simpa [List.intercalate] using splitSemi_noSemi p (hp p (by simp))
    | cons q r =>
      have hrec := ih (by simp) (fun x hx => hp x (by simp [hx]))
      rw [intercalate_cons2, splitSemi_append p _ (hp p (by simp)), hrec]

end Wz.Cookie
