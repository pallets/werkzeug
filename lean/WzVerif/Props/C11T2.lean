/-
C11T2 — C11T continued: the `ETags` class (`datastructures/etag.py`: `__init__`, `is_weak`,
`is_strong`, `contains`, `contains_weak`, `__bool__`), `parse_etags` (`http.py`) and
`is_resource_modified` (`sansio/http.py`) *as regenerated from the source* by `tools/py2lean.py`
(`Gen/PyFns_Etag.lean`, rewritten on every check run) against C11's hand model
`Model/Conditional.lean`: the translated `is_resource_modified`, calling the translated
`parse_if_range_header`, `unquote_etag`, `parse_etags` and `ETags` methods (only `parse_date` and the
regex `_etag_re` stay opaque / hand-modelled), returns exactly `Cond.isResourceModified` for all inputs.
The lemmas about the class, the parser and the two cases of `is_resource_modified` are in
Lemmas/PyFnsEq_Etag.lean (which builds on Props/C11T).
Second half: the range processing of `Response` (`Gen/PyFns_Response.lean`: `_is_range_request_processable`,
`Range.to_content_range_header`, `_process_range_request` in its `bool` and `str` forms) against the model's
`rangeProcessable` / `processRangeRequest`, what it writes being read through `rangeResult`.
-/
import WzVerif.Props.C11T
import WzVerif.Lemmas.PyFnsEq_Etag
import WzVerif.Lemmas.PyFnsEq_Response
namespace Wz.Props.C11T2
open Wz Wz.Pre Wz.Gen.PyFns_Etag Wz.PyFnsEq.Etag Wz.Gen.PyFns_Response Wz.PyFnsEq.Response

/-- The `ETags` methods, as translated from the current source (`is_weak`: `etag in self._weak`,
`is_strong`: `etag in self._strong`, `contains`: `True` for the wildcard object else `is_strong`,
`contains_weak`: `is_weak(etag) or contains(etag)`, `__bool__`: `star_tag or _strong or _weak`), are
the model's membership tests, `ETags.contains`, `ETags.containsWeak` and `ETags.truthy`, for every
object and every tag. -/
theorem etags_methods_eq (e : Cond.ETags) (t : List Char) :
    etags_is_weak e.weak t = e.weak.contains (some t)
    ∧ etags_is_strong e.strong t = e.strong.contains (some t)
    ∧ etags_contains e.strong e.star t = e.contains t
    ∧ etags_contains_weak e.strong e.weak e.star t = e.containsWeak t
    ∧ etags_bool e.strong e.weak e.star = e.truthy :=
  ⟨etags_is_weak_eq e t, etags_is_strong_eq e t, etags_contains_eq e t, etags_contains_weak_eq e t, etags_bool_eq e⟩

/-- `ETags(strong_etags, weak_etags, star_tag)` (`ETags.__init__`), as translated from the current
source, for every argument combination (`None` or a list for the two iterables): `_strong` is the
frozenset of `strong_etags` unless `star_tag` is set (then it is empty), `_weak` is the frozenset of
`weak_etags` (also for the wildcard object), `star_tag` is stored as given. -/
theorem etags_init_eq (s w : Option Elems) (star : Bool) :
    etags_init s w star
      = (if star then [] else Pre.frozenset (s.getD []), Pre.frozenset (w.getD []), star) :=
  PyFnsEq.Etag.etags_init_eq s w star

/-- The methods of the object that the translated constructor builds agree with the model's
list-based `Cond.ETags` for the same arguments: the frozensets of the real object and the lists of
the model answer every membership question and the truth test alike. -/
theorem etags_init_methods (s w : Option Elems) (star : Bool) (t : List Char) :
    let o := etags_init s w star
    etags_is_strong o.1 t = (initModel s w star).strong.contains (some t)
    ∧ etags_is_weak o.2.1 t = (initModel s w star).weak.contains (some t)
    ∧ etags_contains o.1 o.2.2 t = (initModel s w star).contains t
    ∧ etags_contains_weak o.1 o.2.1 o.2.2 t = (initModel s w star).containsWeak t
    ∧ etags_bool o.1 o.2.1 o.2.2 = (initModel s w star).truthy :=
  PyFnsEq.Etag.etags_init_methods s w star t

/-- C11's `Cond.parseEtags` (own inlined regex model) and C06's `Http.parseEtags` (the model the
translated `parse_etags` is proved equal to, Props/C06T2) return the same lists and the same
wildcard flag for every header text without LF. -/
theorem cond_parseEtags_eq (v : List Char) (hlf : '\n' ∉ v) :
    Cond.parseEtags (some v) = toCond (Http.parseEtags v) :=
  PyFnsEq.Etag.cond_parseEtags_eq v hlf

/-- `parse_etags` against C11's model: for every header text without LF and fuel `≥ len + 1`, the
translated `parse_etags` (its `while` loop, `_etag_re.match` as C06's regex model, the `ETags`
constructor) returns an object, and that object answers `bool` / `contains` / `contains_weak`
exactly like C11's `Cond.parseEtags` of the same text. -/
theorem parse_etags_agree (fuel : Nat) (v : List Char) (hlf : '\n' ∉ v) (hf : v.length + 1 ≤ fuel) :
    ∃ o, parse_etags fuel (some v) = .ok o ∧ EtagsAgree o (Cond.parseEtags (some v)) :=
  PyFnsEq.Etag.parse_etags_agree fuel v hlf hf

example : '\n' ∉ "W/\"a\", \"b\"".toList ∧ "W/\"a\", \"b\"".toList.length + 1 ≤ 12 := by
  -- a literal's `toList` is rewritten to the list of its characters: evaluating it decodes the bytes
  repeat rewrite [String.toList_ofList]
  decide +kernel

/-- `is_resource_modified`, as translated from the current source of `sansio/http.py` (the
`etag` / `data` guard, `last_modified.replace(microsecond=0)`, the `If-Range` gate
`not ignore_if_range and http_range is not None`, the choice of `modified_since`, the date
comparison, `unquote_etag`, the `If-Range` tag / `If-None-Match` (weak comparison) / `If-Match`
(strong comparison, negated) chain, `not unmodified`), for arbitrary parser functions that answer
like the model's (`hpd`, `hpif`, and `EtagsAgree` for `If-None-Match` and `If-Match`; `hifr` is not used: the `If-Range` tag is compared directly): it never raises
(the `TypeError` arms for `unquote_etag(etag)[0]` being `None` are unreachable under `if etag:`) and
returns exactly the model's `Cond.isResourceModified`, for every request, `etag`, `last_modified`
(seconds and microseconds) and `ignore_if_range`. -/
theorem is_resource_modified_eq {pdF : Option (List Char) → Option Inst}
    {pifF : Option (List Char) → Option (List Char) × Option Inst} (pe : Option (List Char) → Obj) (r : Cond.CondReq)
    (ims : Option (List Char))
    (hpd : pdF ims = r.ims.map atSec)
    (hpif : pifF r.ifRange = ifRangeObj (Cond.parseIfRangeHeader r.ifRange r.ifRangeDate))
    (hinm : EtagsAgree (pe r.inm) (Cond.parseEtags r.inm))
    (him : EtagsAgree (pe r.im) (Cond.parseEtags r.im))
    (hifr : ∀ ie, Cond.parseIfRangeHeader r.ifRange r.ifRangeDate = .etag ie →
      EtagsAgree (pe (some ie)) (Cond.parseEtags (some ie)))
    (etag : Option (List Char)) (lm : Option Inst) (ign : Bool) :
    is_resource_modified dle dropMicro pdF pifF pe r.range r.ifRange ims r.inm r.im etag () lm ign
      = .ok (Cond.isResourceModified r etag lm ign) :=
  irm_eq pe r ims hpd hpif hinm him etag lm ign

/-- `is_resource_modified` with the model's own parsers plugged in: for every opaque date parser
`pd`, all header texts (each possibly `None`, no restriction on their characters), every `etag`,
`last_modified` and `ignore_if_range`, the translated function returns `.ok` of the model's answer
for the request record built from the texts. -/
theorem is_resource_modified_model_parsers (pd : List Char → Option Int)
    (range ifRange ims inm im etag : Option (List Char)) (lm : Option Inst) (ign : Bool) :
    is_resource_modified dle dropMicro (parseDateOf pd) (parseIfRangeOf pd)
        (fun v => objOf (Cond.parseEtags v)) range ifRange ims inm im etag () lm ign
      = .ok (Cond.isResourceModified (reqOf pd range ifRange ims inm im) etag lm ign) :=
  irm_eq (pdF := parseDateOf pd) (pifF := parseIfRangeOf pd) _
    (reqOf pd range ifRange ims inm im) ims rfl rfl (agree_objOf _) (agree_objOf _) etag lm ign

/-- **The whole call tree as translated from the source**: `is_resource_modified` calling the
translated `parse_if_range_header` (with `IfRange.__init__` and `unquote_etag`), the translated
`parse_etags` (its loop, `ETags.__init__`, the frozensets) and the translated `ETags` methods - only
`parse_date` (`pd`) and the regex primitive stay opaque / hand-modelled - returns `.ok` of C11's
`Cond.isResourceModified`, for every date parser, all header texts without line feeds (`If-Range`,
`If-None-Match`, `If-Match`), every `etag`, `last_modified` and `ignore_if_range`. So C11's theorems
about `isResourceModified` (`not_modified_iff`, `if_none_match_precedence`, `status_304_sound`, …)
hold for the current source of `sansio/http.py`, `http.py` and `datastructures/etag.py` together. -/
theorem is_resource_modified_translated (pd : List Char → Option Int)
    (range ifRange ims inm im etag : Option (List Char)) (lm : Option Inst) (ign : Bool)
    (h1 : NoLF ifRange) (h2 : NoLF inm) (h3 : NoLF im) :
    is_resource_modified dle dropMicro (parseDateOf pd) (parseIfRangeT pd) parseEtagsT
        range ifRange ims inm im etag () lm ign
      = .ok (Cond.isResourceModified (reqOf pd range ifRange ims inm im) etag lm ign) :=
  irm_eq (pdF := parseDateOf pd) (pifF := parseIfRangeT pd) _
    (reqOf pd range ifRange ims inm im) ims rfl (parseIfRangeT_eq pd ifRange)
    (parseEtagsT_agree _ h2) (parseEtagsT_agree _ h3) etag lm ign

example : NoLF (some "W/\"abc\", \"x\"".toList) ∧ NoLF none := by
  constructor
  · intro s hs; cases hs; decide
  · intro s hs; cases hs

/-- `Response._is_range_request_processable(environ)`, as translated from the current source
(`("HTTP_IF_RANGE" not in environ or not is_resource_modified(…, ignore_if_range=False)) and
"HTTP_RANGE" in environ`), is the model's `rangeProcessable` once its three readings of the environ are
the model's: If-Range present, Range present, and `is_resource_modified` = the model's
`isResourceModified q etag last_modified false`; for every request and response. -/
theorem is_range_request_processable_eq (q : Cond.CondReq) (r : Cond.RespIn) :
    is_range_request_processable q.ifRange.isSome q.range.isSome
        (Cond.isResourceModified q r.etag (Cond.lmOf r) false) ()
      = Cond.rangeProcessable q r :=
  PyFnsEq.Response.is_range_request_processable_eq q r

/-- `Range.to_content_range_header(length)` for an int length, as translated from the current source of
`werkzeug/datastructures/range.py` (`self.range_for_length(length)`, the f-string
`"{units} {range[0]}-{range[1] - 1}/{length}"`), never raises (the `IndexError` arm of
`range_for_length` is unreachable) and returns `None` exactly when the model's `rangeForLength` does,
else the text C06's model of `ContentRange.to_header` prints for `(units, start, stop, length)`
(`crText`, spelled out by `crText_eq`); for every unit text, every range list and every length. -/
theorem range_to_content_range_header_eq (units : Str) (ranges : List (Int × Option Int)) (l : Int) :
    range_to_content_range_header units ranges l
      = .ok ((Cond.rangeForLength ⟨units, ranges⟩ (some l)).map fun p => crText units p.1 p.2 l) :=
  PyFnsEq.Response.range_to_content_range_header_eq units ranges l

/-- `Response._process_range_request(environ, complete_length, accept_ranges)` for `accept_ranges: bool`,
as translated from the current source of `werkzeug/wrappers/response.py` (the four-way guard,
`accept_ranges = "bytes"`, `parse_range_header(environ.get("HTTP_RANGE"))`, `range_for_length`,
`to_content_range_header`, the two `raise RequestedRangeNotSatisfiable`, the five writes to the
response), does exactly what the model's `processRangeRequest` decides, for every request / response
pair, every previous value of the five recorded attributes, every `complete_length` (or `None`) and
both values of `accept_ranges` (`rangeResult`):
* model `.notRange`: returns `False`, nothing written;
* model `.unsatisfiable`: raises `RequestedRangeNotSatisfiable`, nothing written;
* model `.partialContent a b`: returns `True` after `Content-Length = b - a`, `Accept-Ranges = "bytes"`,
  `Content-Range = "bytes a-(b-1)/complete_length"`, `status_code = 206` and
  `_wrap_range_response(a, b - a)`.
Nothing else is raised: the `ValueError` arm of `parse_range_header` and the `IndexError` arms of the
two `Range` methods are unreachable (C11T). `processable` is the model's `rangeProcessable`
(`is_range_request_processable_eq`), `HTTP_RANGE` the request's Range header. -/
theorem process_range_request_bool_eq (q : Cond.CondReq) (r : Cond.RespIn)
    (cl0 : Option Int) (ar0 cr0 : Option Str) (st0 : Option Int) (w0 : Option (Int × Int))
    (completeLength : Option Int) (acceptRanges : Bool) :
    process_range_request_bool (Cond.rangeProcessable q r) q.range cl0 ar0 cr0 st0 w0 () completeLength acceptRanges
      = rangeResult (cl0, ar0, cr0, st0, w0) Cond.bytesUnit (completeLength.getD 0)
          (Cond.processRangeRequest q r completeLength acceptRanges) :=
  PyFnsEq.Response.process_range_request_bool_eq q r cl0 ar0 cr0 st0 w0 completeLength acceptRanges

/-- The same for `accept_ranges: str` (a unit text such as `"bytes"` or `"none"`): the model is asked
with `acceptRanges := the text is non-empty`, and on success `Accept-Ranges` is the given text -
only *advertised*: the Range header is still read as byte ranges and `Content-Range` still says
`bytes` (the model's `AcceptArg.header` / `makeConditionalFull`). -/
theorem process_range_request_str_eq (q : Cond.CondReq) (r : Cond.RespIn)
    (cl0 : Option Int) (ar0 cr0 : Option Str) (st0 : Option Int) (w0 : Option (Int × Int))
    (completeLength : Option Int) (acceptText : Str) :
    process_range_request_str (Cond.rangeProcessable q r) q.range cl0 ar0 cr0 st0 w0 () completeLength acceptText
      = rangeResult (cl0, ar0, cr0, st0, w0) acceptText (completeLength.getD 0)
          (Cond.processRangeRequest q r completeLength (!acceptText.isEmpty)) :=
  PyFnsEq.Response.process_range_request_str_eq q r cl0 ar0 cr0 st0 w0 completeLength acceptText

/-- `False` is returned exactly when the model says `.notRange` -/
theorem rangeResult_false_iff (st : OutState) (t : Str) (l : Int) (o : Cond.RangeOutcome) :
    (rangeResult st t l o).2 = .ok false ↔ o = .notRange := by
  cases o <;> simp [rangeResult]

/-- `True` is returned exactly when the model says `.partialContent` -/
theorem rangeResult_true_iff (st : OutState) (t : Str) (l : Int) (o : Cond.RangeOutcome) :
    (rangeResult st t l o).2 = .ok true ↔ ∃ a b, o = .partialContent a b := by
  cases o <;> simp [rangeResult]

/-- an exception is raised exactly when the model says `.unsatisfiable`, and it is
`RequestedRangeNotSatisfiable` -/
theorem rangeResult_error_iff (st : OutState) (t : Str) (l : Int) (o : Cond.RangeOutcome) (e : String) :
    (rangeResult st t l o).2 = .error e ↔ (o = .unsatisfiable ∧ e = "RequestedRangeNotSatisfiable") := by
  cases o <;> simp [rangeResult, eq_comm]

/-- nothing is written to the response unless the model says `.partialContent` -/
theorem rangeResult_state (st : OutState) (t : Str) (l : Int) (o : Cond.RangeOutcome)
    (h : ∀ a b, o ≠ .partialContent a b) : (rangeResult st t l o).1 = st := by
  cases o with
  | partialContent a b => exact absurd rfl (h a b)
  | _ => rfl

/-- the Content-Range text spelled out with the prelude's `str(int)`:
`f"{units} {a}-{b - 1}/{l}"` -/
theorem crText_eq (units : Str) (a b l : Int) :
    crText units a b l
      = units ++ [' '] ++ Pre.strOfInt a ++ ['-'] ++ Pre.strOfInt (b - 1) ++ ['/'] ++ Pre.strOfInt l :=
  PyFnsEq.Response.crText_eq units a b l

end Wz.Props.C11T2
