/-
What Props/C13T2 needs to compare the test client's `Cookie._matches_request` *as regenerated from
the source* (`Gen/PyFns_CookieJar.lean`) with `domainMatch` / `pathMatch` of `Model/CookieJar.lean`.
The prelude's `endswith` / `startswith` are the model's by `rfl`; the two slices with computed bounds
(`server_name[: -len(domain)]`, `path[len(cpath) - cpath.endswith("/") :]`) are the model's `take` / `drop`.
-/
import WzVerif.Model.CookieJar
import WzVerif.Lemmas.PyFns_Prelude
namespace Wz.PyFnsEq.CookieJar
open Wz

theorem endswith_eq (s t : Wz.Cookie.Str) : Pre.endswith s t = Wz.Cookie.endsWith s t := rfl

/-- `s[: -len(d)]`: everything but the last `len d` characters for a non-empty `d` (nothing when
`d` is longer than `s`), and the empty string for the empty `d` (Python's `s[:-0]` is `s[:0]`) -/
theorem slice_neg_len (s d : Wz.Cookie.Str) :
    Pre.slice s none (some (-(Int.ofNat d.length))) =
      (if d.isEmpty then [] else s.take (s.length - d.length)) := by
  cases d with
  | nil =>
    have : (-(Int.ofNat ([] : Wz.Cookie.Str).length)) = ((0 : Nat) : Int) := by simp
    rw [this, Pre.slice_none_nat]
    simp
  | cons x t =>
    have h := Pre.slice_none_neg s (x :: t).length (by simp)
    simpa using h

/-- `p[len(c) - c.endswith("/") :]`: the lower bound `len(c) - (1 if c ends with "/" else 0)` is
never negative (a string ending with `/` has at least one character), so the slice drops that
many characters -/
theorem slice_len_sub_slash (p c : Wz.Cookie.Str) :
    Pre.slice p (some ((Int.ofNat c.length) - (if Pre.endswith c ['/'] then 1 else 0))) none =
      p.drop (c.length - (if Wz.Cookie.endsWith c ['/'] then 1 else 0)) := by
  rw [endswith_eq]
  by_cases h : Wz.Cookie.endsWith c ['/'] = true
  · have hp : 0 < c.length := by cases c <;> simp [Wz.Cookie.endsWith] at h ⊢
    have : (Int.ofNat c.length - (1 : Int)) = ((c.length - 1 : Nat) : Int) := by
      simp only [Int.ofNat_eq_natCast]; omega
    simp only [h, if_true]
    rw [this, Pre.slice_nat_none]
  · have : (Int.ofNat c.length - (0 : Int)) = ((c.length - 0 : Nat) : Int) := by
      simp only [Int.ofNat_eq_natCast]; omega
    simp only [h]
    rw [if_neg (by simp), if_neg (by simp), this, Pre.slice_nat_none]

end Wz.PyFnsEq.CookieJar
