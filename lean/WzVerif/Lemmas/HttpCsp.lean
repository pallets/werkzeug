/-
Content-Security-Policy (C06): `parse_csp_header(dump_csp_header(d)) == d` for directives and values that are stripped,
non-empty and free of `;` (directives also of spaces): `CspItemOk`, as a predicate on dicts `CspDictOk`; the pieces
between `;` strip to the written items (`parseCsp_body_item`). Whatever the parser returns on arbitrary text lies in `CspDictOk`
(`parseCsp_image_ok`), so parsing is a normal form.
-/
import WzVerif.Lemmas.HttpCC
namespace Wz.Http
open Wz

/-- non-empty, first and last character not white space (`s.strip() == s`) -/
def isStripped (x : Str) : Bool :=
  !x.isEmpty && (x.head?.all fun c => !Py.isSpace c) && (x.getLast?.all fun c => !Py.isSpace c)

theorem isStripped_iff {x : Str} : isStripped x = true ↔ x ≠ [] ∧ Tight x := by
  cases x with
  | nil => simp [isStripped]
  | cons a t =>
    obtain ⟨z, hz⟩ : ∃ z, (a :: t).getLast? = some z := ⟨_, List.getLast?_eq_some_getLast (by simp)⟩
    simp [isStripped, Tight, hz]

/-- a directive and value that `parse_csp_header` reads back: both survive `strip()`, the first space ends the directive,
a `;` ends the item -/
def CspItemOk (kv : Str × Str) : Bool :=
  isStripped kv.1 && !kv.1.contains ' ' && !kv.1.contains ';' && isStripped kv.2 && !kv.2.contains ';'

/-- what `CspItemOk` asks, fact by fact -/
structure CspItem (kv : Str × Str) : Prop where
  key_ne : kv.1 ≠ []
  key_tight : Tight kv.1
  key_noSpace : ' ' ∉ kv.1
  key_noSemi : ';' ∉ kv.1
  val_ne : kv.2 ≠ []
  val_tight : Tight kv.2
  val_noSemi : ';' ∉ kv.2

theorem cspItemOk_iff {kv : Str × Str} : CspItemOk kv = true ↔ CspItem kv := by
  simp only [CspItemOk, Bool.and_eq_true, isStripped_iff, Bool.not_eq_true', List.contains_eq_mem, decide_eq_false_iff_not]
  exact ⟨fun ⟨⟨⟨⟨⟨h1, h2⟩, h3⟩, h4⟩, h5, h6⟩, h7⟩ => ⟨h1, h2, h3, h4, h5, h6, h7⟩,
    fun h => ⟨⟨⟨⟨⟨h.key_ne, h.key_tight⟩, h.key_noSpace⟩, h.key_noSemi⟩, h.val_ne, h.val_tight⟩, h.val_noSemi⟩⟩

def cspItemText (kv : Str × Str) : Str := kv.1 ++ ' ' :: kv.2

theorem intercalate_cons_sep (c : Char) (sep a : Str) (l : List Str) :
    List.intercalate (c :: sep) (a :: l) = List.intercalate [c] (a :: l.map (sep ++ ·)) := by
  induction l generalizing a with
  | nil => simp
  | cons b t ih =>
    rw [List.map_cons, List.intercalate_cons_cons, List.intercalate_cons_cons, ih b]
    cases t with
    | nil => simp
    | cons b' t' => simp [List.intercalate_cons_cons]

theorem cspItem_tight (kv : Str × Str) (h : CspItemOk kv = true) : Tight (cspItemText kv) :=
  have h := cspItemOk_iff.1 h
  tight_around [' '] h.key_ne h.val_ne h.key_tight h.val_tight

/-- the loop body of `parse_csp_header` on a piece that strips to a dumped item assigns that item -/
theorem parseCsp_body_item (d : Dict Str) (policy : Str) (kv : Str × Str) (h : CspItemOk kv = true)
    (hs : strip policy = cspItemText kv) :
    (let policy := strip policy
     if policy.contains ' ' then
       let (directive, _, v) := partition ' ' policy
       dictSet d (strip directive) (strip v)
     else d) = dictSet d kv.1 kv.2 := by
  have h := cspItemOk_iff.1 h
  have hc : (cspItemText kv).contains ' ' = true := by simp [cspItemText]
  simp only [hs, hc, if_true]
  simp only [cspItemText, partition_found h.key_noSpace, strip_tight h.key_tight, strip_tight h.val_tight]

theorem csp_roundtrip_any (d : Dict Str) (hok : ∀ x ∈ d, CspItemOk x = true) (hnd : (d.map (·.1)).Nodup) :
    parseCsp (dumpCsp d) = d := by
  cases d with
  | nil => decide
  | cons kv t =>
    have hdump : dumpCsp (kv :: t) = List.intercalate [';'] (cspItemText kv :: t.map (fun x => [' '] ++ cspItemText x)) := by
      simp only [dumpCsp, join, semiSpace_toList, List.map_cons]
      rw [intercalate_cons_sep]
      simp [List.map_map, Function.comp_def, cspItemText]
    have hnosemi : ∀ x ∈ kv :: t, ';' ∉ cspItemText x := by
      intro x hx
      have h := cspItemOk_iff.1 (hok x hx)
      simp only [cspItemText, List.mem_append, List.mem_cons, not_or]
      exact ⟨h.key_noSemi, by decide, h.val_noSemi⟩
    unfold parseCsp
    rw [hdump, splitOnChar_join ';' _ _ (by
      intro x hx
      simp only [List.mem_cons, List.mem_map] at hx
      rcases hx with rfl | ⟨y, hy, rfl⟩
      · exact hnosemi kv (by simp)
      · simp only [List.mem_append, List.mem_singleton, not_or]
        exact ⟨by decide, hnosemi y (by simp [hy])⟩)]
    -- every piece strips to its item, so the loop assigns the items in order; their keys are fresh
    rw [List.foldl_cons, parseCsp_body_item [] _ kv (hok kv (by simp)) (strip_tight (cspItem_tight kv (hok kv (by simp)))),
      foldl_map_eq _ _ (fun a x => dictSet a x.1 x.2) t (fun s x hx =>
        parseCsp_body_item s _ x (hok x (by simp [hx])) (strip_space_tight (cspItem_tight x (hok x (by simp [hx])))))]
    exact foldl_dictSet_fresh (kv :: t) [] hnd (fun _ _ => rfl)

def CspDictOk (d : Dict Str) : Prop := (∀ x ∈ d, CspItemOk x = true) ∧ (d.map (·.1)).Nodup

theorem csp_roundtrip_of_ok {d : Dict Str} (h : CspDictOk d) : parseCsp (dumpCsp d) = d :=
  csp_roundtrip_any d h.1 h.2

theorem isStripped_strip_of_mem {s : Str} {c : Char} (hc : c ∈ s) (hn : Py.isSpace c = false) :
    isStripped (strip s) = true :=
  isStripped_iff.2 ⟨List.ne_nil_of_mem (strip_mem_of_not_space hc hn), tight_strip s⟩

theorem cspPolicy_item_ok (policy : Str) (hsemi : ';' ∉ policy) (hsp : (strip policy).contains ' ' = true) :
    CspItemOk (strip (partition ' ' (strip policy)).1, strip (partition ' ' (strip policy)).2.2) = true := by
  have hsemiP : ';' ∉ strip policy := not_mem_of_strip hsemi
  have tP : Tight (strip policy) := tight_strip policy
  generalize strip policy = P at hsp hsemiP tP ⊢
  obtain ⟨D, v, rfl, hDsp, hpart⟩ := partition_of_mem (show ' ' ∈ P by simpa using hsp)
  rw [hpart]
  -- `D ++ ' ' :: v` is stripped: its first character lies in `D`, its last in `v`
  obtain ⟨c1, hc1, hn1⟩ : ∃ c ∈ D, Py.isSpace c = false := by
    cases D with
    | nil => exact absurd (tP.1 ' ' rfl) (by decide)
    | cons c t => exact ⟨c, by simp, tP.1 c rfl⟩
  obtain ⟨c2, hc2, hn2⟩ : ∃ c ∈ v, Py.isSpace c = false := by
    cases v with
    | nil => exact absurd (tP.2 ' ' (by simp)) (by decide)
    | cons a b =>
      obtain ⟨z, hz⟩ : ∃ z, (a :: b).getLast? = some z := ⟨_, List.getLast?_eq_some_getLast (by simp)⟩
      refine ⟨z, List.mem_of_getLast? hz, tP.2 z ?_⟩
      rw [getLast?_append_of_ne_nil (by simp), List.getLast?_cons_cons, hz]
  have hDsemi : ';' ∉ D := fun hm => hsemiP (List.mem_append_left _ hm)
  have hvsemi : ';' ∉ v := fun hm => hsemiP (List.mem_append_right _ (List.mem_cons_of_mem _ hm))
  have s1 := isStripped_iff.1 (isStripped_strip_of_mem hc1 hn1)
  have s2 := isStripped_iff.1 (isStripped_strip_of_mem hc2 hn2)
  exact cspItemOk_iff.2 ⟨s1.1, s1.2, not_mem_of_strip hDsp, not_mem_of_strip hDsemi, s2.1, s2.2, not_mem_of_strip hvsemi⟩

theorem parseCsp_image_ok (h : Str) : CspDictOk (parseCsp h) := by
  refine foldl_inv (P := CspDictOk) (ok := fun x => ';' ∉ x) (fun d x hd hx => ?_) _ [] DictAll.nil
    (splitOnChar_noSep ';' h)
  by_cases hc : (strip x).contains ' ' = true
  · simp only [hc, if_true]
    exact DictAll.set hd (cspPolicy_item_ok x hx hc)
  · simp only [hc]
    exact hd

end Wz.Http
