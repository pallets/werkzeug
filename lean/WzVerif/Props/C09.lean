/-
C09 — the request body stream never over-reads, truncates or hangs.
-/
import WzVerif.Model.LimitedStream
import WzVerif.Lemmas.LimitedStream
import WzVerif.Gen.InputStream
import WzVerif.Gen.InputStreamFacts
import WzVerif.Model.InputStreamReq
import WzVerif.Lemmas.InputStreamReq
namespace Wz.Props.C09
open Wz Wz.LS Wz.Gen.InputStream

/-- For every CONTENT_LENGTH text, maximum and flag combination: no usable length ∧ input not
terminated ∧ safe_fallback ⇒ the empty stream; declared length > max ⇒ 413;
terminated ∧ max ⇒ `LimitedStream(max, is_max=True)` unless 413; and a limit that is not a
maximum is always the declared length. -/
theorem get_input_stream_choice (cl : Option (List Char)) (chunked terminated safe : Bool)
    (max : Option Nat) :
    (getContentLength cl chunked = none → terminated = false → safe = true →
      getInputStream cl chunked terminated max safe = .empty) ∧
    (∀ n m, getContentLength cl chunked = some n → max = some m → n > m →
      getInputStream cl chunked terminated max safe = .tooLarge) ∧
    (∀ m, terminated = true → max = some m →
      getInputStream cl chunked terminated max safe = .limited m true ∨
      getInputStream cl chunked terminated max safe = .tooLarge) ∧
    (∀ n, getInputStream cl chunked terminated max safe = .limited n false →
      getContentLength cl chunked = some n ∧ terminated = false) := by
  -- each conjunct is read off the five rows of the decision
  have h := getInputStream_chooses cl chunked terminated max safe
  generalize getInputStream cl chunked terminated max safe = c at h
  generalize getContentLength cl chunked = n at h
  refine ⟨?_, ?_, ?_, ?_⟩
  · intro h1 h2 h3; cases h <;> simp_all
  · intro k m h1 h2 h3; cases h <;> simp_all <;> omega
  · intro m h1 h2; cases h <;> simp_all
  · intro k hk; cases h <;> simp_all
    split at hk <;> cases hk

example : getInputStream none false false (some 4) true = .empty := by decide
example : getInputStream (some ['9']) false true (some 4) true = .tooLarge := by decide
example : getInputStream (some ['3']) false true (some 4) true = .limited 4 true := by decide
example : getInputStream (some ['3']) false false (some 4) true = .limited 3 false := by decide

/-- Chunked requests and absent headers have no usable length; anything else that is not plain
ASCII digits after stripping (negative, `+5`, `1_0`, non-ASCII digits, garbage) counts as 0. -/
theorem content_length_usable (cl : Option (List Char)) (chunked : Bool) :
    (getContentLength cl chunked = none ↔ (chunked = true ∨ cl = none)) ∧
    (∀ v n, cl = some v → getContentLength cl chunked = some n → 0 < n →
      (Py.strip v).all isAsciiDigit = true) := by
  refine ⟨getContentLength_eq_none cl chunked, ?_⟩
  rintro v n rfl h hn
  unfold getContentLength at h
  cases chunked <;> simp only [Bool.false_eq_true, if_false, if_true] at h
  · cases hp : plainInt v with
    | none => rw [hp] at h; cases h; omega
    | some i => rw [hp] at h; cases h; exact digits_of_plainInt_pos hp (by omega)
  · cases h

example : getContentLength (some ['1', '2']) false = some 12 := by decide
example : getContentLength (some ['-', '3']) false = some 0 := by decide
example : getContentLength (some [Char.ofNat 65301]) false = some 0 := by decide

/-- the declared length is usable: CONTENT_LENGTH present and the request is not chunked -/
def hasLength (r : Row) : Bool := r.cl.isSome && !r.chunked

/-- The hand model of `get_input_stream` / `get_content_length` returns exactly what the live
function returned on every row of the regenerated table (complete product of CONTENT_LENGTH
spellings × chunked × wsgi.input_terminated × max_content_length × safe_fallback). -/
theorem table_matches_model :
    ∀ r ∈ table, getInputStream r.cl r.chunked r.terminated r.max r.safe = r.result := by
  decide +kernel

/-- Live table: a request with no usable length on a server that does not terminate its input
gets the empty stream when `safe_fallback` is on. -/
theorem table_no_length_empty :
    ∀ r ∈ table, hasLength r = false → r.terminated = false → r.safe = true → r.result = .empty := by
  intro r hr hl ht hs
  rw [← table_matches_model r hr]
  refine (get_input_stream_choice r.cl r.chunked r.terminated r.safe r.max).1 ?_ ht hs
  apply (content_length_usable r.cl r.chunked).1.mpr
  cases hc : r.chunked <;> cases hcl : r.cl <;> simp_all [hasLength]

/-- Live table: a declared length above `max_content_length` raises RequestEntityTooLarge,
whatever the other inputs are. -/
theorem table_over_max_413 :
    ∀ r ∈ table, ∀ n m, getContentLength r.cl r.chunked = some n → r.max = some m → n > m →
      r.result = .tooLarge := by
  intro r hr n m h1 h2 h3
  rw [← table_matches_model r hr]
  exact (get_input_stream_choice r.cl r.chunked r.terminated r.safe r.max).2.1 n m h1 h2 h3

/-- Live table: terminated input with a maximum is wrapped as `LimitedStream(max, is_max=True)`
(unless the declared length already exceeds the maximum, which is a 413). -/
theorem table_terminated_max :
    ∀ r ∈ table, ∀ m, r.terminated = true → r.max = some m →
      r.result = .limited m true ∨ r.result = .tooLarge := by
  intro r hr m h1 h2
  rw [← table_matches_model r hr]
  exact (get_input_stream_choice r.cl r.chunked r.terminated r.safe r.max).2.2.1 m h1 h2

/-- Live table: a limit that is not a maximum is always the parsed Content-Length, and text that
is not plain ASCII digits (negative, garbage, `+5`, `1_0`, non-ASCII digits) limits the body to 0. -/
theorem table_declared_limit :
    ∀ r ∈ table, ∀ n, r.result = .limited n false →
      getContentLength r.cl r.chunked = some n ∧
      (n > 0 → ∃ v, r.cl = some v ∧ (Py.strip v).all isAsciiDigit = true) := by
  intro r hr n h
  rw [← table_matches_model r hr] at h
  have hn := ((get_input_stream_choice r.cl r.chunked r.terminated r.safe r.max).2.2.2 n h).1
  refine ⟨hn, fun hpos => ?_⟩
  cases hcl : r.cl with
  | none =>
    have := (content_length_usable r.cl r.chunked).1.mpr (Or.inr hcl)
    rw [hn] at this; cases this
  | some v => exact ⟨v, rfl, (content_length_usable r.cl r.chunked).2 v n hcl hn hpos⟩

/-- **Position never passes the limit**, after every sequence of `read(n)`, `read()`, `readline`,
`readlines`, `readinto`, `next`, `exhaust` calls and for every behaviour of the underlying stream
(fragmenting, returning nothing, raising), with or without `readinto`, maximum or declared length. -/
theorem pos_le_limit (data : Bytes) (script : List Beh) (limit : Nat) (isMax ri : Bool) (ops : List Op) :
    (finalState (fresh data script limit isMax ri) ops).pos ≤ limit :=
  let ⟨_, h⟩ := fresh_run data script limit isMax ri ops; h.pos_le

/-- **Bytes consumed from the server's input = position**: the wrapper never takes a byte from the
underlying stream that it does not account for (and therefore never more than `limit`). -/
theorem consumed_eq_pos (data : Bytes) (script : List Beh) (limit : Nat) (isMax ri : Bool) (ops : List Op) :
    (finalState (fresh data script limit isMax ri) ops).u.taken.length =
      (finalState (fresh data script limit isMax ri) ops).pos ∧
    (finalState (fresh data script limit isMax ri) ops).u.taken.length ≤ limit := by
  obtain ⟨d, h⟩ := fresh_run data script limit isMax ri ops
  exact ⟨h.inv.consumed, h.inv.consumed ▸ h.pos_le⟩

/-- **Output is the prefix of what the client sent**: everything `readinto` handed out so far is
`data[:pos]`, and nothing of the client's data is lost or reordered (taken ++ unread = data). -/
theorem output_is_prefix (data : Bytes) (script : List Beh) (limit : Nat) (isMax ri : Bool) (ops : List Op) :
    (finalState (fresh data script limit isMax ri) ops).out
      = data.take (finalState (fresh data script limit isMax ri) ops).pos ∧
    (finalState (fresh data script limit isMax ri) ops).u.taken
      ++ (finalState (fresh data script limit isMax ri) ops).u.data = data := by
  obtain ⟨d, h⟩ := fresh_run data script limit isMax ri ops
  unfold finalState
  exact ⟨h.out_eq.trans h.take_pos.symm, by rw [h.taken_eq]; exact h.data_eq.symm⟩

/-- **No over-read**: every single request ever made to the underlying stream asked for at most
`limit - (bytes consumed before it)` bytes — on all three paths of `readinto`. -/
theorem no_overread (data : Bytes) (script : List Beh) (limit : Nat) (isMax ri : Bool) (ops : List Op) :
    ∀ p ∈ (finalState (fresh data script limit isMax ri) ops).u.log, p.1 + p.2 ≤ limit :=
  let ⟨_, h⟩ := fresh_run data script limit isMax ri ops; h.log_le

/-- the request log is not trivially empty: a single `read(5)` with limit 3 asks for 3 bytes -/
example : (finalState (fresh [1, 2, 3, 4, 5] [] 3 false true) [.read 5]).u.log = [(0, 3)] := by decide

/-- **What the application receives**: the bytes returned by the operations never exceed the limit
in total; and as long as no operation raised, their concatenation is exactly `data[:pos]` — every
byte taken from the server's input was handed over, in order. -/
theorem yielded_is_prefix (data : Bytes) (script : List Beh) (limit : Nat) (isMax ri : Bool) (ops : List Op) :
    (yielded (runOps (fresh data script limit isMax ri) ops).1).length ≤ limit ∧
    (allOk (runOps (fresh data script limit isMax ri) ops).1 = true →
      yielded (runOps (fresh data script limit isMax ri) ops).1
        = data.take (runOps (fresh data script limit isMax ri) ops).2.pos) := by
  obtain ⟨d, h⟩ := fresh_run data script limit isMax ri ops
  exact ⟨Nat.le_trans h.ylen (h.pos_eq ▸ h.pos_le), fun ha => (h.yall ha).trans h.take_pos.symm⟩

example : yielded (runOps (fresh [1, 2, 3, 4, 5] [.give 1] 4 false true) [.read 2, .readall]).1 = [1, 2, 3, 4] := by
  decide

/-- **Only the documented exceptions**: an operation raises nothing but ClientDisconnected,
RequestEntityTooLarge (only when the limit is a maximum) or `StopIteration` from `__next__`. -/
theorem only_expected_exceptions (s : St) (op : Op) (e : String) (h : (runOp s op).1 = .error e) :
    e = "ClientDisconnected" ∨ (e = "RequestEntityTooLarge" ∧ s.isMax = true) ∨
      (e = "StopIteration" ∧ op matches .next) := by
  rcases runOp_err h with (⟨h1, h2⟩ | h1) | ⟨h1, h2⟩
  · exact Or.inr (Or.inl ⟨h1, h2⟩)
  · exact Or.inl h1
  · subst h2
    exact Or.inr (Or.inr ⟨h1, rfl⟩)

/-- **Short body ⇒ ClientDisconnected (one call)**: with a declared length (`is_max = False`) not yet
reached, a call whose underlying request is starved (zero bytes) or fails raises ClientDisconnected;
a failing underlying call does so under a maximum too. -/
theorem short_body_disconnect_step (s : St) (size : Nat) (hlim : s.pos < s.limit) :
    (s.isMax = false → ((s.u.call (request s size)).1 = .raised ∨ (s.u.call (request s size)).1 = .got []) →
      (readinto s size).1 = .error "ClientDisconnected") ∧
    ((s.u.call (request s size)).1 = .raised → (readinto s size).1 = .error "ClientDisconnected") :=
  ⟨fun hm h => readinto_disconnect (by omega) (h.imp_right fun h => ⟨hm, h⟩),
    fun h => readinto_disconnect (by omega) (Or.inl h)⟩

example : (readinto (fresh [] [] 5 false true) 3).1 = .error "ClientDisconnected" := by rfl
example : (readinto (fresh [1, 2] [.raise] 5 true false) 3).1 = .error "ClientDisconnected" := by rfl

/-- **Past the maximum ⇒ RequestEntityTooLarge**: once `max_content_length` bytes have been consumed,
every read operation (`read(n)`, `read()`, `readinto`, `readline`, `next`, `readlines`) raises
RequestEntityTooLarge and takes nothing more from the underlying stream. -/
theorem over_max_413 (s : St) (hm : s.isMax = true) (hlim : s.limit ≤ s.pos) (n : Nat) (hint : Option Nat) :
    runOp s (.read n) = (.error "RequestEntityTooLarge", s) ∧
    runOp s (.readinto n) = (.error "RequestEntityTooLarge", s) ∧
    runOp s .readall = (.error "RequestEntityTooLarge", s) ∧
    runOp s (.readline none) = (.error "RequestEntityTooLarge", s) ∧
    runOp s .next = (.error "RequestEntityTooLarge", s) ∧
    runOp s (.readlines hint) = (.error "RequestEntityTooLarge", s) := by
  have h1 : ∀ k, readinto s k = (.error "RequestEntityTooLarge", s) := fun k => readinto_at_max k hm hlim
  exact ⟨by simp only [runOp, LS.read, h1, single], by simp only [runOp, h1, single],
    by simp only [runOp, readall_at_max hm hlim, single],
    by simp only [runOp, readline_read_error none rfl (h1 1), single],
    by simp only [runOp, next_read_error (h1 1), single],
    readlines_read_error hint (h1 1)⟩

example : (runOp (finalState (fresh [1, 2, 3, 4] [] 3 true true) [.read 3]) (.read 1)).1
    = .error "RequestEntityTooLarge" := by rfl

/-- ... and a 413 is never raised before the maximum is reached. -/
theorem no_413_before_max (s : St) (size : Nat) (hlim : s.pos < s.limit) :
    (readinto s size).1 ≠ .error "RequestEntityTooLarge" := by
  intro h
  rcases readinto_error h with ⟨_, _, h3⟩ | h3
  · omega
  · simp at h3

/-- **`read()` is exact for a declared length**: when `read()` returns normally on a
`Content-Length`-limited stream it returns exactly the `limit - pos` bytes that were still due,
and they are the next bytes of the client's data — for every behaviour of the underlying stream. -/
theorem readall_exact_declared (s : St) (hi : Inv s) (hm : s.isMax = false) (r : Bytes)
    (h : (readall s).1 = .ok r) :
    r = s.u.data.take (s.limit - s.pos) ∧ r.length = s.limit - s.pos ∧ (readall s).2.pos = s.limit := by
  obtain ⟨d, h2⟩ := readall_spec s
  have hr := h2.ok r h
  subst hr
  have hposeq := h2.adv.pos_eq
  have hdata := h2.adv.data_eq
  have hend := readall_declared hi hm h
  have hlen : r.length = s.limit - s.pos := by omega
  refine ⟨?_, hlen, hend⟩
  rw [hdata, ← hlen]; simp

/-- **Short body ⇒ ClientDisconnected (whole body)**: if the client sent fewer bytes than the
declared Content-Length, `read()` raises ClientDisconnected — whatever was read before and however
the underlying stream behaves; it can never return a silently truncated body. -/
theorem short_body_disconnect (data : Bytes) (script : List Beh) (limit : Nat) (ri : Bool) (ops : List Op)
    (hshort : data.length < limit) :
    (readall (finalState (fresh data script limit false ri) ops)).1 = .error "ClientDisconnected" := by
  obtain ⟨d, h⟩ := fresh_run data script limit false ri ops
  refine readall_short h.inv h.isMax_eq ?_
  unfold finalState
  have hlen := congrArg List.length h.data_eq
  rw [List.length_append, ← h.pos_eq] at hlen
  rw [h.limit_eq]
  omega

example : (readall (finalState (fresh [1, 2, 3] [.give 1] 5 false true) [.read 2])).1
    = .error "ClientDisconnected" := by rfl

/-- **`read()` is exact when the stream delivers**: if the underlying stream never fails and never
returns zero bytes while data remain (it may fragment arbitrarily), `read()` returns exactly the
unread data up to the limit — all of it under a maximum, `limit - pos` bytes of it for a declared
length that the client honoured. Termination is definitional (structural recursion on a fuel of
`limit - pos + 1`, which `readallLoop_fuel` shows is never the reason the loop stops). -/
theorem readall_exact (s : St) (hi : Inv s) (hf : Faithful s.u.script) (hlim : s.pos < s.limit)
    (hcase : s.isMax = true ∨ s.limit - s.pos ≤ s.u.data.length) :
    (readall s).1 = .ok (s.u.data.take (s.limit - s.pos)) := by
  exact readall_faithful s hf hlim hcase

example : Faithful [.give 2, .give 1] := by
  intro b hb
  simp only [List.mem_cons, List.not_mem_nil, or_false] at hb
  rcases hb with rfl | rfl
  · exact ⟨2, rfl, by omega⟩
  · exact ⟨1, rfl, by omega⟩

example : (readall (fresh [1, 2, 3, 4, 5] [.give 2, .give 1] 4 false true)).1 = .ok [1, 2, 3, 4] := by rfl

/-- The property text asks that a body longer than the configured maximum *surfaces as*
RequestEntityTooLarge and is never silently truncated. At full strength — "an unbounded `read()` of a
body longer than the maximum never returns normally" — this is false: `readall`'s loop stops exactly
at the limit and returns the first `max` bytes; only a *further* read raises (known finding F09b,
`LimitedStream(BytesIO(b"x" * 11), 10, is_max=True).read()`). -/
theorem max_truncation_full_false :
    ¬ (∀ s : St, Inv s → s.isMax = true → s.pos < s.limit → s.limit - s.pos < s.u.data.length →
        ∀ r, (readall s).1 ≠ .ok r) := by
  intro h
  exact h (fresh [1, 2, 3] [] 2 true true) (fresh_inv ..) rfl (by decide) (by decide) [1, 2] rfl

/-- What does hold for a body longer than the maximum on a delivering stream: `read()` returns exactly
the first `limit - pos` bytes, leaves the object exactly at the limit, and from there every read
raises RequestEntityTooLarge — the excess is never delivered and never goes unnoticed by a caller
that reads until end-of-file; the single unbounded `read()` is the only call that does not report it. -/
theorem max_truncation_partial (s : St) (hi : Inv s) (hm : s.isMax = true) (hf : Faithful s.u.script)
    (hlim : s.pos < s.limit) (hlong : s.limit - s.pos < s.u.data.length) :
    (readall s).1 = .ok (s.u.data.take (s.limit - s.pos)) ∧ (readall s).2.pos = s.limit ∧
    ∀ n, readinto (readall s).2 n = (.error "RequestEntityTooLarge", (readall s).2) := by
  have h1 := readall_exact s hi hf hlim (Or.inl hm)
  obtain ⟨d, ⟨hadv, hok, _⟩⟩ := readall_spec s
  have hd := hok _ h1
  have hpos : (readall s).2.pos = s.limit := by
    rw [hadv.pos_eq, ← hd, List.length_take]
    omega
  refine ⟨h1, hpos, fun n => ?_⟩
  exact readinto_at_max n (by rw [hadv.isMax_eq]; exact hm) (by rw [hadv.limit_eq, hpos]; exact Nat.le_refl _)

example : (readall (fresh [1, 2, 3] [] 2 true true)).1 = .ok [1, 2] := by rfl

/-- the loop bound of `readall` is not a truncation: any larger fuel gives the same result -/
theorem readall_fuel_irrelevant (s : St) (hi : Inv s) (g : Nat) (hg : s.limit - s.pos < g) :
    readallLoop g s [] = readallLoop (s.limit - s.pos + 1) s [] :=
  readallLoop_fuel g _ s [] hg (by omega)

/-! ### line-oriented reads (CPython's `IOBase.readline / __next__ / readlines` over `readinto`) -/

/-- **Lines are lines**: whatever the underlying stream does, a line returned by `readline(limit)`
contains a newline at most as its last byte and respects the size argument; `next()` never returns
an empty line; every line of `readlines(hint)` is non-empty and newline-terminated at most at its end.
Together with `yielded_is_prefix` (the concatenation of everything returned is `data[:pos]`, never
more than `limit` bytes) the lines are consecutive slices of the client's data cut after newlines. -/
theorem lines_are_lines (s : St) :
    (∀ lim l, (readline s lim).1 = .ok l → LineShaped l ∧ ∀ n, lim = some n → l.length ≤ n) ∧
    (∀ l, (next s).1 = .ok l → l ≠ [] ∧ LineShaped l) ∧
    (∀ hint ls, (readlines s hint).1 = .ok ls → ∀ l ∈ ls, l ≠ [] ∧ LineShaped l) := by
  exact ⟨fun lim l h => readline_shape s lim l h, fun l h => next_shape s l h, fun hint ls h => readlines_shape s hint ls h⟩

example : (runOps (fresh [97, 10, 98, 99, 10, 100] [.give 2] 5 false true) [.readline none, .readlines none]).1
    = [.ok [[97, 10]], .ok [[98, 99, 10]]] := by rfl

/-- **`tell()` is the number of bytes taken from the server's input, `is_exhausted` means exactly
"the limit has been reached"** — after every operation sequence and for every behaviour of the
underlying stream. (`readable()` is the constant `True`.) -/
theorem tell_is_consumed (data : Bytes) (script : List Beh) (limit : Nat) (isMax ri : Bool) (ops : List Op) :
    tell (finalState (fresh data script limit isMax ri) ops)
      = (finalState (fresh data script limit isMax ri) ops).u.taken.length ∧
    tell (finalState (fresh data script limit isMax ri) ops) ≤ limit ∧
    (isExhausted (finalState (fresh data script limit isMax ri) ops) = true ↔
      tell (finalState (fresh data script limit isMax ri) ops) = limit) ∧
    readable (finalState (fresh data script limit isMax ri) ops) = true := by
  obtain ⟨d, h⟩ := fresh_run data script limit isMax ri ops
  have hle := h.pos_le
  unfold isExhausted tell finalState
  rw [decide_eq_true_eq, h.limit_eq]
  exact ⟨h.inv.consumed.symm, hle, ⟨Nat.le_antisymm hle, fun h' => Nat.le_of_eq h'.symm⟩, rfl⟩

example : tell (finalState (fresh [1, 2, 3, 4, 5] [.give 1] 4 false true) [.read 2, .read 2]) = 3 := by decide

/-- **`for line in stream` is a run of `__next__` calls** (so every theorem above about operation
sequences covers it), **and it always ends**: after finitely many non-empty, line-shaped lines
`__next__` raises — `StopIteration` (the normal end), ClientDisconnected, or RequestEntityTooLarge
under a maximum; the model's loop bound is never what stops it. -/
theorem iteration_is_next_run (s : St) (hi : Inv s) :
    iterAll s = runOps s (List.replicate (iterAll s).1.length Op.next) ∧
    ∃ (ls : List Bytes) (e : String),
      (iterAll s).1 = ls.map (fun l => (Except.ok [l] : LRes)) ++ [.error e] ∧
      (∀ l ∈ ls, l ≠ [] ∧ LineShaped l) ∧
      (e = "StopIteration" ∨ e = "ClientDisconnected" ∨ (e = "RequestEntityTooLarge" ∧ s.isMax = true)) := by
  refine ⟨iterLoop_eq_runOps _ s, ?_⟩
  obtain ⟨ls, e, h1, h2, h3⟩ := iterLoop_ends (s.limit - s.pos + 1) s hi (by omega)
  refine ⟨ls, e, h1, h2, ?_⟩
  rcases h3 with (⟨h3, h4⟩ | h3) | h3
  · exact Or.inr (Or.inr ⟨h3, h4⟩)
  · exact Or.inr (Or.inl h3)
  · exact Or.inl h3

example : (iterAll (fresh [97, 10, 98, 99, 10, 100] [.give 2] 5 false true)).1
    = [.ok [[97, 10]], .ok [[98, 99, 10]], .error "StopIteration"] := by rfl
example : (iterAll (fresh [97, 10, 98] [] 5 false true)).1 = [.ok [[97, 10]], .error "ClientDisconnected"] := by rfl

/-- **Any buffering wrapper** (`io.BufferedReader`, `io.TextIOWrapper`, a form parser, …) that
(recorded assumption, checked per case by stream `wrapped`) touches the `LimitedStream` only through
its read operations and hands its own caller nothing but bytes those operations returned, in order
(`outs` is a prefix of their concatenation): whatever call sequence it issues, its caller never
receives more than `limit` bytes, and what it receives is a prefix of what the client sent. -/
theorem wrapper_yields_prefix (data : Bytes) (script : List Beh) (limit : Nat) (isMax ri : Bool)
    (ops : List Op) (outs : Bytes)
    (hw : outs <+: yielded (runOps (fresh data script limit isMax ri) ops).1)
    (hok : allOk (runOps (fresh data script limit isMax ri) ops).1 = true) :
    outs.length ≤ limit ∧ outs <+: data := by
  obtain ⟨h1, h2⟩ := yielded_is_prefix data script limit isMax ri ops
  have h3 := h2 hok
  constructor
  · exact Nat.le_trans hw.length_le h1
  · rw [h3] at hw
    exact hw.trans (List.take_prefix _ _)

example : ([1, 2, 3] : Bytes) <+: yielded (runOps (fresh [1, 2, 3, 4, 5] [.give 1] 4 false true) [.read 2, .readall]).1 := by
  decide

open Wz.RB in
/-- **The Request glue never over-reads**, for every access history — `request.stream.<any read>`,
`get_data(cache, parse_form_data)`, `form` / `files` / `values` with a form parser issuing *any*
sequence of reads, `close()`, in any order and number — and every behaviour of `wsgi.input`: the
bytes taken from `wsgi.input` never exceed the limit `get_input_stream` chose (the declared
Content-Length, or `max_content_length` on a terminated input; **nothing at all** when there is no
usable length on a non-terminating server, or when the declared length exceeds the maximum), no
single request to `wsgi.input` could pass it, and no byte the client sent is lost or reordered. -/
theorem request_never_overreads (cl : Option (List Char)) (chunked terminated : Bool) (max : Option Nat)
    (ri wantForm : Bool) (data : Bytes) (script : List Beh) (hist : List ROp) :
    consumed (runROps (freshReq cl chunked terminated max ri wantForm data script) hist).2
      ≤ limitFor (getInputStream cl chunked terminated max true) data ∧
    (∀ p ∈ (runROps (freshReq cl chunked terminated max ri wantForm data script) hist).2.input.log,
      p.1 + p.2 ≤ limitFor (getInputStream cl chunked terminated max true) data) ∧
    (runROps (freshReq cl chunked terminated max ri wantForm data script) hist).2.input.taken
      ++ (runROps (freshReq cl chunked terminated max ri wantForm data script) hist).2.input.data = data := by
  have h := runROps_keeps hist _ (freshReq_inv cl chunked terminated max ri wantForm data script)
  have hc : choiceOf (runROps (freshReq cl chunked terminated max ri wantForm data script) hist).2
      = getInputStream cl chunked terminated max true := h.choice
  have hb := h.inv.bound
  have hl := h.inv.log
  rw [hc] at hb hl
  exact ⟨hb, hl, h.inv.orig⟩

open Wz.RB in
/-- the limit of `request_never_overreads` in the property's terms: 0 without a usable length on a
non-terminating server and when the declared length exceeds the maximum (413); the declared length
otherwise; the maximum on a terminated input -/
theorem request_limit_cases (cl : Option (List Char)) (chunked terminated : Bool) (max : Option Nat)
    (data : Bytes) :
    (getContentLength cl chunked = none → terminated = false →
      limitFor (getInputStream cl chunked terminated max true) data = 0) ∧
    (∀ n m, getContentLength cl chunked = some n → max = some m → n > m →
      limitFor (getInputStream cl chunked terminated max true) data = 0) ∧
    (∀ n, getContentLength cl chunked = some n → terminated = false →
      limitFor (getInputStream cl chunked terminated max true) data ≤ n) ∧
    (∀ m, terminated = true → max = some m →
      limitFor (getInputStream cl chunked terminated max true) data ≤ m) := by
  have h5 : ∀ n, getContentLength cl chunked = some n → terminated = false →
      limitFor (getInputStream cl chunked terminated max true) data ≤ n := by
    intro n hn ht
    have h := getInputStream_chooses cl chunked terminated max true
    generalize getInputStream cl chunked terminated max true = c at h
    cases h <;> simp_all [limitFor]
  obtain ⟨h1, h2, h3, h4⟩ := get_input_stream_choice cl chunked terminated true max
  refine ⟨fun a b => by rw [h1 a b rfl]; rfl, fun n m a b c => by rw [h2 n m a b c]; rfl, h5, ?_⟩
  · intro m ht hm
    rcases h3 m ht hm with h | h <;> rw [h] <;> simp [limitFor]

open Wz.RB in
/-- **A history that neither caches nor parses is a stream history**: `request.stream.<op>` and
`request.get_data(cache=False)` calls on a Request whose body was given a `LimitedStream` return
exactly what the same operations (`get_data` = `read()`) return on that one `LimitedStream` over
`wsgi.input` — the glue adds no reads, drops no results and creates the wrapper once. Every theorem
above (`yielded_is_prefix`, `short_body_disconnect`, `over_max_413`, `readall_exact`, …) therefore
holds verbatim for "stream, then data", "data, then stream", etc. -/
theorem request_plain_history_is_stream_history (cl : Option (List Char)) (chunked terminated : Bool)
    (max : Option Nat) (ri wantForm : Bool) (data : Bytes) (script : List Beh) (n : Nat) (m : Bool)
    (hch : getInputStream cl chunked terminated max true = .limited n m) (ps : List Plain) :
    (runROps (freshReq cl chunked terminated max ri wantForm data script) (ps.map Plain.toR)).1
      = (runOps (fresh data script n m ri) (ps.map Plain.toOp)).1 := by
  refine runROps_plain_unborn ps (live := true) rfl rfl ?_
  rw [makeStream_eq, show choiceOf (freshReq cl chunked terminated max ri wantForm data script) = .limited n m from hch]
  rfl

open Wz.RB in
/-- **A short body surfaces as ClientDisconnected at the Request level too**: when the client sent
fewer bytes than the declared Content-Length, then after *any* history of stream reads and uncached
`get_data` calls, `request.get_data(cache=False)` raises ClientDisconnected — the glue cannot turn the
short body into a silently truncated one. (With caching, `request_cached_data_stable` applies: data
can only have been cached by a `get_data` that returned normally, which for a short body none does.) -/
theorem request_short_body_disconnect (cl : Option (List Char)) (chunked terminated : Bool)
    (max : Option Nat) (ri wantForm : Bool) (data : Bytes) (script : List Beh) (n : Nat)
    (hch : getInputStream cl chunked terminated max true = .limited n false) (hshort : data.length < n)
    (ps : List Plain) :
    (runROps (freshReq cl chunked terminated max ri wantForm data script)
      ((ps ++ [Plain.d]).map Plain.toR)).1.getLast? = some (.error "ClientDisconnected") := by
  rw [request_plain_history_is_stream_history cl chunked terminated max ri wantForm data script n false hch]
  rw [List.map_append, runOps_append]
  have h := short_body_disconnect data script n ri (ps.map Plain.toOp) hshort
  simp only [List.map_cons, List.map_nil, Plain.toOp, runOps, runOp]
  rcases hr : readall (finalState (fresh data script n false ri) (List.map Plain.toOp ps)) with ⟨r, s'⟩
  rw [hr] at h
  simp only at h
  subst h
  simp [single]

open Wz.RB in
example : (runROps (freshReq (some ['9']) false false none true false [1, 2, 3] [])
    [.stream (.read 2), .getData false false []]).1 = [.ok [[1, 2]], .error "ClientDisconnected"] := by rfl

open Wz.RB in
example : (runROps (freshReq (some ['4']) false false none true false [1, 2, 3, 4, 5] [.give 1])
    [.stream (.read 2), .getData false false [], .getData false false []]).1
    = [.ok [[1]], .ok [[2, 3, 4]], .ok [[]]] := by rfl

open Wz.RB in
/-- **Cached data is stable**: once `get_data()` (with `cache=True`, the default; also `request.data`
/ `get_json()`) has returned, every later `get_data(...)` — whatever its flags, whatever happened in
between (stream reads, form parsing, `close()`) — returns the same bytes and takes nothing from
`wsgi.input`; and form parsing after cached data reads a private copy, never the input. -/
theorem request_cached_data_stable (r : RSt) (c : Bytes) (hc : r.cached = some c) (hist : List ROp)
    (cache parse : Bool) (pops : List Op) :
    (runROps r hist).2.cached = some c ∧
    runROp (runROps r hist).2 (.getData cache parse pops) = (.ok [c], (runROps r hist).2) ∧
    (loadForm r pops).2.input = r.input := by
  have h1 := runROps_cached hist hc
  exact ⟨h1, by rw [runROp, getData_of_cached h1]; rfl, (loadForm_of_cached hc pops).2⟩

open Wz.RB in
/-- `get_data(cache=True)` stores exactly what it returns -/
theorem request_get_data_caches (r : RSt) (parse : Bool) (pops : List Op) (b : Bytes) (r' : RSt)
    (h : getData r true parse pops = (.ok b, r')) : r'.cached = some b := by
  rcases getData_ok h with ⟨hc, rfl⟩ | ⟨_, r3, rfl⟩
  · exact hc
  · rfl

open Wz.RB in
/-- **Declared length above `max_content_length`**: every access to the body — `stream`, `get_data`,
`form` — raises RequestEntityTooLarge, again on every further access (the failed `stream` property is
not cached), and the object and `wsgi.input` stay untouched; `close()` is always a no-op for the body. -/
theorem request_too_large_every_access (r : RSt) (hs : r.stream = none) (hc : r.cached = none)
    (hf : r.formLoaded = false) (hch : choiceOf r = .tooLarge) (op : ROp) :
    runROp r op = (.error "RequestEntityTooLarge", r) ∨ (op matches .close ∧ runROp r op = (.ok [], r)) := by
  have ha : accessStream r = (.error "RequestEntityTooLarge", r) :=
    accessStream_error hs (by rw [makeStream_eq, hch])
  cases op with
  | close => exact Or.inr ⟨rfl, rfl⟩
  | stream op => left; simp only [runROp, ha]
  | form pops => left; simp only [runROp, loadForm_of_access_error hc hf ha]
  | getData cache parse pops => left; simp only [runROp, getData_of_access_error hc hf ha, runROp.single']

open Wz.RB in
example : (runROps (freshReq (some ['9']) false false (some 4) true true [1, 2, 3, 4, 5, 6, 7, 8, 9] [])
    [.stream (.read 2), .getData true true [.readall], .form [.readall], .close]).1
    = [.error "RequestEntityTooLarge", .error "RequestEntityTooLarge", .error "RequestEntityTooLarge", .ok []] := by
  rfl

open Wz.RB in
/-- form first, then data: the parser (here: one `read()`) drains the declared length, `get_data()`
afterwards returns `b""` without an error and without touching the input again; data first, then
form: the parser reads the cached copy -/
example : (runROps (freshReq (some ['3']) false false none true true [1, 2, 3, 4] [])
    [.form [.readall], .getData true false [], .stream (.read 5)]).1 = [.ok [], .ok [[]], .ok [[]]] ∧
    consumed (runROps (freshReq (some ['3']) false false none true true [1, 2, 3, 4] [])
    [.form [.readall], .getData true false [], .stream (.read 5)]).2 = 3 := by
  constructor <;> rfl

open Wz.RB in
example : (runROps (freshReq (some ['3']) false false none true true [1, 2, 3, 4] [])
    [.getData true false [], .form [.readall], .getData false true [], .stream (.read 5)]).1
    = [.ok [[1, 2, 3]], .ok [], .ok [[1, 2, 3]], .ok [[]]] := by rfl

/-! ### structure of the source the hand model transcribes (AST facts, regenerated on every run) -/

open Wz.Gen.InputStreamFacts in
/-- **The model's transcription of `LimitedStream` and of the Request glue matches the shape of the
live source**: `readall` loops over `self.read(65536)`; each of the three paths of `readinto` that
touch the underlying stream catches exactly `(OSError, ValueError)`; `_pos` is assigned in
`__init__` and once in `readinto` only; `is_exhausted` is `_pos >= limit`; `on_exhausted` raises
RequestEntityTooLarge iff the limit is a maximum; `on_disconnect` raises ClientDisconnected unless
the limit is a maximum and no error occurred; `exhaust` reads iff not exhausted; `tell` is `_pos`.
`Request.stream` is `get_input_stream(environ, max_content_length=self.max_content_length)` with the
safe fallback left on; `get_data` starts from `_cached_data`, reads `self.stream.read()` once and only
when nothing is cached, parses the form only under `parse_form_data` and before the read, caches only
under `cache`; `_get_stream_for_parsing` hands the parser a `BytesIO` copy of cached data;
`_load_form_data` runs once and stores the parser's stream; `close()` touches neither stream nor cache. -/
theorem stream_source_structure :
    readallChunk = 65536 ∧ readintoHandlers = 3 ∧ readintoCatches = ["OSError", "ValueError"] ∧ posWrites = 2 ∧
    exhaustedIsGe = true ∧ exhaustedRaisesIffMax = true ∧ disconnectRaisesUnlessCleanMax = true ∧
    exhaustReadsUnlessExhausted = true ∧ tellIsPos = true ∧ streamIsGuardedInput = true ∧
    getDataReadsStreamOnce = true ∧ getDataCachesUnderFlag = true ∧ getDataParsesUnderFlag = true ∧
    parsingUsesCachedCopy = true ∧ closeTouchesOnlyFiles = true ∧ loadFormStoresParserStream = true := by
  decide

end Wz.Props.C09
