/-
C17's theorems about header text need a grammar to speak about. This file fixes it: a header is a comma-separated list
of elements `value(;key=token)*(;q=token)?` (`Elem`, `Elem.WF`, `headerText`), and `Elem.item` is what
`parse_accept_header` makes of one element — `acceptItem_elem` says so for the options `parse_options_header` returns.
Media types are `renderMime` of their pieces under `MimeWF` (the text `parse_accept_header` rebuilds), so that matching is
a formula in the pieces (`mimeMatches_render`). A q text is a shape followed by a range check (`parseQBody_eq`), which
gives `parseQ_iff`. That the lexer really splits `headerText es` into these elements is proved for the wider grammar of
Lemmas/AcceptLexer.lean.
-/
import WzVerif.Lemmas.Accept
namespace Wz.Accept
open Wz

def NoDelim (x : Str) : Prop := ∀ c ∈ x, c ≠ '/' ∧ c ≠ ';' ∧ Py.isSpace c = false

def NoSlashSemi (x : Str) : Prop := ∀ c ∈ x, c ≠ '/' ∧ c ≠ ';'

theorem NoDelim.noSlashSemi {x : Str} (h : NoDelim x) : NoSlashSemi x := fun c hc => ⟨(h c hc).1, (h c hc).2.1⟩

def paramsText (ps : List Str) : Str := ps.flatMap fun p => ';' :: ' ' :: p

/-- `type/subtype; p1; p2 …` as `dump_options_header` writes it -/
def renderMime (t s : Str) (ps : List Str) : Str := t ++ '/' :: (s ++ paramsText ps)

/-- what `mimePieces` yields on `x; p1; p2 …`: the pieces with the flag "a `;` follows", each parameter still with
the blank after its `;` -/
def piecesOf (x : Str) : List Str → List (Str × Bool)
  | [] => [(x, false)]
  | p :: ps => (x, true) :: piecesOf (' ' :: p) ps

theorem mimePieces_run (x rest cur : Str) (h : NoSlashSemi x) :
    mimePieces (x ++ rest) cur = mimePieces rest (x.reverse ++ cur) := by
  induction x generalizing cur with
  | nil => rfl
  | cons c t ih =>
    have hc := h c (by simp)
    have h1 : (c == '/') = false := by simpa using hc.1
    have h2 : (c == ';') = false := by simpa using hc.2
    simp only [List.cons_append, mimePieces, h1, h2, Bool.false_eq_true, ↓reduceIte]
    rw [ih (c :: cur) (fun y hy => h y (by simp [hy]))]
    simp

theorem mimePieces_params (x cur : Str) (ps : List Str) (hx : NoSlashSemi x)
    (hps : ∀ p ∈ ps, NoSlashSemi p) :
    mimePieces (x ++ paramsText ps) cur = piecesOf (cur.reverse ++ x) ps := by
  induction ps generalizing x cur with
  | nil =>
    simp only [paramsText, List.flatMap_nil]
    rw [mimePieces_run x [] cur hx]
    simp [mimePieces, piecesOf]
  | cons p ps ih =>
    have hp : NoSlashSemi (' ' :: p) := by
      intro c hc
      rcases List.mem_cons.mp hc with rfl | hc
      · exact ⟨by decide, by decide⟩
      · exact hps p (by simp) c hc
    have e : paramsText (p :: ps) = ';' :: ((' ' :: p) ++ paramsText ps) := by
      simp [paramsText]
    rw [e, mimePieces_run x _ cur hx]
    simp only [mimePieces]
    have h1 : (';' == '/') = false := by decide
    simp only [h1, Bool.false_eq_true, ↓reduceIte, BEq.rfl, piecesOf]
    rw [ih (' ' :: p) [] hp (fun q hq => hps q (by simp [hq]))]
    simp

theorem rstrip_noSpace (s : Str) (h : ∀ c ∈ s, Py.isSpace c = false) : Py.rstripBy Py.isSpace s = s :=
  rstripBy_noop (fun c hc => h c (List.mem_of_getLast? hc))

theorem mimeTrim_params (p : Str) (ps : List Str) (hp : ∀ c ∈ p, Py.isSpace c = false)
    (hps : ∀ q ∈ ps, ∀ c ∈ q, Py.isSpace c = false) :
    mimeTrim true (piecesOf (' ' :: p) ps) = p :: ps := by
  induction ps generalizing p with
  | nil =>
    have hsp : Py.isSpace ' ' = true := by decide
    have hd : p.dropWhile Py.isSpace = p := dropWhile_head_false (fun c hc => hp c (List.mem_of_mem_head? hc))
    simp [piecesOf, mimeTrim, hsp, hd]
  | cons q qs ih =>
    have hsp : Py.isSpace ' ' = true := by decide
    have hd : p.dropWhile Py.isSpace = p := dropWhile_head_false (fun c hc => hp c (List.mem_of_mem_head? hc))
    simp only [piecesOf, mimeTrim, ↓reduceIte, List.dropWhile_cons, hsp, hd, rstrip_noSpace p hp]
    rw [ih q (hps q (by simp)) (fun r hr => hps r (by simp [hr]))]

theorem mimeSplit_render (t s : Str) (ps : List Str) (ht : NoDelim t) (hs : NoDelim s)
    (hps : ∀ p ∈ ps, NoDelim p) : mimeSplit (renderMime t s ps) = t :: s :: ps := by
  unfold mimeSplit renderMime
  rw [mimePieces_run t _ [] ht.noSlashSemi]
  simp only [mimePieces, BEq.rfl, ↓reduceIte, List.append_nil, List.reverse_reverse]
  rw [mimePieces_params s [] ps hs.noSlashSemi (fun p hp => (hps p hp).noSlashSemi)]
  simp only [List.reverse_nil, List.nil_append, mimeTrim, Bool.false_eq_true, ↓reduceIte]
  have hsS : ∀ c ∈ s, Py.isSpace c = false := fun c hc => (hs c hc).2.2
  have hpS : ∀ q ∈ ps, ∀ c ∈ q, Py.isSpace c = false := fun q hq c hc => (hps q hq c hc).2.2
  cases ps with
  | nil => simp [piecesOf, mimeTrim]
  | cons p ps =>
    simp only [piecesOf, mimeTrim, Bool.false_eq_true, ↓reduceIte, rstrip_noSpace s hsS]
    rw [mimeTrim_params p ps (hpS p (by simp)) (fun r hr => hpS r (by simp [hr]))]

def IsLower (x : Str) : Prop := lowerA x = x

theorem lowerA_render (t s : Str) (ps : List Str) (ht : IsLower t) (hs : IsLower s)
    (hps : ∀ p ∈ ps, IsLower p) : lowerA (renderMime t s ps) = renderMime t s ps := by
  unfold IsLower lowerA at *
  have hpt : (paramsText ps).map Char.toLower = paramsText ps := by
    induction ps with
    | nil => rfl
    | cons p ps ih =>
      have h1 := hps p (by simp)
      have h2 := ih (fun q hq => hps q (by simp [hq]))
      simp only [paramsText, List.flatMap_cons, List.map_append, List.map_cons] at h2 ⊢
      rw [h1, h2]
      rfl
  simp only [renderMime, List.map_append, List.map_cons, ht, hs, hpt]
  rfl

theorem hasSlash_render (t s : Str) (ps : List Str) : hasSlash (renderMime t s ps) = true := by
  simp [hasSlash, renderMime]

/-- the pieces of a media type as `parse_accept_header` rebuilds it: lower case, free of `/`, `;` and blanks -/
structure MimeWF (t s : Str) (ps : List Str) : Prop where
  type : NoDelim t
  subtype : NoDelim s
  params : ∀ p ∈ ps, NoDelim p
  typeLower : IsLower t
  subtypeLower : IsLower s
  paramsLower : ∀ p ∈ ps, IsLower p

theorem MimeWF.norm {t s : Str} {ps : List Str} (h : MimeWF t s ps) : mimeNorm (renderMime t s ps) = ⟨t, s, ps⟩ := by
  unfold mimeNorm
  rw [lowerA_render t s ps h.typeLower h.subtypeLower h.paramsLower, mimeSplit_render t s ps h.type h.subtype h.params]

theorem MimeWF.perm {t s : Str} {ps ps2 : List Str} (h : MimeWF t s ps) (hp : ps.Perm ps2) : MimeWF t s ps2 :=
  { h with params := fun p hm => h.params p (hp.mem_iff.mpr hm), paramsLower := fun p hm => h.paramsLower p (hp.mem_iff.mpr hm) }

theorem MimeWF.star {t : Str} (ht : NoDelim t) (lt : IsLower t) : MimeWF t star [] where
  type := ht
  subtype := fun c hc => by cases List.mem_singleton.mp hc; decide
  params := nofun
  typeLower := lt
  subtypeLower := by unfold IsLower; decide
  paramsLower := nofun

/-- the match of an offer `t'/s';ps'` against a range `t/s;ps`, both well-formed text, in terms of the pieces -/
theorem mimeMatches_render {t s t' s' : Str} {ps ps' : List Str} (h : MimeWF t s ps) (h' : MimeWF t' s' ps') :
    mimeMatches (renderMime t' s' ps') (renderMime t s ps) =
      if t == star && s != star then false else
      ((t == star && s == star) || (t' == star && s' == star)) ||
      (t == t' && (s == star || s' == star || (s == s' && ps.isPerm ps'))) := by
  unfold mimeMatches
  simp only [hasSlash_render, h.norm, h'.norm, Bool.not_true, Bool.false_eq_true, ↓reduceIte]

/-- the token class `[\w!#$%&'*+\-.^`|~]` (re.ASCII) on code points -/
def tokNat (n : Nat) : Bool :=
  (65 ≤ n && n ≤ 90) || (97 ≤ n && n ≤ 122) || (48 ≤ n && n ≤ 57) || n == 95 ||
  [33, 35, 36, 37, 38, 39, 42, 43, 45, 46, 94, 96, 124, 126].contains n

theorem isTokChar_toNat (c : Char) : isTokChar c = tokNat c.toNat := by
  have e : c.val.toNat = c.toNat := rfl
  simp only [isTokChar, Char.isAlphanum, Char.isAlpha, Char.isUpper, Char.isLower, Char.isDigit, tokPunct,
    List.contains_cons, List.contains_nil, Bool.or_false, char_beq_toNat, UInt32.le_iff_toNat_le, ge_iff_le, e,
    tokNat, Bool.decide_and]
  rfl

theorem isTokChar_props (c : Char) (h : isTokChar c = true) :
    Py.isSpace c = false ∧ c ≠ ',' ∧ c ≠ '"' ∧ c ≠ ';' ∧ c ≠ '=' := by
  rw [isTokChar_toNat] at h
  refine ⟨?_, ?_, ?_, ?_, ?_⟩
  · have hb : 33 ≤ c.toNat ∧ c.toNat ≤ 126 := by
      simp [tokNat] at h
      omega
    simp only [Py.isSpace]
    simp
    omega
  all_goals (intro e; subst e; revert h; decide)

/-- a media range / tag / charset name as clients write it: token characters and `/` -/
def IsValueText (v : Str) : Prop := v ≠ [] ∧ ∀ c ∈ v, isTokChar c = true ∨ c = '/'

def IsToken (v : Str) : Prop := v ≠ [] ∧ ∀ c ∈ v, isTokChar c = true

theorem IsToken.isEmpty {v : Str} (h : IsToken v) : v.isEmpty = false := List.isEmpty_eq_false_iff.mpr h.1

theorem IsToken.noSpace {v : Str} (h : IsToken v) : ∀ c ∈ v, Py.isSpace c = false :=
  fun c hc => (isTokChar_props c (h.2 c hc)).1

theorem IsToken.not_mem {v : Str} (h : IsToken v) {d : Char} (hd : isTokChar d = false) : d ∉ v :=
  fun hm => by rw [h.2 d hm] at hd; cases hd

theorem IsValueText.isEmpty {v : Str} (h : IsValueText v) : v.isEmpty = false := List.isEmpty_eq_false_iff.mpr h.1

theorem valueChar_props (c : Char) (h : isTokChar c = true ∨ c = '/') :
    Py.isSpace c = false ∧ c ≠ ',' ∧ c ≠ '"' ∧ c ≠ ';' := by
  rcases h with h | rfl
  · have := isTokChar_props c h
    exact ⟨this.1, this.2.1, this.2.2.1, this.2.2.2.1⟩
  · decide

theorem IsValueText.noSpace {v : Str} (h : IsValueText v) : ∀ c ∈ v, Py.isSpace c = false :=
  fun c hc => (valueChar_props c (h.2 c hc)).1

theorem IsValueText.noDelim {v : Str} (h : IsValueText v) : ∀ c ∈ v, c ≠ ',' ∧ c ≠ '"' ∧ c ≠ ';' :=
  fun c hc => (valueChar_props c (h.2 c hc)).2

/-- outside quotes `parse_http_list` runs over text without `,` and `"` -/
theorem httpList_run (x rest part : Str) (h : ∀ c ∈ x, c ≠ ',' ∧ c ≠ '"') :
    httpList (x ++ rest) part false false = httpList rest (x.reverse ++ part) false false := by
  induction x generalizing part with
  | nil => rfl
  | cons c t ih =>
    have hc := h c (by simp)
    have h1 : (c == ',') = false := by simpa using hc.1
    have h2 : (c == '"') = false := by simpa using hc.2
    simp only [List.cons_append, httpList, Bool.false_eq_true, ↓reduceIte, h1, h2]
    rw [ih (c :: part) (fun y hy => h y (by simp [hy]))]
    simp

theorem httpList_plain (s part : Str) (h : ∀ c ∈ s, c ≠ ',' ∧ c ≠ '"') (hne : part.reverse ++ s ≠ []) :
    httpList s part false false = [part.reverse ++ s] := by
  have hrun := httpList_run s [] part h
  rw [List.append_nil] at hrun
  have : (s.reverse ++ part).isEmpty = false := by
    rw [List.isEmpty_eq_false_iff]; intro e; apply hne; simpa using congrArg List.reverse e
  simp [hrun, httpList, this]

theorem httpList_comma (x rest part : Str) (h : ∀ c ∈ x, c ≠ ',' ∧ c ≠ '"') :
    httpList (x ++ ',' :: rest) part false false = (part.reverse ++ x) :: httpList rest [] false false := by
  rw [httpList_run x _ part h]; simp [httpList]

def qElement (v qs : Str) : Str := v ++ ';' :: 'q' :: '=' :: qs

theorem takeWhile_all_then {p : Char → Bool} (x : Str) (c : Char) (rest : Str)
    (hx : ∀ y ∈ x, p y = true) (hc : p c = false) :
    (x ++ c :: rest).takeWhile p = x ∧ (x ++ c :: rest).dropWhile p = c :: rest :=
  takeWhile_append_stop hx (fun _ h => Option.some.inj h ▸ hc)

theorem takeWhile_all {p : Char → Bool} (x : Str) (hx : ∀ y ∈ x, p y = true) :
    x.takeWhile p = x ∧ x.dropWhile p = [] := by
  simpa using takeWhile_append_stop (b := []) hx (fun _ h => nomatch h)

/-- a parameter key as clients write it: lower-case ASCII letters -/
def IsKey (k : Str) : Prop := k ≠ [] ∧ ∀ c ∈ k, c.isLower = true

theorem lower_isTokChar {c : Char} (h : c.isLower = true) : isTokChar c = true := by
  simp [isTokChar, Char.isAlphanum, Char.isAlpha, h]

theorem lower_range {c : Char} (h : c.isLower = true) : 97 ≤ c.toNat ∧ c.toNat ≤ 122 := by
  simp only [Char.isLower, Bool.and_eq_true, decide_eq_true_eq] at h
  have h1 : (97 : UInt32) ≤ c.val := h.1
  have h2 : c.val ≤ (122 : UInt32) := h.2
  rw [UInt32.le_iff_toNat_le] at h1 h2
  exact ⟨h1, h2⟩

theorem lower_toLower {c : Char} (h : c.isLower = true) : c.toLower = c := by
  have hr := lower_range h
  simp only [Char.toLower]
  split
  · rename_i hc
    have h2 : c.val ≤ (90 : UInt32) := hc.2
    rw [UInt32.le_iff_toNat_le] at h2
    have : c.val.toNat = c.toNat := rfl
    have : (90 : UInt32).toNat = 90 := rfl
    omega
  · rfl

theorem IsKey.token {k : Str} (h : IsKey k) : IsToken k := ⟨h.1, fun c hc => lower_isTokChar (h.2 c hc)⟩

theorem IsKey.lower {k : Str} (h : IsKey k) : lowerA k = k := by
  unfold lowerA
  have : ∀ (l : Str), (∀ c ∈ l, c.isLower = true) → l.map Char.toLower = l := by
    intro l
    induction l with
    | nil => intro _; rfl
    | cons a t ih =>
      intro hl
      simp only [List.map_cons]
      rw [lower_toLower (hl a (by simp)), ih (fun c hc => hl c (by simp [hc]))]
  exact this k h.2

theorem IsKey.concat {k : Str} (h : IsKey k) : ∃ init last, k = init ++ [last] ∧ last.isLower = true := by
  have hne := h.1
  refine ⟨k.dropLast, k.getLast hne, (List.dropLast_concat_getLast hne).symm, ?_⟩
  exact h.2 _ (List.getLast_mem hne)

theorem IsKey.noStar {k : Str} (h : IsKey k) : (k.getLast? == some '*') = false := by
  obtain ⟨init, last, rfl, hl⟩ := h.concat
  have : last ≠ '*' := by
    intro e; subst e; revert hl; decide
  simp [this]

theorem IsKey.noContinuation {k : Str} (h : IsKey k) : continuationBase k = none := by
  obtain ⟨init, last, rfl, hl⟩ := h.concat
  have hd : isDigitA last = false := by
    have hr := lower_range hl
    simp only [isDigitA, Bool.and_eq_false_iff, decide_eq_false_iff_not]
    right
    intro hc
    have : last.toNat ≤ 57 := hc
    omega
  simp [continuationBase, hd]

abbrev Param := Str × Str

def semiParams (l : List Param) : Str := l.flatMap fun p => ';' :: (p.1 ++ '=' :: p.2)

theorem semiParams_head (l : List Param) : l ≠ [] → ∃ t, semiParams l = ';' :: t := by
  intro h
  cases l with
  | nil => exact absurd rfl h
  | cons p t => exact ⟨_, by simp only [semiParams, List.flatMap_cons, List.cons_append]; rfl⟩

/-- a parameter that the second loop of `parse_options_header` stores as it is: no RFC 2231
star / continuation key, no quoted value -/
def SimpleParam (p : Param) : Prop :=
  (p.1.getLast? == some '*') = false ∧ continuationBase p.1 = none ∧ (p.2.head? == some '"') = false

theorem dictSet_new (d : List Param) (k v : Str) (h : ∀ a ∈ d, a.1 ≠ k) : dictSet d k v = d ++ [(k, v)] := by
  unfold dictSet
  have : d.any (fun x => x.1 == k) = false := by
    rw [List.any_eq_false]
    intro a ha
    simpa using h a ha
  simp [this]

theorem processParts_simple (l acc : List Param) (hl : ∀ p ∈ l, SimpleParam p)
    (hnd : (l.map (·.1)).Nodup) (hdis : ∀ p ∈ l, ∀ a ∈ acc, a.1 ≠ p.1) :
    processParts l acc = .ok (acc ++ l) := by
  induction l generalizing acc with
  | nil => simp [processParts]
  | cons p t ih =>
    obtain ⟨pk, pv⟩ := p
    have hp := hl (pk, pv) (by simp)
    simp only [List.map_cons, List.nodup_cons] at hnd
    rw [processParts]
    simp only [hp.1, Bool.false_eq_true, ↓reduceIte, hp.2.2, Bool.false_and, hp.2.1]
    rw [dictSet_new acc pk pv (fun a ha => hdis (pk, pv) (by simp) a ha)]
    rw [ih (acc ++ [(pk, pv)]) (fun q hq => hl q (by simp [hq])) hnd.2]
    · simp
    · intro q hq a ha
      rcases List.mem_append.mp ha with ha | ha
      · exact hdis q (by simp [hq]) a ha
      · simp only [List.mem_singleton] at ha
        subst ha
        intro e
        apply hnd.1
        simp only [List.mem_map]
        exact ⟨q, hq, e.symm⟩

theorem token_simple_value {v : Str} (h : IsToken v) : (v.head? == some '"') = false := by
  have : v.head? ≠ some '"' := by
    intro e
    have := h.2 '"' (List.mem_of_mem_head? e)
    revert this; decide
  simpa using this

theorem qKey_isKey : IsKey qKey := by
  refine ⟨by decide, ?_⟩
  intro c hc
  have : c = 'q' := by simpa [qKey] using hc
  subst this
  decide

theorem key_token_simple {p : Param} (hk : IsKey p.1) (hv : IsToken p.2) : SimpleParam p :=
  ⟨hk.noStar, hk.noContinuation, token_simple_value hv⟩

/-- one element of an Accept-style header: `value(;key=token)*(;q=token)?` -/
structure Elem where
  v : Str
  ps : List Param
  q : Option Str

/-- the parameters as `parse_options_header` sees them -/
def Elem.opts (e : Elem) : List Param :=
  e.ps ++ (match e.q with
    | none => []
    | some qs => [(qKey, qs)])

def Elem.text (e : Elem) : Str := e.v ++ semiParams e.opts

/-- well-formed: the value is made of token characters and `/`, parameter keys are distinct
lower-case words other than `q`, parameter values and the q text are non-empty tokens -/
structure Elem.WF (e : Elem) : Prop where
  value : IsValueText e.v
  params : ∀ p ∈ e.ps, IsKey p.1 ∧ p.1 ≠ qKey ∧ IsToken p.2
  nodup : (e.ps.map (·.1)).Nodup
  qtok : ∀ qs, e.q = some qs → IsToken qs

/-- the item text `parse_accept_header` rebuilds: `value; key=token; …` -/
def Elem.itemText (e : Elem) : Str := e.v ++ e.ps.flatMap fun p => ';' :: ' ' :: (p.1 ++ '=' :: p.2)

/-- what the element contributes to the parsed list -/
def Elem.item (e : Elem) : Option (Str × Q) :=
  match e.q with
  | none => some (e.itemText, Q.one)
  | some qs => (parseQ qs).map fun q => (e.itemText, q)

theorem Elem.WF.opts_ok {e : Elem} (h : e.WF) : ∀ p ∈ e.opts, IsKey p.1 ∧ IsToken p.2 := by
  intro p hp
  unfold Elem.opts at hp
  rcases List.mem_append.mp hp with hp | hp
  · exact ⟨(h.params p hp).1, (h.params p hp).2.2⟩
  · cases hq : e.q with
    | none => rw [hq] at hp; simp at hp
    | some qs =>
      rw [hq] at hp
      simp only [List.mem_singleton] at hp
      subst hp
      exact ⟨qKey_isKey, h.qtok qs hq⟩

theorem Elem.WF.opts_nodup {e : Elem} (h : e.WF) : (e.opts.map (·.1)).Nodup := by
  unfold Elem.opts
  cases hq : e.q with
  | none => simpa using h.nodup
  | some qs =>
    simp only [List.map_append, List.map_cons, List.map_nil]
    rw [List.nodup_append]
    refine ⟨h.nodup, by simp, ?_⟩
    intro a ha b hb
    simp only [List.mem_singleton] at hb
    subst hb
    obtain ⟨p, hp, rfl⟩ := List.mem_map.mp ha
    exact (h.params p hp).2.1

theorem quoteHeaderValue_token {v : Str} (h : IsToken v) : quoteHeaderValue v = v := by
  have hne := h.isEmpty
  have hall : v.all isTokChar = true := List.all_eq_true.mpr h.2
  simp [quoteHeaderValue, hne, hall]

theorem intercalate_cons (sep a : Str) (l : List Str) :
    sep.intercalate (a :: l) = a ++ l.flatMap (fun x => sep ++ x) := by
  induction l generalizing a with
  | nil => simp [List.intercalate]
  | cons b t ih =>
    have := ih b
    simp only [List.intercalate, List.intersperse_cons_cons, List.flatten_cons, List.flatMap_cons] at this ⊢
    rw [this]
    simp

theorem dumpOptionsHeader_params (v : Str) (ps : List Param)
    (h : ∀ p ∈ ps, IsKey p.1 ∧ IsToken p.2) :
    dumpOptionsHeader v ps = v ++ ps.flatMap fun p => ';' :: ' ' :: (p.1 ++ '=' :: p.2) := by
  unfold dumpOptionsHeader
  rw [intercalate_cons]
  congr 1
  induction ps with
  | nil => rfl
  | cons p t ih =>
    have hp := h p (by simp)
    simp only [List.map_cons, List.flatMap_cons]
    rw [ih (fun x hx => h x (by simp [hx]))]
    simp [hp.1.noStar, quoteHeaderValue_token hp.2]

theorem acceptItem_elem (e : Elem) (h : e.WF) : acceptItem e.v e.opts = e.item := by
  have hps : ∀ p ∈ e.ps, IsKey p.1 ∧ IsToken p.2 := fun p hp => ⟨(h.params p hp).1, (h.params p hp).2.2⟩
  have hnq : ∀ p ∈ e.ps, (p.1 == qKey) = false := by
    intro p hp
    simpa using (h.params p hp).2.1
  have hfind : e.ps.find? (fun x => x.1 == qKey) = none := by
    rw [List.find?_eq_none]
    intro p hp
    simp [hnq p hp]
  have hfilt : e.ps.filter (fun x => x.1 != qKey) = e.ps :=
    List.filter_eq_self.mpr fun p hp => by simpa using (h.params p hp).2.1
  have hdump : (if e.ps.isEmpty then e.v else dumpOptionsHeader e.v e.ps) = e.itemText := by
    unfold Elem.itemText
    cases hp : e.ps with
    | nil => simp
    | cons a t =>
      rw [← hp, dumpOptionsHeader_params e.v e.ps hps]
      simp [hp]
  unfold acceptItem Elem.item Elem.opts dictGet
  cases hq : e.q with
  | none =>
    simp only [List.append_nil, hfind, Option.map_none]
    rw [hdump]
  | some qs =>
    have hs : Py.strip qs = qs :=
      strip_noSpace (s := qs) (h.qtok qs hq).noSpace
    simp only [List.find?_append, hfind, List.find?_cons_of_pos, BEq.rfl, Option.none_or,
      Option.map_some, hs, List.filter_append, hfilt]
    cases parseQ qs with
    | none => rfl
    | some q =>
      simp only [Option.map_some]
      have : List.filter (fun x => x.1 != qKey) [(qKey, qs)] = [] := by simp
      rw [this, List.append_nil, hdump]

def headerText : List Elem → Str
  | [] => []
  | [e] => e.text
  | e :: rest => e.text ++ ',' :: headerText rest

/-- the texts `_q_value_re` (`-?\d+(\.\d+)?`) accepts, with the value they denote, restricted to
what the range check lets through (`0 ≤ q ≤ 1`; a minus sign only in front of zero) -/
def QText (s : Str) (q : Q) : Prop :=
  ∃ (neg : Bool) (ip fr : Str), ip ≠ [] ∧ (∀ c ∈ ip, isDigitA c = true) ∧ (∀ c ∈ fr, isDigitA c = true) ∧
    s = (if neg then ['-'] else []) ++ ip ++ (if fr.isEmpty then [] else '.' :: fr) ∧
    q = ⟨digitsVal (ip ++ fr), fr.length⟩ ∧ q.num ≤ 10 ^ q.scale ∧ (neg = true → q.num = 0)

/-- `_q_value_re` after the optional sign: the integer digits and the fraction digits -/
def qShape (body : Str) : Option (Str × Str) :=
  let ip := body.takeWhile isDigitA
  if ip.isEmpty then none else
  match body.dropWhile isDigitA with
  | [] => some (ip, [])
  | '.' :: fr => if !fr.isEmpty && fr.all isDigitA then some (ip, fr) else none
  | _ => none

/-- the range check on the decimal `ip.fr`: at most 1, and a minus sign only in front of zero -/
def qRange (neg : Bool) (p : Str × Str) : Option Q :=
  let q : Q := ⟨digitsVal (p.1 ++ p.2), p.2.length⟩
  if neg && q.num != 0 then none else if q.le Q.one then some q else none

theorem parseQBody_eq (neg : Bool) (body : Str) : parseQBody neg body = (qShape body).bind (qRange neg) := by
  unfold parseQBody qShape
  generalize body.takeWhile isDigitA = ip
  generalize body.dropWhile isDigitA = rest
  by_cases hip : ip.isEmpty = true
  · simp [hip]
  simp only [hip, Bool.false_eq_true, if_false]
  rcases rest with _ | ⟨c, fr⟩
  · simp [qRange]
  by_cases hc : c = '.'
  · subst hc
    by_cases hf : (!fr.isEmpty && fr.all isDigitA) = true
    · simp only [hf, if_true, Option.bind_some, qRange]
    · simp only [hf, Bool.false_eq_true, if_false, Option.bind_none]
  · simp [hc]
theorem qShape_eq_some_iff (body ip fr : Str) :
    qShape body = some (ip, fr) ↔
      ip ≠ [] ∧ (∀ c ∈ ip, isDigitA c = true) ∧ (∀ c ∈ fr, isDigitA c = true) ∧
      body = ip ++ (if fr.isEmpty then [] else '.' :: fr) := by
  constructor
  · intro h
    have hsplit := List.takeWhile_append_dropWhile (p := isDigitA) (l := body)
    have hipd : ∀ c ∈ body.takeWhile isDigitA, isDigitA c = true := fun c hc => mem_takeWhile hc
    unfold qShape at h
    generalize body.takeWhile isDigitA = ip' at h hsplit hipd
    generalize body.dropWhile isDigitA = rest at h hsplit
    by_cases hip : ip'.isEmpty = true
    · simp [hip] at h
    simp only [hip, Bool.false_eq_true, if_false] at h
    have hne : ip' ≠ [] := by simpa using hip
    rcases rest with _ | ⟨c, fr'⟩
    · cases h
      exact ⟨hne, hipd, nofun, by simpa using hsplit.symm⟩
    by_cases hc : c = '.'
    · subst hc
      by_cases hf : (!fr'.isEmpty && fr'.all isDigitA) = true
      · simp only [hf, if_true, Option.some.injEq, Prod.mk.injEq] at h
        obtain ⟨rfl, rfl⟩ := h
        simp only [Bool.and_eq_true, Bool.not_eq_eq_eq_not, Bool.not_true] at hf
        exact ⟨hne, hipd, List.all_eq_true.mp hf.2, by simp only [hf.1, Bool.false_eq_true, if_false]; exact hsplit.symm⟩
      · simp [hf] at h
    · simp [hc] at h
  · rintro ⟨hne, hip, hfr, rfl⟩
    have hipe : ip.isEmpty = false := List.isEmpty_eq_false_iff.mpr hne
    unfold qShape
    cases hfe : fr.isEmpty with
    | true =>
      have tw := takeWhile_all (p := isDigitA) ip hip
      have : fr = [] := by simpa using hfe
      simp [tw.1, tw.2, hipe, this]
    | false =>
      have tw := takeWhile_all_then (p := isDigitA) ip '.' fr hip (by decide)
      simp [tw.1, tw.2, hipe, hfe, List.all_eq_true.mpr hfr]

theorem qRange_eq_some_iff (neg : Bool) (p : Str × Str) (q : Q) :
    qRange neg p = some q ↔
      q = ⟨digitsVal (p.1 ++ p.2), p.2.length⟩ ∧ q.num ≤ 10 ^ q.scale ∧ (neg = true → q.num = 0) := by
  unfold qRange
  simp only
  constructor
  · intro h
    split at h
    · cases h
    · rename_i hng
      split at h
      · rename_i hle
        cases h
        exact ⟨rfl, by simpa [Q.le, Q.one] using hle, fun hn => by simpa [hn] using hng⟩
      · cases h
  · rintro ⟨rfl, hle, hneg⟩
    have hng : (neg && digitsVal (p.1 ++ p.2) != 0) = false := by
      cases neg with
      | true => simpa using hneg rfl
      | false => rfl
    have hle' : Q.le ⟨digitsVal (p.1 ++ p.2), p.2.length⟩ Q.one = true := by simpa [Q.le, Q.one] using hle
    simp only [hng, Bool.false_eq_true, if_false, hle', if_true]

theorem parseQ_iff (s : Str) (q : Q) : parseQ s = some q ↔ QText s q := by
  unfold parseQ QText
  simp only [parseQBody_eq, Option.bind_eq_some_iff, Prod.exists, qShape_eq_some_iff, qRange_eq_some_iff]
  constructor
  · rintro ⟨ip, fr, ⟨hne, hip, hfr, hb⟩, hq, hle, hneg⟩
    refine ⟨_, ip, fr, hne, hip, hfr, ?_, hq, hle, hneg⟩
    rw [List.append_assoc, ← hb]
    rcases s with _ | ⟨a, t⟩
    · rfl
    · by_cases ha : a = '-'
      · subst ha; rfl
      · simp [ha]
  · rintro ⟨neg, ip, fr, hne, hip, hfr, rfl, hq, hle, hneg⟩
    have hd : ip.head? ≠ some '-' := fun e => by
      have := hip '-' (List.mem_of_mem_head? e)
      revert this; decide
    have hn : ((((if neg = true then ['-'] else []) ++ ip ++ if fr.isEmpty = true then [] else '.' :: fr).head?
        == some '-') = neg) := by
      cases neg with
      | true => rfl
      | false =>
        obtain ⟨a, t, rfl⟩ := List.exists_cons_of_ne_nil hne
        simpa using hd
    rw [hn]
    refine ⟨ip, fr, ⟨hne, hip, hfr, ?_⟩, hq, hle, hneg⟩
    cases neg <;> simp

end Wz.Accept
