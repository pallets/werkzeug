/-
Rule factories commute with matching and building: a rule under `Submount('/a/b', …)` admits exactly the
paths `/a/b` + p for the paths p the inner rule admits (same groups), and builds `/a/b` + what the inner
rule builds. (`EndpointPrefix` / `Subdomain` do not touch the path side and need no lemma: `C04.endpoint_prefix_and_subdomain_expansion`.)
-/
import WzVerif.Model.RoutingFactory
import WzVerif.Lemmas.RoutingBuildSide
namespace Wz.Routing

/-- tokens of a literal mount path `/s1/s2/…` -/
def mountToks (lits : List Str) : List Tok := lits.flatMap fun s => [.slash, .lit s]

/-- text of a literal mount path -/
def mountText (lits : List Str) : Str := lits.flatMap fun s => '/' :: s

theorem rstripSlashToks_snoc (a : List Tok) (x : Tok) (hx : x ≠ .slash) : rstripSlashToks (a ++ [x]) = a ++ [x] := by
  have : (x == Tok.slash) = false := by simpa using hx
  simp [rstripSlashToks, this]

theorem mountToks_shape (lits : List Str) : mountToks lits = [] ∨ ∃ a s, mountToks lits = a ++ [.lit s] := by
  induction lits with
  | nil => exact .inl rfl
  | cons s t ih =>
    right
    rcases ih with h | ⟨a, s', h⟩
    · exact ⟨[.slash], s, by simp [mountToks] at h ⊢; simp [h]⟩
    · refine ⟨[.slash, .lit s] ++ a, s', ?_⟩
      simp only [mountToks, List.flatMap_cons] at h ⊢
      rw [h]; simp

theorem rstripSlashToks_mount (lits : List Str) : rstripSlashToks (mountToks lits) = mountToks lits := by
  rcases mountToks_shape lits with h | ⟨a, s, h⟩
  · rw [h]; rfl
  · rw [h]; exact rstripSlashToks_snoc a _ (by intro hc; cases hc)

/-- a trailing slash on the mount path is stripped (`Submount.__init__`: `path.rstrip("/")`) -/
theorem rstripSlashToks_mount_slash (lits : List Str) : rstripSlashToks (mountToks lits ++ [.slash]) = mountToks lits := by
  have : rstripSlashToks (mountToks lits ++ [.slash]) = rstripSlashToks (mountToks lits) := by
    simp [rstripSlashToks]
  rw [this, rstripSlashToks_mount]

theorem parseToks_mount (lits : List Str) (toks' : List Tok) :
    parseToks (mountToks lits ++ .slash :: toks') {} =
      (parseToks toks' {}).map fun (ps, cs) => (.static [] :: (lits.map Part.static ++ ps), cs) := by
  -- generalise over the literal collected so far
  suffices H : ∀ (lits : List Str) (pre : Str) (sw : List (Int × Int)),
      parseToks (mountToks lits ++ .slash :: toks') { pre := pre, staticWeights := sw } =
        (parseToks toks' {}).map fun (ps, cs) => (.static pre :: (lits.map Part.static ++ ps), cs) by
    exact H lits [] []
  intro lits
  induction lits with
  | nil =>
    intro pre sw
    simp only [mountToks, List.flatMap_nil, List.nil_append, parseToks, Bool.false_eq_true, if_false]
    cases parseToks toks' {} with
    | none => rfl
    | some pc => simp [PState.emit]
  | cons s t ih =>
    intro pre sw
    simp only [mountToks, List.flatMap_cons, List.cons_append, List.nil_append, parseToks, Bool.false_eq_true, if_false]
    have := ih s [((0 : Int), -(s.length : Int))]
    simp only [mountToks] at this
    simp only [List.length_nil, Int.ofNat_zero] at *
    rw [this]
    cases parseToks toks' {} with
    | none => rfl
    | some pc => simp [PState.emit]

theorem walkVia_statics (via : Via) : ∀ (lits : List Str) (ps : List Part) (rest : List Str),
    walkVia via (lits.map Part.static ++ ps) (lits ++ rest) = walkVia via ps rest
  | [], _, _ => rfl
  | s :: t, ps, rest => by
    simp only [List.map_cons, List.cons_append]
    rw [walkVia_static_cons, walkVia_statics via t ps rest]

/-- **a rule under a literal Submount admits `mount + p` exactly when the inner rule admits `p`**, with
the same converter groups — for each of the three ways of admitting (direct, extra slash, missing
slash), behind any one-segment domain part `d`. -/
theorem walkVia_submount (via : Via) (d : Part) (lits : List Str) (ps : List Part)
    (dom : Str) (rest : List Str) (hd : ∀ xs, step d (dom :: xs) = (step d [dom]).map fun ar => (ar.1, xs)) :
    walkVia via (d :: .static [] :: (lits.map Part.static ++ ps)) (dom :: [] :: (lits ++ rest)) =
      walkVia via (d :: .static [] :: ps) (dom :: [] :: rest) := by
  rw [walkVia_cons, walkVia_cons, hd ([] :: (lits ++ rest)), hd ([] :: rest)]
  cases step d [dom] with
  | none => rfl
  | some ar => simp only [Option.map_some, Option.bind_some, walkVia_static_cons, walkVia_statics]

theorem splitOn_mount (lits : List Str) (hl : ∀ s ∈ lits, noSlash s) (p : Str) :
    splitOn '/' (mountText lits ++ '/' :: p) = [] :: (lits ++ splitOn '/' p) := by
  induction lits with
  | nil => simp [mountText, splitOn]
  | cons s t ih =>
    have e : mountText (s :: t) ++ '/' :: p = [] ++ '/' :: (s ++ (mountText t ++ '/' :: p)) := by simp [mountText]
    rw [e, splitOn_append]
    have ih' := ih fun x hx => hl x (List.mem_cons_of_mem _ hx)
    -- what follows `s` starts with the slash of the next mount segment or of `p`
    obtain ⟨Y, hY⟩ : ∃ Y, mountText t ++ '/' :: p = '/' :: Y := by cases t <;> simp [mountText]
    rw [hY] at ih' ⊢
    rw [show ('/' :: Y) = [] ++ '/' :: Y from rfl, splitOn_append] at ih'
    rw [splitOn_append, splitOn_noSlash s (hl s (by simp))]
    simp only [splitOn, List.singleton_append, List.cons.injEq, true_and] at ih' ⊢
    rw [ih']; rfl

theorem traceToks_append (a b : List Tok) : traceToks (a ++ b) = traceToks a ++ traceToks b := by
  induction a with
  | nil => rfl
  | cons x t ih => cases x <;> simp [traceToks, ih]

theorem buildSide_mount (r : Rule) (values : List (Str × Value)) (lits : List Str) (tr : List TraceItem) :
    buildSide r values (traceToks (mountToks lits) ++ tr) =
      (buildSide r values tr).map fun u => (lits.flatMap fun s => '/' :: quote pathSafe s) ++ u := by
  induction lits with
  | nil => simp [mountToks, traceToks]; cases buildSide r values tr <;> rfl
  | cons s t ih =>
    simp only [mountToks, List.flatMap_cons, List.cons_append, List.nil_append, traceToks, buildSide] at ih ⊢
    rw [ih]
    cases buildSide r values tr with
    | error e => rfl
    | ok u =>
      simp only [Except.map, bind, Except.bind, pure, Except.pure]
      simp [quote_slash]

theorem mergeSlashToks_mount (lits : List Str) (t : List Tok) :
    mergeSlashToks (mountToks lits ++ t) = mountToks lits ++ mergeSlashToks t := by
  induction lits with
  | nil => rfl
  | cons s l ih =>
    simp only [mountToks, List.flatMap_cons, List.cons_append, List.nil_append] at ih ⊢
    simp only [mergeSlashToks]
    rw [ih]

end Wz.Routing
