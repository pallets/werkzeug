/-
Percent-encoded text and what it stands for (C15).

`den s`, the UTF-8 bytes of `s` percent-decoded, is the byte string the text `s` stands for, and
`unquote s = dec (den s)` (`unquote_eq`): that CPython decodes run by run is invisible. `wfk keep` is the `%XX` grammar
(every `%` starts an escape, no escape of a kept byte), with `wfk_induction` as its recursor. `Spells keep u B` says
that `u`, read in front of anything, is whole tokens of that grammar standing for the bytes `B`; it is closed under
concatenation, and what `quote`, the decoder and re-quoting write are instances. From these: `unquote` on well-formed
text (idempotent, stays in the grammar, splits at tokens with an ASCII value, introduces no kept character), and `quote`
keeps grammar and meaning when `%` is safe.
-/
import WzVerif.Lemmas.UrlDecode
namespace Wz.Url
open Wz

def toBytes (t : Str) : Bytes := t.map fun c => UInt8.ofNat c.toNat

theorem toBytes_append (a b : Str) : toBytes (a ++ b) = toBytes a ++ toBytes b := by simp [toBytes]

theorem toBytes_byteChar (b : UInt8) : toBytes [Char.ofNat b.toNat] = [b] := by
  simp [toBytes, toNat_ofNat_lt b.toNat_lt]

theorem hexVal_ne_pct {x : Char} {v : Nat} (h : hexVal? x = some v) : x ≠ '%' := by
  intro e; subst e; simp [hexVal?] at h

theorem ne_pct_of_nonascii {c : Char} (h : 128 ≤ c.toNat) : c ≠ '%' := by
  intro e; subst e; revert h; decide

theorem hexVal_lt {x : Char} {v : Nat} (h : hexVal? x = some v) : v < 16 := (hexVal_bounds h).2

theorem char_of_byte {c : Char} (ha : c.toNat < 128) : Char.ofNat (UInt8.ofNat c.toNat).toNat = c := by
  rw [uint8_toNat_ofNat_lt (by omega), Char.ofNat_toNat]

theorem byteChar_ne_pct {b : UInt8} (h : b ≠ 0x25) : Char.ofNat b.toNat ≠ '%' := by
  intro e
  apply h
  have := congrArg Char.toNat e
  rw [toNat_ofNat_lt b.toNat_lt] at this
  exact UInt8.toNat_inj.mp this

/-- is the byte an ASCII hex digit -/
def hexB (b : UInt8) : Bool := (hexVal? (Char.ofNat b.toNat)).isSome

def startsHex2 : Bytes → Bool
  | x :: y :: _ => hexB x && hexB y
  | _ => false

theorem hexB_lt {b : UInt8} (h : hexB b = true) : b < 0x80 := by
  obtain ⟨v, hv⟩ := Option.isSome_iff_exists.mp h
  have := hexVal_ascii hv
  rw [toNat_ofNat_lt b.toNat_lt] at this
  rw [UInt8.lt_iff_toNat_lt]; simpa using this

theorem hexB_high {h : UInt8} (hh : 0x80 ≤ h) : h ≠ 0x25 ∧ hexB h = false := by
  refine ⟨fun e => by subst e; exact absurd hh (by decide), ?_⟩
  cases hb : hexB h with
  | false => rfl
  | true =>
    have := hexB_lt hb
    rw [UInt8.le_iff_toNat_le] at hh; rw [UInt8.lt_iff_toNat_lt] at this
    simp at hh this; omega

theorem unquoteBytes_cons_ne {b : UInt8} (h : b ≠ 0x25) (rest : Bytes) :
    unquoteBytes (b :: rest) = b :: unquoteBytes rest := by
  match rest with
  | [] => simp [unquoteBytes]
  | [x] => simp [unquoteBytes]
  | x :: y :: t => simp [unquoteBytes, h]

theorem unquoteBytes_pct_lit {T : Bytes} (h : startsHex2 T = false) :
    unquoteBytes (0x25 :: T) = 0x25 :: unquoteBytes T := by
  match T, h with
  | [], _ => simp [unquoteBytes]
  | [x], _ => simp [unquoteBytes]
  | x :: y :: t, h =>
    simp only [startsHex2, hexB] at h
    cases hx : hexVal? (Char.ofNat x.toNat) <;> cases hy : hexVal? (Char.ofNat y.toNat) <;>
      simp [unquoteBytes, hx, hy] at h ⊢

theorem unquoteBytes_hex {x y : UInt8} {hi lo : Nat} (hx : hexVal? (Char.ofNat x.toNat) = some hi)
    (hy : hexVal? (Char.ofNat y.toNat) = some lo) (R : Bytes) :
    unquoteBytes (0x25 :: x :: y :: R) = UInt8.ofNat (16 * hi + lo) :: unquoteBytes R := by
  simp [unquoteBytes, hx, hy]

theorem unquoteBytes_no_pct : ∀ (X R : Bytes), (0x25 : UInt8) ∉ X → unquoteBytes (X ++ R) = X ++ unquoteBytes R
  | [], _, _ => rfl
  | b :: X, R, h => by
    rw [List.cons_append, unquoteBytes_cons_ne (fun e => h (by simp [e])),
      unquoteBytes_no_pct X R (fun m => h (List.mem_cons_of_mem _ m))]
    rfl

theorem utf8EncodeChar_no_pct {c : Char} (hc : c ≠ '%') : (0x25 : UInt8) ∉ String.utf8EncodeChar c :=
  fun hm => hc ((Utf8Facts.mem_utf8EncodeChar_ascii c 0x25 (by decide)).mp hm).symm

theorem utf8Enc_no_pct (s : Str) (h : '%' ∉ s) : (0x25 : UInt8) ∉ utf8Enc s :=
  fun hm => h ((Utf8Facts.mem_utf8Enc_ascii s 0x25 (by decide)).mp hm)

theorem startsHex2_append_nohex {h : UInt8} (hh : hexB h = false) (R : Bytes) :
    ∀ t : Bytes, startsHex2 (t ++ h :: R) = startsHex2 t
  | [] => by cases R <;> simp [startsHex2, hh]
  | [x] => by simp [startsHex2, hh]
  | x :: y :: t => rfl

/-- a byte that is neither `%` nor a hex digit is a token boundary of `_unquote_impl`, whatever
precedes it -/
theorem unquoteBytes_boundary {h : UInt8} (hp : h ≠ 0x25) (hh : hexB h = false) (R : Bytes) :
    ∀ (A : Bytes), unquoteBytes (A ++ h :: R) = unquoteBytes A ++ h :: unquoteBytes R
  | [] => by simp [unquoteBytes_cons_ne hp, unquoteBytes]
  | b :: t => by
    by_cases hb : b = 0x25
    · subst hb
      cases hs : startsHex2 t with
      | false =>
        rw [List.cons_append, unquoteBytes_pct_lit (by rw [startsHex2_append_nohex hh]; exact hs),
          unquoteBytes_pct_lit hs, unquoteBytes_boundary hp hh R t]
        rfl
      | true =>
        match t, hs with
        | x :: y :: t', hs =>
          simp only [startsHex2, Bool.and_eq_true] at hs
          obtain ⟨hi, hx⟩ := Option.isSome_iff_exists.mp hs.1
          obtain ⟨lo, hy⟩ := Option.isSome_iff_exists.mp hs.2
          simp only [List.cons_append]
          rw [unquoteBytes_hex hx hy, unquoteBytes_hex hx hy, unquoteBytes_boundary hp hh R t']
          rfl
    · rw [List.cons_append, unquoteBytes_cons_ne hb, unquoteBytes_cons_ne hb, unquoteBytes_boundary hp hh R t]
      rfl
termination_by A => A.length
decreasing_by all_goals (simp; try omega)

/-- bytes ≥ 0x80 are copied, and split what is around them -/
theorem unquoteBytes_high (A R : Bytes) {h : UInt8} {H : Bytes} (hh : 0x80 ≤ h) (hH : ∀ b ∈ H, 0x80 ≤ b) :
    unquoteBytes (A ++ h :: H ++ R) = unquoteBytes A ++ h :: H ++ unquoteBytes R := by
  have e : A ++ h :: H ++ R = A ++ h :: (H ++ R) := by simp
  rw [e, unquoteBytes_boundary (hexB_high hh).1 (hexB_high hh).2 _ A,
    unquoteBytes_no_pct H R (fun m => (hexB_high (hH _ m)).1 rfl)]
  simp

theorem unquoteBytes_ne : ∀ {B : Bytes}, B ≠ [] → unquoteBytes B ≠ []
  | [], h => absurd rfl h
  | [b], _ => by simp [unquoteBytes]
  | [b, x], _ => by simp [unquoteBytes]
  | b :: x :: y :: t, _ => by
    simp only [unquoteBytes]
    split
    · split <;> simp
    · simp

/-- the bytes a text stands for: its UTF-8 encoding, percent-decoded -/
def den (s : Str) : Bytes := unquoteBytes (utf8Enc s)

theorem unquoteAux_ascii : ∀ (a rest : Str) (acc : Bytes), (∀ c ∈ a, c.toNat < 128) →
    unquoteAux (a ++ rest) acc = unquoteAux rest ((toBytes a).reverse ++ acc)
  | [], _, _, _ => by simp [toBytes]
  | c :: a, rest, acc, h => by
    have hc := h c (by simp)
    simp only [List.cons_append, unquoteAux, hc, if_true]
    rw [unquoteAux_ascii a rest _ (fun x hx => h x (List.mem_cons_of_mem _ hx))]
    simp [toBytes]

theorem unquoteAux_nonascii (c : Char) (rest : Str) (acc : Bytes) (h : 128 ≤ c.toNat) :
    unquoteAux (c :: rest) acc = unquoteRun acc.reverse ++ c :: unquoteAux rest [] := by
  have : ¬ c.toNat < 128 := by omega
  simp [unquoteAux, this]

theorem unquote_run_tail (Ya : Str) (hYa : ∀ c ∈ Ya, c.toNat < 128) (acc : Bytes) (c : Char) (hc : 128 ≤ c.toNat)
    (Y' : Str) : unquoteAux (Ya ++ c :: Y') acc = unquoteRun (acc.reverse ++ toBytes Ya) ++ c :: unquoteAux Y' [] := by
  rw [unquoteAux_ascii Ya _ acc hYa, unquoteAux_nonascii c Y' _ hc]
  simp

theorem unquoteRun_eq (R : Bytes) : unquoteRun R = dec (unquoteBytes R) := by
  unfold unquoteRun
  exact decodeQ_eq (Nat.le_succ _)

/-- the scanner with a pending ASCII run `acc`: at a non-ASCII character the run is flushed, and the bytes of the
character split both `_unquote_impl` (`unquoteBytes_high`) and the decoder (`dec_append`) at that place -/
theorem unquoteAux_eq : ∀ (s : Str) (acc : Bytes),
    unquoteAux s acc = dec (unquoteBytes (acc.reverse ++ utf8Enc s))
  | [], acc => by simp [unquoteAux, unquoteRun_eq, dec, utf8Enc]
  | c :: t, acc => by
    rw [Utf8Facts.utf8Enc_cons]
    simp only [unquoteAux]
    split
    · rename_i hc
      rw [unquoteAux_eq t, Utf8Facts.utf8EncodeChar_ascii c hc]
      simp
    · rename_i hc
      obtain ⟨b0, cs, he, hcont⟩ := utf8EncodeChar_lead c
      have hhigh := Utf8Facts.utf8EncodeChar_high c (by omega)
      have h80 : ∀ b ∈ b0 :: cs, (0x80 : UInt8) ≤ b := fun b hb => by
        rw [UInt8.le_iff_toNat_le]; exact hhigh b (he ▸ hb)
      rw [unquoteAux_eq t [], unquoteRun_eq, ← List.append_assoc, he,
        unquoteBytes_high _ _ (h80 b0 (by simp)) (fun b hb => h80 b (List.mem_cons_of_mem _ hb)),
        List.append_assoc, dec_append (by intro b hb; simp at hb; subst hb; exact hcont), ← he,
        dec_encodeChar]
      rfl

/-- **`unquote` in one pass**: percent-decode the UTF-8 bytes of the text, decode the result. That CPython
works run by run (non-ASCII characters are copied, the ASCII runs between them decoded) makes no
difference: a non-ASCII character is read back from its own bytes whatever surrounds them. -/
theorem unquote_eq (s : Str) : unquote s = dec (den s) := by
  simpa [den, unquote] using unquoteAux_eq s []

theorem den_ascii {u : Str} (ha : ∀ c ∈ u, c.toNat < 128) : den u = unquoteBytes (toBytes u) := by
  rw [den, Utf8Facts.utf8Enc_ascii ha]; rfl

theorem unquote_ne {G : Str} (h : G ≠ []) : unquote G ≠ [] := by
  rw [unquote_eq]
  refine dec_ne (unquoteBytes_ne ?_)
  cases G with
  | nil => exact absurd rfl h
  | cons c t =>
    rw [Utf8Facts.utf8Enc_cons]
    exact fun e => String.utf8EncodeChar_ne_nil (List.append_eq_nil_iff.mp e).1

/-! ### the `%XX` grammar

`wfk` looks three characters ahead. Its equations on the two kinds of token (a literal other than `%`, an escape)
are stated once, and `wfk_induction` reads `wfk keep X = true` as a derivation in that grammar. -/

/-- `s` parses into literal characters other than `%` and escapes `%XY` whose byte is not in the
keep table ("well-formed, nothing kept") -/
def wfk (keep : List Bool) : Str → Bool
  | [] => true
  | c :: x :: y :: t =>
    if c = '%' then
      match hexVal? x, hexVal? y with
      | some hi, some lo => !tbl keep (16 * hi + lo) && wfk keep t
      | _, _ => false
    else wfk keep (x :: y :: t)
  | c :: t => if c = '%' then false else wfk keep t

/-- every `%` starts a two-hex-digit escape (the property's `%XX` grammar) -/
def wellFormed (s : Str) : Bool := wfk [] s

theorem wfk_cons_ne {keep : List Bool} {c : Char} (h : c ≠ '%') (Y : Str) :
    wfk keep (c :: Y) = wfk keep Y := by
  match Y with
  | [] => simp [wfk, h]
  | [_] => simp [wfk, h]
  | x :: y :: t => simp [wfk, h]

theorem wfk_esc {keep : List Bool} {x y : Char} {hi lo : Nat} (hx : hexVal? x = some hi)
    (hy : hexVal? y = some lo) (t : Str) :
    wfk keep ('%' :: x :: y :: t) = (!tbl keep (16 * hi + lo) && wfk keep t) := by
  simp [wfk, hx, hy]

theorem wfk_induction {keep : List Bool} {P : Str → Prop} (nil : P [])
    (lit : ∀ c Y, c ≠ '%' → wfk keep Y = true → P Y → P (c :: Y))
    (esc : ∀ x y hi lo t, hexVal? x = some hi → hexVal? y = some lo → tbl keep (16 * hi + lo) = false →
      wfk keep t = true → P t → P ('%' :: x :: y :: t)) : ∀ X, wfk keep X = true → P X
  | [], _ => nil
  | [c], h => by
    have hc : c ≠ '%' := by intro e; simp [wfk, e] at h
    exact lit c [] hc rfl nil
  | [c, x], h => by
    have hc : c ≠ '%' := by intro e; simp [wfk, e] at h
    rw [wfk_cons_ne hc] at h
    exact lit c [x] hc h (wfk_induction nil lit esc [x] h)
  | c :: x :: y :: t, h => by
    by_cases hc : c = '%'
    · subst hc
      simp only [wfk, if_true] at h
      cases hx : hexVal? x <;> cases hy : hexVal? y <;> simp only [hx, hy] at h <;> try (simp at h; done)
      simp only [Bool.and_eq_true, Bool.not_eq_true'] at h
      exact esc x y _ _ t hx hy h.1 h.2 (wfk_induction nil lit esc t h.2)
    · rw [wfk_cons_ne hc] at h
      exact lit c _ hc h (wfk_induction nil lit esc _ h)

theorem wfk_append {keep : List Bool} (X Y : Str) (h : wfk keep X = true) :
    wfk keep (X ++ Y) = wfk keep Y := by
  refine wfk_induction (P := fun X => wfk keep (X ++ Y) = wfk keep Y) rfl (fun c Z hc _ ih => ?_)
    (fun x y hi lo t hx hy hk _ ih => ?_) X h
  · rw [List.cons_append, wfk_cons_ne hc, ih]
  · simp only [List.cons_append]
    rw [wfk_esc hx hy, hk, ih]; rfl

theorem wfk_split_plain {keep : List Bool} {d : Char} (hp : d ≠ '%') (hh : hexVal? d = none) (b a : Str)
    (h : wfk keep (a ++ d :: b) = true) : wfk keep a = true ∧ wfk keep b = true := by
  refine wfk_induction (P := fun X => ∀ a, X = a ++ d :: b → wfk keep a = true ∧ wfk keep b = true)
    (fun a e => by cases a <;> cases e) (fun c Y hc hY ih a e => ?_)
    (fun x y hi lo t hx hy hk ht ih a e => ?_) _ h a rfl
  · cases a with
    | nil => exact ⟨rfl, (List.cons.inj e).2 ▸ hY⟩
    | cons c' a' =>
      obtain ⟨rfl, rfl⟩ := List.cons.inj e
      exact ⟨by rw [wfk_cons_ne hc]; exact (ih a' rfl).1, (ih a' rfl).2⟩
  · -- the cut cannot fall inside the escape: `d` is neither `%` nor a hex digit
    match a, e with
    | [], e => exact absurd (List.cons.inj e).1.symm hp
    | [_], e => rw [← (List.cons.inj (List.cons.inj e).2).1, hx] at hh; cases hh
    | [_, _], e => rw [← (List.cons.inj (List.cons.inj (List.cons.inj e).2).2).1, hy] at hh; cases hh
    | _ :: _ :: _ :: a', e =>
      simp only [List.cons_append, List.cons.injEq] at e
      obtain ⟨rfl, rfl, rfl, rfl⟩ := e
      exact ⟨by rw [wfk_esc hx hy, hk, (ih a' rfl).1]; rfl, (ih a' rfl).2⟩

theorem wfk_mono {keep : List Bool} (G : Str) (h : wfk keep G = true) : wfk [] G = true :=
  wfk_induction (P := fun G => wfk [] G = true) rfl (fun c Y hc _ ih => by rw [wfk_cons_ne hc]; exact ih)
    (fun x y hi lo t hx hy _ _ ih => by rw [wfk_esc hx hy, ih]; rfl) G h

/-- what the argument needs of a keep table: `%` itself is kept, no byte ≥ 0x80 is -/
def KeepOK (keep : List Bool) : Prop :=
  tbl keep 0x25 = true ∧ ∀ n, 128 ≤ n → n < 256 → tbl keep n = false

/-- `u` spells the bytes `B`: read in front of anything, `u` consists of whole tokens of the `%XX` grammar,
none of them an escape of a kept byte, and the tokens stand for `B` -/
structure Spells (keep : List Bool) (u : Str) (B : Bytes) : Prop where
  wf : ∀ Y, wfk keep (u ++ Y) = wfk keep Y
  reads : ∀ R, unquoteBytes (utf8Enc u ++ R) = B ++ unquoteBytes R

theorem Spells.nil {keep : List Bool} : Spells keep [] [] := ⟨fun _ => rfl, fun _ => rfl⟩

theorem Spells.append {keep : List Bool} {u v : Str} {B C : Bytes} (h1 : Spells keep u B) (h2 : Spells keep v C) :
    Spells keep (u ++ v) (B ++ C) :=
  ⟨fun Y => by rw [List.append_assoc, h1.wf, h2.wf],
   fun R => by rw [Utf8Facts.utf8Enc_append, List.append_assoc, h1.reads, h2.reads, List.append_assoc]⟩

theorem Spells.flatMap {keep : List Bool} {α : Type} {f : α → Str} {g : α → Bytes} :
    ∀ {l : List α}, (∀ a ∈ l, Spells keep (f a) (g a)) → Spells keep (l.flatMap f) (l.flatMap g)
  | [], _ => Spells.nil
  | a :: l, h => by
    simp only [List.flatMap_cons]
    exact (h a (by simp)).append (Spells.flatMap fun x hx => h x (List.mem_cons_of_mem _ hx))

theorem Spells.lit {keep : List Bool} {c : Char} (hc : c ≠ '%') : Spells keep [c] (String.utf8EncodeChar c) :=
  ⟨fun Y => wfk_cons_ne hc Y,
   fun R => by
    have : utf8Enc [c] = String.utf8EncodeChar c := by simp [utf8Enc]
    rw [this, unquoteBytes_no_pct _ _ (utf8EncodeChar_no_pct hc)]⟩

theorem Spells.esc {keep : List Bool} {x y : Char} {hi lo : Nat} (hx : hexVal? x = some hi)
    (hy : hexVal? y = some lo) (hk : tbl keep (16 * hi + lo) = false) :
    Spells keep ['%', x, y] [UInt8.ofNat (16 * hi + lo)] :=
  ⟨fun Y => by
    show wfk keep ('%' :: x :: y :: Y) = _
    rw [wfk_esc hx hy, hk]; rfl,
   fun R => by
    have e : utf8Enc ['%', x, y] = [0x25, UInt8.ofNat x.toNat, UInt8.ofNat y.toNat] := by
      simp [utf8Enc, Utf8Facts.utf8EncodeChar_ascii _ (hexVal_ascii hx),
        Utf8Facts.utf8EncodeChar_ascii _ (hexVal_ascii hy),
        Utf8Facts.utf8EncodeChar_ascii '%' (by decide)]
    rw [e]
    exact unquoteBytes_hex (by rw [char_of_byte (hexVal_ascii hx)]; exact hx)
      (by rw [char_of_byte (hexVal_ascii hy)]; exact hy) R⟩

theorem Spells.wfk_eq {keep : List Bool} {u : Str} {B : Bytes} (h : Spells keep u B) : wfk keep u = true := by
  have := h.wf []
  rwa [List.append_nil] at this

theorem Spells.den_eq {keep : List Bool} {u : Str} {B : Bytes} (h : Spells keep u B) : den u = B := by
  have := h.reads []
  rwa [List.append_nil, show unquoteBytes [] = [] from rfl, List.append_nil] at this

theorem Spells.den_append {keep : List Bool} {u : Str} {B : Bytes} (h : Spells keep u B) (Y : Str) :
    den (u ++ Y) = B ++ den Y := by
  rw [den, Utf8Facts.utf8Enc_append, h.reads]; rfl

theorem Spells.of_wfk {keep : List Bool} : ∀ X, wfk keep X = true → Spells keep X (den X) :=
  wfk_induction (P := fun X => Spells keep X (den X)) Spells.nil
    (fun c Y hc _ ih => by
      have := (Spells.lit (keep := keep) hc).append ih
      rwa [← this.den_eq] at this)
    (fun x y hi lo t hx hy hk _ ih => by
      have := (Spells.esc hx hy hk).append ih
      rwa [← this.den_eq] at this)

theorem Spells.unquote_eq_dec {keep : List Bool} {u : Str} {B : Bytes} (h : Spells keep u B) : unquote u = dec B := by
  rw [unquote_eq, h.den_eq]

theorem Spells.of_pct {keep : List Bool} {b : UInt8} (hb : tbl keep b.toNat = false) : Spells keep (pct b) [b] := by
  have hlt := b.toNat_lt
  have hv : 16 * (b.toNat / 16) + b.toNat % 16 = b.toNat := by omega
  have := Spells.esc (keep := keep) (hexVal_hexU (b.toNat / 16) (by omega))
    (hexVal_hexU (b.toNat % 16) (Nat.mod_lt _ (by decide))) (by rw [hv]; exact hb)
  rwa [hv, UInt8.ofNat_toNat] at this

theorem Spells.of_pcts {keep : List Bool} {span : Bytes} (h : ∀ b ∈ span, tbl keep b.toNat = false) :
    Spells keep (span.flatMap pct) span := by
  have := Spells.flatMap (keep := keep) (f := pct) (g := fun b => [b]) (l := span) (fun b hb => Spells.of_pct (h b hb))
  rwa [List.flatMap_singleton'] at this

theorem Spells.byteChar {keep : List Bool} {b : UInt8} (hlt : b.toNat < 128) (hne : b ≠ 0x25) :
    Spells keep [Char.ofNat b.toNat] [b] := by
  have := Spells.lit (keep := keep) (byteChar_ne_pct hne)
  rwa [Utf8Facts.utf8EncodeChar_ascii _ (by rw [toNat_ofNat_lt b.toNat_lt]; exact hlt),
    toNat_ofNat_lt b.toNat_lt, UInt8.ofNat_toNat] at this

/-- what `quote` writes for a byte spells that byte, unless it is a `%` left raw or an escape of a kept byte -/
theorem Spells.of_quoteByte {keep : List Bool} {safe : Str} {b : UInt8} (h1 : isSafe safe b = true → b ≠ 0x25)
    (h2 : isSafe safe b = false → tbl keep b.toNat = false) : Spells keep (quoteByte safe b) [b] := by
  unfold quoteByte
  split
  · rename_i hs
    exact Spells.byteChar (isSafe_lt hs) (h1 hs)
  · rename_i hs
    exact Spells.of_pct (h2 (by simpa using hs))

theorem Spells.of_quoteBytes {keep : List Bool} {safe : Str} {B : Bytes}
    (h : ∀ b ∈ B, (isSafe safe b = true → b ≠ 0x25) ∧ (isSafe safe b = false → tbl keep b.toNat = false)) :
    Spells keep (quoteBytes safe B) B := by
  have := Spells.flatMap (keep := keep) (f := quoteByte safe) (g := fun b => [b]) (l := B)
    (fun b hb => Spells.of_quoteByte (h b hb).1 (h b hb).2)
  rwa [List.flatMap_singleton'] at this

theorem high_not_kept {keep : List Bool} (hk : ∀ n, 128 ≤ n → n < 256 → tbl keep n = false) {b : UInt8}
    (hb : 0x80 ≤ b) : tbl keep b.toNat = false :=
  hk b.toNat (by rw [UInt8.le_iff_toNat_le] at hb; simpa using hb) b.toNat_lt

theorem Spells.of_render {keep : List Bool} (hk : ∀ n, 128 ≤ n → n < 256 → tbl keep n = false) (b0 : UInt8) (t : Bytes)
    (h25 : (0x25 : UInt8) ∉ (firstItem b0 t).raw) :
    Spells keep (render (firstItem b0 t)) (firstItem b0 t).raw := by
  rcases render_firstItem b0 t with ⟨hb, hr, hraw⟩ | ⟨span, hr, hraw, _, hs⟩ | ⟨c, hr, hraw, hc, _⟩ <;> rw [hr, hraw]
  · exact Spells.byteChar (UInt8.lt_iff_toNat_lt.mp hb) (fun e => h25 (by rw [hraw, e]; simp))
  · exact Spells.of_pcts fun b hb => high_not_kept hk (hs b hb)
  · exact Spells.lit (ne_pct_of_nonascii hc)

/-- **decoded text spells the bytes it was decoded from** (no `%` among them): characters are read back from
their encodings, re-quoted undecodable bytes from their escapes -/
theorem Spells.of_dec {keep : List Bool} (hk : ∀ n, 128 ≤ n → n < 256 → tbl keep n = false) {B : Bytes} (h25 : (0x25 : UInt8) ∉ B) :
    Spells keep (dec B) B := by
  have := Spells.flatMap (keep := keep) (f := render) (g := Item.raw) (l := its B) (fun I hI => by
    obtain ⟨b0, t, rfl, _⟩ := mem_its hI
    exact Spells.of_render hk b0 t (fun hm => h25 (its_raw B ▸ List.mem_flatMap.mpr ⟨_, hI, hm⟩)))
  rwa [its_raw] at this

/-- where the bytes of well-formed text come from: a raw character other than `%`, or an escape that is
not kept -/
theorem den_origin {keep : List Bool} : ∀ G, wfk keep G = true → ∀ b ∈ den G,
    (∃ c ∈ G, c ≠ '%' ∧ b ∈ String.utf8EncodeChar c) ∨ tbl keep b.toNat = false :=
  wfk_induction (P := fun G => ∀ b ∈ den G, (∃ c ∈ G, c ≠ '%' ∧ b ∈ String.utf8EncodeChar c) ∨ tbl keep b.toNat = false)
    (fun b hb => by cases hb)
    (fun c Y hc _ ih b hb => by
      rw [show den (c :: Y) = _ from (Spells.lit (keep := keep) hc).den_append Y] at hb
      rcases List.mem_append.mp hb with hb | hb
      · exact Or.inl ⟨c, by simp, hc, hb⟩
      · exact (ih b hb).imp (fun ⟨d, hd, h⟩ => ⟨d, List.mem_cons_of_mem _ hd, h⟩) id)
    (fun x y hi lo t hx hy hk _ ih b hb => by
      rw [show den ('%' :: x :: y :: t) = _ from (Spells.esc hx hy hk).den_append t] at hb
      rcases List.mem_cons.mp hb with rfl | hb
      · right
        rwa [uint8_toNat_ofNat_lt (by have := hexVal_lt hx; have := hexVal_lt hy; omega)]
      · exact (ih b hb).imp (fun ⟨d, hd, h⟩ => ⟨d, by simp [hd], h⟩) id)

theorem den_no_pct {keep : List Bool} (hk : tbl keep 0x25 = true) {G : Str} (hw : wfk keep G = true) :
    (0x25 : UInt8) ∉ den G := by
  intro hm
  rcases den_origin G hw _ hm with ⟨c, _, hne, hb⟩ | h
  · exact utf8EncodeChar_no_pct hne hb
  · rw [show (0x25 : UInt8).toNat = 0x25 from rfl, hk] at h; cases h

theorem unquote_idem {keep : List Bool} (hk : KeepOK keep) (G : Str) (hw : wfk keep G = true) :
    unquote (unquote G) = unquote G := by
  rw [(Spells.of_wfk G hw).unquote_eq_dec, (Spells.of_dec hk.2 (den_no_pct hk.1 hw)).unquote_eq_dec]

theorem wfk_unquote {keep : List Bool} (hk : KeepOK keep) (G : Str) (hw : wfk keep G = true) :
    wfk keep (unquote G) = true := by
  rw [(Spells.of_wfk G hw).unquote_eq_dec]
  exact (Spells.of_dec hk.2 (den_no_pct hk.1 hw)).wfk_eq

/-- a kept character that is neither `%` nor a hex digit -/
structure KeptChar (keep : List Bool) (d : Char) : Prop where
  ascii : d.toNat < 128
  kept : tbl keep d.toNat = true
  not_hex : hexVal? d = none
  not_pct : d ≠ '%'

theorem mem_pct_hex {b : UInt8} {d : Char} (h : d ∈ pct b) : d = '%' ∨ ∃ v, hexVal? d = some v :=
  (mem_pct h).imp_right fun ⟨k, hk, e⟩ => ⟨k, e ▸ hexVal_hexU k hk⟩

theorem kept_mem_unquote {keep : List Bool} {d : Char} (hd : KeptChar keep d) (G : Str) (hw : wfk keep G = true)
    (h : d ∈ unquote G) : d ∈ G := by
  rw [(Spells.of_wfk G hw).unquote_eq_dec] at h
  obtain ⟨I, hI, hdI⟩ := List.mem_flatMap.mp h
  obtain ⟨b0, t, rfl, hb0⟩ := mem_its hI
  rcases render_firstItem b0 t with ⟨hb, hr, _⟩ | ⟨span, hr, _⟩ | ⟨c, hr, _, hc, _⟩ <;> rw [hr] at hdI
  · simp only [List.mem_singleton] at hdI
    rcases den_origin G hw b0 hb0 with ⟨c, hca, _, e⟩ | e
    · rw [hdI, (Utf8Facts.mem_utf8EncodeChar_ascii c b0 (UInt8.lt_iff_toNat_lt.mp hb)).mp e]; exact hca
    · have : d.toNat = b0.toNat := by rw [hdI, toNat_ofNat_lt b0.toNat_lt]
      rw [← this, hd.kept] at e
      cases e
  · exfalso
    obtain ⟨b, _, hb⟩ := List.mem_flatMap.mp hdI
    rcases mem_pct_hex hb with e | ⟨v, e⟩
    · exact hd.not_pct e
    · rw [hd.not_hex] at e; cases e
  · exfalso
    simp only [List.mem_singleton] at hdI
    have := hd.ascii
    rw [hdI] at this
    omega

/-- an ASCII character other than `%` -/
structure Plain (d : Char) : Prop where
  ascii : d.toNat < 128
  not_pct : d ≠ '%'

theorem KeptChar.plain {keep : List Bool} {d : Char} (h : KeptChar keep d) : Plain d := ⟨h.ascii, h.not_pct⟩

/-- **`unquote` splits at a token with an ASCII value** that follows token-aligned text -/
theorem unquote_split_tok {k1 k2 : List Bool} {X tok : Str} {B : Bytes} {v : UInt8} (hX : Spells k1 X B)
    (ht : Spells k2 tok [v])
    (hv : v < 0x80) (Y : Str) : unquote (X ++ tok ++ Y) = unquote X ++ Char.ofNat v.toNat :: unquote Y := by
  rw [hX.unquote_eq_dec, unquote_eq Y, unquote_eq (X ++ tok ++ Y), List.append_assoc, hX.den_append, ht.den_append,
    dec_append (by intro b hb; simp at hb; subst hb; exact ascii_not_cont hv)]
  exact congrArg _ (dec_ascii_cons hv _)

theorem unquote_split_plain {keep : List Bool} {d : Char} (hd : Plain d) (Y : Str) {X : Str} (hw : wfk keep X = true) :
    unquote (X ++ d :: Y) = unquote X ++ d :: unquote Y := by
  have hb : UInt8.ofNat d.toNat < 0x80 := by
    rw [UInt8.lt_iff_toNat_lt, uint8_toNat_ofNat_lt (by have := hd.ascii; omega)]; exact hd.ascii
  have ht : Spells [] [d] [UInt8.ofNat d.toNat] := by
    have := Spells.lit (keep := []) hd.not_pct
    rwa [Utf8Facts.utf8EncodeChar_ascii _ hd.ascii] at this
  have := unquote_split_tok (Spells.of_wfk X hw) ht hb Y
  rwa [char_of_byte hd.ascii, List.append_assoc] at this

theorem quote_singleton (safe : Str) (c : Char) : quote safe [c] = quoteBytes safe (String.utf8EncodeChar c) := by
  simp [quote, utf8Enc]

theorem quote_byteChar (safe : Str) {b : UInt8} (h : b.toNat < 128) : quote safe [Char.ofNat b.toNat] = quoteByte safe b := by
  rw [quote_singleton, Utf8Facts.utf8EncodeChar_ascii _ (by rw [toNat_ofNat_lt b.toNat_lt]; exact h),
    toNat_ofNat_lt b.toNat_lt, UInt8.ofNat_toNat]
  simp [quoteBytes]

theorem quote_flatMap (safe : Str) (f : α → Str) : ∀ (l : List α),
    quote safe (l.flatMap f) = l.flatMap fun x => quote safe (f x)
  | [] => by simp [quote, quoteBytes, utf8Enc]
  | x :: l => by simp only [List.flatMap_cons, quote_append, quote_flatMap safe f l]

theorem fixed_pct {safe : Str} (hp : safe.contains '%' = true) (b : UInt8) : ∀ c ∈ pct b, Fixed safe c := fun _ hc =>
  (mem_pct hc).elim (fun e => e ▸ fixed_percent hp) fun ⟨d, hd, e⟩ => e ▸ fixed_hexU d hd

/-- condition on the bytes a text stands for: an ASCII byte is left raw by `quote`, or its escape is not kept -/
def ByteOK (safe : Str) (keep : List Bool) (b : UInt8) : Prop :=
  b.toNat < 128 → isSafe safe b = true ∨ tbl keep b.toNat = false

/-- with `%` safe, `quote` leaves an escape alone: hex digits always are -/
theorem fixed_esc {safe : Str} (hp : safe.contains '%' = true) {x y : Char} {hi lo : Nat} (hx : hexVal? x = some hi)
    (hy : hexVal? y = some lo) : ∀ c ∈ ['%', x, y], Fixed safe c := by
  intro d hd
  simp only [List.mem_cons, List.mem_nil_iff, or_false] at hd
  rcases hd with rfl | rfl | rfl
  · exact fixed_percent hp
  · exact fixed_of_hex hx
  · exact fixed_of_hex hy

theorem Spells.of_quote_esc {keep : List Bool} {safe : Str} (hp : safe.contains '%' = true) {x y : Char} {hi lo : Nat}
    (hx : hexVal? x = some hi) (hy : hexVal? y = some lo) (hk : tbl keep (16 * hi + lo) = false) :
    Spells keep (quote safe ['%', x, y]) [UInt8.ofNat (16 * hi + lo)] := by
  rw [quote_of_fixed _ (fixed_esc hp hx hy)]
  exact Spells.esc hx hy hk

/-- **re-quoting decoded text spells the same bytes**, when `%` is safe and each ASCII byte is left raw by
`quote` or is not kept: no kept escape appears -/
theorem Spells.of_requote {safe : Str} {keep : List Bool} (hp : safe.contains '%' = true) (hk : KeepOK keep)
    {B : Bytes} (h25 : (0x25 : UInt8) ∉ B) (hB : ∀ b ∈ B, ByteOK safe keep b) :
    Spells keep (quote safe (dec B)) B := by
  rw [dec, quote_flatMap]
  have := Spells.flatMap (keep := keep) (f := fun I => quote safe (render I)) (g := Item.raw) (l := its B) (fun I hI => by
    obtain ⟨b0, t, rfl, hb0⟩ := mem_its hI
    show Spells keep (quote safe (render (firstItem b0 t))) (firstItem b0 t).raw
    rcases render_firstItem b0 t with ⟨hb, hr, hraw⟩ | ⟨span, hr, hraw, _, hs⟩ | ⟨c, hr, hraw, _, hs⟩ <;> rw [hr, hraw]
    · -- an ASCII byte: `quote` writes it raw or as an escape
      rw [quote_byteChar safe (UInt8.lt_iff_toNat_lt.mp hb)]
      exact Spells.of_quoteByte (fun _ e => h25 (e ▸ hb0))
        (fun hs => (hB b0 hb0 (UInt8.lt_iff_toNat_lt.mp hb)).resolve_left (by simp [hs]))
    · -- an undecodable span: its escapes are left alone
      rw [quote_of_fixed _ (fun c hc => by
        obtain ⟨b, _, hb⟩ := List.mem_flatMap.mp hc
        exact fixed_pct hp b c hb)]
      exact Spells.of_pcts fun b hb => high_not_kept hk.2 (hs b hb)
    · -- a multi-byte character: its bytes are written as escapes
      rw [quote_singleton, quoteBytes_high safe _ hs]
      exact Spells.of_pcts fun b hb => high_not_kept hk.2 (hs b hb))
  rwa [its_raw] at this

/-- for a fully quoted, kept-free segment `G`: `quote` of `unquote G` is kept-free again and unquotes to the same -/
theorem requote_segment {safe : Str} {keep : List Bool} (hp : safe.contains '%' = true) (hk : KeepOK keep)
    {G : Str} (hf : ∀ c ∈ G, Fixed safe c) (hw : wfk keep G = true) :
    wfk keep (quote safe (unquote G)) = true ∧ unquote (quote safe (unquote G)) = unquote G := by
  have h := Spells.of_requote hp hk (den_no_pct hk.1 hw) (byteOK_den G hf hw)
  rw [(Spells.of_wfk G hw).unquote_eq_dec]
  exact ⟨h.wfk_eq, h.unquote_eq_dec⟩
where
  byteOK_den {safe : Str} {keep : List Bool} (a : Str) (ha : ∀ c ∈ a, Fixed safe c) (hw : wfk keep a = true) :
      ∀ b ∈ den a, ByteOK safe keep b := by
    intro b hb hlt
    rcases den_origin a hw b hb with ⟨c, hc, _, hbc⟩ | h
    · left
      have h2 := (ha c hc).2
      rwa [← (Utf8Facts.mem_utf8EncodeChar_ascii c b hlt).mp hbc, toNat_ofNat_lt b.toNat_lt, UInt8.ofNat_toNat] at h2
    · exact Or.inr h

/-- **`quote` with `%` in the safe set keeps what `%XX`-well-formed text stands for**, and keeps it well-formed
-/
theorem Spells.of_quote_wf {safe : Str} (hp : safe.contains '%' = true) :
    ∀ s, wellFormed s = true → Spells [] (quote safe s) (den s) :=
  wfk_induction (P := fun s => Spells [] (quote safe s) (den s)) Spells.nil
    (fun c Y hc _ ih => by
      rw [show c :: Y = [c] ++ Y from rfl, quote_append, quote_singleton, (Spells.lit (keep := []) hc).den_append Y]
      exact (Spells.of_quoteBytes fun b hb => ⟨fun _ e => utf8EncodeChar_no_pct hc (e ▸ hb), fun _ => rfl⟩).append ih)
    (fun x y hi lo t hx hy _ _ ih => by
      rw [show '%' :: x :: y :: t = ['%', x, y] ++ t from rfl, quote_append,
        (Spells.esc (keep := []) hx hy rfl).den_append t]
      exact (Spells.of_quote_esc hp hx hy rfl).append ih)

theorem wellFormed_quote {safe : Str} (hp : safe.contains '%' = true) (s : Str)
    (h : wellFormed s = true) : wellFormed (quote safe s) = true :=
  (Spells.of_quote_wf hp s h).wfk_eq

end Wz.Url
