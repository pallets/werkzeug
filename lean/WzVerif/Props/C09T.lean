/-
C09T — `werkzeug.sansio.utils.get_content_length` and `werkzeug._internal._plain_int` *as
regenerated from the source* by `tools/py2lean.py` (`Gen/PyFns_Length.lean`,
`Gen/PyFns_Internal.lean`, rewritten on every check run) are equal, for all inputs, to the
hand-written model functions (`Model/LimitedStream.lean` `getContentLength`; the prelude's
`plainInt`, which stream prelude-kernels compares with the real `_plain_int`).
-/
import WzVerif.Gen.PyFns_Length
import WzVerif.Lemmas.PyFnsEq_Internal
import WzVerif.Lemmas.PyFns_Length
namespace Wz.Props.C09T
open Wz Wz.Pre Wz.PyFnsLength

/-- The translation maps `_plain_int_re.fullmatch` to the prelude's hand-written matcher for
`-?\d+` under `re.ASCII`; this pins the pattern source and flags of the live regex object. -/
theorem plain_int_re_pinned : Gen.PyFns_Internal.plainIntRe = ("-?\\d+", 256) := by decide

/-- `_plain_int`, as translated from the current source (`strip`, the `fullmatch` guard raising
`ValueError`, `int`), equals the prelude's `plainInt` for every text: in particular `int()` is only
ever reached with a text of the form `-?[0-9]+` (the only part of `int()` that is modelled), and
the only exception is `ValueError`. -/
theorem plain_int_eq (v : List Char) : Gen.PyFns_Internal.plain_int v = Pre.plainInt v := Pre.plain_int_eq v

/-- `get_content_length`, as translated from the current source (the `chunked` / `None` guard,
`try: return max(0, _plain_int(...)) except ValueError: return 0`), returns exactly the model's
`getContentLength` (a natural number or `None`) for every pair of header values; the model's
`chunked` flag is the comparison `http_transfer_encoding == "chunked"`. -/
theorem get_content_length_eq (cl te : Option (List Char)) :
    Gen.PyFns_Length.get_content_length cl te
      = (LS.getContentLength cl (te == some ['c', 'h', 'u', 'n', 'k', 'e', 'd'])).map
          Int.ofNat := by
  unfold Gen.PyFns_Length.get_content_length LS.getContentLength
  cases cl with
  | none => simp
  | some v =>
    simp only [plain_int_eq, ls_plainInt_eq]
    by_cases hc : te = some ['c', 'h', 'u', 'n', 'k', 'e', 'd']
    · simp [hc]
    · have hb : (te == some ['c', 'h', 'u', 'n', 'k', 'e', 'd']) = false := by simpa using hc
      simp only [hb]
      cases Pre.plainInt v <;> simp [Except.toOption]
      omega

/-- The regenerated `get_content_length` never returns a negative length (the assumption
"limit and max_content_length are natural numbers" of C09, as a theorem about the translated code). -/
theorem get_content_length_nonneg (cl te : Option (List Char)) (n : Int)
    (h : Gen.PyFns_Length.get_content_length cl te = some n) : 0 ≤ n := by
  rw [get_content_length_eq] at h
  obtain ⟨k, _, hk⟩ := Option.map_eq_some_iff.mp h
  rw [← hk]
  exact Int.natCast_nonneg k

example : Gen.PyFns_Length.get_content_length (some " -12 ".toList) none = some 0 := by decide
example : Gen.PyFns_Length.get_content_length (some "42".toList) (some "gzip".toList) = some 42 := by
  decide

/-- the outcome of the model's `getInputStream` read as the outcome of the function: `tooLarge` is the
raised `RequestEntityTooLarge`, every other choice is returned -/
def choiceView : LS.Choice → Except String LS.Choice
  | .tooLarge => .error "RequestEntityTooLarge"
  | c => .ok c

/-- `wsgi.get_content_length(environ)`, as translated from the current source: the sansio function on
the two environ entries `CONTENT_LENGTH` and `HTTP_TRANSFER_ENCODING` (the key texts are part of the
translated definition). -/
theorem wsgi_get_content_length_eq (environ : List (List Char × List Char)) :
    Gen.PyFns_Length.wsgi_get_content_length environ
      = (LS.getContentLength (Pre.dictGet? environ "CONTENT_LENGTH".toList)
          (Pre.dictGet? environ "HTTP_TRANSFER_ENCODING".toList == some "chunked".toList)).map Int.ofNat := by
  repeat rw [String.toList_ofList]
  exact get_content_length_eq _ _

/-- `wsgi.get_input_stream(environ, safe_fallback, max_content_length)`, as translated from the current
source (the declared length against `max_content_length` first - RequestEntityTooLarge -, then
`wsgi.input_terminated`: a `LimitedStream` with `is_max=True` or the raw stream, else no length: an empty
stream / the raw stream, else a `LimitedStream` of the declared length), makes exactly the choice of the
model's `getInputStream`, for every environ, both flags and every limit (a natural number, or `None`). -/
theorem get_input_stream_eq (terminated : Bool) (environ : List (List Char × List Char)) (safe : Bool)
    (max : Option Nat) :
    Gen.PyFns_Length.get_input_stream terminated environ safe (max.map Int.ofNat)
      = choiceView (LS.getInputStream (Pre.dictGet? environ "CONTENT_LENGTH".toList)
          (Pre.dictGet? environ "HTTP_TRANSFER_ENCODING".toList == some "chunked".toList) terminated max safe) := by
  unfold Gen.PyFns_Length.get_input_stream LS.getInputStream
  rw [wsgi_get_content_length_eq]
  generalize LS.getContentLength (Pre.dictGet? environ "CONTENT_LENGTH".toList)
    (Pre.dictGet? environ "HTTP_TRANSFER_ENCODING".toList == some "chunked".toList) = n
  cases n with
  | none =>
    cases max <;> cases terminated <;> cases safe <;>
      simp [choiceView, Gen.PyFns_Length.choiceLimited]
  | some n =>
    cases max with
    | none => cases terminated <;> simp [choiceView, Gen.PyFns_Length.choiceLimited]
    | some m =>
      by_cases h : n > m
      · have h' : (Int.ofNat n) > (Int.ofNat m) := by simp only [Int.ofNat_eq_natCast]; omega
        simp [h, choiceView]
      · have h' : ¬ (m : Int) < (n : Int) := by omega
        cases terminated <;> simp [h, h', choiceView, Gen.PyFns_Length.choiceLimited]

end Wz.Props.C09T
