/-
`get_content_length` / `_plain_int` (Props/C09T): the model of `Model/LimitedStream.lean` reads the number itself and
returns an `Option`; that is the prelude's `_plain_int` with the `ValueError` forgotten.
-/
import WzVerif.Model.LimitedStream
import WzVerif.Lemmas.PyFns_Prelude
namespace Wz.PyFnsLength
open Wz Wz.Pre

theorem digitsVal_eq (ds : Str) : LS.digitsVal ds = Pre.digitsVal ds := rfl
theorem isDigit_eq : LS.isAsciiDigit = Pre.isDigitA := rfl

theorem ls_plainInt_eq (v : Str) : LS.plainInt v = (Pre.plainInt v).toOption := by
  unfold LS.plainInt
  simp only [isDigit_eq, digitsVal_eq]
  split
  · rename_i ds h
    rw [Pre.plainInt_neg h]
    rw [apply_ite Except.toOption]; rfl
  · rename_i h
    rw [Pre.plainInt_pos (fun e => by
      cases hs : Py.strip v with
      | nil => rw [hs] at e; cases e
      | cons c t => rw [hs] at e; cases e; exact h t hs)]
    rw [apply_ite Except.toOption]; rfl

end Wz.PyFnsLength
