/-
`parse_csp_header`, `dump_csp_header`, `parse_dict_header` and `parse_cache_control_header` of `werkzeug.http` *as regenerated
from the source* by `tools/py2lean.py` (`Gen/PyFns_HttpDict.lean`, rewritten on every check run) are equal, for all inputs, to
the hand-written model functions of `Model/Http.lean` (`parseCsp`, `dumpCsp`, `parseDictHeader`, `parseCacheControl`) that the
C06 / C16 theorems are about; the equalities are exact (values and errors). The statements are restated, with what they stand
for, in `Props/C06T2`.

Each loop is one turn (`…_step`) plus an induction. The emitted body of a turn is compared with the model's pure step
(`Http.itemOf` / `Http.dictStepP`, Lemmas/HttpCC.lean) idiom by idiom: a recurring piece of emitted text is the literal left-hand
side of one lemma with arbitrary continuations (`star_step`, `dq_step` in PyFns_HttpList; `unquote_guard` here). `Continues`
says that an outcome of the body goes on with the loop, whatever it left in the dead re-assigned parameter `value`.
-/
import WzVerif.Props.C06T
import WzVerif.Gen.PyFns_HttpDict
import WzVerif.Lemmas.HttpCC
namespace Wz.PyFnsEq.HttpDict
open Wz Wz.Pre Wz.PyFnsHttp

/-- the dict a `dict(items)` / `cls(items)` constructor builds from an item list (later items win,
first insertion fixes the position) -/
def dictOf {ν : Type} (items : List (Str × ν)) : Http.Dict ν :=
  items.foldl (fun d kv => Http.dictSet d kv.1 kv.2) []

/-- what one `policy` of the `;`-separated value contributes: `(directive, value)` or nothing -/
def cspItem (policy : Str) : Option (Str × Str) :=
  let p := Py.strip policy
  if p.contains ' ' then
    some (Py.strip (p.takeWhile (· != ' ')), Py.strip ((p.dropWhile (· != ' ')).drop 1))
  else none

/-- what the loop body leaves in the (re-assigned) parameter `value` -/
def cspValue (value policy : Str) : Str :=
  let p := Py.strip policy
  if p.contains ' ' then (p.dropWhile (· != ' ')).drop 1 else value

def cspStep (d : Http.Dict Str) (policy : Str) : Http.Dict Str :=
  match cspItem policy with
  | some (k, v) => Http.dictSet d k v
  | none => d

theorem parseCsp_spec (v : Str) : Http.parseCsp v = (Http.splitOnChar ';' v).foldl cspStep [] := by
  unfold Http.parseCsp
  congr 1
  funext d policy
  simp only [cspStep, cspItem, Http.strip, Http.partition_eq]
  by_cases h : ' ' ∈ Py.strip policy <;> simp [h]

theorem foldl_cspItem (ps : List Str) : ∀ d : Http.Dict Str,
    (ps.filterMap cspItem).foldl (fun d kv => Http.dictSet d kv.1 kv.2) d = ps.foldl cspStep d := by
  induction ps with
  | nil => intro d; rfl
  | cons p t ih =>
    intro d
    cases h : cspItem p with
    | none => simp [h, cspStep, ih]
    | some kv => simp [h, cspStep, ih]

theorem parse_csp_header_loop_eq (ps : List Str) : ∀ (items : List (Str × Str)) (value : Str),
    Gen.PyFns_HttpDict.parse_csp_header.loop1 ps items value
      = .fall (items ++ ps.filterMap cspItem, ps.foldl cspValue value) := by
  induction ps with
  | nil => intro items value; simp [Gen.PyFns_HttpDict.parse_csp_header.loop1]
  | cons p t ih =>
    intro items value
    unfold Gen.PyFns_HttpDict.parse_csp_header.loop1
    simp only [ih, Pre.strip, Py.strip_strip, contains_singleton, List.filterMap_cons, List.foldl_cons,
      cspItem, cspValue]
    by_cases h : ' ' ∈ Py.strip p
    · simp [h, Pre.splitOnce_singleton_mem _ ' ' h]
    · simp [h]

theorem parse_csp_header_eq (v : List Char) :
    (Gen.PyFns_HttpDict.parse_csp_header (some v) () ()).map dictOf = .ok (Http.parseCsp v) := by
  unfold Gen.PyFns_HttpDict.parse_csp_header
  simp only [parse_csp_header_loop_eq, splitOn_singleton, List.nil_append, id, Except.map, dictOf,
    foldl_cspItem, parseCsp_spec]

theorem dump_csp_header_eq (d : List (List Char × List Char)) :
    Gen.PyFns_HttpDict.dump_csp_header d = Http.dumpCsp d := by
  unfold Gen.PyFns_HttpDict.dump_csp_header Http.dumpCsp
  have e : ([';', ' '] : Str) = "; ".toList := String.toList_ofList.symm
  rw [e, join_intercalate]
  simp [Pre.dictItems]

/-- the charset group of a `_charset_value_re` match (`[\w!#$%&*+\-.^`|~]` under `re.ASCII`) lower-cases the same way in the model
(`pyLower`) and in the translation (`Pre.lower`) -/
theorem charsetValue?_lower (value e v : Str) (h : Http.charsetValue? value = some (e, v)) :
    Http.pyLower e = Pre.lower e := by
  have he : e = value.takeWhile Http.isCharsetCh := by
    unfold Http.charsetValue? at h
    simp only [] at h
    split at h
    · split at h
      · split at h
        · cases h
        · cases h; rfl
      · cases h
    · cases h
  refine (lower_of_ascii e fun c hc => ?_).symm
  rw [he] at hc
  have := (Http.isToken_visible (Http.isCharsetCh_token (List.all_eq_true.mp List.all_takeWhile c hc))).2
  omega

/-- `if encoding in {"ascii", "us-ascii", "utf-8", "iso-8859-1"}: value = unquote(value, encoding=encoding); …`
as the translator emits it (`k` = what follows the assignment, `b` = the other branch, `E` = what an error of
`unquote` would lead to): the guard admits exactly the names the model's lookup knows, so the "encoding outside
the model" marker of `unquoteEnc` is never reached. -/
theorem unquote_guard {β : Type} (enc value : Str) (k : Str → β) (b : β) (E : String → β) :
    (if enc == ['a', 's', 'c', 'i', 'i'] || enc == ['u', 's', '-', 'a', 's', 'c', 'i', 'i']
        || enc == ['u', 't', 'f', '-', '8'] || enc == ['i', 's', 'o', '-', '8', '8', '5', '9', '-', '1'] then
      match Gen.PyFns_HttpDict.unquoteEnc value enc with
      | .error x => E x
      | .ok v => k v
    else b)
    = match Http.encOfNameDict enc with
      | some c => k (Http.pctUnquote c value)
      | none => b := by
  unfold Gen.PyFns_HttpDict.unquoteEnc
  rw [Http.encOfNameDict_spec]
  repeat rw [String.toList_ofList]
  generalize (enc == ['u', 't', 'f', '-', '8']) = a
  generalize (enc == ['i', 's', 'o', '-', '8', '8', '5', '9', '-', '1']) = b
  generalize (enc == ['a', 's', 'c', 'i', 'i']) = c
  generalize (enc == ['u', 's', '-', 'a', 's', 'c', 'i', 'i']) = d
  cases a <;> cases b <;> cases c <;> cases d <;> rfl

/-- "this outcome of the loop body is: go on with the remaining items and the dict `r`" (whatever
the body left in the re-assigned parameter `value`) -/
def Continues (rest : List Str) (r : List (Str × Option Str))
    (x : Pre.Loop (Except String (List (Str × Option Str))) (Str × List (Str × Option Str))) : Prop :=
  ∃ value', x = Gen.PyFns_HttpDict.parse_dict_header.loop1 rest value' r

theorem continues_rfl (rest : List Str) (r : List (Str × Option Str)) (v : Str) :
    Continues rest r (Gen.PyFns_HttpDict.parse_dict_header.loop1 rest v r) := ⟨v, rfl⟩

/-- the tail `if len(value) >= 2 and value[0] == value[-1] == '"': value = value[1:-1]` /
`result[key] = value` of the loop body, as the translator emits it -/
theorem continues_dq (rest : List Str) (result : List (Str × Option Str)) (key v : Str) :
    Continues rest (Http.dictSet result key (some (unq v)))
      (if decide (Int.ofNat v.length ≥ 2) then
        match Pre.getItemStr v 0 with
        | .error x => .ret (.error x)
        | .ok a =>
          match Pre.getItemStr v (-1) with
          | .error x => .ret (.error x)
          | .ok b =>
            if (a == b) && (b == ['"']) then
              Gen.PyFns_HttpDict.parse_dict_header.loop1 rest (Pre.slice v (some 1) (some (-1)))
                (Pre.dictSet result key (some (Pre.slice v (some 1) (some (-1)))))
            else Gen.PyFns_HttpDict.parse_dict_header.loop1 rest v (Pre.dictSet result key (some v))
      else Gen.PyFns_HttpDict.parse_dict_header.loop1 rest v (Pre.dictSet result key (some v))) :=
  ⟨unq v, dq_step v (fun v => Gen.PyFns_HttpDict.parse_dict_header.loop1 rest v (Pre.dictSet result key (some v)))
    (fun x => .ret (.error x))⟩

theorem parse_dict_header_step (item : Str) (rest : List Str) (value : Str)
    (result : List (Str × Option Str)) :
    Continues rest (Http.dictStepP result item)
      (Gen.PyFns_HttpDict.parse_dict_header.loop1 (item :: rest) value result) := by
  rw [Gen.PyFns_HttpDict.parse_dict_header.loop1]
  simp only [partition_singleton, Http.partition_eq, Http.strip, Pre.strip, slice_none_neg_one, Http.dictStepP, Http.itemOf, id]
  by_cases hk : (Py.strip (item.takeWhile (· != '='))).isEmpty = true
  · simp only [hk, if_true]; exact continues_rfl _ _ _
  · by_cases hc : item.contains '=' = true
    · simp only [hk, hc, Bool.false_eq_true, if_false, if_true, List.isEmpty_cons]
      refine Eq.mpr (congrArg (Continues _ _) (star_step ..)) ?_
      cases hl : (Py.strip (item.takeWhile (· != '='))).getLast? with
      | none =>
        rw [List.getLast?_eq_none_iff] at hl
        rw [hl] at hk; simp at hk
      | some l =>
        by_cases hs : l = '*'
        · subst hs
          simp only [beq_self_eq_true, if_true]
          by_cases hd : (Py.strip (item.takeWhile (· != '='))).dropLast.isEmpty = true
          · simp only [hd, if_true]; exact continues_rfl _ _ _
          · simp only [hd, Bool.false_eq_true, if_false]
            cases hm : Http.charsetValue? (Py.strip ((item.dropWhile (· != '=')).drop 1)) with
            | none => exact continues_dq _ _ _ _
            | some m =>
              simp only [charsetValue?_lower _ m.1 m.2 hm]
              refine Eq.mpr (congrArg (Continues _ _) (unquote_guard ..)) ?_
              unfold Http.decVal
              cases Http.encOfNameDict (Pre.lower m.1) <;> exact continues_dq _ _ _ _
        · have hs' : (l == '*') = false := by simpa using hs
          simp only [hs', Bool.false_eq_true, if_false]
          exact continues_dq _ _ _ _
    · simp only [hk, hc, Bool.false_eq_true, if_false, List.isEmpty_nil, if_true]
      exact continues_rfl _ _ _

theorem parse_dict_header_loop_fall (items : List Str) : ∀ (value : Str) (result : List (Str × Option Str)),
    ∃ value', Gen.PyFns_HttpDict.parse_dict_header.loop1 items value result
      = .fall (value', items.foldl Http.dictStepP result) := by
  induction items with
  | nil => intro value result; exact ⟨value, by simp [Gen.PyFns_HttpDict.parse_dict_header.loop1]⟩
  | cons item rest ih =>
    intro value result
    obtain ⟨v1, h1⟩ := parse_dict_header_step item rest value result
    obtain ⟨v2, h2⟩ := ih v1 (Http.dictStepP result item)
    exact ⟨v2, by rw [h1, h2, List.foldl_cons]⟩

theorem parse_dict_header_loop_eq (items : List Str) (value : Str) (result : List (Str × Option Str)) :
    ∃ value', Gen.PyFns_HttpDict.parse_dict_header.loop1 items value result =
      match items.foldlM Http.dictStep result with
      | .ok r => .fall (value', r)
      | .error e => .ret (.error e) := by
  obtain ⟨v, h⟩ := parse_dict_header_loop_fall items value result
  exact ⟨v, by rw [h, Http.foldlM_dictStep]⟩

theorem parse_dict_header_eq (v : List Char) :
    Gen.PyFns_HttpDict.parse_dict_header v = Http.parseDictHeader v := by
  unfold Gen.PyFns_HttpDict.parse_dict_header Http.parseDictHeader
  rw [Wz.Props.C06T.parse_list_header_eq, Http.foldlM_dictStep]
  obtain ⟨v', h⟩ := parse_dict_header_loop_fall (Http.parseListHeader v) v []
  simp only [h]

theorem parse_dict_header_ok (v : List Char) :
    Gen.PyFns_HttpDict.parse_dict_header v = .ok ((Http.parseListHeader v).foldl Http.dictStepP []) := by
  rw [parse_dict_header_eq]; exact Http.foldlM_dictStep _ _

theorem parse_cache_control_header_eq (value : Option (List Char)) :
    Gen.PyFns_HttpDict.parse_cache_control_header value () () =
      match value with
      | none => .ok []
      | some v => Http.parseCacheControl v := by
  cases value with
  | none => rfl
  | some v =>
    unfold Gen.PyFns_HttpDict.parse_cache_control_header Http.parseCacheControl
    simp only [parse_dict_header_eq, id]
    by_cases h : v.isEmpty = true
    · simp [h]
    · simp only [h, Bool.false_eq_true, if_false]
      cases Http.parseDictHeader v <;> rfl

end Wz.PyFnsEq.HttpDict
