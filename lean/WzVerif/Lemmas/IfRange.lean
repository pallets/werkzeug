/-
`If-Range` (C06): `parse_if_range_header` case by case (`parseIfRange_date`, `parseIfRange_etag`); a quoted value is
never offered to the date parser (`looksLikeEtag_quoted`), and the text `http_date` writes starts with a day name, so
it is never taken for an entity tag (`looksLikeEtag_httpDate`).
-/
import WzVerif.Lemmas.DateText
import WzVerif.Model.IfRange
import WzVerif.Lemmas.HttpEtag
namespace Wz.Http
open Wz Wz.Date

theorem isAlpha_visible {c : Char} (h : c.isAlpha = true) :
    (65 ≤ c.toNat ∧ c.toNat ≤ 90) ∨ (97 ≤ c.toNat ∧ c.toNat ≤ 122) := by
  simp only [Char.isAlpha, Char.isUpper, Char.isLower, Bool.or_eq_true, Bool.and_eq_true, decide_eq_true_eq] at h
  rcases h with ⟨h1, h2⟩ | ⟨h1, h2⟩
  · left; exact ⟨UInt32.le_iff_toNat_le.mp h1, UInt32.le_iff_toNat_le.mp h2⟩
  · right; exact ⟨UInt32.le_iff_toNat_le.mp h1, UInt32.le_iff_toNat_le.mp h2⟩

theorem isAlpha_not_space {c : Char} (h : c.isAlpha = true) : Py.isSpace c = false :=
  not_space_of_visible (by have := isAlpha_visible h; omega)

theorem looksLikeEtag_alpha (x y : Char) (r : Str) (hx : x.isAlpha = true) (hy : y.isAlpha = true) :
    looksLikeEtag (x :: y :: r) = false := by
  have qx : x ≠ '"' := ne_of_class hx (by decide)
  have hy2 : y ≠ '/' := ne_of_class hy (by decide)
  unfold looksLikeEtag lstrip
  simp only [List.dropWhile_cons, isAlpha_not_space hx, Bool.false_eq_true, if_false]
  split
  · next heq => simp at heq; exact absurd heq.1 qx
  · next heq => simp at heq; exact absurd heq.2.1 hy2
  · next heq => simp at heq; exact absurd heq.2.1 hy2
  · rfl

theorem looksLikeEtag_httpDate (t : Nat) : looksLikeEtag (httpDate t) = false := by
  obtain ⟨x, y, r, h, a1, a2⟩ := httpDate_head t
  rw [h]
  exact looksLikeEtag_alpha x y r a1 a2

theorem httpDate_ne_nil (t : Nat) : httpDate t ≠ [] := by
  obtain ⟨x, y, r, h, -⟩ := httpDate_head t
  simp [h]

theorem looksLikeEtag_quoted (x : Str) : looksLikeEtag ('"' :: x) = true := by
  simp [looksLikeEtag, lstrip, show Py.isSpace '"' = false from by decide]

theorem parseIfRange_date (pd : Str → Option Nat) {w : Str} {t : Nat} (hne : w ≠ [])
    (hl : looksLikeEtag w = false) (hp : pd w = some t) : parseIfRange pd w = .date t := by
  simp [parseIfRange, List.isEmpty_eq_false_iff.2 hne, hl, hp]

theorem parseIfRange_etag (pd : Str → Option Nat) {w e : Str} {weak : Bool} (hne : w ≠ [])
    (hl : looksLikeEtag w = true ∨ pd w = none) (hu : unquoteEtag w = some (e, weak)) :
    parseIfRange pd w = .etag e := by
  rcases hl with hl | hl <;> simp [parseIfRange, List.isEmpty_eq_false_iff.2 hne, hl, hu]

end Wz.Http
