/-
`HeaderSet.update` / `add` / `remove` / `discard` / `__setitem__` as regenerated from `structures.py`
(`Gen/PyFns_HeaderSet.lean`) are C08's hand model of the class (Model/Containers.lean), for every state and
argument; Props/C08T states it, C06's header-set histories (Lemmas/HttpSetHist.lean) run through it.
-/
import WzVerif.Lemmas.HeaderSet
import WzVerif.Lemmas.PyFns_Headers
import WzVerif.Gen.PyFns_HeaderSet
namespace Wz.Http
open Wz

namespace HsT
open Wz Wz.Hdr Wz.HS Wz.C08L Wz.PyFnsHeaders

theorem hs_update_loop_eq (n : Bool) (it : List (List Char)) : ∀ (h s : List (List Char)) (ia : Bool),
    Gen.PyFns_HeaderSet.hs_update.loop1 n it h s ia =
      .fall ((updateLoop ⟨h, s⟩ it).1.headers, (updateLoop ⟨h, s⟩ it).1.set, ia || (updateLoop ⟨h, s⟩ it).2) := by
  induction it with
  | nil => intro h s ia; simp [Gen.PyFns_HeaderSet.hs_update.loop1, updateLoop]
  | cons x t ih =>
    intro h s ia
    unfold Gen.PyFns_HeaderSet.hs_update.loop1 updateLoop
    by_cases hm : Hdr.lower x ∈ s
    · simp [lower_eq, hm, ih]
    · simp [lower_eq, hm, ih, Pre.setAdd, Pre.listAppend]

theorem hs_update_eq (h s : List (List Char)) (n : Bool) (it : List (List Char)) :
    Gen.PyFns_HeaderSet.hs_update h s n it =
      ((HS.update ⟨h, s⟩ it).st.headers, (HS.update ⟨h, s⟩ it).st.set, n || (HS.update ⟨h, s⟩ it).notified) := by
  unfold Gen.PyFns_HeaderSet.hs_update HS.update
  simp only [hs_update_loop_eq, Bool.false_or]
  cases (updateLoop ⟨h, s⟩ it).2 <;> simp

theorem hs_add_eq (h s : List (List Char)) (n : Bool) (x : List Char) :
    Gen.PyFns_HeaderSet.hs_add h s n x =
      ((HS.update ⟨h, s⟩ [x]).st.headers, (HS.update ⟨h, s⟩ [x]).st.set, n || (HS.update ⟨h, s⟩ [x]).notified) := by
  unfold Gen.PyFns_HeaderSet.hs_add
  simp only [hs_update_eq]

theorem hs_remove_loop_eq (s : List (List Char)) (n : Bool) (key : List Char) (t : List (List Char)) :
    ∀ (pre : List (List Char)),
      (Gen.PyFns_HeaderSet.hs_remove.loop1 s n key (Pre.enumerateFrom (pre.length : Int) t) (pre ++ t)
          = .fall (pre ++ dropFirst key t)) ∨
      (Gen.PyFns_HeaderSet.hs_remove.loop1 s n key (Pre.enumerateFrom (pre.length : Int) t) (pre ++ t)
          = .brk (pre ++ dropFirst key t)) := by
  induction t with
  | nil => intro pre; left; simp [Pre.enumerateFrom, Gen.PyFns_HeaderSet.hs_remove.loop1, dropFirst]
  | cons x t ih =>
    intro pre
    unfold Pre.enumerateFrom Gen.PyFns_HeaderSet.hs_remove.loop1 dropFirst
    by_cases hk : (Hdr.lower x == key) = true
    · right
      have hlt : pre.length < (pre ++ x :: t).length := by simp
      simp only [lower_eq, hk, if_true, Pre.delItem_lt _ _ hlt]
      simp [List.eraseIdx_append_of_length_le]
    · have hk' : (Hdr.lower x == key) = false := by simpa using hk
      have e : ((pre.length : Int) + 1) = (((pre ++ [x]).length : Nat) : Int) := by simp
      have e2 : pre ++ x :: t = (pre ++ [x]) ++ t := by simp
      simp only [lower_eq, hk', Bool.false_eq_true, if_false]
      rw [e, e2]
      rcases ih (pre ++ [x]) with h | h
      · left; rw [h]; simp
      · right; rw [h]; simp

theorem hs_remove_eq (h s : List (List Char)) (n : Bool) (x : List Char) :
    Gen.PyFns_HeaderSet.hs_remove h s n x =
      (((remove ⟨h, s⟩ x).st.headers, (remove ⟨h, s⟩ x).st.set, n || (remove ⟨h, s⟩ x).notified),
        (remove ⟨h, s⟩ x).res) := by
  unfold Gen.PyFns_HeaderSet.hs_remove remove
  by_cases hm : Hdr.lower x ∈ s
  · have hc : s.contains (Hdr.lower x) = true := by simpa using hm
    simp only [lower_eq, hc, Bool.not_true, Bool.false_eq_true, if_false, Pre.setRemove, if_true, Pre.enumerate]
    have := hs_remove_loop_eq (s.erase (Hdr.lower x)) n (Hdr.lower x) h []
    simp only [List.length_nil, Int.natCast_zero, List.nil_append] at this
    rcases this with h1 | h1 <;> rw [h1] <;> simp
  · simp [lower_eq, hm]

theorem hs_discard_eq (h s : List (List Char)) (n : Bool) (x : List Char) :
    Gen.PyFns_HeaderSet.hs_discard h s n x =
      ((HS.discard ⟨h, s⟩ x).st.headers, (HS.discard ⟨h, s⟩ x).st.set, n || (HS.discard ⟨h, s⟩ x).notified) := by
  unfold Gen.PyFns_HeaderSet.hs_discard HS.discard
  simp only [hs_remove_eq]
  cases (remove ⟨h, s⟩ x).res <;> rfl

theorem hs_setitem_eq (h s : List (List Char)) (n : Bool) (i : Int) (v : List Char) :
    Gen.PyFns_HeaderSet.hs_setitem h s n i v =
      (((setitem ⟨h, s⟩ i v).st.headers, (setitem ⟨h, s⟩ i v).st.set, n || (setitem ⟨h, s⟩ i v).notified),
        (setitem ⟨h, s⟩ i v).res) := by
  unfold Gen.PyFns_HeaderSet.hs_setitem setitem
  cases hp : Hdr.pyIdx h.length i with
  | none => simp [pyIdx_none h i hp]
  | some k =>
    obtain ⟨hk, hg, hs⟩ := pyIdx_some h i k hp
    have hget : h[k]? = some h[k] := by simp [hk]
    simp only [hg, hs, hget, lower_eq, Pre.setRemove]
    by_cases hm : Hdr.lower h[k] ∈ s
    · simp [hm, Pre.setAdd, setAdd]
    · simp [hm]

end HsT

end Wz.Http
