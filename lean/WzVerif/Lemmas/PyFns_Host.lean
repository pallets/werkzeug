/-
For Props/C20T (the translated `werkzeug.sansio.utils` functions against `Model/Debugger.lean`): how the
result of the translated `for ref in trusted_list` loop is read (`loopVal`), and the model's default-port
stripping in the prelude's terms (`endswith`, negative slices). `refParts_dot` / `refParts_nil` are the two
`rfl` equations of `Dbg.refParts` the loop proof rewrites with; everything else that concerns the model alone
is in Lemmas/Debugger.lean.
-/
import WzVerif.Model.Debugger
import WzVerif.Lemmas.PyFns_Prelude
namespace Wz.PyFnsHost
open Wz Wz.Pre

/-- the Bool a function returns after a loop whose fall-through answer is `False` -/
def loopVal : Pre.Loop Bool Unit → Bool
  | .ret r => r
  | .fall () => false

@[simp] theorem loopVal_ret (r : Bool) : loopVal (.ret r) = r := rfl
@[simp] theorem loopVal_fall : loopVal (.fall ()) = false := rfl

theorem refParts_dot (t : List Char) : Dbg.refParts ('.' :: t) = (true, t) := rfl
theorem refParts_nil : Dbg.refParts [] = (false, []) := rfl

theorem endsWith_eq (s p : List Char) : Dbg.endsWith s p = Pre.endswith s p := rfl

/-- `stripDefaultPort` in the prelude's terms: `endswith`, `host[:-3]`, `host[:-4]` -/
theorem stripDefaultPort_eq (scheme host : List Char) :
    Dbg.stripDefaultPort scheme host =
      if (scheme == ['h', 't', 't', 'p'] || scheme == ['w', 's']) && Pre.endswith host [':', '8', '0'] then
        slice host none (some (-3))
      else if (scheme == ['h', 't', 't', 'p', 's'] || scheme == ['w', 's', 's'])
          && Pre.endswith host [':', '4', '4', '3'] then slice host none (some (-4))
      else host := by
  rw [show slice host none (some (-3)) = _ from slice_none_neg host 3 (by decide),
    show slice host none (some (-4)) = _ from slice_none_neg host 4 (by decide)]
  unfold Dbg.stripDefaultPort
  simp only [endsWith_eq]
  repeat rw [String.toList_ofList]
  rfl

end Wz.PyFnsHost
