/-
`parse_etags` on arbitrary header text (C06 normal form, C07 termination). `_etag_re.match` is modelled by hand
(`etagAlt1`, `etagAlt2`, `etagBody`, `etagMatch`); `etagMatch_out` says what one match returns: the tag it stores is
*closed* (written back as `"tag"` it is captured whole again: `Closed`, HttpEtag.lean) and the text it leaves is a
suffix of the text matched, a proper one on LF-free text (`Advances`). From the first, every tag `parse_etags`
returns is in the domain of the round trip (`parseEtagsGo_good`); from the second, the `while pos < end` loop
terminates within `len(value)` turns (`parseEtagsGo_fuel_irrelevant`).
-/
import WzVerif.Lemmas.HttpEtag
namespace Wz.Http
open Wz

/-- `r'` is what a regex match started on `r` leaves: a suffix of `r` — a proper one, unless `r` is empty,
on text without LF (`$` also matches before a final LF, without consuming it) -/
def Advances (r' r : Str) : Prop := r' <:+ r ∧ ('\n' ∉ r → r'.length < r.length ∨ r = [])

theorem Advances.suffix {r' r : Str} (h : Advances r' r) : r' <:+ r := h.1

theorem Advances.lt_of_noLF {r' r : Str} (h : Advances r' r) (hlf : '\n' ∉ r) (hne : r ≠ []) : r'.length < r.length :=
  (h.2 hlf).resolve_right hne

theorem Advances.of_cons {r' t : Str} {c : Char} (h : r' <:+ t) : Advances r' (c :: t) :=
  ⟨h.trans (List.suffix_cons c t), fun _ => Or.inl (Nat.lt_succ_of_le h.length_le)⟩

theorem etagTerm_spec {r r' : Str} (h : etagTerm? r = some r') : Advances r' r := by
  unfold etagTerm? at h
  split at h
  · next r2 heq =>
    cases h
    have h1 : ',' :: r2 <:+ r := heq ▸ List.dropWhile_suffix _
    have h2 : r2.dropWhile Py.isSpace <:+ r2 := List.dropWhile_suffix _
    exact ⟨h2.trans ((List.suffix_cons ',' r2).trans h1),
      fun _ => Or.inl (Nat.lt_of_lt_of_le (Nat.lt_succ_of_le h2.length_le) h1.length_le)⟩
  · split at h
    · next he => cases h; exact ⟨List.nil_suffix, fun _ => Or.inr (by simpa using he)⟩
    · split at h
      · next he =>
        cases h
        exact ⟨List.suffix_refl r, fun hlf => absurd (by rw [show r = ['\n'] by simpa using he]; simp) hlf⟩
      · cases h

theorem Advances.append_left {r' r : Str} (u : Str) (h : Advances r' r) : Advances r' (u ++ r) := by
  refine ⟨h.suffix.trans (List.suffix_append _ _), fun hlf => ?_⟩
  rcases h.2 (fun hm => hlf (List.mem_append_right _ hm)) with hl | rfl
  · left; simp; omega
  · have : r' = [] := List.suffix_nil.1 h.suffix
    subst this
    cases u with
    | nil => right; rfl
    | cons c t => left; simp

/-- what `"(.*?)"` + terminator captures is closed; the terminator matched right after the closing quote -/
theorem etagAlt1_out {body acc t rest : Str} (h : etagAlt1 body acc = some (t, rest)) :
    ∃ u rest0, t = acc.reverse ++ u ∧ body = u ++ '"' :: rest0 ∧ Closed u ∧ etagTerm? rest0 = some rest := by
  fun_induction etagAlt1 body acc with
  | case1 => cases h
  | case2 c t' acc hq rest1 ht =>
    cases h
    exact ⟨[], t', by simp, by simp [show c = '"' by simpa using hq], closed_nil, ht⟩
  | case3 c t' acc hq ht ih =>
    obtain ⟨u, rest0, h1, h2, h3, h4⟩ := ih h
    have hc : c = '"' := by simpa using hq
    refine ⟨c :: u, rest0, by simp [h1], by simp [h2], closed_cons (by rw [hc]; decide) h3 fun _ r => ?_, h4⟩
    have := commaNext_of_etagTerm_none _ ht
    rw [h2] at this
    rw [commaNext_dq u r rest0]; exact this
  | case4 c t' acc hq hd ih =>
    obtain ⟨u, rest0, h1, h2, h3, h4⟩ := ih h
    exact ⟨c :: u, rest0, by simp [h1], by simp [h2],
      closed_cons (by simpa [dotCh] using hd) h3 fun e => absurd e (by simpa using hq), h4⟩
  | case5 => cases h

/-- the raw tag `(.*?)` + terminator captures: no LF, no comma after optional white space anywhere in it -/
def RawOk (u : Str) : Prop := '\n' ∉ u ∧ ∀ a b, u = a ++ b → b ≠ [] → commaNext b = false

theorem etagAlt2_out {q acc t rest : Str} (h : etagAlt2 q acc = some (t, rest)) :
    ∃ u rest0, t = acc.reverse ++ u ∧ q = u ++ rest0 ∧ RawOk u ∧ etagTerm? rest0 = some rest := by
  have nil_ok : RawOk [] := ⟨by simp, fun a b hab hb => absurd (List.append_eq_nil_iff.mp hab.symm).2 hb⟩
  fun_induction etagAlt2 q acc with
  | case1 acc => cases h; exact ⟨[], [], by simp, rfl, nil_ok, etagTerm_nil⟩
  | case2 c t' acc rest1 ht => cases h; exact ⟨[], c :: t', by simp, rfl, nil_ok, ht⟩
  | case3 c t' acc ht hd ih =>
    obtain ⟨u, rest0, h1, h2, h3, h4⟩ := ih h
    have hcn : c ≠ '\n' := by simpa [dotCh] using hd
    refine ⟨c :: u, rest0, by simp [h1], by simp [h2], ⟨by simp [h3.1, Ne.symm hcn], fun a b hab hb => ?_⟩, h4⟩
    cases a with
    | nil =>
      cases hab
      have hcn2 := commaNext_of_etagTerm_none _ ht
      rw [h2, ← List.cons_append, commaNext_append] at hcn2
      by_cases hall : (c :: u).all Py.isSpace = true
      · simpa [hall, commaNext] using commaNext_append (c :: u) []
      · simpa [hall] using hcn2
    | cons x a' => cases hab; exact h3.2 a' b rfl hb
  | case4 => cases h

/-- `elif quoted is not None: raw = quoted` -/
def storedTag (a b : Option Str) : Option Str :=
  match a with
  | some x => some x
  | none => b

/-- an element `parse_etags` stores: a string (never `None`), and a closed one -/
def GoodElem (x : Option Str) : Prop := ∃ t, x = some t ∧ Closed t

theorem closed_of_rawOk {u : Str} (h : RawOk u) : Closed u := by
  refine ⟨h.1, fun a' b' hab r => ?_⟩
  rw [commaNext_append]
  split
  · rw [commaNext_cons_nonspace _ (by decide)]; decide
  · next hns => exact h.2 (a' ++ ['"']) b' (by simp [hab]) (by intro e; rw [e] at hns; simp at hns)

theorem etagBody_out {q rest : Str} {a b : Option Str} (h : etagBody q = some (a, b, rest)) :
    GoodElem (storedTag a b) ∧ Advances rest q := by
  unfold etagBody at h
  simp only at h
  split at h
  · next x hx =>
    cases h
    split at hx
    · next body =>
      cases ha : etagAlt1 body [] with
      | none => rw [ha] at hx; cases hx
      | some br =>
        rw [ha] at hx; cases hx
        obtain ⟨u, rest0, h1, rfl, h3, h4⟩ := etagAlt1_out ha
        exact ⟨⟨_, rfl, by simpa [h1] using h3⟩,
          .of_cons ((etagTerm_spec h4).suffix.trans ((List.suffix_cons _ _).trans (List.suffix_append _ _)))⟩
    · cases hx
  · cases ha : etagAlt2 q [] with
    | none => rw [ha] at h; cases h
    | some br =>
      rw [ha] at h; cases h
      obtain ⟨u, rest0, h1, rfl, h3, h4⟩ := etagAlt2_out ha
      exact ⟨⟨_, rfl, by simpa [h1] using closed_of_rawOk h3⟩, (etagTerm_spec h4).append_left u⟩

theorem etagMatch_out {s rest : Str} {w : Bool} {a b : Option Str} (h : etagMatch s = some (w, a, b, rest)) :
    GoodElem (storedTag a b) ∧ Advances rest s := by
  have hplain : ∀ {x : Option (Option Str × Option Str × Str)},
      (x.map fun (a, b, r) => (false, a, b, r)) = some (w, a, b, rest) → x = etagBody s →
        GoodElem (storedTag a b) ∧ Advances rest s := by
    intro x hx he
    cases x with
    | none => cases hx
    | some y => cases hx; exact etagBody_out he.symm
  unfold etagMatch at h
  simp only at h
  split at h
  · next w0 q =>
    split at h
    · split at h
      · next hq =>
        cases h
        exact ⟨(etagBody_out hq).1, .of_cons ((etagBody_out hq).2.suffix.trans (List.suffix_cons _ _))⟩
      · exact hplain h rfl
    · exact hplain h rfl
  · exact hplain h rfl

theorem parseEtagsGo_good (fuel : Nat) (s : Str) (st wk : List (Option Str))
    (hs : ∀ x ∈ st, GoodElem x) (hw : ∀ x ∈ wk, GoodElem x) :
    (parseEtagsGo fuel s st wk = ⟨[], [], true⟩) ∨
    ((parseEtagsGo fuel s st wk).star = false ∧ (∀ x ∈ (parseEtagsGo fuel s st wk).strong, GoodElem x)
      ∧ ∀ x ∈ (parseEtagsGo fuel s st wk).weak, GoodElem x) := by
  -- the three exits without a star: the object built from the lists collected so far
  have done : ∀ st wk : List (Option Str), (∀ x ∈ st, GoodElem x) → (∀ x ∈ wk, GoodElem x) → ∀ e : ETags,
      e = ⟨st.reverse, wk.reverse, false⟩ →
      e = ⟨[], [], true⟩ ∨ (e.star = false ∧ (∀ x ∈ e.strong, GoodElem x) ∧ ∀ x ∈ e.weak, GoodElem x) := by
    rintro st wk hs hw _ rfl
    exact .inr ⟨rfl, fun x hx => hs x (by simpa using hx), fun x hx => hw x (by simpa using hx)⟩
  induction fuel generalizing s st wk with
  | zero => exact done st wk hs hw _ rfl
  | succ f ih =>
    rw [parseEtagsGo]
    split
    · exact done st wk hs hw _ rfl
    · split
      · exact done st wk hs hw _ rfl
      · next w a b rest hm =>
        have hg := (etagMatch_out hm).1
        split
        · left; rfl
        · -- the element stored is `storedTag a b`, by unfolding
          simp only []
          split
          · exact ih rest st _ hs (List.forall_mem_cons.2 ⟨hg, hw⟩)
          · exact ih rest _ wk (List.forall_mem_cons.2 ⟨hg, hs⟩) hw

theorem good_list (l : List (Option Str)) (h : ∀ x ∈ l, GoodElem x) :
    ∃ ts : List Str, l = ts.map some ∧ ∀ t ∈ ts, Closed t := by
  induction l with
  | nil => exact ⟨[], rfl, by simp⟩
  | cons x t ih =>
    obtain ⟨ts, h1, h2⟩ := ih (fun y hy => h y (by simp [hy]))
    obtain ⟨u, hu, hc⟩ := h x (by simp)
    refine ⟨u :: ts, by simp [hu, h1], ?_⟩
    intro y hy
    simp only [List.mem_cons] at hy
    rcases hy with rfl | hy
    · exact hc
    · exact h2 y hy

theorem parseEtags_image (h : Str) : parseEtags h = ⟨[], [], true⟩ ∨
    ∃ ss ws : List Str, parseEtags h = ⟨ss.map some, ws.map some, false⟩ ∧ (∀ x ∈ ss, Closed x) ∧ ∀ x ∈ ws, Closed x := by
  unfold parseEtags
  rcases parseEtagsGo_good (h.length + 1) h [] [] (by simp) (by simp) with hstar | ⟨h0, h1, h2⟩
  · exact .inl hstar
  · generalize parseEtagsGo (h.length + 1) h [] [] = r at h0 h1 h2
    obtain ⟨S, W, st⟩ := r
    obtain ⟨ss, rfl, hSc⟩ := good_list S h1
    obtain ⟨ws, rfl, hWc⟩ := good_list W h2
    exact .inr ⟨ss, ws, by simp only at h0; rw [h0], hSc, hWc⟩

theorem etagMatch_shrinks (s rest : Str) (w : Bool) (a b : Option Str) (hne : s ≠ []) (hlf : '\n' ∉ s)
    (h : etagMatch s = some (w, a, b, rest)) : (∀ c ∈ rest, c ∈ s) ∧ rest.length < s.length :=
  ⟨fun _ hc => (etagMatch_out h).2.suffix.subset hc, (etagMatch_out h).2.lt_of_noLF hlf hne⟩

/-- the fuel handed to the loop (`len(value) + 1`) is never exhausted on header text (no LF): the
Python loop terminates after at most `len(value)` iterations -/
theorem parseEtagsGo_fuel_irrelevant (f1 f2 : Nat) (s : Str) (st wk : List (Option Str))
    (hlf : '\n' ∉ s) (h1 : s.length < f1) (h2 : s.length < f2) :
    parseEtagsGo f1 s st wk = parseEtagsGo f2 s st wk := by
  induction f1 generalizing f2 s st wk with
  | zero => omega
  | succ f ih =>
    cases f2 with
    | zero => omega
    | succ g =>
      rw [parseEtagsGo, parseEtagsGo]
      split
      · rfl
      · next hne =>
        have hne' : s ≠ [] := by intro e; rw [e] at hne; simp at hne
        split
        · rfl
        · next w a b rest hm =>
          obtain ⟨hs, hl⟩ := etagMatch_shrinks s rest w a b hne' hlf hm
          have hlf' : '\n' ∉ rest := fun hc => hlf (hs _ hc)
          split
          · rfl
          · simp only []
            split <;> exact ih g rest _ _ hlf' (by omega) (by omega)

end Wz.Http
