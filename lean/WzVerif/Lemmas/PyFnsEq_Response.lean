/-
The response glue of C05 / C11 *as regenerated from werkzeug's source* by `tools/py2lean.py` (`Gen/PyFns_Response.lean`,
rewritten on every check run) is equal to the hand-written models of `Model/Response.lean` (C05) and `Model/Conditional.lean`
(C11) that the C05 / C11 theorems are about; a change of the Python source changes the generated definitions and breaks these
obligations. `clean_status_int_eq` is `Response._clean_status` for an int (stated in Props/C05T.lean, where the `str` case and
`get_app_iter` are proved). The range equalities - `is_range_request_processable_eq`, `range_to_content_range_header_eq`,
`process_range_request_str_eq` with the `accept_ranges: bool` variant as its corollary - are stated as properties, with what
they say in werkzeug's terms, in Props/C11T2.lean. The translation calls C06's model of `int()`, `Resp.cleanStatus` the views
model's: `pyInt_agree` compares the two on texts without whitespace and `_`.
-/
import WzVerif.Gen.PyFns_Response
import WzVerif.Gen.Response
import WzVerif.Model.Response
import WzVerif.Lemmas.Conditional
import WzVerif.Model.Views
import WzVerif.Props.C11T
import WzVerif.Lemmas.PyFns_Http
import WzVerif.Lemmas.HttpInt
import WzVerif.Lemmas.ViewsCodec
namespace Wz.PyFnsEq.Response
open Wz Wz.Pre Wz.Gen.PyFns_Response

theorem is_range_request_processable_eq (q : Cond.CondReq) (r : Cond.RespIn) :
    is_range_request_processable q.ifRange.isSome q.range.isSome
        (Cond.isResourceModified q r.etag (Cond.lmOf r) false) ()
      = Cond.rangeProcessable q r := by
  unfold is_range_request_processable Cond.rangeProcessable
  cases q.ifRange <;> rfl

/-- `HTTP_STATUS_CODES.get(code)` read from the regenerated table `Gen.Response.statusCodes` (the same
lookup `Resp.codeLine` does): the `status_phrase` argument of the translated `_clean_status` -/
def phraseOf (i : Int) : Option Pre.Str :=
  if i < 0 then none else (Gen.Response.statusCodes.find? (fun e => e.1 == i.toNat)).map (·.2.toList)

theorem clean_status_int_eq (i : Int) :
    clean_status_int phraseOf i = Resp.cleanStatus (.code i) := by
  unfold clean_status_int statusPhraseUpper phraseOf Resp.cleanStatus Resp.codeLine
  by_cases h : i < 0
  · simp [h, PyFnsHttp.strOfInt_eq, C16L.httpIntText_eq]
  · simp only [h, if_false, id]
    cases Gen.Response.statusCodes.find? (fun e => e.1 == i.toNat) with
    | none => simp [PyFnsHttp.strOfInt_eq, C16L.httpIntText_eq]
    | some e => simp [PyFnsHttp.strOfInt_eq, C16L.httpIntText_eq, Pre.upper, Resp.upper]

/-- the views model's `int()` answer as an `Except`: `none` is ValueError -/
def optInt (o : Option Int) : Except String Int :=
  match o with
  | some i => .ok i
  | none => .error "ValueError"

/-- no whitespace character, no underscore, ASCII only (CPython's `int()` also accepts the decimal
digits of other scripts, which the views model's `CC.pyInt` does not) -/
def PlainText (c : Str) : Prop := ∀ ch ∈ c, Py.isSpace ch = false ∧ ch ≠ '_' ∧ ch.toNat < 128

theorem signSplit2_unsigned (x : Char) (d : Str) (h1 : x ≠ '-') (h2 : x ≠ '+') :
    Http.signSplit2 (x :: d) = (false, x :: d) := by
  unfold Http.signSplit2
  split
  · next r heq => simp at heq; exact absurd heq.1 h1
  · next r heq => simp at heq; exact absurd heq.1 h2
  · rfl

/-- The two hand models of `int(text)` - C06's `Http.pyInt` (what the translation calls: strips
whitespace, allows `_` between digits) and the views model's `CC.pyInt` (what `Resp.cleanStatus` calls:
sign and ASCII digits only) - agree on every text that contains no whitespace character and no
underscore and is ASCII: same value, or ValueError on both sides. -/
theorem pyInt_agree (c : Str) (h : PlainText c) : Http.pyInt c = optInt (Views.CC.pyInt c) := by
  have ht : Http.Tight c :=
    ⟨fun a ha => (h a (List.mem_of_head? ha)).1, fun a ha => (h a (List.mem_of_getLast? ha)).1⟩
  unfold Http.pyInt
  rw [Http.toAsciiDecimal_ascii c (fun a ha => (h a ha).2.2), Http.intStrip_tight ht]
  match c, h with
  | [], _ => rfl
  | x :: d, h =>
    have hd : '_' ∉ d := fun e => (h '_' (by simp [e])).2.1 rfl
    have hx : x ≠ '_' := (h x (by simp)).2.1
    by_cases h1 : x = '-'
    · subst h1
      simp only [Http.signSplit2, Http.intBody_plain d hd, Views.CC.pyInt, Views.CC.digitsVal]
      cases hc : (d.isEmpty || !d.all Char.isDigit) <;> simp [optInt, Http.digitsVal]
    · by_cases h2 : x = '+'
      · subst h2
        simp only [Http.signSplit2, Http.intBody_plain d hd, Views.CC.pyInt, Views.CC.digitsVal]
        cases hc : (d.isEmpty || !d.all Char.isDigit) <;> simp [optInt, Http.digitsVal]
      · have hxd : '_' ∉ x :: d := by simp [hd, Ne.symm hx]
        rw [signSplit2_unsigned x d h1 h2, C16L.pyInt_unsigned x d h1 h2]
        simp only [Http.intBody_plain (x :: d) hxd, Views.CC.digitsVal]
        cases hc : ((x :: d).isEmpty || !(x :: d).all Char.isDigit) <;> simp [optInt, Http.digitsVal]

theorem plain_of_digitsVal (d : Str) (n : Nat) (h : Views.CC.digitsVal d = some n) : PlainText d := by
  unfold Views.CC.digitsVal at h
  by_cases hc : (d.isEmpty || !d.all Char.isDigit) = true
  · simp [hc] at h
  · simp only [Bool.or_eq_true, Bool.not_eq_true', not_or, Bool.not_eq_false] at hc
    intro ch hch
    have hdg : ch.isDigit = true := List.all_eq_true.mp hc.2 ch hch
    exact ⟨isDigit_not_space hdg, ne_of_class hdg (by decide), isDigit_lt128 hdg⟩

theorem plainText_cons (x : Char) (d : Str) (hx : Py.isSpace x = false ∧ x ≠ '_' ∧ x.toNat < 128) (hd : PlainText d) :
    PlainText (x :: d) := by
  intro ch hch
  rcases List.mem_cons.mp hch with rfl | h
  · exact hx
  · exact hd ch h

theorem plain_of_ccPyInt (c : Str) (i : Int) (h : Views.CC.pyInt c = some i) : PlainText c := by
  unfold Views.CC.pyInt at h
  split at h
  · next d =>
    cases hv : Views.CC.digitsVal d with
    | none => simp [hv] at h
    | some n => exact plainText_cons _ _ (by decide) (plain_of_digitsVal d n hv)
  · next d =>
    cases hv : Views.CC.digitsVal d with
    | none => simp [hv] at h
    | some n => exact plainText_cons _ _ (by decide) (plain_of_digitsVal d n hv)
  · cases hv : Views.CC.digitsVal c with
    | none => simp [hv] at h
    | some n => exact plain_of_digitsVal c n hv

/-- the text `_clean_status` hands to `int()`: the stripped value up to its first space -/
def codeText (s : Str) : Str := (Py.strip s).takeWhile (· != ' ')

theorem partitionCh_eq (c : Char) (s : Str) :
    Views.partitionCh c s = (s.takeWhile (· != c), s.contains c, (s.dropWhile (· != c)).drop 1) :=
  Http.partition_eq c s

/-- the text of `Content-Range: <units> a-(b-1)/l` as C06's model of `ContentRange.to_header` prints it -/
def crText (units : Str) (a b l : Int) : Str :=
  Http.contentRangeToHeader ⟨some units, some a, some b, some l⟩

theorem range_to_content_range_header_eq (units : Str) (ranges : List (Int × Option Int)) (l : Int) :
    range_to_content_range_header units ranges l
      = .ok ((Cond.rangeForLength ⟨units, ranges⟩ (some l)).map fun p => crText units p.1 p.2 l) := by
  unfold range_to_content_range_header
  simp only [Props.C11T.range_for_length_eq]
  cases Cond.rangeForLength ⟨units, ranges⟩ (some l) with
  | none => rfl
  | some p => simp [crText, Http.contentRangeToHeader, Http.lenText, PyFnsHttp.strOfInt_eq]

theorem rangeForLength_units (pr : Cond.Range) (l : Option Int) (p : Int × Int)
    (h : Cond.rangeForLength pr l = some p) : pr.units = Cond.bytesUnit := by
  cases l with
  | none => rw [Cond.rangeForLength_none] at h; cases h
  | some l => exact ((Cond.rangeForLength_eq_some_iff pr l p.1 p.2).mp h).1

abbrev OutState := (Option Int) × (Option Pre.Str) × (Option Pre.Str) × (Option Int) × (Option (Int × Int))

/-- what `_process_range_request` does for each outcome of the model -/
def rangeResult (st : OutState) (acceptText : Str) (l : Int) : Cond.RangeOutcome → OutState × Except String Bool
  | .notRange => (st, .ok false)
  | .unsatisfiable => (st, .error "RequestedRangeNotSatisfiable")
  | .partialContent a b =>
    ((some (b - a), some acceptText, some (crText Cond.bytesUnit a b l), some 206, some (a, b - a)), .ok true)

theorem process_range_request_str_eq (q : Cond.CondReq) (r : Cond.RespIn)
    (cl0 : Option Int) (ar0 cr0 : Option Str) (st0 : Option Int) (w0 : Option (Int × Int))
    (completeLength : Option Int) (acceptText : Str) :
    process_range_request_str (Cond.rangeProcessable q r) q.range cl0 ar0 cr0 st0 w0 () completeLength acceptText
      = rangeResult (cl0, ar0, cr0, st0, w0) acceptText (completeLength.getD 0)
          (Cond.processRangeRequest q r completeLength (!acceptText.isEmpty)) := by
  unfold process_range_request_str Cond.processRangeRequest
  cases completeLength with
  | none => rfl
  | some l =>
    simp only [Props.C11T.parse_range_header_eq, Props.C11T.range_for_length_eq,
      range_to_content_range_header_eq, Option.getD_some, Bool.not_not]
    by_cases hg : (acceptText.isEmpty || l == 0 || !Cond.rangeProcessable q r) = true
    · simp [hg, rangeResult]
    · simp only [hg, Bool.false_eq_true, if_false]
      cases hp : Cond.parseRangeHeader q.range with
      | none => simp [rangeResult]
      | some pr =>
        obtain ⟨u, rs⟩ := pr
        cases hr : Cond.rangeForLength ⟨u, rs⟩ (some l) with
        | none => simp [hr, rangeResult]
        | some p =>
          have hu : u = Cond.bytesUnit := rangeForLength_units ⟨u, rs⟩ _ p hr
          subst hu
          obtain ⟨a, b⟩ := p
          simp only [hr, Option.map_some]
          simp [rangeResult]

/-- `accept_ranges: bool` is the `str` variant called with `"bytes"` for `True` and `""` for `False` -/
theorem process_range_request_bool_str (processable : Bool) (httpRange : Option Str) (cl0 : Option Int)
    (ar0 cr0 : Option Str) (st0 : Option Int) (w0 : Option (Int × Int)) (completeLength : Option Int) (ar : Bool) :
    process_range_request_bool processable httpRange cl0 ar0 cr0 st0 w0 () completeLength ar
      = process_range_request_str processable httpRange cl0 ar0 cr0 st0 w0 () completeLength
          (if ar then Cond.bytesUnit else []) := by
  unfold process_range_request_bool process_range_request_str
  cases completeLength with
  | none => rfl
  | some l => cases ar <;> simp [Cond.bytesUnit]

theorem process_range_request_bool_eq (q : Cond.CondReq) (r : Cond.RespIn)
    (cl0 : Option Int) (ar0 cr0 : Option Str) (st0 : Option Int) (w0 : Option (Int × Int))
    (completeLength : Option Int) (acceptRanges : Bool) :
    process_range_request_bool (Cond.rangeProcessable q r) q.range cl0 ar0 cr0 st0 w0 () completeLength acceptRanges
      = rangeResult (cl0, ar0, cr0, st0, w0) Cond.bytesUnit (completeLength.getD 0)
          (Cond.processRangeRequest q r completeLength acceptRanges) := by
  rw [process_range_request_bool_str, process_range_request_str_eq]
  cases acceptRanges
  · -- ranges not accepted: nothing is done, so the unit text plays no role
    rw [Cond.processRangeRequest_notRange q r _ false (.inr (.inl rfl))]
    exact congrArg _ (Cond.processRangeRequest_notRange q r _ _ (.inr (.inl rfl)))
  · rfl

theorem crText_eq (units : Str) (a b l : Int) :
    crText units a b l
      = units ++ [' '] ++ Pre.strOfInt a ++ ['-'] ++ Pre.strOfInt (b - 1) ++ ['/'] ++ Pre.strOfInt l := by
  simp [crText, Http.contentRangeToHeader, Http.lenText, PyFnsHttp.strOfInt_eq]

end Wz.PyFnsEq.Response
