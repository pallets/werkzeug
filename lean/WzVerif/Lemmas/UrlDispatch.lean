/-
DispatcherMiddleware (C15): the model's `while "/" in script` loop selects the longest mount key that is a
`/`-boundary prefix of PATH_INFO and preserves SCRIPT_NAME + PATH_INFO (`DispatchSpec`, `dispatch_spec`). The
boundary prefixes (`BP`) carry the argument: cutting the last segment off `script` loses no boundary prefix but
`script` itself (`BP.cut_last`). Then what the default app sees when no mount matches, and the measure by which
the loop (the model's and the translated one) terminates.
-/
import WzVerif.Model.Url
import WzVerif.Lemmas.Basics
namespace Wz.Url
open Wz

/-- `k` is a prefix of `p` that ends at a `/` boundary: `p == k or p.startswith(k + "/")` -/
def BP (k p : Str) : Prop := ∃ rest, p = k ++ rest ∧ (rest = [] ∨ rest.head? = some '/')

theorem bp_iff (k p : Str) : BP k p ↔ p = k ∨ ∃ a, p = k ++ '/' :: a := by
  constructor
  · rintro ⟨rest, rfl, h | h⟩
    · exact .inl (by rw [h, List.append_nil])
    · cases rest with
      | nil => cases h
      | cons c a => obtain rfl : c = '/' := by simpa using h
                    exact .inr ⟨a, rfl⟩
  · rintro (rfl | ⟨a, rfl⟩)
    · exact ⟨[], (List.append_nil _).symm, .inl rfl⟩
    · exact ⟨_, rfl, .inr rfl⟩

theorem BP.length_le {k p : Str} (h : BP k p) : k.length ≤ p.length := by
  obtain ⟨rest, rfl, _⟩ := h
  simp

theorem BP.of_append {k x y : Str} (h : BP k (x ++ y)) (hlen : k.length ≤ x.length) : BP k x := by
  obtain ⟨tail, h1, ht⟩ := h
  rcases List.append_eq_append_iff.mp h1 with ⟨a', g1, _⟩ | ⟨c', g1, g2⟩
  · obtain rfl : a' = [] := List.eq_nil_of_length_eq_zero (by
      have := congrArg List.length g1
      simp only [List.length_append] at this
      omega)
    exact ⟨[], by rw [g1, List.append_nil, List.append_nil], .inl rfl⟩
  · -- `x = k ++ c'`, and `c'` starts where `tail` starts
    refine ⟨c', g1, ?_⟩
    cases c' with
    | nil => exact .inl rfl
    | cons c a =>
      right
      rcases ht with ht | ht
      · rw [ht] at g2; cases g2
      · rwa [g2] at ht

/-- the one idea of the loop: a boundary prefix of `x/seg` (`seg` without `/`) other than the whole text is a
boundary prefix of `x` -/
theorem BP.cut_last {k x seg : Str} (h : BP k (x ++ '/' :: seg)) (hs : '/' ∉ seg) (hne : k ≠ x ++ '/' :: seg) :
    k.length ≤ x.length := by
  rcases (bp_iff _ _).mp h with e | ⟨a, e⟩
  · exact absurd e.symm hne
  · rcases List.append_eq_append_iff.mp e with ⟨a', g1, g2⟩ | ⟨c', g1, _⟩
    · cases a' with
      | nil => rw [g1, List.append_nil]; exact Nat.le_refl _
      | cons c a'' =>
        -- the cut would lie inside `seg`
        simp only [List.cons_append, List.cons.injEq] at g2
        exact absurd (g2.2 ▸ List.mem_append_right _ List.mem_cons_self) hs
    · have := congrArg List.length g1
      simp only [List.length_append] at this
      omega

/-- what `DispatcherMiddleware.__call__` decides, as C15 states it: the concatenation is kept, a chosen mount is
the longest boundary prefix among the keys, the default app means no key is one -/
structure DispatchSpec (mounts : List Str) (p : Str) (d : Dispatch) : Prop where
  concat : d.script ++ d.pathInfo = p
  chosen : ∀ k, d.mount = some k → k ∈ mounts ∧ d.script = k ∧ BP k p ∧
    ∀ k' ∈ mounts, BP k' p → k'.length ≤ k.length
  default : d.mount = none → ∀ k' ∈ mounts, ¬ BP k' p

/-- every iteration of the loop removes at least the last `/` -/
theorem rest_length_lt {r : Str} (h : r.contains '/' = true) :
    ((r.dropWhile (· != '/')).drop 1).length < r.length := by
  have := (List.dropWhile_sublist (· != '/') (l := r)).length_le
  have : 0 < r.length := List.length_pos_iff.mpr (by rintro rfl; simp at h)
  simp only [List.length_drop]
  omega

/-- The loop with its invariant: `script ++ path_info` is the original PATH_INFO, `path_info` is empty or starts
with `/`, and no mount key that is a boundary prefix is longer than `script`. Besides `DispatchSpec`: the default
app is only reached with a `script` without `/`. -/
theorem dispatchLoop_spec (mounts : List Str) (p : Str) (fuel : Nat) (r pi : Str) (hf : r.length < fuel)
    (hp : r.reverse ++ pi = p) (hpi : pi = [] ∨ pi.head? = some '/')
    (hinv : ∀ k ∈ mounts, BP k p → k.length ≤ r.length) :
    DispatchSpec mounts p (dispatchLoop mounts fuel r pi) ∧
      ((dispatchLoop mounts fuel r pi).mount = none → '/' ∉ (dispatchLoop mounts fuel r pi).script) := by
  -- a mount key that is a boundary prefix of `p` is one of `script`
  have hbp : ∀ {r pi : Str}, r.reverse ++ pi = p → (∀ k ∈ mounts, BP k p → k.length ≤ r.length) →
      ∀ k ∈ mounts, BP k p → BP k r.reverse := fun hp hinv k hk hb =>
    BP.of_append (hp ▸ hb) (by simpa using hinv k hk hb)
  have hin : ∀ {r pi : Str}, r.reverse ++ pi = p → (pi = [] ∨ pi.head? = some '/') →
      (∀ k ∈ mounts, BP k p → k.length ≤ r.length) → mounts.contains r.reverse = true →
      DispatchSpec mounts p { script := r.reverse, pathInfo := pi, mount := some r.reverse } := by
    intro r pi hp hpi hinv hm
    refine ⟨hp, ?_, by intro h; cases h⟩
    intro k hk
    cases hk
    exact ⟨by simpa using hm, rfl, ⟨pi, hp.symm, hpi⟩, fun k' hk' hb => by simpa using hinv k' hk' hb⟩
  fun_induction dispatchLoop mounts fuel r pi with
  | case1 r pi => omega
  | case2 fuel r pi hs hm => exact ⟨hin hp hpi hinv hm, fun h => by cases h⟩
  | case3 fuel r pi hs hm last rest ih =>
    rcases split_at_first '/' r with ⟨h1, -⟩ | ⟨seg, rest', h1, h2, h3, h4⟩
    · exact absurd (by simpa using hs) h1
    have hrev : r.reverse = rest.reverse ++ '/' :: last := by
      simp only [last, rest, h3, h4, List.drop_succ_cons, List.drop_zero]; rw [h1]; simp
    have hlast : '/' ∉ last := by simpa [last, h3] using h2
    refine ih (Nat.lt_of_lt_of_le (rest_length_lt hs) (Nat.le_of_lt_succ hf)) (by rw [← hp, hrev]; simp)
      (Or.inr rfl) fun k hk hb => ?_
    have hne : k ≠ rest.reverse ++ '/' :: last := fun e => by
      rw [← hrev] at e; exact absurd (by rw [← e]; simpa using hk) hm
    simpa using BP.cut_last (hrev ▸ hbp hp hinv k hk hb) hlast hne
  | case4 fuel r pi hs =>
    have hs' : '/' ∉ r.reverse := by simpa using hs
    split
    · next hm => exact ⟨hin hp hpi hinv hm, fun h => by cases h⟩
    · next hm =>
      refine ⟨⟨hp, (by intro k h; cases h), fun _ k' hk' hb => ?_⟩, fun _ => hs'⟩
      rcases (bp_iff _ _).mp (hbp hp hinv k' hk' hb) with e | ⟨a, e⟩
      · exact hm (by rw [e]; simpa using hk')
      · exact hs' (e ▸ List.mem_append_right _ List.mem_cons_self)

theorem dispatch_spec_noslash (mounts : List Str) (p : Str) :
    DispatchSpec mounts p (dispatch mounts p) ∧ ((dispatch mounts p).mount = none → '/' ∉ (dispatch mounts p).script) :=
  dispatchLoop_spec mounts p _ _ _ (by simp) (by simp) (.inl rfl) fun k _ hb => by simpa using hb.length_le

theorem dispatch_spec (mounts : List Str) (p : Str) : DispatchSpec mounts p (dispatch mounts p) :=
  (dispatch_spec_noslash mounts p).1

theorem dispatch_default_unchanged (mounts : List Str) (p : Str) (hp : p = [] ∨ p.head? = some '/')
    (h : (dispatch mounts p).mount = none) :
    (dispatch mounts p).script = [] ∧ (dispatch mounts p).pathInfo = p := by
  have hc := (dispatch_spec mounts p).concat
  have hn : '/' ∉ (dispatch mounts p).script := (dispatch_spec_noslash mounts p).2 h
  have hs : (dispatch mounts p).script = [] := by
    cases hsc : (dispatch mounts p).script with
    | nil => rfl
    | cons x xs =>
      exfalso
      rw [hsc] at hc hn
      rcases hp with hp | hp
      · rw [hp] at hc; cases hc
      · rw [← hc] at hp
        simp only [List.cons_append, List.head?_cons, Option.some.injEq] at hp
        exact hn (by simp [hp])
  refine ⟨hs, ?_⟩
  rw [hs] at hc
  simpa using hc

end Wz.Url
