/-
C18 over histories of `Local` / `LocalStack` instances (`Model/LocalLife.lean`): the invariant `LInv`, "every var a
context holds a value for was created before", kept by create / drop / gc / call events (`lstep_inv`, `lrun_inv`), so
that a new instance starts unbound everywhere; `OwnDistinct`: instances created without `context_var` never share a
cell; an event that does not execute in context `c` changes nothing `c` observes or holds in a `ContextVar`
(`lstep_other_ctx`, `lrun_other_ctx`); `release` empties the caller's own view of one cell and nothing else, and
`LocalManager.cleanup` is a fold of releases (`release_step`, `cleanup_inv`).
-/
import WzVerif.Lemmas.LocalFine
import WzVerif.Model.LocalLife
namespace Wz.Local
open Wz.Gen.LocalOps

instance LEvent.decCbw (e : LEvent) : Decidable e.cbw := by cases e <;> unfold LEvent.cbw <;> infer_instance
instance LEvent.decOwnVar (e : LEvent) : Decidable e.ownVar := by cases e <;> unfold LEvent.ownVar <;> infer_instance
instance LEvent.decAsExtracted (e : LEvent) : Decidable e.asExtracted := by
  cases e <;> unfold LEvent.asExtracted <;> infer_instance

structure LInv (lw : LWorld) : Prop where
  wf : WF lw.w
  /-- a context holds values only for vars that exist -/
  bound : ∀ c v id, lw.w.ctxs c v = some id → v < lw.nvar
  /-- every instance's var exists -/
  instLt : ∀ i ∈ lw.insts, i.var < lw.nvar

theorem linv_init : LInv LWorld.init :=
  ⟨wf_init, by intro c v id h; simp [LWorld.init, World.init] at h, by intro i h; simp [LWorld.init] at h⟩

/-- the var the next constructor call gets is bound in no context -/
theorem obs_nvar_none {lw : LWorld} (hinv : LInv lw) (c : Nat) : obs lw.w c lw.nvar = none := by
  unfold obs
  cases h : lw.w.ctxs c lw.nvar with
  | none => rfl
  | some id => exact absurd (hinv.bound _ _ _ h) (Nat.lt_irrefl _)

theorem inst?_getElem? {lw : LWorld} {h : Nat} {i : Inst} (hi : lw.inst? h = some i) :
    lw.insts[h]? = some i := by
  unfold LWorld.inst? at hi
  split at hi
  · cases hi
  · exact hi

theorem inst?_mem {lw : LWorld} {h : Nat} {i : Inst} (hi : lw.inst? h = some i) : i ∈ lw.insts :=
  List.mem_of_getElem? (inst?_getElem? hi)

theorem linv_newCtx {lw : LWorld} (hinv : LInv lw) {e : Event} (he : e.actor = none) (cv : Nat → Nat → Option Nat) :
    LInv { lw with w := stepEvent lw.w e, cv := cv } :=
  ⟨(newCtx_inv hinv.wf he).1, fun c v id hid => by
    rcases newCtx_ctxs he hid with h | ⟨_, p, _, h⟩ <;> exact hinv.bound _ _ _ h, hinv.instLt⟩

theorem lstep_inv {lw : LWorld} (hinv : LInv lw) (e : LEvent) (hc : e.cbw) (ho : e.ownVar) :
    LInv (lstep lw e) ∧ lw.w.nctx ≤ (lstep lw e).w.nctx ∧ lw.nvar ≤ (lstep lw e).nvar ∧
    ∀ c' v', c' < lw.w.nctx → ¬ e.touches lw c' v' →
      obs (lstep lw e).w c' v' = obs lw.w c' v' := by
  cases e with
  | create pol addr st =>
    have hp : pol = .ownFresh := ho
    subst hp
    refine ⟨⟨hinv.wf, ?_, ?_⟩, Nat.le_refl _, by simp [lstep], fun _ _ _ _ => rfl⟩
    · intro c v id h
      have := hinv.bound c v id h
      simp only [lstep]; omega
    · intro i hi
      simp only [lstep, List.mem_append, List.mem_singleton] at hi ⊢
      rcases hi with hi | rfl
      · have := hinv.instLt i hi; omega
      · simp
  | createSharing h addr =>
    simp only [lstep]
    cases hi : lw.inst? h with
    | none => exact ⟨hinv, Nat.le_refl _, Nat.le_refl _, fun _ _ _ _ => rfl⟩
    | some i =>
      refine ⟨⟨hinv.wf, hinv.bound, ?_⟩, Nat.le_refl _, Nat.le_refl _, fun _ _ _ _ => rfl⟩
      intro j hj
      simp only [List.mem_append, List.mem_singleton] at hj
      rcases hj with hj | rfl
      · exact hinv.instLt j hj
      · exact hinv.instLt i (inst?_mem hi)
  | drop h => exact ⟨⟨hinv.wf, hinv.bound, hinv.instLt⟩, Nat.le_refl _, Nat.le_refl _, fun _ _ _ _ => rfl⟩
  | gc => exact ⟨hinv, Nat.le_refl _, Nat.le_refl _, fun _ _ _ _ => rfl⟩
  | call c h p a =>
    have hp : CopyBeforeWrite p := hc
    simp only [lstep]
    cases hi : lw.inst? h with
    | none => exact ⟨hinv, Nat.le_refl _, Nat.le_refl _, fun _ _ _ _ => rfl⟩
    | some i =>
      have h := stepEvent_call_effect hinv.wf c i.var p a hp
      refine ⟨⟨h.wf, ?_, hinv.instLt⟩, Nat.le_of_eq h.nctxEq.symm, Nat.le_refl _, ?_⟩
      · intro c' v' id hid
        by_cases hcv : c' = c ∧ v' = i.var
        · rw [hcv.2]; exact hinv.instLt i (inst?_mem hi)
        · rw [h.ctxOther c' v' hcv] at hid
          exact hinv.bound c' v' id hid
      · intro c' v' _ hnt
        exact h.obsOther c' v' fun hcv => hnt ⟨hcv.1.symm, i, hi, hcv.2.symm⟩
  | copyCtx parent =>
    have ⟨_, h2, h3⟩ := newCtx_inv hinv.wf (e := .copyCtx parent) rfl
    exact ⟨linv_newCtx hinv rfl _, h2, Nat.le_refl _, fun c' v' hc' _ => h3 c' v' hc'⟩
  | freshCtx =>
    have ⟨_, h2, h3⟩ := newCtx_inv hinv.wf (e := .freshCtx) rfl
    exact ⟨linv_newCtx hinv rfl _, h2, Nat.le_refl _, fun c' v' hc' _ => h3 c' v' hc'⟩
  | cvSet c j x =>
    simp only [lstep]
    split
    · exact ⟨⟨hinv.wf, hinv.bound, hinv.instLt⟩, Nat.le_refl _, Nat.le_refl _, fun _ _ _ _ => rfl⟩
    · exact ⟨hinv, Nat.le_refl _, Nat.le_refl _, fun _ _ _ _ => rfl⟩

theorem lstep_linv {lw : LWorld} (hinv : LInv lw) (e : LEvent) (hc : e.cbw) (ho : e.ownVar) : LInv (lstep lw e) :=
  (lstep_inv hinv e hc ho).1

theorem lstep_obs {lw : LWorld} (hinv : LInv lw) (e : LEvent) (hc : e.cbw) (ho : e.ownVar) {c' v' : Nat}
    (hc' : c' < lw.w.nctx) (hnt : ¬ e.touches lw c' v') : obs (lstep lw e).w c' v' = obs lw.w c' v' :=
  (lstep_inv hinv e hc ho).2.2.2 c' v' hc' hnt

theorem lrun_inv {lw : LWorld} (hinv : LInv lw) :
    ∀ (es : List LEvent), (∀ e ∈ es, e.cbw) → (∀ e ∈ es, e.ownVar) →
    LInv (lrun lw es) ∧ lw.w.nctx ≤ (lrun lw es).w.nctx ∧ lw.nvar ≤ (lrun lw es).nvar ∧
    ∀ c' v', c' < lw.w.nctx → NoTouch c' v' lw es → obs (lrun lw es).w c' v' = obs lw.w c' v' := by
  intro es
  induction es generalizing lw with
  | nil => intro _ _; exact ⟨hinv, Nat.le_refl _, Nat.le_refl _, fun _ _ _ _ => rfl⟩
  | cons e t ih =>
    intro hc ho
    obtain ⟨h1, h2, h2', h3⟩ := lstep_inv hinv e (hc e (by simp)) (ho e (by simp))
    obtain ⟨g1, g2, g2', g3⟩ := ih h1 (fun x hx => hc x (List.mem_cons_of_mem _ hx))
      (fun x hx => ho x (List.mem_cons_of_mem _ hx))
    simp only [lrun, List.foldl_cons] at g1 g2 g2' g3 ⊢
    refine ⟨g1, Nat.le_trans h2 g2, Nat.le_trans h2' g2', ?_⟩
    intro c' v' hc' hnt
    rw [g3 c' v' (by omega) hnt.2]
    exact h3 c' v' hc' hnt.1

theorem lrun_linv {lw : LWorld} (hinv : LInv lw) (es : List LEvent) (hc : ∀ e ∈ es, e.cbw) (ho : ∀ e ∈ es, e.ownVar) :
    LInv (lrun lw es) := (lrun_inv hinv es hc ho).1

theorem lrun_obs {lw : LWorld} (hinv : LInv lw) (es : List LEvent) (hc : ∀ e ∈ es, e.cbw) (ho : ∀ e ∈ es, e.ownVar)
    {c' v' : Nat} (hc' : c' < lw.w.nctx) (hnt : NoTouch c' v' lw es) : obs (lrun lw es).w c' v' = obs lw.w c' v' :=
  (lrun_inv hinv es hc ho).2.2.2 c' v' hc' hnt

/-- two different instances that were both created without `context_var` have different cells -/
def OwnDistinct (lw : LWorld) : Prop :=
  lw.insts.Pairwise fun i j => i.own = true → j.own = true → i.var ≠ j.var

theorem ownDistinct_init : OwnDistinct LWorld.init := List.Pairwise.nil

/-- ... read by handles -/
theorem OwnDistinct.getElem? {lw : LWorld} (hd : OwnDistinct lw) {a b : Nat} {ia ib : Inst}
    (ha : lw.insts[a]? = some ia) (hb : lw.insts[b]? = some ib) (hab : a ≠ b)
    (hoa : ia.own = true) (hob : ib.own = true) : ia.var ≠ ib.var := by
  obtain ⟨ha', rfl⟩ := List.getElem?_eq_some_iff.mp ha
  obtain ⟨hb', rfl⟩ := List.getElem?_eq_some_iff.mp hb
  rcases Nat.lt_or_gt_of_ne hab with h | h
  · exact List.pairwise_iff_getElem.mp hd a b ha' hb' h hoa hob
  · exact (List.pairwise_iff_getElem.mp hd b a hb' ha' h hob hoa).symm

theorem lstep_ownDistinct {lw : LWorld} (hinv : LInv lw) (hd : OwnDistinct lw) (e : LEvent)
    (ho : e.ownVar) : OwnDistinct (lstep lw e) := by
  -- an appended instance is compared with the old ones only
  have app : ∀ j : Inst, (∀ i ∈ lw.insts, i.own = true → j.own = true → i.var ≠ j.var) →
      (lw.insts ++ [j]).Pairwise fun i j => i.own = true → j.own = true → i.var ≠ j.var :=
    fun j h => List.pairwise_append.mpr ⟨hd, List.pairwise_singleton _ _, fun i hi j' hj =>
      List.mem_singleton.mp hj ▸ h i hi⟩
  cases e with
  | create pol addr st =>
    have hp : pol = .ownFresh := ho
    subst hp
    exact app _ fun i hi _ _ => Nat.ne_of_lt (hinv.instLt i hi)
  | createSharing h addr =>
    simp only [lstep]
    cases lw.inst? h with
    | none => exact hd
    | some i => exact app _ fun _ _ _ hoj => nomatch hoj
  | drop h => exact hd
  | gc => exact hd
  | call c h p a =>
    simp only [lstep]
    cases lw.inst? h <;> exact hd
  | copyCtx parent => exact hd
  | freshCtx => exact hd
  | cvSet c j x =>
    simp only [lstep]
    split <;> exact hd

theorem lrun_ownDistinct {lw : LWorld} (hinv : LInv lw) (hd : OwnDistinct lw) :
    ∀ (es : List LEvent), (∀ e ∈ es, e.cbw) → (∀ e ∈ es, e.ownVar) → OwnDistinct (lrun lw es) := by
  intro es
  induction es generalizing lw with
  | nil => intro _ _; exact hd
  | cons e t ih =>
    intro hc ho
    have h1 := lstep_linv hinv e (hc e (by simp)) (ho e (by simp))
    have h2 := lstep_ownDistinct hinv hd e (ho e (by simp))
    exact ih h1 h2 (fun x hx => hc x (List.mem_cons_of_mem _ hx))
      (fun x hx => ho x (List.mem_cons_of_mem _ hx))

/-- does the event execute in context `c`? (method calls and `ContextVar.set`) -/
def LEvent.inCtx (e : LEvent) (c : Nat) : Prop :=
  match e with
  | .call c' _ _ _ => c' = c
  | .cvSet c' _ _ => c' = c
  | _ => False

instance LEvent.decInCtx (e : LEvent) (c : Nat) : Decidable (e.inCtx c) := by
  cases e <;> unfold LEvent.inCtx <;> infer_instance

/-- an event of another context (or a creation, disposal, collection, context copy) changes nothing
that context `c` observes -/
theorem lstep_other_ctx {lw : LWorld} (hinv : LInv lw) (e : LEvent) (hc : e.cbw) (ho : e.ownVar)
    (c : Nat) (hcn : c < lw.w.nctx) (hne : ¬ e.inCtx c) :
    (∀ v, obs (lstep lw e).w c v = obs lw.w c v) ∧ (∀ j, (lstep lw e).cv c j = lw.cv c j) := by
  refine ⟨?_, ?_⟩
  · intro v
    apply lstep_obs hinv e hc ho hcn
    intro ht
    cases e with
    | call c' h p a => exact hne ht.1
    | _ => exact ht
  · intro j
    cases e with
    | create pol addr st =>
      have hp : pol = .ownFresh := ho
      subst hp; rfl
    | createSharing h addr => simp only [lstep]; split <;> rfl
    | drop h => rfl
    | gc => rfl
    | call c' h p a => simp only [lstep]; split <;> rfl
    | copyCtx parent =>
      have : c ≠ lw.w.nctx := by omega
      simp [lstep, this]
    | freshCtx =>
      have : c ≠ lw.w.nctx := by omega
      simp [lstep, this]
    | cvSet c' j' x =>
      have hne' : ¬ c' = c := hne
      simp only [lstep]
      split
      · have : ¬ (c = c' ∧ j = j') := fun h => hne' h.1.symm
        simp [this]
      · rfl

theorem lrun_other_ctx {lw : LWorld} (hinv : LInv lw) :
    ∀ (es : List LEvent), (∀ e ∈ es, e.cbw) → (∀ e ∈ es, e.ownVar) →
    ∀ (c : Nat), c < lw.w.nctx → (∀ e ∈ es, ¬ e.inCtx c) →
    (∀ v, obs (lrun lw es).w c v = obs lw.w c v) ∧ (∀ j, (lrun lw es).cv c j = lw.cv c j) := by
  intro es
  induction es generalizing lw with
  | nil => intro _ _ c _ _; exact ⟨fun _ => rfl, fun _ => rfl⟩
  | cons e t ih =>
    intro hc ho c hcn hne
    obtain ⟨h1, h2, _, _⟩ := lstep_inv hinv e (hc e (by simp)) (ho e (by simp))
    obtain ⟨a1, a2⟩ := lstep_other_ctx hinv e (hc e (by simp)) (ho e (by simp)) c hcn (hne e (by simp))
    obtain ⟨b1, b2⟩ := ih h1 (fun x hx => hc x (List.mem_cons_of_mem _ hx))
      (fun x hx => ho x (List.mem_cons_of_mem _ hx)) c (by omega)
      (fun x hx => hne x (List.mem_cons_of_mem _ hx))
    simp only [lrun, List.foldl_cons] at b1 b2 ⊢
    exact ⟨fun v => by rw [b1 v, a1 v], fun j => by rw [b2 j, a2 j]⟩

theorem releaseEvent_cbw (lw : LWorld) (c h : Nat) : (releaseEvent lw c h).cbw := by
  show CopyBeforeWrite _
  cases lw.inst? h with
  | none => decide
  | some i => exact release_cbw i.isStack

/-- the payload context `c` sees through cell `v` is an empty mapping / stack -/
def Released (w : World) (c v : Nat) : Prop := ∃ st, obs w c v = some (Obj.empty st)

theorem release_step {lw : LWorld} (hinv : LInv lw) (c h : Nat) (hc : c < lw.w.nctx) :
    let lw' := lstep lw (releaseEvent lw c h)
    LInv lw' ∧ lw'.w.nctx = lw.w.nctx ∧ lw'.insts = lw.insts ∧ lw'.dead = lw.dead ∧
    (∀ i, lw.inst? h = some i → Released lw'.w c i.var) ∧
    (∀ c' v', c' < lw.w.nctx → ¬(c' = c ∧ ∃ i, lw.inst? h = some i ∧ i.var = v') →
      obs lw'.w c' v' = obs lw.w c' v') := by
  intro lw'
  refine ⟨lstep_linv hinv _ (releaseEvent_cbw lw c h) trivial, ?_, ?_, ?_, ?_, ?_⟩
  · simp only [lw', releaseEvent, lstep]
    cases hi : lw.inst? h with
    | none => rfl
    | some i =>
      exact (stepEvent_call_effect hinv.wf c i.var _ {} (release_cbw i.isStack)).nctxEq
  · simp only [lw', releaseEvent, lstep]; cases lw.inst? h <;> rfl
  · simp only [lw', releaseEvent, lstep]; cases lw.inst? h <;> rfl
  · intro i hi
    refine ⟨i.isStack, ?_⟩
    simp only [lw', releaseEvent, lstep, hi]
    exact release_obs lw.w c i.var hc i.isStack
  · intro c' v' hc' hne
    apply lstep_obs hinv _ (releaseEvent_cbw lw c h) trivial hc'
    intro ht
    exact hne ⟨ht.1.symm, ht.2⟩

theorem inst?_congr {lw lw' : LWorld} (hi : lw'.insts = lw.insts) (hd : lw'.dead = lw.dead) (h : Nat) :
    lw'.inst? h = lw.inst? h := by
  simp [LWorld.inst?, hi, hd]

theorem cleanup_inv {lw : LWorld} (hinv : LInv lw) (c : Nat) (hc : c < lw.w.nctx) :
    ∀ (hs : List Nat),
    (∀ h ∈ hs, ∀ i, lw.inst? h = some i → Released (cleanupRun lw c hs).w c i.var) ∧
    (∀ c' v', c' < lw.w.nctx →
      ¬(c' = c ∧ ∃ h ∈ hs, ∃ i, lw.inst? h = some i ∧ i.var = v') →
      obs (cleanupRun lw c hs).w c' v' = obs lw.w c' v') := by
  intro hs
  induction hs generalizing lw with
  | nil => exact ⟨fun h hh => by simp at hh, fun _ _ _ _ => rfl⟩
  | cons h t ih =>
    obtain ⟨g1, g2, g3, g4, g5, g6⟩ := release_step hinv c h hc
    have hcong := inst?_congr g3 g4
    obtain ⟨i1, i2⟩ := ih g1 (by rw [g2]; exact hc)
    refine ⟨?_, ?_⟩
    · intro h' hh' i hi
      simp only [cleanupRun]
      rcases List.mem_cons.mp hh' with rfl | hmem
      · -- released by the first step; the rest either re-releases the same cell or leaves it alone
        by_cases hex : ∃ h'' ∈ t, ∃ i'', lw.inst? h'' = some i'' ∧ i''.var = i.var
        · obtain ⟨h'', hm, i'', hi'', hv⟩ := hex
          have := i1 h'' hm i'' (by rw [hcong]; exact hi'')
          rw [hv] at this; exact this
        · have := i2 c i.var (by rw [g2]; exact hc) (by
            rintro ⟨_, h'', hm, i'', hi'', hv⟩
            exact hex ⟨h'', hm, i'', by rw [← hcong]; exact hi'', hv⟩)
          unfold Released
          rw [this]
          exact g5 i hi
      · exact i1 h' hmem i (by rw [hcong]; exact hi)
    · intro c' v' hc' hne
      simp only [cleanupRun]
      rw [i2 c' v' (by rw [g2]; exact hc') (by
        rintro ⟨hcc, h'', hm, i'', hi'', hv⟩
        exact hne ⟨hcc, h'', List.mem_cons_of_mem _ hm, i'', by rw [← hcong]; exact hi'', hv⟩)]
      apply g6 c' v' hc'
      rintro ⟨hcc, i'', hi'', hv⟩
      exact hne ⟨hcc, h, by simp, i'', hi'', hv⟩

end Wz.Local
