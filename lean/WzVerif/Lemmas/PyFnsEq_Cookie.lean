/-
`dump_cookie` and `parse_cookie` *as regenerated from the source* (`Gen/PyFns_Cookie.lean`) against the
model of `Model/Cookie.lean`. `parse_cookie`'s loop is read one pair at a time
(`sansio_parse_cookie_loop_cons`: a pair contributes the model's `pairOf`). The translated `dump_cookie`
is a tower of continuations, one per `if` of the source and per item of the unrolled attribute loop;
each step has a closed form stated for any rest of the function (`kv_item`, `flag_item`, `quote_step`,
`samesite_step`), from which `dump_cookie_core` and then `dump_cookie_eq` follow: the translation is
`Cookie.dumpCookie` on the attribute record the source computes, errors in the source's order.

`domainStep`, `expiresStep`, `domainText` describe the steps as the source writes them; the model's front
half (`resolveDomain`, `resolveExpires`, `domainHost` of Model/CookieAttrs.lean, what C13
`attributes_exact_full` is about) describes the same steps a second time, and no theorem connects the two:
the translated function is compared with `Cookie.dumpCookie` only.

Note on `domain=""`: `if domain:` is false for the empty text, so the variable keeps `""`, which is
neither `None` nor `False` in the attribute loop: the header contains `Domain=` (checked against
CPython: `dump_cookie('k', 'v', domain='')` is `'k=v; Domain=; Path=/'`). `domainStep` therefore maps
`some []` to `some []`, not to `none`; translation, model (`kvPart "Domain" (some [])`) and the real
function agree.
-/
import WzVerif.Gen.PyFns_Cookie
import WzVerif.Lemmas.Cookie
import WzVerif.Lemmas.PyFns_Prelude
import WzVerif.Lemmas.PyFns_HttpList
namespace Wz.PyFnsEq.Cookie
open Wz Wz.Pre Wz.PyFnsHttp
open Gen.PyFns_Cookie

theorem unquoteValue_eq (cv : Str) : Cookie.unquoteValue cv =
    match Http.stripDq? cv with
    | some inner => Py.decodeReplace (Cookie.unslash (utf8Enc inner))
    | none => cv := by
  by_cases hq : ∃ rest, cv = '"' :: rest
  · obtain ⟨rest, rfl⟩ := hq
    unfold Cookie.unquoteValue Http.stripDq?
    cases h : rest.reverse with
    | nil =>
      have : rest = [] := by simpa using h
      subst this; simp
    | cons y m =>
      have : rest = m.reverse ++ [y] := by
        have := congrArg List.reverse h; simpa using this
      subst this
      by_cases hy : y = '"'
      · subst hy; simp
      · simp [hy]
  · have h1 : Http.stripDq? cv = none := by
      unfold Http.stripDq?
      split
      · exact absurd ⟨_, rfl⟩ hq
      · rfl
    rw [h1]
    unfold Cookie.unquoteValue
    split
    · exact absurd ⟨_, rfl⟩ hq
    · rfl

/-- one turn of the `for ck, cv in _cookie_re.findall(cookie)` loop: the pair contributes what `pairOf`
says (nothing for an empty name); `cv[0]` / `cv[-1]` are only reached for a value of at least two
characters, so the loop never leaves the function -/
theorem sansio_parse_cookie_loop_cons (p : Str × Str) (t out : List (Str × Str)) :
    sansio_parse_cookie.loop1 (p :: t) out = sansio_parse_cookie.loop1 t (out ++ (Cookie.pairOf p).toList) := by
  rw [sansio_parse_cookie.loop1]
  simp only [Pre.strip, Cookie.pairOf]
  by_cases hk : (Py.strip p.1).isEmpty = true
  · simp only [hk, if_true, Option.toList_none, List.append_nil]
  · simp only [hk, Bool.false_eq_true, if_false, cookieUnslashValue]
    refine (dq_step2 (Py.strip p.2)
      (fun inner => sansio_parse_cookie.loop1 t
        (out ++ [(Py.strip p.1, Py.decodeReplace (Cookie.unslash (utf8Enc inner)))]))
      (fun cv => sansio_parse_cookie.loop1 t (out ++ [(Py.strip p.1, cv)])) (fun x => .ret (.error x))).trans ?_
    rw [unquoteValue_eq]
    cases Http.stripDq? (Py.strip p.2) <;> rfl

theorem titleAux_eq (s : Str) : ∀ prev, Pre.titleAux prev s = Cookie.titleAscii.go s prev := by
  induction s with
  | nil => intro prev; rfl
  | cons c t ih =>
    intro prev
    simp only [Pre.titleAux, Cookie.titleAscii.go, ih]
    by_cases h : c.isAlpha = true <;> simp [h]

theorem title_eq (s : Str) : Pre.title s = Cookie.titleAscii s := titleAux_eq s false

/-- the text handed to the IDNA codec: `domain.partition(":")[0].lstrip(".")` -/
def domainText (d : Str) : Str := Pre.lstripChars (Pre.partition d [':']).1 ['.']

theorem domainText_eq (d : Str) : domainText d = (d.takeWhile (· != ':')).dropWhile (· == '.') := by
  rw [domainText, lstripChars_singleton, partition_singleton_fst]

/-- The `if domain:` step of `dump_cookie`: what the variable `domain` holds afterwards, or the error
the IDNA codec (`idna`, opaque) raised. `None` stays `None`; the empty text is falsy and stays `""`
(and is printed as `Domain=`); anything else is replaced by the IDNA text of
`domain.partition(":")[0].lstrip(".")`. -/
def domainStep (idna : Str → Except String Str) : Option Str → Except String (Option Str)
  | none => .ok none
  | some d => if d.isEmpty then .ok (some d) else (idna (domainText d)).map some

theorem domainStep_of_ne_nil (idna : Str → Except String Str) {dom : Str} (h : dom ≠ []) :
    domainStep idna (some dom) = (idna (domainText dom)).map some := by
  cases dom with
  | nil => exact absurd rfl h
  | cons c t => rfl

/-- The `expires` step of `dump_cookie` for `expires : str | None`: a given text is kept; otherwise
`http_date(now + max_age)` (`expires_in max_age`, opaque) when `max_age` is given and `sync_expires`
is set; otherwise nothing. -/
def expiresStep (expires_in : Int → Str) (max_age : Option Int) (expires : Option Str) (sync_expires : Bool) :
    Option Str :=
  match expires with
  | some e => some e
  | none =>
    match max_age with
    | some m => if sync_expires then some (expires_in m) else none
    | none => none

/-- the `"; "` of `"; ".join(buf)` -/
def sep : Str := [';', ' ']

/-! the tails of the attribute list: what the unrolled attribute loop still appends from its
`i`-th item on -/

def parts8 (partitioned : Bool) : List Str := Cookie.flagPart "Partitioned" partitioned
def parts7 (ss : Option Str) (partitioned : Bool) : List Str := Cookie.kvPart "SameSite" ss ++ parts8 partitioned
def parts6 (path ss : Option Str) (partitioned : Bool) : List Str := Cookie.kvPart "Path" path ++ parts7 ss partitioned
def parts5 (httponly : Bool) (path ss : Option Str) (partitioned : Bool) : List Str :=
  Cookie.flagPart "HttpOnly" httponly ++ parts6 path ss partitioned
def parts4 (secure httponly : Bool) (path ss : Option Str) (partitioned : Bool) : List Str :=
  Cookie.flagPart "Secure" secure ++ parts5 httponly path ss partitioned
def parts3 (maxAge : Option Int) (secure httponly : Bool) (path ss : Option Str) (partitioned : Bool) : List Str :=
  Cookie.kvPart "Max-Age" (maxAge.map Cookie.intText) ++ parts4 secure httponly path ss partitioned
def parts2 (expires : Option Str) (maxAge : Option Int) (secure httponly : Bool) (path ss : Option Str)
    (partitioned : Bool) : List Str :=
  Cookie.kvPart "Expires" expires ++ parts3 maxAge secure httponly path ss partitioned
/-- the attribute parts of the header, from the values `dump_cookie`'s local variables hold when the
attribute loop starts -/
def parts (domain expires : Option Str) (maxAge : Option Int) (secure httponly : Bool)
    (path ss : Option Str) (partitioned : Bool) : List Str :=
  Cookie.kvPart "Domain" domain ++ parts2 expires maxAge secure httponly path ss partitioned

/-- `dump_cookie` from the value-quoting step on (`ps` = the attribute parts) -/
def valueSpec (key value : Str) (ps : List Str) : Except String Str :=
  match Cookie.dumpValue value with
  | .error e => .error e
  | .ok hv => .ok (Pre.join sep ((Pre.utf8ThenLatin1 key ++ ['='] ++ hv) :: ps))

/-- `dump_cookie` from the SameSite step on, with the values the local variables hold at that point -/
def tailSpec (key value : Str) (maxAge : Option Int) (expires path domain : Option Str)
    (secure httponly : Bool) (samesite : Option Str) (partitioned : Bool) : Except String Str :=
  match Cookie.canonSameSite samesite with
  | .error e => .error e
  | .ok ss => valueSpec key value (parts domain expires maxAge (partitioned || secure) httponly path ss partitioned)

/-! One item of the unrolled attribute loop, followed by a rest of the function `next` that renders
`rest` after whatever is in the buffer. The name `k` is the character list of the source's tuple
literal; `String.ofList k` is, by definition, the string literal the model's `kvPart` / `flagPart`
is called with. -/

theorem kv_item (k : Str) (v : Option Str) {next : List Str → Except String Str}
    {rest : List Str} (hnext : ∀ b, next b = .ok (Pre.join sep (b ++ rest))) (buf : List Str) :
    (match v with
      | none => next buf
      | some x => next (buf ++ [k ++ ['='] ++ x])) =
      .ok (Pre.join sep (buf ++ (Cookie.kvPart (String.ofList k) v ++ rest))) := by
  cases v <;> simp [hnext, Cookie.kvPart]

/-- the same for the one `int` value, `Max-Age`, printed by `str()` -/
theorem kv_item_int (k : Str) (v : Option Int) {next : List Str → Except String Str}
    {rest : List Str} (hnext : ∀ b, next b = .ok (Pre.join sep (b ++ rest))) (buf : List Str) :
    (match v with
      | none => next buf
      | some x => next (buf ++ [k ++ ['='] ++ Pre.strOfInt x])) =
      .ok (Pre.join sep (buf ++ (Cookie.kvPart (String.ofList k) (v.map Cookie.intText) ++ rest))) := by
  cases v <;> simp [hnext, Cookie.kvPart, Cookie.intText, Pre.strOfInt]

theorem flag_item (k : Str) (b : Bool) {next : List Str → Except String Str}
    {rest : List Str} (hnext : ∀ b, next b = .ok (Pre.join sep (b ++ rest))) (buf : List Str) :
    (if (!b) = true then next buf else next (buf ++ [k])) =
      .ok (Pre.join sep (buf ++ (Cookie.flagPart (String.ofList k) b ++ rest))) := by
  cases b <;> simp [hnext, Cookie.flagPart]

/-- the `{"Strict", "Lax", "None"}` literal -/
theorem ss_lits : "Strict".toList = ['S', 't', 'r', 'i', 'c', 't'] ∧ "Lax".toList = ['L', 'a', 'x']
    ∧ "None".toList = ['N', 'o', 'n', 'e'] :=
  ⟨String.toList_ofList, String.toList_ofList, String.toList_ofList⟩

/-- the value-quoting step of `dump_cookie`, before any rest `next` of the function, is the model's
`dumpValue` -/
theorem quote_step (value : Str) (next : Str → Except String Str) :
    (if !((cookieNoQuoteFullmatch value).isSome) then
       match cookieEscapeValue value with
       | .error e => .error e
       | .ok v2 => next (['"'] ++ v2 ++ ['"'])
     else next value) =
    match Cookie.dumpValue value with
    | .error e => .error e
    | .ok hv => next hv := by
  simp only [Cookie.dumpValue, cookieNoQuoteFullmatch, cookieEscapeValue]
  by_cases hq : value.all Cookie.noQuoteChar = true
  · simp [hq]
  · simp only [hq]
    cases Cookie.escapeBytes (utf8Enc value) with
    | none => simp
    | some b => cases h : Cookie.asciiDec b <;> simp [h]

/-- the SameSite step (`samesite.title()`, the membership test with its `ValueError`) is the model's
`canonSameSite` -/
theorem samesite_step (samesite : Option Str) (next : Option Str → Except String Str) :
    (match samesite with
     | none => next none
     | some s =>
       if !(Pre.title s == ['S', 't', 'r', 'i', 'c', 't'] || Pre.title s == ['L', 'a', 'x'] ||
           Pre.title s == ['N', 'o', 'n', 'e']) then
         .error "ValueError"
       else next (some (Pre.title s))) =
    match Cookie.canonSameSite samesite with
    | .error e => .error e
    | .ok ss => next ss := by
  cases samesite with
  | none => rfl
  | some s =>
    simp only [Cookie.canonSameSite, title_eq, ss_lits]
    generalize Cookie.titleAscii s = t
    by_cases hc : (t == ['S', 't', 'r', 'i', 'c', 't'] || t == ['L', 'a', 'x'] || t == ['N', 'o', 'n', 'e']) = true
    · simp only [hc, Bool.not_true, Bool.false_eq_true, if_false, if_true]
    · simp only [hc, Bool.not_false, Bool.false_eq_true, if_false, if_true]

/-- `dump_cookie`, as translated from the current source, in terms of the steps of this file
(`domainStep`, `expiresStep`, `tailSpec`). The proof follows the translation's continuation structure
(`k1_` … `k25_`: one local function per `if` of the source and per item of the unrolled attribute
loop) from the outside in, proving for each continuation a closed form of everything that follows.
The size warning (`max_size`) has no influence on the result. -/
theorem dump_cookie_core (idna : Str → Except String Str) (expires_in : Int → Str) (key value : Str)
    (max_age : Option Int) (expires path domain : Option Str) (secure httponly sync_expires : Bool)
    (max_size : Int) (samesite : Option Str) (partitioned : Bool) :
    dump_cookie idna expires_in key value max_age expires path domain secure httponly sync_expires
        max_size samesite partitioned =
      (domainStep idna domain).bind fun d =>
        tailSpec key value max_age (expiresStep expires_in max_age expires sync_expires)
          (path.map (Url.quote ['%', '!', '$', '&', '\'', '(', ')', '*', '+', ',', '/', ':', '=', '@']))
          d secure httponly samesite partitioned := by
  unfold dump_cookie
  extract_lets -underBinder +onlyGivenNames k1
  have h1 : ∀ p, k1 p = (domainStep idna domain).bind fun d =>
      tailSpec key value max_age (expiresStep expires_in max_age expires sync_expires) p d secure
        httponly samesite partitioned := by
    intro p; unfold k1; extract_lets -underBinder +onlyGivenNames k2
    have h2 : ∀ d, k2 d = tailSpec key value max_age (expiresStep expires_in max_age expires sync_expires)
        p d secure httponly samesite partitioned := by
      intro d; unfold k2; extract_lets -underBinder +onlyGivenNames k3
      have h3 : ∀ m, k3 m = tailSpec key value m (expiresStep expires_in m expires sync_expires)
          p d secure httponly samesite partitioned := by
        intro m; unfold k3; extract_lets -underBinder +onlyGivenNames k4
        have h4 : ∀ e, k4 e = tailSpec key value m e p d secure httponly samesite partitioned := by
          intro e; unfold k4; extract_lets -underBinder +onlyGivenNames k7
          have h7 : ∀ ss, k7 ss = valueSpec key value
              (parts d e m (partitioned || secure) httponly p ss partitioned) := by
            intro ss; unfold k7; extract_lets -underBinder +onlyGivenNames k9 sec'
            have h9 : ∀ sec, k9 sec = valueSpec key value (parts d e m sec httponly p ss partitioned) := by
              intro sec; unfold k9; extract_lets -underBinder +onlyGivenNames k10
              have h10 : ∀ v, k10 v = .ok (Pre.join sep ((Pre.utf8ThenLatin1 key ++ ['='] ++ v) ::
                  parts d e m sec httponly p ss partitioned)) := by
                intro v; unfold k10; extract_lets -underBinder +onlyGivenNames buf0 kD vD k11
                have h11 : ∀ buf, k11 buf = .ok (Pre.join sep (buf ++ parts2 e m sec httponly p ss partitioned)) := by
                  intro buf; unfold k11; extract_lets -underBinder +onlyGivenNames kE vE k13
                  have h13 : ∀ buf, k13 buf = .ok (Pre.join sep (buf ++ parts3 m sec httponly p ss partitioned)) := by
                    intro buf; unfold k13; extract_lets -underBinder +onlyGivenNames kM vM k15
                    have h15 : ∀ buf, k15 buf = .ok (Pre.join sep (buf ++ parts4 sec httponly p ss partitioned)) := by
                      intro buf; unfold k15; extract_lets -underBinder +onlyGivenNames kS vS k17
                      have h17 : ∀ buf, k17 buf = .ok (Pre.join sep (buf ++ parts5 httponly p ss partitioned)) := by
                        intro buf; unfold k17; extract_lets -underBinder +onlyGivenNames kH vH k19
                        have h19 : ∀ buf, k19 buf = .ok (Pre.join sep (buf ++ parts6 p ss partitioned)) := by
                          intro buf; unfold k19; extract_lets -underBinder +onlyGivenNames kP vP k21
                          have h21 : ∀ buf, k21 buf = .ok (Pre.join sep (buf ++ parts7 ss partitioned)) := by
                            intro buf; unfold k21; extract_lets -underBinder +onlyGivenNames kSS vSS k23
                            have h23 : ∀ buf, k23 buf = .ok (Pre.join sep (buf ++ parts8 partitioned)) := by
                              intro buf; unfold k23; extract_lets -underBinder +onlyGivenNames kPa vPa k25
                              have h25 : ∀ buf, k25 buf = .ok (Pre.join sep buf) := by
                                intro buf; unfold k25
                                simp only [sep]
                                split <;> rfl
                              simpa [parts8] using flag_item kPa vPa (rest := []) (fun b => by simpa using h25 b) buf
                            exact kv_item kSS vSS h23 buf
                          exact kv_item kP vP h21 buf
                        exact flag_item kH vH h19 buf
                      exact flag_item kS vS h17 buf
                    exact kv_item_int kM vM h15 buf
                  exact kv_item kE vE h13 buf
                exact kv_item kD vD h11 buf0
              exact (quote_step value k10).trans (by simp only [h10]; rfl)
            rw [h9]
            cases partitioned <;> simp [sec']
          exact (samesite_step samesite k7).trans (by simp only [h7]; rfl)
        cases expires <;> cases m <;> cases sync_expires <;> simp [h4, expiresStep]
      exact h3 max_age
    cases domain with
    | none => simp [h2, domainStep, Except.bind]
    | some dom =>
      by_cases he : dom.isEmpty = true
      · simp [h2, domainStep, Except.bind, he]
      · simp only [h2, domainStep, he, domainText]
        cases idna (Pre.lstripChars (Pre.partition dom [':']).1 ['.']) <;> simp [Except.bind, Except.map]
  cases path <;> simp [h1]

/-- from the SameSite step on, the translation is the model's `dumpCookie` on the attribute record
(`"; ".join` = `List.intercalate`, `key.encode().decode("latin1")`, `Partitioned` forces `Secure`) -/
theorem tailSpec_eq (key value : Str) (m : Option Int) (e p d : Option Str) (secure httponly : Bool)
    (samesite : Option Str) (partitioned : Bool) :
    tailSpec key value m e p d secure httponly samesite partitioned =
      Cookie.dumpCookie key value {
        domain := d, expires := e, maxAge := m, secure := secure,
        httponly := httponly, path := p, samesite := samesite, partitioned := partitioned } := by
  have hs : "; ".toList = [';', ' '] := by decide
  unfold tailSpec Cookie.dumpCookie valueSpec
  cases Cookie.canonSameSite samesite with
  | error x => rfl
  | ok ss =>
    simp only []
    cases Cookie.dumpValue value with
    | error x => rfl
    | ok hv =>
      simp [Pre.join_eq_intercalate, sep, hs, parts, parts2, parts3, parts4, parts5, parts6, parts7, parts8,
        Cookie.attrParts, Pre.utf8ThenLatin1, Bool.or_comm]

/-- the translated `dump_cookie` is `Cookie.dumpCookie` on the attribute record the source computes;
Props/C13T states it again with what it means in werkzeug's terms -/
theorem dump_cookie_eq (idna : Str → Except String Str) (expires_in : Int → Str) (key value : Str)
    (max_age : Option Int) (expires path domain : Option Str) (secure httponly sync_expires : Bool)
    (max_size : Int) (samesite : Option Str) (partitioned : Bool) :
    dump_cookie idna expires_in key value max_age expires path domain secure httponly sync_expires
        max_size samesite partitioned =
      (domainStep idna domain).bind fun d =>
        Cookie.dumpCookie key value {
          domain := d
          expires := expiresStep expires_in max_age expires sync_expires
          maxAge := max_age
          secure := secure
          httponly := httponly
          path := path.map (Url.quote "%!$&'()*+,/:=@".toList)
          samesite := samesite
          partitioned := partitioned } := by
  rw [dump_cookie_core, String.toList_ofList]
  simp only [tailSpec_eq]

/-- With an IDNA codec that answers `t` for the (non-empty) domain, `dump_cookie` is the model's
`dumpCookie` with `Domain=t`. -/
theorem dump_cookie_idna_ok (idna : Str → Except String Str) (expires_in : Int → Str) (key value : Str)
    (max_age : Option Int) (expires path : Option Str) (dom t : Str) (secure httponly sync_expires : Bool)
    (max_size : Int) (samesite : Option Str) (partitioned : Bool)
    (hne : dom ≠ []) (ht : idna (domainText dom) = .ok t) :
    dump_cookie idna expires_in key value max_age expires path (some dom) secure httponly sync_expires
        max_size samesite partitioned =
      Cookie.dumpCookie key value {
        domain := some t
        expires := expiresStep expires_in max_age expires sync_expires
        maxAge := max_age
        secure := secure
        httponly := httponly
        path := path.map (Url.quote "%!$&'()*+,/:=@".toList)
        samesite := samesite
        partitioned := partitioned } := by
  rw [dump_cookie_eq, domainStep_of_ne_nil idna hne, ht]
  rfl

/-- Without a domain the IDNA codec is never consulted: `dump_cookie` is the model's `dumpCookie`
without a `Domain` attribute. -/
theorem dump_cookie_no_domain (idna : Str → Except String Str) (expires_in : Int → Str) (key value : Str)
    (max_age : Option Int) (expires path : Option Str) (secure httponly sync_expires : Bool)
    (max_size : Int) (samesite : Option Str) (partitioned : Bool) :
    dump_cookie idna expires_in key value max_age expires path none secure httponly sync_expires
        max_size samesite partitioned =
      Cookie.dumpCookie key value {
        domain := none
        expires := expiresStep expires_in max_age expires sync_expires
        maxAge := max_age
        secure := secure
        httponly := httponly
        path := path.map (Url.quote "%!$&'()*+,/:=@".toList)
        samesite := samesite
        partitioned := partitioned } := by
  rw [dump_cookie_eq]; rfl

end Wz.PyFnsEq.Cookie
