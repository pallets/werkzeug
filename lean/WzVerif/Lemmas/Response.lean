/-
C05's header lemmas. `Clean` (no stored value has CR or LF) is kept by every mutator of `Headers`: the keyed ones are lists of the
atomic actions of `HdrSpec`, which also says when they raise. What `get_wsgi_headers` leaves under a header name, the
Content-Length in particular. The exhaustive table of `get_wsgi_headers` / `get_app_iter` decisions is the graph of a row
function (`wsgiTable_graph`), and the model computes the same row (`model_row`): one status of each class stands for all.
-/
import WzVerif.Model.Response
import WzVerif.Lemmas.HeadersSpec
import WzVerif.Lemmas.ViewsInt
import WzVerif.Lemmas.UrlNetloc
namespace Wz.C05L
open Wz Hdr Wz.C08L

/-- every stored value is free of CR and LF -/
def Clean (l : HList) : Prop := ∀ p ∈ l, hasNL p.2 = false

theorem clean_nil : Clean [] := by intro p hp; cases hp

theorem clean_append {a b : HList} (ha : Clean a) (hb : Clean b) : Clean (a ++ b) := by
  intro p hp
  rcases List.mem_append.1 hp with h | h
  · exact ha p h
  · exact hb p h

theorem clean_single {k v : Str} (hv : hasNL v = false) : Clean [(k, v)] := by
  intro p hp; simp at hp; subst hp; exact hv

theorem clean_sub {a b : HList} (h : ∀ p ∈ a, p ∈ b) (hb : Clean b) : Clean a :=
  fun p hp => hb p (h p hp)

theorem clean_filter {l : HList} (f : Pair → Bool) (h : Clean l) : Clean (l.filter f) :=
  clean_sub (fun _ hp => (List.mem_filter.1 hp).1) h

theorem clean_cons {p : Pair} {l : HList} (hp : hasNL p.2 = false) (h : Clean l) : Clean (p :: l) := by
  intro q hq
  rcases List.mem_cons.1 hq with e | e
  · subst e; exact hp
  · exact h q e

theorem clean_ite {c : Prop} [Decidable c] {a b : HList} (ha : Clean a) (hb : Clean b) :
    Clean (if c then a else b) := by
  split <;> assumption

theorem strHeaderValue_clean {v vs : Str} (h : strHeaderValue v = .ok vs) : hasNL vs = false ∧ vs = v := by
  unfold strHeaderValue at h
  cases hv : hasNL v with
  | true => simp [hv] at h
  | false => simp [hv] at h; subst h; exact ⟨hv, rfl⟩

theorem specSet_clean (l : HList) (k v : Str) (hv : hasNL v = false) (h : Clean l) : Clean (specSet l k v) := by
  induction l with
  | nil => exact clean_single hv
  | cons p t ih =>
    have ht : Clean t := fun q hq => h q (List.mem_cons_of_mem _ hq)
    rw [specSet_cons]
    split
    · exact clean_cons hv (clean_filter _ ht)
    · exact clean_cons (h p List.mem_cons_self) (ih ht)

theorem apply_clean (l : HList) (a : HdrSpec.Act) (h : Clean l) : Clean (a.apply l).1 := by
  cases a with
  | add k v =>
    cases hv : hasNL v with
    | true => rw [HdrSpec.Act.apply_bad (a := .add k v) l hv]; exact h
    | false => rw [HdrSpec.Act.apply_add l k hv]; exact clean_append h (clean_single hv)
  | set k v =>
    cases hv : hasNL v with
    | true => rw [HdrSpec.Act.apply_bad (a := .set k v) l hv]; exact h
    | false => rw [HdrSpec.Act.apply_set l k hv]; exact specSet_clean l k v hv h
  | remove k => exact clean_filter _ h

theorem seqUntil_clean (l : HList) (acts : List HdrSpec.Act) (h : Clean l) : Clean (HdrSpec.seqUntil l acts).1 :=
  HdrSpec.seqUntil_inv l acts (fun l a _ => apply_clean l a) h

theorem clean_set_idx (l : HList) (n : Nat) (p : Pair) (hp : hasNL p.2 = false) (h : Clean l) : Clean (l.set n p) := by
  intro q hq
  rcases List.mem_or_eq_of_mem_set hq with e | e
  · exact h q e
  · subst e; exact hp

theorem clean_eraseIdx (l : HList) (n : Nat) (h : Clean l) : Clean (l.eraseIdx n) :=
  clean_sub (fun _ hp => List.mem_of_mem_eraseIdx hp) h

theorem setIdx_clean (l : HList) (i : Int) (p : Pair) (h : Clean l) : Clean (setIdx l i p).1 := by
  unfold setIdx
  cases hs : strHeaderValue p.2 with
  | error e => exact h
  | ok vs =>
    simp only
    cases pyIdx l.length i with
    | none => exact h
    | some n => exact clean_set_idx l n _ (strHeaderValue_clean hs).1 h

/-- slice assignment checks every value before it touches the list -/
theorem cleanPairs_eq (ps : List Pair) :
    cleanPairs ps = if ps.any (fun p => hasNL p.2) then .error "ValueError" else .ok ps := by
  induction ps with
  | nil => rfl
  | cons p t ih =>
    obtain ⟨k, v⟩ := p
    rw [cleanPairs, ih, List.any_cons, strHeaderValue]
    cases hasNL v with
    | true => rfl
    | false => cases t.any fun p => hasNL p.2 <;> rfl

theorem cleanPairs_clean (ps r : List Pair) (h : cleanPairs ps = .ok r) : Clean r := by
  rw [cleanPairs_eq] at h
  split at h
  · cases h
  · rename_i hb
    cases h
    exact fun p hp => Bool.eq_false_iff.2 fun hn => hb (List.any_eq_true.2 ⟨p, hp, hn⟩)

theorem setSlice_clean (l new : HList) (s : Slice) (h : Clean l) (hn : Clean new) : Clean (setSlice l s new) := by
  unfold setSlice
  simp only
  exact clean_append (clean_append (clean_sub (fun _ hp => List.mem_of_mem_take hp) h) hn)
    (clean_sub (fun _ hp => List.mem_of_mem_drop hp) h)

theorem setSliceOp_clean (l : HList) (s : Slice) (ps : List Pair) (h : Clean l) : Clean (setSliceOp l s ps).1 := by
  unfold setSliceOp
  cases hc : cleanPairs ps with
  | error e => exact h
  | ok r => exact setSlice_clean l r s h (cleanPairs_clean ps r hc)

theorem delIdx_clean (l : HList) (i : Int) (h : Clean l) : Clean (delIdx l i).1 := by
  unfold delIdx
  cases pyIdx l.length i with
  | none => exact h
  | some n => exact clean_eraseIdx l n h

theorem popIdx_clean (l : HList) (i : Int) (h : Clean l) : Clean (popIdx l i).1 := by
  unfold popIdx
  cases pyIdx l.length i with
  | none => exact h
  | some n =>
    simp only
    cases l[n]? with
    | none => exact h
    | some p => exact clean_eraseIdx l n h

/-- every public mutator keeps the values CR/LF-free, whether it succeeds or raises: the keyed ones are lists of
atomic actions, the positional ones list operations -/
theorem step_clean (l : HList) (op : Op) (h : Clean l) : Clean (step l op).1 := by
  rw [HdrSpec.step_refines]
  cases op with
  | setdefault k v => simp only [HdrSpec.step]; split; exact h; exact seqUntil_clean l _ h
  | setlistdefault k vs => simp only [HdrSpec.step]; split; exact h; exact seqUntil_clean l _ h
  | popKey k d => simp only [HdrSpec.step]; split; exact seqUntil_clean l _ h; exact h
  | clear => exact clean_nil
  | setitemIdx i p => exact setIdx_clean l i p h
  | setitemSlice s ps => exact setSliceOp_clean l s ps h
  | delitemIdx i => exact delIdx_clean l i h
  | delitemSlice s => exact setSlice_clean l [] s h clean_nil
  | popLast => exact popIdx_clean l (-1) h
  | popIdx i => exact popIdx_clean l i h
  | popitem => exact popIdx_clean l (-1) h
  | _ => exact seqUntil_clean l _ h

theorem set_clean (l : HList) (k v : Str) (h : Clean l) : Clean (Hdr.set l k v).1 := step_clean l (.set k v) h

theorem delKey_clean (l : HList) (k : Str) (h : Clean l) : Clean (delKey l k) := clean_filter _ h

theorem run_clean (l : HList) (ops : List Op) (h : Clean l) : Clean (run l ops) := by
  induction ops generalizing l with
  | nil => exact h
  | cons op t ih => exact ih _ (step_clean l op h)

open Resp Wz.C16L

theorem removeEntity_getlist (l : HList) (k : Str)
    (hk : Gen.Response.entityHeaders.contains (String.ofList (lower k)) = false ∨
      lower k = "expires".toList ∨ lower k = "content-location".toList) :
    getlist (removeEntityHeaders l) k = getlist l k := by
  apply filter_getlist
  intro q _ hq
  simp only [keyEq, beq_iff_eq] at hq
  simp only [isEntity, hq, Bool.or_eq_true, Bool.not_eq_true', beq_iff_eq]
  rcases hk with h | h | h
  · exact Or.inl (Or.inl h)
  · exact Or.inl (Or.inr h)
  · exact Or.inr h

/-- the headers after `get_wsgi_headers` stored the converted Location / Content-Location values -/
def locStored (r : R) (lo co : Str) : HList :=
  let h := if (getlist r.headers "location".toList).isEmpty then r.headers else (Hdr.set r.headers "Location".toList lo).1
  if (getlist r.headers "content-location".toList).isEmpty then h else (Hdr.set h "Content-Location".toList co).1

theorem locStored_getlist_other (r : R) (lo co k : Str) (h1 : lower k ≠ lower "Location".toList)
    (h2 : lower k ≠ lower "Content-Location".toList) : getlist (locStored r lo co) k = getlist r.headers k := by
  unfold locStored
  simp only
  rw [getlist_ite_set_ne _ _ _ _ _ h2, getlist_ite_set_ne _ _ _ _ _ h1]

theorem locStored_location (r : R) (lo co : Str) (hnl : hasNL lo = false) :
    getlist (locStored r lo co) "location".toList = if (getlist r.headers "location".toList).isEmpty then [] else [lo] := by
  unfold locStored
  simp only
  rw [getlist_ite_set_ne _ _ _ _ _ (by decide)]
  exact getlist_ite_set_self _ _ _ _ (by decide) hnl

theorem locStored_contentLocation (r : R) (lo co : Str) (hnl : hasNL co = false) :
    getlist (locStored r lo co) "content-location".toList =
      if (getlist r.headers "content-location".toList).isEmpty then [] else [co] := by
  unfold locStored
  simp only
  rw [← getlist_ite_set_ne ((getlist r.headers "location".toList).isEmpty = true) r.headers "Location".toList
    "content-location".toList lo (by decide)]
  exact getlist_ite_set_self _ _ _ _ (by decide) hnl

theorem locStored_clean (r : R) (lo co : Str) (h : Clean r.headers) : Clean (locStored r lo co) :=
  have h1 := clean_ite (c := (getlist r.headers "location".toList).isEmpty = true) h (set_clean _ "Location".toList lo h)
  clean_ite h1 (set_clean _ _ _ h1)

/-- `get_wsgi_headers` after the two Location stores (`locStored`): stripping by status class, then the automatic
Content-Length -/
theorem getWsgiHeaders_eq (r : R) (lo co : Str) :
    getWsgiHeaders r lo co =
      let h := if (decide (100 ≤ r.status) && decide (r.status < 200) || r.status == 204) = true then
          delKey (locStored r lo co) "Content-Length".toList
        else if (r.status == 304) = true then removeEntityHeaders (locStored r lo co) else locStored r lo co
      if (r.body.kind == .seq && ((getlist r.headers "content-length".toList).getLast?).isNone &&
          !(r.status == 204 || r.status == 304) && !(decide (100 ≤ r.status) && decide (r.status < 200))) = true then
        (Hdr.set h "Content-Length".toList (Views.CC.natText (totalLen r.body.items))).1
      else h := rfl

/-- what `get_wsgi_headers` leaves under a name that is not Content-Length: the entries after the
Location / Content-Location stores, untouched by the stripping and the automatic length -/
theorem wsgi_getlist_of (r : R) (lo co : Str) (k : Str)
    (hcl : lower k ≠ lower "Content-Length".toList)
    (hent : Gen.Response.entityHeaders.contains (String.ofList (lower k)) = false ∨
      lower k = "expires".toList ∨ lower k = "content-location".toList) :
    getlist (getWsgiHeaders r lo co) k = getlist (locStored r lo co) k := by
  rw [getWsgiHeaders_eq]
  generalize locStored r lo co = hb
  have h3 : getlist (if (decide (100 ≤ r.status) && decide (r.status < 200) || r.status == 204) = true then
      delKey hb "Content-Length".toList else if (r.status == 304) = true then removeEntityHeaders hb else hb) k
      = getlist hb k := by
    split
    · exact delKey_getlist_ne _ _ _ hcl
    · split
      · exact removeEntity_getlist hb k hent
      · rfl
  simp only
  split
  · rw [set_getlist_ne _ _ _ _ hcl, h3]
  · exact h3

theorem removeEntity_contentLength (l : HList) : getlist (removeEntityHeaders l) "content-length".toList = [] := by
  unfold getlist removeEntityHeaders
  rw [List.filter_filter, List.filter_eq_nil_iff.2, List.map_nil]
  intro q _
  cases hq : keyEq "content-length".toList q with
  | false => simp
  | true =>
    simp only [keyEq, beq_iff_eq] at hq
    simp only [isEntity, hq]
    decide

theorem bodyless_eq (s : Int) (m : Str) : bodyless s m =
    (m == "HEAD".toList || (decide (100 ≤ s) && decide (s < 200) || s == 204 || s == 304)) := by
  simp only [bodyless, Bool.or_assoc]

/-- **Content-Length as handed to the server**: none for 1xx / 204 / 304; otherwise the computed
length of a sequence body when none was set, and else whatever the response carries -/
theorem wsgi_content_length (r : R) (lo co : Str) :
    getlist (getWsgiHeaders r lo co) "content-length".toList =
      if (decide (100 ≤ r.status) && decide (r.status < 200) || r.status == 204 || r.status == 304) = true then []
      else if (r.body.kind == .seq && ((getlist r.headers "content-length".toList).getLast?).isNone) = true then
        [Views.CC.natText (totalLen r.body.items)]
      else getlist r.headers "content-length".toList := by
  have hloc := locStored_getlist_other r lo co "content-length".toList (by decide) (by decide)
  rw [getWsgiHeaders_eq]
  generalize locStored r lo co = hb at hloc
  generalize (decide (100 ≤ r.status) && decide (r.status < 200)) = inf
  cases inf <;> cases r.status == 204 <;> cases r.status == 304 <;>
    simp only [Bool.or_false, Bool.or_true, Bool.or_self, Bool.not_true, Bool.not_false,
      Bool.and_false, Bool.and_true, Bool.false_eq_true, if_false, if_true]
  case false.false.false =>
    split
    · exact set_getlist' _ _ _ _ (by decide) (natText_noNL _)
    · exact hloc
  case false.false.true => exact removeEntity_contentLength hb
  all_goals exact delKey_getlist' hb _ _ (by decide)

/-- the value column of `Gen.Response.wsgiTable` from the parts of the key: bytes produced,
Content-Length code, Content-Type still present -/
def wsgiRow (status method : Nat) (preset stream : Bool) : Nat :=
  let stripped := (100 ≤ status && status < 200) || status == 204 || status == 304
  (if method == 1 || stripped then 0 else 5)
    + 100 * (if stripped then 0 else if preset then 100 else if stream then 0 else 6)
    + 100000 * (if status == 304 then 0 else 1)

/-- the key of a row is `status * 12 + method * 4 + (2 if Content-Length is preset) + (1 if streamed)` -/
def wsgiKeyRow (k : Nat) : Nat := wsgiRow (k / 12) (k % 12 / 4) (k % 4 / 2 == 1) (k % 2 == 1)

/-- `t` lists `(n, f n), (n + 1, f (n + 1)), …`; answers the key after the last row -/
def graphFrom (f : Nat → Nat) : Nat → List (Nat × Nat) → Option Nat
  | n, [] => some n
  | n, (k, v) :: t => if k == n && v == f n then graphFrom f (n + 1) t else none

theorem graphFrom_append {f : Nat → Nat} {a b : List (Nat × Nat)} {n m p : Nat}
    (ha : graphFrom f n a = some m) (hb : graphFrom f m b = some p) : graphFrom f n (a ++ b) = some p := by
  induction a generalizing n with
  | nil => cases ha; exact hb
  | cons q t ih =>
    simp only [List.cons_append, graphFrom] at ha ⊢
    split at ha
    · rename_i hq; rw [if_pos hq]; exact ih ha
    · cases ha

theorem graphFrom_mem {f : Nat → Nat} {t : List (Nat × Nat)} {n m : Nat} (h : graphFrom f n t = some m)
    {k v : Nat} (hp : (k, v) ∈ t) : v = f k := by
  induction t generalizing n with
  | nil => cases hp
  | cons q t ih =>
    simp only [graphFrom] at h
    split at h
    · rename_i hq
      simp only [Bool.and_eq_true, beq_iff_eq] at hq
      rcases List.mem_cons.1 hp with rfl | hp
      · exact hq.2.trans (congrArg f hq.1.symm)
      · exact ih h hp
    · cases h

/-- `wsgiKeyRow` written with `Nat.ble`, `Nat.beq` and `cond`, which the kernel evaluates directly; `decide (_ ≤ _)`
and `ite` cost it several unfoldings per test and row -/
def wsgiKeyFast (k : Nat) : Nat :=
  let s := k / 12
  let stripped := (Nat.ble 100 s && Nat.blt s 200) || Nat.beq s 204 || Nat.beq s 304
  (bif Nat.beq (k % 12 / 4) 1 || stripped then 0 else 5)
    + 100 * (bif stripped then 0 else bif Nat.beq (k % 4 / 2) 1 then 100 else bif Nat.beq (k % 2) 1 then 0 else 6)
    + 100000 * (bif Nat.beq s 304 then 0 else 1)

theorem wsgiKeyFast_eq : wsgiKeyFast = wsgiKeyRow := by
  funext k
  have hb : ∀ a b : Nat, Nat.beq a b = (a == b) := fun a b => by
    rw [Bool.eq_iff_iff, beq_iff_eq]; exact ⟨Nat.eq_of_beq_eq_true, fun h => h ▸ Nat.beq_refl a⟩
  have hle : ∀ a b : Nat, Nat.ble a b = decide (a ≤ b) := fun a b => by
    rw [Bool.eq_iff_iff, Nat.ble_eq, decide_eq_true_eq]
  simp only [wsgiKeyFast, wsgiKeyRow, wsgiRow, hb, hle, Nat.blt, cond_eq_ite, Nat.succ_le_iff]

/-- the table is the graph of `wsgiKeyRow` on the keys 1200 … 7199 (status 100 … 599); one pass,
chunk by chunk because `wsgiTable` is a left-nested `++` that the kernel would walk again and again -/
theorem wsgiTable_graph : graphFrom wsgiKeyRow 1200 Gen.Response.wsgiTable = some 7200 := by
  rw [← wsgiKeyFast_eq]
  have h : graphFrom wsgiKeyFast 1200 Gen.Response.wsgiTable0 = some 1680 := by decide +kernel
  have h := graphFrom_append h (by decide +kernel : graphFrom wsgiKeyFast 1680 Gen.Response.wsgiTable1 = some 2160)
  have h := graphFrom_append h (by decide +kernel : graphFrom wsgiKeyFast 2160 Gen.Response.wsgiTable2 = some 2640)
  have h := graphFrom_append h (by decide +kernel : graphFrom wsgiKeyFast 2640 Gen.Response.wsgiTable3 = some 3120)
  have h := graphFrom_append h (by decide +kernel : graphFrom wsgiKeyFast 3120 Gen.Response.wsgiTable4 = some 3600)
  have h := graphFrom_append h (by decide +kernel : graphFrom wsgiKeyFast 3600 Gen.Response.wsgiTable5 = some 4080)
  have h := graphFrom_append h (by decide +kernel : graphFrom wsgiKeyFast 4080 Gen.Response.wsgiTable6 = some 4560)
  have h := graphFrom_append h (by decide +kernel : graphFrom wsgiKeyFast 4560 Gen.Response.wsgiTable7 = some 5040)
  have h := graphFrom_append h (by decide +kernel : graphFrom wsgiKeyFast 5040 Gen.Response.wsgiTable8 = some 5520)
  have h := graphFrom_append h (by decide +kernel : graphFrom wsgiKeyFast 5520 Gen.Response.wsgiTable9 = some 6000)
  have h := graphFrom_append h (by decide +kernel : graphFrom wsgiKeyFast 6000 Gen.Response.wsgiTable10 = some 6480)
  have h := graphFrom_append h (by decide +kernel : graphFrom wsgiKeyFast 6480 Gen.Response.wsgiTable11 = some 6960)
  exact graphFrom_append h (by decide +kernel : graphFrom wsgiKeyFast 6960 Gen.Response.wsgiTable12 = some 7200)

theorem wsgiTable_all (p : Nat × Nat → Bool) (h : ∀ k, p (k, wsgiKeyRow k) = true) :
    Gen.Response.wsgiTable.all p = true := by
  rw [List.all_eq_true]
  rintro ⟨k, v⟩ hm
  cases graphFrom_mem wsgiTable_graph hm
  exact h k

/-- the byte count is the value's two low decimal digits, the Content-Length code the next three -/
theorem wsgiRow_bytes (s m : Nat) (p q : Bool) : wsgiRow s m p q % 100 =
    if m == 1 || (100 ≤ s && s < 200) || s == 204 || s == 304 then 0 else 5 := by
  simp only [wsgiRow, Bool.or_assoc]
  generalize (decide (100 ≤ s) && decide (s < 200) || (s == 204 || s == 304)) = u
  cases m == 1 <;> cases u <;> cases s == 304 <;> cases p <;> cases q <;> rfl

theorem wsgiRow_cl (s m : Nat) (p q : Bool) : wsgiRow s m p q / 100 % 1000 =
    if (100 ≤ s && s < 200) || s == 204 || s == 304 then 0 else if p then 100 else if q then 0 else 6 := by
  simp only [wsgiRow]
  generalize (decide (100 ≤ s) && decide (s < 200) || s == 204 || s == 304) = u
  cases m == 1 <;> cases u <;> cases s == 304 <;> cases p <;> cases q <;> rfl

theorem construct_code (i : Int) (body : Body) :
    construct [] (.code i) body none false
      = .ok ⟨[("Content-Type".toList, "text/plain; charset=utf-8".toList)], codeLine i, i, body, false, []⟩ := rfl

/-- what a table row records of a response: body bytes produced, Content-Length code, Content-Type kept -/
def wsgiObs (r : R) (m : Str) : Nat :=
  let h := getWsgiHeaders r [] []
  let cl := match (getlist h "content-length".toList).head? with
    | none => 0
    | some v => (Views.CC.digitsVal v).getD 0 + 1
  (getAppIter r m).chunks.flatten.length + 100 * cl + 100000 * (if Hdr.contains h "content-type".toList then 1 else 0)

theorem getAppIter_chunks (r : R) (m : Str) :
    (getAppIter r m).chunks = if bodyless r.status m then [] else r.body.items.map Item.encode := by
  unfold getAppIter
  cases bodyless r.status m
  · simp only [Bool.false_eq_true, if_false]; split <;> rfl
  · rfl

/-- `get_wsgi_headers` and `get_app_iter` look at the status only through three tests -/
theorem wsgiObs_congr (r r' : R) (m : Str) (hh : r.headers = r'.headers) (hb : r.body = r'.body)
    (h1 : (decide (100 ≤ r.status) && decide (r.status < 200)) = (decide (100 ≤ r'.status) && decide (r'.status < 200)))
    (h2 : (r.status == 204) = (r'.status == 204)) (h3 : (r.status == 304) = (r'.status == 304)) :
    wsgiObs r m = wsgiObs r' m := by
  simp only [wsgiObs, getAppIter_chunks, getWsgiHeaders, bodyless, hh, hb, h1, h2, h3]
  rfl

/-- the model's decision for a table row: `Response(body, status)`, a preset Content-Length or none,
then `get_wsgi_headers` / `get_app_iter`. `Props.C05.modelRow k` has this text with the parts of `k` put in
(`model_matches_table` uses `model_row` through that definitional equality): the two have to stay the same. -/
def wsgiModelRow (status method : Nat) (preset stream : Bool) : Nat :=
  let m : Str := if method == 0 then "GET".toList else if method == 1 then "HEAD".toList else "POST".toList
  let body : Body := ⟨if stream then .stream true else .seq, [.bytes [97, 98], .text ['c', 'é']]⟩
  match construct [] (.code status) body none false with
  | .error _ => 0
  | .ok r0 =>
    wsgiObs (if preset then { r0 with headers := (Hdr.set r0.headers "Content-Length".toList "99".toList).1 } else r0) m

theorem model_row (s method : Nat) (hm : method < 3) (preset stream : Bool) :
    wsgiModelRow s method preset stream = wsgiRow s method preset stream := by
  -- one status of each class stands for all: `wsgiObs_congr`
  have fin : ∀ c ∈ [100, 204, 304, 200], ∀ m < 3, ∀ p q, wsgiModelRow c m p q = wsgiRow c m p q := by
    decide +kernel
  obtain ⟨c, hc, h1, h2, h3⟩ : ∃ c ∈ [100, 204, 304, 200],
      (decide (100 ≤ s) && decide (s < 200)) = (decide (100 ≤ c) && decide (c < 200)) ∧
      (s == 204) = (c == 204) ∧ (s == 304) = (c == 304) := by
    have : (100 ≤ s ∧ s < 200) ∨ s = 204 ∨ s = 304 ∨ (¬(100 ≤ s ∧ s < 200) ∧ s ≠ 204 ∧ s ≠ 304) := by omega
    rcases this with h | rfl | rfl | h
    · exact ⟨100, by decide, by simp [h], by simp; omega, by simp; omega⟩
    · exact ⟨204, by decide, rfl, rfl, rfl⟩
    · exact ⟨304, by decide, rfl, rfl, rfl⟩
    · exact ⟨200, by decide, by simp; omega, by simp; omega, by simp; omega⟩
  have hw : wsgiRow s method preset stream = wsgiRow c method preset stream := by
    simp only [wsgiRow, h1, h2, h3]
  rw [hw, ← fin c hc method hm preset stream]
  have cast : ∀ n : Nat, (decide (100 ≤ (n : Int)) && decide ((n : Int) < 200)) = (decide (100 ≤ n) && decide (n < 200)) ∧
      ((n : Int) == 204) = (n == 204) ∧ ((n : Int) == 304) = (n == 304) := fun n =>
    ⟨congr (congrArg _ (decide_eq_decide.2 (by omega))) (decide_eq_decide.2 (by omega)),
      by rw [Bool.eq_iff_iff, beq_iff_eq, beq_iff_eq]; omega, by rw [Bool.eq_iff_iff, beq_iff_eq, beq_iff_eq]; omega⟩
  simp only [wsgiModelRow, construct_code]
  cases preset <;> exact wsgiObs_congr _ _ _ rfl rfl ((cast s).1.trans (h1.trans (cast c).1.symm))
    ((cast s).2.1.trans (h2.trans (cast c).2.1.symm)) ((cast s).2.2.trans (h3.trans (cast c).2.2.symm))
end Wz.C05L

namespace Wz.C05L
open Wz Wz.Url

/-- `iri_to_uri` yields ASCII: `Url.iriToUri_ascii`, the statement of C15's `iriToUri_ascii`, which C05's `iriToUriStr_ascii`
rests on -/
theorem iriToUri_ascii (p : Parts) (hs : ∀ c ∈ p.scheme, c.toNat < 128) (hh : ∀ c ∈ p.host, c.toNat < 128) :
    let u := iriToUri p
    (∀ c ∈ u.scheme, c.toNat < 128) ∧ (∀ c ∈ u.netloc, c.toNat < 128) ∧ (∀ c ∈ u.path, c.toNat < 128) ∧
    (∀ c ∈ u.query, c.toNat < 128) ∧ (∀ c ∈ u.fragment, c.toNat < 128) :=
  Url.iriToUri_ascii p hs hh

end Wz.C05L
