/-
Authorization / WWW-Authenticate on arbitrary header text (C06, C07): `from_header` never raises, and the
shapes of what it returns — each in the domain of one of the round-trip lemmas of HttpAuth.lean, given a
scheme that survives `title()`/`lower()` and parameter names that are tokens without `*`.
-/
import WzVerif.Lemmas.HttpAuth
namespace Wz.Http
open Wz

theorem b64DecodeGo_onlyRaises (s : Str) (q l p : Nat) (out : Bytes) :
    OnlyRaises ["binascii.Error"] (b64DecodeGo s q l p out) := by
  induction s generalizing q l p out with
  | nil =>
    intro e he
    simp only [b64DecodeGo] at he
    split at he
    · simp at he
    · simp at he; subst he; simp
  | cons c t ih =>
    intro e he
    rw [b64DecodeGo] at he
    split at he
    · split at he
      · simp at he
      · exact ih _ _ _ _ e he
    · split at he
      · exact ih _ _ _ _ e he
      · split at he <;> exact ih _ _ _ _ e he

theorem b64Decode_onlyRaises (s : Str) : OnlyRaises basicCaught (b64Decode s) := by
  unfold b64Decode
  split
  · intro e he; cases he; simp [basicCaught]
  · intro e he
    have := b64DecodeGo_onlyRaises s 0 0 0 [] e he
    simp only [List.mem_singleton] at this
    subst this; simp [basicCaught]

theorem utf8Strict_onlyRaises (bs : Bytes) : OnlyRaises basicCaught (utf8Strict bs) := by
  unfold utf8Strict
  split
  · exact onlyRaises_ok _
  · intro e he; cases he; simp [basicCaught]

theorem basicDecode_safe (rest : Str) :
    Safe (catching basicCaught (do
      let bs ← b64Decode rest
      let txt ← utf8Strict bs
      pure (some txt)) none) :=
  catching_safe (onlyRaises_bind (b64Decode_onlyRaises rest) fun bs =>
    onlyRaises_bind (utf8Strict_onlyRaises bs) fun _ => onlyRaises_ok _)

theorem authRest_returns (scheme w : Str) (hw : strip w = w) :
    Returns (fun a => (a = ⟨scheme, [], some w⟩ ∧ AuthTokenOk w = true) ∨
      (∃ d, a = ⟨scheme, d, none⟩ ∧ (d.map (·.1)).Nodup)) (authRest scheme w) := by
  unfold authRest
  split
  · exact (parseDictHeader_returns _).bind fun d hd => .ok (Or.inr ⟨d, rfl, hd⟩)
  · next hne =>
    refine .ok (Or.inl ⟨rfl, ?_⟩)
    simp only [AuthTokenOk, Bool.and_eq_true, beq_iff_eq, Bool.not_eq_true']
    exact ⟨hw, by simpa using hne⟩

theorem authorizationFromHeader_returns (h : Str) :
    Returns (fun res => ∀ a, res = some a →
      (∃ u p, ':' ∉ u ∧ a = ⟨"basic".toList, basicParams u p, none⟩) ∨
      (a.type ≠ "basic".toList ∧ ∃ tok, a = ⟨a.type, [], some tok⟩ ∧ AuthTokenOk tok = true) ∨
      (a.type ≠ "basic".toList ∧ a = ⟨a.type, a.params, none⟩ ∧ (a.params.map (·.1)).Nodup))
      (authorizationFromHeader h) := by
  unfold authorizationFromHeader
  split
  · exact .ok (by simp)
  · generalize partition ' ' h = pr
    obtain ⟨s, f, r⟩ := pr
    simp only
    split
    · next hb =>
      refine (basicDecode_safe (strip r)).returns.bind fun dec _ => ?_
      cases dec with
      | none => exact .ok (by simp)
      | some txt =>
        refine .ok ?_
        rintro a ⟨rfl⟩
        have : pyLower s = "basic".toList := by simpa using hb
        exact Or.inl ⟨(partition ':' txt).1, (partition ':' txt).2.2, partition_fst_noSep ':' txt, by simp [basicParams, this]⟩
    · next hnb =>
      refine (authRest_returns (pyLower s) (strip r) (strip_strip r)).bind fun a' ha' => .ok ?_
      rintro a ⟨rfl⟩
      have hne : ∀ {x y}, (⟨pyLower s, x, y⟩ : Auth).type ≠ "basic".toList := fun e => hnb (by simp at e; simp [e])
      rcases ha' with ⟨rfl, htok⟩ | ⟨d, rfl, hnd⟩
      · exact Or.inr (Or.inl ⟨hne, strip r, rfl, htok⟩)
      · exact Or.inr (Or.inr ⟨hne, rfl, hnd⟩)

/-! ### WWW-Authenticate (no Basic special case: `Basic realm="x"` is a parameter scheme here) -/

theorem wwwFromHeader_returns (h : Str) :
    Returns (fun res => ∀ a, res = some a →
      (∃ tok, a = ⟨a.type, [], some tok⟩ ∧ AuthTokenOk tok = true) ∨
      (a = ⟨a.type, a.params, none⟩ ∧ (a.params.map (·.1)).Nodup)) (wwwFromHeader h) := by
  unfold wwwFromHeader
  split
  · exact .ok (by simp)
  · generalize partition ' ' h = pr
    obtain ⟨s, f, r⟩ := pr
    refine (authRest_returns (pyLower s) (strip r) (strip_strip r)).bind fun a' ha' => .ok ?_
    rintro a ⟨rfl⟩
    rcases ha' with ⟨rfl, htok⟩ | ⟨d, rfl, hnd⟩
    · exact Or.inl ⟨strip r, rfl, htok⟩
    · exact Or.inr ⟨rfl, hnd⟩

end Wz.Http
