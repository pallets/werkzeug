/-
The test client's jar over whole histories (C13, "through the test client's jar"). One invariant,
`GoodJar` (every stored raw pair is what `dump_cookie` emits for its decoded pair), is kept by every step
of a history whose `Set-Cookie` headers start with a dumped pair (`GoodHeader`: any attribute text may
follow); under it `Request.cookies` is the list of decoded pairs of the matching entries
(`requestCookies_good`).
-/
import WzVerif.Lemmas.CookieJar
import WzVerif.Lemmas.CookieMatch
import WzVerif.Lemmas.PyDict
namespace Wz.Cookie
open Wz

/-- a stored cookie whose raw pair is what `dump_cookie` emits for its decoded pair -/
def GoodCookie (c : JarCookie) : Prop :=
  ValidKey c.key ∧ asciiText c.key = true ∧ c.decodedKey = c.key ∧ dumpValue c.decodedValue = .ok c.value

theorem GoodCookie.validKey {c : JarCookie} (h : GoodCookie c) : ValidKey c.key := h.1

theorem GoodCookie.decodedKey_eq {c : JarCookie} (h : GoodCookie c) : c.decodedKey = c.key := h.2.2.1

theorem GoodCookie.dumped {c : JarCookie} (h : GoodCookie c) : dumpValue c.decodedValue = .ok c.value :=
  h.2.2.2

/-- the invariant of the jar over a history: every entry is a `GoodCookie` -/
def GoodJar (j : Jar) : Prop := ∀ e ∈ j, GoodCookie e.2

/-- a `Set-Cookie` header that starts with a pair `dump_cookie` emitted for a valid ASCII name;
whatever follows the pair (any attribute text at all) starts with `;` -/
def GoodHeader (h : Str) : Prop :=
  ∃ k v hv rest, ValidKey k ∧ asciiText k = true ∧ dumpValue v = .ok hv ∧
    h = k ++ '=' :: hv ++ rest ∧ (rest = [] ∨ ∃ r, rest = ';' :: r)

theorem goodJar_nil : GoodJar [] := by intro e he; simp at he

/-! The jar is a Python dict keyed by `_storage_key`: storing, popping and `get_cookie` are the prelude's
`dictSet`, `dictDel`, `dictGet?` (Lemmas/PyDict.lean has their read-after-write laws). -/

theorem Jar.store_eq (j : Jar) (c : JarCookie) : j.store c = Pre.dictSet j c.storageKey c := rfl

theorem Jar.pop_eq (j : Jar) (k : Str × Str × Str) : j.pop k = Pre.dictDel j k := rfl

theorem clientGetCookie_eq (j : Jar) (key domain path : Str) :
    clientGetCookie j key domain path = Pre.dictGet? j (domain, path, key) := rfl

theorem Jar.put_keep {c : JarCookie} (h : c.shouldDelete = false) (j : Jar) : j.put c = j.store c := by
  rw [Jar.put, h]; rfl

theorem Jar.put_delete {c : JarCookie} (h : c.shouldDelete = true) (j : Jar) :
    j.put c = j.pop c.storageKey := by
  rw [Jar.put, h]; rfl

theorem goodJar_pop (j : Jar) (k : Str × Str × Str) (h : GoodJar j) : GoodJar (j.pop k) := by
  intro e he
  rw [Jar.pop_eq, Pre.dictDel] at he
  exact h e (List.mem_filter.mp he).1

theorem goodJar_store (j : Jar) (c : JarCookie) (h : GoodJar j) (hc : GoodCookie c) : GoodJar (j.store c) := by
  intro e he
  rw [Jar.store_eq] at he
  rcases Pre.mem_dictSet he with he | rfl
  · exact h e he
  · exact hc

theorem goodJar_put (j : Jar) (c : JarCookie) (h : GoodJar j) (hc : GoodCookie c) : GoodJar (j.put c) := by
  cases hd : c.shouldDelete with
  | true => rw [Jar.put_delete hd]; exact goodJar_pop j _ h
  | false => rw [Jar.put_keep hd]; exact goodJar_store j c h hc

theorem fromHeader_good (lib : Lib) (s p h : Str) (c : JarCookie) (hg : GoodHeader h)
    (hc : fromResponseHeader lib s p h = .ok c) :
    GoodCookie c ∧ ∃ k v hv rest, h = k ++ '=' :: hv ++ rest ∧ dumpValue v = .ok hv ∧
      c.key = k ∧ c.value = hv ∧ c.decodedKey = k ∧ c.decodedValue = v := by
  obtain ⟨k, v, hv, rest, hk, hka, hdv, rfl, hrest⟩ := hg
  obtain ⟨b, r, hp⟩ := partitionAt_head ';' (pair_no_semi hk.no_semi hdv) hrest
  rw [List.append_assoc, List.cons_append] at hc
  rw [fromResponseHeader_of_pair lib s p hk hka hdv (by simpa using hp)] at hc
  obtain ⟨h1, h2, h3, h4⟩ := cookieOfParams_pair hc
  exact ⟨⟨h1 ▸ hk, h1 ▸ hka, h3.trans h1.symm, h4 ▸ h2 ▸ hdv⟩, k, v, hv, rest, rfl, hdv, h1, h2, h3, h4⟩

theorem goodJar_update (lib : Lib) (j : Jar) (s p : Str) (hs : List Str) (hj : GoodJar j)
    (hh : ∀ h ∈ hs, GoodHeader h) : GoodJar (j.update lib s p hs).1 := by
  induction hs generalizing j with
  | nil => exact hj
  | cons h t ih =>
    unfold Jar.update
    cases hc : fromResponseHeader lib s p h with
    | error e => exact hj
    | ok c =>
      simp only
      exact ih (j.put c) (goodJar_put j c hj (fromHeader_good lib s p h c (hh h (by simp)) hc).1)
        (fun x hx => hh x (by simp [hx]))

theorem dumpCookie_goodHeader (k v h : Str) (a : Attrs) (hk : ValidKey k) (hka : asciiText k = true)
    (hd : dumpCookie k v a = .ok h) : GoodHeader h := by
  obtain ⟨hv, ss, hdv, _, rfl⟩ := dumpCookie_ok k v h a hd
  rw [Utf8Facts.latin1Dec_utf8Enc_ascii (asciiText_lt hka)]
  cases attrParts a ss with
  | nil => exact ⟨k, v, hv, [], hk, hka, hdv, by simp [List.intercalate], Or.inl rfl⟩
  | cons q r =>
    exact ⟨k, v, hv, ';' :: ' ' :: List.intercalate "; ".toList (q :: r), hk, hka, hdv,
      (by rw [intercalate_cons2] <;> simp), Or.inr ⟨_, rfl⟩⟩

theorem dumpCookieFull_goodHeader (lib : Lib) (a : DumpArgs) (h : Str) (w : Bool)
    (hk : ValidKey a.key) (hka : asciiText a.key = true) (hd : dumpCookieFull lib a = .ok (h, w)) :
    GoodHeader h := by
  obtain ⟨at', _, hdc, _⟩ := dumpCookieFull_ok lib a h w hd
  exact dumpCookie_goodHeader a.key a.value h at' hk hka hdc

/-- the steps for which the history theorem is stated -/
def GoodStep : JarStep → Prop
  | .response _ _ hs => ∀ h ∈ hs, GoodHeader h
  | .clientSet _ _ _ a => ValidKey a.key ∧ asciiText a.key = true
  | .clientDelete _ _ _ => True

theorem goodJar_step (lib : Lib) (j : Jar) (st : JarStep) (hj : GoodJar j) (hs : GoodStep st) :
    GoodJar (j.step lib st) := by
  cases st with
  | response s p hs' => exact goodJar_update lib j s p hs' hj hs
  | clientSet d oo p a =>
    simp only [Jar.step]
    cases hc : clientSetCookie lib j d oo p a with
    | error e => exact hj
    | ok j' =>
      simp only
      unfold clientSetCookie at hc
      cases hd : dumpCookieFull lib { a with domain := some d, path := some p } with
      | error e => simp [hd] at hc
      | ok r =>
        obtain ⟨h, w⟩ := r
        simp only [hd] at hc
        cases hf : fromResponseHeader lib d ['/'] h with
        | error e => simp [hf] at hc
        | ok c =>
          simp only [hf, Except.ok.injEq] at hc
          subst hc
          have hg := dumpCookieFull_goodHeader lib { a with domain := some d, path := some p } h w hs.1 hs.2 hd
          exact goodJar_put j _ hj (fromHeader_good lib d ['/'] h c hg hf).1
  | clientDelete k d p => exact goodJar_pop j _ hj

theorem goodJar_run (lib : Lib) (steps : List JarStep) (hs : ∀ st ∈ steps, GoodStep st) :
    GoodJar (Jar.run lib steps) := by
  unfold Jar.run
  have : ∀ (j : Jar), GoodJar j → GoodJar (steps.foldl (Jar.step lib) j) := by
    induction steps with
    | nil => intro j hj; exact hj
    | cons st t ih =>
      intro j hj
      exact ih (fun x hx => hs x (by simp [hx])) (j.step lib st) (goodJar_step lib j st hj (hs st (by simp)))
  exact this [] goodJar_nil

theorem GoodJar.matching {j : Jar} (hj : GoodJar j) {s p : Str} {c : JarCookie} (hc : c ∈ j.matching s p) :
    GoodCookie c := by
  obtain ⟨e, he, rfl⟩ := List.mem_map.mp (List.mem_filter.mp hc).1
  exact hj e he

theorem requestCookies_good (j : Jar) (hj : GoodJar j) (s p : Str) :
    j.requestCookies s p = (j.matching s p).map (fun c => (c.decodedKey, c.decodedValue)) := by
  have hm : ∀ c ∈ j.matching s p, GoodCookie c := fun _ => hj.matching
  unfold Jar.requestCookies Jar.cookieHeader
  generalize j.matching s p = m at hm
  cases m with
  | nil => simp [jarText]
  | cons c t =>
    have hne : (jarText ((c :: t).map fun c => (c.key, c.value))).isEmpty = false :=
      jarText_ne_nil _ _ (hm c (by simp)).validKey.ne_nil
    simp only [hne, Bool.false_eq_true, if_false]
    have := jarText_roundtrip ((c :: t).map fun c => (c.key, c.decodedValue, c.value)) (by simp)
      (fun it hit => by
        obtain ⟨c', hc', rfl⟩ := List.mem_map.mp hit
        exact ⟨(hm c' hc').validKey, (hm c' hc').dumped⟩)
    simp only [List.map_map, Function.comp_def] at this
    rw [this]
    exact List.map_congr_left fun c' hc' => by rw [(hm c' hc').decodedKey_eq]

theorem dictGet_store (j : Jar) (c : JarCookie) : Pre.dictGet? (j.store c) c.storageKey = some c := by
  rw [Jar.store_eq, Pre.dictGet?_dictSet, if_pos (beq_self_eq_true _)]

theorem get_put_store (j : Jar) (c : JarCookie) (h : c.shouldDelete = false) :
    clientGetCookie (j.put c) c.decodedKey c.domain c.path = some c := by
  rw [Jar.put_keep h, clientGetCookie_eq]
  exact dictGet_store j c

theorem get_put_delete (j : Jar) (c : JarCookie) (h : c.shouldDelete = true) :
    clientGetCookie (j.put c) c.decodedKey c.domain c.path = none := by
  rw [Jar.put_delete h, clientGetCookie_eq, Jar.pop_eq]
  exact Pre.dictGet?_dictDel_self j c.storageKey

theorem mem_store (j : Jar) (c : JarCookie) : c ∈ (j.store c).map (·.2) := by
  obtain ⟨e, he, rfl⟩ := Option.map_eq_some_iff.mp (dictGet_store j c)
  exact List.mem_map.mpr ⟨e, List.mem_of_find?_eq_some he, rfl⟩

theorem put_then_request (j : Jar) (c : JarCookie) (hj : GoodJar j) (hc : GoodCookie c)
    (hd : c.shouldDelete = false) (s p : Str) (hm : c.matchesRequest s p = true) :
    (c.decodedKey, c.decodedValue) ∈ (j.put c).requestCookies s p := by
  rw [requestCookies_good _ (goodJar_put j c hj hc)]
  refine List.mem_map.mpr ⟨c, List.mem_filter.mpr ⟨?_, hm⟩, rfl⟩
  rw [Jar.put_keep hd]
  exact mem_store j c

/-- the path a cookie is filed under covers the URL whose response set it, when the response gave no
Path attribute or `Path=/` -/
theorem jarPath_matches (lib : Lib) {reqPath : Str} (hreq : reqPath.head? = some '/')
    {pathAttr : Option Str} (hpath : pathAttr = none ∨ (pathAttr = some ['/'] ∧ lib.iri ['/'] = ['/'])) :
    pathMatch (jarPath lib reqPath pathAttr) reqPath = true := by
  rcases hpath with rfl | ⟨rfl, hi⟩
  · exact defaultPath_matches reqPath hreq
  · rw [jarPath_some lib reqPath rfl (by rw [hi]; rfl), hi]
    exact (pathMatch_root_iff reqPath).mpr hreq

end Wz.Cookie
