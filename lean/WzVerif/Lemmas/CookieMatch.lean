/-
Domain / path matching of the test client's jar (`Cookie._matches_request`): what `domainMatch` and
`pathMatch` decide, and that the default path covers the URL that set the cookie.
-/
import WzVerif.Model.CookieJar
import WzVerif.Lemmas.Basics
namespace Wz.Cookie
open Wz

theorem endsWith_iff (s suf : Str) : endsWith s suf = true ↔ ∃ pre, s = pre ++ suf := by
  show suf.isSuffixOf s = true ↔ _
  rw [List.isSuffixOf_iff_suffix]
  exact exists_congr fun _ => eq_comm

theorem endsWith_single (s : Str) (c : Char) : endsWith s [c] = true ↔ s.getLast? = some c := by
  rw [endsWith_iff, List.getLast?_eq_some_iff]

theorem domainMatch_iff (cd : Str) (oo : Bool) (sn : Str) :
    domainMatch cd oo sn = true ↔
      sn = cd ∨ (oo = false ∧ cd ≠ [] ∧ ∃ pre, sn = pre ++ '.' :: cd) := by
  unfold domainMatch
  simp only [Bool.or_eq_true, beq_iff_eq, Bool.and_eq_true, Bool.not_eq_true']
  constructor
  · rintro (h | ⟨⟨hoo, hend⟩, hdot⟩)
    · exact Or.inl h
    · right
      by_cases hcd : cd = []
      · subst hcd; simp [endsWith] at hdot
      · obtain ⟨pre, rfl⟩ := (endsWith_iff sn cd).mp hend
        have hne : cd.isEmpty = false := by cases cd <;> simp_all
        rw [hne] at hdot
        simp only [Bool.false_eq_true, if_false, List.length_append, Nat.add_sub_cancel,
          List.take_left' rfl] at hdot
        obtain ⟨p2, rfl⟩ := (endsWith_iff pre ['.']).mp hdot
        exact ⟨hoo, hcd, p2, by simp⟩
  · rintro (h | ⟨hoo, hcd, pre, rfl⟩)
    · exact Or.inl h
    · right
      have hne : cd.isEmpty = false := by cases cd <;> simp_all
      refine ⟨⟨hoo, (endsWith_iff _ _).mpr ⟨pre ++ ['.'], by simp⟩⟩, ?_⟩
      rw [hne]
      simp only [Bool.false_eq_true, if_false]
      have : (pre ++ '.' :: cd).length - cd.length = (pre ++ ['.']).length := by simp; omega
      rw [this]
      have : pre ++ '.' :: cd = (pre ++ ['.']) ++ cd := by simp
      rw [this, List.take_left' rfl]
      exact (endsWith_iff _ _).mpr ⟨pre, rfl⟩

theorem pathMatch_iff (cp rp : Str) :
    pathMatch cp rp = true ↔
      rp = cp ∨ ∃ rest, rp = cp ++ rest ∧ (cp.getLast? = some '/' ∨ rest.head? = some '/') := by
  unfold pathMatch
  simp only [Bool.or_eq_true, beq_iff_eq, Bool.and_eq_true, List.isPrefixOf_iff_prefix]
  constructor
  · rintro (h | ⟨⟨rest, rfl⟩, hh⟩)
    · exact Or.inl h
    · right
      refine ⟨rest, rfl, ?_⟩
      by_cases he : endsWith cp ['/'] = true
      · exact Or.inl ((endsWith_single cp '/').mp he)
      · right
        simp only [he, Bool.false_eq_true, if_false, Nat.sub_zero, List.drop_left' rfl] at hh
        simpa using hh
  · rintro (h | ⟨rest, rfl, h⟩)
    · exact Or.inl h
    · right
      refine ⟨⟨rest, rfl⟩, ?_⟩
      by_cases he : endsWith cp ['/'] = true
      · obtain ⟨pre, rfl⟩ := (endsWith_iff cp ['/']).mp he
        simp only [he, if_true, List.length_append, List.length_cons, List.length_nil,
          Nat.add_sub_cancel]
        have : pre ++ ['/'] ++ rest = pre ++ ('/' :: rest) := by simp
        rw [this, List.drop_left' rfl]
        simp
      · rcases h with h | h
        · exact absurd ((endsWith_single cp '/').mpr h) he
        · simp only [he, Bool.false_eq_true, if_false, Nat.sub_zero, List.drop_left' rfl]
          simpa using h

example : domainMatch "a.com".toList false "b.a.com".toList = true ∧
    domainMatch "a.com".toList false "xa.com".toList = false ∧
    domainMatch "a.com".toList true "b.a.com".toList = false := by
  repeat rw [String.toList_ofList]
  decide +kernel

example : pathMatch "/a".toList "/a/b".toList = true ∧ pathMatch "/a".toList "/ab".toList = false ∧
    pathMatch "/a/".toList "/a/b".toList = true ∧ pathMatch "/a/".toList "/a".toList = false := by
  repeat rw [String.toList_ofList]
  decide +kernel

theorem rpartitionHead_spec (s : Str) :
    (∀ c ∈ s, c ≠ '/') ∧ rpartitionHead '/' s = [] ∨
    ∃ t, s = rpartitionHead '/' s ++ '/' :: t := by
  unfold rpartitionHead
  cases hd : s.reverse.dropWhile (· != '/') with
  | nil =>
    left
    refine ⟨?_, rfl⟩
    intro c hc
    simpa using dropWhile_eq_nil_iff.mp hd c (List.mem_reverse.mpr hc)
  | cons x revHead =>
    right
    have hx : x = '/' := by
      have := List.head?_dropWhile_not (· != '/') s.reverse
      rw [hd] at this
      simpa using this
    subst hx
    refine ⟨(s.reverse.takeWhile (· != '/')).reverse, ?_⟩
    have := List.takeWhile_append_dropWhile (p := (· != '/')) (l := s.reverse)
    rw [hd] at this
    have h2 := congrArg List.reverse this
    simp only [List.reverse_append, List.reverse_cons, List.reverse_reverse, List.append_assoc,
      List.singleton_append] at h2
    exact h2.symm

theorem defaultPath_matches (rp : Str) (h : rp.head? = some '/') : pathMatch (defaultPath rp) rp = true := by
  rw [pathMatch_iff]
  unfold defaultPath
  rcases rpartitionHead_spec rp with ⟨hno, _⟩ | ⟨t, ht⟩
  · cases rp with
    | nil => simp at h
    | cons c r => simp at h; subst h; exact absurd rfl (hno '/' (by simp))
  · by_cases he : (rpartitionHead '/' rp).isEmpty = true
    · simp only [he, if_true]
      right
      cases rp with
      | nil => simp at h
      | cons c r =>
        simp at h; subst h
        exact ⟨r, rfl, Or.inl rfl⟩
    · simp only [he, Bool.false_eq_true, if_false]
      right
      exact ⟨'/' :: t, ht, Or.inr rfl⟩

theorem domainMatch_self (cd : Str) (oo : Bool) : domainMatch cd oo cd = true :=
  (domainMatch_iff cd oo cd).mpr (.inl rfl)

/-- a cookie filed under `/` is sent back to exactly the absolute request paths -/
theorem pathMatch_root_iff (rp : Str) : pathMatch ['/'] rp = true ↔ rp.head? = some '/' := by
  rw [pathMatch_iff]
  constructor
  · rintro (rfl | ⟨r, rfl, _⟩) <;> rfl
  · intro h
    cases rp with
    | nil => cases h
    | cons c r => cases Option.some.inj h; exact .inr ⟨r, rfl, .inl rfl⟩

end Wz.Cookie
